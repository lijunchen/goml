import GomlVerif.Model.Go
import GomlVerif.Model.GoEq
import GomlVerif.Gen.DceTables
/-
Model of `crates/compiler/src/go/dce.rs` over the Lean Go AST (`Model/Go.lean`):
`eliminate_dead_vars` = per-function backward liveness (`dce_block_with_live`, with its `live`
and `needs_decl` sets), then `prune_dead_functions`, then `prune_unused_imports`.

Transcription rules.  A Rust `HashSet<String>` is a `List String` used only through membership
(`uni` = extend, `ins` = insert, `rem` = remove); the emitted statements, their order and every
case distinction are the Rust's.  The Rust scans a block backwards pushing onto `out` and
reverses `out` at the end; here `dceStmts (s :: rest)` first processes `rest` (obtaining the
`live`/`needs` state the backward scan has when it reaches `s`) and prepends what `s` emits, so
the two statements the Rust pushes for one input statement appear here already in final
(reversed) order.

Import-free (linked into `gomlmodel`).
-/
namespace Goml.Dce
open Goml.Go

abbrev Names := List String

/-- `HashSet::extend` -/
def uni (a b : Names) : Names := a ++ b.filter (fun x => !(a.contains x))
/-- `HashSet::remove` -/
def rem (s : Names) (x : String) : Names := s.filter (fun y => y != x)
/-- `&a - &b` -/
def diff (a b : Names) : Names := a.filter (fun x => !(b.contains x))

/-- `declared` of `free_vars_in_block`: the `VarDecl` names at the top level of the block -/
def declTop : List GStmt → Names
  | [] => []
  | .varDecl x _ _ :: rest => x :: declTop rest
  | _ :: rest => declTop rest

/-! ### `vars_used_in_expr`, `free_vars_in_block` -/
mutual
def varsUsed : GExpr → Names
  | .var x _ => [x]
  | .field _ _ o => varsUsed o
  | .index _ a i => uni (varsUsed a) (varsUsed i)
  | .un _ _ e => varsUsed e
  | .bin _ _ l r => uni (varsUsed l) (varsUsed r)
  | .cast _ e => varsUsed e
  | .slit _ fs => varsUsedFields fs
  | .alit _ es => varsUsedList es
  | .call _ f args => uni (varsUsed f) (varsUsedList args)
  | .blocke _ ss e =>
    uni (diff (usedStmts ss) (declTop ss)) (match e with | some e => varsUsed e | none => [])
  | .nil _ | .voidv _ | .unitv _ | .bool _ | .int _ _ | .float _ _ | .str _ => []
def varsUsedList : List GExpr → Names
  | [] => []
  | e :: es => uni (varsUsed e) (varsUsedList es)
def varsUsedFields : List GField → Names
  | [] => []
  | .mk _ e :: fs => uni (varsUsed e) (varsUsedFields fs)
/-- the `used` accumulator of `free_vars_in_block` (before `declared` is subtracted) -/
def usedStmts : List GStmt → Names
  | [] => []
  | s :: rest => uni (usedStmt s) (usedStmts rest)
def usedStmt : GStmt → Names
  | .varDecl _ _ v => (match v with | some e => varsUsed e | none => [])
  | .assign _ v => varsUsed v
  | .indexAssign a i v => uni (varsUsed a) (uni (varsUsed i) (varsUsed v))
  | .ptrAssign p v => uni (varsUsed p) (varsUsed v)
  | .fieldAssign t v => uni (varsUsed t) (varsUsed v)
  | .ret e => (match e with | some e => varsUsed e | none => [])
  | .expr e => varsUsed e
  | .go c => varsUsed c
  | .ite c t e =>
    uni (varsUsed c) (uni (diff (usedStmts t) (declTop t))
      (match e with | some b => diff (usedStmts b) (declTop b) | none => []))
  | .switch e cs d =>
    uni (varsUsed e) (uni (usedCases cs)
      (match d with | some b => diff (usedStmts b) (declTop b) | none => []))
  | .tswitch _ e cs d =>
    uni (varsUsed e) (uni (usedTCases cs)
      (match d with | some b => diff (usedStmts b) (declTop b) | none => []))
  | .loop b => diff (usedStmts b) (declTop b)
  | .brk => []
def usedCases : List GCase → Names
  | [] => []
  | .mk v b :: rest => uni (varsUsed v) (uni (diff (usedStmts b) (declTop b)) (usedCases rest))
def usedTCases : List GTCase → Names
  | [] => []
  | .mk _ b :: rest => uni (diff (usedStmts b) (declTop b)) (usedTCases rest)
end

/-- `free_vars_in_block` -/
def freeVars (b : List GStmt) : Names := diff (usedStmts b) (declTop b)

/-! ### `expr_has_side_effects`, `stmt_has_side_effects`

Besides calls, the operations that can fail at run time count as effects: integer division,
indexing, pointer dereference and type assertion (`fix:` commit "DCE keeps dead operations that
can panic"). -/
mutual
def exprEffects : GExpr → Bool
  | .call _ _ _ => true
  | .blocke _ ss e => stmtsEffects ss || (match e with | some e => exprEffects e | none => false)
  | .field _ _ o => exprEffects o
  | .index _ _ _ => true
  | .un op _ e => (match op with | .deref => true | _ => exprEffects e)
  | .bin op _ l r => (match op with | .div => true | _ => exprEffects l || exprEffects r)
  | .cast _ _ => true
  | .slit _ fs => fieldsEffects fs
  | .alit _ es => listEffects es
  | .var _ _ | .nil _ | .voidv _ | .unitv _ | .bool _ | .int _ _ | .float _ _ | .str _ => false
def listEffects : List GExpr → Bool
  | [] => false
  | e :: es => exprEffects e || listEffects es
def fieldsEffects : List GField → Bool
  | [] => false
  | .mk _ e :: fs => exprEffects e || fieldsEffects fs
def stmtsEffects : List GStmt → Bool
  | [] => false
  | s :: rest => stmtEffects s || stmtsEffects rest
def stmtEffects : GStmt → Bool
  | .expr e => exprEffects e
  | .go _ => true
  | .varDecl _ _ v => (match v with | some e => exprEffects e | none => false)
  | .assign _ v => exprEffects v
  | .indexAssign _ _ _ => true
  | .ptrAssign _ _ => true
  | .fieldAssign _ _ => true
  | .ret e => (match e with | some e => exprEffects e | none => false)
  | .loop b => stmtsEffects b
  | .brk => false
  | .ite c t e =>
    exprEffects c || stmtsEffects t || (match e with | some b => stmtsEffects b | none => false)
  | .switch e cs d =>
    exprEffects e || casesEffects cs || (match d with | some b => stmtsEffects b | none => false)
  | .tswitch _ e cs d =>
    exprEffects e || tcasesEffects cs || (match d with | some b => stmtsEffects b | none => false)
def casesEffects : List GCase → Bool
  | [] => false
  | .mk v b :: rest => (exprEffects v || stmtsEffects b) || casesEffects rest
def tcasesEffects : List GTCase → Bool
  | [] => false
  | .mk _ b :: rest => stmtsEffects b || tcasesEffects rest
end

/-! ### `assigned_vars_in_block` -/
mutual
def assignedStmts : List GStmt → Names
  | [] => []
  | s :: rest => uni (assignedStmt s) (assignedStmts rest)
def assignedStmt : GStmt → Names
  | .assign x _ => [x]
  | .ite _ t e => uni (assignedStmts t) (match e with | some b => assignedStmts b | none => [])
  | .switch _ cs d =>
    uni (assignedCases cs) (match d with | some b => assignedStmts b | none => [])
  | .tswitch _ _ cs d =>
    uni (assignedTCases cs) (match d with | some b => assignedStmts b | none => [])
  | .loop b => assignedStmts b
  | _ => []
def assignedCases : List GCase → Names
  | [] => []
  | .mk _ b :: rest => uni (assignedStmts b) (assignedCases rest)
def assignedTCases : List GTCase → Names
  | [] => []
  | .mk _ b :: rest => uni (assignedStmts b) (assignedTCases rest)
end

/-- `VALUE_ONLY_CALLEES` (regenerated from the Rust source): builtins and conversions whose call
    Go does not allow as an expression statement -/
def valueOnlyCallees : List String := Goml.Gen.dceValueOnlyCallees

/-- `keep_effect`: how a dead initialiser / dead store with effects stays in the program:
    a call Go accepts in statement context as `f(..)`, anything else as `_ = e` -/
def keepEffect (e : GExpr) : GStmt :=
  match e with
  | .call _ (.var f _) _ => if valueOnlyCallees.contains f then .assign "_" e else .expr e
  | .call _ _ _ => .expr e
  | _ => .assign "_" e

/-- result of processing a block suffix: emitted statements, `live`, `needs_decl` -/
structure R where
  out : List GStmt
  live : Names
  needs : Names
  deriving Inhabited

/-- result of the `for (val, blk) in cases` loop of `SwitchExpr` -/
structure RC where
  cases : List GCase
  live : Names          -- `live` after the loop (case values added)
  liveIn : Names        -- `cases_live_in`
  needs : Names         -- what the loop adds to `needs_decl`
  deriving Inhabited

structure RT where
  cases : List GTCase
  liveIn : Names
  needs : Names
  free : Names          -- free variables of the new clause bodies (decides the binding)
  deriving Inhabited

/-- the type-switch binding stays only when a clause of the new switch uses it -/
def keepBind (bind : Option String) (free : Names) : Option String :=
  match bind with
  | some x => if free.contains x then some x else none
  | none => none

/-! ### `dce_block_with_live`, `dce_expr` -/
mutual
def dceExpr : GExpr → GExpr
  | .field f t o => .field f t (dceExpr o)
  | .index t a i => .index t (dceExpr a) (dceExpr i)
  | .cast t e => .cast t (dceExpr e)
  | .slit t fs => .slit t (dceFields fs)
  | .alit t es => .alit t (dceExprs es)
  | .un op t e => .un op t (dceExpr e)
  | .bin op t l r => .bin op t (dceExpr l) (dceExpr r)
  | .blocke t ss (some e) => .blocke t (dceStmts ss []).out (some (dceExpr e))
  | .blocke t ss none => .blocke t (dceStmts ss []).out none
  | .call t f args => .call t (dceExpr f) (dceExprs args)
  | .nil t => .nil t
  | .voidv t => .voidv t
  | .unitv t => .unitv t
  | .var x t => .var x t
  | .bool b => .bool b
  | .int v t => .int v t
  | .float v t => .float v t
  | .str s => .str s
def dceExprs : List GExpr → List GExpr
  | [] => []
  | e :: es => dceExpr e :: dceExprs es
def dceFields : List GField → List GField
  | [] => []
  | .mk n e :: fs => .mk n (dceExpr e) :: dceFields fs

/-- `dce_block_with_live(block, live_out)`: `.out` is the new block, `.live` its live-in set;
    `.needs` is the final `needs_decl` (not returned by the Rust, used by the proofs) -/
def dceStmts : List GStmt → Names → R
  | [], liveOut => ⟨[], liveOut, []⟩
  | s :: rest, liveOut =>
    ⟨(dceStmt s (dceStmts rest liveOut).live (dceStmts rest liveOut).needs).out ++ (dceStmts rest liveOut).out,
      (dceStmt s (dceStmts rest liveOut).live (dceStmts rest liveOut).needs).live,
      (dceStmt s (dceStmts rest liveOut).live (dceStmts rest liveOut).needs).needs⟩

/-- one iteration of the backward scan: `live`/`needs` are the sets after the statement -/
def dceStmt : GStmt → Names → Names → R
  | .expr e, live, needs =>
    ⟨[.expr (dceExpr e)], uni live (varsUsed (dceExpr e)), needs⟩
  | .go c, live, needs =>
    ⟨[.go (dceExpr c)], uni live (varsUsed (dceExpr c)), needs⟩
  | .varDecl x ty (some e), live, needs =>
    if live.contains x then
      ⟨[.varDecl x ty (some (dceExpr e))], rem (uni live (varsUsed (dceExpr e))) x, needs⟩
    else if needs.contains x then
      if exprEffects (dceExpr e) then
        ⟨[.varDecl x ty none, keepEffect (dceExpr e)], uni live (varsUsed (dceExpr e)), rem needs x⟩
      else ⟨[.varDecl x ty none], live, rem needs x⟩
    else
      if exprEffects (dceExpr e) then ⟨[keepEffect (dceExpr e)], uni live (varsUsed (dceExpr e)), needs⟩
      else ⟨[], live, needs⟩
  | .varDecl x ty none, live, needs =>
    if live.contains x then ⟨[.varDecl x ty none], rem live x, needs⟩
    else if needs.contains x then ⟨[.varDecl x ty none], live, rem needs x⟩
    else ⟨[], live, needs⟩
  | .assign x v, live, needs =>
    if live.contains x then
      ⟨[.assign x (dceExpr v)], rem (uni live (varsUsed (dceExpr v))) x, uni needs [x]⟩
    else if exprEffects (dceExpr v) then
      ⟨[keepEffect (dceExpr v)], uni live (varsUsed (dceExpr v)), needs⟩
    else ⟨[], live, needs⟩
  | .indexAssign a i v, live, needs =>
    ⟨[.indexAssign (dceExpr a) (dceExpr i) (dceExpr v)],
      uni (uni (uni live (varsUsed (dceExpr a))) (varsUsed (dceExpr i))) (varsUsed (dceExpr v)), needs⟩
  | .ptrAssign p v, live, needs =>
    ⟨[.ptrAssign (dceExpr p) (dceExpr v)],
      uni (uni live (varsUsed (dceExpr p))) (varsUsed (dceExpr v)), needs⟩
  | .fieldAssign t v, live, needs =>
    ⟨[.fieldAssign (dceExpr t) (dceExpr v)],
      uni (uni live (varsUsed (dceExpr t))) (varsUsed (dceExpr v)), needs⟩
  | .ret (some e), live, needs =>
    ⟨[.ret (some (dceExpr e))], uni live (varsUsed (dceExpr e)), needs⟩
  | .ret none, live, needs => ⟨[.ret none], live, needs⟩
  | .loop body, live, needs =>
    ⟨[.loop (dceStmts body live).out], uni live (dceStmts body live).live,
      uni needs (assignedStmts (dceStmts body live).out)⟩
  | .brk, live, needs => ⟨[.brk], live, needs⟩
  | .ite c t (some b), live, needs =>
    ⟨[.ite (dceExpr c) (dceStmts t live).out (some (dceStmts b live).out)],
      uni (uni (uni live (varsUsed (dceExpr c))) (dceStmts t live).live) (dceStmts b live).live,
      uni (uni needs (assignedStmts (dceStmts t live).out)) (assignedStmts (dceStmts b live).out)⟩
  | .ite c t none, live, needs =>
    ⟨[.ite (dceExpr c) (dceStmts t live).out none],
      uni (uni live (varsUsed (dceExpr c))) (dceStmts t live).live,
      uni needs (assignedStmts (dceStmts t live).out)⟩
  | .switch e cs (some b), live, needs =>
    ⟨[.switch (dceExpr e) (dceCases cs live).cases (some (dceStmts b (dceCases cs live).live).out)],
      uni (uni (uni (dceCases cs live).live (varsUsed (dceExpr e))) (dceCases cs live).liveIn)
        (dceStmts b (dceCases cs live).live).live,
      uni (uni needs (dceCases cs live).needs)
        (assignedStmts (dceStmts b (dceCases cs live).live).out)⟩
  | .switch e cs none, live, needs =>
    ⟨[.switch (dceExpr e) (dceCases cs live).cases none],
      uni (uni (dceCases cs live).live (varsUsed (dceExpr e))) (dceCases cs live).liveIn,
      uni needs (dceCases cs live).needs⟩
  | .tswitch bind e cs (some b), live, needs =>
    ⟨[.tswitch (keepBind bind (uni (dceTCases cs live).free (freeVars (dceStmts b live).out)))
        (dceExpr e) (dceTCases cs live).cases (some (dceStmts b live).out)],
      uni (uni (uni live (varsUsed (dceExpr e))) (dceTCases cs live).liveIn) (dceStmts b live).live,
      uni (uni needs (dceTCases cs live).needs) (assignedStmts (dceStmts b live).out)⟩
  | .tswitch bind e cs none, live, needs =>
    ⟨[.tswitch (keepBind bind (dceTCases cs live).free) (dceExpr e) (dceTCases cs live).cases none],
      uni (uni live (varsUsed (dceExpr e))) (dceTCases cs live).liveIn,
      uni needs (dceTCases cs live).needs⟩

def dceCases : List GCase → Names → RC
  | [], live => ⟨[], live, [], []⟩
  | .mk v b :: rest, live =>
    ⟨.mk (dceExpr v) (dceStmts b live).out :: (dceCases rest (uni live (varsUsed (dceExpr v)))).cases,
      (dceCases rest (uni live (varsUsed (dceExpr v)))).live,
      uni (dceStmts b live).live (dceCases rest (uni live (varsUsed (dceExpr v)))).liveIn,
      uni (assignedStmts (dceStmts b live).out) (dceCases rest (uni live (varsUsed (dceExpr v)))).needs⟩

def dceTCases : List GTCase → Names → RT
  | [], _ => ⟨[], [], [], []⟩
  | .mk t b :: rest, live =>
    ⟨.mk t (dceStmts b live).out :: (dceTCases rest live).cases,
      uni (dceStmts b live).live (dceTCases rest live).liveIn,
      uni (assignedStmts (dceStmts b live).out) (dceTCases rest live).needs,
      uni (freeVars (dceStmts b live).out) (dceTCases rest live).free⟩
end

/-- `dce_block_with_live(body, ∅).0` -/
def dceBody (b : List GStmt) : List GStmt := (dceStmts b []).out

/-- `dce_item` -/
def dceItem : GItem → GItem
  | .func f => .func { f with body := dceBody f.body }
  | it => it

/-! ### `prune_dead_functions` (`collect_called_*`) -/
mutual
def calledExpr (fns : Names) : GExpr → Names
  | .call _ f args => uni (calledExpr fns f) (calledList fns args)
  | .field _ _ o => calledExpr fns o
  | .index _ a i => uni (calledExpr fns a) (calledExpr fns i)
  | .cast _ e => calledExpr fns e
  | .slit _ fs => calledFields fns fs
  | .alit _ es => calledList fns es
  | .blocke _ ss e =>
    uni (calledStmts fns ss) (match e with | some e => calledExpr fns e | none => [])
  | .un _ _ e => calledExpr fns e
  | .bin _ _ l r => uni (calledExpr fns l) (calledExpr fns r)
  | .var x _ => if fns.contains x then [x] else []
  | .nil _ | .voidv _ | .unitv _ | .bool _ | .int _ _ | .float _ _ | .str _ => []
def calledList (fns : Names) : List GExpr → Names
  | [] => []
  | e :: es => uni (calledExpr fns e) (calledList fns es)
def calledFields (fns : Names) : List GField → Names
  | [] => []
  | .mk _ e :: fs => uni (calledExpr fns e) (calledFields fns fs)
def calledStmts (fns : Names) : List GStmt → Names
  | [] => []
  | s :: rest => uni (calledStmt fns s) (calledStmts fns rest)
def calledStmt (fns : Names) : GStmt → Names
  | .expr e => calledExpr fns e
  | .go c => calledExpr fns c
  | .varDecl _ _ v => (match v with | some e => calledExpr fns e | none => [])
  | .assign _ v => calledExpr fns v
  | .indexAssign a i v => uni (calledExpr fns a) (uni (calledExpr fns i) (calledExpr fns v))
  | .ptrAssign p v => uni (calledExpr fns p) (calledExpr fns v)
  | .fieldAssign t v => uni (calledExpr fns t) (calledExpr fns v)
  | .ret e => (match e with | some e => calledExpr fns e | none => [])
  | .ite c t e =>
    uni (calledExpr fns c) (uni (calledStmts fns t)
      (match e with | some b => calledStmts fns b | none => []))
  | .switch e cs d =>
    uni (calledExpr fns e) (uni (calledCases fns cs)
      (match d with | some b => calledStmts fns b | none => []))
  | .tswitch _ e cs d =>
    uni (calledExpr fns e) (uni (calledTCases fns cs)
      (match d with | some b => calledStmts fns b | none => []))
  | .loop b => calledStmts fns b
  | .brk => []
def calledCases (fns : Names) : List GCase → Names
  | [] => []
  | .mk v b :: rest => uni (calledExpr fns v) (uni (calledStmts fns b) (calledCases fns rest))
def calledTCases (fns : Names) : List GTCase → Names
  | [] => []
  | .mk _ b :: rest => uni (calledStmts fns b) (calledTCases fns rest)
end

/-- `fn_map.get(name)`: inserting into a `HashMap` overwrites, so the last function of a name -/
def lastFunc (fs : List GFunc) (n : String) : Option GFunc :=
  (fs.reverse).find? (·.name == n)

/-- callees (that are functions of the file) of the functions named in `rs` -/
def calleesOf (fs : List GFunc) (fns : Names) : Names → Names
  | [] => []
  | n :: rs =>
    uni (match lastFunc fs n with | some f => calledStmts fns f.body | none => []) (calleesOf fs fns rs)

/-- number of function names not yet reached: the measure of the closure computation -/
def unreached (fns reach : Names) : Nat := (fns.filter (fun x => !(reach.contains x))).length

theorem filter_app_le (reach new : Names) : ∀ fns : Names,
    (fns.filter (fun x => !((reach ++ new).contains x))).length ≤
      (fns.filter (fun x => !(reach.contains x))).length
  | [] => by simp
  | b :: t => by
    have ih := filter_app_le reach new t
    rw [List.filter_cons, List.filter_cons]
    by_cases hb : b ∈ reach
    · simp [hb]
      simpa using ih
    · by_cases hb2 : b ∈ new
      · simp [hb, hb2]
        simp at ih
        omega
      · simp [hb, hb2]
        simpa using ih

/-- `x` is filtered out on the left only; elsewhere `filter_app_le` -/
theorem unreached_lt (reach new : Names) (x : String) (hx : x ∈ new) (hxr : ¬ x ∈ reach) :
    ∀ fns : Names, x ∈ fns → unreached fns (reach ++ new) < unreached fns reach
  | [], h => by cases h
  | a :: t, h => by
    unfold unreached
    rw [List.filter_cons, List.filter_cons]
    by_cases hax : a = x
    · subst hax
      have := filter_app_le reach new t
      simp [hx, hxr]
      simp at this
      omega
    · have hxt : x ∈ t := by
        cases h with
        | head => exact absurd rfl hax
        | tail _ h => exact h
      have ih := unreached_lt reach new x hx hxr t hxt
      unfold unreached at ih
      by_cases ha : a ∈ reach
      · simp [ha]
        simpa using ih
      · by_cases ha2 : a ∈ new
        · simp [ha, ha2]
          simp at ih
          omega
        · simp [ha, ha2]
          simpa using ih

/-- functions of the file called from `reach` and not yet in it -/
def newOf (fs : List GFunc) (fns reach : Names) : Names :=
  (calleesOf fs fns reach).filter (fun x => fns.contains x && !(reach.contains x))

/-- the set the worklist of `prune_dead_functions` computes: least set containing `reach` and
    closed under "callee that is a function of the file".  (The Rust pops a stack; the result is
    a set used only through `contains`, so the visiting order does not show.) -/
def closure (fs : List GFunc) (fns : Names) (reach : Names) : Names :=
  if newOf fs fns reach = [] then reach else closure fs fns (reach ++ newOf fs fns reach)
termination_by unreached fns reach
decreasing_by
  rename_i h
  cases hn : newOf fs fns reach with
  | nil => exact absurd hn h
  | cons x t =>
    have hx : x ∈ newOf fs fns reach := by rw [hn]; exact List.mem_cons_self ..
    have hx' := hx
    simp only [newOf, List.mem_filter, Bool.and_eq_true, Bool.not_eq_true', List.contains_iff_mem] at hx'
    have hnr : ¬ x ∈ reach := by
      intro hm
      have := hx'.2.2
      simp [hm] at this
    rw [← hn]
    exact unreached_lt reach _ x hx hnr fns (by simpa using hx'.2.1)

/-- the `filter` of `prune_dead_functions`: functions stay when reachable, other items always -/
def keepItem (reach : Names) : GItem → Bool
  | .func g => reach.contains g.name
  | _ => true

/-- the names `prune_dead_functions` finds reachable from the roots -/
def reachable (f : GFile) : Names :=
  let fns := f.funcs.map (·.name)
  closure f.funcs fns (Goml.Gen.dceRoots.filter (fun r => fns.contains r))

/-- `prune_dead_functions` -/
def pruneDeadFunctions (f : GFile) : GFile :=
  if f.funcs.isEmpty then f else { items := f.items.filter (keepItem (reachable f)) }

/-! ### `prune_unused_imports` (`collect_packages_*`) -/

/-- `name.split_once('.')`: the text before the first dot, when there is a dot -/
def pkgPrefix (name : String) : Option String :=
  match name.splitOn "." with
  | p :: _ :: _ => some p
  | _ => none

mutual
def pkgsExpr (imps : Names) : GExpr → Names
  | .call _ f args =>
    uni (match f with
         | .var name _ =>
           (match pkgPrefix name with
            | some p => if imps.contains p then [p] else []
            | none => [])
         | _ => [])
      (uni (pkgsExpr imps f) (pkgsList imps args))
  | .field _ _ o => pkgsExpr imps o
  | .index _ a i => uni (pkgsExpr imps a) (pkgsExpr imps i)
  | .cast _ e => pkgsExpr imps e
  | .slit _ fs => pkgsFields imps fs
  | .alit _ es => pkgsList imps es
  | .blocke _ ss e =>
    uni (pkgsStmts imps ss) (match e with | some e => pkgsExpr imps e | none => [])
  | .un _ _ e => pkgsExpr imps e
  | .bin _ _ l r => uni (pkgsExpr imps l) (pkgsExpr imps r)
  | .var _ _ | .nil _ | .voidv _ | .unitv _ | .bool _ | .int _ _ | .float _ _ | .str _ => []
def pkgsList (imps : Names) : List GExpr → Names
  | [] => []
  | e :: es => uni (pkgsExpr imps e) (pkgsList imps es)
def pkgsFields (imps : Names) : List GField → Names
  | [] => []
  | .mk _ e :: fs => uni (pkgsExpr imps e) (pkgsFields imps fs)
def pkgsStmts (imps : Names) : List GStmt → Names
  | [] => []
  | s :: rest => uni (pkgsStmt imps s) (pkgsStmts imps rest)
def pkgsStmt (imps : Names) : GStmt → Names
  | .expr e => pkgsExpr imps e
  | .go c => pkgsExpr imps c
  | .varDecl _ _ v => (match v with | some e => pkgsExpr imps e | none => [])
  | .assign _ v => pkgsExpr imps v
  | .indexAssign a i v => uni (pkgsExpr imps a) (uni (pkgsExpr imps i) (pkgsExpr imps v))
  | .ptrAssign p v => uni (pkgsExpr imps p) (pkgsExpr imps v)
  | .fieldAssign t v => uni (pkgsExpr imps t) (pkgsExpr imps v)
  | .ret e => (match e with | some e => pkgsExpr imps e | none => [])
  | .ite c t e =>
    uni (pkgsExpr imps c) (uni (pkgsStmts imps t)
      (match e with | some b => pkgsStmts imps b | none => []))
  | .switch e cs d =>
    uni (pkgsExpr imps e) (uni (pkgsCases imps cs)
      (match d with | some b => pkgsStmts imps b | none => []))
  | .tswitch _ e cs d =>
    uni (pkgsExpr imps e) (uni (pkgsTCases imps cs)
      (match d with | some b => pkgsStmts imps b | none => []))
  | .loop b => pkgsStmts imps b
  | .brk => []
def pkgsCases (imps : Names) : List GCase → Names
  | [] => []
  | .mk v b :: rest => uni (pkgsExpr imps v) (uni (pkgsStmts imps b) (pkgsCases imps rest))
def pkgsTCases (imps : Names) : List GTCase → Names
  | [] => []
  | .mk _ b :: rest => uni (pkgsStmts imps b) (pkgsTCases imps rest)
end

/-- `import_spec_binding`; a spec is `(alias or "-", path)` as dumped by `godump.rs` -/
def specBinding (spec : String × String) : String :=
  if spec.1 != "-" then spec.1 else (spec.2.splitOn "/").getLast!

def importNames (f : GFile) : Names :=
  f.items.flatMap fun
    | .imports specs => specs.map specBinding
    | _ => []

def pkgsMethods (imps : Names) : List GMethod → Names
  | [] => []
  | m :: ms => uni (pkgsStmts imps m.body) (pkgsMethods imps ms)

/-- `collect_packages_in_item` -/
def pkgsItem (imps : Names) : GItem → Names
  | .func g => pkgsStmts imps g.body
  | .structDef _ _ ms => pkgsMethods imps ms
  | _ => []

def usedPackages (imps : Names) : List GItem → Names
  | [] => []
  | it :: rest => uni (pkgsItem imps it) (usedPackages imps rest)

/-- the loop of `prune_unused_imports` over the toplevels -/
def pruneImportItems (used : Names) : List GItem → List GItem
  | [] => []
  | .imports specs :: rest =>
    let kept := specs.filter (fun s => used.contains (specBinding s))
    if kept.isEmpty then pruneImportItems used rest else .imports kept :: pruneImportItems used rest
  | it :: rest => it :: pruneImportItems used rest

/-- `prune_unused_imports` -/
def pruneUnusedImports (f : GFile) : GFile :=
  let imps := importNames f
  if imps.isEmpty then f else
  { items := pruneImportItems (usedPackages imps f.items) f.items }

/-- `eliminate_dead_vars` -/
def eliminateDeadVars (f : GFile) : GFile :=
  pruneUnusedImports (pruneDeadFunctions { items := f.items.map dceItem })

/-- first step of `eliminate_dead_vars`: `dce_item` on every toplevel -/
def mapDce (f : GFile) : GFile := { items := f.items.map dceItem }

/-! ## Specification side: Go's scope rules for locals, and the contract of the pass

These definitions do not mirror Rust code.  They state what DCE is for (`unusedStmts`,
`scopeErrs`: the two Go rules about local variables) and the shape of the blocks `go/compile.rs`
produces (`wf…`), under which the preservation theorem of `Props/Dce.lean` holds.  They are
executable so that the driver evaluates them on every real input and output. -/

mutual
/-- every variable read in the statements, nested blocks included (by name) -/
def readsStmts : List GStmt → Names
  | [] => []
  | s :: rest => uni (readsStmt s) (readsStmts rest)
def readsStmt : GStmt → Names
  | .expr e => varsUsed e
  | .go c => varsUsed c
  | .varDecl _ _ v => (match v with | some e => varsUsed e | none => [])
  | .assign _ v => varsUsed v
  | .indexAssign a i v => uni (varsUsed a) (uni (varsUsed i) (varsUsed v))
  | .ptrAssign p v => uni (varsUsed p) (varsUsed v)
  | .fieldAssign t v => uni (varsUsed t) (varsUsed v)
  | .ret e => (match e with | some e => varsUsed e | none => [])
  | .ite c t e =>
    uni (varsUsed c) (uni (readsStmts t) (match e with | some b => readsStmts b | none => []))
  | .switch e cs d =>
    uni (varsUsed e) (uni (readsCases cs) (match d with | some b => readsStmts b | none => []))
  | .tswitch _ e cs d =>
    uni (varsUsed e) (uni (readsTCases cs) (match d with | some b => readsStmts b | none => []))
  | .loop b => readsStmts b
  | .brk => []
def readsCases : List GCase → Names
  | [] => []
  | .mk v b :: rest => uni (varsUsed v) (uni (readsStmts b) (readsCases rest))
def readsTCases : List GTCase → Names
  | [] => []
  | .mk _ b :: rest => uni (readsStmts b) (readsTCases rest)
end

mutual
/-- Go's "declared and not used": a local declaration (or a type-switch binding) whose name is
    read nowhere in the rest of its scope -/
def unusedStmts : List GStmt → Names
  | [] => []
  | s :: rest =>
    (match s with
     | .varDecl x _ _ => if x == "_" || (readsStmts rest).contains x then [] else [x]
     | _ => []) ++ unusedNested s ++ unusedStmts rest
def unusedNested : GStmt → Names
  | .ite _ t e => unusedStmts t ++ (match e with | some b => unusedStmts b | none => [])
  | .loop b => unusedStmts b
  | .switch _ cs d => unusedCases cs ++ (match d with | some b => unusedStmts b | none => [])
  | .tswitch bind _ cs d =>
    (match bind with
     | some b =>
       if b == "_" || (readsTCases cs).contains b
          || (match d with | some db => (readsStmts db).contains b | none => false) then [] else [b]
     | none => []) ++ unusedTCases cs ++ (match d with | some b => unusedStmts b | none => [])
  | _ => []
def unusedCases : List GCase → Names
  | [] => []
  | .mk _ b :: rest => unusedStmts b ++ unusedCases rest
def unusedTCases : List GTCase → Names
  | [] => []
  | .mk _ b :: rest => unusedStmts b ++ unusedTCases rest
end

mutual
/-- every name declared in the statements (declarations and type-switch bindings), nested included -/
def allDecls : List GStmt → Names
  | [] => []
  | s :: rest => declsOf s ++ allDecls rest
def declsOf : GStmt → Names
  | .varDecl x _ _ => [x]
  | .ite _ t e => allDecls t ++ (match e with | some b => allDecls b | none => [])
  | .loop b => allDecls b
  | .switch _ cs d => declsCases cs ++ (match d with | some b => allDecls b | none => [])
  | .tswitch bind _ cs d =>
    (match bind with | some b => [b] | none => []) ++ declsTCases cs
      ++ (match d with | some b => allDecls b | none => [])
  | _ => []
def declsCases : List GCase → Names
  | [] => []
  | .mk _ b :: rest => allDecls b ++ declsCases rest
def declsTCases : List GTCase → Names
  | [] => []
  | .mk _ b :: rest => allDecls b ++ declsTCases rest
end

/-- the scope after a statement: a declaration adds its name -/
def declScope : GStmt → Names → Names
  | .varDecl x _ _, scope => x :: scope
  | _, scope => scope

/-- the names of `us` that are locals of the function (`D`) but not in scope -/
def undecl (D scope : Names) (us : Names) : Names :=
  us.filter (fun x => D.contains x && !(scope.contains x))

mutual
/-- scope errors of a block whose enclosing scope is `scope`; `D` = every local name of the
    function (names outside `D` are package-level: functions, builtins, `pkg.f`).  Reported: a
    read of or an assignment to a local that is not in scope ("undeclared"), and a declaration of
    a name that is already in scope ("redeclared" / shadowing — the backend never shadows, and the
    liveness analysis of `dce.rs` is by name).  A type-switch binding is allowed to re-bind its own
    scrutinee variable (`switch x := x.(type)`, the only form the backend emits). -/
def scopeErrs (D : Names) : Names → List GStmt → Names
  | _, [] => []
  | scope, s :: rest =>
    scopeErrsStmt D scope s ++ scopeErrs D (declScope s scope) rest
def scopeErrsStmt (D : Names) : Names → GStmt → Names
  | scope, .expr e => undecl D scope (varsUsed e)
  | scope, .go c => undecl D scope (varsUsed c)
  | scope, .varDecl x _ v =>
    undecl D scope (match v with | some e => varsUsed e | none => [])
      ++ (if scope.contains x || !(D.contains x) then [x] else [])
  | scope, .assign x v =>
    undecl D scope (varsUsed v) ++ (if x != "_" && !(scope.contains x) then [x] else [])
  | scope, .indexAssign a i v =>
    undecl D scope (uni (varsUsed a) (uni (varsUsed i) (varsUsed v)))
  | scope, .ptrAssign p v => undecl D scope (uni (varsUsed p) (varsUsed v))
  | scope, .fieldAssign t v => undecl D scope (uni (varsUsed t) (varsUsed v))
  | scope, .ret e => undecl D scope (match e with | some e => varsUsed e | none => [])
  | scope, .ite c t e =>
    undecl D scope (varsUsed c) ++ scopeErrs D scope t
      ++ (match e with | some b => scopeErrs D scope b | none => [])
  | scope, .loop b => scopeErrs D scope b
  | _, .brk => []
  | scope, .switch e cs d =>
    undecl D scope (varsUsed e) ++ scopeErrsCases D scope cs
      ++ (match d with | some b => scopeErrs D scope b | none => [])
  | scope, .tswitch bind e cs d =>
    undecl D scope (varsUsed e)
      ++ (match bind with
          | some b =>
            (match e with
             | .var y _ => if y == b && scope.contains b then [] else [b]
             | _ => [b])
          | none => [])
      ++ scopeErrsTCases D scope cs
      ++ (match d with | some b => scopeErrs D scope b | none => [])
def scopeErrsCases (D : Names) : Names → List GCase → Names
  | _, [] => []
  | scope, .mk v b :: rest =>
    undecl D scope (varsUsed v) ++ scopeErrs D scope b ++ scopeErrsCases D scope rest
def scopeErrsTCases (D : Names) : Names → List GTCase → Names
  | _, [] => []
  | scope, .mk _ b :: rest => scopeErrs D scope b ++ scopeErrsTCases D scope rest
end

/-! ### shape predicates on the input (all hold of what `go/compile.rs` builds) -/
mutual
def noBlockExpr : GExpr → Bool
  | .blocke _ _ _ => false
  | .field _ _ o => noBlockExpr o
  | .index _ a i => noBlockExpr a && noBlockExpr i
  | .un _ _ e => noBlockExpr e
  | .bin _ _ l r => noBlockExpr l && noBlockExpr r
  | .cast _ e => noBlockExpr e
  | .slit _ fs => noBlockFields fs
  | .alit _ es => noBlockList es
  | .call _ f args => noBlockExpr f && noBlockList args
  | .var _ _ | .nil _ | .voidv _ | .unitv _ | .bool _ | .int _ _ | .float _ _ | .str _ => true
def noBlockList : List GExpr → Bool
  | [] => true
  | e :: es => noBlockExpr e && noBlockList es
def noBlockFields : List GField → Bool
  | [] => true
  | .mk _ e :: fs => noBlockExpr e && noBlockFields fs
end

def noBlockOpt : Option GExpr → Bool
  | some e => noBlockExpr e
  | none => true

mutual
/-- names a statement list can assign (`x = …`, `x[i] = …`, `x.f = …`), nested blocks included -/
def writesStmts : List GStmt → Names
  | [] => []
  | s :: rest => uni (writesStmt s) (writesStmts rest)
def writesStmt : GStmt → Names
  | .assign x _ => [x]
  | .indexAssign a _ _ => varsUsed a
  | .fieldAssign t _ => varsUsed t
  | .ite _ t e => uni (writesStmts t) (match e with | some b => writesStmts b | none => [])
  | .loop b => writesStmts b
  | .switch _ cs d => uni (writesCases cs) (match d with | some b => writesStmts b | none => [])
  | .tswitch _ _ cs d => uni (writesTCases cs) (match d with | some b => writesStmts b | none => [])
  | _ => []
def writesCases : List GCase → Names
  | [] => []
  | .mk _ b :: rest => uni (writesStmts b) (writesCases rest)
def writesTCases : List GTCase → Names
  | [] => []
  | .mk _ b :: rest => uni (writesStmts b) (writesTCases rest)
end

mutual
/-- expression-level shape: no block expression (`Expr::Block` is never built by the backend),
    the blank identifier is never read, no assignment reads its own target, and a type-switch
    binding is not assigned inside the switch -/
def shapeOK : List GStmt → Bool
  | [] => true
  | s :: rest => shapeOKStmt s && shapeOK rest
def shapeOKStmt : GStmt → Bool
  | .expr e => noBlockExpr e && !(varsUsed e).contains "_"
  | .go c => noBlockExpr c && !(varsUsed c).contains "_"
  | .varDecl x _ v =>
    noBlockOpt v && x != "_"
      && !(match v with | some e => varsUsed e | none => []).contains "_"
  | .assign x v => noBlockExpr v && !(varsUsed v).contains "_" && !(varsUsed v).contains x
  | .indexAssign a i v =>
    noBlockExpr a && noBlockExpr i && noBlockExpr v
      && !(uni (varsUsed a) (uni (varsUsed i) (varsUsed v))).contains "_"
  | .ptrAssign p v => noBlockExpr p && noBlockExpr v && !(uni (varsUsed p) (varsUsed v)).contains "_"
  | .fieldAssign t v => noBlockExpr t && noBlockExpr v && !(uni (varsUsed t) (varsUsed v)).contains "_"
  | .ret e => noBlockOpt e && !(match e with | some e => varsUsed e | none => []).contains "_"
  | .ite c t e =>
    noBlockExpr c && !(varsUsed c).contains "_" && shapeOK t
      && (match e with | some b => shapeOK b | none => true)
  | .loop b => shapeOK b
  | .brk => true
  | .switch e cs d =>
    noBlockExpr e && !(varsUsed e).contains "_" && shapeOKCases cs
      && (match d with | some b => shapeOK b | none => true)
  | .tswitch bind e cs d =>
    noBlockExpr e && !(varsUsed e).contains "_" && shapeOKTCases cs
      && (match d with | some b => shapeOK b | none => true)
      && (match bind with
          | some b =>
            b != "_" && !(writesTCases cs).contains b
              && !(match d with | some db => writesStmts db | none => []).contains b
          | none => true)
def shapeOKCases : List GCase → Bool
  | [] => true
  | .mk v b :: rest => noBlockExpr v && !(varsUsed v).contains "_" && shapeOK b && shapeOKCases rest
def shapeOKTCases : List GTCase → Bool
  | [] => true
  | .mk _ b :: rest => shapeOK b && shapeOKTCases rest
end

mutual
/-- the liveness-dependent part of the contract, following the same backward scan as `dceStmts`:
    * every initialiser / stored value the pass deletes satisfies `P` (the caller's "cannot fail,
      cannot write" predicate);
    * loops: `dce.rs` analyses a loop body once, with the live set after the loop, and treats
      `break` as falling through.  That is sound when (i) no variable assigned in the body is live
      after the loop and (ii) the one pass is already the fixpoint: analysing the body again with
      the loop-back live set `H = live ∪ live-in(body)` gives the same block and a live-in set
      inside `H`. -/
def semOK (P : GExpr → Bool) : List GStmt → Names → Bool
  | [], _ => true
  | s :: rest, liveOut =>
    let r := dceStmts rest liveOut
    semOK P rest liveOut && semOKStmt P s r.live
def semOKStmt (P : GExpr → Bool) : GStmt → Names → Bool
  | .varDecl x _ (some e), live => live.contains x || exprEffects (dceExpr e) || P (dceExpr e)
  | .varDecl _ _ none, _ => true
  | .assign x v, live => live.contains x || exprEffects (dceExpr v) || P (dceExpr v)
  | .loop body, live =>
    (writesStmts body).all (fun x => !(live.contains x))
      && eqStmts (dceStmts body (uni live (dceStmts body live).live)).out (dceStmts body live).out
      && (dceStmts body (uni live (dceStmts body live).live)).live.all
           (fun x => (uni live (dceStmts body live).live).contains x)
      && semOK P body (uni live (dceStmts body live).live)
  | .ite _ t (some b), live => semOK P t live && semOK P b live
  | .ite _ t none, live => semOK P t live
  | .switch _ cs (some b), live => semOKCases P cs live && semOK P b (dceCases cs live).live
  | .switch _ cs none, live => semOKCases P cs live
  | .tswitch _ _ cs (some b), live => semOKTCases P cs live && semOK P b live
  | .tswitch _ _ cs none, live => semOKTCases P cs live
  | _, _ => true
def semOKCases (P : GExpr → Bool) : List GCase → Names → Bool
  | [], _ => true
  | .mk v b :: rest, live => semOK P b live && semOKCases P rest (uni live (varsUsed (dceExpr v)))
def semOKTCases (P : GExpr → Bool) : List GTCase → Names → Bool
  | [], _ => true
  | .mk _ b :: rest, live => semOK P b live && semOKTCases P rest live
end

mutual
/-- an expression whose evaluation can neither fail nor touch the world, judged syntactically:
    literals, variables, `-`, `!`, the non-dividing binary operators and struct / array literals
    of such (a slice literal allocates its backing array in `Go.Sem`'s heap).  With `allowField` also `e.f` where the annotated type of `e` is not a pointer: a
    struct value is never nil, and `Go.Sem` has no rule for a nil value of a non-pointer static type
    (`stuck`, not the nil-dereference panic), so this case is proved too (`inertSyn_sound`). -/
def inertSyn (allowField : Bool) : GExpr → Bool
  | .var _ _ | .nil _ | .voidv _ | .unitv _ | .bool _ | .float _ _ | .str _ => true
  | .int text _ => text.toInt?.isSome
  | .un op _ e => (match op with | .neg | .not => inertSyn allowField e | _ => false)
  | .bin op _ l r => (match op with | .div => false | _ => inertSyn allowField l && inertSyn allowField r)
  | .field _ _ o => allowField && !isPtrTy (staticTy o) && inertSyn allowField o
  | .slit _ fs => inertSynFields allowField fs
  | .alit t es => (match t with | .slice _ => false | _ => true) && inertSynList allowField es
  | _ => false
def inertSynList (allowField : Bool) : List GExpr → Bool
  | [] => true
  | e :: es => inertSyn allowField e && inertSynList allowField es
def inertSynFields (allowField : Bool) : List GField → Bool
  | [] => true
  | .mk _ e :: fs => inertSyn allowField e && inertSynFields allowField fs
end

/-- everything declared in a function: parameters, locals, type-switch bindings -/
def localsOf (f : GFunc) : Names := f.params.map (·.1) ++ allDecls f.body

structure FnReport where
  name : String
  unused : Names
  scope : Names
  shape : Bool
  semStrict : Bool      -- `semOK (inertSyn false)`
  semStatic : Bool      -- `semOK (inertSyn true)`
  deriving Inhabited

def reportFn (f : GFunc) : FnReport :=
  { name := f.name,
    unused := unusedStmts f.body,
    scope := scopeErrs (localsOf f) (f.params.map (·.1)) f.body,
    shape := shapeOK f.body,
    semStrict := semOK (inertSyn false) f.body [],
    semStatic := semOK (inertSyn true) f.body [] }

/- statement-context rule of Go: an expression statement must be a call, and not a call of a
   value-only builtin or a conversion -/
mutual
def stmtCtxErrs : List GStmt → Names
  | [] => []
  | s :: rest => stmtCtxErrsStmt s ++ stmtCtxErrs rest
def stmtCtxErrsStmt : GStmt → Names
  | .expr e =>
    (match e with
     | .call _ (.var f _) _ => if valueOnlyCallees.contains f then [f] else []
     | .call _ _ _ => []
     | _ => ["<not-a-call>"])
  | .ite _ t e => stmtCtxErrs t ++ (match e with | some b => stmtCtxErrs b | none => [])
  | .loop b => stmtCtxErrs b
  | .switch _ cs d => stmtCtxErrsCases cs ++ (match d with | some b => stmtCtxErrs b | none => [])
  | .tswitch _ _ cs d => stmtCtxErrsTCases cs ++ (match d with | some b => stmtCtxErrs b | none => [])
  | _ => []
def stmtCtxErrsCases : List GCase → Names
  | [] => []
  | .mk _ b :: rest => stmtCtxErrs b ++ stmtCtxErrsCases rest
def stmtCtxErrsTCases : List GTCase → Names
  | [] => []
  | .mk _ b :: rest => stmtCtxErrs b ++ stmtCtxErrsTCases rest
end

/-! ### the contract of the file-level preservation theorem (`Props/Dce.lean`, `dce_file_preserves`) -/

/-- one function: no parameter is the blank identifier, and its body satisfies the contract of
    `dce_preserves_syn` for the environment `callG` builds (exactly its parameters) -/
def fnDceOK (f : GFunc) : Bool :=
  !(f.params.map (·.1)).contains "_" &&
  (scopeErrs (localsOf f) (f.params.map (·.1)) f.body).isEmpty &&
  shapeOK f.body && semOK (inertSyn true) f.body []

/-- a file: every function satisfies `fnDceOK`, function names are pairwise distinct (as Go requires) -/
def fileDceOK (F : GFile) : Bool :=
  F.funcs.all fnDceOK && decide ((F.funcs.map (·.name)).Nodup)

end Goml.Dce
