import GomlVerif.Gen.Tokens
/-! Model of `crates/lexer/src/lib.rs`.

* `longestMatch rules s` — what the logos automaton generated from the `#[token]` /
  `#[regex]` attributes does at one position: among all rules matching a non-empty
  prefix of `s` the longest wins, at equal length the higher priority
  (`#[token]`: 2·bytes, `#[regex]`: explicit `priority = n` or `Mir::priority`); a rule
  with a callback then runs it (`lex_multiline_str` is the only one).
* `lexMultilineStr` — the hand-written scanner, transcribed loop by loop over the
  UTF-8 *bytes* of the remainder; it returns a byte count that `Lexer::bump` adds to
  the token end. `bump` asserts the new end is a char boundary; the model keeps that
  as the outcome `badBump` (theorem `multiline_boundaries`: it never happens).
* `lexAll errLen s` — the token loop of `lexer::lex`. Where no rule matches logos
  yields an error whose end is decided by its generated automaton; that length is the
  parameter `errLen input pos` (in scalars). If it were `0` the loop would not advance;
  the model then stops (`stuck`), so every theorem needs `0 < errLen`.

Text is `List Char` (Unicode scalars); byte offsets are derived with `utf8Len`. -/
namespace Goml.Lex

structure Tok where
  kind : Nat
  text : List Char
deriving Repr, DecidableEq, Inhabited

/-! ### UTF-8 (arithmetic form; the driver cross-checks it against `String.toUTF8`) -/

def utf8Len (c : Char) : Nat :=
  let v := c.toNat
  if v < 0x80 then 1 else if v < 0x800 then 2 else if v < 0x10000 then 3 else 4

def utf8 (c : Char) : List Nat :=
  let v := c.toNat
  if v < 0x80 then [v]
  else if v < 0x800 then [192 + v / 64, 128 + v % 64]
  else if v < 0x10000 then [224 + v / 4096, 128 + v / 64 % 64, 128 + v % 64]
  else [240 + v / 262144, 128 + v / 4096 % 64, 128 + v / 64 % 64, 128 + v % 64]

def utf8s : List Char → List Nat
  | [] => []
  | c :: cs => utf8 c ++ utf8s cs

def byteLen : List Char → Nat
  | [] => 0
  | c :: cs => utf8Len c + byteLen cs

/-- number of scalars whose encoding occupies exactly the first `n` bytes of `cs`;
`none` when byte offset `n` is inside a scalar or past the end (`is_char_boundary` fails) -/
def charsOfBytes : List Char → Nat → Option Nat
  | _, 0 => some 0
  | [], _ + 1 => none
  | c :: cs, n + 1 =>
      if utf8Len c ≤ n + 1 then (charsOfBytes cs (n + 1 - utf8Len c)).map (· + 1) else none

/-! ### `lex_multiline_str` -/

/-- `while i < bytes.len() && p(bytes[i]) { i += 1 }` -/
def scanWhile (p : Nat → Bool) (b : List Nat) (i : Nat) : Nat :=
  if h : i < b.length then
    if p b[i] then scanWhile p b (i + 1) else i
  else i
termination_by b.length - i

-- stands here for the termination proof of `mlLoop`
theorem le_scanWhile (p : Nat → Bool) (b : List Nat) (i : Nat) : i ≤ scanWhile p b i := by
  fun_induction scanWhile p b i <;> omega

/-- the `loop { … }` of `lex_multiline_str`; `consumed` and `lines` are its two mutable
variables, the result is the final `consumed` (or `None`) -/
def mlLoop (b : List Nat) (consumed lines : Nat) : Option Nat :=
  let lineStart := consumed
  if lineStart ≥ b.length then
    -- `break`; then `if lines < 2 { return None }`
    if lines < 2 then none else some consumed
  else
    let idx := scanWhile (fun c => c == 32 || c == 9) b lineStart
    if idx + 1 ≥ b.length || b.getD idx 0 != 92 || b.getD (idx + 1) 0 != 92 then
      -- previous line was the last one; trim the newline that brought us here
      if lines ≥ 2 then some (lineStart - 1) else none
    else
      let idx2 := scanWhile (fun c => c != 10) b (idx + 2)
      let lines := lines + 1
      if idx2 ≥ b.length then
        if lines < 2 then none else some idx2
      else
        mlLoop b (idx2 + 1) lines
termination_by b.length - consumed
decreasing_by
  have h1 := le_scanWhile (fun c => c == 32 || c == 9) b consumed
  have h2 := le_scanWhile (fun c => c != 10) b (scanWhile (fun c => c == 32 || c == 9) b consumed + 2)
  omega

/-- `lex_multiline_str` on `lex.remainder().as_bytes()`: `Some(n)` means `lex.bump(n)` -/
def lexMultilineStr (b : List Nat) : Option Nat :=
  let consumed := scanWhile (fun c => c != 10) b 0
  if consumed ≥ b.length then none
  else mlLoop b (consumed + 1) 1

/-! ### one token -/

structure Rules where
  literals : List (Nat × List Char)
  regexes : List RegexRule
  errorKind : Nat

structure Cand where
  kind : Nat
  len : Nat
  prio : Nat
  callback : Bool
deriving Repr, Inhabited

def isPrefix : List Char → List Char → Bool
  | [], _ => true
  | _ :: _, [] => false
  | a :: as, b :: bs => a == b && isPrefix as bs

def litCands (s : List Char) : List (Nat × List Char) → List Cand
  | [] => []
  | (k, lit) :: rest =>
      if lit ≠ [] ∧ isPrefix lit s then
        { kind := k, len := lit.length, prio := 2 * byteLen lit, callback := false } :: litCands s rest
      else litCands s rest

def reCands (s : List Char) : List RegexRule → List Cand
  | [] => []
  | r :: rest =>
      match r.re.longest s with
      | some (n + 1) =>
          { kind := r.kind, len := n + 1, prio := r.prio.getD r.re.priority,
            callback := r.callback.isSome } :: reCands s rest
      | _ => reCands s rest

/-- longer wins; at equal length the higher priority; otherwise the earlier rule stays -/
def Cand.beats (a b : Cand) : Bool := a.len > b.len || (a.len == b.len && a.prio > b.prio)

def pickBest : Option Cand → List Cand → Option Cand
  | best, [] => best
  | none, c :: cs => pickBest (some c) cs
  | some b, c :: cs => pickBest (some (if c.beats b then c else b)) cs

inductive Step where
  | tok (kind len : Nat)      -- a token of `len` scalars
  | noMatch                   -- logos yields `Err(())`, `Lexer::next` maps it to `TokenKind::Error`
  | badBump (bytes : Nat)     -- `Lexer::bump` would panic ("Invalid Lexer bump")
deriving Repr, DecidableEq

def longestMatch (rules : Rules) (s : List Char) : Step :=
  match pickBest none (litCands s rules.literals ++ reCands s rules.regexes) with
  | none => .noMatch
  | some c =>
      if c.callback then
        let rest := s.drop c.len
        match lexMultilineStr (utf8s rest) with
        | none => .noMatch
        | some nb =>
            match charsOfBytes rest nb with
            | some k => .tok c.kind (c.len + k)
            | none => .badBump nb
      else .tok c.kind c.len

/-! ### the token loop -/

inductive LexResult where
  | ok (toks : List Tok)
  | stuck (toks : List Tok) (pos : Nat)       -- an error token of length 0: no progress
  | panic (toks : List Tok) (pos : Nat)       -- invalid bump
deriving Repr, DecidableEq

def LexResult.cons (t : Tok) : LexResult → LexResult
  | .ok ts => .ok (t :: ts)
  | .stuck ts p => .stuck (t :: ts) p
  | .panic ts p => .panic (t :: ts) p

/-- `fuel` bounds the number of tokens; `rest.length + 1` is always enough -/
def lexLoop (rules : Rules) (errLen : Nat → Nat) : Nat → Nat → List Char → LexResult
  | _, _, [] => .ok []
  | 0, pos, _ :: _ => .stuck [] pos
  | fuel + 1, pos, rest@(_ :: _) =>
      match longestMatch rules rest with
      | .tok k n =>
          if n = 0 then .stuck [] pos
          else (lexLoop rules errLen fuel (pos + n) (rest.drop n)).cons ⟨k, rest.take n⟩
      | .noMatch =>
          let n := errLen pos
          if n = 0 then .stuck [] pos
          else (lexLoop rules errLen fuel (pos + n) (rest.drop n)).cons ⟨rules.errorKind, rest.take n⟩
      | .badBump _ => .panic [] pos

/-- `lexer::lex input`: the loop starts at offset `Gen.Tokens.lexStartOffset = 0` of the text it is *given*
and consumes all of it — the lexer never drops, skips or rewrites a prefix/suffix of the caller's text (no BOM
stripping, no shebang skipping, no newline normalisation). The extractor asserts that `Lexer::new` passes
`input` itself to logos and that spans are reported unshifted; `lex_tiles`/`lex_ranges_tile` are therefore
statements about the caller's text and ranges `ranges 0 ts` are offsets into it. -/
def lexAll (rules : Rules) (errLen : List Char → Nat → Nat) (s : List Char) : LexResult :=
  lexLoop rules (errLen s) (s.length + 1) Goml.Gen.Tokens.lexStartOffset s

/-- the rules of the real lexer (regenerated from `lexer/src/lib.rs`) -/
def genRules : Rules where
  literals := Goml.Gen.Tokens.literals.map fun (k, l) => (k, l.toList)
  regexes := Goml.Gen.Tokens.regexes
  errorKind := Goml.Gen.Tokens.errorKind

def isTrivia (k : Nat) : Bool := Goml.Gen.Tokens.triviaKinds.contains k

/-- byte ranges of consecutive tokens starting at byte offset `off` -/
def ranges : Nat → List Tok → List (Nat × Nat)
  | _, [] => []
  | off, t :: ts => (off, off + byteLen t.text) :: ranges (off + byteLen t.text) ts

/-- consecutive ranges: each starts where the previous ended, is non-empty, the last ends at `b` -/
def Tiles : Nat → List (Nat × Nat) → Nat → Prop
  | a, [], b => a = b
  | a, (x, y) :: rs, b => x = a ∧ x < y ∧ Tiles y rs b

end Goml.Lex
