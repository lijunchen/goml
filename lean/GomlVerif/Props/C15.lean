import GomlVerif.Model.Link
/-!
# C15 — linking never combines packages built against different interfaces

All statements are for an arbitrary hash function `H` that is injective on interface
views (the assumption on SHA-256 ∘ serde_json, a hypothesis — not an axiom).
-/
namespace Goml.Link

variable {H : View → Hash}

/-- what `load_interface_from_paths` has checked of the interface `u` it returns for `d` -/
structure Loaded (H : View → Hash) (s : St) (d : Pkg) (u : Iface) : Prop where
  file : s.ifaceFile d = some u
  pkg : u.view.pkg = d
  hash : u.hash = H u.view
  version : u.view.version = FORMAT_VERSION
  abi : u.view.abi = COMPILER_ABI

theorem loadIface_ok {s : St} {d : Pkg} {u : Iface} (h : loadIface H s d = .ok u) : Loaded H s d u := by
  unfold loadIface at h
  cases hf : s.ifaceFile d with
  | none => simp [hf] at h
  | some w =>
    simp only [hf] at h
    by_cases h1 : (w.view.pkg != d) = true
    · simp [h1] at h
    · by_cases h0 : (w.view.version != FORMAT_VERSION || w.view.abi != COMPILER_ABI) = true
      · simp [h1, h0] at h
      · by_cases h2 : (!validHash H w) = true
        · simp [h1, h0, h2] at h
        · simp only [h1, h0, h2] at h
          have : w = u := by simpa using h
          subst this
          simp only [bne_iff_ne, ne_eq, Decidable.not_not] at h1
          simp only [validHash, Bool.not_eq_true', beq_eq_false_iff_ne, ne_eq, Decidable.not_not] at h2
          simp only [Bool.or_eq_true, bne_iff_ne, ne_eq, not_or, Decidable.not_not] at h0
          exact ⟨hf, h1, h2, h0.1, h0.2⟩

theorem loadDeps_ok {s : St} {ds : List Pkg} {loaded : List (Pkg × Iface)}
    (h : loadDeps H s ds = .ok loaded) :
    ∀ d u, (d, u) ∈ loaded → u.hash = H u.view ∧ u.view.pkg = d := by
  induction ds generalizing loaded with
  | nil =>
    simp only [loadDeps, Except.ok.injEq] at h; subst h; intro d u hm; cases hm
  | cons d ds ih =>
    simp only [loadDeps] at h
    cases hl : loadIface H s d with
    | error e => simp [hl] at h
    | ok u =>
      simp only [hl] at h
      cases hr : loadDeps H s ds with
      | error e => simp [hr] at h
      | ok us =>
        simp only [hr, Except.ok.injEq] at h
        subst h
        intro d' u' hm
        rcases List.mem_cons.1 hm with heq | hm
        · cases heq
          exact ⟨(loadIface_ok hl).hash, (loadIface_ok hl).pkg⟩
        · exact ih hr d' u' hm

theorem loadDeps_congr {s₁ s₂ : St} (h : s₁.ifaceFile = s₂.ifaceFile) (ds : List Pkg) :
    loadDeps H s₁ ds = loadDeps H s₂ ds := by
  induction ds with
  | nil => rfl
  | cons d ds ih => simp only [loadDeps, loadIface, h, ih]

/-- the ghost record agrees with the pinned hashes -/
def seenSync (H : View → Hash) (c : Core) : Prop :=
  ∀ d v, (d, v) ∈ c.seen → (d, H v) ∈ c.iface.view.deps

/-- invariant of every stored core file: untainted (as `build` wrote it) it validates; whenever it validates, corrupted
    or not, it pins the views it was checked against (what `link_sound` reads) -/
def CoreOK (H : View → Hash) (c : Core) : Prop :=
  (c.tainted = false → validate H c = true) ∧ (validate H c = true → seenSync H c)

def Inv (H : View → Hash) (s : St) : Prop :=
  ∀ p c, s.coreFile p = some c → CoreOK H c

theorem validate_iff (c : Core) :
    validate H c = true ↔
      c.version = FORMAT_VERSION ∧ c.abi = COMPILER_ABI ∧ c.pkg = c.iface.view.pkg ∧
      c.iface.hash = H c.iface.view ∧ c.deps = c.iface.view.deps := by
  simp [validate, validHash, and_assoc]

/-- the five checks of `validate`, by name -/
structure Valid (H : View → Hash) (c : Core) : Prop where
  version : c.version = FORMAT_VERSION
  abi : c.abi = COMPILER_ABI
  pkg : c.pkg = c.iface.view.pkg
  hash : c.iface.hash = H c.iface.view
  deps : c.deps = c.iface.view.deps

theorem validate_valid {c : Core} (h : validate H c = true) : Valid H c :=
  have ⟨version, abi, pkg, hash, deps⟩ := (validate_iff c).1 h
  ⟨version, abi, pkg, hash, deps⟩

theorem built_core_ok {s : St} {p : Pkg} {loaded : List (Pkg × Iface)}
    (h : loadDeps H s (s.imports p) = .ok loaded) :
    CoreOK H { version := FORMAT_VERSION, abi := COMPILER_ABI, pkg := p,
               iface := mkIface H p (s.src p).iface loaded, body := (s.src p).body,
               deps := (mkIface H p (s.src p).iface loaded).view.deps,
               seen := loaded.map fun (d, u) => (d, u.view) } := by
  constructor
  · intro _; simp [validate, validHash, mkIface]
  · intro _ d v hm
    simp only [List.mem_map] at hm
    obtain ⟨⟨d', u⟩, hmem, heq⟩ := hm
    simp only [Prod.mk.injEq] at heq
    obtain ⟨rfl, rfl⟩ := heq
    have := (loadDeps_ok h d' u hmem).1
    simp only [mkIface, List.mem_map]
    exact ⟨(d', u), hmem, by simp [this]⟩

/-- a single-field change of a hash-consistent interface that is still hash-consistent changed nothing: either the view
    is untouched, or the stored hash is untouched and pins the view -/
theorem corruptIface_consistent (hinj : Function.Injective H) (i : Iface) (k : Corruption)
    (hgen : i.hash = H i.view) (h' : (corruptIface i k).hash = H (corruptIface i k).view) :
    (corruptIface i k).view = i.view ∧ (corruptIface i k).hash = i.hash := by
  cases hf : k.field <;> simp only [corruptIface, hf] at h' ⊢
  case version | abi | pkg | content | deps => exact ⟨hinj (h'.symm.trans hgen), trivial⟩
  case hash => exact ⟨trivial, h'.trans hgen.symm⟩
  -- a `core*` field: `corruptIface` is the identity
  all_goals exact ⟨trivial, trivial⟩

theorem corruptIface_changes (i : Iface) (k : Corruption) (hch : changesIface i k = true) :
    ¬((corruptIface i k).view = i.view ∧ (corruptIface i k).hash = i.hash) := by
  rintro ⟨hv, hh⟩
  cases hf : k.field <;> simp only [corruptIface, changesIface, hf, bne_iff_ne, ne_eq] at hv hh hch
  case version => exact hch (congrArg View.version hv)
  case abi => exact hch (congrArg View.abi hv)
  case pkg => exact hch (congrArg View.pkg hv)
  case content => exact hch (congrArg View.content hv)
  case deps => exact hch (congrArg View.deps hv)
  case hash => exact hch hh
  all_goals simp at hch

theorem corrupt_core_ok (hinj : Function.Injective H) (c : Core) (k : Corruption)
    (hc : CoreOK H c) (hunt : c.tainted = false) : CoreOK H (corruptCore c k) := by
  have hval := hc.1 hunt
  have hsync := hc.2 hval
  have hash := (validate_valid hval).hash
  constructor
  · intro ht; cases hf : k.field <;> simp [corruptCore, hf] at ht
  · intro hval'
    have hv' := (validate_iff _).1 hval'
    have key : (corruptCore c k).iface.view = c.iface.view := by
      cases hf : k.field <;> simp only [corruptCore, hf] at hv' ⊢
      -- what is left are the interface's fields
      all_goals
        obtain ⟨-, -, -, hash', -⟩ := hv'
        exact (corruptIface_consistent hinj c.iface k hash hash').1
    intro d v hm
    have hseen : (corruptCore c k).seen = c.seen := by
      cases hf : k.field <;> simp [corruptCore, hf]
    rw [hseen] at hm
    rw [key]
    exact hsync d v hm

theorem Inv.setCore {s : St} (hI : Inv H s) (p : Pkg) {c : Core} (hc : CoreOK H c) : Inv H (setCore s p c) := by
  intro q c' hq
  simp only [Link.setCore] at hq
  split at hq
  · cases hq; exact hc
  · exact hI q c' hq

theorem check_ok_iff (s s' : St) (p : Pkg) :
    check H s p = .ok s' ↔
      ∃ loaded, loadDeps H s (s.imports p) = .ok loaded ∧ s' = setIface s p (mkIface H p (s.src p).iface loaded) := by
  unfold check
  cases loadDeps H s (s.imports p) with
  | error e => simp
  | ok loaded => simp [eq_comm]

theorem build_ok_iff (s s' : St) (p : Pkg) :
    build H s p = .ok s' ↔
      ∃ loaded, loadDeps H s (s.imports p) = .ok loaded ∧
        s' = setCore (setIface s p (mkIface H p (s.src p).iface loaded)) p
          { version := FORMAT_VERSION, abi := COMPILER_ABI, pkg := p,
            iface := mkIface H p (s.src p).iface loaded, body := (s.src p).body,
            deps := (mkIface H p (s.src p).iface loaded).view.deps,
            seen := loaded.map fun (d, u) => (d, u.view) } := by
  unfold build
  cases loadDeps H s (s.imports p) with
  | error e => simp
  | ok loaded => simp [eq_comm]

/-- only `build` and the corruption of a core file write a core file -/
theorem step_inv (hinj : Function.Injective H) (s : St) (op : Op) (hI : Inv H s) :
    Inv H (step H s op) := by
  cases op with
  | editBody p v => exact hI
  | editIface p v => exact hI
  | link ps => exact hI
  | foreignIface p ver abi => exact hI
  | check p =>
    simp only [step]
    split
    · rename_i s' hc
      obtain ⟨loaded, _, rfl⟩ := (check_ok_iff s s' p).1 hc
      exact hI
    · exact hI
  | build p =>
    simp only [step]
    split
    · rename_i s' hb
      obtain ⟨loaded, hl, rfl⟩ := (build_ok_iff s s' p).1 hb
      exact Inv.setCore (s := setIface s p _) hI p (built_core_ok hl)
    · exact hI
  | corruptIfaceFile p k =>
    simp only [step]
    split
    · split <;> exact hI
    · exact hI
  | corruptCoreFile p k =>
    simp only [step]
    split
    · rename_i c0 hf
      split
      · exact hI
      · rename_i ht
        exact hI.setCore p (corrupt_core_ok hinj c0 k (hI p c0 hf) (by simpa using ht))
    · exact hI

theorem run_inv (hinj : Function.Injective H) (s : St) (ops : List Op) (hI : Inv H s) :
    Inv H (run H s ops) := by
  induction ops generalizing s with
  | nil => exact hI
  | cons op ops ih => exact ih (step H s op) (step_inv hinj s op hI)

theorem init_inv (imports : Pkg → List Pkg) : Inv H (init imports) := by
  intro p c h; simp [init] at h

theorem readCores_ok {s : St} {ps : List Pkg} {cs : List Core} (h : readCores H s ps = .ok cs) :
    ∀ c ∈ cs, validate H c = true ∧ ∃ p, s.coreFile p = some c := by
  induction ps generalizing cs with
  | nil => simp only [readCores, Except.ok.injEq] at h; subst h; intro c hc; cases hc
  | cons p ps ih =>
    simp only [readCores] at h
    cases hf : s.coreFile p with
    | none => simp [hf] at h
    | some c0 =>
      simp only [hf] at h
      by_cases hv : validate H c0 = true
      · simp only [hv, Bool.not_true, Bool.false_eq_true, if_false] at h
        cases hr : readCores H s ps with
        | error e => simp [hr] at h
        | ok cs' =>
          simp only [hr, Except.ok.injEq] at h
          subst h
          intro c hc
          rcases List.mem_cons.1 hc with rfl | hc
          · exact ⟨hv, p, hf⟩
          · exact ih hr c hc
      · simp [hv] at h

theorem checkDeps_cons (cs : List Core) (p d : Pkg) (hsh : Hash) (rest : List (Pkg × Hash)) :
    checkDeps cs p ((d, hsh) :: rest) = .ok () ↔
      (∃ cd, findCore cs d = some cd ∧ cd.iface.hash = hsh) ∧ checkDeps cs p rest = .ok () := by
  simp only [checkDeps]
  cases findCore cs d with
  | none => simp
  | some cd => by_cases hh : cd.iface.hash = hsh <;> simp [hh]

theorem checkDeps_ok_iff (cs : List Core) (p : Pkg) (deps : List (Pkg × Hash)) :
    checkDeps cs p deps = .ok () ↔
      ∀ d hsh, (d, hsh) ∈ deps → ∃ cd, findCore cs d = some cd ∧ cd.iface.hash = hsh := by
  induction deps with
  | nil => simp [checkDeps]
  | cons e rest ih =>
    obtain ⟨d0, h0⟩ := e
    rw [checkDeps_cons, ih]
    constructor
    · rintro ⟨h1, h2⟩ d hsh hm
      rcases List.mem_cons.1 hm with heq | hm
      · cases heq; exact h1
      · exact h2 d hsh hm
    · intro h
      exact ⟨h d0 h0 (List.mem_cons_self ..), fun d hsh hm => h d hsh (List.mem_cons_of_mem _ hm)⟩

theorem checkAll_cons (all : List Core) (c : Core) (rest : List Core) :
    checkAll all (c :: rest) = .ok () ↔
      checkDeps all c.pkg c.deps = .ok () ∧ checkAll all rest = .ok () := by
  simp only [checkAll]
  cases checkDeps all c.pkg c.deps <;> simp

theorem checkAll_ok_iff (all cs : List Core) :
    checkAll all cs = .ok () ↔ ∀ c ∈ cs, checkDeps all c.pkg c.deps = .ok () := by
  induction cs with
  | nil => simp [checkAll]
  | cons c0 rest ih => rw [checkAll_cons, ih, List.forall_mem_cons]

theorem mem_insCore (c x : Core) (l : List Core) : x ∈ insCore c l ↔ x = c ∨ x ∈ l := by
  induction l with
  | nil => simp [insCore]
  | cons d ds ih =>
    simp only [insCore]
    split
    · simp
    · simp only [List.mem_cons, ih]
      constructor
      · rintro (h | h | h) <;> simp [h]
      · rintro (h | h | h) <;> simp [h]

theorem mem_sortCores (x : Core) (l : List Core) : x ∈ sortCores l ↔ x ∈ l := by
  induction l with
  | nil => simp [sortCores]
  | cons c cs ih => simp [sortCores, mem_insCore, ih]

/-- `link_cores` accepts exactly the non-empty, duplicate-free sets of cores that
    contain Main and in which EVERY recorded dependency hash of EVERY input equals the interface hash of
    the core given for that dependency. -/
theorem linkCores_ok_iff (cs : List Core) :
    linkCores cs = .ok () ↔
      cs ≠ [] ∧ dupFree cs [] = .ok () ∧ (findCore cs "Main").isSome = true ∧
      ∀ c ∈ cs, ∀ d hsh, (d, hsh) ∈ c.deps → ∃ cd, findCore cs d = some cd ∧ cd.iface.hash = hsh := by
  simp only [linkCores]
  cases cs with
  | nil => simp
  | cons c0 rest =>
    simp only [List.isEmpty_cons, Bool.false_eq_true, if_false, ne_eq, reduceCtorEq, not_false_eq_true, true_and]
    cases hdup : dupFree (c0 :: rest) [] with
    | error e => simp
    | ok u =>
      cases hm : findCore (c0 :: rest) "Main" with
      | none => simp
      | some cm =>
        simp only [Option.isNone_some, Bool.false_eq_true, if_false, Option.isSome_some, true_and]
        rw [checkAll_ok_iff]
        constructor
        · intro h c hc
          exact (checkDeps_ok_iff _ _ _).1 (h c ((mem_sortCores c _).2 hc))
        · intro h c hc
          exact (checkDeps_ok_iff _ _ _).2 (h c ((mem_sortCores c _).1 hc))

theorem link_ok_iff (s : St) (ps : List Pkg) (cs : List Core) :
    link H s ps = .ok cs ↔ readCores H s ps = .ok cs ∧ linkCores cs = .ok () := by
  unfold link
  constructor
  · intro h
    split at h
    · cases h
    · rename_i cs' hr
      split at h
      · cases h
      · rename_i hk
        cases h
        exact ⟨hr, hk⟩
  · rintro ⟨hr, hk⟩
    simp only [hr, hk]

/-! ## link soundness over every history -/

/-- After any history of edits, checks, builds, links and single-field
    corruptions, if `link` accepts a set of cores then every package in it was type-checked
    against exactly the interface view (format, ABI, package, exported content *and that
    interface's own pinned dependencies* — hence transitively) that its dependency's core
    carries in this link. -/
theorem link_sound (hinj : Function.Injective H) (imports : Pkg → List Pkg) (ops : List Op)
    (ps : List Pkg) (cs : List Core)
    (hl : link H (run H (init imports) ops) ps = .ok cs) :
    ∀ c ∈ cs, ∀ d v, (d, v) ∈ c.seen →
      ∃ cd, findCore cs d = some cd ∧ cd ∈ cs ∧ cd.iface.view = v := by
  have hI := run_inv hinj (init imports) ops (init_inv imports)
  obtain ⟨hr, hk⟩ := (link_ok_iff _ _ _).1 hl
  obtain ⟨_, _, _, hedge⟩ := (linkCores_ok_iff cs).1 hk
  intro c hc d v hseen
  obtain ⟨hval, q, hq⟩ := readCores_ok hr c hc
  obtain ⟨cd, hfind, hhash⟩ :=
    hedge c hc d (H v) (by rw [(validate_valid hval).deps]; exact (hI q c hq).2 hval d v hseen)
  have hcd : cd ∈ cs := List.mem_of_find?_eq_some hfind
  have hashd := (validate_valid (readCores_ok hr cd hcd).1).hash
  exact ⟨cd, hfind, hcd, hinj (by rw [← hashd, hhash])⟩

/-! ## what changes the hash and what does not -/

/-- body-only edits leave the emitted interface (and its hash) unchanged -/
theorem body_edit_hash_stable (s : St) (p : Pkg) (v : Nat) (s1 s2 : St)
    (h1 : build H s p = .ok s1) (h2 : build H (step H s (.editBody p v)) p = .ok s2) :
    s2.ifaceFile p = s1.ifaceFile p := by
  obtain ⟨l1, hl1, rfl⟩ := (build_ok_iff _ _ _).1 h1
  obtain ⟨l2, hl2, rfl⟩ := (build_ok_iff _ _ _).1 h2
  have e : loadDeps H (step H s (.editBody p v)) ((step H s (.editBody p v)).imports p) = loadDeps H s (s.imports p) :=
    loadDeps_congr (s₁ := step H s (.editBody p v)) (s₂ := s) rfl (s.imports p)
  rw [e, hl1] at hl2
  cases hl2
  simp [setCore, setIface, step]

/-- an interface-visible edit changes the hash (H injective) -/
theorem iface_edit_hash_changes (hinj : Function.Injective H) (p : Pkg) (c1 c2 : Nat)
    (l1 l2 : List (Pkg × Iface)) (hne : c1 ≠ c2) :
    (mkIface H p c1 l1).hash ≠ (mkIface H p c2 l2).hash := by
  simp only [mkIface]
  intro h
  have := hinj h
  simp only [View.mk.injEq] at this
  obtain ⟨-, -, -, content, -⟩ := this
  exact hne content

/-- a changed dependency hash changes the dependent's hash: staleness propagates transitively -/
theorem dep_hash_propagates (hinj : Function.Injective H) (p : Pkg) (c : Nat)
    (l1 l2 : List (Pkg × Iface))
    (hne : (l1.map fun (d, u) => (d, u.hash)) ≠ (l2.map fun (d, u) => (d, u.hash))) :
    (mkIface H p c l1).hash ≠ (mkIface H p c l2).hash := by
  simp only [mkIface]
  intro h
  have := hinj h
  simp only [View.mk.injEq] at this
  obtain ⟨-, -, -, -, deps⟩ := this
  exact hne deps

/-- a dependent whose pinned hash differs from the linked dependency is rejected -/
theorem stale_rejected (cs : List Core) (p d : Pkg) (hsh : Hash) (rest : List (Pkg × Hash)) (cd : Core)
    (hf : findCore cs d = some cd) (hne : cd.iface.hash ≠ hsh) :
    checkDeps cs p ((d, hsh) :: rest) = .error (.stale p d) := by
  simp [checkDeps, hf, hne]

/-! ## acceptance is a statement about EVERY import edge

By `linkCores_ok_iff` the acceptance condition of `linkCores` is an *iff* over the SET of import edges of the
inputs: no reference to the order in which packages or dependencies are visited, to package names, or to where an
edge sits in the graph. A stale edge anywhere (second importer of a shared dependency, below a package
already seen, in a part Main does not reach) refuses the link. -/

/-- an import edge that no input answers with the pinned hash refuses the whole link -/
theorem edge_rejected (cs : List Core) (c : Core) (d : Pkg) (hsh : Hash)
    (hc : c ∈ cs) (he : (d, hsh) ∈ c.deps) (hno : ∀ cd, findCore cs d = some cd → cd.iface.hash ≠ hsh) :
    linkCores cs ≠ .ok () := fun h =>
  let ⟨_, _, _, edges⟩ := (linkCores_ok_iff cs).1 h
  let ⟨cd, hf, hh⟩ := edges c hc d hsh he
  hno cd hf hh

/-- a single import edge whose pinned hash differs from the linked dependency refuses the whole link,
    whichever input it belongs to and whatever else is among the inputs -/
theorem stale_edge_rejected (cs : List Core) (c cd : Core) (d : Pkg) (hsh : Hash)
    (hc : c ∈ cs) (he : (d, hsh) ∈ c.deps) (hf : findCore cs d = some cd) (hne : cd.iface.hash ≠ hsh) :
    linkCores cs ≠ .ok () :=
  edge_rejected cs c d hsh hc he fun cd' hf' => by rw [hf] at hf'; cases hf'; exact hne

/-- … and so does an import edge whose target is not among the inputs -/
theorem missing_edge_rejected (cs : List Core) (c : Core) (d : Pkg) (hsh : Hash)
    (hc : c ∈ cs) (he : (d, hsh) ∈ c.deps) (hf : findCore cs d = none) :
    linkCores cs ≠ .ok () :=
  edge_rejected cs c d hsh hc he fun cd' hf' => by rw [hf] at hf'; cases hf'

/-! ## altered artefacts are rejected -/

/-- a genuine core with any single *validated* field changed fails `validate`
    (everything except the Core IR body itself) -/
theorem corrupt_core_rejected (hinj : Function.Injective H) (c : Core) (k : Corruption)
    (hval : validate H c = true) (hch : changesCore c k = true) (hnb : k.field ≠ .coreBody) :
    validate H (corruptCore c k) = false := by
  obtain ⟨version, abi, pkg, hash, deps⟩ := (validate_iff c).1 hval
  cases hvc : validate H (corruptCore c k) with
  | false => rfl
  | true =>
    exfalso
    have hv' := (validate_iff _).1 hvc
    cases hf : k.field <;> simp only [hf, corruptCore, changesCore, bne_iff_ne, ne_eq] at hv' hch
    all_goals obtain ⟨version', abi', pkg', hash', deps'⟩ := hv'
    case coreVersion => exact hch (version'.trans version.symm)
    case coreAbi => exact hch (abi'.trans abi.symm)
    case corePkg => exact hch (pkg'.trans pkg.symm)
    case coreDeps => exact hch (deps'.trans deps.symm)
    case coreBody => exact hnb hf
    -- a field of the interface
    all_goals exact corruptIface_changes c.iface k hch (corruptIface_consistent hinj c.iface k hash hash')

/-- a genuine interface file with any single field changed is refused by `load_interface_from_paths` -/
theorem corrupt_iface_rejected (hinj : Function.Injective H) (s : St) (d : Pkg) (i : Iface)
    (k : Corruption) (hgen : i.hash = H i.view) (hch : changesIface i k = true)
    (hfile : s.ifaceFile d = some (corruptIface i k)) :
    ∃ e, loadIface H s d = .error e := by
  cases hl : loadIface H s d with
  | error e => exact ⟨e, rfl⟩
  | ok u =>
    have hu := loadIface_ok hl
    have hf := hu.file
    rw [hfile] at hf
    cases hf
    exact absurd (corruptIface_consistent hinj i k hgen hu.hash) (corruptIface_changes i k hch)

/-- cores written by another format version or ABI are rejected -/
theorem other_version_core_rejected (c : Core) (h : c.version ≠ FORMAT_VERSION ∨ c.abi ≠ COMPILER_ABI) :
    validate H c = false := by
  cases hv : validate H c with
  | false => rfl
  | true =>
    rcases h with h | h
    · exact absurd (validate_valid hv).version h
    · exact absurd (validate_valid hv).abi h

/-- an interface file of another format version / ABI is refused even when its own hash is
    consistent with its contents: the hash test alone would accept it (goml before its commit ec1f480 did). -/
theorem other_version_iface_rejected (s : St) (d : Pkg) (i : Iface)
    (h : i.view.version ≠ FORMAT_VERSION ∨ i.view.abi ≠ COMPILER_ABI)
    (hfile : s.ifaceFile d = some i) :
    ∃ e, loadIface H s d = .error e := by
  cases hl : loadIface H s d with
  | error e => exact ⟨e, rfl⟩
  | ok u =>
    exfalso
    have hu := loadIface_ok hl
    have hf := hu.file
    rw [hfile] at hf; cases hf
    rcases h with h | h
    · exact h hu.version
    · exact h hu.abi

/-! ## what is *not* covered by validation: the Core IR body (known finding) -/

/-- changing only the Core IR of a stored `.core` file is not detected by `validate`:
    `CoreUnit` carries no digest of `core_ir`. -/
theorem corrupt_core_body_accepted (c : Core) (n : Nat) (hval : validate H c = true) :
    validate H (corruptCore c { field := .coreBody, nat := n }) = true := by
  simpa [corruptCore, validate] using hval

/-! ## non-vacuity: a three-package history with one successful and one failing link -/

section Demo
def demoImports : Pkg → List Pkg
  | "Main" => ["Lib"]
  | "Lib" => ["Base"]
  | _ => []

/-- a hash for the demonstration: an arithmetic formula, chosen so that the finitely many views of the demo get distinct
    numbers (injectivity is not stated: the examples below evaluate the links) -/
def demoH (v : View) : Hash :=
  v.version + 2 * v.abi + 10 * v.content + 1000 * v.pkg.length + 100000 * (v.deps.foldl (fun a d => a * 7 + d.2 + 1) 0)

def demoOps1 : List Op := [.build "Base", .build "Lib", .build "Main"]
def demoOps2 : List Op := demoOps1 ++ [.editIface "Base" 1, .build "Base"]

example : (link demoH (run demoH (init demoImports) demoOps1) ["Main", "Lib", "Base"]).isOk = true := by
  decide +kernel
example : (link demoH (run demoH (init demoImports) demoOps2) ["Main", "Lib", "Base"]).isOk = false := by
  decide +kernel

/-- a shared dependency with one fresh and one stale importer, under two namings: the shared package
    sorts before / after its stale importer. Both are refused (`stale_edge_rejected` applies to the edge
    of the second importer, which a walk that compares a package only on its first visit never looks at) -/
def diamondImports (shared mid : Pkg) : Pkg → List Pkg := fun p =>
  if p = "Main" then [shared, mid] else if p = mid then [shared] else []

def diamondOps (shared mid : Pkg) : List Op :=
  [.build shared, .build mid, .build "Main", .editIface shared 1, .build shared, .build "Main"]

example : (link demoH (run demoH (init (diamondImports "Base" "Mid")) (diamondOps "Base" "Mid"))
    ["Main", "Mid", "Base"]).isOk = false := by decide +kernel
example : (link demoH (run demoH (init (diamondImports "Zeta" "Al")) (diamondOps "Zeta" "Al"))
    ["Main", "Al", "Zeta"]).isOk = false := by decide +kernel
example : (link demoH (run demoH (init (diamondImports "Base" "Mid")) (diamondOps "Base" "Mid" ++ [.build "Mid", .build "Main"]))
    ["Main", "Mid", "Base"]).isOk = true := by decide +kernel
end Demo

end Goml.Link
