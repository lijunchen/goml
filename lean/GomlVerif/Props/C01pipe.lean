import GomlVerif.Lemmas.PipeChain
import GomlVerif.Lemmas.PipeExamples
import GomlVerif.Gen.PipelineOrder
/-!
# C01 — pipeline composition: the middle end `anf ∘ lift ∘ mono` preserves `Sem`, and its continuation to the emitted Go

C01 ("emitted Go behaves exactly as the source program denotes … nothing is lost, duplicated,
reordered or invented on the way through match compilation, monomorphisation, closure conversion,
ANF, Go generation and dead-code elimination") is decided per program by stage-wise translation
validation (`tools/props/c01.py`).  This file composes the per-pass preservation THEOREMS into one
statement about the composite model `Pipeline.pipeline` (`Model/Pipeline.lean`), which is the
three pass models sequenced as `pipeline::compile` sequences the passes (`Gen/PipelineOrder.lean`
is regenerated from `pipeline.rs` on every run and `pass_order_is_modelled` re-checks it) and which
the check ties to the Rust by running it on the REAL Core dump of every corpus / generated
program and comparing with the REAL ANF dump.

The full property for the middle end would be, for every `i : PipeIn` with `pipeline i = some A`,

    ∀ fuel eager, Definite (Sem.run fuel i.prog "main" eager) →
      ∃ m₀, ∀ m ≥ m₀, Sem.run m A "main" eager = Sem.run fuel i.prog "main" eager

`pipeline_preserves` states exactly this under one more hypothesis, `InPipeFragment i`: what it lacks is
the programs outside that predicate (and runs that never become definite).
`InPipeFragment` is ONE decidable predicate, the conjunction of what the three link theorems need:

* `fragMono` — for `MonoSim.run_definite` (`Lemmas/PipeMonoSim.lean`, a lock-step simulation
  of `mono`'s output against its input under the full `Sem`, with a value relation for renamed
  instances, renamed type instances and closure bodies; C07's own `mono_preserves_partial` is
  closure-free, phase 1 only and takes the linking of the output as a hypothesis, so it is not the
  link used here).  Excludes `ETraitCall` (Sem dispatches on the runtime value, `mono` on the static
  type: that they agree is type soundness of Core w.r.t. `Sem`, which no theorem provides),
  binders spelled like functions, user methods named `apply` on structs, `dyn` over a generic
  instance.
* `fragLift` — `DirectFlow`, the hypothesis of `Lift.lift_preserves_partial` (C08).
* `fragAnf` — `FileInAnfFragment`, the hypothesis of `C09.anf_run_preserves_partial` (C09).

The back half: `core_to_go_preserves` (Core → compiled Go before
DCE, fragment `InE2EFragment`) and **`core_to_emitted_go_preserves`** (Core → the emitted file,
`eliminate_dead_vars` included, fragment `InEmitFragment`) have NO hypothesis besides their
decidable fragment.  `end_to_end_partial` / `end_to_end_before_dce` keep the generic form with
`CompileSim` / `DceFileSim` as parameters.
-/
namespace Goml.Pipeline
open Goml Goml.Sem

/-! ## the order of the passes (regenerated from `pipeline.rs` on every run) -/

/-- every pass is given the file and the environment the previous one returned.  A row of `Gen.pipelineOrder` is
    (pass, environment argument, file argument, gets the `Gensym`, output file, output environment): `b.2.1` / `b.2.2.1`
    are the arguments of the later pass, `a.2.2.2.2.2` / `a.2.2.2.2.1` the outputs of the earlier one -/
def chained : List (String × String × String × Bool × String × String) → Bool
  | a :: b :: rest => b.2.1 == a.2.2.2.2.2 && b.2.2.1 == a.2.2.2.2.1 && chained (b :: rest)
  | _ => true

/-- `pipeline::compile` (and the linker of separately compiled packages) runs, after match
    compilation, exactly `mono::mono`, `lift::lambda_lift`, `anf::anf_file`, `go::compile::go_file`
    in this order, each on the output of the previous one, the last three sharing the pipeline-wide
    `Gensym`, and `go_file` ends with `dce::eliminate_dead_vars` — the sequencing `Pipeline.stages`
    models.  A dropped, added or re-ordered pass changes the generated table (or makes the
    extractor fail) and this theorem stops the build. -/
theorem pass_order_is_modelled :
    Goml.Gen.pipelineOrder.map (·.1) =
      ["mono::mono", "lift::lambda_lift", "anf::anf_file", "go::compile::go_file"] ∧
    Goml.Gen.pipelineOrderSeparate = Goml.Gen.pipelineOrder.map (·.1) ∧
    chained Goml.Gen.pipelineOrder = true ∧
    Goml.Gen.pipelineOrder.map (·.2.2.2.1) = [false, true, true, true] ∧
    Goml.Gen.goFileEndsWithDce = true := by decide

/-! ## the first link: `mono` under the full `Sem` -/

/-- **mono_accepted_pair_preserves** (the strengthening of C07's `mono_preserves_partial` that the
    chain needs; proof in `Lemmas/PipeMonoSim.lean`).  For any pair of programs accepted by the
    decidable check `MonoSim.monoOk` — in `pipeline_preserves`: the Core program and the output of
    the model of `mono.rs`, both phases, with the instance table `mono` built — the two programs run
    in lock step: with the SAME fuel and schedule they print the same, record the same extern
    events and end the same way (both normally, both with the same panic, both out of fuel, or
    both stuck).  All node kinds of Core except `ETraitCall` are covered: closures (related up to
    their bodies), `go`, `dyn` dispatch, calls through local variables, generic functions as
    values, references (the same store locations), generic type instances renamed by phase 2. -/
theorem mono_accepted_pair_preserves (c : MonoSim.Cx) (hok : MonoSim.monoOk c = true) (fuel : Nat) (eager : Bool) :
    (run fuel c.P' "main" eager).out = (run fuel c.P "main" eager).out ∧
    (run fuel c.P' "main" eager).externs = (run fuel c.P "main" eager).externs ∧
    ((run fuel c.P' "main" eager).status = (run fuel c.P "main" eager).status ∨
     (∃ s s', (run fuel c.P "main" eager).status = "stuck:" ++ s ∧
        (run fuel c.P' "main" eager).status = "stuck:" ++ s')) :=
  MonoSim.run_rel hok fuel eager

/-- the fragment of `pipeline_preserves` (decidable; `Model/Pipeline.lean`) -/
def InPipeFragment (i : PipeIn) : Prop := inPipeFragment i = true

instance (i : PipeIn) : Decidable (InPipeFragment i) := by
  unfold InPipeFragment; infer_instance

/-- inside the fragment the composite model produces a program, and each conjunct is the
    hypothesis of one link theorem -/
theorem fragment_conjuncts {i : PipeIn} (h : InPipeFragment i) :
    ∃ s, stages i = some s ∧ pipeline i = some s.anf ∧
      MonoSim.monoOk { P := i.prog, P' := s.mono, pairs := s.pairs } = true ∧
      Lift.DirectFlow s.env s.mono = true ∧
      C09.FileInAnfFragment s.lift s.gensym := by
  unfold InPipeFragment inPipeFragment at h
  split at h
  · cases h
  · rename_i s hs
    simp only [Bool.and_eq_true] at h
    refine ⟨s, hs, by simp [pipeline, hs], h.1.1, h.1.2, ?_⟩
    unfold C09.FileInAnfFragment
    rw [← fragAnf_eq]
    exact h.2

/-- **pipeline_preserves.**  For every Core program in `InPipeFragment`: every definite `Sem` run
    of `main` (it ends normally or fails with a panic; the outcome is the printed output, the way
    of ending with the panic message, and the extern events), with any fuel and under either `go`
    schedule, is reproduced — outcome for outcome — by the ANF program the composite middle end
    produces, for every sufficiently large fuel.  Chain: `MonoSim.run_definite` (Core → Mono),
    `Lift.lift_preserves_partial` (Mono → Lift), `C09.anf_run_preserves_partial` (Lift → ANF). -/
theorem pipeline_preserves (i : PipeIn) (A : Prog) (hA : pipeline i = some A) (hfrag : InPipeFragment i)
    (fuel : Nat) (eager : Bool) (hdef : Definite (run fuel i.prog "main" eager)) :
    ∃ m0, ∀ m, m0 ≤ m → run m A "main" eager = run fuel i.prog "main" eager := by
  obtain ⟨s, hs, hp, hm, hl, ha⟩ := fragment_conjuncts hfrag
  rw [hp] at hA
  cases hA
  have l1 : Reproduces i.prog s.mono := mono_link (c := { P := i.prog, P' := s.mono, pairs := s.pairs }) hm
  obtain ⟨l2, l3⟩ := lift_anf_link hs hl ha
  exact (l1.trans (l2.trans l3)) fuel eager hdef

/-- the intermediate programs are reproduced as well (each stage of the chain on its own) -/
theorem pipeline_stagewise (i : PipeIn) (s : Stages) (hs : stages i = some s) (hfrag : InPipeFragment i) :
    Reproduces i.prog s.mono ∧ Reproduces s.mono s.lift ∧ Reproduces s.lift s.anf := by
  obtain ⟨s', hs', _, hm, hl, ha⟩ := fragment_conjuncts hfrag
  rw [hs] at hs'
  cases hs'
  exact ⟨mono_link (c := { P := i.prog, P' := s.mono, pairs := s.pairs }) hm, lift_anf_link hs hl ha⟩

/-- the fragment of `pipeline_preserves_partial`: the conjuncts of the lift and ANF links only -/
def InLiftAnfFragment (i : PipeIn) : Prop := inLiftAnfFragment i = true

instance (i : PipeIn) : Decidable (InLiftAnfFragment i) := by
  unfold InLiftAnfFragment; infer_instance

/-- **pipeline_preserves_partial.**  When the Core → Mono link is outside `fragMono` — in practice:
    the program uses a trait-bounded generic function, so its Core contains `ETraitCall`, whose
    `Sem` meaning (dispatch on the runtime value) agrees with what `mono` emits (a direct call
    chosen by the static type) only for well-typed runs, and no theorem here gives type soundness
    of Core w.r.t. `Sem` (C07's `traitcall_commutes` takes `valKey v = tyKey τ` as a hypothesis) —
    the chain still holds FROM THE MONO PROGRAM ON: every definite run of `main` in the
    monomorphised program the model computes is reproduced by the ANF program.  The first link is
    then covered by the stage-wise validation of `./check C01` / `./check C07` only.

    Full statement, not proved: `pipeline_preserves` without `fragMono`, i.e. with the typing
    invariant `∀ ETraitCall Tr::m(recv,…) evaluated in a run, valKey (value of recv) = tyKey (type of recv)`
    discharged from well-typedness of the Core program. -/
theorem pipeline_preserves_partial (i : PipeIn) (s : Stages) (hs : stages i = some s) (hfrag : InLiftAnfFragment i)
    (fuel : Nat) (eager : Bool) (hdef : Definite (run fuel s.mono "main" eager)) :
    ∃ m0, ∀ m, m0 ≤ m → run m s.anf "main" eager = run fuel s.mono "main" eager := by
  unfold InLiftAnfFragment inLiftAnfFragment at hfrag
  rw [hs] at hfrag
  simp only [Bool.and_eq_true] at hfrag
  obtain ⟨l2, l3⟩ := lift_anf_link hs hfrag.1 (by unfold C09.FileInAnfFragment; rw [← fragAnf_eq]; exact hfrag.2)
  exact (l2.trans l3) fuel eager hdef

/-- nothing invented: a definite run of the ANF program and a definite run of the Core program
    have the same outcome, whatever fuel each was given (`Sem` is deterministic and fuel-monotone;
    a Core run that never becomes definite — divergence, or ill-typed IR — is not constrained) -/
theorem pipeline_outcome_unique (i : PipeIn) (A : Prog) (hA : pipeline i = some A) (hfrag : InPipeFragment i)
    (eager : Bool) (f1 f2 : Nat) (h1 : Definite (run f1 i.prog "main" eager)) (h2 : Definite (run f2 A "main" eager)) :
    run f2 A "main" eager = run f1 i.prog "main" eager := by
  obtain ⟨m0, hm⟩ := pipeline_preserves i A hA hfrag f1 eager h1
  have e1 := hm (max m0 f2) (Nat.le_max_left _ _)
  rw [← run_stable h2 (Nat.le_max_right m0 f2), e1]

/-! ## the back half: Go generation and dead-code elimination — generic form

The two links are parameters of `end_to_end_partial` (`Lemmas/PipeChain.lean`: `CompileSim`, `DceFileSim`).  For the
models of `go/compile.rs` and `go/dce.rs` both are theorems:
 * `compileSim_of_fragGo` — from `GoCompileProps.compile_preserves_run`, for the
   composite's own re-annotated ANF (`annotFile_toFn`: erasing the annotations gives the ANF program
   back);
 * `dceFileSim_of_ok` — from `Dce.dce_file_preserves`, the FILE-level lifting of `dce_preserves`
   (`Lemmas/GoFileSim.lean`: `Go.Sem` congruence for files whose function bodies forward-simulate;
   `Lemmas/GoFilePrune.lean`: lock-step insensitivity to functions outside the reachable set, with
   the invariant that no value contains such a function value; `Lemmas/DceFile{,2}.lean`).  The
   lifting rests on three facts: `Go.Sem.zero` is a total definition that reads the file only
   through its struct declarations, `callG` with a wrong number of arguments is `stuck` (Go's
   static arity rule), and no reachable value contains a function value from outside the reachable set.
The hypothesis-free statements are `core_to_go_preserves` and `core_to_emitted_go_preserves` below.
-/
open Goml.Go in
/-- **end_to_end_partial.**  For every Core program in `InPipeFragment`, every definite `Sem` run of
    `main` is reproduced by `Go.Sem` of the emitted Go file — before and after dead-code
    elimination — for ANY back-end model `compile`, GIVEN the two links as hypotheses: `hcompile`
    (`compile` preserves the meaning of the ANF program the middle end produced) and `hdce` (dead-code
    elimination preserves the meaning of the compiled file).  The part between Core and ANF is
    `pipeline_preserves`. -/
theorem end_to_end_partial (i : PipeIn) (A : Prog) (hA : pipeline i = some A) (hfrag : InPipeFragment i)
    (compile : Prog → GFile) (hcompile : CompileSim compile A) (hdce : DceFileSim (compile A))
    (fuel : Nat) (eager : Bool) (hdef : Definite (run fuel i.prog "main" eager)) :
    (∃ m, runGo m (compile A) "main" eager = run fuel i.prog "main" eager) ∧
    (∃ m, runGo m (Dce.eliminateDeadVars (compile A)) "main" eager = run fuel i.prog "main" eager) :=
  back_half (fun f e h => pipeline_preserves i A hA hfrag f e h) compile hcompile hdce fuel eager hdef

/-- with `go/compile.rs` alone as hypothesis: the emitted file BEFORE dead-code elimination -/
theorem end_to_end_before_dce (i : PipeIn) (A : Prog) (hA : pipeline i = some A) (hfrag : InPipeFragment i)
    (compile : Prog → Goml.Go.GFile) (hcompile : CompileSim compile A)
    (fuel : Nat) (eager : Bool) (hdef : Definite (run fuel i.prog "main" eager)) :
    ∃ m, Goml.Go.runGo m (compile A) "main" eager = run fuel i.prog "main" eager :=
  (reproduces_iff.1 (fun f e h => pipeline_preserves i A hA hfrag f e h)).trans hcompile fuel eager hdef

/-! ## Core → Go without the `hcompile` hypothesis (back end: `GoCompileProps.compile_preserves_run`) -/

/-- the fragment of `core_to_go_preserves`: `InPipeFragment` ∧ the back end's `fragGo` (`main` and
    everything it calls in `GoFrag.closedOK`, the hypothesis of `GoCompileProps.compile_preserves_run`,
    evaluated on the composite's own annotated ANF) — ONE decidable predicate (`Model/Pipeline.lean`) -/
def InE2EFragment (i : E2EIn) : Prop := inE2EFragment i = true

instance (i : E2EIn) : Decidable (InE2EFragment i) := by
  unfold InE2EFragment; infer_instance

/-- **core_to_go_preserves.**  `compileGoPre i` is the whole model pipeline up to (not including)
    dead-code elimination: `mono`, `lift`, `anf`, re-annotation, `go_file` without its last step.
    For every Core program in `InE2EFragment`, every definite `Sem` run of `main` (normal end or
    panic; stdout, status, extern events) is the `Go.Sem` outcome of the compiled file for some fuel,
    under either `go` schedule.  No hypothesis besides the decidable fragment: the `CompileSim`
    parameter of `end_to_end_before_dce` is discharged by `compile_preserves_run`. -/
theorem core_to_go_preserves (i : E2EIn) (G : Goml.Go.GFile) (hG : compileGoPre i = some G) (hfrag : InE2EFragment i)
    (fuel : Nat) (eager : Bool) (hdef : Definite (run fuel i.pipe.prog "main" eager)) :
    ∃ m, Goml.Go.runGo m G "main" eager = run fuel i.pipe.prog "main" eager := by
  unfold InE2EFragment inE2EFragment at hfrag
  simp only [Bool.and_eq_true] at hfrag
  obtain ⟨hpipe, hback⟩ := hfrag
  cases hb : backStages i with
  | none => rw [hb] at hback; cases hback
  | some b =>
    rw [hb] at hback
    simp only at hback
    have hA : pipeline i.pipe = some b.mid.anf := by simp [pipeline, (backStages_spec hb).mid]
    have hGb : G = b.pre := by
      simp only [compileGoPre, hb, Option.map_some, Option.some.injEq] at hG
      exact hG.symm
    subst hGb
    exact end_to_end_before_dce i.pipe b.mid.anf hA hpipe (fun _ => b.pre) (compileSim_of_fragGo hb hback)
      fuel eager hdef

/-! ## Core → emitted Go, no hypotheses (DCE: `Dce.dce_file_preserves`) -/

/-- the fragment of `core_to_emitted_go_preserves`: `InE2EFragment` ∧ the compiled file satisfies
    `Dce.fileDceOK` — ONE decidable predicate (`Model/Pipeline.lean`), evaluated on every real
    program by the tie -/
def InEmitFragment (i : E2EIn) : Prop := inEmitFragment i = true

instance (i : E2EIn) : Decidable (InEmitFragment i) := by
  unfold InEmitFragment; infer_instance

/-- **core_to_emitted_go_preserves.**  `compileGo i` is the WHOLE model pipeline: `mono`, `lift`,
    `anf`, re-annotation, `go_file` including `eliminate_dead_vars` — the file `go_pprint` prints.
    For every Core program in `InEmitFragment`, every definite `Sem` run of `main` (normal end or
    panic; stdout, status, extern events) is the `Go.Sem` outcome of the emitted file for some fuel,
    under either `go` schedule.  No hypotheses other than the decidable fragment: both parameters of
    `end_to_end_partial` are discharged (`hcompile` by `GoCompileProps.compile_preserves_run`,
    `hdce` by `Dce.dce_file_preserves`). -/
theorem core_to_emitted_go_preserves (i : E2EIn) (G : Goml.Go.GFile) (hG : compileGo i = some G)
    (hfrag : InEmitFragment i) (fuel : Nat) (eager : Bool) (hdef : Definite (run fuel i.pipe.prog "main" eager)) :
    ∃ m, Goml.Go.runGo m G "main" eager = run fuel i.pipe.prog "main" eager := by
  unfold InEmitFragment inEmitFragment at hfrag
  simp only [Bool.and_eq_true] at hfrag
  obtain ⟨he2e, hd⟩ := hfrag
  cases hb : backStages i with
  | none => rw [hb] at hd; cases hd
  | some b =>
    rw [hb] at hd
    simp only [fragDce] at hd
    have hGe : G = Dce.eliminateDeadVars b.pre := by
      simp only [compileGo, hb, Option.map_some, Option.some.injEq] at hG
      rw [← hG, (backStages_spec hb).emitted]
    subst hGe
    obtain ⟨m1, e1⟩ := core_to_go_preserves i b.pre (by simp [compileGoPre, hb]) he2e fuel eager hdef
    obtain ⟨m2, e2⟩ := dceFileSim_of_ok b.pre hd m1 eager (by rw [e1]; exact hdef)
    exact ⟨m2, by rw [e2, e1]⟩

/-! ## non-vacuity: four real Core dumps (closure + generic + match; `Lemmas/PipeExamples.lean`) -/
section Examples
open Examples

/-- the three observable components of an outcome -/
private def obs (o : Outcome) : String × String × List String := (o.out, o.status, o.externs)

/-- inside `InE2EFragment` the back half of the pipeline succeeds -/
theorem backStages_of_frag {i : E2EIn} (h : InE2EFragment i) : ∃ b, backStages i = some b := by
  unfold InE2EFragment inE2EFragment at h
  cases hb : backStages i with
  | none => rw [hb] at h; simp at h
  | some b => exact ⟨b, rfl⟩

/-- the whole fragment check of `e2e4` (the pipeline, the back end's closed set, the DCE contract), evaluated once -/
theorem e2e4_emit : InEmitFragment e2e4 := by
  simp only [InEmitFragment, inEmitFragment, inE2EFragment, fragGo, fragGoPlain, fragGoDyn, GoFrag.goodFns_eq, GoFrag.goodFnsD_eq,
    GoFrag.closedOK_eq, GoFrag.closedOKD_eq]
  decide +kernel
theorem e2e4_e2e : InE2EFragment e2e4 := by
  have h := e2e4_emit
  unfold InEmitFragment inEmitFragment at h
  exact (Bool.and_eq_true _ _ ▸ h).1

/-- `corpus/C01pipe/closure-generic-match.gom`: a closure capturing a local, a generic function
    at two instances, a generic enum (phase 2 of `mono`), a `match`.  What the examples below say of it, in one
    statement, so that the pipeline is run once for all of them (likewise `ex2_run`, `ex3_run`) -/
theorem ex1_run : InPipeFragment ex1 ∧
    ((pipeline ex1).map fun A => A.fns.map (·.name)) =
      some ["unwrap_or", "main", "pick__T_int32", "pick__T_string", "inherent#closure_env_add_0#closure_env_add_0#apply"] ∧
    obs (run 100 ex1.prog) = ("15\nb\n", "ok", []) ∧
    (pipeline ex1).map (fun A => obs (run 200 A)) = some ("15\nb\n", "ok", []) := by decide +kernel
example : InPipeFragment ex1 := ex1_run.1
example : ((pipeline ex1).map fun A => A.fns.map (·.name)) =
    some ["unwrap_or", "main", "pick__T_int32", "pick__T_string", "inherent#closure_env_add_0#closure_env_add_0#apply"] :=
  ex1_run.2.1
example : obs (run 100 ex1.prog) = ("15\nb\n", "ok", []) := ex1_run.2.2.1
example : (pipeline ex1).map (fun A => obs (run 200 A)) = some ("15\nb\n", "ok", []) := ex1_run.2.2.2

/-- `corpus/C01pipe/closure-ref-loop-panic.gom`: a closure sharing a `Ref` cell with a loop; the
    run prints, then divides by zero — the failure and what was printed before it are reproduced -/
theorem ex2_run : InPipeFragment ex2 ∧ obs (run 200 ex2.prog) = ("3\n", "panic:integer divide by zero", []) ∧
    (pipeline ex2).map (fun A => obs (run 400 A)) = some ("3\n", "panic:integer divide by zero", []) := by decide +kernel
example : InPipeFragment ex2 := ex2_run.1
example : obs (run 200 ex2.prog) = ("3\n", "panic:integer divide by zero", []) := ex2_run.2.1
example : (pipeline ex2).map (fun A => obs (run 400 A)) = some ("3\n", "panic:integer divide by zero", []) :=
  ex2_run.2.2

/-- `corpus/C01pipe/generic-struct-closure-tuple.gom`: a generic struct swapped by a generic
    function, a closure that travels through a tuple pattern, a `match` on an enum with payload -/
theorem ex3_run : InPipeFragment ex3 ∧ obs (run 200 ex3.prog) = ("box43\n", "ok", []) ∧
    (pipeline ex3).map (fun A => obs (run 400 A)) = some ("box43\n", "ok", []) := by decide +kernel
example : InPipeFragment ex3 := ex3_run.1
example : obs (run 200 ex3.prog) = ("box43\n", "ok", []) := ex3_run.2.1
example : (pipeline ex3).map (fun A => obs (run 400 A)) = some ("box43\n", "ok", []) := ex3_run.2.2

/-- `corpus/C01pipe/e2e-closure-generic-struct-panic.gom` (real Core dump + real `GlobalGoEnv` dump):
    a closure capturing the result of a generic call, a struct, printing, then a division by zero —
    inside the END-TO-END fragment: `core_to_go_preserves` speaks about it -/
example : InE2EFragment e2e4 := e2e4_e2e
example : obs (run 200 e2e4.pipe.prog) = ("b15\n", "panic:integer divide by zero", []) := by decide +kernel
example : ∃ G, compileGoPre e2e4 = some G ∧ ∃ m, Goml.Go.runGo m G "main" true = run 200 e2e4.pipe.prog := by
  obtain ⟨b, hb⟩ := backStages_of_frag e2e4_e2e
  have h : compileGoPre e2e4 = some b.pre := by rw [compileGoPre, hb]; rfl
  exact ⟨_, h, core_to_go_preserves e2e4 _ h e2e4_e2e 200 true (Or.inr ⟨"integer divide by zero", by decide +kernel⟩)⟩
/-- the same program is inside the fragment of `core_to_emitted_go_preserves` (the compiled file
    satisfies the DCE contract); the compiled `gomlmodel` runs the emitted file to `b15`, then the
    division-by-zero panic, like the Core program (the kernel does not: `Go.Sem` on a whole file with
    its runtime functions is too large a term for `decide`) -/
example : InEmitFragment e2e4 := e2e4_emit
example : ∃ G, compileGo e2e4 = some G ∧ ∃ m, Goml.Go.runGo m G "main" true = run 200 e2e4.pipe.prog := by
  obtain ⟨b, hb⟩ := backStages_of_frag e2e4_e2e
  have h : compileGo e2e4 = some b.emitted := by rw [compileGo, hb]; rfl
  exact ⟨_, h, core_to_emitted_go_preserves e2e4 _ h e2e4_emit 200 true (Or.inr ⟨"integer divide by zero", by decide +kernel⟩)⟩
/-- the fragment is a real restriction: example 1 (taken with the default, empty `goenv`) is outside -/
example : ¬ InE2EFragment { pipe := ex1 } := by
  have h : inPipeFragment ex1 = true := ex1_run.1
  simp only [InE2EFragment, inE2EFragment, h, Bool.true_and, fragGo, fragGoPlain, fragGoDyn, GoFrag.goodFns_eq, GoFrag.goodFnsD_eq,
    GoFrag.closedOK_eq, GoFrag.closedOKD_eq]
  decide +kernel

/-- the theorem applied: the ANF program of example 1 prints what its Core program prints -/
example : ∃ A, pipeline ex1 = some A ∧ ∃ m0, ∀ m, m0 ≤ m → run m A = run 100 ex1.prog := by
  cases h : pipeline ex1 with
  | none => have hnames := ex1_run.2.1; rw [h] at hnames; cases hnames
  | some A =>
    exact ⟨A, rfl, pipeline_preserves ex1 A h ex1_run.1 100 true (Or.inl (congrArg (·.2.1) ex1_run.2.2.1))⟩

end Examples

end Goml.Pipeline
