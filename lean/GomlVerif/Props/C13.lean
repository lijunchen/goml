import GomlVerif.Lemmas.Discover
/-!
# C13 — compilation is deterministic: no dependence on how a set is enumerated

The only inputs of `discover` / `topoSort` / `assignIds` / `plan` that are not pure data are the
orders in which sets of package names are enumerated: `enum p` (the import set of package `p`:
the sequence of insertions into the set, or the order a `HashSet` yields) and `keys` (the keys of
the `packages` map).  "Deterministic" = the result is the same for every pair of enumerations of
the same sets.

* Under iteration in hash order (`hashIter`: `imports: HashSet`, taken as it comes) this is false:
  `hash_discovery_order_varies`, `hash_reported_error_varies` are concrete counter-examples; what
  does hold is `hash_only_link_order_varies` (same package set, same ids, same type-check order).
* Under iteration in key order (`btreeIter`: `imports: BTreeSet`, which is what `packages.rs` has;
  `imports_ordered` checks the regenerated `Gen/PackageIds.importsOrdered`) `plan_enum_invariant`
  holds for all disks and all pairs of enumerations.
-/
namespace Goml.Graph

/-- `PackageUnit.imports` of the compiler under test is an ordered set (regenerated from
    `packages.rs` on every run; `false` — a `HashSet` — makes this theorem, hence the check, fail) -/
theorem imports_ordered : importsOrdered = true := by decide +kernel

/-! ## key-order iteration: invariance -/

/-- **discovery does not depend on the enumeration of any import set**: same discovered packages
    in the same order, or the same error -/
theorem discover_enum_invariant (disk : Disk) (e₁ e₂ : Pkg → List Pkg)
    (h : ∀ p, SameSet (e₁ p) (e₂ p)) :
    discover disk (btreeIter e₁) = discover disk (btreeIter e₂) := by
  rw [btreeIter_ext h]

/-- **the dependency order depends only on the sets**: two graphs whose key sets and import sets
    are enumerated differently get the same order or the same error (under either discipline:
    `topo_sort_packages` sorts both) -/
theorem topo_enum_invariant (g₁ g₂ : Graph) (hn : SameSet g₁.names g₂.names)
    (hi : ∀ p, SameSet (g₁.imports p) (g₂.imports p)) : topoSort g₁ = topoSort g₂ := by
  have h1 : g₁.has = g₂.has := by
    funext n
    have := hn n
    rw [← has_iff, ← has_iff] at this
    exact Bool.eq_iff_iff.2 this
  have h2 : g₁.deps = g₂.deps := funext fun p => sorted_ext (hi p)
  have h3 : sorted g₁.names = sorted g₂.names := sorted_ext hn
  unfold topoSort
  rw [h1, h2, h3]

/-- **package ids depend only on the set of package names** -/
theorem ids_enum_invariant (n₁ n₂ : List Pkg) (h : SameSet n₁ n₂) : assignIds n₁ = assignIds n₂ := by
  unfold assignIds
  rw [sorted_ext h]

theorem plan_ok_iff (disk : Disk) (iter : Pkg → List Pkg) (keys : List Pkg → List Pkg) (p : Plan) :
    plan disk iter keys = .ok p ↔
      ∃ order topo, discover disk iter = .ok order ∧ topoSort ⟨keys order, iter⟩ = .ok topo ∧
        p = ⟨assignIds (keys order), topo, order⟩ := by
  unfold plan
  constructor
  · intro h
    split at h
    · cases h
    · rename_i order hd
      simp only at h
      split at h
      · cases h
      · rename_i topo ht
        cases h
        exact ⟨order, topo, hd, ht, rfl⟩
  · rintro ⟨order, topo, hd, ht, rfl⟩
    simp only [hd, ht]

/-- **ids, type-check order and concatenation order are the same for every pair of enumerations**
    of the import sets and of the package map's keys -/
theorem plan_enum_invariant (disk : Disk) (e₁ e₂ : Pkg → List Pkg) (k₁ k₂ : List Pkg → List Pkg)
    (he : ∀ p, SameSet (e₁ p) (e₂ p)) (hk : ∀ l, SameSet (k₁ l) (k₂ l)) :
    plan disk (btreeIter e₁) k₁ = plan disk (btreeIter e₂) k₂ := by
  unfold plan
  rw [btreeIter_ext he]
  cases discover disk (btreeIter e₂) with
  | error e => rfl
  | ok order =>
    simp only
    rw [topo_enum_invariant ⟨k₁ order, btreeIter e₂⟩ ⟨k₂ order, btreeIter e₂⟩ (hk order) (fun _ _ => Iff.rfl),
      ids_enum_invariant (k₁ order) (k₂ order) (hk order)]

/-- the concatenated toplevels (and with them everything computed from them) are the same -/
theorem link_enum_invariant {α : Type} (items : Pkg → List α) (disk : Disk) (e₁ e₂ : Pkg → List Pkg)
    (k₁ k₂ : List Pkg → List Pkg) (he : ∀ p, SameSet (e₁ p) (e₂ p)) (hk : ∀ l, SameSet (k₁ l) (k₂ l))
    (p₁ p₂ : Plan) (h₁ : plan disk (btreeIter e₁) k₁ = .ok p₁) (h₂ : plan disk (btreeIter e₂) k₂ = .ok p₂) :
    concat items p₁.linkOrder = concat items p₂.linkOrder := by
  rw [plan_enum_invariant disk e₁ e₂ k₁ k₂ he hk, h₂] at h₁
  cases h₁
  rfl

/-- **ids are injective**: no two entries of the id table share an id -/
theorem ids_injective (names : List Pkg) : ((assignIds names).map (·.2)).Nodup := by
  unfold assignIds
  simp only [List.map_append, List.map_cons, List.map_nil]
  rw [List.nodup_append]
  refine ⟨by decide, number_snd_nodup _ _, ?_⟩
  intro a ha b hb
  obtain ⟨x, hx, hs⟩ := List.mem_map.1 hb
  have := number_snd_ge _ _ x hx
  have h2 : firstFreeId = 2 := by decide +kernel
  have h0 : builtinId = 0 := by decide +kernel
  have h1 : mainId = 1 := by decide +kernel
  simp only [List.mem_cons, List.not_mem_nil, or_false] at ha
  omega

/-! ## hash-order iteration: what varies and what does not -/

/-- corpus project003: `Main` imports `Math`, `Stats`; `Stats` imports `Math` -/
def project003 : Disk :=
  [("Main", .unit "Main" ["Math", "Stats"]), ("Math", .unit "Math" []), ("Stats", .unit "Stats" ["Math"])]

def enumA : Pkg → List Pkg := fun p => if p = "Main" then ["Math", "Stats"] else project003.importsOf p
def enumB : Pkg → List Pkg := fun p => if p = "Main" then ["Stats", "Math"] else project003.importsOf p

/-- **counter-example**: with a `HashSet` the discovery order, hence the order of the emitted Go
    functions, depends on the enumeration (goml before its commit 27b851c) -/
theorem hash_discovery_order_varies :
    (∀ p, SameSet (enumA p) (enumB p)) ∧
    discover project003 (hashIter enumA) = .ok ["Main", "Stats", "Math"] ∧
    discover project003 (hashIter enumB) = .ok ["Main", "Math", "Stats"] := by
  refine ⟨?_, by decide, by decide⟩
  intro p x
  unfold enumA enumB
  split
  · simp only [List.mem_cons, List.not_mem_nil, or_false]; exact Or.comm
  · exact Iff.rfl

/-- two broken imports: which one is reported depends on the enumeration -/
def twoBroken : Disk := [("Main", .unit "Main" ["Aa", "Bb"]), ("Aa", .noFiles), ("Bb", .unit "Cc" [])]

theorem hash_reported_error_varies :
    discover twoBroken (hashIter fun p => if p = "Main" then ["Aa", "Bb"] else []) = .error (.declMismatch "Bb" "Cc") ∧
    discover twoBroken (hashIter fun p => if p = "Main" then ["Bb", "Aa"] else []) = .error (.load "Aa" .noFiles) := by
  decide +kernel

/-- the same two inputs iterated in key order -/
example : discover project003 (btreeIter enumA) = .ok ["Main", "Stats", "Math"] ∧
    discover project003 (btreeIter enumB) = .ok ["Main", "Stats", "Math"] := by decide +kernel

/-- **a successful discovery returns exactly the packages reachable from the root, each once —
    whatever the enumeration** -/
theorem discover_mem_iff_reach {disk : Disk} {iter : Pkg → List Pkg} (hi : IterOk disk iter)
    {order : List Pkg} (h : discover disk iter = .ok order) :
    order.Nodup ∧ ∀ p, p ∈ order ↔ Reach disk p := by
  have inv := discover_inv hi h
  refine ⟨inv.nodup, fun p => ⟨inv.reachO p, ?_⟩⟩
  intro r
  induction r with
  | root => exact inv.root
  | @step a b _ e ih =>
    obtain ⟨imps', hl', hb⟩ := e
    have hb' : b ∈ iter a := ((hi a).2 b).2 (by rwa [importsOf_unit hl'])
    simpa using inv.closed a ih b hb'

/-- **in hash order only the concatenation order can vary**: for any two enumerations under which
    the front end succeeds, the package set, the ids and the type-check order (hence the order of
    diagnostics across packages) agree; the concatenation orders are permutations of each other -/
theorem hash_only_link_order_varies {disk : Disk} {i₁ i₂ : Pkg → List Pkg} {k₁ k₂ : List Pkg → List Pkg}
    (h₁ : IterOk disk i₁) (h₂ : IterOk disk i₂) (hk₁ : ∀ l, SameSet (k₁ l) l) (hk₂ : ∀ l, SameSet (k₂ l) l)
    {p₁ p₂ : Plan} (r₁ : plan disk i₁ k₁ = .ok p₁) (r₂ : plan disk i₂ k₂ = .ok p₂) :
    p₁.ids = p₂.ids ∧ p₁.checkOrder = p₂.checkOrder ∧ p₁.linkOrder.Perm p₂.linkOrder := by
  obtain ⟨o₁, t₁, d₁, ht₁, rfl⟩ := (plan_ok_iff ..).1 r₁
  obtain ⟨o₂, t₂, d₂, ht₂, rfl⟩ := (plan_ok_iff ..).1 r₂
  obtain ⟨n₁, m₁⟩ := discover_mem_iff_reach h₁ d₁
  obtain ⟨n₂, m₂⟩ := discover_mem_iff_reach h₂ d₂
  have same : SameSet o₁ o₂ := fun x => (m₁ x).trans (m₂ x).symm
  have sk : SameSet (k₁ o₁) (k₂ o₂) := fun x => ((hk₁ o₁ x).trans (same x)).trans (hk₂ o₂ x).symm
  have ht := topo_enum_invariant ⟨k₁ o₁, i₁⟩ ⟨k₂ o₂, i₂⟩ sk
    (fun p x => ((h₁ p).2 x).trans ((h₂ p).2 x).symm)
  rw [ht₁, ht₂] at ht
  cases ht
  exact ⟨ids_enum_invariant _ _ sk, rfl, (List.perm_ext_iff_of_nodup n₁ n₂).2 same⟩

/-! ## the model's recursion budget -/

/-- **`Err.fuel` is never the outcome of discovery** (for any enumeration without repetitions) -/
theorem discover_fuel_suffices {disk : Disk} {iter : Pkg → List Pkg} (hi : IterOk disk iter) :
    discover disk iter ≠ .error .fuel := by
  unfold discover
  cases hl : disk.load rootName with
  | unit decl imps =>
    simp only
    by_cases hd : decl = rootName
    · rw [if_pos hd]
      rw [hd] at hl
      refine discoverLoop_fuel hi _ _ _ ?_
      have h1 := load_budget hi hl (order := []) (by simp)
      have h3 := pending_nil disk
      simp only [List.nil_append] at h1
      simp only [List.length_reverse]
      omega
    · rw [if_neg hd]; simp
  | _ => simp

/-! ## non-vacuity: a diamond with a back reference to an already loaded package -/

def diamond : Disk :=
  [("Main", .unit "Main" ["Bb", "Aa", "Bb"]), ("Aa", .unit "Aa" ["Cc"]), ("Bb", .unit "Bb" ["Cc", "Aa"]),
   ("Cc", .unit "Cc" []), ("Zq", .unit "Zq" ["Main"])]

example : plan diamond (btreeIter diamond.importsOf) id =
    .ok { ids := [("Builtin", 0), ("Main", 1), ("Aa", 2), ("Bb", 3), ("Cc", 4)],
          checkOrder := ["Cc", "Aa", "Bb", "Main"], linkOrder := ["Main", "Bb", "Cc", "Aa"] } := by
  decide +kernel

example : IterOk diamond (btreeIter diamond.importsOf) := by
  intro p
  refine ⟨nodup_sorted _, fun x => mem_sorted⟩

/-- a cycle is reported with its path -/
example : plan [("Main", .unit "Main" ["Aa"]), ("Aa", .unit "Aa" ["Bb"]), ("Bb", .unit "Bb" ["Aa"])]
    (btreeIter fun p => if p = "Main" then ["Aa"] else if p = "Aa" then ["Bb"] else ["Aa"]) id =
    .error (.cycle ["Aa", "Bb", "Aa"]) := by decide +kernel

example : topoSort ⟨["Main", "Aa"], fun p => if p = "Main" then ["Aa", "Zz"] else []⟩ =
    .error (.missing "Main" "Zz") := by decide +kernel

end Goml.Graph
