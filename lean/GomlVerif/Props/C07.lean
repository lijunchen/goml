import GomlVerif.Lemmas.MonoSem
import GomlVerif.Lemmas.MonoKey
import GomlVerif.Lemmas.MonoClosed
/-!
# C07 — generic code behaves identically at every instantiation and is fully specialised

`Goml.Mono.*` (Model/Mono.lean) is the model of `mono.rs`, tied to the Rust by the correspondence run of
`./check C07` (model on the real Core dump = real Mono dump).  This file holds the property theorems, and the
programs of the examples with what is evaluated about them (`linkedC`, `exProg_orig`, `grow_requests`,
`main_requests`, `tau_*`); the general lemmas live in `Lemmas/Mono*.lean`.
-/
namespace Goml.Mono
open Goml Goml.Closed Goml.Sem

/-! ## P1 — `unify(template, actual)` computes a substitution that instantiates the template -/

/-- If `unify` succeeds, the substitution it returns (and every extension of it) maps the template
to the actual type, and it only adds bindings.  Covers every constructor `mono::unify` handles
(primitives, tuples, enums, structs, `dyn`, applications, arrays, `Vec`, `Ref`, functions, parameters). -/
theorem unify_sound (t a : Ty) (σ σ' : Subst) (h : unify t a σ = some σ') :
    Extends σ σ' ∧ ∀ σ'', Extends σ' σ'' → substTy σ'' t = a :=
  have hu := unify_spec t a σ σ' h
  ⟨hu.ext, hu.inst⟩

/-- the form used at a call site: starting from the empty substitution -/
theorem unify_sound_call (t a : Ty) (σ : Subst) (h : unify t a [] = some σ) : substTy σ t = a :=
  (unify_sound t a [] σ h).2 σ (Extends.refl σ)

/-- `unify` binds every type parameter of the template -/
theorem unify_binds (t a : Ty) (σ σ' : Subst) (h : unify t a σ = some σ') :
    ∀ x ∈ fvT t, (lookup σ' x).isSome = true :=
  (unify_spec t a σ σ' h).binds

/-- the structural equality used for "conflicting bindings" is equality -/
theorem tyBeq_eq (a b : Ty) : tyBeq a b = true ↔ a = b := tyBeq_iff a b

-- non-vacuity and the failure cases
example : unify (.func [.vec (.param "T"), .dyn "Show"] (.param "T")) (.func [.vec (.int 32 true), .dyn "Show"] (.int 32 true)) []
    = some [("T", .int 32 true)] := by rfl
example : unify (.tuple [.param "T", .param "T"]) (.tuple [.int 32 true, .bool]) [] = none := by rfl   -- conflicting bindings
example : unify (.array 2 (.param "T")) (.array 3 .bool) [] = none := by rfl                           -- array length mismatch
example : unify (.enum "A") (.enum "B") [] = none := by rfl                                            -- constructor mismatch
example : unify (.dyn "Show") (.dyn "Debug") [] = none := by rfl                                       -- trait object mismatch
example : unify (.tvar 0) (.tvar 0) [] = none := by rfl                                                -- inference variables are not unified
example : unify (.tuple [.param "A"]) (.tuple [.bool, .bool]) [] = none := by rfl                      -- tuple length mismatch

/-! ## P2 — substitution by a closed, covering substitution leaves no type parameter -/

/-- `fvT t ⊆ dom σ` and every value of `σ` parameter-free ⇒ `substTy σ t` contains no `TParam` -/
theorem subst_closed (σ : Subst) (t : Ty) (hd : ∀ x ∈ fvT t, (lookup σ x).isSome = true) (hc : ClosedSubst σ) :
    noParam (substTy σ t) = true :=
  subst_closed_aux σ hc t hd

example : noParam (substTy [("T", .int 32 true), ("U", .vec .bool)] (.func [.param "T"] (.app (.enum "Opt") [.param "U"]))) = true := by
  decide
-- not covered: the parameter survives
example : noParam (substTy [("T", .int 32 true)] (.vec (.param "U"))) = false := by decide

/-! ## P3 — every instance is generated exactly once; work list and instance table stay in step -/

/-- `LoopInv` holds when the work list is seeded and every iteration (`step`) preserves it.  Its part `Inv` is the
bijection: the instance keys `(function, SubstKey)` are pairwise distinct, `queued` is exactly the set of instance
keys, and the names of the functions already emitted followed by the names waiting in the work list are exactly
the instance names, in order. -/
theorem worklist_bijection (F : List Fn) :
    LoopInv F (seed F) ∧ ∀ c c', LoopInv F c → step F c = some c' → LoopInv F c' :=
  ⟨seed_inv F, fun _ _ h hs => step_inv h hs⟩

/-- When `mono` returns: nothing is pending, the instance keys are pairwise distinct, and the emitted
functions are — one for one and in order — the instances: at most one output function per
`(original function, SubstKey)`, and every instance that was ever requested has been emitted. -/
theorem instances_unique (fns : List Fn) (fuel : Nat) (c : Ctx) (h : phase1 fuel fns = some c) :
    c.work = [] ∧ (c.instances.map instKey).Nodup ∧ c.queued = c.instances.map instKey ∧
    c.out.map (·.name) = c.instances.map (·.spec) := by
  obtain ⟨hl, hw⟩ := loop_inv fuel _ c (seed_inv (origFns fns)) h
  refine ⟨hw, hl.inv.nodup, hl.inv.queued, ?_⟩
  have := hl.inv.specs
  rw [hw] at this
  simpa using this.symm

/-- as long as the instance table names every instance by `spec_name_for` of its key (`InstNamed`), the emitted expression
and the requested instances do not depend on its state: `mono_expr` is the pure `monoE` plus a fold of `ensure_instance`
over its requests -/
theorem monoExpr_is_pure (F : List Fn) (σ : Subst) (e : Expr) (c : Ctx) (h : InstNamed c) :
    monoExpr F σ e c = ((monoE F σ e).1, applyEffs c (monoE F σ e).2) :=
  monoExpr_pure F σ e c h

/-- the name of an instance is a function of its key (so "same key ⇒ same name" needs no table) -/
theorem instance_name_of_key (n : String) (s s' : Subst) (h : key s = key s') : specName n s = specName n s' :=
  specName_key h

/-! ### one instance, however its bindings were found

Two requests are the same instance when their `SubstKey`s are equal.  A request builds its substitution by
unifying the parts of the callee's signature with the use site, so the ORDER of the entries depends on the
route (a call unifies parameters then result; a function value could do it the other way round; nested
requests see the parameters in the order of the enclosing signature).  The key must not depend on it. -/

/-- the model's `key` is `SubstKey::new` of the source (`sourceKey` is driven by the regenerated `Gen.substKeyOrder`: this
stops being `rfl` when mono.rs stops sorting the entries) -/
theorem key_is_source_key : key = sourceKey := rfl

/-- build guard, not a statement about the model: the two tables regenerated from `mono.rs` on every run say that both
request routes of the source (`ECall` in `mono_expr`, `specialize_fn_value`) unify the parameters before the result, and a
changed order stops the build.  The model's `resolveCall` / `specializeValue` are written in that order; they do not read
the tables. -/
theorem request_orders_are_source_orders :
    Gen.callUnifyOrder = [.params, .ret] ∧ Gen.valueUnifyOrder = [.params, .ret] := by decide

/-- `SubstKey::new` of the source is insensitive to the order in which the bindings were inserted: two
permutations of one set of bindings (distinct parameter names) have the same key -/
theorem key_order_irrelevant (σ σ' : Subst) (hp : σ.Perm σ') (hn : (σ.map (·.1)).Nodup) :
    sourceKey σ = sourceKey σ' := by
  rw [← key_is_source_key]; exact key_perm hp hn

/-- …hence every instance is requested ONCE whatever the routes: after `ensure_instance(n, σ)`, a request for
the same bindings found in another order returns the same name and changes nothing — no second entry in the
instance table, nothing queued, no work item (with `instances_unique`: one emitted function) -/
theorem same_instance_requested_once (c : Ctx) (n : String) (σ σ' : Subst) (hp : σ.Perm σ')
    (hn : (σ.map (·.1)).Nodup) : ensureInstance (ensureInstance c n σ).2 n σ' = ensureInstance c n σ :=
  ensureInstance_again c n σ σ' (key_perm hp hn)

-- non-vacuity: `fn swap[A, B](a: A, b: B) -> (B, A)` at (int32, string); parameters first, or the result first
example : (unifyList [.param "A", .param "B"] [.int 32 true, .string] []).bind
    (unify (.tuple [.param "B", .param "A"]) (.tuple [.string, .int 32 true])) = some [("A", .int 32 true), ("B", .string)] := by rfl
example : (unify (.tuple [.param "B", .param "A"]) (.tuple [.string, .int 32 true]) []).bind
    (unifyList [.param "A", .param "B"] [.int 32 true, .string]) = some [("B", .string), ("A", .int 32 true)] := by rfl
example : key [("A", .int 32 true), ("B", .string)] = key [("B", .string), ("A", .int 32 true)] :=
  key_perm (List.Perm.swap _ _ _) (by decide)
example : (ensureInstance (ensureInstance {} "swap" [("A", .int 32 true), ("B", .string)]).2 "swap" [("B", .string), ("A", .int 32 true)]).2.instances.length = 1 := by
  rw [same_instance_requested_once _ _ _ _ (List.Perm.swap _ _ _) (by decide)]; rfl

/-! ## P4 — no residue of type parameters -/

/-- What `mono_expr` emits for an expression all of whose annotations become parameter-free under
`σ` contains no type parameter (also in the function types it synthesises for resolved trait calls). -/
theorem monoExpr_no_param (F : List Fn) (σ : Subst) (e : Expr) (c : Ctx)
    (h : allTys (fun t => noParam (substTy σ t)) e = true) : allTys noParam (monoExpr F σ e c).1 = true :=
  monoExpr_closed F σ e c h

/-- `no_residue`, partial.  Every function `mono` emits is the specialisation `specialise F f σ _` of a
function of the program at a substitution whose values contain no type parameter (the guard
`call_subst.values().any(has_tparam)`), and whenever `σ` binds every parameter occurring in `f`
(`Covers σ f`) the emitted function contains no `TParam` at all.
Missing for the full statement: that `Covers` holds for every reachable instance.  It does when every
annotation of `f` only mentions parameters of `f`'s signature and the call that requested the instance
passes as many arguments as `f` has parameters (`call_covers` below), and it does NOT for a type
parameter that occurs only in the body — the Rust then emits the parameter (known finding). -/
theorem no_residue_partial (fns : List Fn) (fuel : Nat) (c : Ctx) (h : phase1 fuel fns = some c) :
    ∀ g ∈ c.out, ∃ f σ c0, f ∈ origFns fns ∧ ClosedSubst σ ∧ g = specialise (origFns fns) f σ c0 ∧
      (Covers σ f → fnAllTys noParam g = true) := by
  have := (loop_specInv fuel _ c (seed_specInv (origFns fns)) h).out
  intro g hg
  obtain ⟨f, σ, c0, hf, hc, rfl⟩ := this g hg
  exact ⟨f, σ, c0, hf, hc, rfl, fun hv => specialise_closed _ f σ c0 hc hv⟩

/-- the substitution derived at a call that passes at least as many arguments as the callee has
parameters binds every parameter of the callee's signature -/
theorem call_covers (params args : List Ty) (ret nty : Ty) (s1 cs : Subst)
    (h1 : unifyList params args [] = some s1) (h2 : unify ret nty s1 = some cs) (hl : params.length ≤ args.length) :
    ∀ x ∈ fvTs params ++ fvT ret, (lookup cs x).isSome = true :=
  have hr := unify_spec ret nty s1 cs h2
  binds_append hr.ext ((unifyList_spec params args [] s1 h1).binds hl) hr.binds

/-! ## P5 — termination -/

/-- `mono_terminates`, partial: if the instances reachable from the seeds lie in a universe `U` that is
closed under the requests of its members and has finitely many keys (`S`), the work list empties
within `S.length` iterations.  Missing for the full statement ("for every accepted program"): such a
universe does not exist for polymorphic recursion (`polyrec_no_finite_universe`), and the Rust loops for ever there. -/
theorem mono_terminates_partial (fns : List Fn) (U : String → Subst → Prop) (S : List (String × List (String × Ty)))
    (hseed : ∀ f ∈ origFns fns, fnIsGeneric f = false → U f.name [])
    (hclosed : ∀ f ∈ origFns fns, ∀ σ, U f.name σ → ∀ r ∈ requests (origFns fns) f σ, U r.1 r.2)
    (hfin : ∀ n σ, U n σ → (n, key σ) ∈ S) :
    (phase1 S.length fns).isSome = true := by
  unfold phase1
  exact loop_terminates (origFns fns) U S hclosed hfin S.length _ (seed_inv _) (seed_inU _ U S hseed hfin) (by omega)

/-- a decidable sufficient condition for termination: an explicit list `L` of instances that contains
the seeds and is closed under requests (both checked by evaluation) -/
theorem mono_terminates_of_closed_list (fns : List Fn) (L : List (String × Subst))
    (hs : seedCheck (origFns fns) L = true) (hc : closedCheck (origFns fns) L = true) :
    (phase1 L.length fns).isSome = true := by
  have := mono_terminates_partial fns (fun n σ => (n, σ) ∈ L) (L.map fun p => (p.1, key p.2))
    (seedCheck_sound hs) (closedCheck_sound hc)
    (fun n σ h => List.mem_map.2 ⟨(n, σ), h, rfl⟩)
  simpa using this

/-! ## P6 — behaviour: the specialised program computes what the generic one does -/

/-- `mono_preserves`, partial.  `P` is the Core program (`P.fns = F`), `P'` a program that contains, for
every instance `(f, σ)` of a universe `U`, the function `spec_name_for(f, σ)` with body `monoE F σ f.body`
(`Linked`; that the output of `mono` is linked to its input is not proved in general, `linkedC` shows it for an excerpt).
Then for every expression of the fragment `FragE` — data, `let`, `if`, `match`, `while`, operators, direct
calls of builtins, of monomorphic functions and of generic functions (renamed to their instance) — and every
amount of fuel, evaluating the specialised expression in `P'` gives exactly the result (value, output,
store, failure, fuel exhaustion) of evaluating the generic expression in `P`: the instance
`specName f.name σ` behaves as the generic body with `σ` applied, types being irrelevant to `Sem`.
Missing for the full statement: closures, `go`, `dyn`, calls through a local variable, generic functions
used as values (the two sides then compute values that differ in function names / closure bodies, so the
statement needs a value relation), trait-bounded calls (`traitcall_commutes` below), phase 2. -/
theorem mono_preserves_partial (F : List Fn) (isLocal : String → Bool) (U : String → Subst → Prop) (Ext : String → Prop)
    {P P' : Prog} (L : Linked F isLocal U Ext P P') (fuel : Nat) (σ : Subst) (e : Expr) (ρ : Env) (w : World)
    (hfr : FragE F isLocal U Ext σ e) (hρ : EnvLocal isLocal ρ) :
    eval fuel P' ρ w (monoE F σ e).1 = eval fuel P ρ w e :=
  (sim_all F isLocal U Ext L fuel).expr σ e ρ w hfr hρ

set_option linter.unusedVariables false in
/-- calling the instance `specName f.name σ` in the specialised program = calling `f` in the generic one -/
theorem instance_behaves_as_generic (F : List Fn) (isLocal : String → Bool) (U : String → Subst → Prop) (Ext : String → Prop)
    {P P' : Prog} (L : Linked F isLocal U Ext P P') (fuel : Nat) (f : Fn) (σ : Subst) (w : World) (vs : List Val)
    (hf : f ∈ F) (hff : findFn F f.name = some f) (hu : U f.name σ) :
    Sem.apply fuel P' w (.fn (specName f.name σ)) vs = Sem.apply fuel P w (.fn f.name) vs :=
  (sim_all F isLocal U Ext L fuel).fn f σ w vs hff hu

/-- whole programs: same outcome (stdout, way of ending, extern events) for every amount of fuel -/
theorem mono_preserves_run_partial (F : List Fn) (isLocal : String → Bool) (U : String → Subst → Prop) (Ext : String → Prop)
    {P P' : Prog} (L : Linked F isLocal U Ext P P') (fuel : Nat) (main : Fn)
    (hm : findFn F "main" = some main) (hg : fnIsGeneric main = false) :
    Sem.run fuel P' = Sem.run fuel P := by
  obtain ⟨hmem, hname⟩ := findFn_mem hm
  have := instance_behaves_as_generic F isLocal U Ext L fuel main [] { eager := true } []
    hmem (by rw [hname]; exact hm) (L.seeds main hmem hg)
  rw [specName_nil, hname] at this
  simp only [Sem.run, this]

/-- `traitcall_commutes`.  Core: `ETraitCall Tr::m(recv, args)` is dispatched by `Sem` on the runtime value
of the receiver.  Mono: the call is resolved statically to `trait_impl#Tr#τ#m`, `τ` the substituted
receiver type.  If the receiver's value has the key of `τ` (the runtime type is the static type) and the
impl table is coherent for `(Tr, τ, m)`, both apply the same function to the same arguments in the same
world (the direct call spends one more unit of fuel on evaluating the callee name). -/
theorem traitcall_commutes (P P' : Prog) (n : Nat) (ρ : Env) (w w1 w2 : World) (tr m : String) (ty nty fty τ : Ty)
    (recv recv' : Expr) (args args' : List Expr) (v : Val) (vs : List Val)
    (hr : eval n P ρ w recv = .ok v w1) (ha : evalList n P ρ w1 args = .ok vs w2)
    (hr' : eval n P' ρ w recv' = .ok v w1) (ha' : evalList n P' ρ w1 args' = .ok vs w2)
    (hk : valKey v = Sem.tyKey τ)
    (hcoh : P.impls.find? (fun i => i.1 == tr && i.2.1 == Sem.tyKey τ && i.2.2.1 == m) =
      some (tr, Sem.tyKey τ, m, traitImplFnName tr τ m))
    (hloc : lookupEnv ρ (traitImplFnName tr τ m) = none) :
    eval (n + 1) P ρ w (.traitCall tr m ty recv args) = Sem.apply n P w2 (.fn (traitImplFnName tr τ m)) (v :: vs) ∧
    eval (n + 2) P' ρ w (.call nty (.var (traitImplFnName tr τ m) fty) (recv' :: args')) =
      Sem.apply (n + 1) P' w2 (.fn (traitImplFnName tr τ m)) (v :: vs) := by
  constructor
  · rw [eval_traitCall P n ρ w w1 w2 tr m ty recv args v vs hr ha, hk, hcoh]
  · simp only [eval, hloc, evalList, hr', ha']

/-- the callee `mono_expr` writes for an `ETraitCall` is `trait_impl#Tr#τ#m` with `τ` the type of the
transformed receiver (so `traitcall_commutes` applies with that `τ`) -/
theorem traitcall_resolution (F : List Fn) (σ : Subst) (tr m : String) (ty : Ty) (recv : Expr) (args : List Expr) :
    ∃ fty, (monoE F σ (.traitCall tr m ty recv args)).1 =
      .call (substTy σ ty) (.var (traitImplFnName tr (getTy (monoE F σ recv).1) m) fty)
        ((monoE F σ recv).1 :: (monoEs F σ args).1) :=
  ⟨_, monoE_traitCall F σ tr m ty recv args⟩

/-! ## non-vacuity: excerpts of corpus programs 040 (`choose`), 066 (`impl[U, V] Point[U, V]`), 072 (trait-bounded `show_both`) -/

def i32 : Ty := .int 32 true
def pointOf (a b : Ty) : Ty := .app (.struct "Point") [a, b]
def lit (n : Int) : Expr := .prim (.int 32 true n)

/-- excerpt of corpus program 040: `fn choose[T](flag: bool, when_true: T, when_false: T) -> T` -/
def chooseFn : Fn :=
  { name := "choose", generics := [], params := [("flag/0", .bool), ("a/1", .param "T"), ("b/2", .param "T")], ret := .param "T",
    body := .ite (.var "flag/0" .bool) (.var "a/1" (.param "T")) (.var "b/2" (.param "T")) }
/-- excerpt of corpus program 072: `impl Display for int32`, `fn show_both[T: Debug + Display](x: T)` -/
def showI32 : Fn :=
  { name := "trait_impl#Display#int32#show", generics := [], params := [("self/0", i32)], ret := .string,
    body := .call .string (.var "int32_to_string" (.func [i32] .string)) [.var "self/0" i32] }
def showBoth : Fn :=
  { name := "show_both", generics := [], params := [("x/0", .param "T")], ret := .string,
    body := .traitCall "Display" "show" .string (.var "x/0" (.param "T")) [] }
/-- excerpt of corpus program 066: `impl[U, V] Point[U, V] { fn swap(self) -> Point[V, U] }` -/
def swapFn : Fn :=
  { name := "inherent#Point#Point[U,V]#swap", generics := ["U", "V"], params := [("self/0", pointOf (.param "U") (.param "V"))],
    ret := pointOf (.param "V") (.param "U"),
    body := .constr (.struct "Point") (pointOf (.param "V") (.param "U"))
      [.cget (.struct "Point") 1 (.param "V") (.var "self/0" (pointOf (.param "U") (.param "V"))),
       .cget (.struct "Point") 0 (.param "U") (.var "self/0" (pointOf (.param "U") (.param "V")))] }
def exMain : Fn :=
  { name := "main", generics := [], params := [], ret := .unit,
    body :=
      .letE "a/0" (.call i32 (.var "choose" (.func [.bool, i32, i32] i32)) [.prim (.bool true), lit 1, lit 2]) <|
      .letE "b/1" (.call .string (.var "choose" (.func [.bool, .string, .string] .string)) [.prim (.bool false), .prim (.str "x"), .prim (.str "y")]) <|
      .letE "c/2" (.call .string (.var "show_both" (.func [i32] .string))
          [.call i32 (.var "choose" (.func [.bool, i32, i32] i32)) [.prim (.bool false), lit 3, .var "a/0" i32]]) <|
      .letE "p/3" (.constr (.struct "Point") (pointOf i32 .string) [.var "a/0" i32, .var "b/1" .string]) <|
      .letE "q/4" (.call (pointOf .string i32) (.var "inherent#Point#Point[int32,string]#swap" (.func [pointOf i32 .string] (pointOf .string i32)))
          [.var "p/3" (pointOf i32 .string)]) <|
      .prim .unit }
def exProg : List Fn := [chooseFn, showI32, showBoth, swapFn, exMain]

def outNames (o : Option Ctx) : Option (List String) := o.map fun c => c.out.map (·.name)

def pointDef : StructDef := { name := "Point", generics := ["U", "V"], fields := [("x", .param "U"), ("y", .param "V")] }

def exL : List (String × Subst) :=
  [("trait_impl#Display#int32#show", []), ("main", []), ("choose", [("T", i32)]), ("choose", [("T", .string)]),
   ("show_both", [("T", i32)]), ("inherent#Point#Point[U,V]#swap", [("U", i32), ("V", .string)])]

/-- What evaluation says of the excerpt: the functions `mono` emits, in order; none has a type parameter left; the
two `Point` instances of phase 2; `exL` holds the seeds and is closed under requests.  One statement, because each
part resolves the call of `swap` through `inherentIndex`, which compares names cut out of two mangled names and is
by far the slowest step for the kernel: within one statement it is evaluated once. -/
theorem exProg_run :
    outNames (phase1 20 exProg) =
      some ["trait_impl#Display#int32#show", "main", "choose__T_int32", "choose__T_string", "show_both__T_int32",
            "inherent#Point#Point[U,V]#swap__U_int32__V_string"] ∧
    ((phase1 20 exProg).map fun c => c.out.all (fnAllTys noParam)) = some true ∧
    ((mono 20 100 [] [pointDef] exProg).map fun o => (closedFns o.fns, o.monoStructs.map (·.name), o.err.isNone)) =
      some (true, ["Point__int32__string", "Point__string__int32"], true) ∧
    closedCheck exProg exL = true ∧ seedCheck exProg exL = true := by decide +kernel

example : outNames (phase1 20 exProg) =
    some ["trait_impl#Display#int32#show", "main", "choose__T_int32", "choose__T_string", "show_both__T_int32",
          "inherent#Point#Point[U,V]#swap__U_int32__V_string"] := exProg_run.1

example : ((phase1 20 exProg).map fun c => c.out.all (fnAllTys noParam)) = some true := exProg_run.2.1

example : ((mono 20 100 [] [pointDef] exProg).map fun o => (closedFns o.fns, o.monoStructs.map (·.name), o.err.isNone)) =
    some (true, ["Point__int32__string", "Point__string__int32"], true) := exProg_run.2.2.1

example : closedCheck exProg exL = true ∧ seedCheck exProg exL = true := exProg_run.2.2.2

theorem exProg_orig : origFns exProg = exProg := by
  simp [origFns, exProg, insertFn, chooseFn, showI32, showBoth, swapFn, exMain]

/-- the hypotheses of `mono_terminates_of_closed_list` hold for the excerpt (six instances) -/
example : (phase1 6 exProg).isSome = true := by
  obtain ⟨-, -, -, hclosed, hseed⟩ := exProg_run
  exact mono_terminates_of_closed_list exProg exL (by rw [exProg_orig]; exact hseed) (by rw [exProg_orig]; exact hclosed)

/-- `instances_unique` on the excerpt: the four generic instances, each once, under its own name -/
example : ∃ c, phase1 20 exProg = some c ∧ c.work = [] ∧ (c.instances.map instKey).Nodup ∧
    c.out.map (·.name) = c.instances.map (·.spec) := by
  cases h : phase1 20 exProg with
  | none => exact absurd (h ▸ exProg_run.1) (by decide)
  | some c => obtain ⟨a, b, _, d⟩ := instances_unique exProg 20 c h; exact ⟨c, rfl, a, b, d⟩

/-! ## non-vacuity of `mono_preserves_partial`: the hypotheses hold for the `choose` excerpt and the model's own output -/

def mainC : Fn :=
  { name := "main", generics := [], params := [], ret := .unit,
    body :=
      .letE "a/0" (.call i32 (.var "choose" (.func [.bool, i32, i32] i32)) [.prim (.bool true), lit 1, lit 2]) <|
      .letE "b/1" (.call .string (.var "choose" (.func [.bool, .string, .string] .string)) [.prim (.bool false), .prim (.str "x"), .prim (.str "y")]) <|
      .call .unit (.var "string_println" (.func [.string] .unit)) [.var "b/1" .string] }
def progC : List Fn := [chooseFn, mainC]
def isLoc (s : String) : Bool := s.toList.contains '/'
def UC (n : String) (σ : Subst) : Prop := (n, σ) ∈ [("main", []), ("choose", [("T", i32)]), ("choose", [("T", Ty.string)])]
def ExtC (n : String) : Prop := n = "string_println"
def PC : Prog := { fns := progC }
def PC' : Prog := { fns := ((phase1 10 progC).map (·.out)).getD [] }

example : (PC'.fns.map (·.name)) = ["main", "choose__T_int32", "choose__T_string"] := by decide +kernel

theorem linkedC : Linked progC isLoc UC ExtC PC PC' := by
  have inst : ∀ f σ, f ∈ progC → UC f.name σ →
      (f = mainC ∧ σ = []) ∨ (f = chooseFn ∧ σ = [("T", i32)]) ∨ (f = chooseFn ∧ σ = [("T", .string)]) := by
    intro f σ hf hu
    simp only [progC, List.mem_cons, List.not_mem_nil, or_false] at hf
    simp only [UC, List.mem_cons, Prod.mk.injEq, List.not_mem_nil, or_false] at hu
    rcases hf with rfl | rfl
    · rcases hu with ⟨h, _⟩ | ⟨_, rfl⟩ | ⟨_, rfl⟩
      · exact absurd h (by decide)
      · exact Or.inr (Or.inl ⟨rfl, rfl⟩)
      · exact Or.inr (Or.inr ⟨rfl, rfl⟩)
    · rcases hu with ⟨_, rfl⟩ | ⟨h, _⟩ | ⟨h, _⟩
      · exact Or.inl ⟨rfl, rfl⟩
      · exact absurd h (by decide)
      · exact absurd h (by decide)
  refine ⟨rfl, ?_, ?_, ?_, ?_, ?_, ?_⟩
  · intro f σ hf hu
    rcases inst f σ hf hu with ⟨rfl, rfl⟩ | ⟨rfl, rfl⟩ | ⟨rfl, rfl⟩ <;> rfl
  · intro f σ hf hu
    have hvar : ∀ (x : String) (t : Ty), isLoc x = true → specializeValueP progC x t = none := by
      intro x t hx
      have : findFn progC x = none := by
        simp only [findFn, progC, List.find?_cons, List.find?_nil, chooseFn, mainC]
        have h1 : ("choose" == x) = false := by
          rw [beq_eq_false_iff_ne]; rintro rfl; exact absurd hx (by decide)
        have h2 : ("main" == x) = false := by
          rw [beq_eq_false_iff_ne]; rintro rfl; exact absurd hx (by decide)
        simp [h1, h2]
      simp [specializeValueP, this]
    rcases inst f σ hf hu with ⟨rfl, rfl⟩ | ⟨rfl, rfl⟩ | ⟨rfl, rfl⟩
    · simp only [mainC, lit, FragE, FragL, and_true, true_and]
      refine ⟨by decide, ⟨by decide, ?_⟩, by decide, ⟨by decide, ?_⟩, by decide, hvar _ _ (by decide), ?_⟩
      · exact Or.inr (Or.inr ⟨chooseFn, [("T", i32)], [("T", i32)], [("T", i32)], rfl, rfl, rfl, rfl, rfl,
          by simp [UC, chooseFn], rfl⟩)
      · exact Or.inr (Or.inr ⟨chooseFn, [("T", .string)], [("T", .string)], [("T", .string)], rfl, rfl, rfl, rfl, rfl,
          by simp [UC, chooseFn], rfl⟩)
      · exact Or.inl ⟨rfl, rfl⟩
    all_goals
      simp only [chooseFn, FragE]
      exact ⟨hvar _ _ (by decide), hvar _ _ (by decide), hvar _ _ (by decide)⟩
  · intro f hf hg
    simp only [progC, List.mem_cons, List.not_mem_nil, or_false] at hf
    rcases hf with rfl | rfl
    · exact absurd hg (by decide)
    · simp [UC, mainC]
  · intro f hf p hp
    simp only [progC, List.mem_cons, List.not_mem_nil, or_false] at hf
    rcases hf with rfl | rfl
    · simp only [chooseFn, List.mem_cons, List.not_mem_nil, or_false] at hp
      rcases hp with rfl | rfl | rfl <;> decide
    · simp [mainC] at hp
  · intro n hn
    simp only [ExtC] at hn
    subst hn
    exact ⟨rfl, rfl⟩
  · intro f hf σ hu
    rcases inst f σ hf hu with ⟨rfl, rfl⟩ | ⟨rfl, rfl⟩ | ⟨rfl, rfl⟩ <;> decide +kernel

/-- the specialised excerpt prints what the generic one prints, for every amount of fuel -/
example (fuel : Nat) : Sem.run fuel PC' = Sem.run fuel PC :=
  mono_preserves_run_partial progC isLoc UC ExtC linkedC fuel mainC rfl rfl

example : (Sem.run 100 PC').out = "y\n" := by decide +kernel

/-! ## overlapping inherent impls: the exact impl keeps its calls -/

/-- With the lookup order of mono.rs (`Gen.calleeLookupOrder`, regenerated on every run): a callee whose name
is defined as Core spells it is that definition — the generic impl of the same base type and method is
consulted only for names that are not defined.  So `a.describe()` on `a : Cell[int32]`, which the typer
resolved to `impl Cell[int32]` and Core names `inherent#Cell#Cell[int32]#describe`, is never redirected
to an instance of `impl[T] Cell[T]`.  (If the order in mono.rs changes, the extractor refuses or this
theorem no longer checks.) -/
theorem exact_impl_wins (F : List Fn) (n : String) (f : Fn) (h : findFn F n = some f) : findCallee F n = some f :=
  findCallee_of_findFn h

def cellOf (t : Ty) : Ty := .app (.struct "Cell") [t]
/-- `impl[T] Cell[T] { fn describe(self) -> string { "cell" } }` -/
def describeGeneric : Fn :=
  { name := "inherent#Cell#Cell[T]#describe", generics := ["T"], params := [("self/0", cellOf (.param "T"))], ret := .string,
    body := .prim (.str "cell") }
/-- `impl Cell[int32] { fn describe(self) -> string { "int cell" } }` -/
def describeInt : Fn :=
  { name := "inherent#Cell#Cell[int32]#describe", generics := [], params := [("self/1", cellOf i32)], ret := .string,
    body := .prim (.str "int cell") }
def overlapMain : Fn :=
  { name := "main", generics := [], params := [], ret := .unit,
    body :=
      .letE "a/2" (.call .string (.var "inherent#Cell#Cell[int32]#describe" (.func [cellOf i32] .string))
          [.constr (.struct "Cell") (cellOf i32) [lit 7]]) <|
      .letE "b/3" (.call .string (.var "inherent#Cell#Cell[string]#describe" (.func [cellOf .string] .string))
          [.constr (.struct "Cell") (cellOf .string) [.prim (.str "s")]]) <|
      .prim .unit }
def overlapProg : List Fn := [describeGeneric, describeInt, overlapMain]

/-- one statement: the run and the lookup of `Cell[string]` both go through `inherentIndex` -/
theorem overlapProg_run :
    outNames (phase1 20 overlapProg) =
      some ["inherent#Cell#Cell[int32]#describe", "main", "inherent#Cell#Cell[T]#describe__T_string"] ∧
    (findCallee overlapProg "inherent#Cell#Cell[int32]#describe").map (·.name) = some "inherent#Cell#Cell[int32]#describe" ∧
    (findCallee overlapProg "inherent#Cell#Cell[string]#describe").map (·.name) = some "inherent#Cell#Cell[T]#describe" := by
  decide +kernel

/-- the exact impl is emitted under its own name and called as such; only `Cell[string]` gets a generic instance -/
example : outNames (phase1 20 overlapProg) =
    some ["inherent#Cell#Cell[int32]#describe", "main", "inherent#Cell#Cell[T]#describe__T_string"] := overlapProg_run.1
example : (findCallee overlapProg "inherent#Cell#Cell[int32]#describe").map (·.name) = some "inherent#Cell#Cell[int32]#describe" :=
  overlapProg_run.2.1
example : (findCallee overlapProg "inherent#Cell#Cell[string]#describe").map (·.name) = some "inherent#Cell#Cell[T]#describe" :=
  overlapProg_run.2.2

/-! ## polymorphic recursion: no finite universe exists, and the loop does not end -/

def optOf (t : Ty) : Ty := .app (.enum "Opt") [t]

/-- `fn grow[T](x: T, n: int32) -> int32 { if n == 0 { 0 } else { grow(Opt::Som(x), n - 1) } }` -/
def growFn : Fn :=
  { name := "grow", generics := [], params := [("x/0", .param "T"), ("n/1", i32)], ret := i32,
    body := .ite (.bin .eq .bool (.var "n/1" i32) (.prim (.int 32 true 0))) (.prim (.int 32 true 0))
      (.call i32 (.var "grow" (.func [optOf (.param "T"), i32] i32))
        [.constr (.enum "Opt" "Som" 1) (optOf (.param "T")) [.var "x/0" (.param "T")],
         .bin .sub i32 (.var "n/1" i32) (.prim (.int 32 true 1))]) }

def growMain : Fn :=
  { name := "main", generics := [], params := [], ret := .unit,
    body := .call i32 (.var "grow" (.func [i32, i32] i32)) [.prim (.int 32 true 1), .prim (.int 32 true 3)] }

def growProg : List Fn := [growFn, growMain]

example : (phase1 30 growProg).isNone = true := by decide +kernel

theorem grow_requests (t : Ty) (ht : hasTParam t = false) :
    requests growProg growFn [("T", t)] = [("grow", [("T", optOf t)])] := by
  simp [requests, growFn, growMain, growProg, monoE, monoEs, monoVarP, specializeValueP, findFn, resolveCallP, findCallee,
    Gen.calleeLookupOrder, lookupBy, fnIsGeneric, hasTParam, hasTParams, substTy, substTys, lookup, getTys, getTy, unify,
    unifyList, optOf, i32, reqsOf, ht, updateCtorPanics, constrName]

theorem main_requests : requests growProg growMain [] = [("grow", [("T", i32)])] := by
  simp [requests, growFn, growMain, growProg, monoE, monoEs, findFn, resolveCallP, findCallee, Gen.calleeLookupOrder,
    lookupBy, fnIsGeneric, hasTParam, substTy, substTys, lookup, getTys, getTy, primTy, unify, unifyList, optOf, i32, reqsOf]

def tau : Nat → Ty
  | 0 => i32
  | k + 1 => optOf (tau k)

theorem tau_closed (k : Nat) : hasTParam (tau k) = false := by
  induction k with
  | zero => simp [tau, i32, hasTParam]
  | succ k ih => simp [tau, optOf, hasTParam, hasTParams, ih]

theorem tau_inj : ∀ j k, tau j = tau k → j = k := by
  intro j
  induction j with
  | zero =>
    intro k h
    cases k with
    | zero => rfl
    | succ k => simp [tau, i32, optOf] at h
  | succ j ih =>
    intro k h
    cases k with
    | zero => simp [tau, i32, optOf] at h
    | succ k =>
      simp [tau, optOf] at h
      rw [ih k h]

/-- no finite set `S` of instance keys holds a universe `U` closed under the requests of `growProg`: `grow` at
`tau k` requests `grow` at `tau (k + 1)`, the `tau k` are pairwise different, so `S` would have `S.length + 1`
distinct members -/
theorem polyrec_no_finite_universe (U : String → Subst → Prop) (S : List (String × List (String × Ty)))
    (hseed : ∀ f ∈ origFns growProg, fnIsGeneric f = false → U f.name [])
    (hclosed : ∀ f ∈ origFns growProg, ∀ σ, U f.name σ → ∀ r ∈ requests (origFns growProg) f σ, U r.1 r.2)
    (hfin : ∀ n σ, U n σ → (n, key σ) ∈ S) : False := by
  have hF : origFns growProg = growProg := by simp [origFns, growProg, insertFn, growFn, growMain]
  rw [hF] at hseed hclosed
  have hm : U "main" [] := hseed growMain (by simp [growProg]) (by simp [fnIsGeneric, growMain, hasTParam])
  have h0 : U "grow" [("T", tau 0)] := by
    have := hclosed growMain (by simp [growProg]) [] hm ("grow", [("T", i32)]) (by rw [main_requests]; simp)
    exact this
  have hk : ∀ k, U "grow" [("T", tau k)] := by
    intro k
    induction k with
    | zero => exact h0
    | succ k ih =>
      exact hclosed growFn (by simp [growProg]) _ ih ("grow", [("T", tau (k + 1))])
        (by rw [grow_requests _ (tau_closed k)]; simp [tau])
  have hS : ∀ k, ("grow", [("T", tau k)]) ∈ S := by
    intro k
    have := hfin _ _ (hk k)
    simpa [key, insertByKey] using this
  have hn : ((List.range (S.length + 1)).map fun k => ("grow", [("T", tau k)])).Nodup := by
    unfold List.Nodup
    rw [List.pairwise_map]
    refine List.Pairwise.imp ?_ (List.nodup_range (n := S.length + 1))
    intro a b hab h
    simp at h
    exact hab (tau_inj a b h)
  have := List.Nodup.length_le_of_subset (l₂ := S) hn (by intro a ha; simp only [List.mem_map] at ha; obtain ⟨k, _, rfl⟩ := ha; exact hS k)
  simp at this
  omega

end Goml.Mono
