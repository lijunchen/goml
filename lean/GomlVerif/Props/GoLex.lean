import GomlVerif.Props.GoPrint
import GomlVerif.Props.C19
/-!
# The lexical half of the printer's round trip, at character level

`Model/GoLex.lean` is Go's lexer on characters.  This file proves what it returns on a *layout* of the printer's pieces:
every token text followed by the next piece, one blank per `sp`, a newline and ANY indentation per `nl`.

`lex_layout` is the skeleton (fuel, blanks, newlines, indentation, Go's automatic semicolons), given that every token is
read back by `lexTok` from where it starts (`TokSound`); `lexTok_word`, `lexTok_int`, `lexTok_op` give, per kind of token,
the boundary at which `lexTok` reads it back and stops; `lex_render_tokens_spaced_partial` puts both together for
blank-separated layouts.

Missing for the full `lex_render_tokens` (validated by the `golex` tie on the real tokens of every run instead): floats
and strings, and the derivation of the per-kind boundaries (`wordEnds`, `intEnds`, `opEnds`) from `glueFree` for tokens
written with nothing between them (`glued` is pairwise and misses `.` `.` `.` = `...`, see the example).
-/
namespace Goml.GoPrint
open Goml.GoLex

def startOK (t : Tok) : Bool :=
  match t.text.toList with
  | c :: _ => !isBlank c && c != '\n'
  | [] => false

/-- every token is read back by `lexTok` from where it starts in the layout -/
def TokSound : List (Piece × Nat) → Prop
  | [] => True
  | (.tok t, _) :: r =>
      startOK t = true ∧ lexTok (t.text.toList ++ layChars r) = some (t.lt, layChars r) ∧ TokSound r
  | _ :: r => TokSound r

theorem lexF_indent (fl : Bool) (cs : List Char) : ∀ (k m : Nat),
    lexF (m + k) fl (List.replicate k ' ' ++ cs) = lexF m fl cs := by
  intro k
  induction k with
  | zero => intro m; simp
  | succ k ih =>
    intro m
    have : m + (k + 1) = (m + k) + 1 := by omega
    rw [this, List.replicate_succ, List.cons_append, lexF]
    simp only [show isBlank ' ' = true from by decide +kernel, if_true]
    exact ih m

theorem lexF_layout : ∀ (ps : List (Piece × Nat)), TokSound ps → ∀ (fl : Bool) (n : Nat), (layChars ps).length < n →
    lexF n fl (layChars ps) = some (expectToks fl (ps.map (·.1))) := by
  intro ps
  induction ps with
  | nil =>
    intro _ fl n hn
    cases n with
    | zero => simp at hn
    | succ m => simp [layChars, lexF, expectToks]
  | cons p r ih =>
    obtain ⟨pc, k⟩ := p
    intro hs fl n hn
    obtain ⟨m, rfl⟩ : ∃ m, n = m + 1 := ⟨n - 1, by omega⟩
    cases pc with
    | sp =>
      simp only [layChars, List.length_cons] at hn
      simp only [layChars, lexF, show isBlank ' ' = true from by decide, if_true, List.map_cons, expectToks]
      exact ih hs fl m (by omega)
    | nl =>
      simp only [layChars, List.length_cons, List.length_append, List.length_replicate] at hn
      simp only [layChars, lexF, show isBlank '\n' = false from by decide, show ('\n' == '\n') = true from by decide,
        if_true, List.map_cons, expectToks]
      obtain ⟨m', rfl⟩ : ∃ m', m = m' + k := ⟨m - k, by omega⟩
      have e := lexF_indent false (layChars r) k m'
      have := ih hs false m' (by omega)
      cases fl <;> simp [e, this]
    | tok t =>
      obtain ⟨h0, h1, h2⟩ := hs
      simp only [layChars, List.length_append] at hn
      simp only [layChars, List.map_cons, expectToks]
      unfold startOK at h0
      cases htx : t.text.toList with
      | nil => simp [htx] at h0
      | cons c w =>
        rw [htx] at h0 h1 hn
        simp only [Bool.and_eq_true, Bool.not_eq_true', bne_iff_ne, ne_eq] at h0
        simp only [List.cons_append] at h1 ⊢
        rw [lexF]
        simp only [h0.1, Bool.false_eq_true, if_false, show (c == '\n') = false from by simpa using h0.2, h1]
        have := ih h2 (GoLex.semiAfter t.lt) m (by simp at hn; omega)
        simp [this]

/-- **the lexer's skeleton**: on any layout of a piece list (one blank per `sp`, a newline and any indentation per
    `nl`) whose tokens are each read back by `lexTok`, Go's lexer returns the pieces' tokens — kinds and texts — with
    the automatic semicolons of the specification, and nothing else -/
theorem lex_layout (ps : List (Piece × Nat)) (h : TokSound ps) :
    GoLex.lex (layChars ps) = some (expectToks false (ps.map (·.1))) :=
  lexF_layout ps h false _ (Nat.lt_succ_self _)

/-! ## identifiers and keywords at character level -/

theorem takeWhile_stop (p : Char → Bool) : ∀ (w rest : List Char), w.all p = true → (∀ c r, rest = c :: r → p c = false) →
    (w ++ rest).takeWhile p = w ∧ (w ++ rest).dropWhile p = rest := by
  intro w rest hw hr
  rw [List.takeWhile_append_of_pos (List.all_eq_true.mp hw), List.dropWhile_append_of_pos (List.all_eq_true.mp hw)]
  cases rest with
  | nil => simp
  | cons c r => simp [hr c r rfl]

/-- the next character does not continue a word -/
def wordEnds (rest : List Char) : Prop := ∀ c r, rest = c :: r → isIdChar c = false

theorem lexTok_word (c : Char) (w rest : List Char) (hc : isLetter c = true) (hw : w.all isIdChar = true)
    (hr : wordEnds rest) :
    lexTok (c :: (w ++ rest)) =
      some (⟨if keywords.contains (c :: w) then .kw else .ident, c :: w⟩, rest) := by
  have := takeWhile_stop isIdChar w rest hw hr
  simp [lexTok, hc, this.1, this.2]

def wordShape : List Char → Bool
  | c :: w => isLetter c && w.all isIdChar
  | [] => false

theorem lexTok_shape (cs rest : List Char) (h : wordShape cs = true) (hr : wordEnds rest) :
    lexTok (cs ++ rest) = some (⟨if keywords.contains cs then .kw else .ident, cs⟩, rest) := by
  match cs, h with
  | c :: w, h =>
    simp only [wordShape, Bool.and_eq_true] at h
    exact lexTok_word c w rest h.1 h.2 hr

theorem keywords_wordShape : ∀ k ∈ keywords, wordShape k = true := by decide +kernel

theorem wordShape_ident {s : String} (h : (Tok.ident s).wf = true) :
    wordShape s.toList = true ∧ s.toList ∉ keywords := by
  unfold Tok.wf at h
  cases hs : s.toList with
  | nil => simp [hs] at h
  | cons c w => simpa [hs, wordShape] using h

theorem wordShape_kw {s : String} (h : (Tok.kw s).wf = true) : wordShape s.toList = true ∧ s.toList ∈ keywords := by
  have hm : s.toList ∈ keywords := by simpa [Tok.wf] using h
  exact ⟨keywords_wordShape _ hm, hm⟩

theorem lexTok_ident (s : String) (h : (Tok.ident s).wf = true) (rest : List Char) (hr : wordEnds rest) :
    lexTok (s.toList ++ rest) = some ((Tok.ident s).lt, rest) := by
  obtain ⟨hsh, hn⟩ := wordShape_ident h
  rw [lexTok_shape _ _ hsh hr]
  simp [Tok.lt, hn]

theorem lexTok_kw (s : String) (h : (Tok.kw s).wf = true) (rest : List Char) (hr : wordEnds rest) :
    lexTok (s.toList ++ rest) = some ((Tok.kw s).lt, rest) := by
  obtain ⟨hsh, hm⟩ := wordShape_kw h
  rw [lexTok_shape _ _ hsh hr]
  simp [Tok.lt, hm]

/-! ## what `TokSound` asks of a token besides `lexTok`: it starts with neither a blank nor a newline -/

theorem startOK_of_head {t : Tok} {c : Char} {w : List Char} (ht : t.text.toList = c :: w)
    (hc : isBlank c = false ∧ c ≠ '\n') : startOK t = true := by
  simp [startOK, ht, hc.1, hc.2]

theorem idChar_not_blank (c : Char) (h : isIdChar c = true) : isBlank c = false ∧ c ≠ '\n' := by
  constructor
  · cases hb : isBlank c with
    | false => rfl
    | true =>
      simp only [isBlank, Bool.or_eq_true, beq_iff_eq] at hb
      rcases hb with (rfl | rfl) | rfl <;> exact absurd h (by decide)
  · rintro rfl; exact absurd h (by decide)

theorem wordShape_startOK {t : Tok} (h : wordShape t.text.toList = true) : startOK t = true := by
  match ht : t.text.toList, h with
  | c :: w, h =>
    simp only [wordShape, Bool.and_eq_true] at h
    exact startOK_of_head ht (idChar_not_blank c (by simp [isIdChar, h.1]))

/-! ## every output of `go::mangle::go_ident` is a well-formed identifier token -/
open Goml.Mangle

theorem isDigit_eq_ascii (c : Char) : isDigit c = isAsciiDigit c := by
  simp only [isDigit, Char.isDigit, isAsciiDigit, Char.toNat, ge_iff_le, UInt32.le_iff_toNat_le]
  rfl

theorem asciiAlpha_isLetter (c : Char) (h : isAsciiAlpha c = true) : isLetter c = true := by
  have : c.isAlpha = true := by
    simp only [isAsciiAlpha, isAsciiLower, isAsciiUpper, Bool.or_eq_true, Bool.and_eq_true, decide_eq_true_eq, Char.toNat] at h
    simp only [Char.isAlpha, Char.isUpper, Char.isLower, ge_iff_le, UInt32.le_iff_toNat_le, Bool.or_eq_true, Bool.and_eq_true,
      decide_eq_true_eq]
    rcases h with h | h
    · right; exact h
    · left; exact h
  simp [isLetter, this]

theorem identStart_isLetter (c : Char) (h : isIdentStart c = true) : isLetter c = true := by
  simp only [isIdentStart, Bool.or_eq_true, beq_iff_eq] at h
  rcases h with h | rfl
  · exact asciiAlpha_isLetter c h
  · decide +kernel

theorem identChar_isIdChar (c : Char) (h : isIdentChar c = true) : isIdChar c = true := by
  simp only [isIdentChar, isAsciiAlnum, Bool.or_eq_true, beq_iff_eq] at h
  rcases h with (h | h) | rfl
  · simp [isIdChar, asciiAlpha_isLetter c h]
  · simp [isIdChar, isDigit_eq_ascii, h]
  · decide +kernel

theorem lexKeywords_spec : ∀ k ∈ GoLex.keywords, k ∈ goSpecKeywords := by decide +kernel

/-- **the names the compiler emits are identifier tokens of Go's grammar**: for EVERY string, `go_ident`'s output
    satisfies `Tok.wf` (letter or `_`, then letters / digits / `_`, not one of Go's 25 keywords) — from `goIdent_legal`
    (C19); so `lexTok_ident` / `lex_render_tokens_partial` apply to them -/
theorem goIdent_wf (s : Mangle.Name) : (Tok.ident (String.ofList (goIdent s))).wf = true := by
  obtain ⟨hv, _, hk⟩ := goIdent_legal s
  unfold Tok.wf
  simp only [String.toList_ofList]
  cases hg : goIdent s with
  | nil => simp [hg, isValidGoIdent] at hv
  | cons c w =>
    rw [hg] at hv hk
    simp only [isValidGoIdent, Bool.and_eq_true] at hv
    have h1 : isLetter c = true := identStart_isLetter c hv.1
    have h2 : w.all isIdChar = true :=
      List.all_eq_true.mpr fun x hx => identChar_isIdChar x (List.all_eq_true.mp hv.2 x hx)
    have hn : ¬ (c :: w ∈ GoLex.keywords) := fun h => hk (lexKeywords_spec _ h)
    simp [h1, h2, hn]

/-! ## decimal integer literals -/

theorem digit_not_letter (c : Char) (h : isDigit c = true) : isLetter c = false := by
  rw [isDigit_eq_ascii] at h
  simp only [isAsciiDigit, Bool.and_eq_true, decide_eq_true_eq, Char.toNat] at h
  simp only [isLetter, Char.isAlpha, Char.isUpper, Char.isLower, ge_iff_le, UInt32.le_iff_toNat_le, Bool.or_eq_false_iff,
    Bool.and_eq_false_iff, decide_eq_false_iff_not, beq_eq_false_iff_ne, ne_eq, Char.toNat]
  have e1 : 'A'.val.toNat = 65 := by decide +kernel
  have e2 : 'a'.val.toNat = 97 := by decide +kernel
  refine ⟨⟨⟨?_, ?_⟩, ?_⟩, ?_⟩
  · omega
  · omega
  · rintro rfl; revert h; decide +kernel
  · omega

/-- the next character does not continue a decimal literal: not a digit, letter, `_`, nor `.` -/
def intEnds (rest : List Char) : Prop := ∀ c r, rest = c :: r → isIdChar c = false ∧ c ≠ '.'

theorem scanFrac_stop (rest : List Char) (h : intEnds rest) : scanFrac rest = ([], rest) := by
  cases rest with
  | nil => rfl
  | cons c r =>
    have hc := (h c r rfl).2
    unfold scanFrac
    split
    · rename_i heq; cases heq; exact absurd rfl hc
    · rfl

theorem scanExp_stop (rest : List Char) (h : ∀ c r, rest = c :: r → isIdChar c = false) : scanExp rest = ([], rest) := by
  cases rest with
  | nil => rfl
  | cons c r =>
    have hc := h c r rfl
    have h1 : c ≠ 'e' := by rintro rfl; exact absurd hc (by decide)
    have h2 : c ≠ 'E' := by rintro rfl; exact absurd hc (by decide)
    simp [scanExp, h1, h2]

/-- **a decimal integer literal at character level**: digits followed by anything that does not start with a digit, a
    letter, `_` or `.` are lexed as ONE `num` token with exactly those digits, and lexing stops there -/
theorem lexTok_int (d : Char) (ds rest : List Char) (hd : isDigit d = true) (hds : ds.all isDigit = true)
    (hr : intEnds rest) : lexTok (d :: (ds ++ rest)) = some (⟨.num, d :: ds⟩, rest) := by
  have hnl := digit_not_letter d hd
  have hid : ∀ c r, rest = c :: r → isIdChar c = false := fun c r e => (hr c r e).1
  have hdig : ∀ c r, rest = c :: r → isDigit c = false := fun c r e =>
    (Bool.or_eq_false_iff.mp (hid c r e)).2
  have tw := takeWhile_stop isDigit (d :: ds) rest (by simp [hd, hds]) hdig
  rw [List.cons_append] at tw
  simp [lexTok, hnl, hd, scanNum, tw.1, tw.2, scanFrac_stop rest hr, scanExp_stop rest hid]

def isIntText (cs : List Char) : Bool := !cs.isEmpty && cs.all isDigit

theorem lexTok_intTok (s : String) (h : isIntText s.toList = true) (rest : List Char) (hr : intEnds rest) :
    startOK (.num s) = true ∧ lexTok (s.toList ++ rest) = some ((Tok.num s).lt, rest) := by
  cases hs : s.toList with
  | nil => simp [hs, isIntText] at h
  | cons d ds =>
    simp only [hs, isIntText, List.all_cons, Bool.and_eq_true] at h
    refine ⟨startOK_of_head (t := .num s) hs (idChar_not_blank d (by simp [isIdChar, h.2.1])), ?_⟩
    rw [List.cons_append, lexTok_int d ds rest h.2.1 h.2.2 hr]
    simp [Tok.lt, hs]

/-! ## operators and punctuation: maximal munch -/

def allOps : List (List Char) := ops1 ++ ops2 ++ ops3
/-- what can be longer than an operator: the 2- and 3-character operators and the two comment openers -/
def longerOps : List (List Char) := ops2 ++ ops3 ++ [['/', '/'], ['/', '*']]

/-- the operator followed by `c` is the beginning of a longer operator (or of a comment) -/
def extendsOp (o : List Char) (c : Char) : Bool := longerOps.any fun p => (o ++ [c]).isPrefixOf p

/-- the next character does not extend the operator under maximal munch (and `.` is not followed by a digit: `.5`) -/
def opEnds (o rest : List Char) : Prop :=
  ∀ c r, rest = c :: r → extendsOp o c = false ∧ (o = ['.'] → isDigit c = false)

theorem take_len_add (c : Char) (r : List Char) (j : Nat) (o : List Char) :
    (o ++ c :: r).take (o.length + 1 + j) = (o ++ [c]) ++ r.take j := by
  simpa using List.take_length_add_append (l₁ := o ++ [c]) (l₂ := r) j

/-- nothing longer than `o` is an operator at this position -/
theorem take_not_longer (o rest p : List Char) (hp : p ∈ longerOps) (hl : o.length < p.length) (hr : opEnds o rest) :
    (o ++ rest).take p.length ≠ p := by
  intro he
  cases rest with
  | nil =>
    have := congrArg List.length he
    simp at this; omega
  | cons c r =>
    have h1 := (hr c r rfl).1
    obtain ⟨j, hj⟩ : ∃ j, p.length = o.length + 1 + j := ⟨p.length - o.length - 1, by omega⟩
    rw [hj, take_len_add] at he
    have hpre : (o ++ [c]).isPrefixOf p = true := by
      rw [List.isPrefixOf_iff_prefix]; exact ⟨_, he⟩
    have : extendsOp o c = true := List.any_eq_true.mpr ⟨p, hp, hpre⟩
    rw [h1] at this; cases this

theorem ops3_len : ∀ p ∈ ops3, p.length = 3 := by decide +kernel
theorem ops2_len : ∀ p ∈ ops2, p.length = 2 := by decide +kernel
theorem ops1_len : ∀ p ∈ ops1, p.length = 1 := by decide +kernel

/-- none of a class `ops` of operators of length `n` is read where the shorter `o` stands before a character that does
    not extend it -/
theorem no_longer_op (ops : List (List Char)) (n : Nat) (hlen : ∀ p ∈ ops, p.length = n) (hsub : ∀ p ∈ ops, p ∈ longerOps)
    (o rest : List Char) (hl : o.length < n) (hr : opEnds o rest) : (o ++ rest).take n ∉ ops := by
  intro hm
  have := take_not_longer o rest _ (hsub _ hm) (by rw [hlen _ hm]; exact hl) hr
  rw [hlen _ hm] at this
  exact this rfl

theorem no_op3 (o rest : List Char) : o.length < 3 → opEnds o rest → (o ++ rest).take 3 ∉ ops3 :=
  no_longer_op ops3 3 ops3_len (fun p hp => by simp [longerOps, hp]) o rest

theorem no_op2 (o rest : List Char) : o.length < 2 → opEnds o rest → (o ++ rest).take 2 ∉ ops2 :=
  no_longer_op ops2 2 ops2_len (fun p hp => by simp [longerOps, hp]) o rest

/-- maximal munch returns the operator when the next character does not extend it -/
theorem munch_op (o rest : List Char) (ho : o ∈ allOps) (hr : opEnds o rest) : munch (o ++ rest) = some (o, rest) := by
  simp only [allOps, List.mem_append] at ho
  rcases ho with (h1 | h2) | h3
  · have hl := ops1_len o h1
    have n3 := no_op3 o rest (by omega) hr
    have n2 := no_op2 o rest (by omega) hr
    simp [munch, n3, n2, List.take_left' hl, List.drop_left' hl, h1]
  · have hl := ops2_len o h2
    have n3 := no_op3 o rest (by omega) hr
    simp [munch, n3, List.take_left' hl, List.drop_left' hl, h2]
  · have hl := ops3_len o h3
    simp [munch, List.take_left' hl, List.drop_left' hl, h3]

def opHeadOK : List Char → Bool
  | c :: _ => !isLetter c && !isDigit c && c != '"' && !isBlank c && c != '\n'
  | [] => false

theorem ops_head : ∀ o ∈ allOps, opHeadOK o = true := by decide +kernel
theorem ops_dot : ∀ o ∈ allOps, o.head? = some '.' → o = ['.'] ∨ o = ['.', '.', '.'] := by decide +kernel
theorem ops_slash : ∀ o ∈ allOps, o.head? = some '/' → o = ['/'] ∨ o = ['/', '='] := by decide +kernel

/-- **an operator / punctuation token at character level**: any of Go's 47 operators followed by a character that does
    not extend it (no operator and no comment opener starts with operator + that character; `.` not before a digit) is
    lexed as that `sym` token, and lexing stops there -/
theorem lexTok_op (o rest : List Char) (ho : o ∈ allOps) (hr : opEnds o rest) :
    lexTok (o ++ rest) = some (⟨.sym, o⟩, rest) := by
  have hm := munch_op o rest ho hr
  have hh := ops_head o ho
  cases o with
  | nil => simp [opHeadOK] at hh
  | cons c0 o' =>
    simp only [opHeadOK, Bool.and_eq_true, Bool.not_eq_true', bne_iff_ne, ne_eq] at hh
    obtain ⟨⟨⟨⟨hl, hd⟩, hq⟩, _⟩, _⟩ := hh
    have hdot : (c0 == '.' && startsDigit (o' ++ rest)) = false := by
      cases hc : c0 == '.' with
      | false => rfl
      | true =>
        rw [beq_iff_eq] at hc; subst hc
        rcases ops_dot _ ho rfl with h | h <;> cases h
        · cases rest with
          | nil => rfl
          | cons c r => simpa [startsDigit] using (hr c r rfl).2 rfl
        · rfl
    have hsl : (c0 == '/' && startsComment (o' ++ rest)) = false := by
      cases hc : c0 == '/' with
      | false => rfl
      | true =>
        rw [beq_iff_eq] at hc; subst hc
        rcases ops_slash _ ho rfl with h | h <;> cases h
        · cases rest with
          | nil => rfl
          | cons c r =>
            have he := (hr c r rfl).1
            simp only [Bool.true_and, List.nil_append]
            unfold startsComment
            split
            · rename_i heq; cases heq; exact absurd he (by decide)
            · rename_i heq; cases heq; exact absurd he (by decide)
            · rfl
        · rfl
    have hq' : (c0 == '"') = false := by simpa using hq
    rw [List.cons_append] at hm ⊢
    simp [lexTok, hl, hd, hdot, hsl, hq', hm]

theorem lexTok_symTok (s : String) (h : s.toList ∈ allOps) (rest : List Char) (hr : opEnds s.toList rest) :
    startOK (.sym s) = true ∧ lexTok (s.toList ++ rest) = some ((Tok.sym s).lt, rest) := by
  refine ⟨?_, by rw [lexTok_op _ _ h hr]; rfl⟩
  have hh := ops_head _ h
  cases hs : s.toList with
  | nil => simp [hs, opHeadOK] at hh
  | cons c o =>
    simp only [hs, opHeadOK, Bool.and_eq_true, Bool.not_eq_true', bne_iff_ne, ne_eq] at hh
    exact startOK_of_head (t := .sym s) hs ⟨hh.1.2, hh.2⟩

/-- the obstacle to deriving `opEnds` from the pairwise `glued`: three `.` written with nothing between them are
    pairwise not `glued` (`..` is no operator), yet Go reads ONE token `...`; `extendsOp` (prefix of a longer operator)
    is the right boundary and does flag it -/
example : glueFree [.tok (.sym "."), .tok (.sym "."), .tok (.sym ".")] = true ∧
    GoLex.lex ['.', '.', '.'] = some [⟨.sym, ['.', '.', '.']⟩] ∧ extendsOp ['.'] '.' = true := by decide +kernel

/-! ## identifiers, keywords, integers and operators separated by blanks / newlines -/

/-- every token is a `Tok.wf` identifier or keyword, a decimal integer or one of Go's operators, and is followed by a
    blank, a newline or the end -/
def SimpleSpaced : List (Piece × Nat) → Prop
  | [] => True
  | (.tok t, _) :: r =>
      ((∃ s, t = .ident s ∧ t.wf = true) ∨ (∃ s, t = .kw s ∧ t.wf = true) ∨
        (∃ s, t = .num s ∧ isIntText s.toList = true) ∨ (∃ s, t = .sym s ∧ s.toList ∈ allOps)) ∧
        (match r with | (.tok _, _) :: _ => False | _ => True) ∧ SimpleSpaced r
  | _ :: r => SimpleSpaced r

theorem longerOps_no_blank : ∀ p ∈ longerOps, ' ' ∉ p ∧ '\n' ∉ p := by decide

/-- a character that occurs in no operator and no comment opener extends nothing -/
theorem not_extendsOp (o : List Char) (c : Char) (h : ∀ p ∈ longerOps, c ∉ p) : extendsOp o c = false := by
  rw [extendsOp, List.any_eq_false]
  intro p hp hpre
  obtain ⟨t, rfl⟩ := List.isPrefixOf_iff_prefix.mp hpre
  exact h _ hp (by simp)

/-- after a token of a spaced layout comes the end, a blank or a newline -/
theorem layChars_spaced (r : List (Piece × Nat)) (h : match r with | (.tok _, _) :: _ => False | _ => True)
    (c : Char) (r' : List Char) (hc : layChars r = c :: r') : c = ' ' ∨ c = '\n' := by
  match r, h with
  | [], _ => simp [layChars] at hc
  | (.sp, _) :: _, _ => simp only [layChars, List.cons.injEq] at hc; exact Or.inl hc.1.symm
  | (.nl, _) :: _, _ => simp only [layChars, List.cons.injEq] at hc; exact Or.inr hc.1.symm

theorem ends_after (r : List (Piece × Nat)) (h : match r with | (.tok _, _) :: _ => False | _ => True) :
    wordEnds (layChars r) ∧ intEnds (layChars r) ∧ ∀ o, opEnds o (layChars r) := by
  refine ⟨fun c r' hc => ?_, fun c r' hc => ?_, fun o c r' hc => ?_⟩
  · rcases layChars_spaced r h c r' hc with rfl | rfl <;> decide
  · rcases layChars_spaced r h c r' hc with rfl | rfl <;> decide
  · rcases layChars_spaced r h c r' hc with rfl | rfl
    · exact ⟨not_extendsOp o _ fun p hp => (longerOps_no_blank p hp).1, fun _ => by decide⟩
    · exact ⟨not_extendsOp o _ fun p hp => (longerOps_no_blank p hp).2, fun _ => by decide⟩

theorem tokSound_simple : ∀ ps : List (Piece × Nat), SimpleSpaced ps → TokSound ps
  | [], _ => trivial
  | (.sp, _) :: r, h | (.nl, _) :: r, h => tokSound_simple r h
  | (.tok t, _) :: r, ⟨hk, hnext, hr⟩ => by
    obtain ⟨hw, hi, ho⟩ := ends_after r hnext
    refine and_assoc.mp ⟨?_, tokSound_simple r hr⟩
    rcases hk with ⟨s, rfl, hwf⟩ | ⟨s, rfl, hwf⟩ | ⟨s, rfl, hs⟩ | ⟨s, rfl, hs⟩
    · exact ⟨wordShape_startOK (wordShape_ident hwf).1, lexTok_ident s hwf _ hw⟩
    · exact ⟨wordShape_startOK (wordShape_kw hwf).1, lexTok_kw s hwf _ hw⟩
    · exact lexTok_intTok s hs _ hi
    · exact lexTok_symTok s hs _ (ho _)

/-- **character-level lexing of identifiers, keywords, decimal integers and operators** (`lex_render_tokens` for
    blank-separated layouts): a layout whose tokens are `Tok.wf` identifiers (every `go_ident` output, `goIdent_wf`),
    keywords, decimal integers and Go's operators, each followed by a blank, a newline (any indentation) or the end, is
    lexed by Go's lexer to exactly the tokens — kinds and texts — with the automatic semicolons.  What is missing for the
    full statement is said at the head of the file. -/
theorem lex_render_tokens_spaced_partial (ps : List (Piece × Nat)) (h : SimpleSpaced ps) :
    GoLex.lex (layChars ps) = some (expectToks false (ps.map (·.1))) :=
  lex_layout ps (tokSound_simple ps h)

/-- non-vacuity: `x := 10 <<= y ;⏎}` -/
example : GoLex.lex (layChars [(.tok (.ident "x"), 0), (.sp, 0), (.tok (.sym ":="), 0), (.sp, 0), (.tok (.num "10"), 0), (.sp, 0),
      (.tok (.sym "<<="), 0), (.sp, 0), (.tok (.ident "y"), 0), (.nl, 2), (.tok (.sym "}"), 0)]) =
    some [⟨.ident, ['x']⟩, ⟨.sym, [':', '=']⟩, ⟨.num, ['1', '0']⟩, ⟨.sym, ['<', '<', '=']⟩, ⟨.ident, ['y']⟩, semiTok,
      ⟨.sym, ['}']⟩, semiTok] := by
  rw [lex_render_tokens_spaced_partial _ (by
    refine ⟨Or.inl ⟨_, rfl, by decide +kernel⟩, trivial, Or.inr (Or.inr (Or.inr ⟨_, rfl, by decide +kernel⟩)), trivial,
      Or.inr (Or.inr (Or.inl ⟨_, rfl, by decide +kernel⟩)), trivial, Or.inr (Or.inr (Or.inr ⟨_, rfl, by decide +kernel⟩)), trivial,
      Or.inl ⟨_, rfl, by decide +kernel⟩, trivial, Or.inr (Or.inr (Or.inr ⟨_, rfl, by decide +kernel⟩)), trivial, trivial⟩)]
  decide +kernel

/-! ## identifiers and keywords only -/

/-- words only: every token is a `Tok.wf` identifier or keyword and is followed by a blank, a newline or the end -/
def WordsSpaced : List (Piece × Nat) → Prop
  | [] => True
  | (.tok t, _) :: r =>
      ((∃ s, t = .ident s) ∨ (∃ s, t = .kw s)) ∧ t.wf = true ∧
        (match r with | (.tok _, _) :: _ => False | _ => True) ∧ WordsSpaced r
  | _ :: r => WordsSpaced r

theorem simpleSpaced_of_words : ∀ ps : List (Piece × Nat), WordsSpaced ps → SimpleSpaced ps
  | [], _ => trivial
  | (.sp, _) :: r, h | (.nl, _) :: r, h => simpleSpaced_of_words r h
  | (.tok _, _) :: r, ⟨hk, hwf, hnext, hr⟩ => by
    refine ⟨?_, hnext, simpleSpaced_of_words r hr⟩
    rcases hk with ⟨s, rfl⟩ | ⟨s, rfl⟩
    · exact Or.inl ⟨s, rfl, hwf⟩
    · exact Or.inr (Or.inl ⟨s, rfl, hwf⟩)

/-- `lex_render_tokens_spaced_partial` restricted to the printer's words: identifiers — every output of `go_ident` is one —
    and keywords. -/
theorem lex_render_tokens_partial (ps : List (Piece × Nat)) (h : WordsSpaced ps) :
    GoLex.lex (layChars ps) = some (expectToks false (ps.map (·.1))) :=
  lex_render_tokens_spaced_partial ps (simpleSpaced_of_words ps h)

/-- non-vacuity: `return x⏎    break` — two keywords after which Go inserts a semicolon, an identifier, an indentation -/
example : GoLex.lex (layChars [(.tok (.kw "return"), 0), (.sp, 0), (.tok (.ident "x"), 0), (.nl, 4), (.tok (.kw "break"), 0)]) =
    some [⟨.kw, "return".toList⟩, ⟨.ident, ['x']⟩, semiTok, ⟨.kw, "break".toList⟩, semiTok] := by
  rw [lex_render_tokens_partial _ (by
    refine ⟨Or.inr ⟨_, rfl⟩, by decide +kernel, trivial, Or.inl ⟨_, rfl⟩, by decide +kernel, trivial, Or.inr ⟨_, rfl⟩, by decide +kernel, trivial, trivial⟩)]
  decide +kernel

end Goml.GoPrint
