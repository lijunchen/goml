import GomlVerif.Lemmas.C18Json
import GomlVerif.Lemmas.C18Render
import GomlVerif.Lemmas.C18Scope
import GomlVerif.Lemmas.C18Escape
import GomlVerif.Lemmas.C18Decode
import GomlVerif.Lemmas.C18Eval
/-!
C18 — derived `ToString` / `ToJson` are total and faithful.

Model: `Model/Derive.lean` (`toJson`, `toString` follow the bodies `derive.rs` generates;
`jsonQuote` is the runtime's `json_escape_string`; `jsonRead` is an RFC 8259 reader; `encode` is
the structure the property asks for; `genJson`/`genString` are the generated bodies with the
binders the derive chooses).  The tie to the Rust is the correspondence run of `./check C18`.
-/
namespace Goml.C18
open Goml.Derive

/-- **to_json returns well-formed JSON with the required structure.**  For every set of
    definitions with identifier names, every value of a type of them (any nesting, recursion through
    enums) and *every* string in it, reading `to_json`'s text as JSON succeeds and yields an object per
    struct (members in field order), `{"tag": V}` / `{"tag": V, "fields": […]}` per variant, and the
    leaves themselves.

    `_partial`: a float leaf carries its `%g` rendering as text, and the theorem assumes it is a JSON
    number (`floatsOk`); `+Inf`, `-Inf`, `NaN` are not (see `nonfinite_float_not_json`), and Go's
    shortest-digit formatting is outside the model. -/
theorem toJson_wellformed_partial (Δ : Defs) (t : FTy) (v : Val) (hΔ : defsOk Δ = true)
    (hty : hasTy Δ t v = true) (hfl : floatsOk v = true) :
    jsonRead (toJson Δ v) = some (encode Δ v) :=
  jsonRead_toJson hΔ hty hfl

/-- **… whose structure and leaves decode back to the value**: reading `to_json`'s text and
    interpreting the structure at the value's type (`decode`: members in field order, the variant
    found by its `tag`, integers by their decimal digits, strings as they are) gives the value back.
    `_partial` for the same reason as above (floats are compared as their rendering). -/
theorem toJson_roundtrip_partial (Δ : Defs) (t : FTy) (v : Val) (hΔ : defsOk Δ = true)
    (hdist : variantsDistinct Δ = true) (hty : hasTy Δ t v = true) (hfl : floatsOk v = true) :
    (jsonRead (toJson Δ v)).bind (decode Δ t) = some v := by
  rw [jsonRead_toJson hΔ hty hfl]
  exact decode_encode hdist v t hty

/-- strings are correctly escaped — all of them: `json_escape_string` followed by a JSON reader is
    the identity -/
theorem json_escape_total (s : List Char) : jsonRead (jsonQuote s) = some (.str s) :=
  jsonRead_text (j := .str s) rfl

/-- the character-wise `jsonQuote` of the model is the chain of `strings.ReplaceAll` calls that
    `go/runtime.rs` builds (table regenerated from the Rust source on every run) -/
theorem json_escape_is_runtime_table (s : List Char) :
    jsonQuote s = '"' :: (applyReplacements Gen.Derive.jsonReplacements s ++ ['"']) := by
  rw [jsonEscBody_eq_replacements]; rfl

/-- Go's `%q` (`fmt.Sprintf("%q", s)`) reads back as JSON if every rune is `goQuoteJsonSafe`, for every `unicode.IsPrint` -/
theorem goQuote_json_safe_partial (isPrint : Char → Bool) (s : List Char)
    (h : s.all (goQuoteJsonSafe isPrint) = true) : jsonRead (goQuote isPrint s) = some (.str s) := by
  have hr := readStr_goQuoteBody isPrint s [] h
  have : readValue ((goQuote isPrint s).length + 1) (goQuote isPrint s) = some (.str s, []) := by
    simp [readValue, goQuote, skipWs, isWs, hr]
  simp [jsonRead, this, skipWs]

/-- `to_string` is the `Name { f: v, … }` / `Enum::Variant(v, …)` rendering (`render` is written
    with `intercalate`; `toString` follows the generated code's part list) -/
theorem toString_shape (Δ : Defs) (t : FTy) (v : Val) (hty : hasTy Δ t v = true) :
    Derive.toString Δ v = render Δ v :=
  toString_render v t hty

/-- **the derive is total on what it accepts**: for every definition (any field, variant and type
    names), the generated `to_json` and `to_string` bodies are well-scoped — the binders of an arm are
    pairwise distinct, every variable is one of them, and no helper the body calls by name
    (`json_escape_string`, `bool_to_json`, `<prim>_to_string`: the generated tables) is shadowed by a
    binder or by `self` -/
theorem derive_total (d : Def) :
    (genJson bindFresh d).scoped = true ∧ (genString bindFresh d).scoped = true :=
  ⟨genJson_scoped d, genString_scoped d⟩

/-- **hygiene against the package, partial**: the calls of the generated bodies keep meaning the runtime helpers
    PROVIDED no top-level function of the package the type is defined in is spelled like a helper
    (`HelperFree tops`).  Partial because the hypothesis is needed: `name_resolution.rs` resolves the bare name the
    derive emits to a definition of the current package before it looks at the builtins, and nothing rejects such
    a definition — the examples below are the capture (known finding `helper-captured-by-package-function`). -/
theorem derive_hygienic_partial (d : Def) (tops : List String) (h : ∀ f ∈ helperNames, f ∉ tops) :
    (genJson bindFresh d).hygienic tops = true ∧ (genString bindFresh d).hygienic tops = true :=
  ⟨genJson_hygienic d tops h, genString_hygienic d tops h⟩

example : (genJson bindFresh (.struct "S" 0 [("b", .bool), ("n", .int 32 true)])).hygienic ["bool_to_json"] = false ∧
    (genJson bindFresh (.enum "E" 0 [("A", [.string])])).hygienic ["show", "json_escape_string"] = false ∧
    (genString bindFresh (.struct "S" 0 [("n", .int 8 false)])).hygienic ["uint8_to_string"] = false ∧
    (genJson bindFresh (.struct "S" 0 [("b", .bool), ("n", .int 32 true)])).hygienic ["bool_to_json_of", "show"] = true := by
  decide +kernel

/-- **the generated code computes the value functions**: the body of the arm the derive generates
    for a struct (resp. for the value's variant), evaluated under that arm's bindings — literals,
    `+`, the runtime helpers by their meaning (`helperSem`), the field types' own derived methods —
    is `toJson` / `toString` of the value.  With the AST tie of the check (`genJson`/`genString` =
    what `derive::expand` appends) this connects the theorems above to the generated code itself. -/
theorem generated_code_computes (Δ : Defs) (n : String) (g : Nat) :
    (∀ (fs : List (String × FTy)) (vals : List Val), lookupStruct Δ n = some fs → hasTys Δ (fs.map (·.2)) vals = true →
      (∀ arm ∈ (genJson bindFresh (.struct n g fs)).arms,
        evalG Δ (armEnv arm.binders vals) arm.body = some (toJson Δ (.struct n vals))) ∧
      (∀ arm ∈ (genString bindFresh (.struct n g fs)).arms,
        evalG Δ (armEnv arm.binders vals) arm.body = some (Derive.toString Δ (.struct n vals)))) ∧
    (∀ (vs : List (String × List FTy)) (idx : Nat) (vn : String) (tys : List FTy) (args : List Val),
      lookupVariant Δ n idx = some (vn, tys) → vs[idx]? = some (vn, tys) → hasTys Δ tys args = true →
      ((genJson bindFresh (.enum n g vs)).arms[idx]?).bind (fun arm => evalG Δ (armEnv arm.binders args) arm.body)
        = some (toJson Δ (.enum n idx args)) ∧
      ((genString bindFresh (.enum n g vs)).arms[idx]?).bind (fun arm => evalG Δ (armEnv arm.binders args) arm.body)
        = some (Derive.toString Δ (.enum n idx args))) :=
  ⟨fun _ _ hl hty => ⟨genJson_struct_eval hl hty, genString_struct_eval hl hty⟩,
   fun _ _ _ _ _ hl hv hty => ⟨genJson_enum_eval hl hv hty, genString_enum_eval hl hv hty⟩⟩

theorem derivesTrait_iff (as : List (List Char)) (tr : List Char) :
    derivesTrait as tr = true ↔ ∃ a ∈ as, listsTrait a tr = true := by
  simp [derivesTrait]

/-- **which traits an item derives depends only on the set of its derive attributes**: a trait is
    derived iff some attribute is a derive that lists it (`derivesTrait_iff`), so stacking, splitting, repeating and
    reordering attributes, and putting other attributes (or derives of unknown targets only)
    before, between or after them changes nothing (`derivesTrait` mirrors `find_derive_attr` /
    `parse_derive_targets`; the check compares it with what `derive::expand` appends) -/
theorem derive_attrs_union (as bs : List (List Char)) (tr : List Char) :
    derivesTrait (as ++ bs) tr = (derivesTrait as tr || derivesTrait bs tr) := by
  simp [derivesTrait, List.any_append]

theorem derive_attrs_perm (as bs : List (List Char)) (tr : List Char) (h : as.Perm bs) :
    derivesTrait as tr = derivesTrait bs tr :=
  Bool.eq_iff_iff.2 (by simp only [derivesTrait_iff, h.mem_iff])

theorem derive_attrs_skip (a : List Char) (as : List (List Char)) (tr : List Char)
    (h : parseDeriveTargets a = none ∨ ∃ ts, parseDeriveTargets a = some ts ∧ ts.contains tr = false) :
    derivesTrait (a :: as) tr = derivesTrait as tr := by
  have hl : listsTrait a tr = false := by
    rcases h with h | ⟨ts, h, hc⟩
    · simp [listsTrait, h]
    · simp only [listsTrait, h]; exact hc
  simp only [derivesTrait, List.any_cons, hl, Bool.false_or]

theorem derive_attrs_dup (a : List Char) (as : List (List Char)) (tr : List Char) :
    derivesTrait (a :: a :: as) tr = derivesTrait (a :: as) tr :=
  Bool.eq_iff_iff.2 (by simp [derivesTrait_iff])

example : derivesTrait ["#[derive(ToString)]".toList, "#[foo]".toList, "#[ derive ( Debug , ToJson, ) ]".toList] "ToJson".toList = true ∧
    derivesTrait ["#[derive(ToString)]".toList] "ToJson".toList = false ∧
    derivesTrait ["#![derive(ToJson)]".toList, "#[derive()]".toList, "#[derive]".toList, "#[derived(ToJson)]".toList,
      "#[derive(ToJson)(ToString)]".toList, "#[derive(tojson)]".toList] "ToJson".toList = false := by decide +kernel

/-! ### comments in and after an attribute

`attrText` mirrors `lower_attributes` (the text of the attribute's syntax node without its comment tokens);
the node holds every trivia token up to the next token of the file, so a comment written after the
attribute on its line, or on the lines between the attribute and the item, is inside it. -/

theorem strip_code_plain_append (a r : List Char) (h : ∀ c ∈ a, c ≠ '"' ∧ c ≠ '/') :
    stripComments .code (a ++ r) = a ++ stripComments .code r := by
  induction a with
  | nil => rfl
  | cons c cs ih =>
    have h12 := h c (by simp)
    have ih' := ih (fun d hd => h d (by simp [hd]))
    simp only [List.cons_append, stripComments, h12.1, h12.2, if_false, ih']

theorem strip_comment_line (c b : List Char) (h : ∀ x ∈ c, x ≠ '\n') :
    stripComments .comment (c ++ '\n' :: b) = '\n' :: stripComments .code b := by
  induction c with
  | nil => simp [stripComments]
  | cons x xs ih =>
    have hx := h x (by simp)
    have ih' := ih (fun d hd => h d (by simp [hd]))
    simp only [List.cons_append, stripComments, hx, if_false, ih']

theorem strip_comment_end (c : List Char) (h : ∀ x ∈ c, x ≠ '\n') : stripComments .comment c = [] := by
  induction c with
  | nil => rfl
  | cons x xs ih =>
    have hx := h x (by simp)
    have ih' := ih (fun d hd => h d (by simp [hd]))
    simp only [stripComments, hx, if_false, ih']

/-- **a comment is not part of the attribute**: the text `derive.rs` reads is the same with and without a
    `// …` comment anywhere after string-free code `a` (in particular after the closing `]`, or between two
    targets); what follows the comment's line (`b`) is arbitrary -/
theorem attr_comment_invisible (a c b : List Char) (ha : ∀ x ∈ a, x ≠ '"' ∧ x ≠ '/') (hc : ∀ x ∈ c, x ≠ '\n') :
    attrText (a ++ '/' :: '/' :: c ++ '\n' :: b) = attrText (a ++ '\n' :: b) := by
  unfold attrText
  rw [show a ++ '/' :: '/' :: c ++ '\n' :: b = a ++ ('/' :: '/' :: (c ++ '\n' :: b)) by simp]
  rw [strip_code_plain_append a _ ha, strip_code_plain_append a _ ha]
  simp only [stripComments, if_true, if_false, show ('/' : Char) ≠ '"' by decide +kernel, show ('\n' : Char) ≠ '"' by decide +kernel,
    show ('\n' : Char) ≠ '/' by decide +kernel]
  rw [strip_comment_line c b hc]

/-- … also when the node ends inside the comment (end of file) -/
theorem attr_comment_at_end (a c : List Char) (ha : ∀ x ∈ a, x ≠ '"' ∧ x ≠ '/') (hc : ∀ x ∈ c, x ≠ '\n') :
    attrText (a ++ '/' :: '/' :: c) = a := by
  unfold attrText
  rw [strip_code_plain_append a _ ha]
  simp only [stripComments, if_true, if_false, show ('/' : Char) ≠ '"' by decide +kernel]
  rw [strip_comment_end c hc]; simp

/-- … and comment-free code is read as it stands -/
theorem attr_plain (a : List Char) (ha : ∀ x ∈ a, x ≠ '"' ∧ x ≠ '/') : attrText a = a := by
  have := strip_code_plain_append a [] ha
  simpa [attrText, stripComments] using this

/-- which traits an item derives does not depend on the comments written in or after its attributes -/
theorem derive_attrs_comment (a c b : List Char) (as : List (List Char)) (tr : List Char)
    (ha : ∀ x ∈ a, x ≠ '"' ∧ x ≠ '/') (hc : ∀ x ∈ c, x ≠ '\n') :
    derivesTraitSrc ((a ++ '/' :: '/' :: c ++ '\n' :: b) :: as) tr = derivesTraitSrc ((a ++ '\n' :: b) :: as) tr := by
  simp only [derivesTraitSrc, List.map_cons, attr_comment_invisible a c b ha hc]

theorem derive_attrs_union_src (as bs : List (List Char)) (tr : List Char) :
    derivesTraitSrc (as ++ bs) tr = (derivesTraitSrc as tr || derivesTraitSrc bs tr) := by
  simp only [derivesTraitSrc, List.map_append, derive_attrs_union]

example : derivesTraitSrc ["#[derive(ToJson)] // serialise me\n".toList] "ToJson".toList = true ∧
    derivesTraitSrc ["#[derive(ToJson)]\n// A point.\n".toList] "ToJson".toList = true ∧
    derivesTraitSrc ["#[derive(ToJson)] // #[derive(ToString)]\n".toList] "ToString".toList = false ∧
    derivesTraitSrc ["#[derive(ToJson, // json\n    ToString)]\n".toList] "ToString".toList = true ∧
    derivesTraitSrc ["#[derive(ToJson // , ToString\n)]\n".toList] "ToString".toList = false ∧
    derivesTraitSrc ["#[doc = \"// no comment\"] ".toList, "#[derive(ToJson)]\n".toList] "ToJson".toList = true ∧
    -- the node text with its comment, not through `attrText`, lists no trait
    derivesTrait ["#[derive(ToJson)] // serialise me\n".toList] "ToJson".toList = false := by decide +kernel

/-! ### the defects the proofs point at, as examples -/

/-- a struct field bound to a local of its own name (`bindFieldName`) captures a helper spelled like it (replayed on
    the real pipeline: the `capture` stream of the check) -/
example : (genJson bindFieldName (.struct "S" 0 [("json_escape_string", .string)])).scoped = false := by decide +kernel
example : (genJson bindFieldName (.struct "S" 0 [("n", .int 32 true), ("bool_to_json", .bool)])).scoped = false := by decide +kernel

/-- `%q` is not JSON: `\a`, `\v`, `\x00`, `\x7f`, `\U000e0001` -/
example : (jsonRead (goQuote (fun _ => true) [Char.ofNat 7])).isNone = true := by decide +kernel
example : (jsonRead (goQuote (fun _ => true) [Char.ofNat 11])).isNone = true := by decide +kernel
example : (jsonRead (goQuote (fun _ => true) [Char.ofNat 0])).isNone = true := by decide +kernel
example : (jsonRead (goQuote (fun _ => true) [Char.ofNat 127])).isNone = true := by decide +kernel
example : goQuote (fun _ => false) [Char.ofNat 0xE0001] = "\"\\U000e0001\"".toList := by decide +kernel
example : (jsonRead (goQuote (fun _ => false) [Char.ofNat 0xE0001])).isNone = true := by decide +kernel
/-- … while an unprintable rune of the BMP is written `\u0080`, which JSON reads back -/
example : goQuote (fun _ => false) [Char.ofNat 0x80] = "\"\\u0080\"".toList := by decide +kernel

/-- a non-finite float is not a JSON number (`%g` writes `+Inf`, `-Inf`, `NaN`) -/
theorem nonfinite_float_not_json :
    validNumber "+Inf".toList = false ∧ validNumber "-Inf".toList = false ∧ validNumber "NaN".toList = false ∧
    (jsonRead "{\"x\":+Inf}".toList).isNone = true := by decide +kernel

/-! ### non-vacuity: a recursive enum inside a struct, every escape class in a string -/

def exΔ : Defs :=
  [.enum "List" 0 [("Nil", []), ("Cons", [.int 32 true, .named "List"])],
   .struct "Person" 0 [("name", .string), ("tag", .bool), ("self", .named "List"), ("u", .unit)]]

def exV : Val :=
  .struct "Person" [.str ['a', '"', '\\', '\n', Char.ofNat 7, Char.ofNat 127, 'é', Char.ofNat 0x1F600],
    .bool true, .enum "List" 1 [.int (-3), .enum "List" 0 []], .unit]

example : defsOk exΔ = true ∧ variantsDistinct exΔ = true ∧ hasTy exΔ (.named "Person") exV = true ∧ floatsOk exV = true := by decide +kernel

example : toJson exΔ exV =
    "{\"name\":\"a\\\"\\\\\\u000a\\u0007\u007fé😀\",\"tag\":true,\"self\":{\"tag\":\"Cons\",\"fields\":[-3,{\"tag\":\"Nil\"}]},\"u\":null}".toList := by
  decide +kernel

example : Derive.toString exΔ exV =
    ("Person { name: a\"\\\n" ++ String.ofList [Char.ofNat 7, Char.ofNat 127] ++ "é😀, tag: true, self: List::Cons(-3, List::Nil), u: () }").toList := by
  decide +kernel

example : (genJson bindFresh (.struct "S" 0 [("json_escape_string", .string), ("x", .int 8 true)])).arms.map (·.binders)
    = [["__field0", "__field1"]] := by decide +kernel

end Goml.C18
