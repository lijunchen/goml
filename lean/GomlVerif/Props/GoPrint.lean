import GomlVerif.Model.GoPrint
/-!
# The Go printer (`pprint/go_pprint.rs`) — theorems about its model `Model/GoPrint.lean`

Property C02.  The model is tied to the real printer byte for byte by `gv gopp | gomlmodel gopp` (tools/props/gopp.py) at
widths 40, 80, 120.  The grammar `Parse`, the tree `erase` and the scan `breaksSafe` the theorems are stated with are defined here.

* `render_width_irrelevant` — the printer builds documents without `group` / `line` (`itemDoc_hard`), and on such
  documents `best` writes the layout of the pieces, whatever the width (`best_lay`).
* `no_break_inserts_semicolon` — every line break the layout puts inside an expression follows `{` or `,`,
  tokens after which Go inserts no semicolon: an expression is never cut by the automatic-semicolon rule.
* `escape_go_string_decodes` — Go's interpreted-string-literal lexing of `escape_go_string s ++ "\""` yields `s`.
* `print_expr_roundtrip` — the printed tokens of a paren-free expression of the operator subset parse back to the
  same tree by Go's precedence rules (`Parse`, a deterministic relation: `parse_deterministic`).
* `glue_free_expr` — in that text no two tokens written without a space between them read as another token.
* `item_expressions_roundtrip` — the three together, from the verdict `itemParenFree` the tie evaluates on every item.
* `combinators_hard`, `text_literals_as_modelled` — the two generated tables are what the model was written against.
-/
namespace Goml.GoPrint
open Goml.Go

/-! ## the documents the printer builds have no soft break -/

/-- `DocBuilder::append` -/
theorem append_cases (a b : Doc) : (a = .nil ∧ a ++ b = b) ∨ (b = .nil ∧ a ++ b = a) ∨ a ++ b = .cat a b := by
  by_cases ha : a = .nil
  · subst ha; exact .inl ⟨rfl, rfl⟩
  by_cases hb : b = .nil
  · subst hb; exact .inr (.inl ⟨rfl, Doc.append.eq_2 a ha⟩)
  · exact .inr (.inr (Doc.append.eq_3 a b ha hb))

@[simp] theorem hard_append (a b : Doc) : (a ++ b).Hard ↔ a.Hard ∧ b.Hard := by
  rcases append_cases a b with ⟨rfl, h⟩ | ⟨rfl, h⟩ | h <;> rw [h] <;> simp [Doc.Hard]

@[simp] theorem hard_tokD (t : Tok) : (tokD t).Hard := by
  unfold tokD; split <;> simp [Doc.Hard]

@[simp] theorem hard_kw (s : String) : (kw s).Hard := hard_tokD _
@[simp] theorem hard_sym (s : String) : (sym s).Hard := hard_tokD _
@[simp] theorem hard_ident (s : String) : (ident s).Hard := hard_tokD _
@[simp] theorem hard_sp : Doc.sp.Hard := trivial
@[simp] theorem hard_nil : Doc.nil.Hard := trivial
@[simp] theorem hard_hardline : Doc.hardline.Hard := trivial

@[simp] theorem hard_nestD (n : Nat) (d : Doc) : (nestD n d).Hard ↔ d.Hard := by
  cases d <;> simp [nestD, Doc.Hard]

theorem intersperse_closed {P : Doc → Prop} (hnil : P .nil) (happ : ∀ a b, P a → P b → P (a ++ b)) {sep : Doc} (hs : P sep)
    {ds : List Doc} (hd : ∀ d ∈ ds, P d) : P (intersperse sep ds) := by
  have foldl : ∀ (ds : List Doc) (acc : Doc), P acc → (∀ d ∈ ds, P d) → P (ds.foldl (fun acc x => acc ++ sep ++ x) acc) := by
    intro ds
    induction ds with
    | nil => exact fun _ h _ => h
    | cons d ds ih =>
      exact fun acc h hd => ih _ (happ _ _ (happ _ _ h hs) (hd d List.mem_cons_self)) fun x hx => hd x (List.mem_cons_of_mem _ hx)
  cases ds with
  | nil => exact hnil
  | cons d ds => exact foldl ds d (hd d List.mem_cons_self) fun x hx => hd x (List.mem_cons_of_mem _ hx)

theorem hard_intersperse {sep : Doc} {ds : List Doc} (hs : sep.Hard) (hd : ∀ d ∈ ds, d.Hard) : (intersperse sep ds).Hard :=
  intersperse_closed trivial (fun a b ha hb => (hard_append a b).2 ⟨ha, hb⟩) hs hd

theorem hard_commas {ds : List Doc} (hd : ∀ d ∈ ds, d.Hard) : (intersperse (sym "," ++ Doc.sp) ds).Hard :=
  hard_intersperse (by simp) hd
theorem hard_lines {ds : List Doc} (hd : ∀ d ∈ ds, d.Hard) : (intersperse Doc.hardline ds).Hard :=
  hard_intersperse trivial hd

@[simp] theorem hard_toksDoc : ∀ ts : List Tok, (toksDoc ts).Hard
  | [] => trivial
  | [t] => hard_tokD t
  | t :: u :: us => by simp [toksDoc, hard_toksDoc (u :: us)]

@[simp] theorem hard_numDoc (s : String) : (numDoc s).Hard := by
  unfold numDoc; split <;> simp

mutual
theorem typeDoc_hard : ∀ t : GTy, (typeDoc t).Hard
  | .func ps r => by
      have := typeDoc_hard r
      cases r <;> simp_all [typeDoc, hard_commas (typeDocs_hard ps)]
  | .array _ e | .slice e | .ptr e => by simp [typeDoc, typeDoc_hard e]
  | .void | .unit | .bool | .int _ _ | .float _ | .string | .struct _ _ | .name _ => by simp [typeDoc]
theorem typeDocs_hard : ∀ ts : List GTy, ∀ d ∈ typeDocs ts, d.Hard
  | [] => by simp [typeDocs]
  | t :: ts => by simpa [typeDocs] using ⟨typeDoc_hard t, typeDocs_hard ts⟩
end

theorem paramsDoc_hard (ps : List (String × GTy)) : (paramsDoc ps).Hard := by
  refine hard_commas fun d hd => ?_
  obtain ⟨⟨p, t⟩, _, rfl⟩ := List.mem_map.1 hd
  simp [typeDoc_hard]

/-- Every case is one argument: the equation builds its document from hard parts (the hypotheses, `typeDoc_hard`) with `++`,
    `tokD`, `nestD`, `intersperse`, which keep `Hard`. -/
theorem docs_hard :
    (∀ e, (exprDoc e).Hard) ∧ (∀ ss, ∀ d ∈ stmtDocs ss, d.Hard) ∧ (∀ s, (stmtDoc s).Hard) ∧
    (∀ cs, ∀ d ∈ tcaseDocs cs, d.Hard) ∧ (∀ ss, (caseBody ss).Hard) ∧ (∀ cs, ∀ d ∈ caseDocs cs, d.Hard) ∧
    (∀ ss, (blockDoc ss).Hard) ∧ (∀ fs, ∀ d ∈ fieldDocs fs, d.Hard) ∧ (∀ es, ∀ d ∈ exprDocs es, d.Hard) := by
  apply exprDoc.mutual_induct (motive_1 := fun e => (exprDoc e).Hard) (motive_2 := fun ss => ∀ d ∈ stmtDocs ss, d.Hard)
    (motive_3 := fun s => (stmtDoc s).Hard) (motive_4 := fun cs => ∀ d ∈ tcaseDocs cs, d.Hard)
    (motive_5 := fun ss => (caseBody ss).Hard) (motive_6 := fun cs => ∀ d ∈ caseDocs cs, d.Hard)
    (motive_7 := fun ss => (blockDoc ss).Hard) (motive_8 := fun fs => ∀ d ∈ fieldDocs fs, d.Hard)
    (motive_9 := fun es => ∀ d ∈ exprDocs es, d.Hard)
  all_goals simp +contextual [exprDoc, exprDocs, fieldDocs, stmtDoc, stmtDocs, blockDoc, caseBody, caseDocs, tcaseDocs, panicTok,
    typeDoc_hard, hard_commas, hard_lines]

theorem exprDoc_hard : ∀ e : GExpr, (exprDoc e).Hard := docs_hard.1
theorem exprDocs_hard : ∀ es : List GExpr, ∀ d ∈ exprDocs es, d.Hard := docs_hard.2.2.2.2.2.2.2.2
theorem fieldDocs_hard : ∀ fs : List GField, ∀ d ∈ fieldDocs fs, d.Hard := docs_hard.2.2.2.2.2.2.2.1
theorem stmtDoc_hard : ∀ s : GStmt, (stmtDoc s).Hard := docs_hard.2.2.1
theorem stmtDocs_hard : ∀ ss : List GStmt, ∀ d ∈ stmtDocs ss, d.Hard := docs_hard.2.1
theorem blockDoc_hard : ∀ ss : List GStmt, (blockDoc ss).Hard := docs_hard.2.2.2.2.2.2.1
theorem caseBody_hard : ∀ ss : List GStmt, (caseBody ss).Hard := docs_hard.2.2.2.2.1
theorem caseDocs_hard : ∀ cs : List GCase, ∀ d ∈ caseDocs cs, d.Hard := docs_hard.2.2.2.2.2.1
theorem tcaseDocs_hard : ∀ cs : List GTCase, ∀ d ∈ tcaseDocs cs, d.Hard := docs_hard.2.2.2.1

/-! ## the layout does not depend on the width -/

/-- `best` carries the documents still to be laid out, so the invariant of its recursion is about all of them -/
def StackHard (s : List Cmd) : Prop := ∀ c ∈ s, c.2.2.Hard

theorem StackHard.tail {c : Cmd} {r : List Cmd} (h : StackHard (c :: r)) : StackHard r :=
  fun x hx => h x (List.mem_cons_of_mem _ hx)

theorem StackHard.cat {i : Nat} {f : Bool} {a b : Doc} {r : List Cmd} (h : StackHard ((i, f, .cat a b) :: r)) :
    StackHard ((i, f, a) :: (i, f, b) :: r) := by
  intro c hc
  have hab : (Doc.cat a b).Hard := h _ List.mem_cons_self
  simp only [List.mem_cons] at hc
  rcases hc with rfl | rfl | hc
  · exact hab.1
  · exact hab.2
  · exact h.tail c hc

theorem StackHard.nest {i j n : Nat} {f : Bool} {d : Doc} {r : List Cmd} (h : StackHard ((i, f, .nest n d) :: r)) :
    StackHard ((j, f, d) :: r) := by
  intro c hc
  have hd : (Doc.nest n d).Hard := h _ List.mem_cons_self
  simp only [List.mem_cons] at hc
  rcases hc with rfl | hc
  · exact hd
  · exact h.tail c hc

/-- the number beside a newline is the indentation written after it -/
def layChars : List (Piece × Nat) → List Char
  | [] => []
  | (.tok t, _) :: r => t.text.toList ++ layChars r
  | (.sp, _) :: r => ' ' :: layChars r
  | (.nl, k) :: r => '\n' :: (List.replicate k ' ' ++ layChars r)

/-- the pieces of a stack in the order `best` reaches them, each newline with the indentation `best` writes after it
    (`nlIndent`: that of the next pending command) -/
def stackLay : List Cmd → List (Piece × Nat)
  | [] => []
  | (i, f, d) :: r =>
    match d with
    | .nil => stackLay r
    | .tok t => (.tok t, 0) :: stackLay r
    | .sp => (.sp, 0) :: stackLay r
    | .hardline | .line => (.nl, nlIndent i r) :: stackLay r
    | .cat a b => stackLay ((i, f, a) :: (i, f, b) :: r)
    | .nest n d => stackLay ((i + n, f, d) :: r)
    | .group d => stackLay ((i, f, d) :: r)
termination_by s => stackSize s
decreasing_by all_goals simp [stackSize, Doc.size] <;> omega

theorem best_lay (w : Nat) : ∀ (col : Nat) (s : List Cmd), StackHard s → best w col s = layChars (stackLay s)
  | _, [], _ => by simp [best, stackLay, layChars]
  | col, (i, f, .nil) :: r, h => by rw [best, stackLay]; exact best_lay w col r h.tail
  | col, (i, f, .tok t) :: r, h => by rw [best, stackLay, layChars, best_lay w _ r h.tail]
  | col, (i, f, .sp) :: r, h => by rw [best, stackLay, layChars, best_lay w _ r h.tail]
  | col, (i, f, .hardline) :: r, h => by rw [best, stackLay, layChars, best_lay w _ r h.tail]; rfl
  | col, (i, f, .cat a b) :: r, h => by rw [best, stackLay]; exact best_lay w col _ h.cat
  | col, (i, f, .nest n d) :: r, h => by rw [best, stackLay]; exact best_lay w col _ h.nest
  | _, (_, _, .line) :: _, h => absurd (h _ List.mem_cons_self) (by simp [Doc.Hard])
  | _, (_, _, .group _) :: _, h => absurd (h _ List.mem_cons_self) (by simp [Doc.Hard])
termination_by _ s => stackSize s
decreasing_by all_goals simp [stackSize, Doc.size] <;> omega

theorem best_width_irrelevant (w w' : Nat) : ∀ (col : Nat) (s : List Cmd), StackHard s → best w col s = best w' col s :=
  fun col s h => by rw [best_lay w col s h, best_lay w' col s h]

theorem render_lay (w : Nat) (d : Doc) (h : d.Hard) : render w d = String.ofList (layChars (stackLay [(0, false, d)])) := by
  unfold render
  rw [best_lay w 0 [(0, false, d)] (by intro c hc; simp at hc; subst hc; exact h)]

theorem render_hard (w w' : Nat) (d : Doc) (h : d.Hard) : render w d = render w' d := by
  rw [render_lay w d h, render_lay w' d h]

theorem methodDoc_hard (m : GMethod) : (methodDoc m).Hard := by
  simp [methodDoc, typeDoc_hard, paramsDoc_hard, blockDoc_hard]

theorem funcDoc_hard (f : GFunc) : (funcDoc f).Hard := by
  unfold funcDoc
  cases f.ret <;> simp [typeDoc_hard, paramsDoc_hard, blockDoc_hard]

theorem methodElemDoc_hard (m : String × List (String × GTy) × Option GTy) : (methodElemDoc m).Hard := by
  unfold methodElemDoc
  cases m.2.2 <;> simp [typeDoc_hard, paramsDoc_hard]

theorem importSpecDoc_hard (sp : String × String) : (importSpecDoc sp).Hard := by
  unfold importSpecDoc
  split <;> simp

theorem hard_map {α} {f : α → Doc} (hf : ∀ a, (f a).Hard) (l : List α) : ∀ d ∈ l.map f, d.Hard := by
  intro d hd
  obtain ⟨a, _, rfl⟩ := List.mem_map.1 hd
  exact hf a

/-- no item's document contains a `line` or a `group`: the printer has exactly one layout -/
theorem itemDoc_hard (it : GItem) : (itemDoc it).Hard := by
  cases it with
  | package n => simp [itemDoc]
  | imports specs =>
    have := hard_lines (hard_map importSpecDoc_hard specs)
    cases specs <;> simp_all [itemDoc]
  | interface name methods =>
    have := hard_lines (hard_map methodElemDoc_hard methods)
    cases methods <;> simp_all [itemDoc]
  | structDef name fields methods =>
    have hf := hard_lines (hard_map (f := fun (p : String × GTy) => ident p.1 ++ Doc.sp ++ typeDoc p.2)
      (fun a => by simp [typeDoc_hard]) fields)
    have hm := hard_intersperse (sep := Doc.hardline ++ Doc.hardline) (by simp) (hard_map methodDoc_hard methods)
    cases fields <;> cases methods <;> simp_all [itemDoc]
  | alias name ty => simp [itemDoc, typeDoc_hard]
  | func f => simp [itemDoc, funcDoc_hard]

theorem fileDoc_hard (f : GFile) : (fileDoc f).Hard := by
  simp [fileDoc, hard_intersperse (sep := Doc.hardline ++ Doc.hardline) (by simp) (hard_map itemDoc_hard f.items)]

/-- **The layout is independent of the width** passed to `to_pretty` (the real default is 120): the text of an
    item, and of a whole file, is the same at every two widths.  (The printer builds its documents without `group`, `line`
    or `softline`: `Gen/GoPrintTables.docCombinators`, regenerated from the Rust text on every run, is the list of eight
    in `combinators_hard` below.) -/
theorem render_width_irrelevant (w w' : Nat) (it : GItem) : printItem w it = printItem w' it :=
  render_hard w w' _ (itemDoc_hard it)

theorem render_width_irrelevant_file (w w' : Nat) (f : GFile) : printFile w f = printFile w' f :=
  render_hard w w' _ (fileDoc_hard f)

theorem render_width_irrelevant_expr (w w' : Nat) (e : GExpr) : printExpr w e = printExpr w' e :=
  render_hard w w' _ (exprDoc_hard e)

/-- the Doc combinators go_pprint.rs uses (extracted from its text) are the ones the model has, none of them a
    soft break; a `group()` / `line()` / `softline()` added to the Rust changes the generated list and this fails -/
theorem combinators_hard :
    Gen.GoPrintTables.docCombinators = ["append", "as_string", "hardline", "intersperse", "nest", "nil", "space", "text"] := by
  decide +kernel

/-- the fixed texts the Rust writes are the ones the model was written against (a keyword respelled or a new
    text literal in go_pprint.rs changes the generated list) -/
theorem text_literals_as_modelled :
    Gen.GoPrintTables.textLiterals =
      ["", "!", "!=", "\"", "&", "&&", "(", ")", "*", "+", ",", ", ", "-", ".", ".(", ".(type)", "/", ":", ":=", "<", "<=",
       "=", "==", ">", ">=", "[", "[]", "]", "break", "case", "default:", "else", "for", "func", "func(", "go", "if",
       "import (", "import ()", "interface", "nil", "package", "return", "struct", "struct{}{}", "switch", "type", "var",
       "{", "{}", "||", "}"] := by
  decide +kernel

/-! ## `print_expr_roundtrip`: the printed tokens parse back to the tree (Go's precedence rules)

The grammar (Go spec "Operators", "Primary expressions"; the shape of `go/parser`'s `parseBinaryExpr` /
`parseUnaryExpr` / `parsePrimaryExpr`) is given as the big-step relation `Parse` over the printer's token
stream; it is deterministic (`parse_deterministic`), so "`Parse … e rest`" means: this is what a Go parser
reads.  The subset: identifiers (`Var`, `nil`, `true`/`false`), integer, float and string literals (a negative
number is `-` applied to a literal; a literal is one opaque token here — `escape_go_string_decodes` is about the
inside of a string token), calls, selectors, index expressions, the four unary and twelve binary operators.
Outside it (not in this theorem): type assertions and composite literals (they need the type grammar). -/

/-- what a parser builds: the tree without the back end's type annotations -/
inductive PE where
  | ident (x : String)
  | num (s : String)
  | str (s : String)
  | paren (e : PE)
  | un (op : GUn) (e : PE)
  | bin (op : GBin) (l r : PE)
  | call (f : PE) (args : List PE)
  | sel (o : PE) (f : String)
  | index (a i : PE)

abbrev TS := List (Option Tok)

def unOfSym (s : String) : Option GUn := [GUn.neg, .not, .addr, .deref].find? fun u => unSym u == s
def binOfSym (s : String) : Option GBin :=
  [GBin.add, .sub, .mul, .div, .less, .greater, .lessEq, .greaterEq, .eq, .notEq, .and, .or].find? fun b => binSym b == s

/-- the generated operator tables: every operator has a non-empty text that names it alone, and no binary operator is
    spelled like the start of a postfix form -/
theorem unSym_spec (u : GUn) : (unSym u).isEmpty = false ∧ unOfSym (unSym u) = some u := by cases u <;> decide
theorem binSym_spec (b : GBin) : (binSym b).isEmpty = false ∧ binOfSym (binSym b) = some b ∧
    (binSym b == "." || binSym b == "(" || binSym b == "[") = false := by cases b <;> decide

theorem unSym_ne_empty (u : GUn) : (unSym u).isEmpty = false := (unSym_spec u).1
theorem unOfSym_unSym (u : GUn) : unOfSym (unSym u) = some u := (unSym_spec u).2
theorem binSym_ne_empty (b : GBin) : (binSym b).isEmpty = false := (binSym_spec b).1
theorem binOfSym_binSym (b : GBin) : binOfSym (binSym b) = some b := (binSym_spec b).2.1
theorem binSym_not_postStart (b : GBin) : (binSym b == "." || binSym b == "(" || binSym b == "[") = false := (binSym_spec b).2.2
theorem binPrec_le (b : GBin) : binPrec b ≤ 5 := by cases b <;> decide +kernel
theorem binPrec_pos (b : GBin) : 1 ≤ binPrec b := by cases b <;> decide +kernel

/-- precedence of the binary operator at the head of the input, 0 when there is none -/
def headPrec : TS → Nat
  | some (.sym s) :: _ => ((binOfSym s).map binPrec).getD 0
  | _ => 0

/-- does the input continue a primary expression (`.f`, `(args)`, `[i]`)? -/
def postStart : TS → Bool
  | some (.sym s) :: _ => s == "." || s == "(" || s == "["
  | _ => false

/-- `post x`, `loop p x` carry the tree read so far; `p` is the least precedence `parseBinaryExpr` still accepts -/
inductive NT where
  | unary | post (x : PE) | bin (p : Nat) | loop (p : Nat) (x : PE) | args | more

inductive Res where
  | e (x : PE) | es (xs : List PE)

/-- `Parse nt input result rest`: non-terminal `nt` consumes a prefix of `input`, builds `result`, leaves `rest`.
    A fixed symbol is read as a variable `s` with a premise `s = "("`: `cases` then has no string literals to unify. -/
inductive Parse : NT → TS → Res → TS → Prop where
  -- UnaryExpr = unary_op UnaryExpr | PrimaryExpr
  | u_un {s u ts x r} : unOfSym s = some u → Parse .unary ts (.e x) r → Parse .unary (some (.sym s) :: ts) (.e (.un u x)) r
  | u_ident {x ts res r} : Parse (.post (.ident x)) ts res r → Parse .unary (some (.ident x) :: ts) res r
  | u_num {n ts res r} : Parse (.post (.num n)) ts res r → Parse .unary (some (.num n) :: ts) res r
  | u_str {n ts res r} : Parse (.post (.str n)) ts res r → Parse .unary (some (.str n) :: ts) res r
  | u_paren {s ts x r res r'} : s = "(" → Parse (.bin 1) ts (.e x) (some (.sym ")") :: r) → Parse (.post (.paren x)) r res r' →
      Parse .unary (some (.sym s) :: ts) res r'
  -- PrimaryExpr = Operand { Selector | Index | Arguments }
  | p_sel {s x f ts res r} : s = "." → Parse (.post (.sel x f)) ts res r → Parse (.post x) (some (.sym s) :: some (.ident f) :: ts) res r
  | p_call {s x ts as r res r'} : s = "(" → Parse .args ts (.es as) r → Parse (.post (.call x as)) r res r' →
      Parse (.post x) (some (.sym s) :: ts) res r'
  | p_index {s x ts i r res r'} : s = "[" → Parse (.bin 1) ts (.e i) (some (.sym "]") :: r) → Parse (.post (.index x i)) r res r' →
      Parse (.post x) (some (.sym s) :: ts) res r'
  | p_stop {x ts} : postStart ts = false → Parse (.post x) ts (.e x) ts
  -- parseBinaryExpr(prec1): a unary expression, then every operator of precedence ≥ prec1, each with a right
  -- operand parsed at its own precedence + 1 (left associativity)
  | b {p ts x r res r'} : Parse .unary ts (.e x) r → Parse (.loop p x) r res r' → Parse (.bin p) ts res r'
  | l_step {p x s b ts y r res r'} : binOfSym s = some b → p ≤ binPrec b → Parse (.bin (binPrec b + 1)) ts (.e y) r →
      Parse (.loop p (.bin b x y)) r res r' → Parse (.loop p x) (some (.sym s) :: ts) res r'
  | l_stop {p x ts} : headPrec ts < p → Parse (.loop p x) ts (.e x) ts
  -- Arguments = "(" [ Expression { "," Expression } ] ")"
  | a_nil {s r} : s = ")" → Parse .args (some (.sym s) :: r) (.es []) r
  | a_cons {ts a r as r'} : Parse (.bin 1) ts (.e a) r → Parse .more r (.es as) r' → Parse .args ts (.es (a :: as)) r'
  | m_done {s r} : s = ")" → Parse .more (some (.sym s) :: r) (.es []) r
  | m_more {s ts a r as r'} : s = "," → Parse (.bin 1) ts (.e a) r → Parse .more r (.es as) r' →
      Parse .more (some (.sym s) :: ts) (.es (a :: as)) r'

def eraseNum (text : String) : PE :=
  match text.toList with
  | '-' :: rest => .un .neg (.num (String.ofList rest))
  | _ => .num text

mutual
/-- the tree a parser should find in the text of `e` -/
def erase : GExpr → PE
  | .nil _ => .ident "nil"
  | .var x _ => .ident x
  | .bool b => .ident (if b then "true" else "false")
  | .int text _ => eraseNum text
  | .float bits _ => eraseNum (goFloatLiteral bits.toNat)
  | .str v => .str ("\"" ++ escapeGoString v ++ "\"")
  | .call _ f args => .call (erase f) (eraseList args)
  | .un op _ e => .un op (erase e)
  | .bin op _ l r => .bin op (erase l) (erase r)
  | .field f _ o => .sel (erase o) f
  | .index _ a i => .index (erase a) (erase i)
  | _ => .ident "<outside the subset>"
def eraseList : List GExpr → List PE
  | [] => []
  | e :: es => erase e :: eraseList es
end

@[simp] theorem items_append (a b : Doc) : (a ++ b).items = a.items ++ b.items := by
  rcases append_cases a b with ⟨rfl, h⟩ | ⟨rfl, h⟩ | h <;> rw [h] <;> simp [Doc.items]

theorem items_tokD {t : Tok} (h : t.text.isEmpty = false) : (tokD t).items = [some t] := by
  simp [tokD, h, Doc.items]

@[simp] theorem items_sp : Doc.sp.items = [] := rfl

theorem items_sym_un (u : GUn) : (sym (unSym u)).items = [some (.sym (unSym u))] := items_tokD (unSym_ne_empty u)
theorem items_sym_bin (b : GBin) : (sym (binSym b)).items = [some (.sym (binSym b))] := items_tokD (binSym_ne_empty b)

theorem items_foldl (sep : Doc) : ∀ (ds : List Doc) (acc : Doc),
    (ds.foldl (fun acc x => acc ++ sep ++ x) acc).items = acc.items ++ ds.flatMap (fun x => sep.items ++ x.items) := by
  intro ds
  induction ds with
  | nil => intro acc; simp
  | cons d ds ih => intro acc; simp [List.foldl, ih, List.flatMap_cons]

theorem items_intersperse_cons (sep d : Doc) (ds : List Doc) :
    (intersperse sep (d :: ds)).items = d.items ++ ds.flatMap (fun x => sep.items ++ x.items) := by
  simp [intersperse, items_foldl]

def RT1 (e : GExpr) : Prop :=
  ∀ rest res r', Parse (.post (erase e)) rest res r' → Parse .unary ((exprDoc e).items ++ rest) res r'
def RT2 (e : GExpr) : Prop :=
  ∀ rest, postStart rest = false → Parse .unary ((exprDoc e).items ++ rest) (.e (erase e)) rest
/-- `headPrec rest ≤ level e`: what follows binds no tighter than `e`'s own head, so the operators of `e` are taken first -/
def RT3 (e : GExpr) : Prop :=
  ∀ p, p ≤ level e → p ≤ 6 → ∀ rest res r', postStart rest = false → headPrec rest ≤ level e →
    Parse (.loop p (erase e)) rest res r' → Parse (.bin p) ((exprDoc e).items ++ rest) res r'

theorem rt2_of_rt1 {e} (h : RT1 e) : RT2 e := fun rest hr => h rest _ _ (.p_stop hr)
theorem rt3_of_rt2 {e} (h : RT2 e) : RT3 e := fun _ _ _ rest _ _ hr _ hl => .b (h rest hr) hl

/-- the statement proved by induction: as the base of a postfix form (level 7), as a unary operand (level ≥ 6),
    as a binary operand at any precedence the expression's level allows -/
structure RT (e : GExpr) : Prop where
  post : level e = 7 → RT1 e
  unary : 6 ≤ level e → RT2 e
  bin : RT3 e

theorem rt_of_rt1 {e} (h : RT1 e) : RT e := ⟨fun _ => h, fun _ => rt2_of_rt1 h, rt3_of_rt2 (rt2_of_rt1 h)⟩
theorem rt_of_rt2 {e} (h6 : level e = 6) (h : RT2 e) : RT e :=
  ⟨fun h7 => by omega, fun _ => h, rt3_of_rt2 h⟩

theorem level_le (e : GExpr) : level e ≤ 7 := by
  cases e with
  | bin op => have := binPrec_le op; simp only [level]; omega
  | int | float => simp only [level]; split <;> omega
  | _ => simp only [level]; omega
theorem level_pos (e : GExpr) : 1 ≤ level e := by
  cases e with
  | bin op => have := binPrec_pos op; simp only [level]; omega
  | int | float => simp only [level]; split <;> omega
  | _ => simp only [level]; omega

/-- `inSubset e ∧ exprParenFree e` as a relation (`sub_of`), one rule per node kind with the side conditions the two checks impose
    there; what is proved about expressions of the subset is an induction over it. -/
inductive SubPF : GExpr → Prop
  | nil (t) : SubPF (.nil t)
  | bool (b) : SubPF (.bool b)
  | var {x} (t) : x.isEmpty = false → SubPF (.var x t)
  | int {text} (t) : numOK text = true → SubPF (.int text t)
  | float {bits} (t) : numOK (goFloatLiteral bits.toNat) = true → SubPF (.float bits t)
  | str (v) : SubPF (.str v)
  | call (t) {f args} : level f = 7 → SubPF f → (∀ a ∈ args, SubPF a) → SubPF (.call t f args)
  | un (op t) {e} : 6 ≤ level e → startsWithSym (unSym op) e = false → SubPF e → SubPF (.un op t e)
  | bin (op t) {l r} : binPrec op ≤ level l → binPrec op < level r → SubPF l → SubPF r → SubPF (.bin op t l r)
  | field {f} (t) {o} : f.isEmpty = false → level o = 7 → isNumLit o = false → SubPF o → SubPF (.field f t o)
  | index (t) {a i} : level a = 7 → SubPF a → SubPF i → SubPF (.index t a i)

theorem level_eq7 {e : GExpr} (h : 7 ≤ level e) : level e = 7 := Nat.le_antisymm (level_le e) h

mutual
theorem sub_of : ∀ e : GExpr, inSubset e = true → exprParenFree e = true → SubPF e
  | .nil t, _, _ => .nil t
  | .bool b, _, _ => .bool b
  | .str v, _, _ => .str v
  | .var x t, hs, _ => .var t (by simpa [inSubset] using hs)
  | .int text t, hs, _ => .int t (by simpa [inSubset] using hs)
  | .float bits t, hs, _ => .float t (by simpa [inSubset] using hs)
  | .call t f args, hs, hp => by
      simp only [inSubset, Bool.and_eq_true] at hs
      simp only [exprParenFree, Bool.and_eq_true, decide_eq_true_eq] at hp
      obtain ⟨⟨hf7, hpf⟩, hpa⟩ := hp
      exact .call t (level_eq7 hf7) (sub_of f hs.1 hpf) (subs_of args hs.2 hpa)
  | .un op t e, hs, hp => by
      simp only [inSubset] at hs
      simp only [exprParenFree, Bool.and_eq_true, decide_eq_true_eq, Bool.not_eq_true'] at hp
      obtain ⟨⟨h6, hsw⟩, hpe⟩ := hp
      exact .un op t h6 hsw (sub_of e hs hpe)
  | .bin op t l r, hs, hp => by
      simp only [inSubset, Bool.and_eq_true] at hs
      simp only [exprParenFree, Bool.and_eq_true, decide_eq_true_eq] at hp
      obtain ⟨⟨⟨hql, hqr⟩, hpl⟩, hpr⟩ := hp
      exact .bin op t hql hqr (sub_of l hs.1 hpl) (sub_of r hs.2 hpr)
  | .field f t o, hs, hp => by
      simp only [inSubset, Bool.and_eq_true, Bool.not_eq_true'] at hs
      simp only [exprParenFree, Bool.and_eq_true, decide_eq_true_eq, Bool.not_eq_true'] at hp
      obtain ⟨⟨ho7, hnum⟩, hpo⟩ := hp
      exact .field t hs.1 (level_eq7 ho7) hnum (sub_of o hs.2 hpo)
  | .index t a i, hs, hp => by
      simp only [inSubset, Bool.and_eq_true] at hs
      simp only [exprParenFree, Bool.and_eq_true, decide_eq_true_eq] at hp
      obtain ⟨⟨ha7, hpa⟩, hpi⟩ := hp
      exact .index t (level_eq7 ha7) (sub_of a hs.1 hpa) (sub_of i hs.2 hpi)
  | .voidv _, hs, _ | .unitv _, hs, _ | .cast _ _, hs, _ | .slit _ _, hs, _
  | .alit _ _, hs, _ | .blocke _ _ _, hs, _ => by simp [inSubset] at hs
termination_by structural e => e
theorem subs_of : ∀ es : List GExpr, inSubsetList es = true → exprsParenFree es = true → ∀ a ∈ es, SubPF a
  | [], _, _ => by simp
  | e :: es, hs, hp => by
      simp only [inSubsetList, Bool.and_eq_true] at hs
      simp only [exprsParenFree, Bool.and_eq_true] at hp
      exact List.forall_mem_cons.2 ⟨sub_of e hs.1 hp.1, subs_of es hs.2 hp.2⟩
termination_by structural es => es
end

/-- as a whole expression: before input that neither continues a primary expression nor starts with a binary operator -/
theorem RT.whole {e : GExpr} (h : RT e) (rest : TS) (hr : postStart rest = false) (hh : headPrec rest = 0) :
    Parse (.bin 1) ((exprDoc e).items ++ rest) (.e (erase e)) rest :=
  h.bin 1 (level_pos e) (by omega) rest _ _ hr (by omega) (.l_stop (by omega))

theorem postStart_sym (s : String) (ts : TS) : postStart (some (.sym s) :: ts) = (s == "." || s == "(" || s == "[") := rfl
theorem headPrec_sym (s : String) (ts : TS) : headPrec (some (.sym s) :: ts) = ((binOfSym s).map binPrec).getD 0 := rfl

theorem headPrec_of {s : String} {b : GBin} (hb : binOfSym s = some b) (ts : TS) :
    headPrec (some (.sym s) :: ts) = binPrec b := by
  rw [headPrec_sym, hb]; rfl
theorem headPrec_closer (s : String) (hs : binOfSym s = none) (rest : TS) : headPrec (some (.sym s) :: rest) = 0 := by
  rw [headPrec_sym, hs]; rfl
theorem postStart_binSym (b : GBin) (rest : TS) : postStart (some (.sym (binSym b)) :: rest) = false :=
  binSym_not_postStart b

def commaItems : TS := (sym "," ++ Doc.sp).items
theorem commaItems_eq : commaItems = [some (.sym ",")] := rfl

/-- the tokens of the 2nd, 3rd, … argument, each preceded by its comma -/
def moreItems (ds : List Doc) : TS := ds.flatMap fun x => commaItems ++ x.items

theorem moreItems_head (ds : List Doc) (rest : TS) :
    postStart (moreItems ds ++ some (.sym ")") :: rest) = false ∧ headPrec (moreItems ds ++ some (.sym ")") :: rest) = 0 := by
  cases ds with
  | nil => exact ⟨rfl, headPrec_closer ")" (by decide +kernel) rest⟩
  | cons d ds =>
    simp only [moreItems, List.flatMap_cons, commaItems_eq, List.cons_append, List.nil_append, List.append_assoc]
    exact ⟨rfl, headPrec_closer "," (by decide +kernel) _⟩

def numFirst (text : String) : Tok :=
  match text.toList with
  | '-' :: _ => .sym "-"
  | _ => .num text
def numLast (text : String) : Tok :=
  match text.toList with
  | '-' :: rest => .num (String.ofList rest)
  | _ => .num text

/-- what the functions that look at a numeric literal's `text` compute, given its unsigned part `body`: the document, the tree
    a parser finds, the sign, the first token (the last one is the number `body`) -/
structure NumText (text body : String) (doc : Doc) (tree : PE) (neg : Bool) (first : Tok) : Prop where
  ok : numOK text = !body.isEmpty
  doc_eq : numDoc text = doc
  erase_eq : eraseNum text = tree
  neg_eq : isNegText text = neg
  first_eq : numFirst text = first
  last_eq : numLast text = .num body

/-- a numeric literal text is `-` and the unsigned text after it (two tokens, read as a negation) … -/
theorem num_neg {text : String} {rest : List Char} (h : text.toList = '-' :: rest) :
    NumText text (String.ofList rest) (sym "-" ++ tokD (.num (String.ofList rest))) (.un .neg (.num (String.ofList rest)))
      true (.sym "-") := by
  constructor <;> simp only [numOK, numDoc, eraseNum, isNegText, numFirst, numLast, h]

/-- … or one token -/
theorem num_nonneg {text : String} (h : ∀ rest, text.toList ≠ '-' :: rest) :
    NumText text text (tokD (.num text)) (.num text) false (.num text) := by
  constructor <;> simp only [numOK, numDoc, eraseNum, isNegText, numFirst, numLast] <;> split <;>
    first | rfl | exact absurd ‹_› (h _)

theorem rt_numlit (e : GExpr) (text : String) (hs' : numOK text = true) (hdoc : exprDoc e = numDoc text)
    (her : erase e = eraseNum text) (hlv : level e = if isNegText text then 6 else 7) : RT e := by
  by_cases hneg : ∃ cs, text.toList = '-' :: cs
  · obtain ⟨cs, htl⟩ := hneg
    have hn := num_neg htl
    have hne : (String.ofList cs).isEmpty = false := by simpa [hn.ok] using hs'
    refine rt_of_rt2 (by rw [hlv, hn.neg_eq]; rfl) fun rest hr => ?_
    rw [hdoc, hn.doc_eq, her, hn.erase_eq, items_append, items_tokD (t := .num (String.ofList cs)) hne]
    exact .u_un (by decide +kernel) (.u_num (.p_stop hr))
  · have hn := num_nonneg fun cs h => hneg ⟨cs, h⟩
    have hne : text.isEmpty = false := by simpa [hn.ok] using hs'
    refine rt_of_rt1 fun rest res r' h => ?_
    rw [hdoc, hn.doc_eq, items_tokD (t := .num text) hne]
    rw [her, hn.erase_eq] at h
    exact .u_num h

theorem rt_ident {e : GExpr} {x : String} (hi : (exprDoc e).items = [some (.ident x)]) (he : erase e = .ident x) : RT e :=
  rt_of_rt1 fun rest res r' h => by rw [hi]; rw [he] at h; exact .u_ident h

theorem items_call (t : GTy) (f : GExpr) (args : List GExpr) : (exprDoc (.call t f args)).items =
    (exprDoc f).items ++ some (.sym "(") :: ((intersperse (sym "," ++ Doc.sp) (exprDocs args)).items ++ [some (.sym ")")]) := by
  rw [exprDoc]; simp only [items_append, List.append_assoc]; rfl
theorem items_un (op : GUn) (t : GTy) (e : GExpr) :
    (exprDoc (.un op t e)).items = some (.sym (unSym op)) :: (exprDoc e).items := by
  rw [exprDoc, items_append, items_sym_un]; rfl
theorem items_bin (op : GBin) (t : GTy) (l r : GExpr) : (exprDoc (.bin op t l r)).items =
    (exprDoc l).items ++ some (.sym (binSym op)) :: (exprDoc r).items := by
  rw [exprDoc]; simp only [items_append, items_sym_bin, items_sp, List.append_assoc, List.append_nil]; rfl
theorem items_field {f : String} (hf : f.isEmpty = false) (t : GTy) (o : GExpr) :
    (exprDoc (.field f t o)).items = (exprDoc o).items ++ [some (.sym "."), some (.ident f)] := by
  rw [exprDoc]; simp only [items_append, List.append_assoc]
  rw [show (ident f).items = [some (.ident f)] from items_tokD hf]; rfl
theorem items_index (t : GTy) (a i : GExpr) : (exprDoc (.index t a i)).items =
    (exprDoc a).items ++ some (.sym "[") :: ((exprDoc i).items ++ [some (.sym "]")]) := by
  rw [exprDoc]; simp only [items_append, List.append_assoc]; rfl

theorem rtMore_of : ∀ es : List GExpr, (∀ a ∈ es, RT a) → ∀ rest : TS,
    Parse .more (moreItems (exprDocs es) ++ some (.sym ")") :: rest) (.es (eraseList es)) rest
  | [], _, rest => by rw [exprDocs, eraseList]; exact .m_done rfl
  | e :: es, h, rest => by
      obtain ⟨he, hes⟩ := List.forall_mem_cons.1 h
      have hh := moreItems_head (exprDocs es) rest
      rw [exprDocs, eraseList, show moreItems (exprDoc e :: exprDocs es) ++ some (.sym ")") :: rest =
          some (.sym ",") :: ((exprDoc e).items ++ (moreItems (exprDocs es) ++ some (.sym ")") :: rest)) from by
        simp [moreItems, commaItems_eq]]
      exact .m_more rfl (he.whole _ hh.1 hh.2) (rtMore_of es hes rest)

theorem rtArgs_of : ∀ es : List GExpr, (∀ a ∈ es, RT a) → ∀ rest : TS,
    Parse .args ((intersperse (sym "," ++ Doc.sp) (exprDocs es)).items ++ some (.sym ")") :: rest) (.es (eraseList es)) rest
  | [], _, rest => by rw [exprDocs, eraseList]; exact .a_nil rfl
  | e :: es, h, rest => by
      obtain ⟨he, hes⟩ := List.forall_mem_cons.1 h
      have hh := moreItems_head (exprDocs es) rest
      rw [exprDocs, eraseList, items_intersperse_cons, List.append_assoc]
      exact .a_cons (he.whole _ hh.1 hh.2) (rtMore_of es hes rest)

theorem SubPF.roundtrip {e : GExpr} (h : SubPF e) : RT e := by
  induction h with
  | nil t => exact rt_ident (by rw [exprDoc]; decide +kernel) rfl
  | bool b => cases b <;> exact rt_ident (by rw [exprDoc]; decide +kernel) rfl
  | var t hx => exact rt_ident (by rw [exprDoc]; exact items_tokD hx) rfl
  | int t hn => exact rt_numlit _ _ hn (by rw [exprDoc]) (by rw [erase]) (by simp only [level])
  | float t hn => exact rt_numlit _ _ hn (by rw [exprDoc]) (by rw [erase]) (by simp only [level])
  | «str» v =>
      refine rt_of_rt1 fun rest res r' h => ?_
      have hne : ("\"" ++ escapeGoString v ++ "\"").isEmpty = false := by simp [String.isEmpty]
      rw [show (exprDoc (GExpr.str v)).items = [some (.str ("\"" ++ escapeGoString v ++ "\""))] from by
        rw [exprDoc]; exact items_tokD hne]
      rw [erase] at h
      exact .u_str h
  | @call t f args hf7 _ _ ihf iha =>
      refine rt_of_rt1 fun rest res r' h => ?_
      rw [erase] at h
      have := ihf.post hf7 _ res r' (.p_call rfl (rtArgs_of args iha rest) h)
      rw [items_call]
      simpa only [List.append_assoc, List.cons_append, List.nil_append] using this
  | @field fl t o hfl ho7 _ _ ih =>
      refine rt_of_rt1 fun rest res r' h => ?_
      rw [erase] at h
      have := ih.post ho7 (some (.sym ".") :: some (.ident fl) :: rest) res r' (.p_sel rfl h)
      rw [items_field hfl]
      simpa only [List.append_assoc, List.cons_append, List.nil_append] using this
  | @index t a i ha7 _ _ iha ihi =>
      refine rt_of_rt1 fun rest res r' h => ?_
      rw [erase] at h
      have hi := ihi.whole (some (.sym "]") :: rest) rfl (headPrec_closer "]" (by decide +kernel) rest)
      have := iha.post ha7 _ res r' (.p_index rfl hi h)
      rw [items_index]
      simpa only [List.append_assoc, List.cons_append, List.nil_append] using this
  | @un op t e h6 _ _ ih =>
      refine rt_of_rt2 rfl fun rest hr => ?_
      rw [items_un, erase]
      exact .u_un (unOfSym_unSym op) (ih.unary h6 rest hr)
  | @bin op t l r hql hqr _ _ ihl ihr =>
      have hq5 := binPrec_le op
      refine ⟨fun h7 => by simp only [level] at h7; omega, fun h6 => by simp only [level] at h6; omega, ?_⟩
      intro p hp hp6 rest res r' hr hh hl
      simp only [level] at hp hh
      rw [erase] at hl
      have hR : Parse (.bin (binPrec op + 1)) ((exprDoc r).items ++ rest) (.e (erase r)) rest :=
        ihr.bin (binPrec op + 1) (by omega) (by omega) rest _ _ hr (by omega) (.l_stop (by omega))
      have := ihl.bin p (by omega) hp6 (some (.sym (binSym op)) :: ((exprDoc r).items ++ rest)) res r'
        (postStart_binSym op _) (by rw [headPrec_of (binOfSym_binSym op)]; exact hql) (.l_step (binOfSym_binSym op) hp hR hl)
      rw [items_bin]
      simpa only [List.append_assoc, List.cons_append, List.nil_append] using this

theorem rtArgs : ∀ es : List GExpr, inSubsetList es = true → exprsParenFree es = true → ∀ rest : TS,
    Parse .args ((intersperse (sym "," ++ Doc.sp) (exprDocs es)).items ++ some (.sym ")") :: rest) (.es (eraseList es)) rest :=
  fun es hs hp => rtArgs_of es fun a m => (subs_of es hs hp a m).roundtrip
theorem rtMore : ∀ es : List GExpr, inSubsetList es = true → exprsParenFree es = true → ∀ rest : TS,
    Parse .more (moreItems (exprDocs es) ++ some (.sym ")") :: rest) (.es (eraseList es)) rest :=
  fun es hs hp => rtMore_of es fun a m => (subs_of es hs hp a m).roundtrip

/-- **The parentheses the printer emits (none) are sufficient** on paren-free trees: the token stream the
    layout of `e` produces, followed by any input that neither continues a primary expression nor starts with a
    binary operator, is read by Go's expression grammar — five binary precedence levels, left associative; unary
    operators; postfix selector / index / call — as exactly the tree `e` (without its type annotations), and
    the parser stops at the end of `e`'s tokens.  `exprParenFree` is what the hypothesis costs: the back end must
    only build trees whose operands already bind tightly enough (checked per item by the tie, oracle
    `go-printer-model`). -/
theorem print_expr_roundtrip (e : GExpr) (hs : inSubset e = true) (hp : exprParenFree e = true)
    (rest : TS) (hr : postStart rest = false) (hh : headPrec rest = 0) :
    Parse (.bin 1) ((exprDoc e).items ++ rest) (.e (erase e)) rest :=
  (sub_of e hs hp).roundtrip.whole rest hr hh

theorem print_expr_roundtrip_whole (e : GExpr) (hs : inSubset e = true) (hp : exprParenFree e = true) :
    Parse (.bin 1) (exprDoc e).items (.e (erase e)) [] := by
  simpa using print_expr_roundtrip e hs hp [] rfl rfl

theorem unOfSym_lparen : unOfSym "(" = none := by decide +kernel

theorem unary_not_closer {s : String} (h : unOfSym s = none) (hs : s ≠ "(") {ts res r} :
    ¬ Parse .unary (some (.sym s) :: ts) res r := by
  intro hp
  cases hp with
  | u_un hu _ => rw [h] at hu; cases hu
  | u_paren hs' _ _ => exact hs hs'

/-- a token stream has at most one reading: every non-terminal picks its rule from the first token -/
theorem parse_deterministic {nt ts res r} (h : Parse nt ts res r) :
    ∀ {res' r'}, Parse nt ts res' r' → res = res' ∧ r = r' := by
  induction h with
  | u_un hu _ ih =>
    intro res' r' h2
    cases h2 with
    | u_un hu' h' => rw [hu] at hu'; cases hu'; obtain ⟨h1, h2⟩ := ih h'; cases h1; exact ⟨rfl, h2⟩
    | u_paren hs' _ _ => subst hs'; rw [unOfSym_lparen] at hu; cases hu
  | u_ident _ ih => intro res' r' h2; cases h2 with | u_ident h' => exact ih h'
  | u_num _ ih => intro res' r' h2; cases h2 with | u_num h' => exact ih h'
  | u_str _ ih => intro res' r' h2; cases h2 with | u_str h' => exact ih h'
  | u_paren hs _ _ ih1 ih2 =>
    intro res' r' h2
    cases h2 with
    | u_un hu' _ => subst hs; rw [unOfSym_lparen] at hu'; cases hu'
    | u_paren _ h1' h2' => obtain ⟨e1, e2⟩ := ih1 h1'; cases e1; cases e2; exact ih2 h2'
  | p_sel hs _ ih =>
    intro res' r' h2
    cases h2 with
    | p_sel _ h' => exact ih h'
    | p_call hs' _ _ => subst hs; exact absurd hs' (by decide +kernel)
    | p_index hs' _ _ => subst hs; exact absurd hs' (by decide +kernel)
    | p_stop hps => subst hs; rw [postStart_sym] at hps; exact absurd hps (by decide +kernel)
  | p_call hs _ _ ih1 ih2 =>
    intro res' r' h2
    cases h2 with
    | p_sel hs' _ => subst hs; exact absurd hs' (by decide +kernel)
    | p_call _ h1' h2' => obtain ⟨e1, e2⟩ := ih1 h1'; cases e1; cases e2; exact ih2 h2'
    | p_index hs' _ _ => subst hs; exact absurd hs' (by decide +kernel)
    | p_stop hps => subst hs; rw [postStart_sym] at hps; exact absurd hps (by decide +kernel)
  | p_index hs _ _ ih1 ih2 =>
    intro res' r' h2
    cases h2 with
    | p_sel hs' _ => subst hs; exact absurd hs' (by decide +kernel)
    | p_call hs' _ _ => subst hs; exact absurd hs' (by decide +kernel)
    | p_index _ h1' h2' => obtain ⟨e1, e2⟩ := ih1 h1'; cases e1; cases e2; exact ih2 h2'
    | p_stop hps => subst hs; rw [postStart_sym] at hps; exact absurd hps (by decide +kernel)
  | p_stop hps =>
    intro res' r' h2
    cases h2 with
    | p_sel hs' _ => subst hs'; rw [postStart_sym] at hps; exact absurd hps (by decide +kernel)
    | p_call hs' _ _ => subst hs'; rw [postStart_sym] at hps; exact absurd hps (by decide +kernel)
    | p_index hs' _ _ => subst hs'; rw [postStart_sym] at hps; exact absurd hps (by decide +kernel)
    | p_stop _ => exact ⟨rfl, rfl⟩
  | b _ _ ih1 ih2 =>
    intro res' r' h2
    cases h2 with
    | b h1' h2' => obtain ⟨e1, e2⟩ := ih1 h1'; cases e1; cases e2; exact ih2 h2'
  | l_step hb hp _ _ ih1 ih2 =>
    intro res' r' h2
    cases h2 with
    | l_step hb' _ h1' h2' =>
      rw [hb] at hb'; cases hb'
      obtain ⟨e1, e2⟩ := ih1 h1'; cases e1; cases e2; exact ih2 h2'
    | l_stop hlt => rw [headPrec_of hb] at hlt; omega
  | l_stop hlt =>
    intro res' r' h2
    cases h2 with
    | l_step hb' hp' _ _ => rw [headPrec_of hb'] at hlt; omega
    | l_stop _ => exact ⟨rfl, rfl⟩
  | a_nil hs =>
    intro res' r' h2
    cases h2 with
    | a_nil _ => exact ⟨rfl, rfl⟩
    | a_cons h1' _ =>
      subst hs
      cases h1' with | b hu _ => exact absurd hu (unary_not_closer (by decide +kernel) (by decide +kernel))
  | a_cons h1 _ ih1 ih2 =>
    intro res' r' h2
    cases h2 with
    | a_nil hs =>
      subst hs
      cases h1 with | b hu _ => exact absurd hu (unary_not_closer (by decide +kernel) (by decide +kernel))
    | a_cons h1' h2' =>
      obtain ⟨e1, e2⟩ := ih1 h1'; cases e1; cases e2
      obtain ⟨e3, e4⟩ := ih2 h2'; cases e3; exact ⟨rfl, e4⟩
  | m_done hs =>
    intro res' r' h2
    cases h2 with
    | m_done _ => exact ⟨rfl, rfl⟩
    | m_more hs' _ _ => subst hs; exact absurd hs' (by decide +kernel)
  | m_more hs _ _ ih1 ih2 =>
    intro res' r' h2
    cases h2 with
    | m_done hs' => subst hs; exact absurd hs' (by decide +kernel)
    | m_more _ h1' h2' =>
      obtain ⟨e1, e2⟩ := ih1 h1'; cases e1; cases e2
      obtain ⟨e3, e4⟩ := ih2 h2'; cases e3; exact ⟨rfl, e4⟩

theorem print_expr_roundtrip_unique (e : GExpr) (hs : inSubset e = true) (hp : exprParenFree e = true)
    (rest : TS) (hr : postStart rest = false) (hh : headPrec rest = 0) {res r}
    (h : Parse (.bin 1) ((exprDoc e).items ++ rest) res r) : res = .e (erase e) ∧ r = rest := by
  obtain ⟨h1, h2⟩ := parse_deterministic (print_expr_roundtrip e hs hp rest hr hh) h
  exact ⟨h1.symm, h2.symm⟩

/-! ## `escape_go_string_decodes`

Go's lexing of an *interpreted string literal* (spec "String literals", "Rune literals"), as a one-character-at-a-time
state machine (`lexStr`, in `Model/GoLex.lean`) started after the opening quote: it returns the decoded value and the input
after the closing quote.
(`\x`, octal and `\U` escapes are legal Go that the printer never writes; this reading rejects them — the theorem
only needs the forms the printer produces to be read as Go reads them.) -/

theorem hexVal_hexDigit : ∀ k : Fin 16, hexVal (hexDigit k.val) = some k.val := by decide +kernel

/-- Go rejects a surrogate in `\u`; the printer writes `\u` for control characters only, all below 0xA0 -/
theorem lexStr_hex4 (n : Nat) (hn : n < 0xD800) (rest : List Char) :
    lexStr (.uni 0 0) (hex4 n ++ rest) = consRes (Char.ofNat n) (lexStr .normal rest) := by
  have h1 := hexVal_hexDigit ⟨n / 4096 % 16, by omega⟩
  have h2 := hexVal_hexDigit ⟨n / 256 % 16, by omega⟩
  have h3 := hexVal_hexDigit ⟨n / 16 % 16, by omega⟩
  have h4 := hexVal_hexDigit ⟨n % 16, by omega⟩
  simp only at h1 h2 h3 h4
  have hv : (((0 * 16 + n / 4096 % 16) * 16 + n / 256 % 16) * 16 + n / 16 % 16) * 16 + n % 16 = n := by omega
  simp only [hex4, List.cons_append, List.nil_append, lexStr, h1, h2, h3, h4]
  simp only [hv]
  have : ¬ (0xD800 ≤ n ∧ n ≤ 0xDFFF) := by omega
  simp [this]

theorem escapeChar_cases (c : Char) :
    escapeChar c =
      if c = '"' then ['\\', '"'] else if c = '\\' then ['\\', '\\'] else if c = '\n' then ['\\', 'n']
      else if c = '\r' then ['\\', 'r'] else if c = '\t' then ['\\', 't']
      else if isControl c = true then '\\' :: 'u' :: hex4 c.toNat else [c] := by
  unfold escapeChar escapeTable Gen.GoPrintTables.escapes
  simp only [List.lookup]
  by_cases h1 : c = '"'
  · subst h1; rfl
  by_cases h2 : c = '\\'
  · subst h2; rfl
  by_cases h3 : c = '\n'
  · subst h3; rfl
  by_cases h4 : c = '\r'
  · subst h4; rfl
  by_cases h5 : c = '\t'
  · subst h5; rfl
  have b1 : (c == '"') = false := by simpa using h1
  have b2 : (c == '\\') = false := by simpa using h2
  have b3 : (c == '\n') = false := by simpa using h3
  have b4 : (c == '\r') = false := by simpa using h4
  have b5 : (c == '\t') = false := by simpa using h5
  simp [b1, b2, b3, b4, b5, h1, h2, h3, h4, h5]

theorem lexStr_escapeChar (c : Char) (tail : List Char) :
    lexStr .normal (escapeChar c ++ tail) = consRes c (lexStr .normal tail) := by
  rw [escapeChar_cases]
  by_cases h1 : c = '"'
  · subst h1; simp [lexStr, simpleEscape]
  by_cases h2 : c = '\\'
  · subst h2; simp [lexStr, simpleEscape]
  by_cases h3 : c = '\n'
  · subst h3; simp [lexStr, simpleEscape]
  by_cases h4 : c = '\r'
  · subst h4; simp [lexStr, simpleEscape]
  by_cases h5 : c = '\t'
  · subst h5; simp [lexStr, simpleEscape]
  simp only [h1, h2, h3, h4, h5, if_false]
  by_cases hc : isControl c = true
  · simp only [hc, if_true]
    have hn : c.toNat < 0xD800 := by
      simp only [isControl, Bool.or_eq_true, Bool.and_eq_true, decide_eq_true_eq] at hc
      omega
    simp only [List.cons_append, lexStr, if_true]
    simp only [show ('\\' : Char) = '"' ↔ False from by decide +kernel, show ('\\' : Char) = '\n' ↔ False from by decide +kernel, if_false]
    rw [lexStr_hex4 _ hn]
    have : Char.ofNat c.toNat = c := Char.ofNat_toNat c
    rw [this]
  · simp only [hc]
    simp [lexStr, h1, h2, h3]

/-- **`escape_go_string` is inverted by Go's string-literal lexing**, for every string: the text
    `escape_go_string(s)` followed by the closing quote (the printer puts the opening quote before it) is lexed as one
    interpreted string literal whose value is `s` — whatever characters `s` holds (quote, backslash, newline,
    carriage return, tab, the other control characters U+0000–U+001F / U+007F–U+009F, which become `\uXXXX`,
    and everything else, non-ASCII included, which is copied) — and lexing stops right after that quote. -/
theorem escape_go_string_decodes (s : List Char) (rest : List Char) :
    lexStr .normal (escapeChars s ++ '"' :: rest) = some (s, rest) := by
  induction s with
  | nil => simp [escapeChars, lexStr]
  | cons c cs ih =>
    rw [escapeChars, List.append_assoc, lexStr_escapeChar, ih]
    rfl

/-- the same on `String`s, as the printer builds the token: `"\"" ++ escape_go_string(value) ++ "\""` -/
theorem escape_go_string_decodes_string (v : String) :
    lexStr .normal ((escapeGoString v).toList ++ ['"']) = some (v.toList, []) := by
  have := escape_go_string_decodes v.toList []
  simpa [escapeGoString] using this

/-! ## `no_break_inserts_semicolon`

Go's lexer inserts a semicolon at a newline when the last token of the line is an identifier, a literal, one of
the keywords `break continue fallthrough return`, or one of `++ -- ) ] }` (spec "Semicolons").  The printer has
no optional break (`itemDoc_hard`), so the only breaks are its `hardline`s; the theorem is about those that fall
INSIDE an expression (in a struct literal): each follows `{` or `,`, after which nothing is inserted — the
expression is never cut by the semicolon rule, whatever precedes it.  (Between statements a semicolon is what Go's
grammar wants there; that the statement-level breaks sit only at statement boundaries is validated by the
parse-back oracle, not proved.) -/

def semiAfter : Tok → Bool
  | .ident _ | .num _ | .str _ => true
  | .kw s => s == "break" || s == "continue" || s == "fallthrough" || s == "return"
  | .sym s => s == "++" || s == "--" || s == ")" || s == "]" || s == "}"

/-- no newline of the stream follows a token that triggers semicolon insertion (`prev` = the last token seen);
    a newline before any token counts as unsafe -/
def breaksSafe : Option Tok → TS → Bool
  | _, [] => true
  | _, some t :: r => breaksSafe (some t) r
  | some t, none :: r => !semiAfter t && breaksSafe (some t) r
  | none, none :: _ => false

/-- the scan passes `l` and goes on from a state `p'`: the form of `breaksSafe … = true` that is closed under `++` -/
def Thru (l : TS) : Prop := ∀ p, ∃ p', ∀ rest, breaksSafe p (l ++ rest) = breaksSafe p' rest

theorem thru_nil : Thru [] := fun p => ⟨p, fun _ => rfl⟩
theorem thru_tok (t : Tok) : Thru [some t] := fun _ => ⟨some t, fun _ => by simp [breaksSafe]⟩
theorem thru_append {a b : TS} (ha : Thru a) (hb : Thru b) : Thru (a ++ b) := by
  intro p
  obtain ⟨p1, h1⟩ := ha p
  obtain ⟨p2, h2⟩ := hb p1
  exact ⟨p2, fun rest => by rw [List.append_assoc, h1, h2]⟩
theorem thru_allTok : ∀ l : TS, (∀ x ∈ l, x ≠ none) → Thru l
  | [], _ => thru_nil
  | none :: _, h => absurd rfl (h none List.mem_cons_self)
  | some t :: l, h => by
      have := thru_append (thru_tok t) (thru_allTok l (fun x hx => h x (List.mem_cons_of_mem _ hx)))
      simpa using this

theorem thru_tok_nl (t : Tok) (ht : semiAfter t = false) : Thru [some t, none] :=
  fun _ => ⟨some t, fun _ => by simp [breaksSafe, ht]⟩

def Doc.NoNl : Doc → Prop
  | .hardline | .line => False
  | .cat a b => a.NoNl ∧ b.NoNl
  | .nest _ d | .group d => d.NoNl
  | _ => True

@[simp] theorem noNl_append (a b : Doc) : (a ++ b).NoNl ↔ a.NoNl ∧ b.NoNl := by
  rcases append_cases a b with ⟨rfl, h⟩ | ⟨rfl, h⟩ | h <;> rw [h] <;> simp [Doc.NoNl]
@[simp] theorem noNl_tokD (t : Tok) : (tokD t).NoNl := by unfold tokD; split <;> simp [Doc.NoNl]
@[simp] theorem noNl_kw (s : String) : (kw s).NoNl := noNl_tokD _
@[simp] theorem noNl_sym (s : String) : (sym s).NoNl := noNl_tokD _
@[simp] theorem noNl_ident (s : String) : (ident s).NoNl := noNl_tokD _
@[simp] theorem noNl_sp : Doc.sp.NoNl := trivial
@[simp] theorem noNl_nil : Doc.nil.NoNl := trivial

theorem noNl_intersperse (sep : Doc) (hs : sep.NoNl) (ds : List Doc) (hd : ∀ d ∈ ds, d.NoNl) : (intersperse sep ds).NoNl :=
  intersperse_closed trivial (fun a b ha hb => (noNl_append a b).2 ⟨ha, hb⟩) hs hd

@[simp] theorem noNl_toksDoc (ts : List Tok) : (toksDoc ts).NoNl := by
  induction ts with
  | nil => trivial
  | cons t ts ih =>
    cases ts with
    | nil => simp [toksDoc]
    | cons u us => simp [toksDoc, ih]

@[simp] theorem noNl_numDoc (s : String) : (numDoc s).NoNl := by
  unfold numDoc
  split
  · exact (noNl_append _ _).2 ⟨noNl_sym _, noNl_tokD _⟩
  · exact noNl_tokD _

mutual
theorem typeDoc_noNl : ∀ t : GTy, (typeDoc t).NoNl
  | .func ps r => by
      have h1 := noNl_intersperse (sym "," ++ Doc.sp) (by simp) _ (typeDocs_noNl ps)
      have h2 := typeDoc_noNl r
      cases r <;> simp_all [typeDoc]
  | .array _ e | .slice e | .ptr e => by simp [typeDoc, typeDoc_noNl e]
  | .void | .unit | .bool | .int _ _ | .float _ | .string | .struct _ _ | .name _ => by simp [typeDoc]
theorem typeDocs_noNl : ∀ ts : List GTy, ∀ d ∈ typeDocs ts, d.NoNl
  | [] => by simp [typeDocs]
  | t :: ts => by simpa [typeDocs] using ⟨typeDoc_noNl t, typeDocs_noNl ts⟩
end

theorem items_noNl : ∀ d : Doc, d.NoNl → ∀ x ∈ d.items, x ≠ none
  | .nil, _ | .sp, _ => by simp [Doc.items]
  | .tok t, _ => by simp [Doc.items]
  | .hardline, h | .line, h => absurd h (by simp [Doc.NoNl])
  | .cat a b, h => by
      intro x hx
      simp only [Doc.items, List.mem_append] at hx
      rcases hx with hx | hx
      · exact items_noNl a h.1 x hx
      · exact items_noNl b h.2 x hx
  | .nest _ d, h => by simpa [Doc.items] using items_noNl d h
  | .group d, h => by simpa [Doc.items] using items_noNl d h

theorem thru_noNl (d : Doc) (h : d.NoNl) : Thru d.items := thru_allTok _ (items_noNl d h)

theorem semiAfter_lbrace : semiAfter (.sym "{") = false := by decide +kernel
theorem semiAfter_comma : semiAfter (.sym ",") = false := by decide +kernel

theorem items_nestD (n : Nat) (d : Doc) : (nestD n d).items = d.items := by cases d <;> rfl

/-- `intersperse hardline` gives "field (newline field)*"; with the closing newline that is "(field newline)*", the shape
    `thru_fields` recurses on -/
theorem flatMap_lines (d : Doc) (ds : List Doc) :
    d.items ++ ds.flatMap (fun x => [none] ++ x.items) ++ [none] = (d :: ds).flatMap (fun x => x.items ++ [none]) := by
  induction ds generalizing d with
  | nil => simp
  | cons e es ih =>
    have := ih e
    simp only [List.flatMap_cons, List.append_assoc] at this ⊢
    rw [← this]

theorem Thru.cat {a b : Doc} (ha : Thru a.items) (hb : Thru b.items) : Thru (a ++ b).items := by
  rw [items_append]; exact thru_append ha hb

theorem thru_tokD (t : Tok) : Thru (tokD t).items := thru_noNl _ (noNl_tokD t)
theorem thru_sp : Thru Doc.sp.items := thru_nil
theorem thru_typeDoc (t : GTy) : Thru (typeDoc t).items := thru_noNl _ (typeDoc_noNl t)

mutual
theorem thru_expr : ∀ e : GExpr, exprParenFree e = true → Thru (exprDoc e).items
  | .nil _, _ | .unitv _, _ | .var _ _, _ | .bool _, _ | .int _ _, _ | .float _ _, _ | .str _, _ =>
      thru_noNl _ (by simp [exprDoc])
  | .voidv _, hp | .blocke _ _ _, hp => by simp [exprParenFree] at hp
  | .call _ f args, hp => by
      simp only [exprParenFree, Bool.and_eq_true, decide_eq_true_eq] at hp
      obtain ⟨⟨-, hf⟩, ha⟩ := hp
      rw [exprDoc]
      exact (((thru_expr f hf).cat (thru_tokD _)).cat (thru_args args ha)).cat (thru_tokD _)
  | .un _ _ e, hp => by
      simp only [exprParenFree, Bool.and_eq_true, decide_eq_true_eq] at hp
      rw [exprDoc]
      exact (thru_tokD _).cat (thru_expr e hp.2)
  | .bin _ _ l r, hp => by
      simp only [exprParenFree, Bool.and_eq_true, decide_eq_true_eq] at hp
      rw [exprDoc]
      obtain ⟨⟨-, hl⟩, hr⟩ := hp
      exact ((((thru_expr l hl).cat thru_sp).cat (thru_tokD _)).cat thru_sp).cat (thru_expr r hr)
  | .field _ _ o, hp => by
      simp only [exprParenFree, Bool.and_eq_true, decide_eq_true_eq] at hp
      rw [exprDoc]
      exact ((thru_expr o hp.2).cat (thru_tokD _)).cat (thru_tokD _)
  | .index _ a i, hp => by
      simp only [exprParenFree, Bool.and_eq_true, decide_eq_true_eq] at hp
      rw [exprDoc]
      obtain ⟨⟨-, ha⟩, hi⟩ := hp
      exact (((thru_expr a ha).cat (thru_tokD _)).cat (thru_expr i hi)).cat (thru_tokD _)
  | .cast ty e, hp => by
      simp only [exprParenFree, Bool.and_eq_true, decide_eq_true_eq] at hp
      rw [exprDoc]
      exact ((((thru_expr e hp.2).cat (thru_tokD _)).cat (thru_tokD _)).cat (thru_typeDoc ty)).cat (thru_tokD _)
  | .slit ty [], _ => thru_noNl _ (by simp [exprDoc])
  | .slit ty (.mk n e :: fs), hp => by
      simp only [exprParenFree] at hp
      -- `T {` newline, then every field line with its newline, `}`
      have hl : Thru ((sym "{").items ++ [none]) := thru_tok_nl _ semiAfter_lbrace
      have := thru_append (thru_append (thru_append (thru_noNl _ (noNl_toksDoc (typeNameToks ty))) hl)
        (thru_fields (.mk n e :: fs) hp)) (thru_tokD (.sym "}"))
      rw [fieldDocs, ← flatMap_lines] at this
      rw [exprDoc, fieldDocs]
      simp only [items_append, items_nestD, items_intersperse_cons, List.append_assoc] at this ⊢
      exact this
  | .alit ty elems, hp => by
      simp only [exprParenFree, Bool.and_eq_true] at hp
      have h2 := thru_args elems hp.2
      cases ty with
      | array n t =>
        rw [exprDoc]
        exact ((((((thru_tokD _).cat (thru_tokD _)).cat (thru_tokD _)).cat (thru_typeDoc t)).cat (thru_tokD _)).cat h2).cat (thru_tokD _)
      | slice t =>
        rw [exprDoc]
        exact (((((thru_tokD _).cat (thru_tokD _)).cat (thru_typeDoc t)).cat (thru_tokD _)).cat h2).cat (thru_tokD _)
      | _ => exact absurd hp.1 (by simp [isArrTy])
theorem thru_args : ∀ es : List GExpr, exprsParenFree es = true → Thru (intersperse (sym "," ++ Doc.sp) (exprDocs es)).items
  | [], _ => by simpa [exprDocs, intersperse, Doc.items] using thru_nil
  | e :: es, hp => by
      simp only [exprsParenFree, Bool.and_eq_true] at hp
      rw [exprDocs, items_intersperse_cons]
      exact thru_append (thru_expr e hp.1) (thru_more es hp.2)
theorem thru_more : ∀ es : List GExpr, exprsParenFree es = true →
    Thru ((exprDocs es).flatMap fun x => (sym "," ++ Doc.sp).items ++ x.items)
  | [], _ => by simpa [exprDocs] using thru_nil
  | e :: es, hp => by
      simp only [exprsParenFree, Bool.and_eq_true] at hp
      rw [exprDocs, List.flatMap_cons]
      exact thru_append (thru_append ((thru_tokD _).cat thru_sp) (thru_expr e hp.1)) (thru_more es hp.2)
theorem thru_fields : ∀ fs : List GField, fieldsParenFree fs = true → Thru ((fieldDocs fs).flatMap fun x => x.items ++ [none])
  | [], _ => by simpa [fieldDocs] using thru_nil
  | .mk n e :: fs, hp => by
      simp only [fieldsParenFree, Bool.and_eq_true] at hp
      rw [fieldDocs, List.flatMap_cons, items_append, List.append_assoc (Doc.items _)]
      have hc : Thru ((sym ",").items ++ [none]) := thru_tok_nl _ semiAfter_comma
      exact thru_append (thru_append ((((thru_tokD _).cat (thru_tokD _)).cat thru_sp).cat (thru_expr e hp.1)) hc)
        (thru_fields fs hp.2)
end

/-- **No line break the layout puts inside an expression inserts a semicolon**: scanning the tokens and newlines
    of a paren-free expression's document — after any preceding token `p` (`return`, `=`, `(`, …) — every newline
    follows `{` or `,`, tokens after which Go's automatic-semicolon rule inserts nothing.  (What `exprParenFree`
    contributes here is that it excludes `Block` expressions, whose statements break lines anywhere.) -/
theorem no_break_inserts_semicolon (e : GExpr) (hp : exprParenFree e = true) (p : Option Tok) :
    breaksSafe p (exprDoc e).items = true := by
  obtain ⟨p', h⟩ := thru_expr e hp p
  have := h []
  simpa [breaksSafe] using this

/-! ## `glue_free_expr`: tokens written without a space between them stay two tokens

The lexical half of the round trip.  `Doc.pieces` keeps the spaces; `glueFree` scans it with Go's operator list and
maximal munch in mind (`glued`): identifier / keyword / number runs, `5.` / `.5`, and two symbols forming a longer
operator (`--`, `&&`, `<-`, `//`, …).  For the subset of `print_expr_roundtrip` it never fires. -/

@[simp] theorem pieces_append (a b : Doc) : (a ++ b).pieces = a.pieces ++ b.pieces := by
  rcases append_cases a b with ⟨rfl, h⟩ | ⟨rfl, h⟩ | h <;> rw [h] <;> simp [Doc.pieces]

theorem pieces_tokD {t : Tok} (h : t.text.isEmpty = false) : (tokD t).pieces = [.tok t] := by
  simp [tokD, h, Doc.pieces]

@[simp] theorem pieces_sp : Doc.sp.pieces = [.sp] := rfl

theorem pieces_sym_un (u : GUn) : (sym (unSym u)).pieces = [.tok (.sym (unSym u))] := pieces_tokD (unSym_ne_empty u)
theorem pieces_sym_bin (b : GBin) : (sym (binSym b)).pieces = [.tok (.sym (binSym b))] := pieces_tokD (binSym_ne_empty b)

def firstTok : GExpr → Tok
  | .nil _ => .ident "nil"
  | .var x _ => .ident x
  | .bool b => .ident (if b then "true" else "false")
  | .int text _ => numFirst text
  | .float bits _ => numFirst (goFloatLiteral bits.toNat)
  | .str v => .str ("\"" ++ escapeGoString v ++ "\"")
  | .call _ f _ => firstTok f
  | .un op _ _ => .sym (unSym op)
  | .bin _ _ l _ => firstTok l
  | .field _ _ o => firstTok o
  | .index _ a _ => firstTok a
  | _ => .sym "?"

def lastTok : GExpr → Tok
  | .nil _ => .ident "nil"
  | .var x _ => .ident x
  | .bool b => .ident (if b then "true" else "false")
  | .int text _ => numLast text
  | .float bits _ => numLast (goFloatLiteral bits.toNat)
  | .str v => .str ("\"" ++ escapeGoString v ++ "\"")
  | .call _ _ _ => .sym ")"
  | .un _ _ e => lastTok e
  | .bin _ _ _ r => lastTok r
  | .field f _ _ => .ident f
  | .index _ _ _ => .sym "]"
  | _ => .sym "?"

/-- what can start an expression of the subset -/
inductive FK : Tok → Prop where
  | ident (x) : FK (.ident x)
  | num (n) : FK (.num n)
  | str (s) : FK (.str s)
  | un (u : GUn) : FK (.sym (unSym u))

/-- what can end one -/
inductive LK : Tok → Prop where
  | ident (x) : LK (.ident x)
  | num (n) : LK (.num n)
  | str (s) : LK (.str s)
  | rparen : LK (.sym ")")
  | rbrack : LK (.sym "]")

theorem numFirst_fk (text : String) : FK (numFirst text) := by
  unfold numFirst; split
  · exact FK.un .neg
  · exact FK.num _
theorem numLast_lk (text : String) : LK (numLast text) := by
  unfold numLast; split <;> exact LK.num _

theorem firstTok_fk {e : GExpr} (h : SubPF e) : FK (firstTok e) := by
  induction h with
  | nil | bool | var => exact FK.ident _
  | «str» => exact FK.str _
  | int | float => exact numFirst_fk _
  | un op => exact FK.un op
  | call _ _ _ _ ih | bin _ _ _ _ _ _ ih _ | field _ _ _ _ _ ih | index _ _ _ _ ih _ => exact ih

theorem lastTok_lk {e : GExpr} (h : SubPF e) : LK (lastTok e) := by
  induction h with
  | nil | bool | var | field => exact LK.ident _
  | «str» => exact LK.str _
  | int | float => exact numLast_lk _
  | call => exact LK.rparen
  | index => exact LK.rbrack
  | un _ _ _ _ _ ih | bin _ _ _ _ _ _ _ ih => exact ih

theorem glued_sym_ident (s x : String) : glued (.sym s) (.ident x) = false := by simp [glued, isWordy]
theorem glued_sym_str (s x : String) : glued (.sym s) (.str x) = false := by simp [glued, isWordy]
theorem glued_ident_sym (x s : String) : glued (.ident x) (.sym s) = false := by simp [glued, isWordy]
theorem glued_str_sym (x s : String) : glued (.str x) (.sym s) = false := by simp [glued, isWordy]
theorem glued_num_sym (n s : String) : glued (.num n) (.sym s) = (s == ".") := rfl
theorem glued_sym_num (s n : String) : glued (.sym s) (.num n) = (s == ".") := rfl

def allUn : List GUn := [.neg, .not, .addr, .deref]
theorem mem_allUn (u : GUn) : u ∈ allUn := by cases u <;> simp [allUn]

/-- every adjacency of operator tokens the printer can write inside an expression of the subset, looked up in Go's operator
    list at once: two unary operators glue only when equal (`--`, `&&`); an opening bracket glues to no unary operator;
    a closing bracket glues to nothing that can follow an operand -/
theorem glued_table :
    (∀ u ∈ allUn, ∀ w ∈ allUn, unSym w = unSym u ∨ glued (.sym (unSym u)) (.sym (unSym w)) = false) ∧
    (∀ o ∈ ["(", "["], ∀ w ∈ allUn, glued (.sym o) (.sym (unSym w)) = false) ∧
    (∀ c ∈ [")", "]"], ∀ y ∈ ["(", "[", ",", ")", "]", "."], glued (.sym c) (.sym y) = false) := by decide +kernel

theorem glued_un_un (u w : GUn) (h : unSym w ≠ unSym u) : glued (.sym (unSym u)) (.sym (unSym w)) = false :=
  (glued_table.1 u (mem_allUn u) w (mem_allUn w)).resolve_left h
theorem glued_open_un {o : String} (ho : o ∈ ["(", "["]) (w : GUn) : glued (.sym o) (.sym (unSym w)) = false :=
  glued_table.2.1 o ho w (mem_allUn w)
theorem glued_closer_sym {c y : String} (hc : c ∈ [")", "]"]) (hy : y ∈ ["(", "[", ",", ")", "]", "."]) :
    glued (.sym c) (.sym y) = false :=
  glued_table.2.2 c hc y hy

theorem glued_un_first (u : GUn) {t : Tok} (ht : FK t) (hne : ∀ w, t = .sym (unSym w) → unSym w ≠ unSym u) :
    glued (.sym (unSym u)) t = false := by
  cases ht with
  | ident x => exact glued_sym_ident _ _
  | num n => rw [glued_sym_num]; cases u <;> decide
  | str x => exact glued_sym_str _ _
  | un w => exact glued_un_un u w (hne w rfl)

theorem glued_open_first {o : String} (ho : o = "(" ∨ o = "[") {t : Tok} (ht : FK t) : glued (.sym o) t = false := by
  have hm : o ∈ ["(", "["] := by simpa using ho
  cases ht with
  | ident x => exact glued_sym_ident _ _
  | num n => rw [glued_sym_num]; rcases ho with rfl | rfl <;> decide
  | str x => exact glued_sym_str _ _
  | un w => exact glued_open_un hm w

/-- after the end of an operand: `(`, `[`, `,`, `)`, `]` never glue; `.` glues only to a number -/
theorem glued_last_follow {t : Tok} (ht : LK t) {y : String} (hy : y ∈ ["(", "[", ",", ")", "]"]) :
    glued t (.sym y) = false := by
  have hm : y ∈ ["(", "[", ",", ")", "]", "."] := List.mem_append_left ["."] hy
  cases ht with
  | ident x => exact glued_ident_sym _ _
  | num n =>
    rw [glued_num_sym]
    simp only [List.mem_cons, List.not_mem_nil, or_false] at hy
    rcases hy with rfl | rfl | rfl | rfl | rfl <;> decide
  | str x => exact glued_str_sym _ _
  | rparen => exact glued_closer_sym (by decide) hm
  | rbrack => exact glued_closer_sym (by decide) hm

theorem glued_last_dot {t : Tok} (ht : LK t) (hn : ∀ n, t ≠ .num n) : glued t (.sym ".") = false := by
  cases ht with
  | ident x => exact glued_ident_sym _ _
  | num n => exact absurd rfl (hn n)
  | str x => exact glued_str_sym _ _
  | rparen => exact glued_closer_sym (by decide) (by decide)
  | rbrack => exact glued_closer_sym (by decide) (by decide)

theorem numFirst_notsym {text : String} (h : isNegText text = false) : ∀ s, numFirst text ≠ .sym s := by
  intro s
  unfold numFirst
  unfold isNegText at h
  split
  · rename_i heq; rw [heq] at h; simp at h
  · intro h'; cases h'

theorem firstTok_level7 {e : GExpr} (h : SubPF e) (h7 : level e = 7) (s : String) : firstTok e ≠ .sym s := by
  induction h with
  | nil | bool | var | «str» => intro h; cases h
  | int | float =>
      simp only [level] at h7
      exact numFirst_notsym (by cases h : isNegText _ <;> simp_all) s
  | call _ hf _ _ ih _ | field _ _ hf _ _ ih | index _ hf _ _ ih _ => exact ih hf
  | un => simp [level] at h7
  | bin op => simp only [level] at h7; have := binPrec_le op; omega

theorem numFirst_eq_sym {text s : String} (h : numFirst text = .sym s) : s = "-" ∧ isNegText text = true := by
  unfold numFirst at h
  unfold isNegText
  split at h
  · rename_i heq; rw [heq]; cases h; exact ⟨rfl, rfl⟩
  · cases h

theorem firstTok_startsWith {e : GExpr} (hs : SubPF e) (h6 : 6 ≤ level e) (s : String) (h : firstTok e = .sym s) :
    startsWithSym s e = true := by
  by_cases h7 : level e = 7
  · exact absurd h (firstTok_level7 hs h7 s)
  cases hs with
  | un op => simp only [firstTok] at h; cases h; simp [startsWithSym]
  | int | float =>
      simp only [firstTok] at h
      obtain ⟨rfl, hn⟩ := numFirst_eq_sym h
      simp [startsWithSym, hn]
  | bin op => simp only [level] at h6; have := binPrec_le op; omega
  | _ => exact absurd rfl h7

/-- the base of a selector (level 7, not a numeric literal) does not end in a number -/
theorem lastTok_notnum {e : GExpr} (h : SubPF e) (h7 : level e = 7) (hn : isNumLit e = false) (n : String) :
    lastTok e ≠ .num n := by
  cases h with
  | int | float => simp [isNumLit] at hn
  | un => simp [level] at h7
  | bin op => simp only [level] at h7; have := binPrec_le op; omega
  | _ => intro h; cases h

def NoGlue (prev : Option Tok) (t : Tok) : Prop := ∀ p, prev = some p → glued p t = false

theorem noGlue_none (t : Tok) : NoGlue none t := by intro p h; cases h
theorem noGlue_some {p t : Tok} (h : glued p t = false) : NoGlue (some p) t := by intro q hq; cases hq; exact h

theorem glueFreeFrom_tok {prev : Option Tok} {t : Tok} (h : NoGlue prev t) (r : List Piece) :
    glueFreeFrom prev (.tok t :: r) = glueFreeFrom (some t) r := by
  cases prev with
  | none => simp [glueFreeFrom]
  | some p => simp [glueFreeFrom, h p rfl]

theorem glueFreeFrom_sp (prev : Option Tok) (r : List Piece) : glueFreeFrom prev (.sp :: r) = glueFreeFrom none r := by
  cases prev <;> rfl

/-- the statement proved by induction: no two adjacent tokens of `e` glue, and the scan goes on from its last token -/
def G (e : GExpr) : Prop :=
  ∀ prev rest, NoGlue prev (firstTok e) →
    glueFreeFrom prev ((exprDoc e).pieces ++ rest) = glueFreeFrom (some (lastTok e)) rest

theorem g_atom (e : GExpr) (t : Tok) (hp : (exprDoc e).pieces = [.tok t]) (hf : firstTok e = t) (hl : lastTok e = t) : G e := by
  intro prev rest h
  rw [hp, hl]; rw [hf] at h
  exact glueFreeFrom_tok h rest

theorem g_numlit (e : GExpr) (text : String) (hOK : numOK text = true) (hdoc : exprDoc e = numDoc text)
    (hf : firstTok e = numFirst text) (hl : lastTok e = numLast text) : G e := by
  by_cases hneg : ∃ cs, text.toList = '-' :: cs
  · obtain ⟨cs, htl⟩ := hneg
    have hn := num_neg htl
    have hne : (String.ofList cs).isEmpty = false := by simpa [hn.ok] using hOK
    intro prev rest h
    rw [hf, hn.first_eq] at h
    rw [hdoc, hn.doc_eq, pieces_append, pieces_tokD (t := .num (String.ofList cs)) hne, hl, hn.last_eq]
    show glueFreeFrom prev (.tok (.sym "-") :: .tok (.num (String.ofList cs)) :: rest) = _
    rw [glueFreeFrom_tok h, glueFreeFrom_tok (noGlue_some (by rw [glued_sym_num]; decide +kernel))]
  · have hn := num_nonneg fun cs h => hneg ⟨cs, h⟩
    have hne : text.isEmpty = false := by simpa [hn.ok] using hOK
    exact g_atom e (.num text) (by rw [hdoc, hn.doc_eq]; exact pieces_tokD hne) (by rw [hf, hn.first_eq]) (by rw [hl, hn.last_eq])

theorem pieces_foldl (sep : Doc) : ∀ (ds : List Doc) (acc : Doc),
    (ds.foldl (fun acc x => acc ++ sep ++ x) acc).pieces = acc.pieces ++ ds.flatMap (fun x => sep.pieces ++ x.pieces) := by
  intro ds
  induction ds with
  | nil => intro acc; simp
  | cons d ds ih => intro acc; simp [List.foldl, ih, List.flatMap_cons]

theorem pieces_intersperse_cons (sep d : Doc) (ds : List Doc) :
    (intersperse sep (d :: ds)).pieces = d.pieces ++ ds.flatMap (fun x => sep.pieces ++ x.pieces) := by
  simp [intersperse, pieces_foldl]

def commaPieces : List Piece := (sym "," ++ Doc.sp).pieces
theorem commaPieces_eq : commaPieces = [.tok (.sym ","), .sp] := rfl

theorem pieces_call (t : GTy) (f : GExpr) (args : List GExpr) : (exprDoc (.call t f args)).pieces =
    (exprDoc f).pieces ++ .tok (.sym "(") :: ((intersperse (sym "," ++ Doc.sp) (exprDocs args)).pieces ++ [.tok (.sym ")")]) := by
  rw [exprDoc]; simp only [pieces_append, List.append_assoc]; rfl
theorem pieces_un (op : GUn) (t : GTy) (e : GExpr) :
    (exprDoc (.un op t e)).pieces = .tok (.sym (unSym op)) :: (exprDoc e).pieces := by
  rw [exprDoc, pieces_append, pieces_sym_un]; rfl
theorem pieces_bin (op : GBin) (t : GTy) (l r : GExpr) : (exprDoc (.bin op t l r)).pieces =
    (exprDoc l).pieces ++ .sp :: .tok (.sym (binSym op)) :: .sp :: (exprDoc r).pieces := by
  rw [exprDoc]; simp only [pieces_append, pieces_sym_bin, pieces_sp, List.append_assoc]; rfl
theorem pieces_field {f : String} (hf : f.isEmpty = false) (t : GTy) (o : GExpr) :
    (exprDoc (.field f t o)).pieces = (exprDoc o).pieces ++ [.tok (.sym "."), .tok (.ident f)] := by
  rw [exprDoc]; simp only [pieces_append, List.append_assoc]
  rw [show (ident f).pieces = [.tok (.ident f)] from pieces_tokD hf]; rfl
theorem pieces_index (t : GTy) (a i : GExpr) : (exprDoc (.index t a i)).pieces =
    (exprDoc a).pieces ++ .tok (.sym "[") :: ((exprDoc i).pieces ++ [.tok (.sym "]")]) := by
  rw [exprDoc]; simp only [pieces_append, List.append_assoc]; rfl

theorem gMore_of : ∀ es : List GExpr, (∀ a ∈ es, SubPF a) → (∀ a ∈ es, G a) → ∀ t : Tok, LK t → ∀ rest : List Piece,
    glueFreeFrom (some t) ((exprDocs es).flatMap (fun x => commaPieces ++ x.pieces) ++ .tok (.sym ")") :: rest) =
      glueFreeFrom (some (.sym ")")) rest
  | [], _, _, t, ht, rest => by
      rw [exprDocs]
      exact glueFreeFrom_tok (noGlue_some (glued_last_follow ht (by simp))) rest
  | e :: es, hs, hg, t, ht, rest => by
      obtain ⟨hse, hses⟩ := List.forall_mem_cons.1 hs
      obtain ⟨hge, hges⟩ := List.forall_mem_cons.1 hg
      rw [exprDocs, List.flatMap_cons, commaPieces_eq]
      simp only [List.cons_append, List.nil_append, List.append_assoc]
      rw [glueFreeFrom_tok (noGlue_some (glued_last_follow ht (by simp))), glueFreeFrom_sp, hge none _ (noGlue_none _)]
      exact gMore_of es hses hges _ (lastTok_lk hse) rest

theorem gArgs_of : ∀ es : List GExpr, (∀ a ∈ es, SubPF a) → (∀ a ∈ es, G a) → ∀ rest : List Piece,
    glueFreeFrom (some (.sym "(")) ((intersperse (sym "," ++ Doc.sp) (exprDocs es)).pieces ++ .tok (.sym ")") :: rest) =
      glueFreeFrom (some (.sym ")")) rest
  | [], _, _, rest => by
      rw [exprDocs]
      exact glueFreeFrom_tok (noGlue_some (by decide +kernel)) rest
  | e :: es, hs, hg, rest => by
      obtain ⟨hse, hses⟩ := List.forall_mem_cons.1 hs
      obtain ⟨hge, hges⟩ := List.forall_mem_cons.1 hg
      rw [exprDocs, pieces_intersperse_cons, List.append_assoc,
        hge _ _ (noGlue_some (glued_open_first (Or.inl rfl) (firstTok_fk hse)))]
      exact gMore_of es hses hges _ (lastTok_lk hse) rest

theorem SubPF.glueFree {e : GExpr} (h : SubPF e) : G e := by
  induction h with
  | nil t => exact g_atom _ (.ident "nil") (by rw [exprDoc]; rfl) rfl rfl
  | bool b => cases b <;> exact g_atom _ _ (by rw [exprDoc]; rfl) rfl rfl
  | var t hx => exact g_atom _ (.ident _) (by rw [exprDoc]; exact pieces_tokD hx) rfl rfl
  | «str» v =>
      have hne : ("\"" ++ escapeGoString v ++ "\"").isEmpty = false := by simp [String.isEmpty]
      exact g_atom _ (.str _) (by rw [exprDoc]; exact pieces_tokD hne) rfl rfl
  | int t hn => exact g_numlit _ _ hn (by rw [exprDoc]) rfl rfl
  | float t hn => exact g_numlit _ _ hn (by rw [exprDoc]) rfl rfl
  | @un op t e h6 hsw he ih =>
      intro prev rest h
      rw [pieces_un, List.cons_append, glueFreeFrom_tok (show NoGlue prev (.sym (unSym op)) from h)]
      -- the operand does not start with this same operator (`--`, `&&` are other tokens): that is `hsw`
      refine ih _ rest (noGlue_some (glued_un_first op (firstTok_fk he) fun w hw hEq => ?_))
      have := firstTok_startsWith he h6 _ hw
      rw [hEq, hsw] at this; cases this
  | @bin op t l r _ _ _ _ ihl ihr =>
      intro prev rest h
      rw [pieces_bin, List.append_assoc, ihl prev _ h]
      simp only [List.cons_append]
      rw [glueFreeFrom_sp, glueFreeFrom_tok (noGlue_none _), glueFreeFrom_sp]
      exact ihr none rest (noGlue_none _)
  | @call t f args _ hf ha ihf iha =>
      intro prev rest h
      rw [pieces_call, List.append_assoc, ihf prev _ h]
      simp only [List.cons_append, List.append_assoc, List.nil_append]
      rw [glueFreeFrom_tok (noGlue_some (glued_last_follow (lastTok_lk hf) (by simp)))]
      exact gArgs_of args ha iha rest
  | @field f t o hf h7 hnum ho ih =>
      intro prev rest h
      rw [pieces_field hf, List.append_assoc, ih prev _ h]
      simp only [List.cons_append, List.nil_append]
      rw [glueFreeFrom_tok (noGlue_some (glued_last_dot (lastTok_lk ho) (lastTok_notnum ho h7 hnum))),
        glueFreeFrom_tok (noGlue_some (glued_sym_ident _ _))]
      rfl
  | @index t a i _ ha hi iha ihi =>
      intro prev rest h
      rw [pieces_index, List.append_assoc, iha prev _ h]
      simp only [List.cons_append, List.append_assoc, List.nil_append]
      rw [glueFreeFrom_tok (noGlue_some (glued_last_follow (lastTok_lk ha) (by simp))),
        ihi (some (.sym "[")) _ (noGlue_some (glued_open_first (Or.inr rfl) (firstTok_fk hi))),
        glueFreeFrom_tok (noGlue_some (glued_last_follow (lastTok_lk hi) (by simp)))]
      rfl

theorem gArgs : ∀ es : List GExpr, inSubsetList es = true → exprsParenFree es = true → ∀ rest : List Piece,
    glueFreeFrom (some (.sym "(")) ((intersperse (sym "," ++ Doc.sp) (exprDocs es)).pieces ++ .tok (.sym ")") :: rest) =
      glueFreeFrom (some (.sym ")")) rest :=
  fun es hs hp => gArgs_of es (subs_of es hs hp) fun a m => (subs_of es hs hp a m).glueFree
theorem gMore : ∀ es : List GExpr, inSubsetList es = true → exprsParenFree es = true → ∀ t : Tok, LK t → ∀ rest : List Piece,
    glueFreeFrom (some t) ((exprDocs es).flatMap (fun x => (sym "," ++ Doc.sp).pieces ++ x.pieces) ++ .tok (.sym ")") :: rest) =
      glueFreeFrom (some (.sym ")")) rest :=
  fun es hs hp => gMore_of es (subs_of es hs hp) fun a m => (subs_of es hs hp a m).glueFree

/-- **Adjacent tokens stay apart**: in the text of a paren-free expression of the subset no two token texts the
    printer writes without a space between them read as one (or another) Go token — `--`, `&&`, `5.`, identifier
    runs — so lexing the text gives back exactly the tokens `Doc.items` lists (for the token classes as the
    printer spells them; the inside of an identifier / literal is not modelled). -/
theorem glue_free_expr (e : GExpr) (hs : inSubset e = true) (hp : exprParenFree e = true) :
    glueFree (exprDoc e).pieces = true := by
  have := (sub_of e hs hp).glueFree none [] (noGlue_none _)
  simpa [glueFree, glueFreeFrom] using this

/-! ## from the per-item verdict of the tie to the hypotheses of the theorems

The tie evaluates `itemParenFree` on every item the compiler produced.  That verdict gives `exprParenFree` for every
expression a statement of the item holds (`itemRoots`), i.e. the hypothesis of `print_expr_roundtrip`,
`glue_free_expr` and `no_break_inserts_semicolon`. -/

/-- At each equation of `stmtRoots`, `stmtParenFree` is the conjunction of `exprParenFree` of the roots listed there and of the
    hypotheses' premises.  `return e` is apart: its two rows overlap (`e` a `Void` literal or not) and simp's equation for the
    second does not pass the kernel, so `e` is split first. -/
theorem roots_parenFree :
    (∀ s, stmtParenFree s = true → ∀ e ∈ stmtRoots s, exprParenFree e = true) ∧
    (∀ cs, tcasesParenFree cs = true → ∀ e ∈ tcasesRoots cs, exprParenFree e = true) ∧
    (∀ ss, stmtsParenFree ss = true → ∀ e ∈ stmtsRoots ss, exprParenFree e = true) ∧
    (∀ cs, casesParenFree cs = true → ∀ e ∈ casesRoots cs, exprParenFree e = true) := by
  apply stmtRoots.mutual_induct
    (motive_1 := fun s => stmtParenFree s = true → ∀ e ∈ stmtRoots s, exprParenFree e = true)
    (motive_2 := fun cs => tcasesParenFree cs = true → ∀ e ∈ tcasesRoots cs, exprParenFree e = true)
    (motive_3 := fun ss => stmtsParenFree ss = true → ∀ e ∈ stmtsRoots ss, exprParenFree e = true)
    (motive_4 := fun cs => casesParenFree cs = true → ∀ e ∈ casesRoots cs, exprParenFree e = true)
  case case10 => -- `.ret (some e)`
    intro e _ h
    cases e <;> simp_all [stmtRoots, stmtParenFree]
  all_goals simp +contextual [stmtRoots, stmtsRoots, casesRoots, tcasesRoots, stmtParenFree, stmtsParenFree, casesParenFree,
    tcasesParenFree, or_imp]

theorem stmtsRoots_parenFree : ∀ ss : List GStmt, stmtsParenFree ss = true → ∀ e ∈ stmtsRoots ss, exprParenFree e = true :=
  roots_parenFree.2.2.1
theorem casesRoots_parenFree : ∀ cs : List GCase, casesParenFree cs = true → ∀ e ∈ casesRoots cs, exprParenFree e = true :=
  roots_parenFree.2.2.2
theorem tcasesRoots_parenFree : ∀ cs : List GTCase, tcasesParenFree cs = true → ∀ e ∈ tcasesRoots cs, exprParenFree e = true :=
  roots_parenFree.2.1

theorem itemRoots_parenFree (it : GItem) (h : itemParenFree it = true) : ∀ e ∈ itemRoots it, exprParenFree e = true := by
  cases it with
  | func f => exact stmtsRoots_parenFree f.body (by simpa [itemParenFree] using h)
  | structDef n fs ms =>
    intro e he
    simp only [itemRoots, List.mem_flatMap] at he
    obtain ⟨m, hm, he⟩ := he
    have : stmtsParenFree m.body = true := by
      simp only [itemParenFree, List.all_eq_true] at h
      exact h m hm
    exact stmtsRoots_parenFree m.body this e he
  | _ => simp [itemRoots]

/-- what the tie's per-item verdict buys: in an item it accepts, every expression a statement holds that lies in
    the operator subset parses back to itself, keeps its tokens apart, and is not cut by the semicolon rule -/
theorem item_expressions_roundtrip (it : GItem) (h : itemParenFree it = true) (e : GExpr) (he : e ∈ itemRoots it)
    (hs : inSubset e = true) :
    Parse (.bin 1) (exprDoc e).items (.e (erase e)) [] ∧ glueFree (exprDoc e).pieces = true ∧
      ∀ p, breaksSafe p (exprDoc e).items = true :=
  have hp := itemRoots_parenFree it h e he
  ⟨print_expr_roundtrip_whole e hs hp, glue_free_expr e hs hp, no_break_inserts_semicolon e hp⟩

/-! ## non-vacuity -/

section Examples
private def v (x : String) : GExpr := .var x (.int 32 true)
private def i32 : GTy := .int 32 true

/-- `a + b * f(c, -1)[i].x < !d` -/
private def ex1 : GExpr :=
  .bin .less .bool
    (.bin .add i32 (v "a") (.bin .mul i32 (v "b")
      (.field "x" i32 (.index i32 (.call i32 (v "f") [v "c", .int "-1" i32]) (v "i")))))
    (.un .not .bool (v "d"))

example : inSubset ex1 = true ∧ exprParenFree ex1 = true := by decide +kernel

example : (exprDoc ex1).items.length = 19 := by decide +kernel

/-- the hypotheses of `print_expr_roundtrip` hold on `ex1`; its 19 tokens parse back to it -/
example : Parse (.bin 1) (exprDoc ex1).items (.e (erase ex1)) [] :=
  print_expr_roundtrip_whole ex1 (by decide +kernel) (by decide +kernel)

/-- `(a + b) * c` is NOT paren-free, and indeed the printer gives it the tokens of `a + (b * c)`, another tree:
    the hypothesis of the theorem is necessary -/
private def bad : GExpr := .bin .mul i32 (.bin .add i32 (v "a") (v "b")) (v "c")
private def good : GExpr := .bin .add i32 (v "a") (.bin .mul i32 (v "b") (v "c"))
example : exprParenFree bad = false ∧ exprParenFree good = true ∧ (exprDoc bad).items = (exprDoc good).items := by decide +kernel
example : Parse (.bin 1) (exprDoc bad).items (.e (erase good)) [] := by
  rw [show (exprDoc bad).items = (exprDoc good).items from by decide +kernel]
  exact print_expr_roundtrip_whole good (by decide +kernel) (by decide +kernel)

/-- `- -x` would print `--x` (Go's decrement token): rejected by `exprParenFree` and seen by `glueFree` -/
example : exprParenFree (.un .neg i32 (.un .neg i32 (v "x"))) = false := by decide +kernel
example : glueFree (exprDoc (.un .neg i32 (.un .neg i32 (v "x")))).pieces = false := by decide +kernel
example : glueFree (exprDoc ex1).pieces = true := glue_free_expr ex1 (by decide +kernel) (by decide +kernel)

/-- a left-leaning chain `x + x + … + x` of `n + 1` operands -/
private def chain : Nat → GExpr
  | 0 => v "x"
  | n + 1 => .bin .add i32 (chain n) (v "x")

-- an expression well over 120 columns (41 operands, 40 operators, a space around each operator: 161 columns):
-- paren-free, parses back, and its text is the same at widths 40 and 120
set_option maxRecDepth 8000 in
example : (exprDoc (chain 40)).items.length = 81 ∧ inSubset (chain 40) = true ∧ exprParenFree (chain 40) = true := by
  decide +kernel
example : printExpr 40 (chain 40) = printExpr 120 (chain 40) := render_width_irrelevant_expr 40 120 _

/-- every class of character `escape_go_string` distinguishes -/
example : escapeChars ['a', '"', '\\', '\n', '\r', '\t', Char.ofNat 1, Char.ofNat 0x7f, Char.ofNat 0x9f, 'é', '世'] =
    "a\\\"\\\\\\n\\r\\t\\u0001\\u007f\\u009fé世".toList := by decide +kernel
example : lexStr .normal ("a\\\"\\\\\\n\\u0001é\" + x".toList) = some (['a', '"', '\\', '\n', Char.ofNat 1, 'é'], " + x".toList) := by
  decide +kernel

/-- a struct literal breaks its lines after `{` and `,` only -/
private def lit : GExpr := .slit (.name "Point") [.mk "x" (v "a"), .mk "y" (.bin .add i32 (v "b") (v "c"))]
example : (exprDoc lit).items =
    [some (.ident "Point"), some (.sym "{"), none, some (.ident "x"), some (.sym ":"), some (.ident "a"), some (.sym ","), none,
     some (.ident "y"), some (.sym ":"), some (.ident "b"), some (.sym "+"), some (.ident "c"), some (.sym ","), none,
     some (.sym "}")] := by decide +kernel
example : breaksSafe (some (.kw "return")) (exprDoc lit).items = true :=
  no_break_inserts_semicolon lit (by decide +kernel) _
/-- a break after an operand (what a `line` before an operator gives) is unsafe -/
example : breaksSafe none [some (.ident "a"), none, some (.sym "+"), some (.ident "b")] = false := by decide +kernel
/-- … and a document with a soft break is not `Hard`: `render_width_irrelevant` does not cover it -/
example : ¬ (Doc.group (ident "a" ++ Doc.line ++ sym "+" ++ Doc.sp ++ ident "b")).Hard := by simp [Doc.Hard]

end Examples

end Goml.GoPrint
