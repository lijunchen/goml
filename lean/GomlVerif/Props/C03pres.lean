import GomlVerif.Lemmas.C03presAnfCases
import GomlVerif.Lemmas.C03presAnfClosed
import GomlVerif.Lemmas.C03presAnfScope
import GomlVerif.Lemmas.C03presAnfSig
import GomlVerif.Lemmas.C03presMono
import GomlVerif.Model.C03presSig
import GomlVerif.Lemmas.C03presMatch
import GomlVerif.Lemmas.C03presScopeLink
import GomlVerif.Lemmas.C03presLift
/-!
# C03, pass preservation — the passes preserve well-typedness and closedness

`./check C03` evaluates `Wt.errs` / `Closed.*` on every real stage dump.  Here the same
judgements are proved to be *preserved* by the pass models (which are tied to the Rust by
`./check C09` (anf), `C08` (lift), `C07` (mono), `C06` (match compiler)).  The proofs are in
`Lemmas/C03pres*.lean`.  Side conditions of a pass (fresh temporaries, distinct binders)
are decidable predicates that `gomlmodel c03pres` evaluates on every real program
(`evidence/C03.json`, `pass_preservation`).
-/
namespace Goml.C03pres
open Goml Goml.Wt Goml.Anf Goml.Closed Goml.Scoped

/-! ## ANF (`anf.rs`, model `Model/Anf.lean`) -/

/-- if a Lift expression is type-consistent under `Σ`, `Γ` then so is its
A-normal form, under the same `Σ`, `Γ`, and it has the same type: every temporary `t<n>` is bound
(by a `let` of the chain) before its use, to the expression it names, and is annotated with that
expression's type; every operand check of a node reads the same operand types as before; `&&`/`||`
with a complex right operand become an `if` with `bool` branches.  Hypothesis (decidable,
evaluated on every real Lift function): `inAnfFragment e n` — widening the scope of a `let`-bound
name of one operand over its sibling operands captures nothing, and no temporary handed out for
`e` (counter `n` onwards) occurs in `e`.  Both are needed (`example`s below). -/
theorem anf_preserves_wt (S : Sig) (Γ : TyEnv) (e : Expr) (n : Nat)
    (hf : inAnfFragment e n = true) (h : wt S Γ e = true) :
    wt S Γ (anf e n ret).1 = true ∧ Mono.getTy (anf e n ret).1 = Mono.getTy e := by
  rw [wt_iff] at h ⊢
  exact wt_top S (wt_all S e) n _ [] Γ Γ (hyp_of_inFragment hf) (fun _ _ => rfl) h

/-- the same for an arbitrary continuation: the `let` chain is consistent and the continuation
receives an expression that is consistent in the extended context and has the type of `e` -/
theorem anf_preserves_wt_cont (S : Sig) (Γ : TyEnv) (e : Expr) (n : Nat) (k : Kont Expr)
    (hf : inAnfFragment e n = true) (h : wt S Γ e = true) :
    (anf e n k).1 = wrap (dec e n).L (k (dec e n).c (dec e n).n).1 ∧
    errsB S Γ (dec e n).L = [] ∧ wt S (extΓ (dec e n).L Γ) (dec e n).c = true ∧
    Mono.getTy (dec e n).c = Mono.getTy e := by
  rw [wt_iff] at h ⊢
  refine ⟨by rw [anf_eq_dec]; rfl, ?_⟩
  exact wt_all S e n _ [] Γ Γ (hyp_of_inFragment hf) (fun _ _ => rfl) h

/-- a function: the body is consistent under the parameters and still has the declared result type -/
theorem anf_preserves_wtFn (S : Sig) (f : Fn) (n : Nat) (hf : inAnfFragment f.body n = true)
    (h : wtFn S f = true) : wtFn S { f with body := (anf f.body n ret).1 } = true := by
  simp only [wtFn, fnErrs, List.isEmpty_iff, List.append_eq_nil_iff, checkEq_nil] at h ⊢
  have := anf_preserves_wt S (bindAll f.params []) f.body n hf (wt_iff.2 h.1)
  rw [wt_iff] at this
  exact ⟨this.1, by rw [this.2, h.2]⟩

/-- `anf_file`: every function of the file, with the gensym counter threaded as the Rust does.
`S` holds the functions of the Lift stage; it judges as the signature of the ANF stage does
(`anf_sig_judges_alike`). -/
theorem anf_file_preserves_wt (S : Sig) : ∀ (fns : List Fn) (n : Nat),
    (anfFragFlags fns n).all (fun b => b) = true → (∀ f ∈ fns, wtFn S f = true) →
    ∀ f' ∈ (anfFns fns n).1, wtFn S f' = true := by
  intro fns n hfl hw f' hf'
  obtain ⟨f, hf, m, rfl, hm⟩ := anfFns_mem fns n hf'
  exact anf_preserves_wtFn S f m (hm hfl) (hw f hf)

/-- the signature of the ANF stage (the function table replaced by the output of `anf_file`) judges every
expression exactly as the signature of the Lift stage does: `Wt.errs` reads the function table only through
names, generics, parameter lists and result types (`findCallee`, `fnTy`), which `anf_file` keeps -/
theorem anf_sig_judges_alike (S : Sig) (n : Nat) (Γ : TyEnv) (e : Expr) :
    errs { S with fns := (anfFns S.fns n).1 } Γ e = errs S Γ e :=
  errs_hdr S _ (anfFns_hdr S.fns n) e Γ

/-- **the ANF stage output is well-typed**: if the Lift stage is (`wtProg`, every function judged under the
stage's own signature) and every function is inside the decidable hypothesis, the ANF stage is, under ITS own
signature -/
theorem anf_stage_preserves_wtProg (S : Sig) (n : Nat)
    (hf : (anfFragFlags S.fns n).all (fun b => b) = true) (h : wtProg S = true) :
    wtProg { S with fns := (anfFns S.fns n).1 } = true := by
  simp only [wtProg, List.all_eq_true] at h ⊢
  intro f' hf'
  have := anf_file_preserves_wt S S.fns n hf h f' hf'
  simp only [wtFn, fnErrs, anf_sig_judges_alike] at this ⊢
  exact this

/-- every annotation of `anf e` satisfies `p` when every annotation of `e` does (`p` = no type parameter /
no type application / no inference variable / all three) and `p` holds of `unit` and of the types of the
literals (`PBase`): the temporary that names a `while`, a `go` or a literal carries such a type.  No side
condition on names or counter. -/
theorem anf_preserves_closed (p : Ty → Bool) (hp : PBase p) (e : Expr) (n : Nat)
    (h : allTys p e = true) : allTys p (anf e n ret).1 = true := by
  rw [← (everyNode_allTys p).1] at h ⊢
  exact anf_every (nodeOk_allTys p hp) e n h

theorem closedTy_base : PBase closedTy :=
  ⟨rfl, fun q => by cases q <;> rfl⟩

/-- ANF builds no `ETraitCall` node -/
theorem anf_preserves_noTraitCall (e : Expr) (n : Nat) (h : noTraitCall e = true) :
    noTraitCall (anf e n ret).1 = true := by
  rw [← everyNode_noTraitCall.1] at h ⊢
  exact anf_every nodeOk_ntc e n h

/-- the stage predicate `closedFns` (every annotation of every function — parameters, result, body —
is free of type parameters, type applications and inference variables, and no trait call is left)
is preserved by `anf_file`, whatever the gensym counter -/
theorem anf_file_preserves_closed : ∀ (fns : List Fn) (n : Nat),
    closedFns fns = true → closedFns (anfFns fns n).1 = true := by
  intro fns n hw
  simp only [closedFns, List.all_eq_true] at hw ⊢
  intro f' hf'
  obtain ⟨f, hf, m, rfl, _⟩ := anfFns_mem fns n hf'
  have hg := hw f hf
  simp only [closedFn, fnAllTys, Bool.and_eq_true] at hg ⊢
  exact ⟨⟨hg.1.1, anf_preserves_closed closedTy closedTy_base f.body m hg.1.2⟩,
    anf_preserves_noTraitCall f.body m hg.2⟩

/-- scope closedness alone, independently of types (it also covers the
functions that `Wt` rejects at the Lift stage because of the known finding
`closure-struct-vs-function-type`): if every variable occurrence of `e` is under a binder of its name
or in `B`, the same holds of `anf e` — every temporary is bound by the chain before its use, no
source variable leaves the `let` that binds it, none is captured by a widened `let`. -/
theorem anf_preserves_scoped (B : List String) (e : Expr) (n : Nat)
    (hf : inAnfFragment e n = true) (h : unbound B e = []) : unbound B (anf e n ret).1 = [] :=
  sc_top (sc_all e) n _ [] B B (hyp_of_inFragment hf) (fun _ _ => Iff.rfl) h

theorem anf_file_preserves_scoped (G : List String) : ∀ (fns : List Fn) (n : Nat),
    (anfFragFlags fns n).all (fun b => b) = true → scopedFns G fns = true → scopedFns G (anfFns fns n).1 = true := by
  intro fns n hfl hw
  simp only [scopedFns, List.all_eq_true] at hw ⊢
  intro f' hf'
  obtain ⟨f, hf, m, rfl, hm⟩ := anfFns_mem fns n hf'
  have hg := hw f hf
  simp only [scopedFn, List.isEmpty_iff] at hg ⊢
  exact anf_preserves_scoped _ f.body m (hm hfl) hg

/-! ### non-vacuity: the two functions of corpus program `pipeline/039_sum_100` at the Lift stage -/

def i32 : Ty := .int 32 true

/-- `fn my_int_equal(x: int32, y: int32) -> bool { !(x < y) && !(y < x) }` -/
def fnEq : Fn :=
  { name := "my_int_equal", generics := [], params := [("x/0", i32), ("y/1", i32)], ret := .bool,
    body := .bin .and .bool
      (.un .not .bool (.bin .less .bool (.var "x/0" i32) (.var "y/1" i32)))
      (.un .not .bool (.bin .less .bool (.var "y/1" i32) (.var "x/0" i32))) }

/-- `fn sum(n: int32) -> int32 { if my_int_equal(n, 1) { 1 } else { n + sum(n - 1) } }` -/
def fnSum : Fn :=
  { name := "sum", generics := [], params := [("n/2", i32)], ret := i32,
    body := .ite (.call .bool (.var "my_int_equal" (.func [i32, i32] .bool)) [.var "n/2" i32, .prim (.int 32 true 1)])
      (.prim (.int 32 true 1))
      (.bin .add i32 (.var "n/2" i32)
        (.call i32 (.var "sum" (.func [i32] i32)) [.bin .sub i32 (.var "n/2" i32) (.prim (.int 32 true 1))])) }

def sig039 : Sig := { fns := [fnEq, fnSum] }

example : (anfFragFlags sig039.fns 0).all (fun b => b) = true := by decide
example : wtFn sig039 fnEq = true ∧ wtFn sig039 fnSum = true := by decide +kernel
-- the `&&` is lowered to an `if` (three temporaries), `sum` needs three more
example : (anfFns sig039.fns 0).2 = 6 := by decide +kernel
/-- by the theorem … -/
example : ∀ f' ∈ (anfFns sig039.fns 0).1, wtFn sig039 f' = true :=
  anf_file_preserves_wt sig039 _ 0 (by decide) (by decide +kernel)
example : wtProg { sig039 with fns := (anfFns sig039.fns 0).1 } = true :=
  anf_stage_preserves_wtProg sig039 0 (by decide) (by decide +kernel)
/-- … and by evaluation -/
example : ((anfFns sig039.fns 0).1.all (wtFn sig039)) = true := by decide +kernel
example : closedFns (anfFns sig039.fns 0).1 = true :=
  anf_file_preserves_closed _ 0 (by decide +kernel)

example : scopedFns ["my_int_equal", "sum"] (anfFns sig039.fns 0).1 = true :=
  anf_file_preserves_scoped _ _ 0 (by decide) (by decide +kernel)

/-- the fragment hypothesis is needed: `x + (let x = true in 1)` is consistent, its A-normal form
`let x = true in let t0 = 1 in x + t0` is not (the widened `let` captures the left operand) -/
def eCap : Expr := .bin .add i32 (.var "x" i32) (.letE "x" (.prim (.bool true)) (.prim (.int 32 true 1)))
example : inAnfFragment eCap 0 = false := by decide
example : wt {fns := []} [("x", i32)] eCap = true := by decide +kernel
example : errs {fns := []} [("x", i32)] (anf eCap 0 ret).1 = ["var:annotation-differs-from-binder|prim/prim"] := by
  decide +kernel
/-- … and so is freshness of the temporaries: `g(h(1), t0)` with a source variable called `t0`
becomes `let t0 = h(1) in g(t0, t0)` -/
def eTmp : Expr :=
  .call i32 (.var "g" (.func [i32, .bool] i32))
    [.call i32 (.var "h" (.func [i32] i32)) [.prim (.int 32 true 1)], .var "t0" .bool]
def ΓTmp : TyEnv := [("g", .func [i32, .bool] i32), ("h", .func [i32] i32), ("t0", .bool)]
example : inAnfFragment eTmp 0 = false := by decide
example : wt {fns := []} ΓTmp eTmp = true := by decide +kernel
example : errs {fns := []} ΓTmp (anf eTmp 0 ret).1 = ["var:annotation-differs-from-binder|prim/prim"] := by
  decide +kernel

/-! ## Lift (`lift.rs`, model `Model/Lift.lean`, tied by `./check C08`) -/

section LiftP
open Goml.Lift

/-- every function `lambda_lift` emits — the lifted originals and the generated
apply functions — is scope-closed under its own parameters, the globals `G` of the input and the names of
the generated apply functions, and those apply functions are among the emitted functions.  In particular
the apply function of a closure is closed: each captured variable is re-bound from its environment field
(`let x = env.<i>`, `fvB_rebind_iff`) before use, so its free variables are the environment parameter and
the closure's own parameters.  Hypothesis `presHypFns G fns` (decidable, evaluated on every real Mono dump):
every input function is closed under its parameters and `G`, and `presHypArity`: a closure node has no more
parameters than its function type has parameter types (`loweredParams` zips the two lists — a surplus
parameter would not be bound by the apply function; `example badArity`), arm heads are plain patterns. -/
theorem lift_preserves_closed (env : Lift.Env) (fns : List Fn) (G : String → Bool)
    (h : presHypFns G fns = true) :
    (∀ g ∈ (liftFile env fns).1,
      presHypClosedFn (liftGlobals G (liftFile env fns).2.newFns) g = true) ∧
    (∀ a ∈ (liftFile env fns).2.newFns, a ∈ (liftFile env fns).1) :=
  Goml.Lift.lift_preserves_closed env fns G h

/-- the same for the stage predicate `Scoped.scopedFns` (chains with `anf_file_preserves_scoped`) -/
theorem lift_preserves_scoped (env : Lift.Env) (fns : List Fn) (G : List String)
    (ha : fns.all (fun f => presHypArity f.body) = true) (h : scopedFns G fns = true) :
    scopedFns (G ++ (liftFile env fns).2.newFns.map (·.name)) (liftFile env fns).1 = true :=
  Goml.Lift.lift_preserves_scoped env fns G ha h

/-- Lift → ANF: a scoped Mono file stays scoped through both passes -/
theorem lift_anf_preserves_scoped (env : Lift.Env) (fns : List Fn) (G : List String) (n : Nat)
    (ha : fns.all (fun f => presHypArity f.body) = true) (h : scopedFns G fns = true)
    (hf : (anfFragFlags (liftFile env fns).1 n).all (fun b => b) = true) :
    scopedFns (G ++ (liftFile env fns).2.newFns.map (·.name)) (anfFns (liftFile env fns).1 n).1 = true :=
  anf_file_preserves_scoped _ _ n hf (lift_preserves_scoped env fns G ha h)

/-- type closedness: if every type of the lifting environment and every annotation
of every input function is free of type parameters, type applications and inference variables, so is every
annotation of every emitted function (the generated `closure_env_*` struct types are plain struct types) -/
theorem lift_preserves_closedTy (env : Lift.Env) (fns : List Fn)
    (henv : presHypEnvTys closedTy env = true) (hf : presHypFnsTys closedTy fns = true) :
    ∀ g ∈ (liftFile env fns).1, fnAllTys closedTy g = true :=
  Goml.Lift.lift_preserves_closedTy env fns henv hf

/-- typing, the closure-free part only.  Lift is NOT type-consistent for
closures under `Wt` (known finding `closure-struct-vs-function-type`: a closure becomes a
value of its `closure_env_*` struct type while the positions it flows through keep `TFunc`), so the judgement
is relaxed exactly there: nothing is claimed for closure values and the calls through them.  On an
expression without closure nodes, before any closure type is registered (`st.closureTypes = []`), with the
recomputed annotations already in place (`presHypStable`, decidable), `transform_expr` returns the expression
itself, so `Wt.errs` is unchanged whatever `Σ`, `Γ`. -/
theorem lift_preserves_wt_partial (S : Sig) (Γ : TyEnv) (st : Lift.State) (sc : Lift.Scope) (e : Expr)
    (hct : st.closureTypes = []) (hnc : noClosure e = true) (hs : presHypStable st sc e = true) :
    transformExpr st sc e = (e, monoTy e, st) ∧
    errs S Γ (transformExpr st sc e).1 = errs S Γ e ∧
    wt S Γ (transformExpr st sc e).1 = wt S Γ e :=
  Goml.Lift.lift_preserves_wt_partial S Γ st sc e hct hnc hs

/-- a closure-free function lifted before any closure of the file is returned unchanged -/
theorem liftFn_preserves_wt_partial (S : Sig) (st : Lift.State) (f : Fn)
    (hnc : noClosure f.body = true) (hs : presHypStableFn st f = true) :
    (liftFn st f).1 = f ∧ wtFn S (liftFn st f).1 = wtFn S f ∧
      (liftFn st f).2.newFns = st.newFns ∧ (liftFn st f).2.closureTypes = [] :=
  Goml.Lift.liftFn_preserves_wt_partial S st f hnc hs

end LiftP

/-! ## Mono (`mono.rs`, model `Model/Mono.lean`, tied by `./check C07`) -/

section Mono
open Goml.Mono

theorem tparamsOf_eq_fvT : ∀ (t : Ty), tparamsOf t = fvT t := by
  apply Ty.rec (motive_1 := fun t => tparamsOf t = fvT t) (motive_2 := fun ts => tparamsOfs ts = fvTs ts)
  all_goals intros
  all_goals simp_all [tparamsOf, tparamsOfs, fvT, fvTs]

/-- the executable check implies the hypothesis `SigClosed` of the substitution theorems -/
theorem sigClosedB_sound (S : Sig) (h : sigClosedB S = true) : SigClosed S := by
  simp only [sigClosedB, Bool.and_eq_true, List.all_eq_true, List.contains_eq_mem, decide_eq_true_eq] at h
  refine ⟨?_, ?_, ?_⟩
  · intro d hd v hv t ht x hx
    exact h.1.1 d hd v hv t ht x (by rw [tparamsOf_eq_fvT]; exact hx)
  · intro d hd f hf x hx
    exact h.1.2 d hd f hf x (by rw [tparamsOf_eq_fvT]; exact hx)
  · intro d hd mt hm
    exact h.2 d hd mt hm

/-- phase 1 of monomorphisation (`mono_expr`) preserves type
consistency of a body — the instance body is the substitution instance of the generic body
(`subst_preserves_wt`) up to the names of callees (`monoExpr_sameUpToCallee`), and a name is judged
against the function table `fns'` of the monomorphised program: `Mono.presHypCallees` (decidable,
evaluated on every real program) asks that each renamed callee `f__inst` / `trait_impl#…` is declared in
`fns'` with a type its annotation is an instance of, and that an unrenamed global means a function of
the same type before and after.  **Partial**: the side condition on names is checked on the output
instead of being derived from the work-list closure; a binder shadowing a generic function's name is not
excluded; phase 2 (`collapse`: `Opt[int32]` ↦ `Opt__int32`) is covered only for bodies without type
applications (`mono_preserves_wt_noApp_partial`) — see `Lemmas/C03presMono.lean`. -/
theorem mono_preserves_wt_partial (S : Sig) (hS : sigClosedB S = true) (fns' F : List Fn) (σ : Subst) (Γ : TyEnv)
    (e : Expr) (c : Ctx) (h : wt S Γ e = true)
    (hc : presHypCallees S fns' (mapΓ σ Γ) (substE σ e) (monoExpr F σ e c).1 = true) :
    wt (presSig S fns') (mapΓ σ Γ) (monoExpr F σ e c).1 = true :=
  Goml.Wt.mono_preserves_wt_partial S (sigClosedB_sound S hS) fns' F σ Γ e c h hc

/-- the whole output of phase 1: if the work list empties, every generic function is `wtFn` under `S`
and the emitted functions pass `Mono.presHypOut` against the emitted function table (together:
`Mono.presHypProg`, decidable), then every emitted instance is `wtFn` under the definitions of `S`
with the emitted function table -/
theorem mono_phase1_preserves_wtProg_partial (S : Sig) (hS : sigClosedB S = true) (fns : List Fn) (fuel : Nat) (c' : Ctx)
    (hp : phase1 fuel fns = some c') (hwt : ∀ f ∈ origFns fns, wtFn S f = true)
    (hc : presHypOut S (origFns fns) c'.out (presItems (origFns fns) fuel (seed (origFns fns))) = true) :
    wtProg (presSig S c'.out) = true :=
  phase1_wtProg_partial S (sigClosedB_sound S hS) fns fuel c' hp hwt hc

/-- phases 1 and 2 for an instance body whose annotations contain no type application (phase 2 is the
identity there) -/
theorem mono_preserves_wt_noApp_partial (S : Sig) (hS : sigClosedB S = true) (fns' F : List Fn) (σ : Subst) (Γ : TyEnv)
    (e : Expr) (c : Ctx) (tyFuel : Nat) (m : TM) (h : wt S Γ e = true)
    (hc : presHypCallees S fns' (mapΓ σ Γ) (substE σ e) (monoExpr F σ e c).1 = true)
    (hn : allTys noApp (monoExpr F σ e c).1 = true) (hk : presHypCtors (monoExpr F σ e c).1 = true) :
    wt (presSig S fns') (mapΓ σ Γ) (rewriteExpr tyFuel (monoExpr F σ e c).1 m).1 = true :=
  Goml.Wt.mono_preserves_wt_noApp_partial S (sigClosedB_sound S hS) fns' F σ Γ e c tyFuel m h hc hn hk

-- non-vacuity (program `PresEx.prog`: `id[T]`, `apply[T]`, `get_or[T]` with a generic call, a generic function
-- value, a constructor pattern, a builtin and a trait call; see Lemmas/C03presMono.lean)
example : sigClosedB PresEx.sig = true := by decide +kernel
example : presHypProg PresEx.sig 20 PresEx.prog = true := PresEx.outFns_run.2.2.2.2.2.1

end Mono

/-! ## the match compiler (`compile_match.rs`, model `Model/Match.lean`, tied by `./check C06`) -/

section MatchC
open Goml.Match

/-- the expression the match compiler emits for a pattern matrix is
scope-closed under `Γ` — every pattern variable used in an arm body is bound (by a `let name = column`
wrapped around the leaf) on every path of the decision tree that reaches that arm, and every generated
column variable `x<n>` is bound by a `let x<n> = field/projection of its parent` before the sub-tree that
tests or copies it.  `Γ` = names bound around the match (among them the runtime function `missing`),
`T` = the types of the column variables.  Hypotheses, all decidable and evaluated on every real match
site: every column variable is in `Γ`, typed by `T`, its pattern well-formed at that type (a constructor
pattern has no more arguments than the declaration has fields: the Rust zips and would drop the surplus
pattern variables); each arm body mentions only `Γ`, its own pattern variables and the names already
moved into `binds` (`presHypRows`); no column variable is spelled like a generated name (`presHypNames`). -/
theorem matchc_preserves_closed (S : Match.Sig) (hgen : S.gen = realGen)
    (fuel : Nat) (ty : Ty) (n : Nat) (rows : List (Row Expr)) (t : DT Expr) (n' : Nat) (Γ : List String)
    (T : List (String × Ty))
    (hc : compileRows S fuel ty n rows = some (.ok (t, n')))
    (hmissing : Γ.contains "missing" = true)
    (hnames : presHypNames T = true)
    (hrows : presHypRows S fvE Γ T rows = true) : closedE Γ t.toExpr = true :=
  Goml.Match.matchc_preserves_closed S hgen fuel ty n rows t n' Γ T hc hmissing hnames hrows

/-- entry point `match e { arms }` (scrutinee a variable, or bound to `mtmp` first) -/
theorem compileMatch_closed (S : Match.Sig) (hgen : S.gen = realGen) (fuel : Nat) (ty : Ty) (mtmp : String)
    (n : Nat) (sc : Scrut) (arms : List (ArmIn Expr)) (e : Expr) (n' : Nat) (Γ : List String) (sty : Ty)
    (hc : compileMatch S fuel ty mtmp n sc arms = some (.ok (e, n')))
    (hyp : presHypMatch S Γ sty mtmp sc arms = true) : closedE Γ e = true :=
  Goml.Match.compileMatch_closed S hgen fuel ty mtmp n sc arms e n' Γ sty hc hyp

/-- entry point `let pat = e; rest` -/
theorem compileLet_closed (S : Match.Sig) (hgen : S.gen = realGen) (fuel : Nat) (ty : Ty) (mtmp : String)
    (n : Nat) (e : Expr) (pat : Pat) (rest : Expr) (restTy : Ty) (out : Expr) (n' : Nat) (Γ : List String)
    (hc : compileLet S fuel ty mtmp n e pat rest restTy = some (.ok (out, n')))
    (hyp : presHypLet S Γ mtmp e pat rest restTy = true) : closedE Γ out = true :=
  Goml.Match.compileLet_closed S hgen fuel ty mtmp n e pat rest restTy out n' Γ hc hyp

/-- the statement of scope closedness used for ANF (`Scoped.unbound … = []`, also the driver's oracle on
every real dump) and the one used for the match compiler (`Match.closedE`) are the same notion -/
theorem scoped_iff_closedE (B : List String) (e : Expr) : unbound B e = [] ↔ closedE B e = true :=
  unbound_nil_iff_closedE B e

end MatchC

end Goml.C03pres
