import GomlVerif.Model.ParserFuel
import GomlVerif.Lemmas.GrammarTermCheck
import GomlVerif.Gen.MatchDispatch
/-!
# C04 — the logic that is supposed to keep the parser from hanging

"Never panics / never overflows the stack" are facts about the Rust runtime and are *searched*
(`harness/src/c04.rs`). What is proved here is the termination argument of the parser: the fuel
counter turns every stuck position into `eof` answers, every loop whose body makes progress in
the sense below runs a bounded number of times, `if … else if … else { advance_with_error }`
chains make progress whatever their branches do, and hence the top-level loop of `file()`
consumes every token. Graph/artifact termination is C16/C15 (`Props/C15.lean`: `validate_iff`,
`corrupt_core_rejected`, …) and is not repeated here.
-/
namespace Goml.ParserFuel

/-- cursor inside the input, fuel never above the constant -/
def Wf (s : St) : Prop := s.cursor ≤ s.toks.length ∧ s.fuel ≤ FUEL

/-- lexicographic measure: tokens left, then fuel left (the potential `Grammar.mu` of `Lemmas/GrammarTerm.lean`, on this
model; `257` there is `FUEL + 1`) -/
def measure (s : St) : Nat := (s.toks.length - s.cursor) * (FUEL + 1) + s.fuel

/-- what every parser function built from the primitives satisfies: it never moves the cursor
back, never touches the token list, and gains fuel only by advancing -/
def StepOK (f : St → St) : Prop :=
  ∀ s, Wf s → Wf (f s) ∧ (f s).toks = s.toks ∧ s.cursor ≤ (f s).cursor ∧
    ((f s).cursor = s.cursor → s.cursor < s.toks.length → (f s).fuel ≤ s.fuel)

/-- a loop body makes progress: on a non-final position it advances, or it at least spends fuel
(which is only possible while fuel is left — with the fuel gone a body must advance) -/
def Progress (body : St → St) : Prop :=
  ∀ s, Wf s → s.cursor < s.toks.length →
    Wf (body s) ∧ (body s).toks = s.toks ∧
      (s.cursor < (body s).cursor ∨ ((body s).cursor = s.cursor ∧ (body s).fuel < s.fuel))

/-! ## primitives -/

theorem look_toks (s : St) (n : Nat) : (look s n).2.toks = s.toks := by
  unfold look; split
  · split <;> rfl
  · rfl

theorem look_cursor (s : St) (n : Nat) : (look s n).2.cursor = s.cursor := by
  unfold look; split
  · split <;> rfl
  · rfl

theorem look_fuel (s : St) (n : Nat) : (look s n).2.fuel = s.fuel - 1 := by
  unfold look; split
  · rename_i h; split <;> simp [h]
  · rfl

theorem look_zero (s : St) (n : Nat) (h : s.fuel = 0) : (look s n).1 = EOF := by
  simp [look, h]

theorem look_pos (s : St) (n : Nat) (h : s.fuel ≠ 0) : (look s n).1 = kindAt s n := by
  simp [look, h]

theorem look_wf (s : St) (n : Nat) (h : Wf s) : Wf (look s n).2 := by
  refine ⟨?_, ?_⟩
  · rw [look_cursor, look_toks]; exact h.1
  · rw [look_fuel]; have := h.2; omega

theorem look_stepOK (n : Nat) : StepOK (fun s => (look s n).2) := by
  intro s h
  refine ⟨look_wf s n h, look_toks s n, by rw [look_cursor]; exact Nat.le_refl _, ?_⟩
  intro _ _; rw [look_fuel]; omega

theorem advance_toks (s : St) : (advance s).toks = s.toks := rfl
theorem advance_fuel (s : St) : (advance s).fuel = FUEL := rfl

theorem advance_cursor_lt (s : St) (h : s.cursor < s.toks.length) : (advance s).cursor = s.cursor + 1 := by
  simp [advance, h]

theorem advance_cursor_ge (s : St) : s.cursor ≤ (advance s).cursor := by
  simp only [advance]; split <;> omega

theorem advance_wf (s : St) (h : Wf s) : Wf (advance s) := by
  refine ⟨?_, Nat.le_refl _⟩
  simp only [advance]; split
  · omega
  · exact h.1

/-- `advance` refuels, but on a non-final position it also moves -/
theorem advance_stepOK : StepOK advance := by
  intro s h
  refine ⟨advance_wf s h, rfl, advance_cursor_ge s, ?_⟩
  intro hc hl
  rw [advance_cursor_lt s hl] at hc; omega

theorem StepOK.comp {f g : St → St} (hf : StepOK f) (hg : StepOK g) : StepOK (fun s => g (f s)) := by
  intro s h
  obtain ⟨w1, t1, c1, f1⟩ := hf s h
  obtain ⟨w2, t2, c2, f2⟩ := hg (f s) w1
  refine ⟨w2, by rw [t2, t1], Nat.le_trans c1 c2, ?_⟩
  intro hc hl
  show (g (f s)).fuel ≤ s.fuel
  have hc : (g (f s)).cursor = s.cursor := hc
  have e1 : (f s).cursor = s.cursor := by omega
  have := f1 e1 hl
  have := f2 (by omega) (by rw [t1, e1]; exact hl)
  omega

theorem StepOK.id : StepOK (fun s => s) := by
  intro s h; exact ⟨h, rfl, Nat.le_refl _, fun _ _ => Nat.le_refl _⟩

theorem errorsBump_stepOK : StepOK (fun s => { s with errors := s.errors + 1 }) := by
  intro s h; exact ⟨h, rfl, Nat.le_refl _, fun _ _ => Nat.le_refl _⟩

theorem advanceWithError_stepOK : StepOK advanceWithError :=
  StepOK.comp errorsBump_stepOK advance_stepOK

theorem peek_stepOK : StepOK (fun s => (peek s).2) := look_stepOK 0
theorem nth_stepOK (n : Nat) : StepOK (fun s => (nth s n).2) := look_stepOK n

theorem at_snd (s : St) (k : Kind) : (atK s k).2 = (peek s).2 := rfl
theorem at_fst (s : St) (k : Kind) : (atK s k).1 = ((peek s).1 == k) := rfl

theorem at_stepOK (k : Kind) : StepOK (fun s => (atK s k).2) := peek_stepOK

theorem peek_ok (s : St) (h : Wf s) :
    Wf (peek s).2 ∧ (peek s).2.toks = s.toks ∧ (peek s).2.cursor = s.cursor ∧ (peek s).2.fuel = s.fuel - 1 :=
  ⟨look_wf s 0 h, look_toks s 0, look_cursor s 0, look_fuel s 0⟩

/-- `eat` is one `at`, followed by `advance` if the token is there -/
theorem eat_cases (P : St → Prop) (s : St) (k : Kind) (h1 : P (advance (peek s).2)) (h2 : P (peek s).2) :
    P (eat s k).2 := by
  unfold eat atK
  dsimp only
  split
  · exact h1
  · exact h2

/-- `expect` ends after its `eat`; or after one more `peek` with an `Error` event; or with `advance_with_error` -/
theorem expect_cases (P : St → Prop) (s : St) (k : Kind) (h1 : P (eat s k).2)
    (h2 : P { (peek (eat s k).2).2 with errors := (peek (eat s k).2).2.errors + 1 })
    (h3 : P (advanceWithError (peek (eat s k).2).2)) : P (expect s k) := by
  unfold expect
  dsimp only
  split
  · exact h1
  · split
    · exact h2
    · exact h3

/-- what `StepOK f` says of `s` and `r = f s` -/
def Step (s r : St) : Prop :=
  Wf r ∧ r.toks = s.toks ∧ s.cursor ≤ r.cursor ∧ (r.cursor = s.cursor → s.cursor < s.toks.length → r.fuel ≤ s.fuel)

theorem eat_stepOK (k : Kind) : StepOK (fun s => (eat s k).2) := fun s h =>
  eat_cases (Step s) s k (StepOK.comp peek_stepOK advance_stepOK s h) (peek_stepOK s h)

theorem expect_stepOK (k : Kind) : StepOK (fun s => expect s k) := fun s h =>
  expect_cases (Step s) s k (eat_stepOK k s h)
    (StepOK.comp (StepOK.comp (eat_stepOK k) peek_stepOK) errorsBump_stepOK s h)
    (StepOK.comp (StepOK.comp (eat_stepOK k) peek_stepOK) advanceWithError_stepOK s h)

/-! ## the fuel turns a stuck position into `eof` -/

/-- any sequence of `peek`/`nth n` calls (no `advance` in between) -/
def looks : List Nat → St → St
  | [], s => s
  | n :: ns, s => looks ns (look s n).2

theorem looks_fuel (ns : List Nat) (s : St) : (looks ns s).fuel = s.fuel - ns.length := by
  induction ns generalizing s with
  | nil => simp [looks]
  | cons n ns ih => simp only [looks, ih, look_fuel, List.length_cons]; omega

/-- After `fuel` peeks without an `advance` every further `peek`/`nth`
answers `eof`, whatever the input -/
theorem peek_stuck_eof (s : St) (ns : List Nat) (h : s.fuel ≤ ns.length) (n : Nat) :
    (look (looks ns s) n).1 = EOF := by
  apply look_zero
  rw [looks_fuel]; omega

/-- … and the stuck position is reported exactly once until the next `advance` -/
theorem stuck_reported_once (s : St) (ns : List Nat) :
    (looks ns s).stuckDiags ≤ s.stuckDiags + 1 ∧
      (s.stuckReported = true → (looks ns s).stuckDiags = s.stuckDiags) := by
  induction ns generalizing s with
  | nil => simp [looks]
  | cons n ns ih =>
    simp only [looks]
    by_cases hf : s.fuel = 0
    · by_cases hr : s.stuckReported = true
      · have e : (look s n).2 = s := by simp [look, hf, hr]
        rw [e]; exact ih s
      · have hr' : s.stuckReported = false := by simpa using hr
        have e : (look s n).2 = { s with stuckReported := true, stuckDiags := s.stuckDiags + 1 } := by
          simp [look, hf, hr']
        rw [e]
        have := (ih { s with stuckReported := true, stuckDiags := s.stuckDiags + 1 }).2 rfl
        simp only at this
        exact ⟨by omega, by intro h; simp [hr'] at h⟩
    · have e : (look s n).2 = { s with fuel := s.fuel - 1 } := by simp [look, hf]
      rw [e]
      exact ih { s with fuel := s.fuel - 1 }

/-- non-vacuity: on `fn fn` with fuel 2 left, the third peek reports and says `eof` although a
token is there -/
example :
    let s : St := { init ["fn", "fn"] with fuel := 2 }
    (look (looks [0, 0] s) 0).1 = EOF ∧ (look s 0).1 = "fn" ∧
      (look (looks [0, 0] s) 0).2.stuckDiags = 1 ∧ (looks [0, 0, 0, 0, 0] s).stuckDiags = 1 := by
  decide +kernel

/-! ## `expect` never eats a synchronisation token -/

/-- If the current token is one of the recovery tokens
(`Gen.recoveryTokens`, regenerated from `should_consume_on_expect_failure`) and is not the
expected one, `expect` leaves the cursor where it is (the enclosing loop sees the token) -/
theorem expect_keeps_recovery_token (s : St) (k : Kind) (h2 : 2 ≤ s.fuel)
    (hne : (kindAt s 0 == k) = false) (hrec : Gen.recoveryTokens.contains (kindAt s 0) = true) :
    (expect s k).cursor = s.cursor := by
  have hf : s.fuel ≠ 0 := by omega
  have e1 : (peek s).1 = kindAt s 0 := look_pos s 0 hf
  have hat : (atK s k).1 = false := by rw [at_fst, e1]; exact hne
  have heat : eat s k = (false, (peek s).2) := by simp [eat, hat, at_snd]
  have hf2 : (look s 0).2.fuel ≠ 0 := by rw [look_fuel]; omega
  have e2 : (peek (peek s).2).1 = kindAt s 0 := by
    show (look (look s 0).2 0).1 = kindAt s 0
    rw [look_pos _ 0 hf2]
    simp [kindAt, look_toks, look_cursor]
  simp only [expect, heat, Bool.false_eq_true, if_false, e2, shouldConsume, hrec, Bool.not_true,
    Bool.not_false, Bool.or_true, if_true]
  show (look (look s 0).2 0).2.cursor = s.cursor
  rw [look_cursor, look_cursor]

example : (expect (init ["}", "fn"]) ")").cursor = 0 ∧ (expect (init ["x", "fn"]) ")").cursor = 1 ∧
    (expect (init [")", "fn"]) ")").cursor = 1 := by decide +kernel

/-! ## loops -/

/-- a step of the cursor outweighs any refuelling -/
theorem measure_lt_of_cursor_lt {s r : St} (w : Wf r) (t : r.toks = s.toks) (hc : s.cursor < r.cursor) :
    measure r < measure s := by
  have hb : r.cursor ≤ s.toks.length := t ▸ w.1
  have := Nat.mul_le_mul_right (FUEL + 1) (show (s.toks.length - r.cursor) + 1 ≤ s.toks.length - s.cursor by omega)
  rw [Nat.add_mul] at this
  have := w.2
  simp only [measure, t]
  omega

theorem measure_lt_of_progress {body : St → St} (hp : Progress body) (s : St) (h : Wf s)
    (hl : s.cursor < s.toks.length) : measure (body s) < measure s := by
  obtain ⟨w, t, pr⟩ := hp s h hl
  rcases pr with hc | ⟨hc, hf⟩
  · exact measure_lt_of_cursor_lt w t hc
  · simp only [measure, t, hc]; omega

theorem measure_le_of_step {f : St → St} (hs : StepOK f) (s : St) (h : Wf s)
    (hl : s.cursor < s.toks.length) : measure (f s) ≤ measure s := by
  obtain ⟨w, t, c, fu⟩ := hs s h
  by_cases hc : (f s).cursor = s.cursor
  · have := fu hc hl; simp only [measure, t, hc]; omega
  · exact Nat.le_of_lt (measure_lt_of_cursor_lt w t (by omega))

/-- the loop test before each iteration: `p.at(k)` (one `peek`) for a stop token, nothing for `while !p.eof()` -/
def guard (stop : Option Kind) (s : St) : Bool × St :=
  match stop with
  | some k => atK s k
  | none => (false, s)

theorem runLoop_zero (stop : Option Kind) (body : St → St) (s : St) :
    runLoop stop body 0 s =
      if (guard stop s).1 || isEof (guard stop s).2 then some ((guard stop s).2, 0) else none := by
  cases stop <;> rfl

theorem runLoop_succ (stop : Option Kind) (body : St → St) (n : Nat) (s : St) :
    runLoop stop body (n + 1) s =
      if (guard stop s).1 || isEof (guard stop s).2 then some ((guard stop s).2, 0)
      else (runLoop stop body n (body (guard stop s).2)).map fun (r, c) => (r, c + 1) := by
  cases stop <;> rfl

theorem guard_stepOK (stop : Option Kind) : StepOK (fun s => (guard stop s).2) := by
  cases stop with
  | none => exact StepOK.id
  | some k => exact at_stepOK k

theorem guard_cursor (stop : Option Kind) (s : St) : (guard stop s).2.cursor = s.cursor := by
  cases stop with
  | none => rfl
  | some k => exact look_cursor s 0

/-- A loop `while !p.at(k) && !p.eof() { body }` (or `while !p.eof()`) whose
body makes progress leaves within `measure s` iterations — at most `(fuel+1)·(n+1)` on `n`
tokens — at the end of input or in front of the stop token, with a well-formed state -/
theorem loop_terminates (stop : Option Kind) (body : St → St) (hp : Progress body) :
    ∀ (m : Nat) (s : St), Wf s → measure s ≤ m →
      ∃ r c, runLoop stop body m s = some (r, c) ∧ c ≤ m ∧ Wf r ∧ r.toks = s.toks := by
  intro m
  induction m with
  | zero =>
    intro s h hm
    obtain ⟨w, t, _, _⟩ : Step s (guard stop s).2 := guard_stepOK stop s h
    -- measure 0: no tokens left, the test sees the end
    have heof : isEof (guard stop s).2 = true := by
      have hcur : (s.toks.length - s.cursor) * (FUEL + 1) = 0 := by simp only [measure] at hm; omega
      have := Nat.mul_eq_zero.1 hcur
      simp only [isEof, decide_eq_true_eq, t, guard_cursor]
      omega
    exact ⟨_, 0, by rw [runLoop_zero, heof, Bool.or_true, if_pos rfl], Nat.le_refl _, w, t⟩
  | succ m ih =>
    intro s h hm
    obtain ⟨w, t, _, _⟩ : Step s (guard stop s).2 := guard_stepOK stop s h
    have c := guard_cursor stop s
    rw [runLoop_succ]
    by_cases hexit : ((guard stop s).1 || isEof (guard stop s).2) = true
    · exact ⟨_, 0, by rw [if_pos hexit], Nat.zero_le _, w, t⟩
    · have hl1 : (guard stop s).2.cursor < (guard stop s).2.toks.length := by
        simp only [Bool.or_eq_true, not_or, isEof, decide_eq_true_eq, Nat.not_le] at hexit
        exact hexit.2
      have hle := measure_le_of_step (guard_stepOK stop) s h (by rw [c, t] at hl1; exact hl1)
      obtain ⟨w', t', _⟩ := hp _ w hl1
      have hlt := measure_lt_of_progress hp _ w hl1
      obtain ⟨r, n, hr, hn, wr, tr⟩ := ih (body (guard stop s).2) w' (by omega)
      exact ⟨r, n + 1, by rw [if_neg hexit, hr]; rfl, by omega, wr, by rw [tr, t', t]⟩

/-- the bound in the form of the property text -/
theorem measure_init (toks : List Kind) : measure (init toks) + 1 = (FUEL + 1) * (toks.length + 1) := by
  simp only [measure, init, Nat.sub_zero]
  rw [Nat.mul_comm (FUEL + 1), Nat.add_mul]
  omega

theorem init_wf (toks : List Kind) : Wf (init toks) := ⟨Nat.zero_le _, Nat.le_refl _⟩

/-- how a loop that leaves got there: what the test and the body preserve holds of the state it leaves in, and
the last test saw the end of the input or the stop token -/
theorem runLoop_leaves (stop : Option Kind) (body : St → St) (I : St → Prop)
    (hg : ∀ s, I s → I (guard stop s).2) (hb : ∀ s, I s → I (body s)) :
    ∀ (m : Nat) (s r : St) (c : Nat), I s → runLoop stop body m s = some (r, c) →
      I r ∧ (isEof r = true ∨ ∃ k s', stop = some k ∧ r = (atK s' k).2 ∧ (atK s' k).1 = true) := by
  have hexit : ∀ s, I s → ((guard stop s).1 || isEof (guard stop s).2) = true →
      I (guard stop s).2 ∧ (isEof (guard stop s).2 = true ∨
        ∃ k s', stop = some k ∧ (guard stop s).2 = (atK s' k).2 ∧ (atK s' k).1 = true) := by
    intro s hs he
    refine ⟨hg s hs, ?_⟩
    cases stop with
    | none => exact Or.inl he
    | some k =>
      cases h1 : (atK s k).1 with
      | true => exact Or.inr ⟨k, s, rfl, rfl, h1⟩
      | false => exact Or.inl (by simpa [guard, h1] using he)
  intro m
  induction m with
  | zero =>
    intro s r c hs h
    rw [runLoop_zero] at h
    split at h
    · cases h; exact hexit s hs ‹_›
    · cases h
  | succ m ih =>
    intro s r c hs h
    rw [runLoop_succ] at h
    split at h
    · cases h; exact hexit s hs ‹_›
    · cases hr : runLoop stop body m (body (guard stop s).2) with
      | none => rw [hr] at h; cases h
      | some rc =>
        rw [hr] at h
        cases h
        exact ih _ _ _ (hb _ (hg s hs)) hr

/-- a loop that leaves at all leaves at the real end of input or in front of its stop token -/
theorem runLoop_exit (stop : Option Kind) (body : St → St) (m : Nat) (s r : St) (c : Nat)
    (h : runLoop stop body m s = some (r, c)) :
    isEof r = true ∨ ∃ k s', stop = some k ∧ r = (atK s' k).2 ∧ (atK s' k).1 = true :=
  (runLoop_leaves stop body (fun _ => True) (fun _ _ => trivial) (fun _ _ => trivial) m s r c trivial h).2

/-! ## dispatch chains and the top-level loop -/

/-- An `if p.at(..) … else if … else { advance_with_error }` chain makes
progress whatever its branches are, as long as they are parser functions (`StepOK`) and no
guard accepts `eof`: with fuel left the first guard spends some; without fuel every guard sees
`eof`, fails, and the final `else` advances -/
theorem dispatch_progress (bs : List ((Kind → Bool) × (St → St)))
    (hbs : ∀ b ∈ bs, StepOK b.2 ∧ b.1 EOF = false) : Progress (dispatch bs) := by
  induction bs with
  | nil =>
    intro s h hl
    have w := advanceWithError_stepOK s h
    refine ⟨w.1, w.2.1, Or.inl ?_⟩
    show s.cursor < (advance { s with errors := s.errors + 1 }).cursor
    rw [advance_cursor_lt _ (by exact hl)]; exact Nat.lt_succ_self _
  | cons b rest ih =>
    obtain ⟨g, f⟩ := b
    have hrest : ∀ b ∈ rest, StepOK b.2 ∧ b.1 EOF = false := fun b hb => hbs b (List.mem_cons_of_mem _ hb)
    have hb := hbs (g, f) (List.mem_cons_self)
    have hg0 : g EOF = false := hb.2
    have hfok : StepOK f := hb.1
    intro s h hl
    have w1 := peek_ok s h
    have c1 : (peek s).2.cursor = s.cursor := look_cursor s 0
    have t1 : (peek s).2.toks = s.toks := look_toks s 0
    have f1 : (peek s).2.fuel = s.fuel - 1 := look_fuel s 0
    have hl1 : (peek s).2.cursor < (peek s).2.toks.length := by rw [c1, t1]; exact hl
    simp only [dispatch]
    by_cases hg : g (peek s).1 = true
    · -- the guard accepted a token, so fuel was left and the look spent some
      have hf : s.fuel ≠ 0 := fun hf => by rw [show (peek s).1 = EOF from look_zero s 0 hf, hg0] at hg; cases hg
      simp only [hg, if_true]
      obtain ⟨w, t, c, fu⟩ := hfok (peek s).2 w1.1
      refine ⟨w, by rw [t, t1], ?_⟩
      by_cases hc : (f (peek s).2).cursor = (peek s).2.cursor
      · have := fu hc hl1
        exact Or.inr ⟨by omega, by omega⟩
      · exact Or.inl (by omega)
    · simp only [hg, Bool.false_eq_true, if_false]
      obtain ⟨w, t, pr⟩ := ih hrest (peek s).2 w1.1 hl1
      refine ⟨w, by rw [t, t1], ?_⟩
      rcases pr with hc | ⟨hc, hlt⟩
      · exact Or.inl (by omega)
      · exact Or.inr ⟨by omega, by omega⟩

/-- The top-level loop of `file()` — `while !p.eof() { if p.at(#) …
else if p.at_any(EXPR_FIRST) … else { advance_with_error } }` — terminates after at most
`(fuel+1)·(n+1)` iterations and has then consumed every token, for *any* item parsers -/
theorem file_consumes_all (bs : List ((Kind → Bool) × (St → St)))
    (hbs : ∀ b ∈ bs, StepOK b.2 ∧ b.1 EOF = false) (toks : List Kind) :
    ∃ r c, runLoop none (dispatch bs) (measure (init toks)) (init toks) = some (r, c) ∧
      c < (FUEL + 1) * (toks.length + 1) ∧ r.cursor = toks.length := by
  obtain ⟨r, c, hr, hc, wr, tr⟩ :=
    loop_terminates none (dispatch bs) (dispatch_progress bs hbs) (measure (init toks)) (init toks)
      (init_wf toks) (Nat.le_refl _)
  refine ⟨r, c, hr, by have := measure_init toks; omega, ?_⟩
  rcases runLoop_exit none (dispatch bs) _ _ r c hr with he | ⟨k, _, hk, _⟩
  · have h1 : r.toks.length ≤ r.cursor := by simpa [isEof] using he
    have h2 := wr.1
    have h3 : r.toks = toks := by rw [tr]; rfl
    rw [h3] at h1 h2; omega
  · cases hk

/-- the guards of `file()` never accept `eof`: the keyword guards are `at(T![kw])` with `kw ≠ eof`,
and `EXPR_FIRST` (regenerated from expr.rs) does not contain it -/
theorem exprFirst_rejects_eof : Gen.exprFirst.contains EOF = false := by decide +kernel

/-- non-vacuity: a three-branch dispatch on `fn x }`: one branch consumes `fn x`, nothing handles
`}`, the default eats it; the loop ends at cursor 3 after 2 iterations -/
example :
    let item : St → St := fun s => advance (advance s)
    let bs : List ((Kind → Bool) × (St → St)) :=
      [((· == "struct"), advance), ((· == "fn"), item), (fun k => Gen.exprFirst.contains k, fun s => s)]
    (runLoop none (dispatch bs) 10 (init ["fn", "x", "}"])).map (fun (r, c) => (r.cursor, c, r.errors))
      = some (3, 2, 1) := by decide +kernel

/-- a state that the test rejects and that test and body together map to itself is never left -/
theorem runLoop_fixed (stop : Option Kind) (body : St → St) (s : St)
    (hx : ((guard stop s).1 || isEof (guard stop s).2) = false) (hfix : body (guard stop s).2 = s) :
    ∀ n, runLoop stop body n s = none := by
  intro n
  induction n with
  | zero => rw [runLoop_zero, hx]; rfl
  | succ n ih => rw [runLoop_succ, hx, hfix, ih]; rfl

/-- what goes wrong without the advancing default: a body that only looks never leaves a
non-final position once the fuel is gone (this is the shape `Progress` rules out) -/
example :
    let body : St → St := fun s => (peek s).2
    ∀ n, runLoop (some "}") body n { init ["x"] with fuel := 0 } = none := by
  intro body n
  -- the first iteration reports the stuck position; the state it leaves is a fixed point
  cases n with
  | zero => decide
  | succ n =>
    have e : body (guard (some "}") { init ["x"] with fuel := 0 }).2 =
        { init ["x"] with fuel := 0, stuckReported := true, stuckDiags := 1 } := by decide
    rw [runLoop_succ, if_neg (by decide), e, runLoop_fixed _ _ _ (by decide) (by decide)]
    rfl

/-! ## diagnostics point at a token -/

/-- The range `build_tree` attaches to an `Event::Error` is the
range of one of the tokens (the one at the cursor, else the last one), so with a tiling token
sequence (C12 `lex_tiles`) it lies inside the text -/
theorem error_range_is_token_range (ranges : List (Nat × Nat)) (cursor : Nat) (r : Nat × Nat)
    (h : errorRange ranges cursor = some r) : r ∈ ranges := by
  unfold errorRange at h
  split at h
  · rename_i r' hr; simp only [Option.some.injEq] at h; subst h; exact List.mem_of_getElem? hr
  · exact List.mem_of_getLast? h

theorem error_range_none_iff_no_tokens (ranges : List (Nat × Nat)) (cursor : Nat) :
    errorRange ranges cursor = none ↔ ranges = [] := by
  unfold errorRange
  constructor
  · intro h
    split at h
    · cases h
    · exact List.getLast?_eq_none_iff.1 h
  · intro h; subst h; simp

/-! ## out of fuel: looks never move the real end of input, and every cursor step is an `Advance`

Used by `Props/C12.lean` (`file_advances_cover_tokens`, `fuel_aware_eof_drops_tokens`). -/

theorem looks_toks (ns : List Nat) (s : St) : (looks ns s).toks = s.toks := by
  induction ns generalizing s with
  | nil => rfl
  | cons n ns ih => simp only [looks, ih, look_toks]

theorem looks_cursor (ns : List Nat) (s : St) : (looks ns s).cursor = s.cursor := by
  induction ns generalizing s with
  | nil => rfl
  | cons n ns ih => simp only [looks, ih, look_cursor]

/-- a scan that only looks (`impl_has_trait`: `nth(0)`, `nth(1)`, … with no `advance`) is a parser
function in the sense of `StepOK`, however long it is -/
theorem looks_stepOK (ns : List Nat) : StepOK (looks ns) := by
  induction ns with
  | nil => exact StepOK.id
  | cons n ns ih =>
    exact StepOK.comp (f := fun s => (look s n).2) (look_stepOK n) ih

/-- `Parser::eof()` (= `Input::eof`) gives the same answer after any number
of `peek`/`nth` calls — in particular after a lookahead that has used up the fuel -/
theorem eof_unmoved_by_looks (ns : List Nat) (s : St) : isEof (looks ns s) = isEof s := by
  simp only [isEof, looks_toks, looks_cursor]

/-- out of fuel the fuel-aware reading says "end of input" wherever the cursor is … -/
theorem eofViaPeek_out_of_fuel (s : St) (h : s.fuel = 0) : (eofViaPeek s).1 = true := by
  simp only [eofViaPeek, at_fst, peek, look_zero s 0 h, beq_self_eq_true]

/-- … while with fuel left the two readings agree (the lexer never produces an `eof` token) -/
theorem eofViaPeek_with_fuel (s : St) (h : s.fuel ≠ 0) (hk : EOF ∉ s.toks) :
    (eofViaPeek s).1 = isEof s := by
  simp only [eofViaPeek, at_fst, peek, look_pos s 0 h, kindAt, isEof, Nat.add_zero]
  by_cases hc : s.cursor < s.toks.length
  · have e : s.toks.getD s.cursor EOF = s.toks[s.cursor] := by
      simp [List.getD, List.getElem?_eq_getElem hc]
    have hm : s.toks[s.cursor] ∈ s.toks := List.getElem_mem hc
    have hne : s.toks[s.cursor] ≠ EOF := fun h' => hk (h' ▸ hm)
    rw [e]
    have : decide (s.toks.length ≤ s.cursor) = false := by simp; omega
    rw [this]
    exact beq_false_of_ne hne
  · have hl : s.toks.length ≤ s.cursor := by omega
    have e : s.toks.getD s.cursor EOF = EOF := by
      simp [List.getD, List.getElem?_eq_none hl]
    rw [e]; simp [hl]

/-- the cursor never runs ahead of the `Advance` events: every token the cursor has passed has an
`Advance` event, which is what `build_tree` needs to put it into the tree -/
def CursorCovered (s : St) : Prop := s.cursor ≤ s.advances

/-- a parser function under which `CursorCovered` is invariant -/
def KeepsCovered (f : St → St) : Prop := ∀ s, CursorCovered s → CursorCovered (f s)

theorem init_covered (toks : List Kind) : CursorCovered (init toks) := Nat.le_refl 0

theorem look_keepsCovered (n : Nat) : KeepsCovered (fun s => (look s n).2) := by
  intro s h
  have c := look_cursor s n
  have a : (look s n).2.advances = s.advances := by
    unfold look; split
    · split <;> rfl
    · rfl
  show (look s n).2.cursor ≤ (look s n).2.advances
  unfold CursorCovered at h
  omega

theorem looks_keepsCovered (ns : List Nat) : KeepsCovered (looks ns) := by
  induction ns with
  | nil => intro s h; exact h
  | cons n ns ih => intro s h; exact ih _ (look_keepsCovered n s h)

theorem advance_keepsCovered : KeepsCovered advance := by
  intro s h
  unfold CursorCovered at *
  simp only [advance]
  split <;> omega

theorem advanceWithError_keepsCovered : KeepsCovered advanceWithError := by
  intro s h
  exact advance_keepsCovered { s with errors := s.errors + 1 } h

theorem KeepsCovered.comp {f g : St → St} (hf : KeepsCovered f) (hg : KeepsCovered g) :
    KeepsCovered (fun s => g (f s)) := fun s h => hg _ (hf s h)

theorem eat_keepsCovered (k : Kind) : KeepsCovered (fun s => (eat s k).2) := fun s h =>
  eat_cases CursorCovered s k (advance_keepsCovered _ (look_keepsCovered 0 s h)) (look_keepsCovered 0 s h)

theorem errorsBump_keepsCovered : KeepsCovered (fun s => { s with errors := s.errors + 1 }) := fun _ h => h

theorem expect_keepsCovered (k : Kind) : KeepsCovered (fun s => expect s k) := fun s h =>
  have h2 : CursorCovered (peek (eat s k).2).2 := look_keepsCovered 0 _ (eat_keepsCovered k s h)
  expect_cases CursorCovered s k (eat_keepsCovered k s h) (errorsBump_keepsCovered _ h2)
    (advanceWithError_keepsCovered _ h2)

theorem dispatch_keepsCovered (bs : List ((Kind → Bool) × (St → St)))
    (hbs : ∀ b ∈ bs, KeepsCovered b.2) : KeepsCovered (dispatch bs) := by
  induction bs with
  | nil => exact advanceWithError_keepsCovered
  | cons b rest ih =>
    obtain ⟨g, f⟩ := b
    intro s h
    have hp : CursorCovered (peek s).2 := look_keepsCovered 0 s h
    simp only [dispatch]
    by_cases hg : g (peek s).1 = true
    · simp only [hg, if_true]
      exact hbs (g, f) List.mem_cons_self _ hp
    · simp only [hg, Bool.false_eq_true, if_false]
      exact ih (fun b hb => hbs b (List.mem_cons_of_mem _ hb)) _ hp

theorem runLoop_keepsCovered (stop : Option Kind) (body : St → St) (hb : KeepsCovered body) :
    ∀ (m : Nat) (s r : St) (c : Nat), CursorCovered s → runLoop stop body m s = some (r, c) →
      CursorCovered r := by
  intro m s r c hs h
  refine (runLoop_leaves stop body CursorCovered ?_ hb m s r c hs h).1
  cases stop with
  | none => exact fun _ h => h
  | some k => exact look_keepsCovered 0

end Goml.ParserFuel

/-! ## the grammar functions themselves (`Model/Grammar.lean`)

`Goml.Grammar.run n f s` executes the model of the Rust grammar function `f` (all of `file.rs`, `expr.rs`,
`pattern.rs`, `path.rs`, `stmt.rs`; the model's event list is compared event for event with `Parser.events` on
every run). The theorems below hold for EVERY grammar function, every token list, every fuel level and every
call budget `n`: where the `StepOK` closure argument above assumes that item parsers are compositions of the
primitives, these are statements about the item parsers as they are written. -/
namespace Goml.Grammar
open Goml.Gen.Gram

/-- **Every grammar function is a `StepOK` step**: it never touches the token list, never moves the
cursor back, and never moves it past the end of the input. -/
theorem grammar_stepOK (n : Nat) (f : Fn) (s : PS) :
    (run n f s).toks = s.toks ∧ s.pos ≤ (run n f s).pos ∧
      (s.pos ≤ s.toks.length → (run n f s).pos ≤ s.toks.length) :=
  ⟨(run_inv n f s).toks, (run_inv n f s).mono, (run_inv n f s).bound⟩

/-- **No token is skipped silently**: whatever a grammar function does, its output contains at least one
`Advance` event for every position the cursor moved (so a token the cursor passed is in the tree). -/
theorem grammar_advances_cover_cursor (n : Nat) (f : Fn) (s : PS) :
    advsL s.out + ((run n f s).pos - s.pos) ≤ advsL (run n f s).out :=
  (run_inv n f s).adv

/-- **Exactly one `Advance` per token, as long as the end of the input is not reached**: for every grammar function,
token list, fuel level and budget, if the cursor is still inside the input afterwards, the number of `Advance` events
produced equals the number of tokens the cursor moved over. The qualification is necessary and mirrors the Rust:
`advance()` at the real end (`Input::skip` is a no-op there) still pushes an `Advance`, which `build_tree` ignores
(`if let Some(token) = tokens.get(cursor)`); see the example below. -/
theorem grammar_advances_exact (n : Nat) (f : Fn) (s : PS) (h : (run n f s).isEof = false) :
    advsL (run n f s).out = advsL s.out + ((run n f s).pos - s.pos) :=
  (run_inv n f s).exact h

/-- `if 1 { }` (4 tokens): the missing `else` is reported by `advance_with_error` at the real end — 5 `Advance`s -/
example : advsL (parseItems [40, 77, 2, 3]).out = 5 ∧ (parseItems [40, 77, 2, 3]).pos = 4 := by decide +kernel

-- the existential hides the rest of the body, so that the goals after `rw [run, hD]` do not spell it out
theorem body_fileItems : ∃ D, body .fileItems = .ifEof .skip (.seq D (.call .fileItems)) := ⟨_, rfl⟩
theorem body_file : ∃ A B, body .file = .node K_FILE (.seq A (.seq B (.call .fileItems))) := ⟨_, _, rfl⟩

/-- the item loop of `file()` can only be left at the real end of the input: if the call budget did not run
out, `file_items` returns with the cursor at the end -/
theorem fileItems_ends_at_eof : ∀ (n : Nat) (s : PS), (run n .fileItems s).oof = false → (run n .fileItems s).isEof = true := by
  intro n
  induction n with
  | zero => intro s h; simp [run] at h
  | succ n ih =>
    intro s h
    obtain ⟨D, hD⟩ := body_fileItems
    rw [run, hD] at h ⊢
    generalize ({ s with trace := s.trace ||| (1 <<< Fn.fileItems.id) } : PS) = s' at h ⊢
    simp only [execS] at h ⊢
    cases he : s'.isEof with
    | true => simp only [he, ↓reduceIte]
    | false =>
      simp only [he, Bool.false_eq_true, ↓reduceIte] at h ⊢
      cases ho : (execS (run n) D s').oof with
      | true => simp only [ho, ↓reduceIte] at h; cases h
      | false =>
        simp only [ho, Bool.false_eq_true, ↓reduceIte] at h ⊢
        exact ih _ h

/-- **What every step does to the potential** `mu s = (len − pos)·257 + fuel` (0 at the end of the
input). A look outside a dead state (`fuel = 0` or at the end) lowers it; a dead look answers `eof` and stays dead; an
`advance` inside the input lowers it; no grammar function, for any token list, fuel level or budget, raises it. The literal
"every loop iteration consumes a token" is false at the fuel boundary (`while p.at(#) { attribute(p) }` entered with one
unit of fuel consumes nothing and leaves at the next test); "advances, spends fuel, or stops" is what holds, and
`all_checked` (decided per function on the abstract interpreter `abs`) is the statement that every loop and every call
cycle of the grammar is built that way. -/
theorem grammar_progress :
    (∀ (s : PS) (n : Nat), ¬ Dead s → mu (look s n).2 < mu s) ∧
    (∀ (s : PS) (n : Nat), Dead s → (look s n).1 = T_Eof ∧ Dead (look s n).2) ∧
    (∀ (s : PS), s.isEof = false → mu (doAdvance s) < mu s ∧ ∀ m, mu (doAdvErr s m) < mu s) ∧
    (∀ (n : Nat) (f : Fn) (s : PS), mu (run n f s) ≤ mu s) ∧
    allFns.all (checkFn theCfg) = true :=
  ⟨look_live, look_dead, fun s h => ⟨mu_bump_lt s h, fun _ => mu_bump_lt s h⟩, run_mu_le, all_checked⟩

/-- **The fuel-bounded model never runs out of its budget**, for every token list:
`budget len = 40·257·(len+1) + 41` bounds the depth of calls and loop iterations of `file` (linear in the number of
tokens, constant `40·257 = 10 280` per token), so no fuel beyond it is ever needed. More generally any reachable grammar
function started with `n ≥ ranks · mu s + rank f + 1` returns without running out (`run_terminates`). It covers
`match_arm_list` (whose progress relies on `expect_expr_with_message` advancing at fuel 0 — the summary of `matchArm` in
`summTbl`), item lists, parameter lists, generics, struct/enum bodies, block statements, argument lists and pattern lists. -/
theorem grammar_terminates (toks : List Nat) : (parseItems toks).oof = false := parseItems_no_oof toks

/-- `run_terminates` at `theCfg`, whose `inU` and `rk` are spelt out: any function of the universe, from any state -/
theorem grammar_terminates_from (n : Nat) (f : Fn) (s : PS) (hf : allFns.contains f = true) (ho : s.oof = false)
    (hn : ranks * mu s + rkTbl.getD f.id 0 + 1 ≤ n) : (run n f s).oof = false :=
  (run_terminates theCfg theCfg_checked n f s hf ho hn).1

/-- **`file()` consumes every token** (for every token list): the cursor ends at the end of the input and the
output holds at least one `Advance` per token. -/
theorem file_consumes_all_tokens (toks : List Nat) :
    (parseItems toks).pos = toks.length ∧ toks.length ≤ advsL (parseItems toks).out := by
  have h := grammar_terminates toks
  have hinv := run_inv (budget toks.length) .file (initPS toks)
  have hpos : (parseItems toks).isEof = true := by
    unfold parseItems at h ⊢
    generalize budget toks.length = n at h ⊢
    cases n with
    | zero => simp [run] at h
    | succ n =>
      obtain ⟨A, B, hA⟩ := body_file
      rw [run, hA] at h ⊢
      generalize ({ initPS toks with trace := (initPS toks).trace ||| (1 <<< Fn.file.id) } : PS) = s' at h ⊢
      simp only [execS] at h ⊢
      cases ho : (execS (run n) B (execS (run n) A { s' with out := [] })).oof with
      | true => simp only [ho, ↓reduceIte] at h; cases h
      | false =>
        simp only [ho, Bool.false_eq_true, ↓reduceIte] at h ⊢
        exact fileItems_ends_at_eof n _ h
  have ht := hinv.toks
  have hb := hinv.bound (by simp [initPS])
  have ha := hinv.adv
  simp only [initPS] at ht hb ha
  change (parseItems toks).toks = toks at ht
  change (parseItems toks).pos ≤ toks.length at hb
  simp only [PS.isEof, decide_eq_true_eq, ht] at hpos
  refine ⟨by omega, ?_⟩
  change advsL [] + ((parseItems toks).pos - 0) ≤ advsL (parseItems toks).out at ha
  simp only [advsL] at ha
  omega

end Goml.Grammar
/-! ## the match compiler's partial dispatch is only reached at types it has a case for

`compile_match.rs::compile_rows` dispatches on the type of the first column whose pattern is neither a
variable nor a wildcard; nine of the 24 variants of `tast::Ty` end in `panic!` / `unreachable!`
(`Gen/MatchDispatch.lean`, regenerated from `compile_rows`, with the shape of `move_variable_patterns` and
`branch_variable` asserted). Whether a *literal* pattern can carry such a type is decided in
`typer/check.rs`: each `check_pat_*` for a literal equates the scrutinee's type with a fixed set of types, on
every path and before anything is solved (the extractor asserts "on every path": the constraint is pushed
at brace depth 0 of the function). The theorems below are about these two regenerated tables; the typer's
solver (`TypeEqual` really forces equality: C03 `Gen/UnifyShape`, `Props/Unify`, `Props/Solve`) and the constructor /
tuple patterns (whose types come from the environment) are outside them and are *searched* by the stream
`pat-scrut` (`harness/src/patcat.rs`). -/
namespace Goml.MatchDispatch
open Goml.Gen.MatchDispatch

/-- does `compile_rows` compile a case for a branch variable of this type variant? -/
def hasCase (t : String) : Bool := (matchCase.lookup t).isSome

/-- does `compile_rows` panic for a branch variable of this type variant? -/
def panics (t : String) : Bool := (matchNoCase.lookup t).isSome

/-- Every variant of `tast::Ty` is in exactly one of the two tables (so
"has no case" is the same as "panics"), and the tables name nothing else -/
theorem match_dispatch_partitions_ty :
    (∀ t ∈ tyVariants, hasCase t = !panics t) ∧
    (∀ p ∈ matchCase, p.1 ∈ tyVariants) ∧ (∀ p ∈ matchNoCase, p.1 ∈ tyVariants) := by decide +kernel

/-- Every type the typer can equate the scrutinee of a literal
pattern (unit, bool, string, unsuffixed or suffixed integer) with is a type `compile_rows` compiles a
case for — so a literal pattern column never reaches one of its `panic!` arms, provided the equation is
solved or reported (C03) -/
theorem literal_pattern_type_has_match_case :
    ∀ f ∈ literalPatternTys, ∀ t ∈ f.2, hasCase t = true := by decide +kernel

/-- The typer's table names variants of `tast::Ty` only, and
every literal-pattern checker has at least one admissible type (the theorem above is not vacuous) -/
theorem literal_pattern_types_are_ty_variants :
    (∀ f ∈ literalPatternTys, f.2 ≠ [] ∧ ∀ t ∈ f.2, t ∈ tyVariants) ∧ literalPatternTys.length = 5 := by decide +kernel

/-- The float types have no case and are disjoint from the integer types:
the typer's `is_integer_ty` (not `is_numeric_ty`) is what keeps an integer literal pattern away from the
`Matching on floating point types is not supported` arm -/
theorem float_pattern_would_panic :
    (∀ t ∈ floatTys, panics t = true) ∧ (∀ t ∈ floatTys, t ∉ integerTys) ∧ floatTys ≠ [] ∧
    (∀ t ∈ integerTys, hasCase t = true) := by decide +kernel

/-- The fallback type of an unsuffixed integer pattern
(`integer_literal_target(ty).unwrap_or(int32)`; the extractor asserts the literal `TInt32` and that it is an
`is_integer_ty` type) has a case -/
theorem unsuffixed_int_pattern_default_has_case : "TInt32" ∈ integerTys ∧ hasCase "TInt32" = true := by decide +kernel

-- non-vacuity of the tables: the dispatch has both kinds of arm, and a literal checker with several types
example : hasCase "TString" = true ∧ panics "TFloat64" = true ∧ panics "TVec" = true := by decide +kernel
example : (literalPatternTys.lookup "check_pat_int").map List.length = some 8 := by decide +kernel

end Goml.MatchDispatch
