import GomlVerif.Lemmas.GoFragNames
import GomlVerif.Lemmas.GoCompTypedLink
import GomlVerif.Props.Dce
import GomlVerif.Gen.GoCompTables
/-!
# The Go back end (`go/compile.rs`): theorems about its model `Model/GoCompile.lean`

`(GoCompile.goFilePreSt env file n0).1` is everything `go_file` builds before it runs dead-code
elimination (exact tie: `gv gocomp` / `gomlmodel gocomp`, composed with `Dce.eliminateDeadVars`); `n0` is the
value `go_file`'s `Gensym` counter starts from.
`progOf file` is the `Sem` program of the ANF file (`AFn.toFn` erases the annotations, as the
shared dump does); the theorems hold for every `P : Prog` with those functions (`P.fns = file.map AFn.toFn`,
any dispatch table `impls` where the fragment has no trait objects; with `dynMarker` the table must pass `ImplsOK`).

* **T1 `compile_preserves`** — forward simulation: for every function of a set `G` of functions of
  the file that passes the decidable check `closedOK` (`Model/GoFrag.lean`: scalars, struct values (user structs, closure
  environments) and enum values (recursive enums included), operators, struct / enum construction, field and payload
  access, `match` on enums (type switch), on bool / integers / strings (value switch) and on unit, `let`, `if`, `while`,
  `Ref` cells (the `Sem` store against the Go heap, `Hp` / `WRel`), tuples, fixed-size arrays, `Vec` (under the
  no-spare-capacity `append` policy), `go`, top-level functions as values and calls through variables of function type,
  calls inside `G`, the builtins of `builtinNames` (printing, `*_to_string`, `string_len`); trait objects when `G` carries `dynMarker`
  (`compile_preserves_dyn`, under `ImplsOK`); Go names
  pairwise distinct; no Go constant expression whose exact value is not the run-time value), every definite `Sem.apply` run (a value
  or a panic, with its stdout and extern events) is reproduced by `callG` of the compiled function in the emitted file for
  some fuel, with the corresponding value (`VRel`, `Lemmas/GoCompRel.lean`: `C01.toG` on scalars, struct values field by
  field, an enum value as the Go struct of its variant) and the same observable world.  `compile_preserves_fragment` is
  the instance for `inGoFragment`; `compile_preserves_run` the whole-program form
  (`runGo m F = Sem.run fuel P`).
* **T3 `compile_order`** — the statements of `let x = v in body` are those of `v` followed by those
  of `body`, and the Go world after the first part is the `Sem` world after `v`: nothing of `body`
  runs before `v` is complete, and when `v` panics nothing of `body` runs at all.
* **T2 `compile_wellformed`** — the Go function compiled from a fragment function obeys Go's rules
  for locals (`scopeErrs = []`: every local declared before use, nothing redeclared or shadowed) and
  lies in the shape contract of the DCE theorems; hence (`dce_fn_scope_sound`) after dead-code
  elimination it still does and no local is left unused.  `compile_wellformed_typed_partial` is the
  typing half, for the functions that pass `stdFn` (`Model/GoFrag.lean`; the docstring of the theorem lists what that
  admits), against the total mirror `GoTyping.fnOKT` of `Go.check`'s typing rules.

What is missing for the full property (C01 for the back end): the fragment (float literals, operations on
literals whose Go constant value is not the run-time value (`noConstExpr`), the string builtins beyond `builtinSig`
are outside — those functions stay decided by the per-program oracles; trait objects are inside only under the
hypothesis `ImplsOK` on the dispatch table) and divergence (forward simulation of definite
runs only).  The composition with `eliminate_dead_vars` for a whole file is `Dce.dce_file_preserves`
(`Props/Dce.lean`); `Props/C01pipe.lean` composes the two (`core_to_emitted_go_preserves`).
-/
namespace Goml.GoCompileProps
open Goml Goml.Go Goml.GoCompile Goml.GoFrag Goml.GoComp
open Goml.Sem (Val World Res Fail)

/-- the anchors of `go/compile.rs`, `goast.rs`, `runtime.rs` extracted from the Rust text on every run
    are the ones the model and the fragment were written against: the callee names the `ECall` arm
    special-cases, `tast_ty_to_go_type` never answers `TVoid` (so the `TVoid` arm of `compile_fn`,
    `compile_aexpr`, is dead and rightly not modelled), the two `gensym` prefixes, the runtime
    functions in order, the set of lowering functions (a changed table stops the build) -/
theorem tables_are_modelled :
    Goml.Gen.gocompSpecialCallees = specialCallees ∧ Goml.Gen.gocompTyToGoMentionsVoid = false ∧
    Goml.Gen.gocompGensymPrefixes = ["cond", "ret"] ∧
    Goml.Gen.gocompRuntimeFns = runtimeFile.funcs.map (·.name) ∧
    Goml.Gen.gocompLoweringFns = ["compile_aexpr_effect", "compile_aexpr_assign", "compile_aexpr", "compile_while",
      "compile_match_branches", "compile_cexpr_effect", "compile_go", "compile_fn", "go_file"] := by
  refine ⟨by decide, rfl, by decide, by decide +kernel, by decide⟩

/-- T1 at function level from the facts about the two programs (`Link`) -/
theorem compile_preserves_of_link {env : Env} {file : AFile} {G : List String} {P : Prog} {F : GFile} (hl : Link env file G P F)
    (f : AFn) (hf : f ∈ file) (hfG : f.name ∈ G)
    (η : Hp) (hη : η.fns = fnSigs file G) (hηd : η.dyns = dynTable env file G) (args : List Val) (gargs : List GVal)
    (hargs : ArgsRel env η args gargs (f.params.map (·.2)))
    (w : World) (gw : GWorld) (hw : WRel env η w gw) (fuel : Nat) :
    match Sem.apply fuel P w (.fn f.name) args with
    | .ok v w' => ∃ m η' gv gw', η.le η' ∧ callG m F gw (.func (fnName f.name)) gargs = .ok gv gw' ∧
        VRel env η' v f.ret gv ∧ WRel env η' w' gw'
    | .fail (.panic k) w' => ∃ m η' gw', η.le η' ∧ callG m F gw (.func (fnName f.name)) gargs =
        .fail (.panic k) gw' ∧ WRel env η' w' gw'
    | _ => True := by
  have h := (sim_all hl fuel).u f hf hfG η args gargs w gw hη hηd hargs hw
  revert h
  cases Sem.apply fuel P w (.fn f.name) args with
  | ok v w' =>
    rintro ⟨η1, hle1, gv, gw', hc, hval, _, hw⟩
    obtain ⟨m, hm⟩ := hc.exists
    exact ⟨m, η1, gv, gw', hle1, hm, hval, hw⟩
  | fail fl w' =>
    cases fl with
    | panic k =>
      rintro ⟨η1, hle1, gw', hc, hw⟩
      obtain ⟨m, hm⟩ := hc.exists
      exact ⟨m, η1, gw', hle1, hm, hw⟩
    | fuel => intro _; trivial
    | stuck s => intro _; trivial

/-- **T1, function level.**  `G` is any set of function names of the file on which the decidable
    check `closedOK` succeeds (file-level name conditions + every member in the fragment
    with all its callees in `G` or builtins; no trait objects: see `compile_preserves_dyn`).  `args` / `gargs` are related
    arguments of the parameter types (`VRel`), `w` / `gw` related worlds (`WRel`: same stdout, extern events and schedule,
    the `Sem` store inside the Go heap, the no-spare-capacity `append` policy), `η` the heap context they are related in. -/
theorem compile_preserves (env : Env) (file : AFile) (n0 : Nat) (G : List String)
    (hG : closedOK env file n0 G = true) (P : Prog) (hP : P.fns = file.map AFn.toFn) (f : AFn) (hf : f ∈ file) (hfG : f.name ∈ G)
    (η : Hp) (hη : η.fns = fnSigs file G) (hηd : η.dyns = dynTable env file G) (args : List Val) (gargs : List GVal)
    (hargs : ArgsRel env η args gargs (f.params.map (·.2)))
    (w : World) (gw : GWorld) (hw : WRel env η w gw) (fuel : Nat) :
    match Sem.apply fuel P w (.fn f.name) args with
    | .ok v w' => ∃ m η' gv gw', η.le η' ∧ callG m (goFilePreSt env file n0).1 gw (.func (fnName f.name)) gargs = .ok gv gw' ∧
        VRel env η' v f.ret gv ∧ WRel env η' w' gw'
    | .fail (.panic k) w' => ∃ m η' gw', η.le η' ∧ callG m (goFilePreSt env file n0).1 gw (.func (fnName f.name)) gargs =
        .fail (.panic k) gw' ∧ WRel env η' w' gw'
    | _ => True :=
  compile_preserves_of_link (link_of_closed hG hP) f hf hfG η hη hηd args gargs hargs w gw hw fuel

/-- the hypothesis on the program's dispatch table under which trait objects are simulated (decidable; the harness
    evaluates it on every real program) -/
def ImplsOK (env : Env) (file : AFile) (G : List String) (P : Prog) : Prop := implsOK env file G P = true

instance (env : Env) (file : AFile) (G : List String) (P : Prog) : Decidable (ImplsOK env file G P) := by
  unfold ImplsOK; infer_instance

/-- **T1 with trait objects, function level.**  `G` may carry the flag `dynMarker` (`closedOKD`): then `EToDyn` and
    method calls on trait objects are in the fragment, for the vtables of `dynTable env file G`; `Sem` dispatches through
    `P.impls`, so the theorem assumes `ImplsOK`: the lookup `(trait, tyKey receiver, method)` finds the function the Go
    wrapper calls. -/
theorem compile_preserves_dyn (env : Env) (file : AFile) (n0 : Nat) (G : List String)
    (hG : closedOKD env file n0 G = true) (P : Prog) (hP : P.fns = file.map AFn.toFn) (hI : ImplsOK env file G P)
    (f : AFn) (hf : f ∈ file) (hfG : f.name ∈ G)
    (η : Hp) (hη : η.fns = fnSigs file G) (hηd : η.dyns = dynTable env file G) (args : List Val) (gargs : List GVal)
    (hargs : ArgsRel env η args gargs (f.params.map (·.2)))
    (w : World) (gw : GWorld) (hw : WRel env η w gw) (fuel : Nat) :
    match Sem.apply fuel P w (.fn f.name) args with
    | .ok v w' => ∃ m η' gv gw', η.le η' ∧ callG m (goFilePreSt env file n0).1 gw (.func (fnName f.name)) gargs = .ok gv gw' ∧
        VRel env η' v f.ret gv ∧ WRel env η' w' gw'
    | .fail (.panic k) w' => ∃ m η' gw', η.le η' ∧ callG m (goFilePreSt env file n0).1 gw (.func (fnName f.name)) gargs =
        .fail (.panic k) gw' ∧ WRel env η' w' gw'
    | _ => True :=
  compile_preserves_of_link (link_of_closedD hG hP (impls_of_ok hI)) f hf hfG η hη hηd args gargs hargs w gw hw fuel

/-- the hypothesis of T1 as one decidable predicate on a function of a file -/
def InGoFragment (env : Env) (file : AFile) (n0 : Nat) (f : AFn) : Prop := inGoFragment env file n0 f = true

instance (env : Env) (file : AFile) (n0 : Nat) (f : AFn) : Decidable (InGoFragment env file n0 f) := by
  unfold InGoFragment; infer_instance

/-- the same with trait objects admitted (the theorems then assume `ImplsOK`) -/
def InGoFragmentD (env : Env) (file : AFile) (n0 : Nat) (f : AFn) : Prop := inGoFragmentD env file n0 f = true

instance (env : Env) (file : AFile) (n0 : Nat) (f : AFn) : Decidable (InGoFragmentD env file n0 f) := by
  unfold InGoFragmentD; infer_instance

/-- **T1 for `InGoFragment`** (`G` = the set `goodFns` computes, its closure re-checked) -/
theorem compile_preserves_fragment (env : Env) (file : AFile) (n0 : Nat) (f : AFn) (hf : f ∈ file)
    (hfrag : InGoFragment env file n0 f) (P : Prog) (hP : P.fns = file.map AFn.toFn)
    (η : Hp) (hη : η.fns = fnSigs file (goodFns env file n0)) (hηd : η.dyns = dynTable env file (goodFns env file n0))
    (args : List Val) (gargs : List GVal)
    (hargs : ArgsRel env η args gargs (f.params.map (·.2)))
    (w : World) (gw : GWorld) (hw : WRel env η w gw) (fuel : Nat) :
    match Sem.apply fuel P w (.fn f.name) args with
    | .ok v w' => ∃ m η' gv gw', η.le η' ∧ callG m (goFilePreSt env file n0).1 gw (.func (fnName f.name)) gargs = .ok gv gw' ∧
        VRel env η' v f.ret gv ∧ WRel env η' w' gw'
    | .fail (.panic k) w' => ∃ m η' gw', η.le η' ∧ callG m (goFilePreSt env file n0).1 gw (.func (fnName f.name)) gargs =
        .fail (.panic k) gw' ∧ WRel env η' w' gw'
    | _ => True := by
  simp only [InGoFragment, inGoFragment, Bool.and_eq_true] at hfrag
  exact compile_preserves env file n0 _ hfrag.1 P hP f hf (by simpa using hfrag.2) η hη hηd args gargs hargs w gw hw fuel

/-- T1 for whole programs from the facts about the two programs (`Link`) -/
theorem compile_preserves_run_of_link {env : Env} {file : AFile} {n0 : Nat} {G : List String} {P : Prog}
    (hl : Link env file G P (goFilePreSt env file n0).1)
    (hnd : ((goFilePreSt env file n0).1.funcs.map (·.name)).Nodup)
    (f : AFn) (hf : f ∈ file) (hname : f.name = "main") (hps : f.params = [])
    (hfG : "main" ∈ G) (fuel : Nat) (eager : Bool)
    (hdef : (Sem.run fuel P "main" eager).status = "ok" ∨
      ∃ k, (Sem.run fuel P "main" eager).status = "panic:" ++ k) :
    ∃ m, runGo m (goFilePreSt env file n0).1 "main" eager = Sem.run fuel P "main" eager := by
  -- the Go `main` wrapper
  have hmainMem : mainFn ∈ (goFilePreSt env file n0).1.funcs := by
    rw [funcs_goFilePre]; simp
  have hmainFind : (goFilePreSt env file n0).1.findFunc "main" = some mainFn := by
    have := find?_key_of_mem (key := fun g : GFunc => g.name) hnd hmainMem
    simpa [GFile.findFunc, mainFn] using this
  have hsim := (sim_all hl fuel).u f hf (hname ▸ hfG) { fns := fnSigs file G, dyns := dynTable env file G } [] []
    { eager := eager } { eager := eager, capPolicy := 0 }
    rfl rfl (by rw [hps]; trivial) (WRel.init env eager (fnSigs file G) (dynTable env file G))
  rw [hname] at hsim
  have hfn : fnName "main" = "main0" := by simp [fnName, isEntry]
  rw [hfn] at hsim
  -- `main` calls `main0`
  have hwrap : ∀ r, CallS (goFilePreSt env file n0).1 { eager := eager, capPolicy := 0 } (.func "main0") [] r →
      (∀ v gw', r = .ok v gw' → CallS (goFilePreSt env file n0).1 { eager := eager, capPolicy := 0 } (.func "main") [] (.ok .void gw')) ∧
      (∀ fl gw', r = .fail fl gw' → CallS (goFilePreSt env file n0).1 { eager := eager, capPolicy := 0 } (.func "main") [] (.fail fl gw')) := by
    intro r hc
    have hcall : EvS (goFilePreSt env file n0).1 [] { eager := eager, capPolicy := 0 }
        (.call .void (.var "main0" (.func [] .void)) []) r := ev_call (ev_var_none rfl) evl_nil hc
    refine ⟨fun v gw' hr => ?_, fun fl gw' hr => ?_⟩
    · subst hr
      exact call_func_env hmainFind rfl (block_cons (stmt_expr hcall) block_nil) rfl
    · subst hr
      exact call_func_env hmainFind rfl (block_cons_fail (stmt_expr hcall)) rfl
  unfold Sem.run at hdef ⊢
  unfold runGo
  generalize hap : Sem.apply fuel P { eager := eager } (.fn "main") [] = r at hsim hdef ⊢
  cases r with
  | ok v w' =>
    obtain ⟨η1, _, gv, gw', hc, _, _, hw⟩ := hsim
    obtain ⟨m, hm⟩ := ((hwrap _ hc).1 gv gw' rfl).exists
    exact ⟨m, by rw [hm]; simp only [hw.out, hw.externs]⟩
  | fail fl w' =>
    cases fl with
    | panic k =>
      obtain ⟨η1, _, gw', hc, hw⟩ := hsim
      obtain ⟨m, hm⟩ := ((hwrap _ hc).2 _ gw' rfl).exists
      exact ⟨m, by rw [hm]; simp only [hw.out, hw.externs]⟩
    | fuel => obtain ⟨_, hk⟩ := Sem.failStr_definite .fuel hdef; cases hk
    | stuck s => obtain ⟨_, hk⟩ := Sem.failStr_definite (.stuck s) hdef; cases hk

/-- **T1, whole program** (the shape `Props/C01pipe.lean` composes with): when the entry `main`
    (no parameters) is in the fragment, every definite `Sem.run` of the ANF program is the `runGo`
    outcome of the emitted file (before dead-code elimination) for some fuel — stdout, status and
    extern events. -/
theorem compile_preserves_run (env : Env) (file : AFile) (n0 : Nat) (G : List String)
    (hG : closedOK env file n0 G = true) (f : AFn) (hf : f ∈ file) (hname : f.name = "main") (hps : f.params = [])
    (hfG : "main" ∈ G) (P : Prog) (hP : P.fns = file.map AFn.toFn) (fuel : Nat) (eager : Bool)
    (hdef : (Sem.run fuel P "main" eager).status = "ok" ∨
      ∃ k, (Sem.run fuel P "main" eager).status = "panic:" ++ k) :
    ∃ m, runGo m (goFilePreSt env file n0).1 "main" eager = Sem.run fuel P "main" eager :=
  compile_preserves_run_of_link (link_of_closed hG hP) (closedOKD_view (closedD_of_closed hG).1).funcsNodup f hf hname hps hfG fuel eager hdef

/-- **T1, whole program, with trait objects**: the same for a closed set that admits trait objects (`closedOKD`, `G` carries
    `dynMarker`), under `ImplsOK` on the program's dispatch table -/
theorem compile_preserves_run_dyn (env : Env) (file : AFile) (n0 : Nat) (G : List String)
    (hG : closedOKD env file n0 G = true) (f : AFn) (hf : f ∈ file) (hname : f.name = "main") (hps : f.params = [])
    (hfG : "main" ∈ G) (P : Prog) (hP : P.fns = file.map AFn.toFn) (hI : ImplsOK env file G P) (fuel : Nat) (eager : Bool)
    (hdef : (Sem.run fuel P "main" eager).status = "ok" ∨
      ∃ k, (Sem.run fuel P "main" eager).status = "panic:" ++ k) :
    ∃ m, runGo m (goFilePreSt env file n0).1 "main" eager = Sem.run fuel P "main" eager :=
  compile_preserves_run_of_link (link_of_closedD hG hP (impls_of_ok hI)) (closedOKD_view hG).funcsNodup f hf hname hps hfG fuel eager hdef

/-! ## statement level: the components `.a` and `.v` / `.c` / `.g` of the induction `sim_all` that T1 is the component `.u` of -/

/-- the hypotheses of the statement-level simulation at a program point, bundled: `e` is in the
    fragment under the context `Γ` (and `K`: the variables whose enum variant an enclosing `match` arm
    fixed), the environments and worlds are related, the Go names the compiled statements declare are new,
    the assignment target is a declared Go variable -/
structure Ready (env : Env) (η : Hp) (file : AFile) (G : List String) (Bad : List String) (m : Mode) (st : St) (e : AExpr)
    (Γ : GoFrag.Ctx) (K : KCtx) (ρ : Sem.Env) (w : World) (gρ : GEnv) (gw : GWorld) : Prop where
  frag : fragA env file G Γ K e = true
  envs : EnvRel env η Γ ρ gρ
  known : KRel K ρ
  worlds : WRel env η w gw
  names : GInv Bad (compileA env m st e).1 gρ
  target : TgtOK m Γ gρ (aTy e)
  blank : "_" ∈ Bad
  fns : FCtx env file G Bad η
  callees : ∀ x, x ∈ calleesA (Γ.map (·.1)) e → x ∈ Bad

/-- **T1, statement level**: the statements `compile_aexpr_effect` / `compile_aexpr_assign` emit for
    an ANF expression of the fragment reproduce every definite `Sem.eval` run of it: same world, and
    in assign mode the target variable holds the corresponding value afterwards (`Concl`). -/
theorem compile_stmts_preserve (env : Env) (η : Hp) (file : AFile) (n0 : Nat) (G : List String)
    (hG : closedOK env file n0 G = true) (P : Prog) (hP : P.fns = file.map AFn.toFn) (Bad : List String) (m : Mode) (st : St) (e : AExpr) (Γ : GoFrag.Ctx) (K : KCtx) (ρ : Sem.Env)
    (w : World) (gρ : GEnv) (gw : GWorld) (h : Ready env η file G Bad m st e Γ K ρ w gρ gw) (fuel : Nat) :
    Concl env η (goFilePreSt env file n0).1 (compileA env m st e).1 m gρ gw (aTy e)
      (Sem.eval fuel P ρ w e.toExpr) :=
  (sim_all (link_of_closed hG hP) fuel).a m st e η Γ K ρ w gρ gw Bad h.frag h.envs h.known h.worlds h.names h.target h.blank h.fns h.callees

/-- **T3 `compile_order`**: the Go statements of `let x = v in body` are those of `v`
    (`letPrefix`, which does not depend on `body`) followed by those of `body`; the first part runs
    to completion — leaving exactly the `Sem` world after `v` and the value of `v` in the Go variable
    of `x` — before any statement of `body`, and when `v` panics the block panics there, whatever
    follows.  So successive `let`s perform their effects in ANF order and a failure cuts off
    everything after it. -/
theorem compile_order (env : Env) (η : Hp) (file : AFile) (n0 : Nat) (G : List String)
    (hG : closedOK env file n0 G = true) (P : Prog) (hP : P.fns = file.map AFn.toFn) (Bad : List String) (m : Mode) (st : St) (x : String) (v : CExpr)
    (body : AExpr) (ty : Ty) (Γ : GoFrag.Ctx) (K : KCtx) (ρ : Sem.Env) (w : World) (gρ : GEnv) (gw : GWorld)
    (h : Ready env η file G Bad m st (.letE x v body ty) Γ K ρ w gρ gw) (fuel : Nat) :
    (compileA env m st (.letE x v body ty)).1 =
        letPrefix env st x v ++ (compileA env m (letBodySt env st x v) body).1 ∧
    (match Sem.eval fuel P ρ w v.toExpr with
     | .ok vv w1 => ∃ η1, η.le η1 ∧ ∃ env1 gv gw1,
         BlockS (goFilePreSt env file n0).1 gρ gw (letPrefix env st x v) (.ok (env1, .normal) gw1) ∧ WRel env η1 w1 gw1 ∧
         lookupG env1 (vn x) = some gv ∧ VRel env η1 vv v.annTy gv
     | .fail (.panic k) w1 => ∀ rest, ∃ η1, η.le η1 ∧ ∃ gw1,
         BlockS (goFilePreSt env file n0).1 gρ gw (letPrefix env st x v ++ rest) (.fail (.panic k) gw1) ∧ WRel env η1 w1 gw1
     | _ => True) :=
  have hs := sim_all (link_of_closed hG hP) fuel
  ⟨compileA_let env m st x v body ty,
   let_order hs.v hs.c hs.g m st x v body ty Γ K ρ w gρ gw Bad
     h.frag h.envs h.known h.worlds h.names h.blank h.fns h.callees⟩

/-- the operands of a binary operation keep their ANF order in the emitted expression (`Go.Sem` evaluates `l` before `r`) -/
theorem compile_order_operands (env : Env) (op : BinOp) (l r : Imm) (ty : Ty) :
    compileCExpr env (.bin op l r ty) = .bin (gBin op) (goTy ty) (compileImm env l) (compileImm env r) := rfl

/-! ## T2: scoping, DCE shape and typing of the emitted function -/

/-- **T2 `compile_wellformed`**: for a function `f` of a closed set `G`, the compiled Go function
    `gf` (found in the emitted file under `fnName f.name`)
    * declares every local before use and never redeclares or shadows one (`scopeErrs = []`, with
      `D` = its parameters and declarations, initial scope = its parameters),
    * lies inside the shape contract of the DCE theorems (`shapeOK`),
    and therefore after `dce_block_with_live` (`Dce.dceBody`) the same scope rules hold and no
    declared local is unused (`unusedStmts = []`). -/
theorem compile_wellformed (env : Env) (file : AFile) (n0 : Nat) (G : List String)
    (hG : closedOK env file n0 G = true) (f : AFn) (hf : f ∈ file) (hfG : f.name ∈ G) :
    ∃ gf, (goFilePreSt env file n0).1.findFunc (fnName f.name) = some gf ∧
      Goml.Dce.scopeErrs (Goml.Dce.localsOf gf) (gf.params.map (·.1)) gf.body = [] ∧
      Goml.Dce.shapeOK gf.body = true ∧
      Goml.Dce.scopeErrs (Goml.Dce.localsOf gf) (gf.params.map (·.1)) (Goml.Dce.dceBody gf.body) = [] ∧
      Goml.Dce.unusedStmts (Goml.Dce.dceBody gf.body) = [] := by
  obtain ⟨st, hfind, hlocal⟩ := (link_of_closed hG (P := progOf file) rfl).fnGo f hf hfG
  have hclean := fn_clean hlocal
  exact ⟨_, hfind, hclean.1, hclean.2, (Goml.Dce.dce_fn_scope_sound _ hclean.1 hclean.2).1,
    (Goml.Dce.dce_fn_scope_sound _ hclean.1 hclean.2).2⟩

/-- **T2, typing half `compile_wellformed_typed_partial`**: for a function `f` of a closed set `G` that is inside the part
    of the fragment the typing half covers (`stdFn`: parameters, result and every annotation are unit / bool / string / an
    integer type of a Go width / a struct type — closure environments included — / an enum type / a function type / a
    reference, tuple or array of those; operators; calls of functions of `G` — also through a local of function type, also
    with function names as arguments —, of the builtins of `builtinNames` and of the reference and array helpers (`ref__T`,
    `ref_get__T`, `ref_set__T`, `array_get__T`, `array_set__T`: an index of type `int32`, the helper's parameter type);
    construction and field access of admitted structs, enum variants, tuples (of a tuple type whose struct the file
    declares) and arrays; `let`, `if`, `while`; `match` on an enum variable that no enclosing arm has narrowed already
    (Go rejects a type switch on a variable of struct type: the known C02 finding), on a literal, on unit; `go`),
    in a file whose struct declarations carry the Go types of the fields and whose variant structs have the methods of
    their enum's interface (`typedTablesOK`: decidable, on the model's own output), the compiled Go function obeys the
    **typing** rules of `Go.check` — every expression has the Go type of its ANF annotation (up to `norm`: the result type
    of a call is the normalised one) or, for a value of enum type, the struct type of one of its variants (a variable inside
    the arm of a type switch on it, a variant literal: assignable to the enum's interface by its method set); operands
    agree, conditions are `bool`, a type switch is on an interface, case labels have the scrutinee's type, payload fields
    are read from the variant's struct, call arguments, fields and elements of composite literals, assignments,
    initialisers and the `return` are assignable, integer literals fit their type, expression statements are calls, the body
    ends in a `return` — in the typing context of the emitted file.
    *Partial* in two ways: (i) not all of the fragment (trait objects are not covered; `Vec` operations
    cannot be: the mirror answers "unknown" on the `append`, `len` and conversions they are lowered to); (ii) `Go.check` itself is
    written with `partial def`s, opaque to the kernel, so the statement is about its total mirror `GoTyping.fnOKT`
    (`Model/GoTyping.lean`), which `gomlmodel gocomp` compares with `Go.check` on every function of every real emitted file
    on every run.  No separate `Wt` hypothesis: the fragment check `fragA` is itself a type checker of the ANF
    (every variable at its binder's type, every operator and call at its signature) and is what the proof uses. -/
theorem compile_wellformed_typed_partial (env : Env) (file : AFile) (n0 : Nat) (G : List String)
    (hG : closedOK env file n0 G = true) (hT : typedTablesOK env file n0 = true) (f : AFn) (hf : f ∈ file) (hfG : f.name ∈ G)
    (hstd : stdFn env file f = true) :
    ∃ gf, (goFilePreSt env file n0).1.findFunc (fnName f.name) = some gf ∧
      Goml.GoTyping.fnOKT (Goml.GoTyping.mkTCtx (goFilePreSt env file n0).1) gf = .ok () := by
  have hl := link_of_closed hG (P := progOf file) rfl
  obtain ⟨st, hfind, hlocal⟩ := hl.fnGo f hf hfG
  simp only [typedTablesOK, Bool.and_eq_true] at hT
  exact ⟨_, hfind, fn_typed (tlink_of_link hl hT.1.1 hT.1.2 hT.2) hlocal hstd⟩

/-! ## examples: files inside and outside the fragment -/
section Examples
/-- `InGoFragment` from the value of `goodFns` and the re-check of its closure: the examples evaluate both once per file -/
theorem inGoFragment_of_good {env : Env} {file : AFile} {n0 : Nat} {G : List String} (hG : goodFns env file n0 = G)
    (hc : closedOK env file n0 G = true) {f : AFn} (hf : G.contains f.name = true) : InGoFragment env file n0 f := by
  subst hG
  simp only [InGoFragment, inGoFragment, hc, hf, Bool.and_self]
private def t32 : Ty := .int 32 true
private def litI (v : Int) : Imm := .prim (.int 32 true v) t32
/-- `fn add(a, b) { a + b }` -/
private def exAdd : AFn :=
  { name := "add", params := [("a/0", t32), ("b/1", t32)], ret := t32,
    body := .ret (.bin .add (.var "a/0" t32) (.var "b/1" t32) t32) }
/-- `let x = add(1, 2); let t = x > 2; let s = if t {"big"} else {"small"}; while x < 0 { println("never") };`
    `println(int32_to_string(x) + s)` in ANF -/
private def exMainBody : AExpr :=
  .letE "x/2" (.call (.var "add" (.func [t32, t32] t32)) [litI 1, litI 2] t32)
  (.letE "t10" (.bin .greater (.var "x/2" t32) (litI 2) .bool)
  (.letE "s/4" (.ite (.var "t10" .bool) (.ret (.imm (.prim (.str "big") .string))) (.ret (.imm (.prim (.str "small") .string))) .string)
  (.letE "w/5" (.while (.ret (.bin .less (.var "x/2" t32) (litI 0) .bool))
                  (.ret (.call (.var "string_println" (.func [.string] .unit)) [.prim (.str "never") .string] .unit)) .unit)
  (.letE "t5" (.call (.var "int32_to_string" (.func [t32] .string)) [.var "x/2" t32] .string)
  (.letE "t6" (.bin .add (.var "t5" .string) (.var "s/4" .string) .string)
  (.ret (.call (.var "string_println" (.func [.string] .unit)) [.var "t6" .string] .unit)) .unit) .unit) .unit) .unit) .unit) .unit
private def exMain : AFn := { name := "main", params := [], ret := .unit, body := exMainBody }
private def exFile : AFile := [exAdd, exMain]

theorem exFile_good : goodFns {} exFile 0 = ["add", "main"] ∧ closedOK {} exFile 0 ["add", "main"] = true := by
  rw [goodFns_eq, closedOK_eq]; decide +kernel
/-- both functions are in the fragment (file-level conditions, source and Go-side checks) -/
example : InGoFragment {} exFile 0 exMain ∧ InGoFragment {} exFile 0 exAdd :=
  ⟨inGoFragment_of_good exFile_good.1 exFile_good.2 rfl, inGoFragment_of_good exFile_good.1 exFile_good.2 rfl⟩

/-- both pass `stdFn`, so the typing half of T2 applies to them: the functions the back end emits for
    them are well typed -/
example : stdFn {} exFile exMain = true ∧ stdFn {} exFile exAdd = true ∧ typedTablesOK {} exFile 0 = true := by decide +kernel
example : ∃ gf, (goFilePreSt {} exFile 0).1.findFunc "main0" = some gf ∧
    Goml.GoTyping.fnOKT (Goml.GoTyping.mkTCtx (goFilePreSt {} exFile 0).1) gf = .ok () :=
  compile_wellformed_typed_partial {} exFile 0 ["add", "main"] exFile_good.2 (by decide +kernel) exMain (by simp [exFile])
    (by decide +kernel) (by decide +kernel)

/-- the hypotheses of `compile_preserves_run` hold of it and its `Sem` run is definite -/
example : closedOK {} exFile 0 (goodFns {} exFile 0) = true ∧ "main" ∈ goodFns {} exFile 0 ∧
    (Sem.run 200 (progOf exFile)).status = "ok" ∧ (Sem.run 200 (progOf exFile)).out = "3big\n" := by
  rw [exFile_good.1]
  exact ⟨exFile_good.2, by decide +kernel, by decide +kernel⟩

/-- struct values are inside: `struct P { x: int32, y: int32 }`, `fn sum(p) { p.x + p.y }`,
    `fn mk(a) { P { x: a, y: a } }` with the emitted file declaring `P` with exactly these fields -/
private def envP : Env :=
  { structs := [{ name := "P", generics := [], fields := [("x", t32), ("y", t32)] }],
    structsLookup := [{ name := "P", generics := [], fields := [("x", t32), ("y", t32)] }] }
private def exSum : AFn :=
  { name := "sum", params := [("p/0", .struct "P")], ret := t32,
    body := .letE "t1" (.cget (.var "p/0" (.struct "P")) (.struct "P") 0 t32)
      (.letE "t2" (.cget (.var "p/0" (.struct "P")) (.struct "P") 1 t32)
      (.ret (.bin .add (.var "t1" t32) (.var "t2" t32) t32)) t32) t32 }
private def exMk : AFn :=
  { name := "mk", params := [("a/0", t32)], ret := .struct "P",
    body := .ret (.constr (.struct "P") [.var "a/0" t32, .var "a/0" t32] (.struct "P")) }
theorem exP_good : goodFns envP [exSum, exMk] 0 = ["sum", "mk"] ∧ closedOK envP [exSum, exMk] 0 ["sum", "mk"] = true := by
  rw [goodFns_eq, closedOK_eq]; decide +kernel
example : InGoFragment envP [exSum, exMk] 0 exSum ∧ InGoFragment envP [exSum, exMk] 0 exMk :=
  ⟨inGoFragment_of_good exP_good.1 exP_good.2 rfl, inGoFragment_of_good exP_good.1 exP_good.2 rfl⟩
/-- and the typing half of T2 applies to both (the struct table carries the field types) -/
example : stdFn envP [exSum, exMk] exSum = true ∧ stdFn envP [exSum, exMk] exMk = true ∧
    typedTablesOK envP [exSum, exMk] 0 = true := by decide +kernel

/-- enum values and `match` are inside: `enum Opt { None, Some(int32) }`, `fn get(o) { match o { None => 0, Some(x) => x } }`
    (type switch, payload read in the arm that fixes the variant), `fn mk(a) { Some(a) }`, and a `main` that matches on
    an integer (value switch with a default) and on unit (first arm in place) -/
private def envE : Env :=
  { enums := [{ name := "Opt", generics := [], variants := [("None", []), ("Some", [t32])] }] }
private def tOpt : Ty := .enum "Opt"
private def exGet : AFn :=
  { name := "get", params := [("o/0", tOpt)], ret := t32,
    body := .ret (.matchE (.var "o/0" tOpt)
      [.mk (.tag 0 tOpt) (.ret (.imm (litI 0))),
       .mk (.tag 1 tOpt) (.letE "x0" (.cget (.var "o/0" tOpt) (.enum "Opt" "Some" 1) 0 t32) (.ret (.imm (.var "x0" t32))) t32)]
      .none t32) }
private def exMkSome : AFn :=
  { name := "mk", params := [("a/0", t32)], ret := tOpt,
    body := .ret (.constr (.enum "Opt" "Some" 1) [.var "a/0" t32] tOpt) }
private def exMainE : AFn :=
  { name := "main", params := [], ret := .unit,
    body :=
      .letE "o/1" (.call (.var "mk" (.func [t32] tOpt)) [litI 5] tOpt)
      (.letE "n/2" (.imm (.tag 0 tOpt))
      (.letE "r/3" (.call (.var "get" (.func [tOpt] t32)) [.var "o/1" tOpt] t32)
      (.letE "u/4" (.matchE (.var "r/3" t32)
          [.mk (litI 5) (.ret (.call (.var "string_println" (.func [.string] .unit)) [.prim (.str "five") .string] .unit))]
          (.some (.ret (.call (.var "string_println" (.func [.string] .unit)) [.prim (.str "other") .string] .unit))) .unit)
      (.ret (.matchE (.var "u/4" .unit)
          [.mk (.prim .unit .unit) (.ret (.call (.var "string_println" (.func [.string] .unit)) [.prim (.str "done") .string] .unit))]
          .none .unit)) .unit) .unit) .unit) .unit }
private def exFileE : AFile := [exGet, exMkSome, exMainE]
theorem exFileE_good : goodFns envE exFileE 0 = ["get", "mk", "main"] ∧ closedOK envE exFileE 0 ["get", "mk", "main"] = true := by
  rw [goodFns_eq, closedOK_eq]; decide +kernel
example : InGoFragment envE exFileE 0 exGet ∧ InGoFragment envE exFileE 0 exMkSome ∧ InGoFragment envE exFileE 0 exMainE :=
  ⟨inGoFragment_of_good exFileE_good.1 exFileE_good.2 rfl, inGoFragment_of_good exFileE_good.1 exFileE_good.2 rfl, inGoFragment_of_good exFileE_good.1 exFileE_good.2 rfl⟩
example : (Sem.run 200 (progOf exFileE)).status = "ok" ∧ (Sem.run 200 (progOf exFileE)).out = "five\ndone\n" := by
  decide +kernel
/-- and the typing half of T2 applies to all three (type switch with the payload read in the arm, value switch, unit match) -/
example : stdFn envE exFileE exGet = true ∧ stdFn envE exFileE exMkSome = true ∧ stdFn envE exFileE exMainE = true ∧
    typedTablesOK envE exFileE 0 = true := by decide +kernel
/-- the same local in two clauses of a `match` is inside (each clause is its own Go block: `scopedLocalsOK`), declared
    twice in one block it is outside (Go rejects the redeclaration) -/
private def exGet2 : AFn :=
  { name := "get2", params := [("o/0", tOpt)], ret := t32,
    body := .ret (.matchE (.var "o/0" tOpt)
      [.mk (.tag 0 tOpt) (.letE "x0" (.imm (litI 0)) (.ret (.imm (.var "x0" t32))) t32),
       .mk (.tag 1 tOpt) (.letE "x0" (.cget (.var "o/0" tOpt) (.enum "Opt" "Some" 1) 0 t32) (.ret (.imm (.var "x0" t32))) t32)]
      .none t32) }
private def exTwice : AFn :=
  { name := "twice", params := [], ret := t32,
    body := .letE "x0" (.imm (litI 0)) (.letE "x0" (.imm (litI 1)) (.ret (.imm (.var "x0" t32))) t32) t32 }
example : InGoFragment envE [exGet2] 0 exGet2 ∧ ¬ InGoFragment envE [exTwice] 0 exTwice := by
  simp only [InGoFragment, inGoFragment, goodFns_eq, closedOK_eq]; decide +kernel
/-- reading a payload outside the arm that fixes the variant is outside the fragment -/
private def exBadGet : AFn :=
  { name := "bad", params := [("o/0", tOpt)], ret := t32,
    body := .ret (.cget (.var "o/0" tOpt) (.enum "Opt" "Some" 1) 0 t32) }
example : ¬ InGoFragment envE [exBadGet] 0 exBadGet := by
  simp only [InGoFragment, inGoFragment, goodFns_eq, closedOK_eq]; decide +kernel

/-- references are inside: `fn bump(r: Ref[int32]) { ref_set(r, ref_get(r) + 41) }`, and a `main` that allocates a cell,
    passes it on and reads it back (the `Sem` store against the Go heap: `WRel`) -/
private def tRef : Ty := .ref t32
private def exBump : AFn :=
  { name := "bump", params := [("r/0", tRef)], ret := .unit,
    body :=
      .letE "t1" (.call (.var "ref_get" (.func [tRef] t32)) [.var "r/0" tRef] t32)
      (.letE "t2" (.bin .add (.var "t1" t32) (litI 41) t32)
      (.ret (.call (.var "ref_set" (.func [tRef, t32] .unit)) [.var "r/0" tRef, .var "t2" t32] .unit)) .unit) .unit }
private def exMainR : AFn :=
  { name := "main", params := [], ret := .unit,
    body :=
      .letE "r/1" (.call (.var "ref" (.func [t32] tRef)) [litI 1] tRef)
      (.letE "u/2" (.call (.var "bump" (.func [tRef] .unit)) [.var "r/1" tRef] .unit)
      (.letE "t3" (.call (.var "ref_get" (.func [tRef] t32)) [.var "r/1" tRef] t32)
      (.letE "t4" (.call (.var "int32_to_string" (.func [t32] .string)) [.var "t3" t32] .string)
      (.ret (.call (.var "string_println" (.func [.string] .unit)) [.var "t4" .string] .unit)) .unit) .unit) .unit) .unit }
private def exFileR : AFile := [exBump, exMainR]
theorem exFileR_good : goodFns {} exFileR 0 = ["bump", "main"] ∧ closedOK {} exFileR 0 ["bump", "main"] = true := by
  rw [goodFns_eq, closedOK_eq]; decide +kernel
example : InGoFragment {} exFileR 0 exBump ∧ InGoFragment {} exFileR 0 exMainR :=
  ⟨inGoFragment_of_good exFileR_good.1 exFileR_good.2 rfl, inGoFragment_of_good exFileR_good.1 exFileR_good.2 rfl⟩
example : stdFn {} exFileR exBump = true ∧ stdFn {} exFileR exMainR = true ∧ typedTablesOK {} exFileR 0 = true := by decide +kernel
example : (Sem.run 200 (progOf exFileR)).status = "ok" ∧ (Sem.run 200 (progOf exFileR)).out = "42\n" := by
  decide +kernel

/-- tuples are inside: `fn pair(a) { (a, "x") }`, `fn fst(p) { p.0 }` (the Go struct of a tuple is named after its
    component types; the emitted file declares it) -/
private def tPair : Ty := .tuple [t32, .string]
private def exTuple : AFn :=
  { name := "pair", params := [("a/0", t32)], ret := tPair,
    body := .ret (.tuple [.var "a/0" t32, .prim (.str "x") .string] tPair) }
private def exFst : AFn :=
  { name := "fst", params := [("p/0", tPair)], ret := t32, body := .ret (.proj (.var "p/0" tPair) 0 t32) }
theorem exTuple_good : goodFns {} [exTuple, exFst] 0 = ["pair", "fst"] ∧ closedOK {} [exTuple, exFst] 0 ["pair", "fst"] = true := by
  rw [goodFns_eq, closedOK_eq]; decide +kernel
example : InGoFragment {} [exTuple, exFst] 0 exTuple ∧ InGoFragment {} [exTuple, exFst] 0 exFst :=
  ⟨inGoFragment_of_good exTuple_good.1 exTuple_good.2 rfl, inGoFragment_of_good exTuple_good.1 exTuple_good.2 rfl⟩
example : stdFn {} [exTuple, exFst] exTuple = true ∧ stdFn {} [exTuple, exFst] exFst = true ∧
    typedTablesOK {} [exTuple, exFst] 0 = true := by decide +kernel

/-- arrays are inside: `fn mk(a) { [a, a] }`, `fn upd(x, i) { array_get(array_set(x, i, 7), 0) }` (out-of-range
    indexing panics on both sides) -/
private def tArr : Ty := .array 2 t32
private def exArray : AFn :=
  { name := "arr", params := [("a/0", t32)], ret := tArr,
    body := .ret (.array [.var "a/0" t32, .var "a/0" t32] tArr) }
private def exUpd : AFn :=
  { name := "upd", params := [("x/0", tArr), ("i/1", t32)], ret := t32,
    body := .letE "y/2" (.call (.var "array_set" (.func [tArr, t32, t32] tArr)) [.var "x/0" tArr, .var "i/1" t32, litI 7] tArr)
      (.ret (.call (.var "array_get" (.func [tArr, t32] t32)) [.var "y/2" tArr, litI 0] t32)) t32 }
theorem exArray_good : goodFns {} [exArray, exUpd] 0 = ["arr", "upd"] ∧ closedOK {} [exArray, exUpd] 0 ["arr", "upd"] = true := by
  rw [goodFns_eq, closedOK_eq]; decide +kernel
example : InGoFragment {} [exArray, exUpd] 0 exArray ∧ InGoFragment {} [exArray, exUpd] 0 exUpd :=
  ⟨inGoFragment_of_good exArray_good.1 exArray_good.2 rfl, inGoFragment_of_good exArray_good.1 exArray_good.2 rfl⟩
example : stdFn {} [exArray, exUpd] exArray = true ∧ stdFn {} [exArray, exUpd] exUpd = true := by decide +kernel

/-- `Vec` is inside (under the no-spare-capacity policy of `runGo`'s default `capPolicy = 0`, which is part of `WRel`):
    `fn push2(v, x) { vec_push(vec_push(v, x), x) }`, and a `main` that builds a vector, reads it back and prints its length
    and an element; reading past the end panics on both sides -/
private def tVec : Ty := .vec t32
private def exPush2 : AFn :=
  { name := "push2", params := [("v/0", tVec), ("x/1", t32)], ret := tVec,
    body := .letE "t2" (.call (.var "vec_push" (.func [tVec, t32] tVec)) [.var "v/0" tVec, .var "x/1" t32] tVec)
      (.ret (.call (.var "vec_push" (.func [tVec, t32] tVec)) [.var "t2" tVec, .var "x/1" t32] tVec)) tVec }
private def exMainV : AFn :=
  { name := "main", params := [], ret := .unit,
    body :=
      .letE "e/0" (.call (.var "vec_new" (.func [] tVec)) [] tVec)
      (.letE "v/1" (.call (.var "push2" (.func [tVec, t32] tVec)) [.var "e/0" tVec, litI 7] tVec)
      (.letE "n/2" (.call (.var "vec_len" (.func [tVec] t32)) [.var "v/1" tVec] t32)
      (.letE "g/3" (.call (.var "vec_get" (.func [tVec, t32] t32)) [.var "v/1" tVec, litI 1] t32)
      (.letE "s/4" (.bin .add (.var "n/2" t32) (.var "g/3" t32) t32)
      (.letE "t5" (.call (.var "int32_to_string" (.func [t32] .string)) [.var "s/4" t32] .string)
      (.letE "u/6" (.call (.var "string_println" (.func [.string] .unit)) [.var "t5" .string] .unit)
      (.letE "b/7" (.call (.var "vec_get" (.func [tVec, t32] t32)) [.var "e/0" tVec, litI 0] t32)
      (.ret (.call (.var "string_println" (.func [.string] .unit)) [.prim (.str "unreachable") .string] .unit))
      .unit) .unit) .unit) .unit) .unit) .unit) .unit) .unit }
private def exFileV : AFile := [exPush2, exMainV]
theorem exFileV_good : goodFns {} exFileV 0 = ["push2", "main"] ∧ closedOK {} exFileV 0 ["push2", "main"] = true := by
  rw [goodFns_eq, closedOK_eq]; decide +kernel
example : InGoFragment {} exFileV 0 exPush2 ∧ InGoFragment {} exFileV 0 exMainV :=
  ⟨inGoFragment_of_good exFileV_good.1 exFileV_good.2 rfl, inGoFragment_of_good exFileV_good.1 exFileV_good.2 rfl⟩
example : (Sem.run 200 (progOf exFileV)).status = "panic:index out of range" ∧ (Sem.run 200 (progOf exFileV)).out = "9\n" := by
  decide +kernel

/-- a function that makes a trait object is outside the fragment (the model still compiles it: the tie
    covers it, the theorem does not) -/
private def exDyn : AFn :=
  { name := "mkdyn", params := [("a/0", t32)], ret := .dyn "Show",
    body := .ret (.toDyn "Show" t32 (.var "a/0" t32) (.dyn "Show")) }
example : ¬ InGoFragment {} [exDyn] 0 exDyn := by
  simp only [InGoFragment, inGoFragment, goodFns_eq, closedOK_eq]; decide +kernel

/-- function values are inside: a top-level function passed as an argument (`apply(inc, 41)`) and called through the
    parameter that holds it (`f(x)`: a Go call through a variable of function type) -/
private def tFn : Ty := .func [t32] t32
private def exInc : AFn :=
  { name := "inc", params := [("a/0", t32)], ret := t32, body := .ret (.bin .add (.var "a/0" t32) (litI 1) t32) }
private def exApply : AFn :=
  { name := "apply", params := [("f/0", tFn), ("x/1", t32)], ret := t32,
    body := .ret (.call (.var "f/0" tFn) [.var "x/1" t32] t32) }
private def exMainF : AFn :=
  { name := "main", params := [], ret := .unit,
    body :=
      .letE "r/0" (.call (.var "apply" (.func [tFn, t32] t32)) [.var "inc" tFn, litI 41] t32)
      (.letE "t1" (.call (.var "int32_to_string" (.func [t32] .string)) [.var "r/0" t32] .string)
      (.ret (.call (.var "string_println" (.func [.string] .unit)) [.var "t1" .string] .unit)) .unit) .unit }
private def exFileF : AFile := [exInc, exApply, exMainF]
theorem exFileF_good : goodFns {} exFileF 0 = ["inc", "apply", "main"] ∧ closedOK {} exFileF 0 ["inc", "apply", "main"] = true := by
  rw [goodFns_eq, closedOK_eq]; decide +kernel
example : InGoFragment {} exFileF 0 exInc ∧ InGoFragment {} exFileF 0 exApply ∧ InGoFragment {} exFileF 0 exMainF :=
  ⟨inGoFragment_of_good exFileF_good.1 exFileF_good.2 rfl, inGoFragment_of_good exFileF_good.1 exFileF_good.2 rfl, inGoFragment_of_good exFileF_good.1 exFileF_good.2 rfl⟩
example : (Sem.run 200 (progOf exFileF)).status = "ok" ∧ (Sem.run 200 (progOf exFileF)).out = "42\n" := by
  decide +kernel

/-- an operation on literals only is a Go *constant expression* (finding C10: evaluated exactly and range-checked at compile
    time — `2147483647 + 1` at `int32` does not compile, `0.1 + 0.2` is `0.3`), where `Go.Sem` is not faithful to Go: such
    functions are outside the fragment (`noConstExpr`, checked on the emitted function); the same sum with a variable
    operand is inside -/
private def exConstI : AFn :=
  { name := "k", params := [], ret := t32, body := .ret (.bin .add (litI 2147483647) (litI 1) t32) }
private def exConstF : AFn :=
  { name := "kf", params := [], ret := .float 64,
    body := .ret (.bin .add (.prim (.float 64 0x3FB999999999999A) (.float 64)) (.prim (.float 64 0x3FC999999999999A) (.float 64)) (.float 64)) }
/-- on the emitted expressions: the overflowing sum and the float sum are rejected, `1 + 2` (exact result in range: Go's
    constant is the run-time value) is accepted -/
example : noConstE (compileCExpr {} (.bin .add (litI 2147483647) (litI 1) t32)) = false ∧
    noConstE (compileCExpr {} (.bin .add (litI 1) (litI 2) t32)) = true ∧
    noConstE (compileCExpr {} (.bin .add (.prim (.float 64 0x3FB999999999999A) (.float 64))
      (.prim (.float 64 0x3FC999999999999A) (.float 64)) (.float 64))) = false := by
  refine ⟨?_, ?_, ?_⟩ <;>
    simp [compileCExpr, compileImm, lit, litI, t32, goTy, noConstE, constG, constOpOK, intLitG, gBin] <;> decide
example : noConstExpr {} { n := 0, ok := true } exInc = true := by decide +kernel
example : ¬ InGoFragment {} [exConstF] 0 exConstF := by
  simp only [InGoFragment, inGoFragment, goodFns_eq, closedOK_eq]; decide +kernel
/-- `go` is inside: `go f` for a lambda-lifted closure `f` is the statement `go apply(env)`; under the eager schedule both
    sides run it at the `go`, under the other both only record it -/
private def envG : Env :=
  { structs := [{ name := "closure_env_main_0", generics := [], fields := [] }],
    structsLookup := [{ name := "closure_env_main_0", generics := [], fields := [] }],
    applyTys := [("closure_env_main_0", some (.func [.struct "closure_env_main_0"] .unit))] }
private def tEnv : Ty := .struct "closure_env_main_0"
private def exApplyG : AFn :=
  { name := "inherent#closure_env_main_0#closure_env_main_0#apply", params := [("env0", tEnv)], ret := .unit,
    body := .ret (.call (.var "string_println" (.func [.string] .unit)) [.prim (.str "spawned") .string] .unit) }
private def exMainG : AFn :=
  { name := "main", params := [], ret := .unit,
    body :=
      .letE "t1" (.constr (.struct "closure_env_main_0") [] tEnv)
      (.letE "_wild2" (.go (.var "t1" tEnv) .unit)
      (.ret (.call (.var "string_println" (.func [.string] .unit)) [.prim (.str "main") .string] .unit)) .unit) .unit }
private def exFileG : AFile := [exApplyG, exMainG]
theorem exFileG_good : goodFns envG exFileG 0 = [exApplyG.name, "main"] ∧ closedOK envG exFileG 0 [exApplyG.name, "main"] = true := by
  rw [goodFns_eq, closedOK_eq]; decide +kernel
example : InGoFragment envG exFileG 0 exApplyG ∧ InGoFragment envG exFileG 0 exMainG :=
  ⟨inGoFragment_of_good exFileG_good.1 exFileG_good.2 rfl, inGoFragment_of_good exFileG_good.1 exFileG_good.2 rfl⟩
example : stdFn envG exFileG exApplyG = true ∧ stdFn envG exFileG exMainG = true ∧ typedTablesOK envG exFileG 0 = true := by decide +kernel
example : (Sem.run 200 (progOf exFileG)).out = "spawned\nmain\n" ∧ (Sem.run 200 (progOf exFileG) "main" false).out = "main\n" := by
  decide +kernel
/-- trait objects are inside `InGoFragmentD`: `trait Show { fn show(self) -> string }`, `impl Show for P`, and a `main` that
    converts a `P` to `dyn Show` and calls the method through the vtable; the program's dispatch table satisfies `ImplsOK`;
    without the flag (`InGoFragment`) the same `main` is outside -/
private def envD : Env :=
  { structs := [{ name := "P", generics := [], fields := [] }],
    structsLookup := [{ name := "P", generics := [], fields := [] }],
    traits := [("Show", [("show", .func [.param "Self"] .string)])] }
private def implShowP : String := Goml.Mono.traitImplFnName "Show" (.struct "P") "show"
private def exShowImpl : AFn :=
  { name := implShowP, params := [("self/0", .struct "P")], ret := .string,
    body := .ret (.imm (.prim (.str "a P") .string)) }
private def exMainD : AFn :=
  { name := "main", params := [], ret := .unit,
    body :=
      .letE "p/1" (.constr (.struct "P") [] (.struct "P"))
      (.letE "d/2" (.toDyn "Show" (.struct "P") (.var "p/1" (.struct "P")) (.dyn "Show"))
      (.letE "s/3" (.dynCall "Show" "show" (.var "d/2" (.dyn "Show")) [] .string)
      (.ret (.call (.var "string_println" (.func [.string] .unit)) [.var "s/3" .string] .unit)) .unit) .unit) .unit }
private def exFileD : AFile := [exShowImpl, exMainD]
private def exProgD : Prog := { fns := exFileD.map AFn.toFn, impls := [("Show", "P", "show", implShowP)] }
theorem exFileD_good : goodFnsD envD exFileD 0 = [dynMarker, implShowP, "main"] ∧
    closedOKD envD exFileD 0 [dynMarker, implShowP, "main"] = true := by
  rw [goodFnsD_eq, closedOKD_eq]; decide +kernel
example : InGoFragmentD envD exFileD 0 exMainD ∧ InGoFragmentD envD exFileD 0 exShowImpl ∧ ¬ InGoFragment envD exFileD 0 exMainD := by
  refine ⟨?_, ?_, by simp only [InGoFragment, inGoFragment, goodFns_eq, closedOK_eq]; decide +kernel⟩ <;>
    simp only [InGoFragmentD, inGoFragmentD, exFileD_good.1, exFileD_good.2] <;> decide +kernel
example : ImplsOK envD exFileD (goodFnsD envD exFileD 0) exProgD := by rw [exFileD_good.1]; unfold ImplsOK; decide +kernel
example : (Sem.run 200 exProgD).status = "ok" ∧ (Sem.run 200 exProgD).out = "a P\n" := by decide +kernel
/-- a numeric literal that becomes a trait object is stored under the conversion to its own type (`int32(42)`: as a bare
    untyped constant Go would store an `int`, finding C01 / go-default-typing), a variable as it is -/
example : (∃ lit, dynDataExpr {} (litI 42) = .call (.int 32 true) (.var "int32" (.func [.int 32 true] (.int 32 true))) [lit]) ∧
    dynDataExpr {} (.var "x" t32) = .var (vn "x") (.int 32 true) := ⟨⟨_, rfl⟩, rfl⟩
/-! ### Go.Check: constants must be representable
`Go.constOverflow` is the arithmetic core of `Go.Scope.constFits` (the rule applied wherever `Go.check` demands
assignability to a typed target, and on a constant operand against a typed operand). -/
/-- the literal texts are written as the back end prints them (`v.to_string()`, here `toString v`; read back by
    `String.toInt?`).  Representable: the extreme values of uint64 and int8 (a negative literal is one
    token `-128`, and unary minus on a literal is the same constant) -/
example : Go.constOverflow 64 false (.int (toString (18446744073709551615 : Int)) (.int 64 false)) = none ∧
    Go.constOverflow 64 false (.int (toString (9223372036854775808 : Int)) (.int 64 false)) = none ∧
    Go.constOverflow 8 true (.int (toString (-128 : Int)) (.int 8 true)) = none ∧
    Go.constOverflow 8 true (.un .neg (.int 8 true) (.int (toString (128 : Int)) (.int 8 true))) = none := by
  simp [Go.constOverflow, Go.intConst, Go.intFits]
/-- not representable: what the seeded change C10-u64-literal-above-i64-max-printed-negative emits (`var max uint64 = -1`,
    `var x uint64 = -9223372036854775808`), also spelled with unary minus; 128 and -129 at int8 -/
example : Go.constOverflow 64 false (.int (toString (-1 : Int)) (.int 64 false)) = some (-1) ∧
    Go.constOverflow 64 false (.int (toString (-9223372036854775808 : Int)) (.int 64 false)) = some (-9223372036854775808) ∧
    Go.constOverflow 64 false (.un .neg (.int 64 false) (.int (toString (1 : Int)) (.int 64 false))) = some (-1) ∧
    Go.constOverflow 8 true (.int (toString (128 : Int)) (.int 8 true)) = some 128 ∧
    Go.constOverflow 8 true (.int (toString (-129 : Int)) (.int 8 true)) = some (-129) := by
  simp [Go.constOverflow, Go.intConst, Go.intFits]
/-- not a constant: a variable — the rule says nothing -/
example : Go.constOverflow 8 true (.var "x" (.int 64 true)) = none := by simp [Go.constOverflow, Go.intConst]
end Examples

end Goml.GoCompileProps
