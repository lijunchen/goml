import GomlVerif.Lemmas.C12Tree
import GomlVerif.Lemmas.GrammarKinds
import GomlVerif.Lemmas.InputViewLemmas
import GomlVerif.Props.C04
/-!
# C12 — the syntax tree is lossless and positions are exact

Models: `Model/Lex.lean` (`longestMatch`, `lexMultilineStr`, `lexAll`) over the rule
tables regenerated from `crates/lexer/src/lib.rs` (`Gen/Tokens.lean`), and
`Model/Tree.lean` (`buildTree`: `Parser::build_tree` + rowan's builder).
Text is a list of Unicode scalars; byte offsets are UTF-8 prefix sums (`byteLen`), so "on a char boundary" is `charsOfBytes s n = some _`.
-/
namespace Goml.C12
open Goml.Lex Goml.Tree Goml.Gen.Tokens

/-! ## facts about the generated tables (re-checked whenever `Gen/Tokens.lean` changes) -/

/-- `TokenKind as u16` and `MySyntaxKind as u16` agree on every kind the lexer can produce
(all variants before `Eof`), so `to_syntax_kind` maps a token kind to the syntax kind of the same name -/
theorem kinds_aligned :
    (kindNames.take eofKind).map String.toList = (syntaxKindNames.take eofKind).map String.toList ∧
      eofKind + 1 = kindNames.length ∧ errorKind + 1 = eofKind :=
  -- the name lists agree as lists of strings; no string has to be decoded
  have h : kindNames.take eofKind = syntaxKindNames.take eofKind := rfl
  ⟨congrArg (List.map String.toList) h, rfl, rfl⟩

/-- `kind_from_raw` accepts exactly the declared kinds: its bound is the last variant -/
theorem kind_from_raw_bound_is_last :
    (syntaxKindNames.getLast?.map String.toList) = some kindFromRawBound.toList := by
  decide +kernel

/-- no rule can match the empty string (logos would loop / reject such a rule) -/
theorem rules_never_match_empty :
    (∀ l ∈ genRules.literals, l.2 ≠ []) ∧ (∀ r ∈ genRules.regexes, r.re.nullable = false) := by
  have h : ∀ l ∈ literals, l.2 ≠ "" := by decide +kernel
  refine ⟨fun l hl e => ?_, by decide +kernel⟩
  obtain ⟨l', hl', rfl⟩ := List.mem_map.1 hl
  exact h l' hl' (String.toList_eq_nil_iff.1 e)

/-- whenever a `#[regex]` rule matches a `#[token]` literal in full (`fn` vs the identifier rule),
the literal has the strictly higher priority: keywords win equal-length ties -/
theorem keywords_beat_regexes :
    ∀ l ∈ genRules.literals, ∀ r ∈ genRules.regexes,
      r.re.longest l.2 = some l.2.length → r.prio.getD r.re.priority < 2 * byteLen l.2 := by
  decide +kernel

/-- every rule produces a kind below `Error`; trivia kinds are rule kinds; `Eof` is not trivia -/
theorem rule_kinds_valid :
    (∀ l ∈ genRules.literals, l.1 < errorKind) ∧ (∀ r ∈ genRules.regexes, r.kind < errorKind) ∧
      (∀ k ∈ triviaKinds, k < errorKind) ∧ stops eofKind = true ∧ stops errorKind = true := by
  decide +kernel

/-! ## the lexer -/

/-- The byte count `lex_multiline_str` passes to `Lexer::bump` is a char boundary of the
remainder (it stops only at a `\n` byte or at the end), so the bump never panics and never
splits a scalar. `utf8s cs` is the remainder as bytes. -/
theorem multiline_boundaries (cs : List Char) (n : Nat) (h : lexMultilineStr (utf8s cs) = some n) :
    ∃ k, charsOfBytes cs n = some k ∧ k ≤ cs.length :=
  lexMultilineStr_boundary cs n h

/-- **Lexing terminates and tiles the text.** For every rule table and every positive
error-token length: the token loop ends normally (no invalid bump, no stall), the token texts
concatenated are the input (every scalar exactly once, in order), and no token is empty. -/
theorem lex_tiles (rules : Rules) (errLen : List Char → Nat → Nat) (h : ∀ s p, 0 < errLen s p)
    (s : List Char) :
    ∃ ts, lexAll rules errLen s = .ok ts ∧ textOf ts = s ∧ (∀ t ∈ ts, t.text ≠ []) ∧
      (ts.map fun t => t.text.length).sum = s.length := by
  obtain ⟨ts, h1⟩ := lexLoop_ok rules (errLen s) (h s) (s.length + 1) 0 s (Nat.lt_succ_self _)
  have hl := lexLoop_lexed (Nat.lt_succ_self _) h1
  refine ⟨ts, h1, hl.text_eq, hl.nonempty, ?_⟩
  rw [← congrArg List.length hl.text_eq]
  simp [textOf, List.length_flatMap]

/-- **Token ranges tile the text on character boundaries**: the byte ranges of the tokens
start at 0, are contiguous and non-empty, end at the byte length of the text, and every range
end is a char boundary of the text. -/
theorem lex_ranges_tile (rules : Rules) (errLen : List Char → Nat → Nat) (h : ∀ s p, 0 < errLen s p)
    (s : List Char) :
    ∃ ts, lexAll rules errLen s = .ok ts ∧ Tiles 0 (ranges 0 ts) (byteLen s) ∧
      ∀ r ∈ ranges 0 ts, ∃ k, charsOfBytes s r.2 = some k := by
  obtain ⟨ts, h1, h2, h3, _⟩ := lex_tiles rules errLen h s
  refine ⟨ts, h1, ?_, ?_⟩
  · have := tiles_of_nonempty ts h3 0
    rw [h2] at this
    simpa using this
  · have := range_ends_are_boundaries ts []
    simp only [byteLen, List.nil_append, h2] at this
    exact this

/-- Every token of `lexAll` is what `longestMatch` answers at the token's start: a rule token has
exactly the kind and length of the longest match there, and an error token occurs only where no
rule matches (this is the statement the harness checks on the real `lexer::lex`). -/
theorem tokens_are_longestMatch (rules : Rules) (errLen : List Char → Nat → Nat) (s : List Char)
    (ts : List Tok) (h : lexAll rules errLen s = .ok ts) :
    ∀ (pre : List Tok) (t : Tok) (post : List Tok), ts = pre ++ t :: post →
      longestMatch rules (textOf (t :: post)) = .tok t.kind t.text.length ∨
        (longestMatch rules (textOf (t :: post)) = .noMatch ∧ t.kind = rules.errorKind) := by
  exact (lexLoop_lexed (Nat.lt_succ_self _) h).greedy

/-- **Every non-error token is the longest match at its start**: no `#[token]` literal and no
`#[regex]` pattern of the table matches a longer prefix of the remaining text than the token that
was produced (`Re.Matches` is the declarative meaning of the regex AST; the matcher's correctness
with respect to it is proved in `Lemmas/C12Regex.lean`). -/
theorem valid_tokens_maximal (rules : Rules) (errLen : List Char → Nat → Nat) (s : List Char)
    (ts : List Tok) (h : lexAll rules errLen s = .ok ts)
    (pre : List Tok) (t : Tok) (post : List Tok) (hs : ts = pre ++ t :: post)
    (hk : t.kind ≠ rules.errorKind) :
    ∀ j, RuleMatches rules (textOf (t :: post)) j → j ≤ t.text.length := by
  rcases tokens_are_longestMatch rules errLen s ts h pre t post hs with h1 | h1
  · exact longestMatch_maximal rules _ _ _ h1
  · exact absurd h1.2 hk

/-- **An error token occurs only where no rule matches** (or where the multi-line-string callback
rejected its `\\\\` match): for a table whose rule kinds differ from `Error`, at the start of every
error token either no rule matches any non-empty prefix, or a rule *with a callback* matched. -/
theorem error_only_without_match (rules : Rules) (errLen : List Char → Nat → Nat) (s : List Char)
    (hkinds : (∀ l ∈ rules.literals, l.1 ≠ rules.errorKind) ∧ (∀ r ∈ rules.regexes, r.kind ≠ rules.errorKind))
    (ts : List Tok) (h : lexAll rules errLen s = .ok ts)
    (pre : List Tok) (t : Tok) (post : List Tok) (hs : ts = pre ++ t :: post)
    (hk : t.kind = rules.errorKind) :
    (∀ j, ¬ RuleMatches rules (textOf (t :: post)) j) ∨
      ∃ r ∈ rules.regexes, r.callback.isSome = true ∧
        ∃ j, 0 < j ∧ Re.Matches r.re (Re.word ((textOf (t :: post)).take j)) := by
  rcases tokens_are_longestMatch rules errLen s ts h pre t post hs with h1 | h1
  · exfalso
    exact longestMatch_kind_ne rules _ _ _ h1 hkinds hk
  · exact longestMatch_noMatch rules _ h1.1

/-! ## the tree builder -/

/-- **The tree contains every token exactly once and in order.** If the resolved event list is
balanced (one root, opened by the first event and closed by the last) and has at least one
`Advance` per non-trivia token, `build_tree` succeeds, the leaves of the tree read left to right
are exactly the token list, and no token is left over. -/
theorem buildTree_lossless (evs : List Ev) (toks : List Tok) (revs : List REv)
    (hr : resolve evs = some revs) (hb : balancedFrom 0 revs = true)
    (ha : nonTrivia toks ≤ advances revs) :
    ∃ b, buildTree evs toks = some b ∧ leaves b.tree = toks ∧ b.dropped = [] := by
  cases revs with
  | nil => simp [balancedFrom] at hb
  | cons ev evs' =>
    cases evs' with
    | nil => simp [balancedFrom] at hb
    | cons ev2 evs'' =>
      simp only [balancedFrom] at hb
      split at hb
      · rename_i d' hd
        -- balanced from depth 0, the list can only start with a `starts`, which opens the root
        cases ev with
        | finish => simp [depthAfter] at hd
        | advance => simp [depthAfter] at hd
        | error m => simp [depthAfter] at hd
        | starts ks =>
          simp only [depthAfter, Nat.zero_add, Option.some.injEq] at hd
          obtain ⟨st', hrun, hrest, ⟨k, ch, hroot⟩, hkept⟩ := run_lossless_from_start (lastRangeOf toks) ks d' (ev2 :: evs'') toks hd hb
            (by simpa [advances] using ha)
          refine ⟨{ tree := .node k ch, diags := st'.diags, dropped := st'.rest }, ?_, ?_, hrest⟩
          · simp only [buildTree, hr, Option.bind_eq_bind, Option.bind_some]
            rw [hrun]
            simp [Builder.finish, hroot]
          · rw [hroot] at hkept
            simpa only [leavesList, List.append_nil] using hkept
      · simp at hb

/-- **Diagnostic positions lie within the text**: every range `build_tree` attaches to an `Error`
event is a sub-range of `[0, |text|]` — for *any* event list (balanced or not). -/
theorem diag_ranges_in_text (evs : List Ev) (toks : List Tok) (b : Built)
    (h : buildTree evs toks = some b) :
    ∀ d ∈ b.diags, ∀ r, d.range = some r → r.1 ≤ r.2 ∧ r.2 ≤ byteLen (textOf toks) := by
  simp only [buildTree, Option.bind_eq_bind] at h
  cases hr : resolve evs with
  | none => simp [hr] at h
  | some revs =>
    simp only [hr, Option.bind_some] at h
    cases hrun : runEvents (lastRangeOf toks) revs { rest := toks, off := 0, b := {}, diags := [] } with
    | none => simp [hrun] at h
    | some st =>
      simp only [hrun, Option.bind_some] at h
      cases hf : st.b.finish with
      | none => simp [hf] at h
      | some t =>
        simp only [hf, Option.bind_some, Option.pure_def, Option.some.injEq] at h
        subst h
        have inv := runEvents_rangeInv (byteLen (textOf toks)) (lastRangeOf toks) (lastRangeOf_within toks)
          revs _ st ⟨by simp, by simp⟩ hrun
        exact inv.2

/-- **Node positions lie within the text**: the byte range of every node and token of a tree,
computed from the text lengths below it (rowan's `text_range`), is inside `[0, |tree text|]`. -/
theorem node_ranges_in_text (t : Tree) :
    ∀ x ∈ spans 0 t, x.2.1 ≤ x.2.2 ∧ x.2.2 ≤ byteLen (textOf (leaves t)) := by
  intro x hx
  have := spans_within t 0 x hx
  simp only [treeLen] at this
  omega

/-- **Lexing then tree building is lossless and every position is inside the text** — for any
event list inside the hypotheses of `buildTree_lossless`. *Partial* with respect to the
property: that the event list is balanced and advances over every non-trivia token is assumed
here (and checked on every real event list at run time: `real_event_lists_inside_buildTree_lossless_hypotheses` in the evidence);
`parse_lossless` discharges it for the event list of the modelled grammar functions
(`grammar_events_cover_tokens`, from C04's `file_consumes_all_tokens`). -/
theorem parse_lossless_partial (rules : Rules) (errLen : List Char → Nat → Nat)
    (h : ∀ s p, 0 < errLen s p) (s : List Char) (evs : List Ev) (revs : List REv)
    (hr : resolve evs = some revs) (hb : balancedFrom 0 revs = true)
    (ha : ∀ ts, lexAll rules errLen s = .ok ts → nonTrivia ts ≤ advances revs) :
    ∃ ts b, lexAll rules errLen s = .ok ts ∧ buildTree evs ts = some b ∧
      textOf (leaves b.tree) = s ∧
      (∀ x ∈ spans 0 b.tree, x.2.1 ≤ x.2.2 ∧ x.2.2 ≤ byteLen s) ∧
      (∀ d ∈ b.diags, ∀ r, d.range = some r → r.1 ≤ r.2 ∧ r.2 ≤ byteLen s) := by
  obtain ⟨ts, h1, h2, _, _⟩ := lex_tiles rules errLen h s
  obtain ⟨b, b1, b2, _⟩ := buildTree_lossless evs ts revs hr hb (ha ts h1)
  refine ⟨ts, b, h1, b1, by rw [b2, h2], ?_, ?_⟩
  · have := node_ranges_in_text b.tree
    rw [b2, h2] at this
    exact this
  · have := diag_ranges_in_text evs ts b b1
    rw [h2] at this
    exact this

/-! ## non-vacuity: the hypotheses hold on concrete inputs, and are needed -/

/-- keyword, blank, a scalar no rule accepts, punctuation, a string with a 2-byte scalar, an
unmatched `$`, a comment: 8 tokens tiling the 15 scalars (error tokens get length 1 here) -/
example : lexAll genRules (fun _ _ => 1) "fn é(\"ü\")$// c".toList =
    .ok [⟨32, "fn".toList⟩, ⟨80, " ".toList⟩, ⟨82, "é".toList⟩, ⟨0, "(".toList⟩, ⟨78, "\"ü\"".toList⟩,
         ⟨1, ")".toList⟩, ⟨82, "$".toList⟩, ⟨81, "// c".toList⟩] := by decide +kernel

/-- a two-line multi-line string whose second line holds a 2-byte scalar: the hand-written scanner
returns 7 bytes = 6 scalars after the `\\`, the trailing newline is left to `Whitespace` -/
example : lexAll genRules (fun _ _ => 1) "\\\\a\n \\\\é\nx".toList =
    .ok [⟨79, "\\\\a\n \\\\é".toList⟩, ⟨80, "\n".toList⟩, ⟨65, "x".toList⟩] := by decide +kernel

example : lexMultilineStr (utf8s "a\n \\\\é\nx".toList) = some 7 := by decide +kernel

/-- `0 < errLen` is needed: with an error length of 0 the loop cannot get past `$` -/
example : lexAll genRules (fun _ _ => 0) "a$".toList = .stuck [⟨65, "a".toList⟩] 1 := by decide +kernel

/-- keywords beat the identifier rule only at equal length -/
example : longestMatch genRules "fn".toList = .tok 32 2 ∧ longestMatch genRules "fnx".toList = .tok 65 3 ∧
    longestMatch genRules "1.5f32x".toList = .tok 66 6 ∧ longestMatch genRules "\"a".toList = .noMatch := by
  decide +kernel

/-- `RuleMatches` (the hypothesis of `valid_tokens_maximal`) is inhabited: at `fnx ` the literal `fn`
matches 2 scalars and the identifier pattern matches 3 — the token is the longer one -/
example : RuleMatches genRules "fnx ".toList 2 ∧ RuleMatches genRules "fnx ".toList 3 ∧
    longestMatch genRules "fnx ".toList = .tok 65 3 := by
  refine ⟨.inl ⟨(32, "fn".toList), by decide +kernel, by decide +kernel, by decide +kernel, by decide +kernel⟩, .inr ?_,
    by decide +kernel⟩
  refine ⟨genRules.regexes[0]'(by decide +kernel), List.getElem_mem _, by decide, by decide +kernel, ?_⟩
  exact (Re.longest_sound _ _ 3 (by decide +kernel)).2

/-- tokens ` #fn é//` and the events of `file` for an attributed item (forward parent from the
attribute list, index 1, to the `FN` opened at index 4), with an `Error` event -/
def exToks : List Tok :=
  [⟨80, " ".toList⟩, ⟨28, "#".toList⟩, ⟨32, "fn".toList⟩, ⟨80, " ".toList⟩, ⟨65, "é".toList⟩, ⟨81, "//".toList⟩]

def exEvs : List Ev :=
  [.op 191 none, .op 192 (some 3), .advance, .close, .op 88 none, .advance, .error "e", .advance, .close, .close]

/-- the hypotheses of `buildTree_lossless` hold for it … -/
example : (resolve exEvs).map (fun r => (balancedFrom 0 r, advances r)) = some (true, 3) ∧ nonTrivia exToks = 3 := by
  decide +kernel

/-- … the tree keeps all six tokens, leading and trailing trivia included, and the diagnostic
sits on the token at the cursor (`é`, bytes 5..7) -/
example : (buildTree exEvs exToks).map (fun b => (leaves b.tree, b.dropped, b.diags.map (·.range)))
    = some (exToks, [], [some (5, 7)]) := by decide +kernel

/-- the `Advance` hypothesis is needed: an event list that stops early loses the remaining tokens -/
example : (buildTree [.op 191 none, .advance, .close] exToks).map (fun b => (leaves b.tree).length + b.dropped.length)
    = some 6 ∧
    (buildTree [.op 191 none, .advance, .close] exToks).map (fun b => b.dropped.length) = some 4 := by
  decide +kernel

/-- the balance hypothesis is needed: a token emitted before any node is open has no root -/
example : (buildTree [.advance, .op 191 none, .close] exToks).isNone = true := by decide +kernel

/-! ## the grammar functions (`Model/Grammar.lean`, tables in `Gen/Grammar.lean`)

The model of `file::file` and everything below it produces, for the kinds of the real non-trivia tokens, an item
tree whose event list `flatL` is compared event for event with the real `Parser.events` on every run. -/
section grammar
open Goml.Grammar Goml.Gen.Gram

/-- **Every grammar function of the source is modelled, loop for loop**: the list of `fn`s of `file.rs`, `expr.rs`,
`pattern.rs`, `path.rs`, `stmt.rs` with the number of `while`/`loop` heads in each, regenerated from the Rust text
on every run, is exactly the model's table (a new function or a new loop breaks this theorem). -/
theorem grammar_model_covers_source :
    grammarFns.map (fun r => (r.2.1.toList, r.2.2.1.length)) = fnTable.map (fun r => (r.1.toList, r.2.2.length)) := by
  have h : grammarFns.map (fun r => (r.2.1, r.2.2.1.length)) = fnTable.map (fun r => (r.1, r.2.2.length)) := rfl
  simpa only [List.map_map, Function.comp_def] using congrArg (List.map fun p => (p.1.toList, p.2)) h

/-- no first-set and no recovery set of the grammar contains `eof`, no binding-power table has an entry for it:
a look that answers `eof` (real end, or fuel spent) never selects a branch that expects a token -/
theorem grammar_sets_reject_eof :
    T_Eof ∉ exprFirst ∧ T_Eof ∉ patternFirst ∧ T_Eof ∉ typeFirst ∧ T_Eof ∉ paramListRecovery ∧ T_Eof ∉ expectKeeps ∧
      (∀ o ∈ prefixBp, o.1 ≠ T_Eof) ∧ (∀ o ∈ postfixBp, o.1 ≠ T_Eof) ∧ (∀ o ∈ infixBp, o.1 ≠ T_Eof) ∧
      (∀ o ∈ typeInfixBp, o.1 ≠ T_Eof) := by
  decide +kernel

/-- every `(l_bp, r_bp)` the loops of `expr_bp` / `type_expr_bp` recurse with is a parameter the model instantiates:
binding powers are below the number the model's `Fn` parameters range over (no silent truncation) -/
theorem grammar_binding_powers_small :
    (∀ o ∈ infixBp, o.2.1 < 64 ∧ o.2.2 < 64) ∧ (∀ o ∈ prefixBp, o.2 < 64) ∧ (∀ o ∈ postfixBp, o.2 < 64) := by
  decide +kernel

/-- **The tree contains every token the grammar saw** — for every token list the item tree of `file` has at least one
`Advance` per non-trivia token and the cursor ends at the end (C04's `file_consumes_all_tokens`, which rests on
`grammar_terminates`, `run_inv` and `fileItems_ends_at_eof`). -/
theorem parse_events_cover_tokens (toks : List Nat) :
    toks.length ≤ advsL (parseItems toks).out ∧ (parseItems toks).pos = toks.length :=
  ⟨(file_consumes_all_tokens toks).2, (file_consumes_all_tokens toks).1⟩

/-- `fn f[T: A](x: T) -> T { match x { P(a, (b, _)) => a } }`: an item with generics and bounds, a match with
nested patterns (32 tokens) -/
def exGrammar1 : List Nat := [32,65,4,65,10,65,5,0,65,10,65,1,11,65,2,39,65,2,65,0,65,8,0,65,8,50,1,1,12,65,3,3]

/-- `fn ( ) { let = 1 ; } struct { a } }`: recovery in `func` (missing name), `let_stmt` (missing pattern),
`struct_def` (missing name), `struct_field` (missing `:` and type) and a stray `}` at top level (14 tokens) -/
def exGrammar2 : List Nat := [32,0,1,2,42,6,77,7,3,37,2,65,3,3]

/-- non-vacuity: the budget suffices, the events are inside the hypotheses of `buildTree_lossless`, one `Advance`
per token; the second text reports 10 errors and still keeps all 14 tokens -/
example : (parseItems exGrammar1).oof = false ∧
    (resolve (parseEvents exGrammar1)).map (fun r => (balancedFrom 0 r, advances r)) = some (true, 32) ∧
    advsL (parseItems exGrammar1).out = 32 := by decide +kernel

example : (parseItems exGrammar2).oof = false ∧
    (resolve (parseEvents exGrammar2)).map (fun r => (balancedFrom 0 r, advances r)) = some (true, 14) ∧
    ((parseEvents exGrammar2).filter fun e => match e with | .error _ => true | _ => false).length = 10 := by
  decide +kernel

/-- a forward parent produced by the model: `#[a] fn f() {}` — the attribute list (event 1) points 8 events ahead to
the `FN` node (event 9) that `item_with_attrs` opens after it -/
example : (parseEvents [28, 4, 65, 5, 32, 65, 0, 1, 2, 3]).take 10 =
    [.op K_FILE none, .op K_ATTRIBUTE_LIST (some 8), .op K_ATTRIBUTE none, .advance, .advance, .advance, .advance,
     .close, .close, .op K_FN none] := by
  decide +kernel

/-! ### well-formedness of the model's event list, for every token list -/

/-- the kinds of the non-trivia tokens: what the parser's `Input` shows to the grammar functions -/
def kindsOf (ts : List Tok) : List Nat := (ts.filter fun t => !isTrivia t.kind).map (·.kind)

theorem stops_eq_not_trivia (k : Nat) : stops k = !isTrivia k := by
  unfold stops
  by_cases h : k = eofKind
  · subst h; decide
  · simp [h]

theorem nonTrivia_eq_kindsOf (ts : List Tok) : nonTrivia ts = (kindsOf ts).length := by
  induction ts with
  | nil => rfl
  | cons t ts ih =>
    simp only [nonTrivia, ih, stops_eq_not_trivia, kindsOf, List.filter_cons]
    cases isTrivia t.kind <;> simp <;> omega

/-- the output of `file` is one `FILE` node -/
theorem parseItems_root (toks : List Nat) : ∃ ch, (parseItems toks).out = [.node K_FILE ch] := by
  unfold parseItems budget
  generalize ranks * ((toks.length + 1) * (FUEL + 1)) + ranks = n
  obtain ⟨A, B, hA⟩ := body_file
  rw [run, hA]
  exact ⟨_, rfl⟩

/-- **The event list the grammar functions produce satisfies the structural hypotheses
of `buildTree_lossless` for EVERY token list** (any fuel corner, any recovery path, even if the model's call budget
ran out): forward parents resolve (`resolve` succeeds: every chain lands on an `Open`), the resolved list is balanced —
root opened by the first event, depth ≥ 1 until the last event closes it — and its number of `Advance`s is the number
of `adv` leaves of the item tree. -/
theorem grammar_events_wellformed (toks : List Nat) :
    ∃ revs ch, (parseItems toks).out = [.node K_FILE ch] ∧ resolve (parseEvents toks) = some revs ∧
      balancedFrom 0 revs = true ∧ advances revs = advsL ch := by
  obtain ⟨ch, hch⟩ := parseItems_root toks
  have hk : KInv (parseItems toks) := run_kinv _ _ _ (kinv_init _)
  have hk' : kindsOK (.node K_FILE ch) = true := by
    have := hk.1; rw [hch] at this; simpa [kindsOKL] using this
  obtain ⟨revs, h1, h2, h3⟩ := flat_root_wellformed K_FILE ch hk'
  exact ⟨revs, ch, hch, by rw [parseEvents, hch]; exact h1, h2, h3⟩

/-- … and it has at least one `Advance` per token: all structural hypotheses of `buildTree_lossless`, for every token list -/
theorem grammar_events_cover_tokens (toks : List Nat) :
    ∃ revs, resolve (parseEvents toks) = some revs ∧ balancedFrom 0 revs = true ∧ toks.length ≤ advances revs := by
  obtain ⟨revs, ch, hch, h1, h2, h3⟩ := grammar_events_wellformed toks
  refine ⟨revs, h1, h2, ?_⟩
  have := (file_consumes_all_tokens toks).2
  rw [hch] at this
  simp only [advsL, advs, Nat.add_zero] at this
  omega

/-- **Lexing, the grammar functions and tree building compose to a lossless tree** — for every rule
table, every positive error length and every text: the lexer tiles the text (`lex_tiles`), the grammar model run on the
kinds of its non-trivia tokens yields events inside the hypotheses of `buildTree_lossless`
(`grammar_events_wellformed`), hence `build_tree` succeeds, the tree's text is the input, nothing is dropped, and all node
and diagnostic ranges lie in the text. Unconditional for the modelled grammar: termination (`grammar_terminates`), balance,
forward parents, advance accounting, recovery paths and fuel corners are all proved; what ties the model to the Rust is the
event-for-event comparison with `Parser.events` on every run. -/
theorem parse_lossless (rules : Rules) (errLen : List Char → Nat → Nat)
    (h : ∀ s p, 0 < errLen s p) (s : List Char) :
    ∃ ts b, lexAll rules errLen s = .ok ts ∧ buildTree (parseEvents (kindsOf ts)) ts = some b ∧
      leaves b.tree = ts ∧ textOf (leaves b.tree) = s ∧ b.dropped = [] ∧
      (∀ x ∈ spans 0 b.tree, x.2.1 ≤ x.2.2 ∧ x.2.2 ≤ byteLen s) ∧
      (∀ d ∈ b.diags, ∀ r, d.range = some r → r.1 ≤ r.2 ∧ r.2 ≤ byteLen s) := by
  obtain ⟨ts, h1, h2, _, _⟩ := lex_tiles rules errLen h s
  obtain ⟨revs, r1, r2, r3⟩ := grammar_events_cover_tokens (kindsOf ts)
  obtain ⟨b, b1, b2, b3⟩ := buildTree_lossless (parseEvents (kindsOf ts)) ts revs r1 r2
    (by rw [nonTrivia_eq_kindsOf]; exact r3)
  refine ⟨ts, b, h1, b1, b2, by rw [b2, h2], b3, ?_, ?_⟩
  · have := node_ranges_in_text b.tree
    rw [b2, h2] at this
    exact this
  · have := diag_ranges_in_text _ ts b b1
    rw [h2] at this
    exact this

/-! ### `Input`: the non-trivia view (`Model/InputView.lean`) -/
open Goml.InputView in
/-- **The grammar model sees exactly what `Input` shows the parser.** `Corr all pre rest s`: the real cursor has passed
`pre` and still has `rest` (all tokens, trivia included), the model state `s` holds the non-trivia kinds and the count of
those passed. Then `Input::nth(n)` (its loop over `tokens[cursor..]`), `Input::peek()` (after `eat_trivia`) and
`Input::eof()` answer what the model's `look`/`isEof` answer, `Input::skip()` leads to a corresponding state of `bump`,
the initial states correspond, and the model's token list is `kindsOf` of the lexer's tokens, whose length is the lexer
model's `nonTrivia`. -/
theorem input_view (all pre rest : List Nat) (s : PS) (h : Corr all pre rest s) :
    (∀ n, s.fuel ≠ 0 → (look s n).1 = InputView.nth rest n) ∧
    (s.fuel ≠ 0 → (look s 0).1 = (InputView.peek rest).1) ∧
    s.isEof = (InputView.eof rest).1 ∧
    (∃ pre', Corr all pre' (InputView.skip rest) (bump s)) ∧
    Corr all [] all (initPS (view all)) := by
  refine ⟨?_, ?_, corr_isEof h, corr_skip h, ⟨rfl, rfl, rfl⟩⟩
  · intro n hf; unfold look; rw [if_neg hf]; exact corr_getD h n
  · intro hf
    have : (look s 0).1 = InputView.nth rest 0 := by unfold look; rw [if_neg hf]; exact corr_getD h 0
    rw [this, nth_eq_view, InputView.peek, eatTrivia_head]
    cases view rest <;> rfl

theorem kindsOf_eq_view (ts : List Tok) : kindsOf ts = InputView.view (ts.map (·.kind)) := by
  simp [kindsOf, InputView.view, List.filter_map, Function.comp_def]

end grammar

end Goml.C12

namespace Goml.C12.Grammar
open Goml.ParserFuel

/-! ## one `Advance` per token, for any item parsers: the top-level loop, also when it is entered out of fuel

`parse_lossless_partial` needs one `Advance` event per non-trivia token. On the model of the parser's
progress machinery (`Model/ParserFuel.lean`: tokens = the non-trivia tokens, `isEof` = `Parser::eof`
= `Input::eof`, fuel from `Gen/Consts.lean`) this is a theorem for ANY item parsers built from the
primitives, from ANY well-formed state — in particular after a lookahead-only scan of any length
(`impl_has_trait`; `Gen/Lookahead.lean` lists such functions) has left the parser without fuel. For the grammar
functions as they are written, `parse_lossless` above has the same fact from the model of the grammar itself. -/

/-- `while !p.eof() { if p.at(..) … else { advance_with_error } }`
started in any well-formed state whose cursor is covered by `Advance` events ends at the real end of
input with at least as many `Advance` events as there are tokens — whatever the branches do, as long
as they are parser functions (`StepOK`, `KeepsCovered`) and no guard accepts `eof` -/
theorem file_advances_cover_tokens (bs : List ((Kind → Bool) × (St → St)))
    (hbs : ∀ b ∈ bs, StepOK b.2 ∧ KeepsCovered b.2 ∧ b.1 EOF = false)
    (s : St) (hw : Wf s) (hc : CursorCovered s) :
    ∃ r c, runLoop none (dispatch bs) (Goml.ParserFuel.measure s) s = some (r, c) ∧
      r.toks = s.toks ∧ r.cursor = s.toks.length ∧ s.toks.length ≤ r.advances := by
  have hbs1 : ∀ b ∈ bs, StepOK b.2 ∧ b.1 EOF = false := fun b hb => ⟨(hbs b hb).1, (hbs b hb).2.2⟩
  have hbs2 : ∀ b ∈ bs, KeepsCovered b.2 := fun b hb => (hbs b hb).2.1
  obtain ⟨r, c, hr, _, wr, tr⟩ :=
    loop_terminates none (dispatch bs) (dispatch_progress bs hbs1) (Goml.ParserFuel.measure s) s hw (Nat.le_refl _)
  have hcov : CursorCovered r :=
    runLoop_keepsCovered none (dispatch bs) (dispatch_keepsCovered bs hbs2) _ s r c hc hr
  have hcur : r.cursor = s.toks.length := by
    rcases runLoop_exit none (dispatch bs) _ _ r c hr with he | ⟨k, _, hk, _⟩
    · have h1 : r.toks.length ≤ r.cursor := by simpa [isEof] using he
      have h2 := wr.1
      rw [tr] at h1 h2; omega
    · cases hk
  refine ⟨r, c, hr, tr, hcur, ?_⟩
  unfold CursorCovered at hcov
  omega

/-- … in particular after a scan of any length that only looks (two `nth` per path segment in
`impl_has_trait`), which may have used up all the fuel: the loop still consumes every token -/
theorem file_after_lookahead (bs : List ((Kind → Bool) × (St → St)))
    (hbs : ∀ b ∈ bs, StepOK b.2 ∧ KeepsCovered b.2 ∧ b.1 EOF = false) (toks : List Kind) (ns : List Nat) :
    ∃ r c, runLoop none (dispatch bs) (Goml.ParserFuel.measure (looks ns (init toks))) (looks ns (init toks)) = some (r, c) ∧
      r.cursor = toks.length ∧ toks.length ≤ r.advances := by
  obtain ⟨r, c, hr, _, h1, h2⟩ := file_advances_cover_tokens bs hbs (looks ns (init toks))
    ((looks_stepOK ns) (init toks) (init_wf toks)).1 (looks_keepsCovered ns _ (init_covered toks))
  rw [looks_toks] at h1 h2
  exact ⟨r, c, hr, h1, h2⟩

/-- a scan that looks exactly `parserFuel` times and consumes nothing (a path of `parserFuel / 2`
segments under `impl_has_trait`) -/
@[irreducible] def fuelScan : St → St := looks (List.replicate FUEL 0)

/-- The hypothesis "`eof()` does not go through `peek()`" is needed.
With the fuel-aware reading `p.at(T![eof])` in the loop condition, item parsers that ARE parser
functions and guards that reject `eof` no longer suffice: after a branch that only looks `parserFuel`
times the loop leaves in front of unconsumed tokens (the tree then lacks them). -/
theorem fuel_aware_eof_drops_tokens :
    ∃ (bs : List ((Kind → Bool) × (St → St))) (toks : List Kind),
      (∀ b ∈ bs, StepOK b.2 ∧ KeepsCovered b.2 ∧ b.1 EOF = false) ∧
      ∃ r c, runLoopPeekEof (dispatch bs) 1 (init toks) = some (r, c) ∧
        r.cursor < toks.length ∧ r.advances < toks.length := by
  have h1 : StepOK fuelScan := by unfold fuelScan; exact looks_stepOK (List.replicate FUEL 0)
  have h2 : KeepsCovered fuelScan := by unfold fuelScan; exact looks_keepsCovered (List.replicate FUEL 0)
  have h3 : (fun k : Kind => k == "impl") EOF = false := by decide
  refine ⟨[((fun k : Kind => k == "impl"), fuelScan)], ["impl", "Seg", "::", "Seg"], ?_, ?_⟩
  · intro b hb
    simp only [List.mem_singleton] at hb
    subst hb
    exact ⟨h1, h2, h3⟩
  · have h : (runLoopPeekEof (dispatch [((fun k : Kind => k == "impl"), fuelScan)]) 1
        (init ["impl", "Seg", "::", "Seg"])).map (fun rc => (rc.1.cursor, rc.1.advances)) = some (0, 0) := by
      decide +kernel
    cases hr : runLoopPeekEof (dispatch [((fun k : Kind => k == "impl"), fuelScan)]) 1
        (init ["impl", "Seg", "::", "Seg"]) with
    | none => rw [hr] at h; cases h
    | some rc =>
      obtain ⟨r, c⟩ := rc
      rw [hr] at h
      simp only [Option.map_some, Option.some.injEq, Prod.mk.injEq] at h
      refine ⟨r, c, rfl, ?_, ?_⟩
      · rw [h.1]; decide
      · rw [h.2]; decide

/-- non-vacuity of `file_after_lookahead`, and the same input under both readings of `eof`: an item
parser that scans ahead `parserFuel` times and then consumes nothing. With `Parser::eof` the default
branch eats the four tokens one by one (4 `Advance` events, 4 errors); with the fuel-aware reading
the loop stops at token 0. -/
example :
    let bs : List ((Kind → Bool) × (St → St)) := [((· == "impl"), fuelScan)]
    (runLoop none (dispatch bs) 10 (init ["impl", "Seg", "::", "Seg"])).map (fun (r, c) => (r.cursor, r.advances, c))
        = some (4, 4, 5) ∧
      (runLoopPeekEof (dispatch bs) 10 (init ["impl", "Seg", "::", "Seg"])).map (fun (r, c) => (r.cursor, r.advances, c))
        = some (0, 0, 1) := by
  decide +kernel

end Goml.C12.Grammar
