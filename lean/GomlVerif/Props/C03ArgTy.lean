import GomlVerif.Lemmas.WtRules
/-!
# C03 — the stage judgement `Wt` decides the argument TYPE at every position of every call

`./check C03` evaluates `Wt.errs` on every real Core / Mono / Lift / ANF dump.  These theorems say what a dump
that passes the judgement cannot contain: a call one of whose arguments has another type than the parameter the
callee's annotation declares at that position (the only licence is the wildcard array length of
`array_get` / `array_set`, which the typer's unifier reads as "any length"); a `dyn` / trait method call or a
constructor application whose argument types differ from the trait method's signature / the field types.
So a typer that lets a wrong argument type through produces dumps the judgement rejects — the check of accepted
wrong-type variants of the `argtype:` catalogue (`tools/props/c03.py::argty_oracle`, harness/src/c03argty.rs)
relies on exactly this.
-/
namespace Goml.Wt
open Goml Goml.Mono

mutual
/-- no array type inside `t` has the wildcard length (the length `array_get` / `array_set` declare) -/
def noWildLen : Ty → Bool
  | .tuple ts => noWildLens ts
  | .app t ts => noWildLen t && noWildLens ts
  | .array n e => !(n == Gen.arrayWildcardLen) && noWildLen e
  | .vec e => noWildLen e
  | .ref e => noWildLen e
  | .func ps r => noWildLens ps && noWildLen r
  | _ => true
def noWildLens : List Ty → Bool
  | [] => true
  | t :: ts => noWildLen t && noWildLens ts
end

/-- without a wildcard array length on the declared side, `compatTy` is equality -/
theorem compatTy_eq_of_noWildLen : ∀ (t a : Ty), noWildLen t = true → compatTy t a = true → t = a := by
  intro t
  apply Ty.rec
    (motive_1 := fun t => ∀ a, noWildLen t = true → compatTy t a = true → t = a)
    (motive_2 := fun ts => ∀ us, noWildLens ts = true → compatTys ts us = true → ts = us)
  case tuple | vec | ref =>
    intro t ih a hn h
    simp only [compatTy] at h
    split at h
    · simp only [noWildLen] at hn
      rw [ih _ hn h]
    · cases h
  case app | func =>
    intro t ts ih1 ih2 a hn h
    simp only [compatTy] at h
    split at h
    · simp only [Bool.and_eq_true] at h
      simp only [noWildLen, Bool.and_eq_true] at hn
      rw [ih1 _ hn.1 h.1, ih2 _ hn.2 h.2]
    · cases h
  case array =>
    intro n e ih a hn h
    simp only [compatTy] at h
    split at h
    · simp only [Bool.and_eq_true, Bool.or_eq_true, beq_iff_eq] at h
      simp only [noWildLen, Bool.and_eq_true, Bool.not_eq_true', beq_eq_false_iff_ne, ne_eq] at hn
      rw [ih _ hn.2 h.2, h.1.resolve_left hn.1]
    · cases h
  case nil =>
    intro us _ h
    cases us with
    | nil => rfl
    | cons _ _ => simp [compatTys] at h
  case cons =>
    intro t ts ih1 ih2 us hn h
    cases us with
    | nil => simp [compatTys] at h
    | cons u us =>
      simp only [compatTys, Bool.and_eq_true] at h
      simp only [noWildLens, Bool.and_eq_true] at hn
      rw [ih1 _ hn.1 h.1, ih2 _ hn.2 h.2]
  -- on a type without components `compatTy` is `tyBeq`
  all_goals
    intros
    rename_i h
    simp only [compatTy] at h
    exact (tyBeq_iff _ _).1 h

/-- `compatTys` is `compatTy` at every position -/
theorem compatTys_at : ∀ (ps us : List Ty), compatTys ps us = true →
    ∀ (i : Nat) (p u : Ty), ps[i]? = some p → us[i]? = some u → compatTy p u = true
  | [], _, _, i, p, u, hp, _ => by simp at hp
  | _ :: _, [], h, _, _, _, _, _ => by simp [compatTys] at h
  | q :: ps, v :: us, h, i, p, u, hp, hu => by
    simp only [compatTys, Bool.and_eq_true] at h
    cases i with
    | zero =>
      simp only [List.getElem?_cons_zero, Option.some.injEq] at hp hu
      subst hp; subst hu; exact h.1
    | succ i =>
      simp only [List.getElem?_cons_succ] at hp hu
      exact compatTys_at ps us h.2 i p u hp hu

theorem getTys_at : ∀ (es : List Expr) (i : Nat) (e : Expr), es[i]? = some e → (getTys es)[i]? = some (getTy e)
  | [], i, e, h => by simp at h
  | x :: es, 0, e, h => by
    simp only [List.getElem?_cons_zero, Option.some.injEq] at h
    subst h; simp [getTys]
  | x :: es, i + 1, e, h => by
    simp only [List.getElem?_cons_succ] at h
    simp only [getTys, List.getElem?_cons_succ]
    exact getTys_at es i e h

/-- **call**: in a type-consistent call the callee's annotation is a function type, the argument types are
compatible with its parameter types position by position (and as many), and its result type with the call's. -/
theorem wt_call_arg_types (S : Sig) (Γ : TyEnv) (ty : Ty) (f : Expr) (args : List Expr)
    (h : wt S Γ (.call ty f args) = true) :
    ∃ ps r, getTy f = .func ps r ∧ compatTys ps (getTys args) = true ∧ compatTy r ty = true :=
  (errs_call.1 (wt_iff.1 h)).2.2

/-- **call, one argument position**: the `i`-th argument of a type-consistent call has EXACTLY the type the
callee's annotation declares for its `i`-th parameter — whatever the callee is (function, closure, local,
inherent method of a generic or of an instantiation-specific impl, builtin, apply function) — unless that
parameter type mentions the wildcard array length. -/
theorem wt_call_arg_type_at (S : Sig) (Γ : TyEnv) (ty : Ty) (f : Expr) (args : List Expr)
    (h : wt S Γ (.call ty f args) = true)
    (ps : List Ty) (r : Ty) (hf : getTy f = .func ps r)
    (i : Nat) (p : Ty) (a : Expr) (hp : ps[i]? = some p) (ha : args[i]? = some a) (hw : noWildLen p = true) :
    getTy a = p := by
  obtain ⟨ps', r', hf', hc, _⟩ := wt_call_arg_types S Γ ty f args h
  rw [hf] at hf'
  injection hf' with hps _
  subst hps
  exact (compatTy_eq_of_noWildLen p (getTy a) hw (compatTys_at ps (getTys args) hc i p (getTy a) hp (getTys_at args i a ha))).symm

/-- **call, result**: the call's own annotation is the callee annotation's result type (same licence). -/
theorem wt_call_result_type (S : Sig) (Γ : TyEnv) (ty : Ty) (f : Expr) (args : List Expr)
    (h : wt S Γ (.call ty f args) = true)
    (ps : List Ty) (r : Ty) (hf : getTy f = .func ps r) (hw : noWildLen r = true) : ty = r := by
  obtain ⟨ps', r', hf', _, hr⟩ := wt_call_arg_types S Γ ty f args h
  rw [hf] at hf'
  injection hf' with _ hr'
  subst hr'
  exact (compatTy_eq_of_noWildLen r ty hw hr).symm

/-- **dyn call** `Tr::m(d, args…)`: the trait method's signature at `dyn Tr` is exactly receiver type, argument
types → the call's type. -/
theorem wt_dyncall_arg_types (S : Sig) (Γ : TyEnv) (tr m : String) (ty : Ty) (recv : Expr) (args : List Expr)
    (h : wt S Γ (.dynCall tr m ty recv args) = true) :
    methodTy S tr m (.dyn tr) = some (.func (getTy recv :: getTys args) ty) :=
  (errs_dynCall.1 (wt_iff.1 h)).2.2.2

/-- **trait method call** on a bounded type parameter (Core only): the trait method's signature at the receiver's
type is exactly receiver type, argument types → the call's type. -/
theorem wt_traitcall_arg_types (S : Sig) (Γ : TyEnv) (tr m : String) (ty : Ty) (recv : Expr) (args : List Expr)
    (h : wt S Γ (.traitCall tr m ty recv args) = true) :
    methodTy S tr m (getTy recv) = some (.func (getTy recv :: getTys args) ty) :=
  (errs_traitCall.1 (wt_iff.1 h)).2.2

/-- **constructor**: the argument types are exactly the field types of the variant / struct at that type. -/
theorem wt_constr_arg_types (S : Sig) (Γ : TyEnv) (c : Ctor) (ty : Ty) (args : List Expr)
    (h : wt S Γ (.constr c ty args) = true) :
    fieldTys S c ty = some (getTys args) :=
  (errs_constr.1 (wt_iff.1 h)).2

/-! ## non-vacuity: a type-qualified call of a method of an instantiation-specific impl, and its ill-typed twin -/

def cellI : Ty := .app (.struct "Cell") [.int 32 true]
/-- `impl Cell[int32] { fn put(self: Cell[int32], x: int32) -> Cell[int32] { self } }` -/
def putI : Fn := { name := "inherent#Cell#Cell[int32]#put", generics := [], params := [("self/2", cellI), ("x/3", .int 32 true)], ret := cellI,
                   body := .var "self/2" cellI }
def sigCell : Sig := { fns := [putI], structs := [{ name := "Cell", generics := ["T"], fields := [("v", .param "T")] }] }
def putITy : Ty := .func [cellI, .int 32 true] cellI

/-- `Cell::put(c, 41)`: consistent -/
example : wt sigCell [("c/4", cellI)]
    (.call cellI (.var "inherent#Cell#Cell[int32]#put" putITy) [.var "c/4" cellI, .prim (.int 32 true 41)]) = true := by decide +kernel
/-- `Cell::put(c, "oops")` as a typer that only INFERS the argument elaborates it (callee annotated with the
method's type, argument 1 a string): flagged -/
example : errs sigCell [("c/4", cellI)]
    (.call cellI (.var "inherent#Cell#Cell[int32]#put" putITy) [.var "c/4" cellI, .prim (.str "oops")])
    = ["call:argument-types|prim/prim"] := by decide +kernel
/-- the hypotheses of `wt_call_arg_type_at` on the consistent call: position 1 declares int32, no wildcard -/
example : noWildLen (.int 32 true) = true ∧ putITy = .func [cellI, .int 32 true] cellI := ⟨by decide +kernel, rfl⟩
/-- the licence is real: `array_get`'s parameter `[T; _]` accepts an array of any length -/
example : compatTy (.array Gen.arrayWildcardLen (.int 32 true)) (.array 3 (.int 32 true)) = true
    ∧ noWildLen (.array Gen.arrayWildcardLen (.int 32 true)) = false := by decide +kernel

end Goml.Wt
