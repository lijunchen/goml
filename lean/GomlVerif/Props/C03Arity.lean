import GomlVerif.Props.C03ArgTy
/-!
# C03 — the stage judgement `Wt` decides the argument COUNT of every call form

`./check C03` evaluates `Wt.errs` on every real Core / Mono / Lift / ANF dump.  These theorems say what a
dump that passes the judgement cannot contain: a call, a call of a named top-level function, a `dyn` / trait
method call or a constructor application whose number of written arguments differs from the number of
parameters of the callee annotation, of the declaration it names, of the trait method's signature
(receiver included) or of the constructor's field list.  So a typer that lets a wrong argument count
through (as `seeded/C03-dot-method-call-arity-unchecked` does) produces dumps the judgement rejects — the
check of accepted wrong-count variants in `tools/props/c03.py::arity_oracle` relies on exactly this.
-/
namespace Goml.Wt
open Goml Goml.Mono

theorem compatTys_length : ∀ (ps us : List Ty), compatTys ps us = true → ps.length = us.length
  | [], [], _ => rfl
  | [], _ :: _, h => by simp [compatTys] at h
  | _ :: _, [], h => by simp [compatTys] at h
  | _ :: ps, _ :: us, h => by
    simp only [compatTys, Bool.and_eq_true] at h
    simp [compatTys_length ps us h.2]

theorem arity_append_nil_right {α} {a b : List α} (h : a ++ b = []) : b = [] := (List.append_eq_nil_iff.1 h).2
theorem arity_append_nil_left {α} {a b : List α} (h : a ++ b = []) : a = [] := (List.append_eq_nil_iff.1 h).1

theorem arity_check_nil {b : Bool} {m : String} (h : check b m = []) : b = true := check_nil.1 h

theorem arity_checkEq_nil {a b : Ty} {k : String} (h : checkEq a b k = []) : a = b := checkEq_nil.1 h

/-- **call**: a type-consistent call has exactly as many arguments as the annotation of its callee has
parameters — whatever the callee is (function, closure, local, inherent method, builtin, apply function). -/
theorem wt_call_arg_count (S : Sig) (Γ : TyEnv) (ty : Ty) (f : Expr) (args : List Expr)
    (h : wt S Γ (.call ty f args) = true) :
    ∃ ps r, getTy f = .func ps r ∧ ps.length = args.length := by
  obtain ⟨ps, r, hf, hc, _⟩ := wt_call_arg_types S Γ ty f args h
  exact ⟨ps, r, hf, by rw [compatTys_length ps _ hc, getTys_length]⟩

/-- an instance of a function scheme is a function type with the same number of parameters -/
theorem instOf_func_length (lp : List Ty) (lr t : Ty) (h : instOf (.func lp lr) t = true) :
    ∃ rp rr, t = .func rp rr ∧ lp.length = rp.length := by
  unfold instOf at h
  cases t with
  | func rp rr =>
    refine ⟨rp, rr, rfl, ?_⟩
    unfold matchTy at h
    by_cases hl : lp.length = rp.length
    · exact hl
    · simp [hl] at h
  | _ => simp [matchTy] at h

/-- a consistent call of a name no binder captures, whose scheme is `lp → lr`, has `lp.length` arguments -/
theorem call_global_count {S : Sig} {Γ : TyEnv} {ty t : Ty} {x : String} {args : List Expr} {lp : List Ty} {lr : Ty}
    (h : wt S Γ (.call ty (.var x t) args) = true) (hΓ : lookupVar Γ x = none)
    (hs : globalScheme S x = some (.func lp lr)) : lp.length = args.length := by
  obtain ⟨hv, _, ps, r, hty, hc, _⟩ := errs_call.1 (wt_iff.1 h)
  rcases errs_var.1 hv with hb | ⟨_, sch, hsch, hi⟩
  · rw [hΓ] at hb; cases hb
  · rw [hs] at hsch
    cases hsch
    obtain ⟨rp, rr, rfl, hl⟩ := instOf_func_length _ _ _ hi
    cases hty
    rw [hl, compatTys_length _ _ hc, getTys_length]

/-- **call of a named top-level function** (not shadowed by a local binder): a type-consistent call has
exactly as many arguments as the function DECLARES parameters.  (`inherent#T#T#m(recv, …)`, trait-impl
functions and instances are such names after lowering.) -/
theorem wt_call_declared_count (S : Sig) (Γ : TyEnv) (ty t : Ty) (x : String) (args : List Expr) (fn : Fn)
    (hΓ : lookupVar Γ x = none) (hf : findCallee S.fns x = some fn)
    (h : wt S Γ (.call ty (.var x t) args) = true) :
    fn.params.length = args.length := by
  rw [← call_global_count h hΓ (lp := fn.params.map (·.2)) (lr := fn.ret) (by rw [globalScheme, hf]; rfl), List.length_map]

/-- **call of a builtin / extern function** (no local binder, no program function of that name): as many
arguments as the builtin's signature has parameters. -/
theorem wt_call_builtin_count (S : Sig) (Γ : TyEnv) (ty t : Ty) (x : String) (args : List Expr) (lp : List Ty) (lr : Ty)
    (hΓ : lookupVar Γ x = none) (hf : findCallee S.fns x = none) (hb : lookupTy S.builtins x = some (.func lp lr))
    (h : wt S Γ (.call ty (.var x t) args) = true) :
    lp.length = args.length :=
  call_global_count h hΓ (lr := lr) (by rw [globalScheme, hf]; exact hb)

/-- **dyn call** `Tr::m(d, args…)` on a trait object: the trait method's signature has receiver + `args`
parameters. -/
theorem wt_dyncall_count (S : Sig) (Γ : TyEnv) (tr m : String) (ty : Ty) (recv : Expr) (args : List Expr)
    (h : wt S Γ (.dynCall tr m ty recv args) = true) :
    ∃ ps r, methodTy S tr m (.dyn tr) = some (.func ps r) ∧ ps.length = args.length + 1 :=
  ⟨_, _, wt_dyncall_arg_types S Γ tr m ty recv args h, by simp [getTys_length]⟩

/-- **trait method call** (`x.m(args…)` / `Tr::m(x, args…)` on a bounded type parameter, Core only): the
trait method's signature at the receiver's type has receiver + `args` parameters. -/
theorem wt_traitcall_count (S : Sig) (Γ : TyEnv) (tr m : String) (ty : Ty) (recv : Expr) (args : List Expr)
    (h : wt S Γ (.traitCall tr m ty recv args) = true) :
    ∃ ps r, methodTy S tr m (getTy recv) = some (.func ps r) ∧ ps.length = args.length + 1 :=
  ⟨_, _, wt_traitcall_arg_types S Γ tr m ty recv args h, by simp [getTys_length]⟩

/-- **constructor**: as many arguments as the variant / struct has fields at that type. -/
theorem wt_constr_count (S : Sig) (Γ : TyEnv) (c : Ctor) (ty : Ty) (args : List Expr)
    (h : wt S Γ (.constr c ty args) = true) :
    ∃ fts, fieldTys S c ty = some fts ∧ fts.length = args.length :=
  ⟨_, wt_constr_arg_types S Γ c ty args h, getTys_length args⟩

/-! ## non-vacuity: dot-method calls with a wrong argument count, and their well-typed twins -/

def pTy : Ty := .struct "P"
/-- `fn inherent#P#P#m1(self: P, a0: int32) -> int32 { a0 }` -/
def m1 : Fn := { name := "inherent#P#P#m1", generics := [], params := [("self/0", pTy), ("a0/1", .int 32 true)], ret := .int 32 true,
                 body := .var "a0/1" (.int 32 true) }
def sigP : Sig := { fns := [m1], structs := [{ name := "P", generics := [], fields := [("x", .int 32 true)] }] }
def m1Ty : Ty := .func [pTy, .int 32 true] (.int 32 true)

/-- `p.m1(1)`: consistent -/
example : wt sigP [("p/7", pTy)]
    (.call (.int 32 true) (.var "inherent#P#P#m1" m1Ty) [.var "p/7" pTy, .prim (.int 32 true 1)]) = true := by decide +kernel
/-- `p.m1()` as a typer that does not check the count of a dot-method call elaborates it (callee annotated with the
    method's type, one argument): flagged -/
example : errs sigP [("p/7", pTy)]
    (.call (.int 32 true) (.var "inherent#P#P#m1" m1Ty) [.var "p/7" pTy]) = ["call:argument-types|arity"] := by decide +kernel
/-- `p.m1(1, 7)`: flagged -/
example : errs sigP [("p/7", pTy)]
    (.call (.int 32 true) (.var "inherent#P#P#m1" m1Ty) [.var "p/7" pTy, .prim (.int 32 true 1), .prim (.int 32 true 7)])
    = ["call:argument-types|arity"] := by decide +kernel
/-- even with a callee annotation that was made to fit the written arguments the declaration decides -/
example : wt sigP [("p/7", pTy)]
    (.call (.int 32 true) (.var "inherent#P#P#m1" (.func [pTy] (.int 32 true))) [.var "p/7" pTy]) = false := by decide +kernel

end Goml.Wt
