import GomlVerif.Props.Unify
import GomlVerif.Model.Solve
/-!
Theorems about the model of the constraint loop `Typer::solve` (`Model/Solve.lean`).  `Adv` says what a step does to the pass
state: its four rules are the four things an arm of `stepC` can do, and termination and the store invariant are read off it.
-/
namespace Goml.Unify
open Goml

/-- one diagnostic of the model per message of `instantiate_struct_field_ty` / `solve`, in source order
(regenerated from the source on every run) -/
theorem solve_messages_match_source : Gen.solveMessages = SDiag.own.map SDiag.message := rfl

/-! ### `inst_ty` only creates keys -/

/-- each row of `instTy` / `instTyL` returns the store of its last call (or `σ`, or `σ.fresh`), so the equations of the
calls chain along the traversal -/
theorem instTy_instTyL_same :
    (∀ σ sub t, (instTy σ sub t).1.rep = σ.rep ∧ (instTy σ sub t).1.val = σ.val) ∧
    (∀ σ sub ts, (instTyL σ sub ts).1.rep = σ.rep ∧ (instTyL σ sub ts).1.val = σ.val) := by
  apply instTy.mutual_induct_unfolding (motive_1 := fun σ _ _ r => r.1.rep = σ.rep ∧ r.1.val = σ.val)
    (motive_2 := fun σ _ _ r => r.1.rep = σ.rep ∧ r.1.val = σ.val)
  all_goals intros
  all_goals simp_all only [Store.fresh, and_self]

theorem instTy_same : ∀ (σ : Store) sub t, (instTy σ sub t).1.rep = σ.rep ∧ (instTy σ sub t).1.val = σ.val :=
  instTy_instTyL_same.1
theorem instTyL_same : ∀ (σ : Store) sub ts, (instTyL σ sub ts).1.rep = σ.rep ∧ (instTyL σ sub ts).1.val = σ.val :=
  instTy_instTyL_same.2

/-- a store with the same `find` and values is the same store for `norm` -/
theorem ext_of_same {σ σ' : Store} (h1 : σ'.rep = σ.rep) (h2 : σ'.val = σ.val) (hW : WF σ) : WF σ' ∧ Ext σ σ' := by
  have hW' : WF σ' := fun v => by rw [h1]; exact hW v
  refine ⟨hW', 0, fun f u u' h => ⟨u', ?_, ?_⟩⟩
  · rw [normF_congr h1 h2]; exact h
  · rw [normF_congr h1 h2]; exact normF_idem hW f u u' h

/-- the potential that bounds the number of passes -/
def potential (s : PassState) : Nat := weightL s.pending + (if s.changed then 1 else 0)

theorem weightL_snoc (cs : List Constraint) (c : Constraint) : weightL (cs ++ [c]) = weightL cs + weight c := by
  simp [weightL, List.map_append, List.sum_append]

/-- what a step, and so a pass, does to the pass state: diagnostics are appended, the potential grows by at
most `w`, and a well-formed store is refined to a well-formed one -/
structure Adv (s s' : PassState) (w : Nat) : Prop where
  diags : ∃ more, s'.diags = s.diags ++ more
  pot : potential s' ≤ potential s + w
  store : WF s.σ → WF s'.σ ∧ Ext s.σ s'.σ

theorem Adv.refl (s : PassState) : Adv s s 0 :=
  ⟨⟨[], (List.append_nil _).symm⟩, Nat.le_refl _, fun hW => ⟨hW, Ext.refl hW⟩⟩

theorem Adv.trans {s s1 s2 w1 w2} (h1 : Adv s s1 w1) (h2 : Adv s1 s2 w2) : Adv s s2 (w1 + w2) := by
  obtain ⟨m1, e1⟩ := h1.diags
  obtain ⟨m2, e2⟩ := h2.diags
  refine ⟨⟨m1 ++ m2, by rw [e2, e1, List.append_assoc]⟩, ?_, fun hW => ?_⟩
  · have := h1.pot; have := h2.pot; omega
  · obtain ⟨w1, x1⟩ := h1.store hW
    obtain ⟨w2, x2⟩ := h2.store w1
    exact ⟨w2, x1.trans x2⟩

/-- a diagnostic and nothing else -/
theorem Adv.diag (s : PassState) (d : SDiag) (w : Nat) : Adv s (s.diag d) w :=
  ⟨⟨_, rfl⟩, Nat.le_add_right _ _, fun hW => ⟨hW, Ext.refl hW⟩⟩

/-- the constraint goes back to the queue -/
theorem Adv.requeue (s : PassState) (c : Constraint) : Adv s { s with pending := s.pending ++ [c] } (weight c) := by
  refine ⟨⟨[], (List.append_nil _).symm⟩, ?_, fun hW => ⟨hW, Ext.refl hW⟩⟩
  simp only [potential, weightL_snoc]
  omega

/-- a call of `unify`: progress is reported only when it returned `true` -/
theorem Adv.unify {s : PassState} {f l r d σ'} (hu : unifyF f s.σ l r = some (d, σ')) :
    Adv s { s with σ := σ', diags := addDiag s.diags d, changed := s.changed || d.isNone } 1 := by
  have P := fun hW => unifyF_post f s.σ l r _ hW hu
  refine ⟨?_, ?_, fun hW => ⟨(P hW).wf, (P hW).ext⟩⟩
  · cases d with
    | none => exact ⟨[], (List.append_nil _).symm⟩
    | some d => exact ⟨[.unify d], rfl⟩
  · simp only [potential]
    cases s.changed <;> cases d <;> simp

/-- an overloaded call is resolved: its instantiated scheme is queued as an equation (weight 1) and progress
is reported (1), for the weight 2 of the call; `inst_ty` only creates keys -/
theorem Adv.inst (s : PassState) (scheme l : Ty) :
    Adv s { s with σ := (instTy s.σ [] scheme).1, pending := s.pending ++ [.eq l (instTy s.σ [] scheme).2.2],
                   changed := true } 2 := by
  have hs := instTy_same s.σ [] scheme
  refine ⟨⟨[], (List.append_nil _).symm⟩, ?_, fun hW => ext_of_same hs.1 hs.2 hW⟩
  simp only [potential, weightL_snoc, weight]
  cases s.changed <;> simp <;> omega

theorem stepC_adv {E f s c s'} (h : stepC E f s c = some s') : Adv s s' (weight c) := by
  cases c with
  | eq l r =>
    simp only [stepC] at h
    cases hu : unifyF f s.σ l r with
    | none => simp [hu] at h
    | some res => obtain ⟨d, σ'⟩ := res; simp [hu] at h; subst h; exact .unify hu
  | ovl op tr t =>
    simp only [stepC] at h
    split at h
    · cases h  -- out of fuel
    · split at h
      · -- `self` is concrete: by the number of instances
        split at h
        · cases h; exact .inst s _ _  -- one
        · cases h; exact .diag s _ _  -- none
        · cases h; exact .diag s _ _  -- several
      · split at h
        · cases h; exact .requeue s _  -- `self` is a variable
        · cases h; exact .diag s _ _
    · cases h; exact .diag s _ _  -- no argument
    · cases h; exact .diag s _ _  -- not a function
  | field e fld res =>
    simp only [stepC] at h
    split at h
    · cases h  -- out of fuel
    · split at h
      · split at h
        · cases h; exact .diag s _ _  -- no such struct
        · split at h
          · cases h; exact .diag s _ _  -- `instantiateField` failed
          · rename_i fty _
            cases hu : unifyF f s.σ res fty with
            | none => simp [hu] at h
            | some r2 => obtain ⟨d, σ'⟩ := r2; simp [hu] at h; subst h; exact .unify hu
      · cases h; exact .requeue s (.field _ fld res)  -- not a struct type yet

theorem passC_adv {E f} : ∀ cs s s', passC E f s cs = some s' → Adv s s' (weightL cs)
  | [], s, s', h => by simp [passC] at h; subst h; exact .refl s
  | c :: cs, s, s', h => by
    simp only [passC] at h
    cases h1 : stepC E f s c with
    | none => simp [h1] at h
    | some s1 =>
      simp [h1] at h
      exact (stepC_adv h1).trans (passC_adv cs s1 s' h)

theorem stepC_post {E f s c s'} (hW : WF s.σ) (h : stepC E f s c = some s') :
    WF s'.σ ∧ Ext s.σ s'.σ ∧ potential s' ≤ potential s + weight c :=
  have A := stepC_adv h
  ⟨(A.store hW).1, (A.store hW).2, A.pot⟩

theorem passC_post {E f} : ∀ cs s s', WF s.σ → passC E f s cs = some s' →
    WF s'.σ ∧ Ext s.σ s'.σ ∧ potential s' ≤ potential s + weightL cs :=
  fun cs s s' hW h => have A := passC_adv cs s s' h; ⟨(A.store hW).1, (A.store hW).2, A.pot⟩

/-- diagnostics are only ever appended -/
theorem stepC_diags {E f s c s'} (h : stepC E f s c = some s') : ∃ more, s'.diags = s.diags ++ more :=
  (stepC_adv h).diags

theorem passC_diags {E f} : ∀ cs s s', passC E f s cs = some s' → ∃ more, s'.diags = s.diags ++ more :=
  fun cs s s' h => (passC_adv cs s s' h).diags

/-- **The `while changed` loop of `solve` ends**: with more rounds than the weight of the queue
(an equality or field constraint weighs 1, an overloaded-call constraint 2) the loop never runs out
of rounds — every pass that reports progress strictly decreases the weight of what it re-queues. -/
theorem solveLoop_rounds {E f} : ∀ R σ ds cs, weightL cs < R → solveLoop E f R σ ds cs ≠ .noRounds
  | 0, _, _, _, h => by omega
  | R+1, σ, ds, cs, h => by
    simp only [solveLoop]
    cases hp : passC E f { σ := σ, diags := ds, pending := [], changed := false } cs with
    | none => simp
    | some s =>
      simp only
      split
      · rename_i hc
        -- progress: the re-queued constraints weigh less
        apply solveLoop_rounds R
        have := (passC_adv cs _ s hp).pot
        rw [show potential { σ := σ, diags := ds, pending := [], changed := false } = 0 from rfl] at this
        simp only [potential, hc, if_true] at this
        omega
      · split <;> simp

/-- `solve` (which gives the loop `weight + 1` rounds) never stops for lack of rounds -/
theorem solve_terminates (E f σ cs) : solve E f σ cs ≠ .noRounds :=
  solveLoop_rounds _ _ _ _ (Nat.lt_succ_self _)

/-- the loop appends diagnostics and refines a well-formed store -/
theorem solveLoop_done {E f} : ∀ R σ ds cs σ' ds' rest, solveLoop E f R σ ds cs = .done σ' ds' rest →
    (∃ more, ds' = ds ++ more) ∧ (WF σ → WF σ' ∧ Ext σ σ')
  | 0, _, _, _, _, _, _, h => by simp [solveLoop] at h
  | R+1, σ, ds, cs, σ', ds', rest, h => by
    simp only [solveLoop] at h
    cases hp : passC E f { σ := σ, diags := ds, pending := [], changed := false } cs with
    | none => simp [hp] at h
    | some s =>
      have A := passC_adv cs _ s hp
      obtain ⟨m1, e1⟩ := A.diags
      simp only [hp] at h
      split at h
      · obtain ⟨⟨m2, e2⟩, x2⟩ := solveLoop_done R _ _ _ _ _ _ h
        refine ⟨⟨m1 ++ m2, by rw [e2, e1, List.append_assoc]⟩, fun hW => ?_⟩
        obtain ⟨w1, x1⟩ := A.store hW
        exact ⟨(x2 w1).1, x1.trans (x2 w1).2⟩
      · split at h
        · cases h; exact ⟨⟨m1, e1⟩, A.store⟩
        · cases h; exact ⟨⟨m1 ++ [.unsolved, .inferenceFailed], by rw [e1, List.append_assoc]⟩, A.store⟩

theorem solveLoop_post {E f} : ∀ R σ ds cs σ' ds' rest, WF σ → solveLoop E f R σ ds cs = .done σ' ds' rest →
    WF σ' ∧ Ext σ σ' :=
  fun R σ ds cs σ' ds' rest hW h => (solveLoop_done R σ ds cs σ' ds' rest h).2 hW

/-- **`solve` keeps the store acyclic and only refines it** — whatever mixture of equality,
overloaded-call and field constraints is queued, whatever the environment says, and whether or not
diagnostics are pushed.  (So the types the later phases normalise — also of rejected programs — have
finite normal forms: `norm_total`.) -/
theorem solve_acyclic {E f σ cs σ' ds rest} (hW : WF σ) (hA : Acyclic σ) (h : solve E f σ cs = .done σ' ds rest) :
    Acyclic σ' ∧ WF σ' ∧ ∀ t t', NF σ t t' → ∃ y, NF σ' t y ∧ NF σ' t' y := by
  obtain ⟨w, e⟩ := solveLoop_post _ _ _ _ _ _ _ hW h
  exact ⟨hA.of_ext e, w, fun t t' ht => e.nf ht⟩

/-! ### what a run without diagnostics guarantees -/

theorem solveLoop_diags {E f} : ∀ R σ ds cs σ' ds' rest, solveLoop E f R σ ds cs = .done σ' ds' rest →
    ∃ more, ds' = ds ++ more :=
  fun R σ ds cs σ' ds' rest h => (solveLoop_done R σ ds cs σ' ds' rest h).1

/-- in a pass that ends without diagnostics every equality constraint of the queue holds afterwards -/
theorem passC_eqs {E f} : ∀ cs s s', WF s.σ → passC E f s cs = some s' → s'.diags = [] →
    ∀ l r, Constraint.eq l r ∈ cs → Eqv s'.σ l r
  | [], _, _, _, _, _, _, _, hm => by cases hm
  | c :: cs, s, s', hW, h, hd, l, r, hm => by
    simp only [passC] at h
    cases h1 : stepC E f s c with
    | none => simp [h1] at h
    | some s1 =>
      simp [h1] at h
      have hW1 := ((stepC_adv h1).store hW).1
      obtain ⟨m2, e2⟩ := passC_diags cs s1 s' h
      have hd1 : s1.diags = [] := by
        rw [hd] at e2; exact (List.append_eq_nil_iff.1 e2.symm).1
      rcases List.mem_cons.1 hm with hc | hm
      · subst hc
        simp only [stepC] at h1
        cases hu : unifyF f s.σ l r with
        | none => simp [hu] at h1
        | some res =>
          obtain ⟨d, σ1⟩ := res
          simp [hu] at h1; subst h1
          have P := unifyF_post f s.σ l r _ hW hu
          have hdn : d = none := by
            cases d with
            | none => rfl
            | some d => simp [addDiag] at hd1
          exact (P.eqv hdn).transport ((passC_adv cs _ s' h).store hW1).2
      · exact passC_eqs cs s1 s' hW1 h hd l r hm

/-- **If `solve` returns without a diagnostic, every equality constraint that was queued holds in the
final store** (the two sides have agreeing normal forms).  The constraints `solve` generates itself
(the instantiated impl type of a resolved overloaded call) are equality constraints of a later pass
and hold for the same reason. -/
theorem solve_eq_sound {E f σ cs σ' rest} (hW : WF σ) (h : solve E f σ cs = .done σ' [] rest) :
    ∀ l r, Constraint.eq l r ∈ cs → ∃ x y, NF σ' l x ∧ NF σ' r y ∧ agree x y = true := by
  intro l r hm
  unfold solve at h
  simp only [solveLoop] at h
  cases hp : passC E f { σ := σ, diags := [], pending := [], changed := false } cs with
  | none => simp [hp] at h
  | some s =>
    have hWs := ((passC_adv cs _ s hp).store hW).1
    simp only [hp] at h
    have fin : s.diags = [] ∧ Ext s.σ σ' := by
      split at h
      · obtain ⟨m, e⟩ := solveLoop_diags _ _ _ _ _ _ _ h
        exact ⟨(List.append_eq_nil_iff.1 e.symm).1, (solveLoop_post _ _ _ _ _ _ _ hWs h).2⟩
      · split at h
        · injection h with h1 h2 h3; subst h1; exact ⟨h2, Ext.refl hWs⟩
        · injection h with h1 h2 h3
          exact absurd h2 (by simp)
    exact ((passC_eqs cs _ s hW hp fin.1 l r hm).transport fin.2).nf

/-! ### non-vacuity -/
section Examples

def envX : Env :=
  { structs := [{ name := "Bx", generics := ["T"], fields := [("v", .param "T"), ("n", .int 32 true)] }],
    impls := [("Show", .int 32 true, "show", .func [.int 32 true] .string),
              ("Gen", .string, "pick", .func [.string, .param "T"] (.tuple [.param "T", .param "U"]))] }

def diagsOf : SolveRes → Option (List String × Nat)
  | .done σ ds rest => some (ds.map SDiag.name, rest.length + 100 * σ.n)
  | _ => none

/-- three passes: the overloaded call on `?1` is deferred until the field constraint AFTER it in the
queue has given `?1 := int32`; its impl is then instantiated and the generated equation binds `?2` -/
example : diagsOf (solve envX 9 s3
    [.ovl "show" "Show" (.func [.tvar 1] (.tvar 2)), .field (.app (.struct "Bx") [.int 32 true]) "v" (.tvar 1)])
    = some ([], 300) := by decide +kernel

/-- `inst_ty` creates two keys for `T`, `U`; nothing unblocks the second constraint: both final diagnostics -/
example : diagsOf (solve envX 9 s3
    [.ovl "pick" "Gen" (.func [.string, .bool] (.tvar 0)), .ovl "show" "Show" (.func [.tvar 1] .string)])
    = some (["unsolved", "inference-failed"], 501) := by decide +kernel

/-- the diagnostics of the field arm -/
example : diagsOf (solve envX 9 s3
    [.field (.struct "Nope") "v" (.tvar 0), .field (.struct "Bx") "v" (.tvar 0),
     .field (.app (.struct "Bx") [.bool]) "w" (.tvar 0), .field (.app (.struct "Bx") [.bool]) "n" .bool])
    = some (["struct-not-found", "struct-arity", "no-field", "not-equal"], 300) := by decide +kernel

end Examples

end Goml.Unify
