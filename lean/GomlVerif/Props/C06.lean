import GomlVerif.Lemmas.C06Aux
import GomlVerif.Lemmas.C06Leaves
import Std.Data.String.ToNat
import GomlVerif.Lemmas.ListFacts
/-!
# C06 — pattern matching picks the first matching arm and binds the right sub-values

Model: `Model/Match.lean` (`compileRows` = `compile_match.rs::compile_rows`, tied to the Rust on every
run by `gomlmodel c06`).  Meaning of the source patterns: `firstMatch` / `matchPat`.  Meaning of the
decision tree: `DT.eval`, embedded into `Sem.eval` by `toExpr_sem`.

The theorems quantify over ALL pattern matrices the compiler accepts (wildcards, variables, unit /
bool / integer / string literals, tuples, structs, enum constructors incl. generic enums, nested to
any depth), all arm bodies (`β` is a type parameter) and all scrutinee values of the right shape.
No pattern form is excluded; what is assumed is stated as hypotheses:

* `hinj`   the gensym never returns the same name twice (`x{n}`);
* `hfresh` names the gensym can still return are not variables the matrix tests
           (C19's "no source entity is spelled like a temporary");
* `hconf`  every tested variable holds a value of the shape its patterns assume (a value of the
           scrutinee's type; `conf` is decidable and evaluated on every generated value by the driver);
* `hleaves` no pattern variable is spelled like a column variable (`leavesOK`, decidable on the
           output, evaluated on every real tree by the driver).
-/
namespace Goml.Match
open Goml Goml.Sem

variable {β : Type}

/-- **Main theorem.**  Whenever `compile_rows` produces a tree (no panic, no diagnostic), running
    the tree on ANY environment of the right shape reaches exactly the body of the first row all of
    whose patterns match, in the environment extended by generated temporaries and by exactly that
    row's bindings; if no row matches it reaches the `missing` failure. -/
theorem compileRows_correct (S : Sig) (hinj : ∀ i j, S.gen i = S.gen j → i = j)
    (fuel : Nat) (ty : Ty) (n : Nat) (rows : List (Row β)) (t : DT β) (n' : Nat)
    (hc : compileRows S fuel ty n rows = some (.ok (t, n')))
    (hleaves : leavesOK t = true) (ρ : Env)
    (hfresh : ∀ r ∈ rows, RowFresh S.gen n r) (hconf : ∀ r ∈ rows, RowConf S ρ r) :
    match firstMatch ρ rows with
    | none => t.eval ρ = .missing
    | some (b, σ) => ∃ σ' τ, t.eval ρ = .body b (σ' ++ τ ++ ρ) ∧ (∀ x, x ∈ σ' ↔ x ∈ σ) ∧
        (∀ p ∈ τ, ∃ j, n ≤ j ∧ j < n' ∧ p.1 = S.gen j) :=
  (compileRows_good S hinj fuel ty n rows t n' hc).2 hleaves ρ (fun r hr => ⟨hfresh r hr, hconf r hr⟩)

/-- the counter never goes back (`hinj` is the hypothesis of `compileRows_good`, of which this is the first component) -/
theorem compileRows_counter (S : Sig) (hinj : ∀ i j, S.gen i = S.gen j → i = j)
    (fuel : Nat) (ty : Ty) (n : Nat) (rows : List (Row β)) (t : DT β) (n' : Nat)
    (hc : compileRows S fuel ty n rows = some (.ok (t, n'))) : n ≤ n' :=
  (compileRows_good S hinj fuel ty n rows t n' hc).1

/-- what `firstMatch` returns: the first row (in source order) that matches -/
theorem firstMatch_spec (ρ : Env) : ∀ (rows : List (Row β)) (b : β) (σ : List (String × Val)),
    firstMatch ρ rows = some (b, σ) →
    ∃ i r, rows[i]? = some r ∧ r.body = b ∧ rowMatch ρ r = some σ ∧
      ∀ (j : Nat) (r' : Row β), j < i → rows[j]? = some r' → rowMatch ρ r' = none := by
  intro rows
  induction rows with
  | nil => intro b σ h; simp [firstMatch] at h
  | cons r rs ih =>
    intro b σ h
    simp only [firstMatch] at h
    split at h
    · rename_i σ0 h0
      cases h
      exact ⟨0, r, rfl, rfl, h0, fun j r' hj _ => absurd hj (Nat.not_lt_zero _)⟩
    · rename_i h0
      obtain ⟨i, r1, h1, h2, h3, h4⟩ := ih b σ h
      refine ⟨i + 1, r1, by simpa using h1, h2, h3, ?_⟩
      intro j r' hj hr'
      cases j with
      | zero => simp only [List.getElem?_cons_zero, Option.some.injEq] at hr'; rw [← hr']; exact h0
      | succ j => exact h4 j r' (by omega) (by simpa using hr')

/-- **No other arm runs**: the one body the tree reaches belongs to a row that matches, and no
    earlier row matches.  (`DT.eval` is a function: exactly one leaf is reached.) -/
theorem no_other_arm_runs (S : Sig) (hinj : ∀ i j, S.gen i = S.gen j → i = j)
    (fuel : Nat) (ty : Ty) (n : Nat) (rows : List (Row β)) (t : DT β) (n' : Nat)
    (hc : compileRows S fuel ty n rows = some (.ok (t, n')))
    (hleaves : leavesOK t = true) (ρ : Env)
    (hfresh : ∀ r ∈ rows, RowFresh S.gen n r) (hconf : ∀ r ∈ rows, RowConf S ρ r)
    (b : β) (ρ₂ : Env) (he : t.eval ρ = .body b ρ₂) :
    ∃ i r, rows[i]? = some r ∧ r.body = b ∧ (rowMatch ρ r).isSome = true ∧
      ∀ (j : Nat) (r' : Row β), j < i → rows[j]? = some r' → rowMatch ρ r' = none := by
  have h := compileRows_correct S hinj fuel ty n rows t n' hc hleaves ρ hfresh hconf
  cases hf : firstMatch ρ rows with
  | none => rw [hf] at h; simp only at h; rw [h] at he; cases he
  | some x =>
    obtain ⟨b', σ⟩ := x
    rw [hf] at h
    obtain ⟨σ', τ, e, _, _⟩ := h
    rw [e] at he
    cases he
    obtain ⟨i, r, h1, h2, h3, h4⟩ := firstMatch_spec ρ rows _ σ hf
    exact ⟨i, r, h1, h2, by simp [h3], h4⟩

/-- **No match ⇒ fails at that point**: if no row matches, the tree reaches `missing`
    (the call to the runtime's `missing`, which panics), never a body. -/
theorem no_match_fails (S : Sig) (hinj : ∀ i j, S.gen i = S.gen j → i = j)
    (fuel : Nat) (ty : Ty) (n : Nat) (rows : List (Row β)) (t : DT β) (n' : Nat)
    (hc : compileRows S fuel ty n rows = some (.ok (t, n')))
    (hleaves : leavesOK t = true) (ρ : Env)
    (hfresh : ∀ r ∈ rows, RowFresh S.gen n r) (hconf : ∀ r ∈ rows, RowConf S ρ r)
    (hnone : ∀ r ∈ rows, rowMatch ρ r = none) : t.eval ρ = .missing := by
  have h := compileRows_correct S hinj fuel ty n rows t n' hc hleaves ρ hfresh hconf
  rw [firstMatch_none hnone] at h
  exact h

/-- **Bindings are right**: in the environment the selected body runs in, every pattern variable of
    the selected row is bound to the corresponding component of the scrutinee (`σ` is computed by
    `matchPat` from the source pattern and the value), and every other name that is not a generated
    temporary means what it meant before the match. -/
theorem bindings_correct (S : Sig) (hinj : ∀ i j, S.gen i = S.gen j → i = j)
    (fuel : Nat) (ty : Ty) (n : Nat) (rows : List (Row β)) (t : DT β) (n' : Nat)
    (hc : compileRows S fuel ty n rows = some (.ok (t, n')))
    (hleaves : leavesOK t = true) (ρ : Env)
    (hfresh : ∀ r ∈ rows, RowFresh S.gen n r) (hconf : ∀ r ∈ rows, RowConf S ρ r)
    (b : β) (σ : List (String × Val)) (hfm : firstMatch ρ rows = some (b, σ))
    (hnd : (σ.map (·.1)).Nodup) :
    ∃ ρ₂, t.eval ρ = .body b ρ₂ ∧ (∀ a v, (a, v) ∈ σ → lookupEnv ρ₂ a = some v) ∧
      (∀ y, y ∉ σ.map (·.1) → (∀ j, n ≤ j → j < n' → y ≠ S.gen j) → lookupEnv ρ₂ y = lookupEnv ρ y) := by
  have h := compileRows_correct S hinj fuel ty n rows t n' hc hleaves ρ hfresh hconf
  rw [hfm] at h
  obtain ⟨σ', τ, e, hσ, hτ⟩ := h
  refine ⟨_, e, ?_, ?_⟩
  · intro a v hav
    obtain ⟨v', h1, h2⟩ := lookupEnv_append_of_mem σ' (τ ++ ρ) a ⟨v, (hσ _).mpr hav⟩
    rw [List.append_assoc, h2, (Prod.mk.inj (eq_of_key_eq (key := fun p : String × Val => p.1) hnd hav ((hσ _).mp h1) rfl)).2]
  · intro y hy hgen
    rw [List.append_assoc, lookupEnv_append_notin, lookupEnv_append_notin]
    · intro p hp heq
      obtain ⟨j, h1, h2, h3⟩ := hτ p hp
      exact hgen j h1 h2 (heq.symm.trans h3)
    · intro p hp heq
      apply hy
      have := (hσ p).mp hp
      rw [← heq]
      exact List.mem_map_of_mem (f := (·.1)) this

/-- **`compile_rows` terminates**: with fuel above the pattern-size measure the model never runs
    out of fuel — every sub-matrix handed to a recursive call is strictly smaller (`plan_measure`:
    the branch variable is taken from row 0, whose tested pattern loses its head constructor or
    the row is dropped). -/
theorem compileRows_total (S : Sig) : ∀ (fuel : Nat) (ty : Ty) (n : Nat) (rows : List (Row β)),
    measure rows < fuel → compileRows S fuel ty n rows ≠ none := by
  intro fuel
  induction fuel with
  | zero => intro ty n rows h; omega
  | succ fuel ih =>
    intro ty n rows h
    have hm := measure_map_moveVars rows
    simp only [compileRows]
    split
    · simp
    · rename_i r0 rest heq
      rw [heq] at hm
      split
      · simp
      · split
        · simp
        · rename_i bvt hbvt
          obtain ⟨bv, bty⟩ := bvt
          obtain ⟨hb1, _⟩ := branchVar_spec hbvt
          split
          · simp
          · rename_i pl hpl
            have hlt := plan_measure S hpl hb1
            have := compileSeq_ne_none (rec := compileRows S fuel pl.subTy) pl.subs pl.n1
              (fun sub hsub m => ih pl.subTy m sub (by have := hlt sub hsub; omega))
            split
            · rename_i e; exact absurd e this
            · simp
            · simp

/-- **A literal-int match without catch-all is rejected**: when the branch variable is an integer
    and every row tests it against a literal (no row is a catch-all for it), `compile_rows` reports
    the non-exhaustive diagnostic instead of producing a tree. -/
theorem int_nonexhaustive_rejected (S : Sig) (fuel : Nat) (ty : Ty) (n : Nat) (rows : List (Row β))
    (r0 : Row β) (rest : List (Row β)) (hmv : rows.map moveVars = r0 :: rest)
    (hne : r0.cols.isEmpty = false) (bv : String) (b : Nat) (s : Bool)
    (hbv : branchVar (r0 :: rest) = some (bv, .int b s))
    (hall : ∀ r ∈ r0 :: rest, ∃ p t cs, removeCol bv r.cols = some (.prim p t, cs) ∧ isIntP b s p = true) :
    compileRows S (fuel + 1) ty n rows = some (.error (.nonExhaustiveInt (.int b s))) := by
  obtain ⟨keys, hk⟩ := litKeys_ok_of_all (r0 :: rest) hall
  have hd := specDflt_all_drop (r0 :: rest) hall
  simp only [compileRows, hmv, hne, Bool.false_eq_true, if_false, hbv, plan, kindOf, hk, hd]

/-- **Scrutinee once**: a `match` on a non-variable scrutinee compiles to `let mtmp = e in tree`, so `e` is
    evaluated once and the tree's expression runs with its value bound to the temporary.  (That the tree's expression
    only looks variables up is `toExpr_sem`, not this statement.) -/
theorem scrutinee_once (S : Sig) (fuel : Nat) (ty : Ty) (mtmp : String) (n : Nat) (e : Expr)
    (arms : List (ArmIn Expr)) (out : Expr) (n' : Nat)
    (h : compileMatch S fuel ty mtmp n (.other e) arms = some (.ok (out, n'))) :
    ∃ t, compileRows S fuel ty n (makeRows mtmp arms) = some (.ok (t, n')) ∧ out = .letE mtmp e t.toExpr ∧
      ∀ f P ρ w, Sem.eval (f + 1) P ρ w out =
        bindR (Sem.eval f P ρ w e) (fun v w' => Sem.eval f P ((mtmp, v) :: ρ) w' t.toExpr) := by
  simp only [compileMatch] at h
  split at h
  · cases h
  · cases h
  · rename_i r hr
    cases h
    exact ⟨r.1, hr, rfl, fun f P ρ w => eval_letE f P ρ w mtmp e r.1.toExpr⟩

/-- a `match` on a variable introduces no temporary at all -/
theorem scrutinee_var (S : Sig) (fuel : Nat) (ty : Ty) (mtmp : String) (n : Nat) (x : String)
    (arms : List (ArmIn Expr)) (out : Expr) (n' : Nat)
    (h : compileMatch S fuel ty mtmp n (.var x) arms = some (.ok (out, n'))) :
    ∃ t, compileRows S fuel ty n (makeRows x arms) = some (.ok (t, n')) ∧ out = t.toExpr := by
  simp only [compileMatch] at h
  split at h
  · cases h
  · cases h
  · rename_i r hr
    cases h
    exact ⟨r.1, hr, rfl⟩

/-- **Main theorem against `Sem`**: the Core expression built for the matrix, run by `Sem.eval`, is
    the body of the first matching row run by `Sem.eval` in the environment extended with that
    row's bindings (with the fuel that is left: `DT.cost` is the length of the path through the
    tree); when no row matches it is the `missing` panic.  `hP`/`hρ`/`hm`: nothing the program
    defines or binds is called `missing` (the runtime function the compiler calls). -/
theorem compileRows_correct_sem (S : Sig) (hinj : ∀ i j, S.gen i = S.gen j → i = j)
    (fuel : Nat) (ty : Ty) (n : Nat) (rows : List (Row Expr)) (t : DT Expr) (n' : Nat)
    (hc : compileRows S fuel ty n rows = some (.ok (t, n')))
    (hleaves : leavesOK t = true) (ρ : Env)
    (hfresh : ∀ r ∈ rows, RowFresh S.gen n r) (hconf : ∀ r ∈ rows, RowConf S ρ r)
    (P : Prog) (hP : P.findFn "missing" = none) (hm : t.noBind "missing" = true)
    (hρ : lookupEnv ρ "missing" = none) (w : World) (f : Nat) (hf : 2 ≤ f) :
    match firstMatch ρ rows with
    | none => Sem.eval (f + t.cost ρ) P ρ w t.toExpr = .fail (.panic "missing") w
    | some (b, σ) => ∃ σ' τ,
        Sem.eval (f + t.cost ρ) P ρ w t.toExpr = Sem.eval f P (σ' ++ τ ++ ρ) w b ∧
        (∀ x, x ∈ σ' ↔ x ∈ σ) ∧ (∀ p ∈ τ, ∃ j, n ≤ j ∧ j < n' ∧ p.1 = S.gen j) := by
  have h := compileRows_correct S hinj fuel ty n rows t n' hc hleaves ρ hfresh hconf
  have hs := toExpr_sem P hP w t ρ f hf hm hρ
  cases hfm : firstMatch ρ rows with
  | none =>
    rw [hfm] at h
    simp only at h ⊢
    rw [hs, h]; rfl
  | some x =>
    obtain ⟨b, σ⟩ := x
    rw [hfm] at h
    obtain ⟨σ', τ, e, h1, h2⟩ := h
    exact ⟨σ', τ, by rw [hs, e]; rfl, h1, h2⟩

theorem realGen_toList (j : Nat) : (realGen j).toList = 'x' :: (Nat.repr j).toList := by
  simp [realGen, String.toList_append, toString]

/-- `x{n}` never repeats (discharges `hinj` for the compiler's gensym) -/
theorem realGen_injective : ∀ i j, realGen i = realGen j → i = j := by
  intro i j h
  have := congrArg String.toList h
  rw [realGen_toList, realGen_toList, List.cons.injEq] at this
  exact Nat.repr_injective (String.toList_inj.mp this.2)

/-- a name that does not start with `x` is never generated (discharges `hfresh` for source locals,
    which are spelled `hint/index`, and for `mtmp{n}`) -/
theorem realGen_ne (j : Nat) (y : String) (c : Char) (s : List Char) (hy : y.toList = c :: s)
    (hc : c ≠ 'x') : realGen j ≠ y := by
  intro h
  have hs := realGen_toList j
  rw [h, hy] at hs
  simp only [List.cons.injEq] at hs
  exact hc hs.1

/-! ## the output-side hypotheses follow from the input -/

/-- **`leavesOK` is a property of the input**: if a predicate `CV` holds of every variable the
    matrix tests and of every generated name, and of no pattern variable (source locals are
    `hint/index`, temporaries `x{n}` / `mtmp{n}`), no leaf of the tree rebinds a column variable. -/
theorem compileRows_leavesOK (S : Sig) (CV : String → Prop) (hgen : ∀ j, CV (S.gen j))
    (fuel : Nat) (ty : Ty) (n : Nat) (rows : List (Row β)) (t : DT β) (n' : Nat)
    (hc : compileRows S fuel ty n rows = some (.ok (t, n'))) (hsep : ∀ r ∈ rows, RowSep CV r) :
    leavesOK t = true :=
  compileRows_all S (R := RowSep CV) leavesOK_closed (fun _ => trivial) (fun _ => moveVars_sep)
    (fun hf => hf.sep hgen) (fun _ h => bindsOK_of_sep _ h.2) fuel ty n rows t n' hc hsep

/-- the main theorem with hypotheses on the input only -/
theorem compileRows_correct_input (S : Sig) (hinj : ∀ i j, S.gen i = S.gen j → i = j)
    (CV : String → Prop) (hgen : ∀ j, CV (S.gen j))
    (fuel : Nat) (ty : Ty) (n : Nat) (rows : List (Row β)) (t : DT β) (n' : Nat)
    (hc : compileRows S fuel ty n rows = some (.ok (t, n'))) (ρ : Env)
    (hsep : ∀ r ∈ rows, RowSep CV r)
    (hfresh : ∀ r ∈ rows, RowFresh S.gen n r) (hconf : ∀ r ∈ rows, RowConf S ρ r) :
    match firstMatch ρ rows with
    | none => t.eval ρ = .missing
    | some (b, σ) => ∃ σ' τ, t.eval ρ = .body b (σ' ++ τ ++ ρ) ∧ (∀ x, x ∈ σ' ↔ x ∈ σ) ∧
        (∀ p ∈ τ, ∃ j, n ≤ j ∧ j < n' ∧ p.1 = S.gen j) :=
  compileRows_correct S hinj fuel ty n rows t n' hc
    (compileRows_leavesOK S CV hgen fuel ty n rows t n' hc hsep) ρ hfresh hconf

/-- the tree binds only generated names: it never shadows the runtime function `missing` -/
theorem compileRows_noBind_missing (S : Sig) (hy : ∀ j, S.gen j ≠ "missing")
    (fuel : Nat) (ty : Ty) (n : Nat) (rows : List (Row Expr)) (t : DT Expr) (n' : Nat)
    (hc : compileRows S fuel ty n rows = some (.ok (t, n'))) : t.noBind "missing" = true :=
  compileRows_noBind S "missing" hy fuel ty n rows t n' hc

theorem realGen_ne_missing (j : Nat) : realGen j ≠ "missing" :=
  realGen_ne j "missing" 'm' _ rfl (by decide)

/-! ## the statement for the compiler's own names -/

/-- source locals are spelled `hint/index` (hir), so they contain a `/` -/
def srcName (y : String) : Prop := '/' ∈ y.toList

/-- a name containing `/` is never generated: `x{n}` is `x` followed by decimal digits -/
theorem realGen_ne_src (j : Nat) (y : String) (hy : srcName y) : realGen j ≠ y := by
  intro h
  have hs := realGen_toList j
  rw [h] at hs
  unfold srcName at hy
  rw [hs] at hy
  rcases List.mem_cons.mp hy with h1 | h1
  · exact absurd h1 (by decide)
  · have := (String.isNat_iff.mp (Nat.isNat_repr j)).2.1 '/' h1
    rcases this with h2 | h2
    · exact absurd h2 (by decide)
    · exact absurd h2 (by decide)

/-- **C06 for a `match x { arms }` as the compiler sees it**: gensym `x{n}`, pattern variables
    spelled `hint/index`, scrutinee variable `x` a source local or `mtmp{n}`.  Every hypothesis is
    about the source program; the conclusion is first-match with the right bindings. -/
theorem match_correct_real (enums : List EnumDef) (structs : List StructDef) (x : String)
    (hx : srcName x ∨ ∃ c s, x.toList = c :: s ∧ c ≠ 'x') (arms : List (ArmIn β))
    (hnames : ∀ a ∈ arms, ∀ y ∈ a.pat.names, srcName y ∧ y ≠ x)
    (fuel : Nat) (ty : Ty) (n : Nat) (t : DT β) (n' : Nat)
    (hc : compileRows ⟨enums, structs, realGen⟩ fuel ty n (makeRows x arms) = some (.ok (t, n')))
    (ρ : Env) (hconf : ∀ a ∈ arms, conf ⟨enums, structs, realGen⟩ a.pat (lookupVar ρ x) = true) :
    match firstMatch ρ (makeRows x arms) with
    | none => t.eval ρ = .missing
    | some (b, σ) => ∃ σ' τ, t.eval ρ = .body b (σ' ++ τ ++ ρ) ∧ (∀ p, p ∈ σ' ↔ p ∈ σ) ∧
        (∀ p ∈ τ, ∃ j, n ≤ j ∧ j < n' ∧ p.1 = realGen j) := by
  have hxg : ∀ j, realGen j ≠ x := by
    intro j
    rcases hx with h | ⟨c, s, h1, h2⟩
    · exact realGen_ne_src j x h
    · exact realGen_ne j x c s h1 h2
  have hrows : ∀ r ∈ makeRows x arms, ∃ a ∈ arms, r = ⟨[(x, a.pat)], [], a.body, a.bodyTy⟩ := by
    intro r hr
    simp only [makeRows, List.mem_map] at hr
    obtain ⟨a, ha, rfl⟩ := hr
    exact ⟨a, ha, rfl⟩
  apply compileRows_correct_input ⟨enums, structs, realGen⟩ realGen_injective
    (fun y => y = x ∨ ∃ j, y = realGen j) (fun j => Or.inr ⟨j, rfl⟩) fuel ty n _ t n' hc ρ
  · intro r hr
    obtain ⟨a, ha, rfl⟩ := hrows r hr
    refine ⟨?_, fun b hb => by cases hb⟩
    intro c hc'
    obtain rfl := List.mem_singleton.mp hc'
    refine ⟨Or.inl rfl, ?_⟩
    intro y hy hcv
    obtain ⟨h1, h2⟩ := hnames a ha y hy
    rcases hcv with h | ⟨j, h⟩
    · exact h2 h
    · exact realGen_ne_src j y h1 h.symm
  · intro r hr
    obtain ⟨a, ha, rfl⟩ := hrows r hr
    refine ⟨?_, fun b hb => by cases hb⟩
    intro c hc' j _
    obtain rfl := List.mem_singleton.mp hc'
    exact hxg j
  · intro r hr
    obtain ⟨a, ha, rfl⟩ := hrows r hr
    intro c hc'
    obtain rfl := List.mem_singleton.mp hc'
    exact hconf a ha

/-! ## non-vacuity: matrices of corpus programs 007 and 051 -/

section Examples

def tyE : Ty := .enum "Expr"
def sig007 : Sig :=
  { enums := [{ name := "Expr", generics := [],
                variants := [("Zero", []), ("Succ", [tyE]), ("Add", [tyE, tyE]), ("Mul", [tyE, tyE])] }],
    structs := [], gen := realGen }
def zeroP : Pat := .constr (.enum "Expr" "Zero" 0) [] tyE
def succP (p : Pat) : Pat := .constr (.enum "Expr" "Succ" 1) [p] tyE
def addP (p q : Pat) : Pat := .constr (.enum "Expr" "Add" 2) [p, q] tyE
def mulP (p q : Pat) : Pat := .constr (.enum "Expr" "Mul" 3) [p, q] tyE
def pv (x : String) : Pat := .var x tyE
/-- the seven arms of `007_expr_pattern_matching`; the body of arm `i` is `i` -/
def arms007 : List (ArmIn Nat) :=
  [addP zeroP zeroP, mulP zeroP (pv "x/1"), addP (succP (pv "x/2")) (pv "y/3"), mulP (pv "x/4") zeroP,
   mulP (addP (pv "x/5") (pv "y/6")) (pv "z/7"), addP (pv "x/8") zeroP, pv "x/9"].zipIdx.map
    (fun (p, i) => ⟨p, i, .unit⟩)
def rows007 : List (Row Nat) := makeRows "a/0" arms007
def zeroV : Val := .enumV "Expr" 0 []
/-- `let a = Mul(Add(Zero,Zero),Zero)` -/
def ρ007 : Env := [("a/0", .enumV "Expr" 3 [.enumV "Expr" 2 [zeroV, zeroV], zeroV])]

/-- all hypotheses of `compileRows_correct` hold for the matrix of 007 and the value the program
    matches on, and the theorem then says the tree reaches arm 3 (`Mul(x,Zero)`, the program prints 3) -/
example : ∃ t n', compileRows sig007 (measure rows007 + 1) .unit 0 rows007 = some (.ok (t, n')) ∧
    ∃ ρ₂, t.eval ρ007 = .body 3 ρ₂ ∧ lookupEnv ρ₂ "x/4" = some (.enumV "Expr" 2 [zeroV, zeroV]) := by
  obtain ⟨t, n', hc, hl⟩ := okTree_elim
    (show okTree (compileRows sig007 (measure rows007 + 1) .unit 0 rows007) = true by decide +kernel)
  refine ⟨t, n', hc, ?_⟩
  have hfresh : ∀ r ∈ rows007, RowFresh sig007.gen 0 r :=
    fresh_of_freshB (x := "a/0") (by decide +kernel) (fun j => realGen_ne j "a/0" 'a' _ rfl (by decide))
  have hconf : ∀ r ∈ rows007, RowConf sig007 ρ007 r := by unfold RowConf; decide +kernel
  have hfm : ∃ σ, firstMatch ρ007 rows007 = some (3, σ) ∧ σ = [("x/4", .enumV "Expr" 2 [zeroV, zeroV])] :=
    ⟨_, rfl, rfl⟩
  obtain ⟨σ, hfm, hσ⟩ := hfm
  obtain ⟨ρ₂, h1, h2, _⟩ := bindings_correct sig007 realGen_injective _ _ _ _ t n' hc hl ρ007 hfresh hconf 3 σ hfm
    (by rw [hσ]; decide)
  exact ⟨ρ₂, h1, h2 _ _ (by rw [hσ]; simp)⟩

def namesOK (x : String) (arms : List (ArmIn Nat)) : Bool :=
  arms.all (fun a => a.pat.names.all (fun y => decide ('/' ∈ y.toList) && decide (y ≠ x)))

/-- `match_correct_real` applies to 007 as the compiler sees it (names `a/0`, `x/1`, …): its
    hypotheses are satisfiable, and it yields arm 3 for `Mul(Add(Zero,Zero),Zero)` -/
example : ∃ t n', compileRows ⟨sig007.enums, [], realGen⟩ 30 .unit 0 (makeRows "a/0" arms007) = some (.ok (t, n')) ∧
    ∃ ρ₂, t.eval ρ007 = .body 3 ρ₂ := by
  obtain ⟨t, n', hc, _⟩ := okTree_elim
    (show okTree (compileRows ⟨sig007.enums, [], realGen⟩ 30 .unit 0 (makeRows "a/0" arms007)) = true by decide +kernel)
  refine ⟨t, n', hc, ?_⟩
  have hn : namesOK "a/0" arms007 = true := by decide +kernel
  have h := match_correct_real sig007.enums [] "a/0" (Or.inl (by unfold srcName; decide)) arms007
    (by
      intro a ha y hy
      simp only [namesOK, List.all_eq_true, Bool.and_eq_true, decide_eq_true_eq] at hn
      exact hn a ha y hy)
    30 .unit 0 t n' hc ρ007 (by decide +kernel)
  have hfm : ∃ σ, firstMatch ρ007 (makeRows "a/0" arms007) = some (3, σ) := ⟨_, rfl⟩
  obtain ⟨σ, hfm⟩ := hfm
  rw [hfm] at h
  obtain ⟨σ', τ, e, _, _⟩ := h
  exact ⟨_, e⟩

/-- `051_int_pattern_matching::is_special8`: `5i8 => …, 7i8 => …, _ => …` -/
def rows051 : List (Row Nat) :=
  [⟨[("value/0", .prim (.int 8 true 5) (.int 8 true))], [], 0, .bool⟩,
   ⟨[("value/0", .prim (.int 8 true 7) (.int 8 true))], [], 1, .bool⟩,
   ⟨[("value/0", .wild (.int 8 true))], [], 2, .bool⟩]
def sig051 : Sig :=
  { enums := [], structs := [{ name := "PairData", generics := [], fields := [("head", .int 32 true), ("tail", .int 64 true)] }],
    gen := realGen }

example : okTree (compileRows sig051 (measure rows051 + 1) .bool 0 rows051) = true := by decide +kernel

def row051a : Row Nat := ⟨[("value/0", .prim (.int 8 true 5) (.int 8 true))], [], 0, .bool⟩
def row051b : Row Nat := ⟨[("value/0", .prim (.int 8 true 7) (.int 8 true))], [], 1, .bool⟩

/-- the same match without its `_` arm is rejected (`int_nonexhaustive_rejected` is not vacuous) -/
example : compileRows sig051 5 .bool 0 [row051a, row051b] = some (.error (.nonExhaustiveInt (.int 8 true))) := by
  apply int_nonexhaustive_rejected sig051 4 .bool 0 [row051a, row051b] row051a [row051b] rfl rfl "value/0" 8 true rfl
  intro r hr
  simp only [List.mem_cons, List.not_mem_nil, or_false] at hr
  rcases hr with rfl | rfl
  · exact ⟨_, _, _, rfl, rfl⟩
  · exact ⟨_, _, _, rfl, rfl⟩

def pairTy : Ty := .struct "PairData"
/-- `051::match_struct`: `PairData{head:100,tail:200} => …, PairData{head:_,tail:300} => …, _ => …` -/
def rows051s : List (Row Nat) :=
  [⟨[("pair/0", .constr (.struct "PairData") [.prim (.int 32 true 100) (.int 32 true), .prim (.int 64 true 200) (.int 64 true)] pairTy)], [], 0, .bool⟩,
   ⟨[("pair/0", .constr (.struct "PairData") [.wild (.int 32 true), .prim (.int 64 true 300) (.int 64 true)] pairTy)], [], 1, .bool⟩,
   ⟨[("pair/0", .wild pairTy)], [], 2, .bool⟩]
def ρ051 : Env := [("pair/0", .structV "PairData" [.int 32 true 10, .int 64 true 300])]

/-- `match_struct(PairData{head:10,tail:300})` selects the second arm -/
example : ∃ t n', compileRows sig051 (measure rows051s + 1) .bool 0 rows051s = some (.ok (t, n')) ∧
    ∃ ρ₂, t.eval ρ051 = .body 1 ρ₂ := by
  obtain ⟨t, n', hc, hl⟩ := okTree_elim
    (show okTree (compileRows sig051 (measure rows051s + 1) .bool 0 rows051s) = true by decide +kernel)
  refine ⟨t, n', hc, ?_⟩
  have hfresh : ∀ r ∈ rows051s, RowFresh sig051.gen 0 r :=
    fresh_of_freshB (x := "pair/0") (by decide +kernel) (fun j => realGen_ne j "pair/0" 'p' _ rfl (by decide))
  have hconf : ∀ r ∈ rows051s, RowConf sig051 ρ051 r := by unfold RowConf; decide +kernel
  obtain ⟨ρ₂, h1, _⟩ := bindings_correct sig051 realGen_injective _ _ _ _ t n' hc hl ρ051 hfresh hconf 1 []
    rfl (by decide)
  exact ⟨ρ₂, h1⟩

/-- `compileRows_total` on 007: the fuel the driver passes is enough -/
example : compileRows sig007 (measure rows007 + 1) .unit 0 rows007 ≠ none :=
  compileRows_total sig007 _ _ _ _ (Nat.lt_succ_self _)

end Examples

end Goml.Match
