import GomlVerif.Props.C19
/-!
# C19.6 (full) — `ty_compact` is injective on every monomorphic source type

`GomlVerif/Props/C19.lean` proves `tyCompact_injective_partial` on primitives, structs, tuples and
struct applications.  This file extends the fragment to **all** constructors that survive
monomorphisation: `.tenum`, `.tdyn`, `.tapp (.tenum n) _`, `.tarray`, `.tvec`, `.tref`, `.tfunc`
(`.tvar` / `.tparam` do not occur after mono).

The statement has to step around four genuine non-injectivities of the compiler's spelling, each
shown necessary by a negative witness (`example … := by decide`) at the end of the file:

1. an enum and a struct of one name have the same text → the result is stated modulo `eraseKind`
   (and, `tyCompact_injective_of_kinds`, as plain equality when one classifier says which names are enums);
2. `dyn Show` is spelled `dynShow` (the blank is filtered out), like a struct called `dynShow`
   → nominal names must not start with `dyn`;  **this is a defect of the compiler**
   (`Opt[dyn Show]` and `Opt[dynShow]` are both the instance `Opt__dynShow`);
3. `Vec[e]` / `Ref[e]` are spelled like applications of a struct called `Vec` / `Ref`;
4. a nominal name equal to the spelling of a primitive (already in `identOk`).
-/
namespace Goml.Mangle
open Goml.Gen

/-- side condition on struct / enum names: `identOk` (non-empty, identifier characters, not a primitive's
spelling), not `Vec`, not `Ref`, not starting with `dyn` -/
def nameOk (n : Name) : Bool :=
  identOk n && n != "Vec".toList && n != "Ref".toList && !("dyn".toList).isPrefixOf n

mutual
/-- the full monomorphic fragment: everything but `.tvar` / `.tparam`; an application has a nominal head
and at least one argument (`tyPretty` prints `T[]` as `T`) -/
def ffrag : Ty → Bool
  | .prim _ => true
  | .tstruct n => nameOk n
  | .tenum n => nameOk n
  | .tdyn tr => traitOk tr
  | .ttuple ts => ffrags ts
  | .tapp t args => (match t with | .tstruct n => nameOk n | .tenum n => nameOk n | _ => false) && !args.isEmpty && ffrags args
  | .tarray _ e => ffrag e
  | .tvec e => ffrag e
  | .tref e => ffrag e
  | .tfunc ps r => ffrags ps && ffrag r
  | _ => false
def ffrags : List Ty → Bool
  | [] => true
  | t :: ts => ffrag t && ffrags ts
end

mutual
/-- forget whether a nominal type is an enum or a struct (everywhere, application heads included) -/
def eraseKind : Ty → Ty
  | .tenum n => .tstruct n
  | .ttuple ts => .ttuple (eraseKinds ts)
  | .tapp t args => .tapp (eraseKind t) (eraseKinds args)
  | .tarray len e => .tarray len (eraseKind e)
  | .tvec e => .tvec (eraseKind e)
  | .tref e => .tref (eraseKind e)
  | .tfunc ps r => .tfunc (eraseKinds ps) (eraseKind r)
  | t => t
def eraseKinds : List Ty → List Ty
  | [] => []
  | t :: ts => eraseKind t :: eraseKinds ts
end

mutual
/-- one classifier `k` tells for every nominal name inside the type whether it is an enum -/
def kindsBy (k : Name → Bool) : Ty → Bool
  | .tenum n => k n
  | .tstruct n => !k n
  | .ttuple ts => kindsBys k ts
  | .tapp t args => kindsBy k t && kindsBys k args
  | .tarray _ e => kindsBy k e
  | .tvec e => kindsBy k e
  | .tref e => kindsBy k e
  | .tfunc ps r => kindsBys k ps && kindsBy k r
  | _ => true
def kindsBys (k : Name → Bool) : List Ty → Bool
  | [] => true
  | t :: ts => kindsBy k t && kindsBys k ts
end

theorem tyCompact_enum {n : Name} (h : n.all isIdentChar = true) : tyCompact (.tenum n) = n := by
  simp only [tyCompact, tyPretty]
  exact filter_ident h

theorem tyCompact_dyn {tr : Name} (h : tr.all isIdentChar = true) : tyCompact (.tdyn tr) = 'd' :: 'y' :: 'n' :: tr := by
  simp +decide [tyCompact, tyPretty, filter_ident h]

theorem digits_ident (n : Nat) : (digits n).all isIdentChar = true :=
  all_imp (fun _ => alnum_identChar) (digits_alnum n)

theorem tyCompact_vec (e : Ty) (r : Name) : tyCompact (.tvec e) ++ r = "Vec".toList ++ '[' :: (joinC [e] ++ ']' :: r) := by
  simp +decide [tyCompact, tyPretty, List.filter_append, joinC_single]

theorem tyCompact_ref (e : Ty) (r : Name) : tyCompact (.tref e) ++ r = "Ref".toList ++ '[' :: (joinC [e] ++ ']' :: r) := by
  simp +decide [tyCompact, tyPretty, List.filter_append, joinC_single]

theorem tyCompact_array (len : Nat) (e : Ty) (r : Name) :
    tyCompact (.tarray len e) ++ r = '[' :: (tyCompact e ++ ';' :: (digits len ++ ']' :: r)) := by
  simp +decide [tyCompact, tyPretty, List.filter_append, filter_ident (digits_ident len)]

theorem tyCompact_func (ps : List Ty) (r0 : Ty) (r : Name) :
    tyCompact (.tfunc ps r0) ++ r = '(' :: (joinC ps ++ ')' :: '-' :: '>' :: (tyCompact r0 ++ r)) := by
  simp +decide [tyCompact, tyPretty, List.filter_append, compact_join ps]

/-! ## shapes: the five ways a fragment type is spelled -/

/-- the shape of a spelling: an identifier run (`atom`), an identifier run followed by a bracketed
argument list (`brk`: `Name[..]`, `Vec[..]`, `Ref[..]`), a tuple, a function type, an array -/
inductive Shape where
  | atom (a : Name)
  | brk (h : Name) (args : List Ty)
  | tup (ts : List Ty)
  | fn (ps : List Ty) (r : Ty)
  | arr (len : Nat) (e : Ty)

def shapeOf : Ty → Shape
  | .prim p => .atom (toDocPrim p)
  | .tstruct n => .atom n
  | .tenum n => .atom n
  | .tdyn tr => .atom ('d' :: 'y' :: 'n' :: tr)
  | .ttuple ts => .tup ts
  | .tapp (.tstruct n) args => .brk n args
  | .tapp (.tenum n) args => .brk n args
  | .tarray len e => .arr len e
  | .tvec e => .brk "Vec".toList [e]
  | .tref e => .brk "Ref".toList [e]
  | .tfunc ps r => .fn ps r
  | _ => .atom []

/-- the spelling of a shape followed by `r` -/
def spell : Shape → Name → Name
  | .atom a, r => a ++ r
  | .brk h args, r => h ++ '[' :: (joinC args ++ ']' :: r)
  | .tup ts, r => '(' :: (joinC ts ++ ')' :: r)
  | .fn ps r0, r => '(' :: (joinC ps ++ ')' :: '-' :: '>' :: (tyCompact r0 ++ r))
  | .arr len e, r => '[' :: (tyCompact e ++ ';' :: (digits len ++ ']' :: r))

def shapeOk : Shape → Prop
  | .atom a => a.all isIdentChar = true ∧ a ≠ []
  | .brk h args => h.all isIdentChar = true ∧ h ≠ [] ∧ ffrags args = true
  | .tup ts => ffrags ts = true
  | .fn ps r => ffrags ps = true ∧ ffrag r = true
  | .arr _ e => ffrag e = true

/-- the (kind-erased) type an identifier run stands for -/
def atomTy (a : Name) : Ty :=
  match primOfName a with
  | some p => .prim p
  | none => if "dyn".toList.isPrefixOf a then .tdyn (a.drop 3) else .tstruct a

def brkTy (h : Name) (as : List Ty) : Ty :=
  if h = "Vec".toList then .tvec (as.headD (.prim .unit))
  else if h = "Ref".toList then .tref (as.headD (.prim .unit))
  else .tapp (.tstruct h) as

/-- the kind-erased type of a shape -/
def rebuild : Shape → Ty
  | .atom a => atomTy a
  | .brk h args => brkTy h (eraseKinds args)
  | .tup ts => .ttuple (eraseKinds ts)
  | .fn ps r => .tfunc (eraseKinds ps) (eraseKind r)
  | .arr len e => .tarray len (eraseKind e)

/-- the conjuncts of `nameOk`, by name -/
structure NameOk (n : Name) : Prop where
  ident : identOk n = true
  neVec : n ≠ "Vec".toList
  neRef : n ≠ "Ref".toList
  notDyn : ("dyn".toList).isPrefixOf n = false

theorem nameOk_parts {n : Name} (h : nameOk n = true) : NameOk n := by
  simp only [nameOk, Bool.and_eq_true, bne_iff_ne, ne_eq, Bool.not_eq_true'] at h
  exact ⟨h.1.1.1, h.1.1.2, h.1.2, h.2⟩

theorem atomTy_prim (p : Prim) : atomTy (toDocPrim p) = .prim p := by
  simp only [atomTy, primOfName_toDocPrim]

theorem atomTy_name {n : Name} (h : nameOk n = true) : atomTy n = .tstruct n := by
  have hn := nameOk_parts h
  simp only [atomTy, primOfName_identOk hn.ident, hn.notDyn]
  rfl

theorem dyn_not_prim (tr : Name) (p : Prim) : toDocPrim p ≠ 'd' :: 'y' :: 'n' :: tr := by
  intro h
  cases p <;> (simp only [toDocPrim, List.cons.injEq] at h; exact absurd h.1 (by decide))

theorem atomTy_dyn (tr : Name) : atomTy ('d' :: 'y' :: 'n' :: tr) = .tdyn tr := by
  have hp : primOfName ('d' :: 'y' :: 'n' :: tr) = none := by
    simp only [primOfName, List.find?_eq_none, beq_iff_eq]
    intro p _ heq
    exact dyn_not_prim tr p heq
  have hd : ("dyn".toList).isPrefixOf ('d' :: 'y' :: 'n' :: tr) = true := by
    show ['d', 'y', 'n'].isPrefixOf ('d' :: 'y' :: 'n' :: tr) = true
    simp [List.isPrefixOf]
  simp only [atomTy, hp, hd]
  rfl

theorem brkTy_name {n : Name} (h : nameOk n = true) (as : List Ty) : brkTy n as = .tapp (.tstruct n) as := by
  have hn := nameOk_parts h
  unfold brkTy
  rw [if_neg hn.neVec, if_neg hn.neRef]

/-- every fragment type has a well-formed shape that determines its spelling and its kind-erased self -/
theorem shape_spec (t : Ty) (ht : ffrag t = true) :
    shapeOk (shapeOf t) ∧ (∀ r, tyCompact t ++ r = spell (shapeOf t) r) ∧ eraseKind t = rebuild (shapeOf t) := by
  cases t with
  | tvar n => simp [ffrag] at ht
  | tparam n => simp [ffrag] at ht
  | prim p =>
    refine ⟨primDoc_ident p, fun r => ?_, ?_⟩
    · rw [tyCompact_prim]; rfl
    · simp only [eraseKind, shapeOf, rebuild, atomTy_prim]
  | tstruct n =>
    simp only [ffrag] at ht
    have hid := (nameOk_parts ht).ident
    have h1 := identOk_all hid
    refine ⟨⟨h1, identOk_ne_nil hid⟩, fun r => ?_, ?_⟩
    · rw [tyCompact_struct h1]; rfl
    · simp only [eraseKind, shapeOf, rebuild, atomTy_name ht]
  | tenum n =>
    simp only [ffrag] at ht
    have hid := (nameOk_parts ht).ident
    have h1 := identOk_all hid
    refine ⟨⟨h1, identOk_ne_nil hid⟩, fun r => ?_, ?_⟩
    · rw [tyCompact_enum h1]; rfl
    · simp only [eraseKind, shapeOf, rebuild, atomTy_name ht]
  | tdyn tr =>
    simp only [ffrag, traitOk, Bool.and_eq_true] at ht
    have hall : ('d' :: 'y' :: 'n' :: tr).all isIdentChar = true := by
      have h1 : isIdentChar 'd' = true := by decide
      have h2 : isIdentChar 'y' = true := by decide
      have h3 : isIdentChar 'n' = true := by decide
      simp only [List.all_cons, h1, h2, h3, Bool.true_and]; exact ht.2
    refine ⟨⟨hall, by simp⟩, fun r => ?_, ?_⟩
    · rw [tyCompact_dyn ht.2]; rfl
    · simp only [eraseKind, shapeOf, rebuild, atomTy_dyn]
  | ttuple ts =>
    simp only [ffrag] at ht
    refine ⟨ht, fun r => ?_, ?_⟩
    · rw [tuple_append]; rfl
    · simp only [eraseKind, shapeOf, rebuild]
  | tapp t0 args =>
    simp only [ffrag, Bool.and_eq_true] at ht
    cases args with
    | nil => simp at ht
    | cons a as =>
      cases t0 with
      | tstruct n =>
        have hid := (nameOk_parts ht.1.1).ident
        have h1 := identOk_all hid
        refine ⟨⟨h1, identOk_ne_nil hid, ht.2⟩, fun r => ?_, ?_⟩
        · rw [app_append _ (tyCompact_struct h1)]; rfl
        · simp only [eraseKind, shapeOf, rebuild, brkTy_name ht.1.1]
      | tenum n =>
        have hid := (nameOk_parts ht.1.1).ident
        have h1 := identOk_all hid
        refine ⟨⟨h1, identOk_ne_nil hid, ht.2⟩, fun r => ?_, ?_⟩
        · rw [app_append _ (tyCompact_enum h1)]; rfl
        · simp only [eraseKind, shapeOf, rebuild, brkTy_name ht.1.1]
      | _ => simp at ht
  | tarray len e =>
    simp only [ffrag] at ht
    refine ⟨ht, fun r => ?_, ?_⟩
    · rw [tyCompact_array]; rfl
    · simp only [eraseKind, shapeOf, rebuild]
  | tvec e =>
    simp only [ffrag] at ht
    refine ⟨⟨by decide, by decide, by simp [ffrags, ht]⟩, fun r => ?_, ?_⟩
    · rw [tyCompact_vec]; rfl
    · simp only [eraseKind, shapeOf, rebuild, eraseKinds]; rfl
  | tref e =>
    simp only [ffrag] at ht
    refine ⟨⟨by decide, by decide, by simp [ffrags, ht]⟩, fun r => ?_, ?_⟩
    · rw [tyCompact_ref]; rfl
    · simp only [eraseKind, shapeOf, rebuild, eraseKinds]; rfl
  | tfunc ps r0 =>
    simp only [ffrag, Bool.and_eq_true] at ht
    refine ⟨ht, fun r => ?_, ?_⟩
    · rw [tyCompact_func]; rfl
    · simp only [eraseKind, shapeOf, rebuild]

/-! ## first characters: spellings that agree have shapes of the same class (`cls_eq`) -/

/-- class of a character: identifier character, `(`, `[`, anything else -/
def charCls (c : Char) : Nat := if isIdentChar c then 0 else if c = '(' then 1 else if c = '[' then 2 else 3
def headCls : Name → Nat
  | [] => 4
  | c :: _ => charCls c
def cls : Shape → Nat
  | .atom _ => 0
  | .brk _ _ => 0
  | .tup _ => 1
  | .fn _ _ => 1
  | .arr _ _ => 2

theorem headCls_ident {a r : Name} (h1 : a.all isIdentChar = true) (h2 : a ≠ []) : headCls (a ++ r) = 0 := by
  cases a with
  | nil => exact absurd rfl h2
  | cons c a' =>
    simp only [List.all_cons, Bool.and_eq_true] at h1
    simp [headCls, charCls, h1.1]

theorem spell_cls (s : Shape) (r : Name) (hs : shapeOk s) : headCls (spell s r) = cls s := by
  cases s with
  | atom a => exact headCls_ident hs.1 hs.2
  | brk h args => exact headCls_ident hs.1 hs.2.1
  | tup ts => show charCls '(' = 1; decide
  | fn ps r0 => show charCls '(' = 1; decide
  | arr len e => show charCls '[' = 2; decide

theorem cls_eq {s s' : Shape} {r r' : Name} (hs : shapeOk s) (hs' : shapeOk s') (h : spell s r = spell s' r') :
    cls s = cls s' := by
  rw [← spell_cls s r hs, ← spell_cls s' r' hs', h]

/-! ## the reader inverts the spelling

On this fragment the reader of `Props/C19.lean` is run with `atomTy` for an identifier run and `brkTy` for `h[..]`:
what it returns for the spelling of a shape is `rebuild` of that shape. -/

/-- with fuel `m`, the parts of a shape are read back up to kind -/
def PartsRead (m : Nat) : Shape → Prop
  | .atom _ => True
  | .brk _ args => ∀ r, readArgs atomTy brkTy m (joinC args ++ ']' :: r) = some (eraseKinds args, ']' :: r)
  | .tup ts => ∀ r, readArgs atomTy brkTy m (joinC ts ++ ')' :: r) = some (eraseKinds ts, ')' :: r)
  | .fn ps r0 => (∀ r, readArgs atomTy brkTy m (joinC ps ++ ')' :: r) = some (eraseKinds ps, ')' :: r)) ∧
      ∀ r, stopOk' r = true → readTy atomTy brkTy m (tyCompact r0 ++ r) = some (eraseKind r0, r)
  | .arr _ e => ∀ r, stopOk' r = true → readTy atomTy brkTy m (tyCompact e ++ r) = some (eraseKind e, r)

/-- one step of the reader on the spelling of a shape -/
theorem read_shape {m : Nat} {s : Shape} {r : Name} (hs : shapeOk s) (ih : PartsRead m s) (hr : stopOk' r = true) :
    readTy atomTy brkTy (m + 1) (spell s r) = some (rebuild s, r) := by
  cases s with
  | atom a => exact readTy_atom (traitOk_of hs) hr
  | brk h args => exact readTy_brk (traitOk_of ⟨hs.1, hs.2.1⟩) (ih r)
  | tup ts => exact readTy_tup (ih r) hr
  | fn ps r0 => exact readTy_fn (ih.1 _) (ih.2 r hr)
  | arr len e => exact readTy_arr (ih _ (semi_stop _))

theorem reads_of_parts (t : Ty) (ih : ffrag t = true → ∀ m, 2 * sizeOf t < m + 1 → PartsRead m (shapeOf t)) :
    ffrag t = true → Reads atomTy brkTy t (eraseKind t) := by
  intro ht n r hn hr
  obtain ⟨ok, sp, er⟩ := shape_spec t ht
  obtain ⟨m, rfl⟩ : ∃ m, n = m + 1 := ⟨n - 1, by omega⟩
  rw [sp, er]
  exact read_shape ok (ih ht m hn) hr

/-- `Vec[e]` / `Ref[e]`: a one-element argument list -/
theorem parts_single {e : Ty} {h : Name} {m : Nat} (ih : Reads atomTy brkTy e (eraseKind e)) (hm : 2 * sizeOf e + 1 < m) :
    PartsRead m (.brk h [e]) := by
  intro r
  obtain ⟨k, rfl⟩ : ∃ k, m = k + 1 := ⟨m - 1, by omega⟩
  rw [joinC_single]
  exact readArgs_last (Or.inr rfl) (ih k _ (by omega) (closer_stop (Or.inr rfl)))

/-- **the reader inverts `ty_compact` on the monomorphic fragment, up to the enum/struct kind of a name** -/
theorem read_tyCompact (t : Ty) : ffrag t = true → Reads atomTy brkTy t (eraseKind t) := by
  apply Ty.rec (motive_1 := fun t => ffrag t = true → Reads atomTy brkTy t (eraseKind t))
    (motive_2 := fun ts => ffrags ts = true → ReadsL atomTy brkTy ts (eraseKinds ts))
  case tvar => intro _ h; cases h
  case tparam => intro _ h; cases h
  case prim => intro p; exact reads_of_parts _ (fun _ _ _ => trivial)
  case tstruct => intro n; exact reads_of_parts _ (fun _ _ _ => trivial)
  case tenum => intro n; exact reads_of_parts _ (fun _ _ _ => trivial)
  case tdyn => intro n; exact reads_of_parts _ (fun _ _ _ => trivial)
  case ttuple =>
    intro ts ih
    refine reads_of_parts _ (fun h m hm r => readArgs_join (ih h) m ')' r ?_ (Or.inl rfl))
    simp only [Ty.ttuple.sizeOf_spec] at hm; omega
  case tapp =>
    intro t0 args _ ih
    refine reads_of_parts _ (fun h m hm => ?_)
    simp only [ffrag, Bool.and_eq_true] at h
    simp only [Ty.tapp.sizeOf_spec] at hm
    cases t0 with
    | tstruct n => exact fun r => readArgs_join (ih h.2) m ']' r (by omega) (Or.inr rfl)
    | tenum n => exact fun r => readArgs_join (ih h.2) m ']' r (by omega) (Or.inr rfl)
    | _ => simp at h
  case tarray =>
    intro len e ih
    refine reads_of_parts _ (fun h m hm r hr => ih h m r ?_ hr)
    simp only [Ty.tarray.sizeOf_spec] at hm; omega
  case tvec =>
    intro e ih
    refine reads_of_parts _ (fun h m hm => parts_single (ih h) ?_)
    simp only [Ty.tvec.sizeOf_spec] at hm; omega
  case tref =>
    intro e ih
    refine reads_of_parts _ (fun h m hm => parts_single (ih h) ?_)
    simp only [Ty.tref.sizeOf_spec] at hm; omega
  case tfunc =>
    intro ps r0 ihps ihr
    refine reads_of_parts _ (fun h m hm => ?_)
    simp only [ffrag, Bool.and_eq_true] at h
    simp only [Ty.tfunc.sizeOf_spec] at hm
    exact ⟨fun r => readArgs_join (ihps h.1) m ')' r (by omega) (Or.inl rfl), fun r hr => ihr h.2 m r (by omega) hr⟩
  case nil => exact fun _ => .nil
  case cons =>
    intro t ts iht ihts h
    simp only [ffrags, Bool.and_eq_true] at h
    exact .cons (iht h.1) (ihts h.2)

/-- **a fragment spelling followed by a stop is parsed in exactly one way** (up to enum/struct kind) -/
theorem tyCompact_unique_full (t : Ty) : ∀ u r r', ffrag t = true → ffrag u = true → stopOk' r = true → stopOk' r' = true →
    tyCompact t ++ r = tyCompact u ++ r' → eraseKind t = eraseKind u ∧ r = r' :=
  fun u _ _ ht hu hr hr' h => (read_tyCompact t ht).unique (read_tyCompact u hu) hr hr' h

/-- **`ty_compact` is injective on the full monomorphic fragment, up to the enum/struct kind of a name** -/
theorem tyCompact_injective {t u : Ty} (ht : ffrag t = true) (hu : ffrag u = true) (h : tyCompact t = tyCompact u) :
    eraseKind t = eraseKind u :=
  (tyCompact_unique_full t u [] [] ht hu rfl rfl (by rw [List.append_nil, List.append_nil, h])).1

/-! ## from "equal up to kind" to "equal": a program declares a name once, as one kind -/

mutual
/-- put the kinds back as `k` says: a left inverse of `eraseKind` on types classified by `k` -/
def restoreKind (k : Name → Bool) : Ty → Ty
  | .tstruct n => if k n then .tenum n else .tstruct n
  | .ttuple ts => .ttuple (restoreKinds k ts)
  | .tapp t args => .tapp (restoreKind k t) (restoreKinds k args)
  | .tarray len e => .tarray len (restoreKind k e)
  | .tvec e => .tvec (restoreKind k e)
  | .tref e => .tref (restoreKind k e)
  | .tfunc ps r => .tfunc (restoreKinds k ps) (restoreKind k r)
  | t => t
def restoreKinds (k : Name → Bool) : List Ty → List Ty
  | [] => []
  | t :: ts => restoreKind k t :: restoreKinds k ts
end

theorem restoreKind_eraseKind (k : Name → Bool) (t : Ty) : kindsBy k t = true → restoreKind k (eraseKind t) = t := by
  apply Ty.rec
    (motive_1 := fun t => kindsBy k t = true → restoreKind k (eraseKind t) = t)
    (motive_2 := fun ts => kindsBys k ts = true → restoreKinds k (eraseKinds ts) = ts)
  case tvar => intro n _; rfl
  case tparam => intro n _; rfl
  case prim => intro p _; rfl
  case tdyn => intro n _; rfl
  case tstruct => intro n h; simp only [kindsBy, Bool.not_eq_true'] at h; simp [eraseKind, restoreKind, h]
  case tenum => intro n h; simp only [kindsBy] at h; simp [eraseKind, restoreKind, h]
  case ttuple => intro ts ih h; simp only [kindsBy] at h; simp only [eraseKind, restoreKind, ih h]
  case tapp =>
    intro t0 args ih0 ih h
    simp only [kindsBy, Bool.and_eq_true] at h
    simp only [eraseKind, restoreKind, ih0 h.1, ih h.2]
  case tarray => intro len e ih h; simp only [kindsBy] at h; simp only [eraseKind, restoreKind, ih h]
  case tvec => intro e ih h; simp only [kindsBy] at h; simp only [eraseKind, restoreKind, ih h]
  case tref => intro e ih h; simp only [kindsBy] at h; simp only [eraseKind, restoreKind, ih h]
  case tfunc =>
    intro ps r ihps ihr h
    simp only [kindsBy, Bool.and_eq_true] at h
    simp only [eraseKind, restoreKind, ihps h.1, ihr h.2]
  case nil => intro _; rfl
  case cons =>
    intro t ts iht ihts h
    simp only [kindsBys, Bool.and_eq_true] at h
    simp only [eraseKinds, restoreKinds, iht h.1, ihts h.2]

theorem eraseKind_injective_of_kinds (k : Name → Bool) {t u : Ty} (kt : kindsBy k t = true) (ku : kindsBy k u = true)
    (h : eraseKind t = eraseKind u) : t = u := by
  rw [← restoreKind_eraseKind k t kt, h, restoreKind_eraseKind k u ku]

/-- **`ty_compact` is injective on the full monomorphic fragment** once one classifier `k` says for every
nominal name of both types whether it is an enum or a struct -/
theorem tyCompact_injective_of_kinds (k : Name → Bool) {t u : Ty} (ht : ffrag t = true) (hu : ffrag u = true)
    (kt : kindsBy k t = true) (ku : kindsBy k u = true) (h : tyCompact t = tyCompact u) : t = u :=
  eraseKind_injective_of_kinds k kt ku (tyCompact_injective ht hu h)

/-- a generic type with ONE parameter: distinct fragment arguments give distinct instance names
(`TypeMono::ensure_instance`) -/
theorem monoTypeName_injective_one_param (k : Name → Bool) (base : Name) {t u : Ty} (ht : ffrag t = true) (hu : ffrag u = true)
    (kt : kindsBy k t = true) (ku : kindsBy k u = true) (h : monoTypeName base [t] = monoTypeName base [u]) : t = u := by
  simp only [monoTypeName, join, List.map_cons, List.map_nil] at h
  exact tyCompact_injective_of_kinds k ht hu kt ku (List.append_cancel_left h)

/-! ## the fragment `cfrag` of `tyCompact_injective_partial` sits inside `ffrag` -/

mutual
/-- every struct / enum name inside the type satisfies `p` -/
def namesAll (p : Name → Bool) : Ty → Bool
  | .tenum n => p n
  | .tstruct n => p n
  | .ttuple ts => namesAlls p ts
  | .tapp t args => namesAll p t && namesAlls p args
  | .tarray _ e => namesAll p e
  | .tvec e => namesAll p e
  | .tref e => namesAll p e
  | .tfunc ps r => namesAlls p ps && namesAll p r
  | _ => true
def namesAlls (p : Name → Bool) : List Ty → Bool
  | [] => true
  | t :: ts => namesAll p t && namesAlls p ts
end

/-- an inclusion between the two fragments, not a part of a compiler property: `cfrag` is inside `ffrag` as soon as
its struct names also avoid `Vec`, `Ref` and the prefix `dyn` (`cfrag` alone accepts a struct called `Vec`, which
`ffrag` must exclude) -/
theorem cfrag_ffrag_partial (t : Ty) : cfrag t = true → namesAll nameOk t = true → ffrag t = true := by
  refine (cfrag.mutual_induct (fun t => cfrag t = true → namesAll nameOk t = true → ffrag t = true)
    (fun ts => cfrags ts = true → namesAlls nameOk ts = true → ffrags ts = true) ?_ ?_ ?_ ?_ ?_ ?_ ?_).1 t
  · -- .prim
    intro p _ _; rfl
  · -- .tstruct
    intro n _ h; simpa [namesAll, ffrag] using h
  · -- .ttuple
    intro ts ih h1 h2
    simp only [cfrag] at h1
    simp only [namesAll] at h2
    simp only [ffrag]
    exact ih h1 h2
  · -- .tapp
    intro t0 args ih h1 h2
    simp only [cfrag, Bool.and_eq_true] at h1
    simp only [namesAll, Bool.and_eq_true] at h2
    cases t0 with
    | tstruct n =>
      simp only [namesAll] at h2
      simp only [ffrag, Bool.and_eq_true]
      exact ⟨⟨h2.1, h1.1.2⟩, ih h1.2 h2.2⟩
    | _ => simp at h1
  · -- any other constructor
    intro t h1 h2 h3 h4 h; rw [cfrag.eq_6 t h1 h2 h3 h4] at h; cases h
  · -- []
    intro _ _; rfl
  · -- t :: ts
    intro t ts iht ihts h1 h2
    simp only [cfrags, Bool.and_eq_true] at h1
    simp only [namesAlls, Bool.and_eq_true] at h2
    simp only [ffrags, Bool.and_eq_true]
    exact ⟨iht h1.1 h2.1, ihts h1.2 h2.2⟩

/-! ## non-vacuity -/

/-- a nested type using every constructor outside `cfrag` is in the fragment, and its names are classified consistently -/
example :
    let t := Ty.tfunc [.tvec (.prim .int32), .tarray 12 (.tenum "E".toList)]
      (.tref (.ttuple [.tdyn "Show".toList, .tapp (.tenum "Opt".toList) [.prim .string]]))
    ffrag t = true ∧ kindsBy (fun n => n == "E".toList || n == "Opt".toList) t = true ∧
      tyCompact t = "(Vec[int32],[E;12])->Ref[(dynShow,Opt[string])]".toList := by decide +kernel

/-- the hypotheses of `tyCompact_injective_of_kinds` hold for two different nested types: the theorem applies
and their spellings differ (in the array length) -/
example :
    let k : Name → Bool := fun n => n == "E".toList || n == "Opt".toList
    let t := Ty.tfunc [.tvec (.prim .int32), .tarray 12 (.tenum "E".toList)] (.tref (.tdyn "Show".toList))
    let u := Ty.tfunc [.tvec (.prim .int32), .tarray 1 (.tenum "E".toList)] (.tref (.tdyn "Show".toList))
    ffrag t = true ∧ ffrag u = true ∧ kindsBy k t = true ∧ kindsBy k u = true ∧ tyCompact t ≠ tyCompact u := by decide +kernel

/-- `Opt[Pair[int32, E]]` with a struct head and an enum argument; `()`; `() -> ()` -/
example : ffrag (.tapp (.tstruct "Opt".toList) [.tapp (.tstruct "Pair".toList) [.prim .int32, .tenum "E".toList]]) = true ∧
    ffrag (.ttuple []) = true ∧ ffrag (.tfunc [] (.ttuple [])) = true := by decide +kernel

/-- a tuple followed by a stop vs a function type: told apart by what follows the `)` -/
example : tyCompact (.ttuple [.ttuple [.prim .int32], .prim .bool]) = "((int32),bool)".toList ∧
    tyCompact (.ttuple [.tfunc [.prim .int32] (.prim .bool)]) = "((int32)->bool)".toList := by decide +kernel

/-! ## negative witnesses: every side condition is necessary -/

/-- (1) kind: an enum and a struct of one name are both in the fragment and spelled alike — the conclusion
can only be `eraseKind t = eraseKind u` -/
example : ffrag (.tenum "E".toList) = true ∧ ffrag (.tstruct "E".toList) = true ∧
    tyCompact (.tenum "E".toList) = tyCompact (.tstruct "E".toList) := by decide +kernel

theorem tyCompact_not_injective_without_kinds :
    ¬ ∀ t u : Ty, ffrag t = true → ffrag u = true → tyCompact t = tyCompact u → t = u := by
  intro h
  have := h (.tenum "E".toList) (.tstruct "E".toList) (by decide) (by decide) (by decide)
  exact Ty.noConfusion this

/-- (1') … also at the head of an application -/
example : tyCompact (.tapp (.tenum "Opt".toList) [.prim .int32]) = tyCompact (.tapp (.tstruct "Opt".toList) [.prim .int32]) := by decide +kernel

/-- (2) **DEFECT**: `dyn Show` is spelled `dynShow`, like a struct of that name (`identOk` accepts it, only the
`dyn`-prefix condition of `nameOk` excludes it) … -/
example : tyCompact (.tdyn "Show".toList) = tyCompact (.tstruct "dynShow".toList) ∧
    identOk "dynShow".toList = true ∧ nameOk "dynShow".toList = false := by decide +kernel

/-- … so `Opt[dyn Show]` and `Opt[dynShow]` are one instance `Opt__dynShow` -/
example : monoTypeName "Opt".toList [.tdyn "Show".toList] = monoTypeName "Opt".toList [.tstruct "dynShow".toList] ∧
    monoTypeName "Opt".toList [.tdyn "Show".toList] = "Opt__dynShow".toList := by decide +kernel

/-- (2') trait names must be identifier runs: `(dyn A,B)` (one component) vs `(dyn A, B)` -/
example : tyCompact (.ttuple [.tdyn "A,B".toList]) = tyCompact (.ttuple [.tdyn "A".toList, .tstruct "B".toList]) ∧
    traitOk "A,B".toList = false := by decide +kernel

/-- (3) `Vec[e]` / `Ref[e]` vs an application of a struct called `Vec` / `Ref` -/
example : tyCompact (.tvec (.prim .int32)) = tyCompact (.tapp (.tstruct "Vec".toList) [.prim .int32]) ∧
    identOk "Vec".toList = true ∧ nameOk "Vec".toList = false := by decide +kernel
example : tyCompact (.tref (.prim .int32)) = tyCompact (.tapp (.tstruct "Ref".toList) [.prim .int32]) ∧
    identOk "Ref".toList = true ∧ nameOk "Ref".toList = false := by decide +kernel

/-- (4) a nominal type named like a primitive -/
example : tyCompact (.tstruct "int32".toList) = tyCompact (.prim .int32) ∧ nameOk "int32".toList = false := by decide +kernel

/-- (5) an application to no arguments is printed like its head (`!args.isEmpty` in `ffrag`) -/
example : tyCompact (.tapp (.tstruct "S".toList) []) = tyCompact (.tstruct "S".toList) ∧
    ffrag (.tapp (.tstruct "S".toList) []) = false := by decide +kernel

/-- (6) names with characters outside the identifier class: `S[a]` as a NAME vs the application -/
example : tyCompact (.tstruct "S[a]".toList) = tyCompact (.tapp (.tstruct "S".toList) [.tstruct "a".toList]) ∧
    nameOk "S[a]".toList = false := by decide +kernel

end Goml.Mangle
