import GomlVerif.Model.Resolve
import GomlVerif.Lemmas.LowerOkFile
import GomlVerif.Lemmas.ListFacts
/-!
# C05 — names resolve lexically: innermost binding wins and bindings never leak

`resolve*` is the implementation model (tied to `name_resolution.rs` by the correspondence run of
`./check C05`), `spec*` the declarative reading (environment only passed down), `scoped*` the names-only
well-scopedness judgement.  Package-level names (`Globals`: constructors, definitions) are
the outermost scope: `resolveName` looks the local environment up first.  `conOk*` says that
AST lowering (`crates/ast/src/lower.rs`, which classifies bare names by spelling before resolution
runs) called no locally bound name a constructor; `./check C05` evaluates it on the real AST
of every case, and `resolve_refines_spec` holds under it.
-/
namespace Goml.Resolve

/-! ## helper lemmas -/

/-- Induction over an expression together with the three lists it nests (arguments, block items, arms).  Built by hand:
the facts below relate `resolve*` to `spec*`, which recurse alike, and the induction principle of either is phrased with
its own calls. -/
theorem Expr.induct {PE : Expr → Prop} {PL : List Expr → Prop} {PI : List Item → Prop} {PA : List Arm → Prop}
    (var : ∀ x tag, PE (.var x tag)) (con : ∀ x tag args, PL args → PE (.con x tag args))
    (node : ∀ es, PL es → PE (.node es)) (block : ∀ items, PI items → PE (.block items))
    (matchE : ∀ s arms, PE s → PA arms → PE (.matchE s arms)) (closure : ∀ ps b, PE b → PE (.closure ps b))
    (lnil : PL []) (lcons : ∀ e es, PE e → PL es → PL (e :: es))
    (inil : PI []) (ilet : ∀ p v rest, PE v → PI rest → PI (.letI p v :: rest))
    (iexpr : ∀ e rest, PE e → PI rest → PI (.exprI e :: rest))
    (anil : PA []) (acons : ∀ p b rest, PE b → PA rest → PA (.mk p b :: rest)) : ∀ e, PE e :=
  Expr.rec (motive_1 := PE) (motive_2 := fun it => ∀ rest, PI rest → PI (it :: rest))
    (motive_3 := fun a => ∀ rest, PA rest → PA (a :: rest)) (motive_4 := PL) (motive_5 := PI) (motive_6 := PA)
    var con node block matchE closure (fun p v hv rest hr => ilet p v rest hv hr) (fun e he rest hr => iexpr e rest he hr)
    (fun p b hb rest hr => acons p b rest hb hr) lnil lcons inil (fun _ rest hit hr => hit rest hr)
    anil (fun _ rest ha hr => ha rest hr)

theorem resolvePat_eq (p : Pat) (s : St) :
    resolvePat p s =
      { env := s.env ++ (patBinds p s.next).1, next := (patBinds p s.next).2.2,
        out := s.out ++ (patBinds p s.next).2.1 } := by
  apply Pat.rec
    (motive_1 := fun p => ∀ s, resolvePat p s =
      { env := s.env ++ (patBinds p s.next).1, next := (patBinds p s.next).2.2,
        out := s.out ++ (patBinds p s.next).2.1 })
    (motive_2 := fun ps => ∀ s, resolvePats ps s =
      { env := s.env ++ (patsBinds ps s.next).1, next := (patsBinds ps s.next).2.2,
        out := s.out ++ (patsBinds ps s.next).2.1 })
  · intro x tag s; simp [resolvePat, patBinds]
  · intro ps ih s; simpa [resolvePat, patBinds] using ih s
  · intro s; simp [resolvePats, patsBinds]
  · intro p ps ihp ihps s
    simp only [resolvePats, patsBinds]
    rw [ihp s, ihps]
    simp [List.append_assoc]

theorem patBinds_names (p : Pat) (n : Nat) : (patBinds p n).1.map (·.1) = patNames p := by
  apply Pat.rec
    (motive_1 := fun p => ∀ n, (patBinds p n).1.map (·.1) = patNames p)
    (motive_2 := fun ps => ∀ n, (patsBinds ps n).1.map (·.1) = patsNames ps)
  · intro x tag n; simp [patBinds, patNames]
  · intro ps ih n; simpa [patBinds, patNames] using ih n
  · intro n; simp [patsBinds, patsNames]
  · intro p ps ihp ihps n; simp [patsBinds, patsNames, ihp, ihps]

/-- a parameter list binds like the pattern whose parts are its variables, in order: what holds of patterns holds
    of parameter lists -/
def paramPat (ps : List (String × Nat)) : Pat := .other (ps.map fun p => .var p.1 p.2)

theorem paramBinds_eq (ps : List (String × Nat)) (n : Nat) : paramBinds ps n = patBinds (paramPat ps) n := by
  induction ps generalizing n with
  | nil => rfl
  | cons p ps ih =>
    have := ih (n + 1)
    simp only [paramPat, patBinds] at this
    simp [paramBinds, paramPat, patBinds, patsBinds, this]

theorem resolveParams_eq_pat (ps : List (String × Nat)) (s : St) : resolveParams ps s = resolvePat (paramPat ps) s := by
  induction ps generalizing s with
  | nil => rfl
  | cons p ps ih => simpa [resolveParams, paramPat, resolvePat, resolvePats] using ih _

theorem patNames_paramPat (ps : List (String × Nat)) : patNames (paramPat ps) = ps.map (·.1) := by
  induction ps with
  | nil => rfl
  | cons p ps ih => simpa [paramPat, patNames, patsNames] using ih

theorem resolveParams_eq (ps : List (String × Nat)) (s : St) :
    resolveParams ps s =
      { env := s.env ++ (paramBinds ps s.next).1, next := (paramBinds ps s.next).2.2,
        out := s.out ++ (paramBinds ps s.next).2.1 } := by
  rw [resolveParams_eq_pat, paramBinds_eq, resolvePat_eq]

theorem paramBinds_names (ps : List (String × Nat)) (n : Nat) :
    (paramBinds ps n).1.map (·.1) = ps.map (·.1) := by
  rw [paramBinds_eq, patBinds_names, patNames_paramPat]

/-- the local environment has no entry for `x` exactly when no enclosing binder has that name -/
theorem lookup_none_iff (env : Env) (x : String) :
    lookup env x = none ↔ x ∉ env.map (·.1) := by
  have h := find?_key_eq_none (key := fun p : String × Nat => p.1) (l := env.reverse) (k := x)
  rw [List.map_reverse, List.mem_reverse] at h
  rw [← h, lookup]
  cases List.find? (fun p => p.1 == x) env.reverse <;> simp

/-- a bare name with a local binder in scope refers to one … -/
theorem resolveName_of_mem (G : Globals) {env : Env} {x : String} (h : x ∈ env.map (·.1)) :
    ∃ i, resolveName G env x = .loc i := by
  cases hl : lookup env x with
  | none => exact absurd h ((lookup_none_iff env x).1 hl)
  | some i => exact ⟨i, by simp [resolveName, hl]⟩

/-- … and without one to the package-level name, constructors before definitions -/
theorem resolveName_of_not_mem (G : Globals) {env : Env} {x : String} (h : x ∉ env.map (·.1)) :
    resolveName G env x =
      if x ∈ G.ctors then .ctor else if x ∈ G.defs then .defn else .unbound := by
  simp [resolveName, (lookup_none_iff env x).2 h]

/-! ## the implementation refines the specification and never leaks a binding -/

/-- For every expression and every incoming state: provided AST lowering called no locally
    bound name a constructor (`conOkExpr`, evaluated on the real AST by the check), the
    resolver's output is the specification's output — every bare name refers to the innermost
    enclosing local binder of that name, and to a constructor or definition only when there is
    none — and the environment it leaves behind is exactly the one it was given ("bindings
    never leak"). -/
theorem resolve_refines_spec (G : Globals) (e : Expr) (s : St)
    (h : conOkExpr G (s.env.map (·.1)) e = true) :
    resolveExpr G e s =
      { env := s.env, next := (specExpr G s.env s.next e).next,
        out := s.out ++ (specExpr G s.env s.next e).evs } := by
  revert s
  induction e using Expr.induct
    (PL := fun es => ∀ s, conOkList G (s.env.map (·.1)) es = true → resolveList G es s =
      { env := s.env, next := (specList G s.env s.next es).next, out := s.out ++ (specList G s.env s.next es).evs })
    (PI := fun items => ∀ s, conOkItems G (s.env.map (·.1)) items = true → resolveItems G items s =
      { env := (resolveItems G items s).env, next := (specItems G s.env s.next items).next,
        out := s.out ++ (specItems G s.env s.next items).evs })
    (PA := fun arms => ∀ s, conOkArms G (s.env.map (·.1)) arms = true → resolveArms G arms s =
      { env := s.env, next := (specArms G s.env s.next arms).next, out := s.out ++ (specArms G s.env s.next arms).evs }) with
  | var x tag => intro s _; simp [resolveExpr, specExpr]
  | con x tag args ih =>
    intro s h
    simp only [conOkExpr, Bool.and_eq_true, Bool.not_eq_true'] at h
    obtain ⟨⟨h1, h2⟩, h3⟩ := h
    simp only [resolveExpr, specExpr]
    rw [ih { s with out := s.out ++ [Ev.use tag .ctor] } h3,
      resolveName_of_not_mem G (by simpa using h1), if_pos (by simpa using h2)]
    simp
  | node es ih =>
    intro s h
    simp only [conOkExpr] at h
    simpa [resolveExpr, specExpr] using ih s h
  | block items ih =>
    intro s h
    simp only [conOkExpr] at h
    simp only [resolveExpr, specExpr]
    rw [ih s h]
  | matchE scrut arms ihs iha =>
    intro s h
    simp only [conOkExpr, Bool.and_eq_true] at h
    simp only [resolveExpr, specExpr]
    rw [ihs s h.1, iha]
    · simp [List.append_assoc]
    · exact h.2
  | closure ps body ih =>
    intro s h
    simp only [conOkExpr] at h
    simp only [resolveExpr, specExpr]
    rw [resolveParams_eq, ih]
    · simp [List.append_assoc]
    · simpa [paramBinds_names] using h
  | lnil => simp [resolveList, specList]
  | lcons e es ihe ihes =>
    -- `induction … with` has introduced the `∀ s, … →` of a list motive anonymously; `rename_i` names the two
    rename_i s h
    simp only [conOkList, Bool.and_eq_true] at h
    simp only [resolveList, specList]
    rw [ihe s h.1, ihes]
    · simp [List.append_assoc]
    · exact h.2
  | inil => simp [resolveItems, specItems]
  | ilet p v rest ihv hrest =>
    rename_i s h
    simp only [conOkItems, Bool.and_eq_true] at h
    simp only [resolveItems, specItems]
    rw [ihv s h.1, resolvePat_eq, hrest]
    · simp [List.append_assoc]
    · simpa [patBinds_names] using h.2
  | iexpr e rest ihe hrest =>
    rename_i s h
    simp only [conOkItems, Bool.and_eq_true] at h
    simp only [resolveItems, specItems]
    rw [ihe s h.1, hrest]
    · simp [List.append_assoc]
    · exact h.2
  | anil => simp [resolveArms, specArms]
  | acons p body rest ihb hrest =>
    rename_i s h
    simp only [conOkArms, Bool.and_eq_true] at h
    simp only [resolveArms, specArms]
    rw [resolvePat_eq, ihb, hrest]
    · simp [List.append_assoc]
    · exact h.2
    · simpa [patBinds_names] using h.1

/-- whole functions: parameters are bound first (one fresh id each), then the body is resolved. -/
theorem resolveFn_refines_spec (G : Globals) (params : List (String × Nat)) (body : Expr)
    (h : conOkExpr G (params.map (·.1)) body = true) :
    (resolveFn G params body).out = (specFn G params body).evs ∧
    (resolveFn G params body).next = (specFn G params body).next := by
  unfold resolveFn specFn
  rw [resolveParams_eq, resolve_refines_spec]
  · simp
  · simpa [paramBinds_names] using h

/-! ## innermost binding wins, also against constructors and definitions -/

theorem lookup_innermost (env : Env) (x : String) (i : Nat) :
    lookup (env ++ [(x, i)]) x = some i := by
  simp [lookup, List.reverse_append]

/-- **The innermost local binder wins**, whatever the package declares: after a binder of `x`
    a bare `x` refers to that binder — not to an outer or earlier binder of the same name, not to
    a constructor `x`, not to a function `x`. -/
theorem innermost_wins (G : Globals) (env : Env) (x : String) (i : Nat) :
    resolveName G (env ++ [(x, i)]) x = .loc i := by
  simp [resolveName, lookup_innermost]

theorem lookup_other (env : Env) (x y : String) (i : Nat) (h : y ≠ x) :
    lookup (env ++ [(y, i)]) x = lookup env x := by
  simp [lookup, List.reverse_append, h]

/-- a binder of another name changes nothing -/
theorem other_name_transparent (G : Globals) (env : Env) (x y : String) (i : Nat) (h : y ≠ x) :
    resolveName G (env ++ [(y, i)]) x = resolveName G env x := by
  simp [resolveName, lookup_other env x y i h]

theorem lookup_append (env ext : Env) (x : String) :
    lookup (env ++ ext) x = match lookup ext x with
      | some i => some i
      | none => lookup env x := by
  simp only [lookup, List.reverse_append, List.find?_append]
  cases h : List.find? (fun p => p.1 == x) ext.reverse <;> simp

theorem resolveName_spec (G : Globals) (env : Env) (x : String) :
    (x ∈ env.map (·.1) ∧ ∃ i, resolveName G env x = .loc i) ∨
    (x ∉ env.map (·.1) ∧ x ∈ G.ctors ∧ resolveName G env x = .ctor) ∨
    (x ∉ env.map (·.1) ∧ x ∉ G.ctors ∧ x ∈ G.defs ∧ resolveName G env x = .defn) ∨
    (x ∉ env.map (·.1) ∧ x ∉ G.ctors ∧ x ∉ G.defs ∧ resolveName G env x = .unbound) := by
  by_cases h : x ∈ env.map (·.1)
  · exact .inl ⟨h, resolveName_of_mem G h⟩
  · rw [resolveName_of_not_mem G h]
    by_cases hc : x ∈ G.ctors
    · simp [h, hc]
    · by_cases hd : x ∈ G.defs <;> simp [h, hc, hd]

/-- a bare name refers to a local binder exactly when one is in scope … -/
theorem local_iff (G : Globals) (env : Env) (x : String) :
    (∃ i, resolveName G env x = .loc i) ↔ x ∈ env.map (·.1) := by
  rcases resolveName_spec G env x with ⟨h, i, r⟩ | ⟨h, c, r⟩ | ⟨h, c, d, r⟩ | ⟨h, c, d, r⟩ <;> simp [*]

/-- … to a constructor exactly when no local binder is in scope and the package has one … -/
theorem ctor_iff (G : Globals) (env : Env) (x : String) :
    resolveName G env x = .ctor ↔ x ∉ env.map (·.1) ∧ x ∈ G.ctors := by
  rcases resolveName_spec G env x with ⟨h, i, r⟩ | ⟨h, c, r⟩ | ⟨h, c, d, r⟩ | ⟨h, c, d, r⟩ <;> simp [*]

/-- … and is unresolved exactly when neither a binder nor a package-level name exists -/
theorem unresolved_iff (G : Globals) (env : Env) (x : String) :
    resolveName G env x = .unbound ↔ x ∉ env.map (·.1) ∧ x ∉ G.ctors ∧ x ∉ G.defs := by
  rcases resolveName_spec G env x with ⟨h, i, r⟩ | ⟨h, c, r⟩ | ⟨h, c, d, r⟩ | ⟨h, c, d, r⟩ <;> simp [*]

/-- two binders of one name in one parameter list / pattern: the later one is the binder of
    every use that follows (each has an id of its own, see `binder_ids_fresh`) -/
theorem duplicate_later_wins (G : Globals) (env : Env) (x : String) (i j : Nat) :
    resolveName G (env ++ [(x, i), (x, j)]) x = .loc j := by
  have : env ++ [(x, i), (x, j)] = (env ++ [(x, i)]) ++ [(x, j)] := by simp
  rw [this, innermost_wins]

/-! ## accepted for scoping reasons iff well-scoped by the lexical rules -/

theorem patBinds_binds_only (p : Pat) (n : Nat) : allResolved (patBinds p n).2.1 = true := by
  apply Pat.rec
    (motive_1 := fun p => ∀ n, allResolved (patBinds p n).2.1 = true)
    (motive_2 := fun ps => ∀ n, allResolved (patsBinds ps n).2.1 = true)
  · intro x tag n; simp [patBinds, allResolved]
  · intro ps ih n; simpa [patBinds] using ih n
  · intro n; simp [patsBinds, allResolved]
  · intro p ps ihp ihps n
    have h1 := ihp n
    have h2 := ihps (patBinds p n).2.2
    simp only [allResolved, List.all_eq_true] at h1 h2 ⊢
    simp only [patsBinds, List.mem_append]
    rintro e (he | he)
    · exact h1 e he
    · exact h2 e he

theorem paramBinds_binds_only (ps : List (String × Nat)) (n : Nat) :
    allResolved (paramBinds ps n).2.1 = true := by
  rw [paramBinds_eq]; exact patBinds_binds_only _ n

theorem allResolved_append (a b : List Ev) :
    allResolved (a ++ b) = (allResolved a && allResolved b) := by
  simp [allResolved, List.all_append]

/-- the names in scope: package-level names outermost, then the local binders -/
def scopeNames (G : Globals) (env : Env) : List String := G.ctors ++ G.defs ++ env.map (·.1)

theorem use_resolved_iff (G : Globals) (env : Env) (x : String) (tag : Nat) :
    allResolved [Ev.use tag (resolveName G env x)] = (scopeNames G env).contains x := by
  rcases resolveName_spec G env x with ⟨h, i, r⟩ | ⟨h, c, r⟩ | ⟨h, c, d, r⟩ | ⟨h, c, d, r⟩ <;>
    simp [*, allResolved, scopeNames]

theorem scopeNames_append_pat (G : Globals) (env : Env) (p : Pat) (n : Nat) :
    scopeNames G (env ++ (patBinds p n).1) = scopeNames G env ++ patNames p := by
  simp [scopeNames, patBinds_names, List.append_assoc]

theorem scopeNames_append_params (G : Globals) (env : Env) (ps : List (String × Nat)) (n : Nat) :
    scopeNames G (env ++ (paramBinds ps n).1) = scopeNames G env ++ ps.map (·.1) := by
  simp [scopeNames, paramBinds_names, List.append_assoc]

/-- **Acceptance = lexical well-scopedness.** With the package-level names as the outermost
    scope and the names of `env` inside them, every use in `e` is resolved by the specification
    iff `e` is well-scoped; with `resolve_refines_spec` the same holds for the implementation
    model. -/
theorem spec_resolved_iff_scoped (G : Globals) (e : Expr) (env : Env) (n : Nat) :
    allResolved (specExpr G env n e).evs = scopedExpr (scopeNames G env) e := by
  revert env n
  induction e using Expr.induct
    (PL := fun es => ∀ env n, allResolved (specList G env n es).evs = scopedList (scopeNames G env) es)
    (PI := fun items => ∀ env n, allResolved (specItems G env n items).evs = scopedItems (scopeNames G env) items)
    (PA := fun arms => ∀ env n, allResolved (specArms G env n arms).evs = scopedArms (scopeNames G env) arms) with
  | var x tag => intro env n; simp only [specExpr, scopedExpr, use_resolved_iff]
  | con x tag args ih =>
    intro env n
    simp only [specExpr, scopedExpr]
    rw [← List.singleton_append, allResolved_append, use_resolved_iff, ih]
  | node es ih => intro env n; simpa [specExpr, scopedExpr] using ih env n
  | block items ih => intro env n; simpa [specExpr, scopedExpr] using ih env n
  | matchE scrut arms ihs iha => intro env n; simp only [specExpr, scopedExpr, allResolved_append, ihs, iha]
  | closure ps body ih =>
    intro env n
    simp only [specExpr, scopedExpr, allResolved_append, paramBinds_binds_only, Bool.true_and, ih, scopeNames_append_params]
  | lnil => rename_i env n; simp [specList, scopedList, allResolved]
  | lcons e es ihe ihes => rename_i env n; simp only [specList, scopedList, allResolved_append, ihe, ihes]
  | inil => rename_i env n; simp [specItems, scopedItems, allResolved]
  | ilet p v rest ihv hrest =>
    rename_i env n
    simp only [specItems, scopedItems, allResolved_append, ihv, patBinds_binds_only, hrest, Bool.and_true,
      scopeNames_append_pat]
  | iexpr e rest ihe hrest => rename_i env n; simp only [specItems, scopedItems, allResolved_append, ihe, hrest]
  | anil => rename_i env n; simp [specArms, scopedArms, allResolved]
  | acons p body rest ihb hrest =>
    rename_i env n
    simp only [specArms, scopedArms, allResolved_append, patBinds_binds_only, Bool.true_and, ihb, hrest,
      scopeNames_append_pat]

/-- the same statement for the implementation model, from an empty output buffer -/
theorem resolve_accepts_iff_scoped (G : Globals) (e : Expr) (env : Env) (n : Nat)
    (h : conOkExpr G (env.map (·.1)) e = true) :
    allResolved (resolveExpr G e { env := env, next := n, out := [] }).out
      = scopedExpr (scopeNames G env) e := by
  rw [resolve_refines_spec G e _ h]; simpa using spec_resolved_iff_scoped G e env n

/-! ## shadowing never changes what outer or earlier uses refer to -/

/-- earlier output is never rewritten: what was resolved before `e` stays resolved the same way -/
theorem earlier_uses_unchanged (G : Globals) (e : Expr) (s : St)
    (h : conOkExpr G (s.env.map (·.1)) e = true) :
    ∃ ext, (resolveExpr G e s).out = s.out ++ ext := by
  rw [resolve_refines_spec G e s h]; exact ⟨_, rfl⟩

/-- a later sibling is resolved in the *same* environment as its predecessor, whatever the
    predecessor bound inside itself (only the id counter advances) -/
theorem later_sibling_env (G : Globals) (e : Expr) (es : List Expr) (s : St)
    (h : conOkExpr G (s.env.map (·.1)) e = true) :
    resolveList G (e :: es) s = resolveList G es
      { env := s.env, next := (specExpr G s.env s.next e).next,
        out := s.out ++ (specExpr G s.env s.next e).evs } := by
  simp only [resolveList]; rw [resolve_refines_spec G e s h]

/-! ## every binder occurrence has an identity of its own -/

/-- `evs` hands out exactly the ids `n, n+1, …, m-1`, in order -/
def Fresh (n : Nat) (evs : List Ev) (m : Nat) : Prop :=
  n ≤ m ∧ bindIds evs = List.range' n (m - n)

theorem Fresh.nil (n : Nat) : Fresh n [] n := by simp [Fresh, bindIds]

theorem bindIds_append (a b : List Ev) : bindIds (a ++ b) = bindIds a ++ bindIds b := by
  simp [bindIds, List.filterMap_append]

theorem Fresh.append {n m k : Nat} {a b : List Ev} (h1 : Fresh n a m) (h2 : Fresh m b k) :
    Fresh n (a ++ b) k := by
  obtain ⟨l1, e1⟩ := h1
  obtain ⟨l2, e2⟩ := h2
  refine ⟨Nat.le_trans l1 l2, ?_⟩
  rw [bindIds_append, e1, e2]
  have : k - n = (m - n) + (k - m) := by omega
  rw [this, ← List.range'_append_1]
  congr 2; omega

theorem Fresh.use (n tag : Nat) (r : Ref) : Fresh n [Ev.use tag r] n := by
  simp [Fresh, bindIds]

theorem patBinds_fresh (p : Pat) (n : Nat) : Fresh n (patBinds p n).2.1 (patBinds p n).2.2 := by
  revert n
  apply Pat.rec
    (motive_1 := fun p => ∀ n, Fresh n (patBinds p n).2.1 (patBinds p n).2.2)
    (motive_2 := fun ps => ∀ n, Fresh n (patsBinds ps n).2.1 (patsBinds ps n).2.2)
  · intro x tag n; simp [patBinds, Fresh, bindIds]
  · intro ps ih n; simpa [patBinds] using ih n
  · intro n; simpa [patsBinds] using Fresh.nil n
  · intro p ps ihp ihps n
    simp only [patsBinds]
    exact (ihp n).append (ihps _)

theorem paramBinds_fresh (ps : List (String × Nat)) (n : Nat) :
    Fresh n (paramBinds ps n).2.1 (paramBinds ps n).2.2 := by
  rw [paramBinds_eq]; exact patBinds_fresh _ n

/-- **Every binder occurrence gets an id of its own**: the ids handed out while resolving `e`
    are exactly `n, n+1, …` in traversal order — so two binders never share an id, in
    particular not two parameters, closure parameters or pattern variables of the same name. -/
theorem spec_binder_ids_fresh (G : Globals) (e : Expr) (env : Env) (n : Nat) :
    Fresh n (specExpr G env n e).evs (specExpr G env n e).next := by
  revert env n
  induction e using Expr.induct
    (PL := fun es => ∀ env n, Fresh n (specList G env n es).evs (specList G env n es).next)
    (PI := fun items => ∀ env n, Fresh n (specItems G env n items).evs (specItems G env n items).next)
    (PA := fun arms => ∀ env n, Fresh n (specArms G env n arms).evs (specArms G env n arms).next) with
  | var x tag => intro env n; simpa [specExpr] using Fresh.use n tag _
  | con x tag args ih =>
    intro env n
    simp only [specExpr]
    rw [← List.singleton_append]
    exact (Fresh.use n tag _).append (ih env n)
  | node es ih => intro env n; simpa [specExpr] using ih env n
  | block items ih => intro env n; simpa [specExpr] using ih env n
  | matchE scrut arms ihs iha => intro env n; simp only [specExpr]; exact (ihs env n).append (iha env _)
  | closure ps body ih => intro env n; simp only [specExpr]; exact (paramBinds_fresh ps n).append (ih _ _)
  | lnil => rename_i env n; simpa [specList] using Fresh.nil n
  | lcons e es ihe ihes => rename_i env n; simp only [specList]; exact (ihe env n).append (ihes env _)
  | inil => rename_i env n; simpa [specItems] using Fresh.nil n
  | ilet p v rest ihv hrest =>
    rename_i env n; simp only [specItems]; exact ((ihv env n).append (patBinds_fresh p _)).append (hrest _ _)
  | iexpr e rest ihe hrest => rename_i env n; simp only [specItems]; exact (ihe env n).append (hrest _ _)
  | anil => rename_i env n; simpa [specArms] using Fresh.nil n
  | acons p body rest ihb hrest =>
    rename_i env n; simp only [specArms]; exact ((patBinds_fresh p n).append (ihb _ _)).append (hrest _ _)

/-- whole functions, implementation model: the binder ids of a function are `0, 1, …` without
    repetition — each parameter, also a duplicated one, is a binder of its own -/
theorem binder_ids_fresh (G : Globals) (params : List (String × Nat)) (body : Expr)
    (h : conOkExpr G (params.map (·.1)) body = true) :
    (bindIds (resolveFn G params body).out).Nodup := by
  rw [(resolveFn_refines_spec G params body h).1]
  have hf : Fresh 0 (specFn G params body).evs (specFn G params body).next := by
    unfold specFn
    exact (paramBinds_fresh params 0).append (spec_binder_ids_fresh G body _ _)
  rw [hf.2]
  exact List.nodup_range'

/-! ## non-vacuity: a concrete nest that shadows in a block, an arm and a closure -/

/-- `fn f(a) { let a = a; { let a = a; a }; match a { a => a }; (|a| a); a }` -/
def demo : Expr :=
  .block [ .letI (.var "a" 10) (.var "a" 11),
           .exprI (.block [.letI (.var "a" 20) (.var "a" 21), .exprI (.var "a" 22)]),
           .exprI (.matchE (.var "a" 30) [.mk (.var "a" 31) (.var "a" 32)]),
           .exprI (.closure [("a", 40)] (.var "a" 41)),
           .exprI (.var "a" 50) ]

def noGlobals : Globals := { ctors := [], defs := [] }

example : (resolveFn noGlobals [("a", 1)] demo).out =
    [ .bind 0 1, .use 11 (.loc 0), .bind 1 10, .use 21 (.loc 1), .bind 2 20, .use 22 (.loc 2),
      .use 30 (.loc 1), .bind 3 31, .use 32 (.loc 3), .bind 4 40, .use 41 (.loc 4),
      .use 50 (.loc 1) ] := by decide +kernel

example : conOkExpr noGlobals ["a"] demo = true := by decide +kernel
example : scopedExpr ["a"] demo = true := by decide +kernel
example : scopedExpr [] (.block [.exprI (.block [.letI (.var "x" 0) (.node [])]), .exprI (.var "x" 1)])
    = false := by decide +kernel

/-- `enum Color { red, Blue(int32) }  fn paint() …`:
    `fn f(red, paint) { red; paint; Blue(red); (|Blue| Blue(red)); green; f }` with
    `green` unbound — locals win over the constructor `red`/`Blue` and the function `paint` -/
def colors : Globals := { ctors := ["red", "Blue"], defs := ["paint", "f"] }

def clash : Expr :=
  .block [ .exprI (.var "red" 10), .exprI (.var "paint" 11),
           .exprI (.con "Blue" 12 [.var "red" 13]),
           .exprI (.closure [("Blue", 20)] (.node [.var "Blue" 21, .var "red" 22])),
           .exprI (.var "green" 30), .exprI (.var "f" 31) ]

example : conOkExpr colors ["red", "paint"] clash = true := by decide +kernel
example : (resolveFn colors [("red", 1), ("paint", 2)] clash).out =
    [ .bind 0 1, .bind 1 2, .use 10 (.loc 0), .use 11 (.loc 1), .use 12 .ctor, .use 13 (.loc 0),
      .bind 2 20, .use 21 (.loc 2), .use 22 (.loc 0), .use 30 .unbound, .use 31 .defn ] := by decide +kernel
/-- without the binders the same names are the constructor and the function -/
example : (resolveFn colors [] (.node [.var "red" 1, .var "paint" 2])).out =
    [ .use 1 .ctor, .use 2 .defn ] := by decide +kernel
/-- `fn f(red) { red }` with the use lowered as a constructor: a `con` under a binder of its
    name — `conOk` is false, and the implementation model and the specification differ -/
example : conOkExpr colors ["red"] (.con "red" 5 []) = false := by decide +kernel
example : (resolveFn colors [("red", 1)] (.con "red" 5 [])).out ≠
    (specFn colors [("red", 1)] (.con "red" 5 [])).evs := by decide +kernel
/-- `fn f(a, a) { a }`, `|a, a| a`, `let (a, a) = …; a`: two ids, the later binder wins -/
example : (resolveFn noGlobals [("a", 1), ("a", 2)]
      (.block [ .exprI (.var "a" 3), .exprI (.closure [("a", 4), ("a", 5)] (.var "a" 6)),
                .letI (.other [.var "a" 7, .var "a" 8]) (.node []), .exprI (.var "a" 9) ])).out =
    [ .bind 0 1, .bind 1 2, .use 3 (.loc 1), .bind 2 4, .bind 3 5, .use 6 (.loc 3),
      .bind 4 7, .bind 5 8, .use 9 (.loc 5) ] := by decide +kernel

end Goml.Resolve

/-! ## Lowering composed with resolution

`Model/Lower.lean` (tied to `crates/ast/src/lower.rs` on the real rowan tree of every text) produces only ASTs that satisfy
`conOk*`, the hypothesis under which the resolver model refines the specification. -/
namespace Goml.Lower
open Goml.Src

/-- For EVERY tree `file`: take any function `f` of the file the lowering model
builds from it — a top-level function or a method of an `impl` block — and resolve its body (as the scope tree
`scopeOf f.body`, parameters `ps` spelled as `f`'s parameters, any tags) against the file's own constructor set and
any set `D` of definitions: the resolver MODEL (one mutable environment, save / restore) emits exactly the events of
the SPECIFICATION (environment passed down only) and hands out the same ids.  No `conOk` hypothesis: it is discharged by
`fnOk_of_lowerFile` (`Lemmas/LowerOkFile.lean`; stated as `lower_ctor_iff_file`, Props/Lower.lean). -/
theorem lowered_file_resolves_as_spec (file : Cst) (D : List String) (f : FnDef)
    (hf : Item.fn f ∈ (lowerFile file).built.items ∨
          ∃ d, Item.impl d ∈ (lowerFile file).built.items ∧ f ∈ d.methods)
    (ps : List (String × Nat)) (hps : ps.map (·.1) = f.params.map (·.1)) :
    (Resolve.resolveFn ⟨collectConstructorNames file, D⟩ ps (scopeOf f.body)).out =
      (Resolve.specFn ⟨collectConstructorNames file, D⟩ ps (scopeOf f.body)).evs ∧
    (Resolve.resolveFn ⟨collectConstructorNames file, D⟩ ps (scopeOf f.body)).next =
      (Resolve.specFn ⟨collectConstructorNames file, D⟩ ps (scopeOf f.body)).next := by
  exact Resolve.resolveFn_refines_spec _ ps _ (by rw [hps]; exact conOk_expr D _ _ (fnOk_of_lowerFile hf))

end Goml.Lower
