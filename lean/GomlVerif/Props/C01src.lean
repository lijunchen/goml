import GomlVerif.Model.Resolve
import GomlVerif.Lemmas.ListFacts
import GomlVerif.Lemmas.C01src
/-!
# C01 — the SOURCE-LEVEL reference (`Model/SrcSem.lean`)

`./check C01` compares, per program, the outcome of the surface program under `Src.run` with the
outcome of every later stage (real Core/Mono/Lift/ANF dumps under `Sem`, real Go AST under
`Go.Sem`).  What that comparison can catch is bounded by what `SrcSem` itself promises.  The
theorems here are those promises, for ALL programs, values and field orders:

* struct patterns and struct literals mean the same whatever order their fields are written in
  (binding / storing is by field NAME), while the initialisers of a literal run in written order;
* the environment discipline is the lexical one of property C05: environments are only ever
  passed DOWN (a `let` extends the rest of its block, an arm its body, a closure captures the
  environment of its creation), and reading a variable finds the binder the resolver model of
  C05 (`Model/Resolve.lean`) designates.

So an elaboration that pairs sub-patterns with fields by POSITION in written order cannot agree with `SrcSem` on a program that writes a
pattern's fields in another order than the declaration and distinguishes the fields.
-/
namespace Goml.C01src
open Goml.Src

/-- **A struct pattern matches by field name.**  For every value and every permutation of the
    written field patterns: the permuted pattern matches iff the original does, and binds the same
    variables to the same values (the binding lists agree up to order). -/
theorem src_struct_pattern_by_name (T : Tab) (pkg : String) (path : List String)
    (fs fs' : List FieldPat) (h : fs.Perm fs') (v : Val) :
    OptPerm (matchPat T pkg (.struct path fs) v) (matchPat T pkg (.struct path fs') v) := by
  cases v with
  | structV ty vals =>
    simp only [matchPat]
    split -- is `ty` the pattern's type?
    · split -- is it in the table?
      · exact matchFields_perm T pkg _ _ h
      · exact OptPerm.refl _
    · exact OptPerm.refl _
  | _ => simp only [matchPat]; exact OptPerm.refl _

/-- … hence it selects the same arm of a `match` / decides a refutable `let` the same way -/
theorem src_struct_pattern_same_arm (T : Tab) (pkg : String) (path : List String)
    (fs fs' : List FieldPat) (h : fs.Perm fs') (v : Val) :
    (matchPat T pkg (.struct path fs) v).isSome = (matchPat T pkg (.struct path fs') v).isSome := by
  have := src_struct_pattern_by_name T pkg path fs fs' h v
  cases h1 : matchPat T pkg (.struct path fs) v <;> cases h2 : matchPat T pkg (.struct path fs') v <;>
    simp_all [OptPerm]

/-- … and, when the pattern binds each variable once, every variable of the arm body / the rest
    of the block reads the same value: the extended environments are indistinguishable -/
theorem src_struct_pattern_same_env (T : Tab) (pkg : String) (path : List String)
    (fs fs' : List FieldPat) (h : fs.Perm fs') (v : Val) (bs bs' : Env)
    (h1 : matchPat T pkg (.struct path fs) v = some bs)
    (h2 : matchPat T pkg (.struct path fs') v = some bs')
    (linear : (bs.map (·.1)).Nodup) (ρ : Env) (x : String) :
    lookupEnv (bindAll ρ bs') x = lookupEnv (bindAll ρ bs) x := by
  have hp : bs.Perm bs' := by
    have := src_struct_pattern_by_name T pkg path fs fs' h v
    rw [h1, h2] at this
    exact this
  have hr : bs.reverse.Perm bs'.reverse := (List.reverse_perm bs).trans (hp.trans (List.reverse_perm bs').symm)
  have nd : (bs.reverse.map (·.1)).Nodup := by
    rw [List.map_reverse]
    exact (List.Perm.nodup_iff (List.reverse_perm _)).mpr linear
  simp only [lookupEnv, bindAll, List.find?_append, find?_key_perm hr nd x]

/-- **A struct literal stores by field name.**  The stored representation does not depend on the
    order in which the (distinctly named) initialisers were written … -/
theorem src_struct_literal_by_name (decl : List String) (inits inits' : List (String × Val))
    (h : inits.Perm inits') (distinct : (inits.map (·.1)).Nodup) :
    buildStruct decl inits' = buildStruct decl inits := by
  unfold buildStruct
  congr 1
  funext f
  rw [find?_key_perm h distinct f]

/-- … while the initialisers RUN in the order they are written: the first written one first, in
    the world it leaves behind the remaining ones, and a failure stops the rest -/
theorem src_struct_literal_written_order (fuel : Nat) (T : Tab) (ctx : Ctx) (ρ : Env) (w : World)
    (f : String) (e : Src.Expr) (rest : List FieldInit) :
    evalFields (fuel + 1) T ctx ρ w (.mk f e :: rest) =
      (match eval fuel T ctx ρ w e with
       | .fail x w => .fail x w
       | .ok v w =>
         match evalFields fuel T ctx ρ w rest with
         | .fail x w => .fail x w
         | .ok vs w => .ok ((f, v) :: vs) w) := by
  rw [evalFields]; rfl

/-- in the source meaning (`litDeclOrder = false`) nothing reorders the written initialisers -/
theorem src_struct_literal_no_reordering (decl : List String) (fs : List FieldInit) :
    initOrder false decl fs = fs := rfl

/-- **Lexical scope: environments are only passed down.**
    (1) `let p = e` binds the variables of `p` for the REST OF ITS BLOCK, evaluated in the
        environment extended by exactly those bindings; a refutable `let` that does not match
        fails with `missing` there;
    (2) a call statement leaves the environment of the following statements untouched — whatever
        it bound inside (nested blocks, arms, closures) is gone;
    (3) the variables of a match arm are visible in its body only: the next arm is tried in the
        environment of the `match`;
    (4) a closure captures the environment of its creation (by value: `ρ` is a list of values);
    (5) it later runs in THAT environment extended by its parameters, whatever the caller's. -/
theorem src_lexical_scope (fuel : Nat) (T : Tab) (ctx : Ctx) (ρ : Env) (w : World) :
    (∀ p ann v e rest,
      evalBlock (fuel + 1) T ctx ρ w (.letE p ann v :: e :: rest) =
        (match eval fuel T ctx ρ w v with
         | .fail f w => .fail f w
         | .ok vv w =>
           match matchPat T ctx.pkg p vv with
           | some bs => evalBlock fuel T ctx (bindAll ρ bs) w (e :: rest)
           | none => .fail (.panic "missing") w)) ∧
    (∀ segs args e rest,
      evalBlock (fuel + 1) T ctx ρ w (.call (.path segs) args :: e :: rest) =
        (match eval fuel T ctx ρ w (.call (.path segs) args) with
         | .fail f w => .fail f w
         | .ok _ w => evalBlock fuel T ctx ρ w (e :: rest))) ∧
    (∀ v p body rest,
      evalArms (fuel + 1) T ctx ρ w v (.mk p body :: rest) =
        (match matchPat T ctx.pkg p v with
         | some bs => eval fuel T ctx (bindAll ρ bs) w body
         | none => evalArms fuel T ctx ρ w v rest)) ∧
    (∀ ps body,
      eval (fuel + 1) T ctx ρ w (.closure ps body) = .ok (.closure ctx (ps.map (·.1)) body ρ) w) ∧
    (∀ cctx ps body cρ args, ps.length = args.length →
      apply (fuel + 1) T w (.closure cctx ps body cρ) args = eval fuel T cctx (bindParams ps args cρ) w body) := by
  -- the rows of `evalBlock` overlap: its equations carry side goals (no `let`, not the last statement)
  refine ⟨?_, ?_, ?_, ?_, ?_⟩
  · intro p ann v e rest; rw [evalBlock]
    · rfl
    · intro h; cases h
  · intro segs args e rest; rw [evalBlock]
    · rfl
    · intro h; cases h
    · intro p ann v h; cases h
  · intro v p body rest; rw [evalArms]; rfl
  · intro ps body; rw [eval]
  · intro cctx ps body cρ args hlen; rw [apply]; simp [hlen]

/-- **Reading a variable finds the innermost binder, as the resolver model of C05 does.**
    `SrcSem` pushes a binding at the FRONT of its environment and reads the first entry of that
    name; `Resolve` (the model of `name_resolution.rs`) pushes at the BACK and reads the last
    (`rfind`).  They are the same function up to the direction the list is written in. -/
theorem src_lookup_is_resolver_lookup (ρ : List (String × Nat)) (x : String) :
    Resolve.lookup ρ.reverse x = (ρ.find? (·.1 == x)).map (·.2) := by
  simp only [Resolve.lookup, List.reverse_reverse]
  cases ρ.find? (fun p => p.1 == x) <;> rfl

theorem src_lookup_innermost (ρ : Env) (x : String) (v : Val) :
    lookupEnv ((x, v) :: ρ) x = some v ∧
    (∀ y w, (y == x) = false → lookupEnv ((y, w) :: ρ) x = lookupEnv ρ x) := by
  constructor
  · simp [lookupEnv]
  · intro y w h; simp [lookupEnv, h]

/-- **A bare name with a local binder in scope means that binder, however it is spelled.**
    No table of the project (constructors, functions, builtins) is consulted: a parameter or
    pattern variable called `Square` is that variable even where an enum of the project has a
    variant `Square`. -/
theorem src_local_binder_wins (T : Tab) (ctx : Ctx) (ρ : Env) (x : String) (v : Val)
    (h : lookupEnv ρ x = some v) : evalPath T ctx ρ [x] = .ok v := by
  simp only [evalPath, h]

/-- **… in CALL position too, whichever way the lowering tagged the node.**  With a local binder
    `x` in scope, `x(args)` applies the value of `x` to the arguments: the node `constr [x] args`
    (what `lower.rs` produces when it takes `x` for a constructor of the file) and the node
    `call (path [x]) args` have the same meaning.  So a lowering that classifies the callee by
    its spelling alone cannot agree with `SrcSem` on a program where the two readings differ. -/
theorem src_local_callee_wins (fuel : Nat) (T : Tab) (ctx : Ctx) (ρ : Env) (w w' : World)
    (x : String) (fv : Val) (args : List Src.Expr) (vs : List Val)
    (h : lookupEnv ρ x = some fv)
    (hargs : evalList (fuel + 1) T ctx ρ w args = .ok vs w') (hne : vs.isEmpty = false) :
    eval (fuel + 2) T ctx ρ w (.constr [x] args) = apply (fuel + 1) T w' fv vs ∧
    eval (fuel + 2) T ctx ρ w (.call (.path [x]) args) = apply (fuel + 1) T w' fv vs := by
  constructor
  · simp only [eval, hargs, h, hne]; rfl
  · simp only [eval, evalPath, h, hargs]

/-! ### non-vacuity: the hypotheses are satisfiable and the statements distinguish programs -/

def demoTab : Tab :=
  { structs := [("Span", { name := "Span", fields := [("start", .int 32 true), ("end", .int 32 true)] }),
                ("Pair", { name := "Pair", fields := [("l", .bool), ("r", .bool)] })] }

def demoTabE : Tab :=
  { packages := ["Main"],
    enums := [("Main::Shape", "Main", { name := "Shape", variants := [("Circle", [.int 32 true]), ("Square", [.int 32 true])] })] }

/-- `Span { start: 0, end: 7 }` -/
def span07 : Val := .structV "Span" [.int 32 true 0, .int 32 true 7]

def fieldsWritten : List FieldPat := [.mk "end" (.var "e"), .mk "start" (.var "b")]
def fieldsDeclared : List FieldPat := [.mk "start" (.var "b"), .mk "end" (.var "e")]

def intOf (bs : Option Env) (x : String) : Int :=
  match bs with
  | some bs => match lookupEnv bs x with
    | some (.int _ _ n) => n
    | _ => -1
  | none => -2

example : fieldsWritten.Perm fieldsDeclared := List.Perm.swap _ _ _

/-- `let Span { end: e, start: b } = s` binds `e` to `s.end` (7) and `b` to `s.start` (0) … -/
example : intOf (matchPat demoTab "Main" (.struct ["Span"] fieldsWritten) span07) "e" = 7 := by decide +kernel
example : intOf (matchPat demoTab "Main" (.struct ["Span"] fieldsWritten) span07) "b" = 0 := by decide +kernel
/-- … exactly as the pattern written in declaration order does -/
example : intOf (matchPat demoTab "Main" (.struct ["Span"] fieldsDeclared) span07) "e" = 7 := by decide +kernel

/-- a literal sub-pattern tests the field it NAMES: against `Pair { l: true, r: false }` the pattern
    `Pair { r: true, l: _ }` does not match and `Pair { r: _, l: true }` does (a positional pairing
    in written order would answer the opposite) -/
example : (matchPat demoTab "Main" (.struct ["Pair"] [.mk "r" (.lit (.bool true)), .mk "l" .wild])
    (.structV "Pair" [.bool true, .bool false])).isSome = false := by decide +kernel
example : (matchPat demoTab "Main" (.struct ["Pair"] [.mk "r" .wild, .mk "l" (.lit (.bool true))])
    (.structV "Pair" [.bool true, .bool false])).isSome = true := by decide +kernel

/-- `Span { end: 7, start: 0 }` and `Span { start: 0, end: 7 }` store the same representation -/
example : (buildStruct ["start", "end"] [("end", Val.int 32 true 7), ("start", .int 32 true 0)]).map (·.length) = some 2 := by decide +kernel

/-- a local `Square` beats the variant `Square` of the project: `demoTabE` declares
    `enum Shape { Circle(int32), Square(int32) }`, and with `Square ↦ 5` in scope the bare name is 5,
    while without the binder it is the constructor -/
example : (match evalPath demoTabE { pkg := "Main" } [("Square", .int 32 true 5)] ["Square"] with
    | .ok (.int _ _ n) => n | _ => -1) = 5 := by decide +kernel
example : (match evalPath demoTabE { pkg := "Main" } [] ["Square"] with
    | .ok (.fn (.ctor _ idx _)) => Int.ofNat idx | _ => -1) = 1 := by decide +kernel

/-- shadowing: the innermost binder wins, the outer binding is untouched -/
example : intOf (some (bindAll [("x", .int 32 true 1)] [("x", .int 32 true 2)])) "x" = 2 := by decide +kernel

end Goml.C01src
