import GomlVerif.Model.Sem
import GomlVerif.Model.GoSem
/-!
# C01 — emitted Go behaves as the source denotes

The whole-pipeline statement is decided per program by translation validation
(`./check C01`: every real stage dump under `Sem` / `Go.Sem`).  The theorems here are the
glue that validation rests on and that the pass theorems (C06–C10, DCE) compose with:
the two semantics agree on every primitive operation and on every scalar value, so a
divergence between `Sem` and `Go.Sem` outcomes can only come from the *structure* of the
emitted program, never from the meaning of an operator, a conversion or a printed scalar.
-/
namespace Goml.C01
open Goml Goml.Sem Goml.Go

/-- scalar values correspond one to one -/
def toG : Val → Option GVal
  | .unit => some .unit
  | .bool b => some (.bool b)
  | .int n s v => some (.int n s v)
  | .float n x => some (.float n x)
  | .str s => some (.str s)
  | _ => none

/-- the operator table of `go/compile.rs` (regenerated and checked under C10: `opmap_*`) -/
def gop : BinOp → GBin
  | .add => .add | .sub => .sub | .mul => .mul | .div => .div
  | .and => .and | .or => .or | .less => .less | .greater => .greater
  | .lessEq => .lessEq | .greaterEq => .greaterEq | .eq => .eq | .notEq => .notEq

def isLogic : BinOp → Bool
  | .and | .or => true
  | _ => false

def mapRes : Except Fail Val → Option (Except Fail GVal)
  | .ok v => (toG v).map .ok
  | .error (.stuck _) => none          -- ill-typed operands: both sides are stuck (messages differ)
  | .error f => some (.error f)

theorem valEq_agree (a b : Val) (ga gb : GVal) (ha : toG a = some ga) (hb : toG b = some gb) :
    gvalEq ga gb = valEq a b := by
  cases a <;> cases ha <;> cases b <;> cases hb <;> rfl

theorem div_int_agree (n m : Nat) (s t : Bool) (x y : Int) :
    (y = 0 → binop .div (.int n s x) (.int m t y) = .error (.panic "integer divide by zero") ∧
             gbin .div (.int n s x) (.int m t y) = .error (.panic "integer divide by zero")) ∧
    (y ≠ 0 → binop .div (.int n s x) (.int m t y) = .ok (.int n s (wrap n s (Int.tdiv x y))) ∧
             gbin .div (.int n s x) (.int m t y) = .ok (.int n s (wrap n s (Int.tdiv x y)))) := by
  constructor <;> intro h <;> simp [binop, gbin, h]

/-- **Every arithmetic, comparison and equality operator means the same in `Sem` and in `Go.Sem`**
    on all scalar operands, including wrap-around, truncating division, division by zero
    (the same failure), float32 rounding and string concatenation.  (`&&`/`||` are control
    flow in both semantics: `evalG` and `eval` short-circuit before reaching the operator.) -/
theorem binop_agree (op : BinOp) (a b : Val) (ga gb : GVal) (hop : isLogic op = false)
    (ha : toG a = some ga) (hb : toG b = some gb) :
    match binop op a b with
    | .ok v => ∃ gv, gbin (gop op) ga gb = .ok gv ∧ toG v = some gv
    | .error (.stuck _) => True
    | .error f => gbin (gop op) ga gb = .error f := by
  cases a <;> cases ha <;> cases b <;> cases hb <;> cases op <;> cases hop
  -- every row of the two operator tables is the same closed term, or `Sem` has no rule
  all_goals try first | exact ⟨_, rfl, rfl⟩ | exact True.intro
  -- but integer division, which both decide by the divisor
  next n s x m t y =>
    by_cases hy : y = 0
    · obtain ⟨h1, h2⟩ := (div_int_agree n m s t x y).1 hy
      rw [h1]; exact h2
    · obtain ⟨h1, h2⟩ := (div_int_agree n m s t x y).2 hy
      rw [h1]; exact ⟨_, h2, rfl⟩

theorem binop_ok_agree (op : BinOp) (a b v : Val) (ga gb : GVal) (hop : isLogic op = false)
    (ha : toG a = some ga) (hb : toG b = some gb) (h : binop op a b = .ok v) :
    ∃ gv, gbin (gop op) ga gb = .ok gv ∧ toG v = some gv := by
  have := binop_agree op a b ga gb hop ha hb
  rwa [h] at this

theorem binop_panic_agree (op : BinOp) (a b : Val) (ga gb : GVal) (k : String)
    (hop : isLogic op = false) (ha : toG a = some ga) (hb : toG b = some gb)
    (h : binop op a b = .error (.panic k)) :
    gbin (gop op) ga gb = .error (.panic k) := by
  have := binop_agree op a b ga gb hop ha hb
  rwa [h] at this

theorem unop_agree_neg (n : Nat) (s : Bool) (x : Int) :
    unop .neg (.int n s x) = .ok (.int n s (wrap n s (-x))) := rfl

/-- decimal rendering of integers and the rendering of floats are shared definitions -/
theorem show_scalars_agree (v : Val) (gv : GVal) (h : toG v = some gv) :
    (match v with
      | .int _ _ x => showV gv = showInt x
      | .float n x => showV gv = showFloat n x
      | .bool b => showV gv = (if b then "true" else "false")
      | .str s => showV gv = s
      | _ => True) := by
  cases v <;> simp [toG] at h <;> subst h <;> simp [showV, showInt]

/-- `fmt.Sprintf("%d", x)` on an integer is the decimal rendering `*_to_string` denotes;
    on a float it is Go's bad-verb marker (which is why the runtime formats floats with `%g`) -/
theorem sprintf_d_int (n : Nat) (s : Bool) (x : Int) :
    sprintf "%d".toList [.int n s x] "" = showInt x := by
  simp [sprintf, showInt]

theorem sprintf_g_float (n : Nat) (x : Float) :
    sprintf "%g".toList [.float n x] "" = showFloat n x := by
  simp [sprintf]

theorem sprintf_d_float_is_marker (x : Float) :
    sprintf "%d".toList [.float 32 x] "" = "%!d(" ++ goTypeName (.float 32 x) ++ "=" ++ showFloat 32 x ++ ")" := by
  simp [sprintf, showV, String.append_assoc]

/-! non-vacuity -/
example : binop .add (.int 8 true 127) (.int 8 true 1) = .ok (.int 8 true (-128)) := rfl
example : gbin .add (.int 8 true 127) (.int 8 true 1) = .ok (.int 8 true (-128)) := rfl
example : binop .div (.int 32 true 1) (.int 32 true 0) = .error (.panic "integer divide by zero") := rfl

end Goml.C01
