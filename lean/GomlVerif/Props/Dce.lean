import GomlVerif.Lemmas.DceFile2
import GomlVerif.Lemmas.SemStatus
/-!
# DCE (C02 / C09): theorems about the model of `go/dce.rs` (`Model/Dce.lean`)

(a) `dce_no_unused`, (b) `dce_decl_before_use` — Go's two rules about locals, for every block
that is well scoped (`scopeErrs = []`: every local is declared before use and nothing is
shadowed) and contains no block expression (`shapeOK`);
(c) `dce_preserves` — every definite `Go.Sem` run (ends normally or panics) of a block is reproduced
by its DCE'd form: same world (stdout, heap, spawned, extern events), same signal / returned
value / panic, and environments that agree on the live variables.  Forward simulation, fuel
existential on the output side; `Go.Sem` is fuel-monotone (`Lemmas/GoSemMono.lean`), so the
output result does not depend on which sufficient fuel is taken (`dce_output_unique`).
(d) `prune_imports_exact`, `prune_funcs_closed`, `prune_funcs_keeps_roots`.
(e) `dce_file_preserves` — the FILE-level lifting of (c): inside the decidable contract `FileDceOK`, every
definite run of `main` in a file is reproduced by `eliminate_dead_vars` of the file (all function bodies
DCE'd at once, unreachable functions and unused imports pruned).
-/
namespace Goml.Dce
open Goml.Go

/-- the table of `expr_has_side_effects` arms that answer `true` outright, as extracted from the
    Rust source, is the one `exprEffects` was written against (a changed arm list stops the build) -/
theorem effects_table_is_modelled :
    Goml.Gen.dceAlwaysEffects = ["Call", "Index", "UnaryOp.Deref", "BinaryOp.Div", "Cast"] := rfl

/-! ## (a), (b) the two Go rules DCE exists for -/

/-- **(a) no unused local** — in the output of `dce_block_with_live` on a function body every
    declared local and every kept type-switch binding is read later in its scope.
    Hypotheses on the input: `scopeErrs D scope ss = []` (locals declared before use, no
    shadowing; `D` = all locals of the function, `scope` = its parameters) and `shapeOK ss`
    (no `Expr::Block`, which the backend never builds).  Both are decidable and evaluated on
    every input of the correspondence run. -/
theorem dce_no_unused (D scope : Names) (ss : List GStmt)
    (hscope : scopeErrs D scope ss = []) (hshape : shapeOK ss = true) :
    unusedStmts (dceBody ss) = [] :=
  (scope_body D scope ss hscope hshape).2

/-- **(b) declared before use** — if every use of a local in the input is preceded by its
    declaration in scope (and nothing is shadowed), the same holds of the output: DCE never
    removes a declaration that a kept read or a kept assignment still needs. -/
theorem dce_decl_before_use (D scope : Names) (ss : List GStmt)
    (hscope : scopeErrs D scope ss = []) (hshape : shapeOK ss = true) :
    scopeErrs D scope (dceBody ss) = [] :=
  (scope_body D scope ss hscope hshape).1

/-- per function: `D` = parameters + everything declared in the body -/
theorem dce_fn_scope_sound (f : GFunc)
    (hscope : scopeErrs (localsOf f) (f.params.map (·.1)) f.body = []) (hshape : shapeOK f.body = true) :
    scopeErrs (localsOf f) (f.params.map (·.1)) (dceBody f.body) = [] ∧ unusedStmts (dceBody f.body) = [] :=
  scope_body _ _ f.body hscope hshape

section Examples
private def i32 : GTy := .int 32 true
private def vx (x : String) : GExpr := .var x i32
private def pr (e : GExpr) : GStmt := .expr (.call .unit (.var "show" (.func [i32] .unit)) [e])

/-- `var a = 1; var dead = a + 1; var r int32; if a < 2 { r = 3 } else { r = f() }; show(r)` -/
private def exBody : List GStmt :=
  [ .varDecl "a" i32 (some (.int "1" i32)),
    .varDecl "dead" i32 (some (.bin .add i32 (vx "a") (.int "1" i32))),
    .varDecl "r" i32 none,
    .ite (.bin .less .bool (vx "a") (.int "2" i32))
      [.assign "r" (.int "3" i32)]
      (some [.varDecl "t" i32 (some (.call i32 (.var "f" (.func [] i32)) [])), .assign "r" (vx "t")]),
    pr (vx "r") ]

/-- non-vacuity: the hypotheses hold of a block on which DCE does something -/
example : scopeErrs ["a", "dead", "r", "t"] [] exBody = [] ∧ shapeOK exBody = true ∧
    (dceBody exBody).length = 4 ∧ unusedStmts exBody = ["dead"] := by decide +kernel

/-- the shadowing hypothesis is needed: `var x = 0; if c { var x = 2 }; show(x)` — the inner,
    never-read `x` is kept because the name `x` is live after the `if` (liveness is by name) -/
private def exShadow : List GStmt :=
  [ .varDecl "x" i32 (some (.int "0" i32)),
    .ite (.bool true) [.varDecl "x" i32 (some (.int "2" i32))] none,
    pr (vx "x") ]

example : unusedStmts (dceBody exShadow) = ["x"] ∧ scopeErrs ["x"] [] exShadow = ["x"] := by decide +kernel
end Examples

/-! ## (c) DCE preserves `Go.Sem` -/
open Goml.Sem in
/-- **(c) preservation.**  `F` is the file the block runs in (callees are looked up in `F` on both
    sides), `ρi` / `ρo` the environments of the input / output run, related by `Rel` on the live-in
    and needs sets that `dce_block_with_live` computes (for a function body: the same parameter
    environment, `dce_preserves_body`).  Contract on the input, all decidable and evaluated on
    every real input of the correspondence run:
    * `scopeErrs D (keys ρi) ss = []` — declared before use, no shadowing (liveness is by name);
    * `shapeOK ss` — no `Expr::Block`, no `x = …x…`, `_` never read, a type-switch binding is not
      assigned in its clauses;
    * `semOK P ss L` — every initialiser / stored value that the pass deletes satisfies `P`, and for a
      loop (the pass analyses the body once and treats `break` as falling through): no variable
      assigned in the body is live after the loop, and analysing the body again with the loop-back
      live set gives the same block and a live-in set inside that set;
    and `P e → Inert F e`: what is deleted cannot panic and cannot touch the world.
    `expr_has_side_effects` counts division, indexing, dereference and type assertion as effects, so
    `P := inertSyn false` (proved sound: `inertSyn_sound`) leaves out, of what is no effect, field
    access, `&`-allocation, slice literals and integer literals whose text is no number.
    Conclusion: if the input run is definite, some fuel makes the output run end the same way. -/
theorem dce_preserves (F : GFile) (D : Names) (P : GExpr → Bool) (hP : ∀ e, P e = true → Inert F e)
    (ss : List GStmt) (L : Names) (ρi ρo : GEnv) (w : GWorld) (n : Nat) (r : GRes (GEnv × Sig))
    (hscope : scopeErrs D (keys ρi) ss = []) (hshape : shapeOK ss = true) (hsem : semOK P ss L = true)
    (hrel : Rel (dceStmts ss L).live (dceStmts ss L).needs ρo ρi)
    (hrun : execBlockG n F ρi w ss = r) (hdef : Definite r) :
    ∃ m r', execBlockG m F ρo w (dceStmts ss L).out = r' ∧ ResRel L [] r' r :=
  let ⟨r', hm, hrr⟩ := (sim_all hP n).bl hscope hshape hsem hrel hrun hdef
  hm.run.imp fun _ e => ⟨r', e, hrr⟩

open Goml.Sem in
/-- a function body: both runs start from the same parameter environment, nothing is live at the end -/
theorem dce_preserves_body (F : GFile) (D : Names) (P : GExpr → Bool) (hP : ∀ e, P e = true → Inert F e)
    (body : List GStmt) (ρ : GEnv) (w : GWorld) (n : Nat) (r : GRes (GEnv × Sig))
    (hblank : ¬ "_" ∈ keys ρ)
    (hscope : scopeErrs D (keys ρ) body = []) (hshape : shapeOK body = true) (hsem : semOK P body [] = true)
    (hrun : execBlockG n F ρ w body = r) (hdef : Definite r) :
    ∃ m r', execBlockG m F ρ w (dceBody body) = r' ∧ ResRel [] [] r' r :=
  dce_preserves F D P hP body [] ρ ρ w n r hscope hshape hsem (rel_refl _ _ ρ hblank) hrun hdef

open Goml.Sem in
/-- the instance with the proved syntactic criterion for "cannot fail, cannot write" -/
theorem dce_preserves_syn (F : GFile) (D : Names) (body : List GStmt) (ρ : GEnv) (w : GWorld) (n : Nat)
    (r : GRes (GEnv × Sig)) (hblank : ¬ "_" ∈ keys ρ)
    (hscope : scopeErrs D (keys ρ) body = []) (hshape : shapeOK body = true)
    (hsem : semOK (inertSyn false) body [] = true)
    (hrun : execBlockG n F ρ w body = r) (hdef : Definite r) :
    ∃ m r', execBlockG m F ρ w (dceBody body) = r' ∧ ResRel [] [] r' r :=
  dce_preserves_body F D (inertSyn false) (fun e h => inertSyn_sound F e h) body ρ w n r hblank hscope hshape
    hsem hrun hdef

open Goml.Sem in
/-- the same with dead field projections admitted: `inertSyn true` also accepts `e.f` where the
    static type of `e` is not a pointer (`inertSyn_sound_field`: a struct value is never nil, and
    `Go.Sem` has no rule — `stuck`, not a panic — for a nil value of a non-pointer type) -/
theorem dce_preserves_syn_field (F : GFile) (D : Names) (body : List GStmt) (ρ : GEnv) (w : GWorld) (n : Nat)
    (r : GRes (GEnv × Sig)) (hblank : ¬ "_" ∈ keys ρ)
    (hscope : scopeErrs D (keys ρ) body = []) (hshape : shapeOK body = true)
    (hsem : semOK (inertSyn true) body [] = true)
    (hrun : execBlockG n F ρ w body = r) (hdef : Definite r) :
    ∃ m r', execBlockG m F ρ w (dceBody body) = r' ∧ ResRel [] [] r' r :=
  dce_preserves_body F D (inertSyn true) (fun e h => inertSyn_sound_field F e h) body ρ w n r hblank hscope hshape
    hsem hrun hdef

open Goml.Sem in
/-- fuel does not matter once it suffices: two runs of the same block that did not stop for lack
    of fuel give the same result (from fuel monotonicity) -/
theorem dce_output_unique (F : GFile) (ρ : GEnv) (w : GWorld) (ss : List GStmt) (m1 m2 : Nat)
    (h1 : (execBlockG m1 F ρ w ss).nf) (h2 : (execBlockG m2 F ρ w ss).nf) :
    execBlockG m1 F ρ w ss = execBlockG m2 F ρ w ss := by
  rw [← execBlockG_mono (Nat.le_max_left m1 m2) h1, ← execBlockG_mono (Nat.le_max_right m1 m2) h2]

section SemExamples
open Goml.Sem
private def vb (x : String) : GExpr := .var x .bool
private def ρb : GEnv := [("x", .bool false), ("k", .bool false), ("p", .nilv)]
private def retB : GRes (GEnv × Sig) → Option Bool
  | .ok (_, .ret (.bool v)) _ => some v
  | _ => none
private def isFuel : GRes (GEnv × Sig) → Bool
  | .fail .fuel _ => true
  | _ => false
private def isPanic : GRes (GEnv × Sig) → Bool
  | .fail (.panic _) _ => true
  | _ => false

/-- non-vacuity: a block on which DCE deletes a store, inside the contract -/
private def exOK : List GStmt :=
  [ .assign "k" (.bool true), .assign "k" (.un .not .bool (vb "x")),
    .ite (vb "k") [.assign "x" (.bool true)] (some [.assign "x" (.bool false)]), .ret (some (vb "x")) ]
example : scopeErrs ["x", "k", "p"] (keys ρb) exOK = [] ∧ shapeOK exOK = true ∧
    semOK (inertSyn false) exOK [] = true ∧ (dceBody exOK).length = 3 ∧
    retB (execBlockG 20 { items := [] } ρb {} exOK) = some true ∧
    retB (execBlockG 20 { items := [] } ρb {} (dceBody exOK)) = some true := by decide +kernel

/-- the loop clause of `semOK` is needed: `for { k = x; x = true; if k { break } }; return k` —
    the store to `x` is dead for a single pass over the body and is deleted; the input returns
    `true`, the output never leaves the loop -/
private def exLoop : List GStmt :=
  [ .loop [ .assign "k" (vb "x"), .assign "x" (.bool true), .ite (vb "k") [.brk] none ],
    .ret (some (vb "k")) ]
example : scopeErrs ["x", "k", "p"] (keys ρb) exLoop = [] ∧ shapeOK exLoop = true ∧
    semOK (inertSyn false) exLoop [] = false ∧
    retB (execBlockG 40 { items := [] } ρb {} exLoop) = some true ∧
    isFuel (execBlockG 40 { items := [] } ρb {} (dceBody exLoop)) = true := by decide +kernel

/-- the self-assignment clause of `shapeOK` is needed: `x = true; x = !x; return x` — `dce.rs`
    removes `x` from the live set after adding the uses of `!x`, so `x = true` looks dead -/
private def exSelf : List GStmt :=
  [ .assign "x" (.bool true), .assign "x" (.un .not .bool (vb "x")), .ret (some (vb "x")) ]
example : shapeOK exSelf = false ∧ retB (execBlockG 20 { items := [] } ρb {} exSelf) = some false ∧
    retB (execBlockG 20 { items := [] } ρb {} (dceBody exSelf)) = some true := by decide +kernel

/-- the hypothesis on `P` is needed: a dead `k = p.f` with `p == nil` panics in the input and is
    deleted (field access is not an effect for `dce.rs`); `inertSyn false` rejects it -/
private def exNil : List GStmt :=
  [ .assign "k" (.field "f" .bool (.var "p" (.ptr (.name "T")))), .ret (some (vb "x")) ]
example : semOK (fun _ => true) exNil [] = true ∧ semOK (inertSyn false) exNil [] = false ∧
    isPanic (execBlockG 20 { items := [] } ρb {} exNil) = true ∧
    retB (execBlockG 20 { items := [] } ρb {} (dceBody exNil)) = some false := by decide +kernel
end SemExamples

/-! ## (d) pruning -/
/-- **`prune_unused_imports` is exact**: an import spec survives iff some call node
    `pkg.f(…)` in a function or method body names its binding. -/
theorem prune_imports_exact (F : GFile) (spec : String × String) :
    spec ∈ importSpecs (pruneUnusedImports F).items ↔
      spec ∈ importSpecs F.items ∧ AnyE (CallsPkg (specBinding spec)) (itemsExprs F.items) := by
  unfold pruneUnusedImports
  simp only []
  split
  · rename_i h
    have : importSpecs F.items = [] := by
      have := importNames_eq F
      simp [List.isEmpty_iff] at h
      rw [h] at this
      simpa using this.symm
    simp [this]
  · rw [pruneImportItems_specs, usedPackages_iff]
    constructor
    · rintro ⟨h1, _, h3⟩; exact ⟨h1, h3⟩
    · rintro ⟨h1, h3⟩
      refine ⟨h1, ?_, h3⟩
      rw [importNames_eq]; exact List.mem_map_of_mem h1

/-- **`prune_dead_functions` leaves no dangling reference**: a name that a surviving function
    mentions and that is a function of the input file is still a function of the output file.
    (Function names are pairwise distinct, as Go requires.) -/
theorem prune_funcs_closed (F : GFile) (hnd : (F.funcs.map (·.name)).Nodup)
    (g : GFunc) (hg : g ∈ (pruneDeadFunctions F).funcs) (x : String)
    (hx : AnyE (IsVar x) (exprsS g.body)) (hf : x ∈ F.funcs.map (·.name)) :
    x ∈ (pruneDeadFunctions F).funcs.map (·.name) := by
  rw [pruned_funcs F] at hg ⊢
  simp only [List.mem_filter, List.contains_iff_mem] at hg
  obtain ⟨hgF, hgR⟩ := hg
  have hgR : g.name ∈ reachable F := by simpa using hgR
  have hcall : x ∈ calledStmts (F.funcs.map (·.name)) g.body := (calledStmts_iff _ x g.body).mpr ⟨hf, hx⟩
  have hcal : x ∈ calleesOf F.funcs (F.funcs.map (·.name)) (reachable F) :=
    (mem_calleesOf _ _ x _).mpr ⟨g.name, hgR, g, lastFunc_of_mem _ g hnd hgF, hcall⟩
  have hxR : x ∈ reachable F := closure_closed _ _ _ x hcal hf
  obtain ⟨f, hfF, hfn⟩ := List.mem_map.mp hf
  apply List.mem_map.mpr
  refine ⟨f, ?_, hfn⟩
  simp only [List.mem_filter, List.contains_iff_mem]
  exact ⟨hfF, by simpa [hfn] using hxR⟩

/-- the roots (`main`, `main0`) are never pruned -/
theorem prune_funcs_keeps_roots (F : GFile) (r : String) (hr : r ∈ Goml.Gen.dceRoots)
    (g : GFunc) (hg : g ∈ F.funcs) (hn : g.name = r) : g ∈ (pruneDeadFunctions F).funcs := by
  rw [pruned_funcs F]
  simp only [List.mem_filter, List.contains_iff_mem]
  refine ⟨hg, ?_⟩
  have : r ∈ Goml.Gen.dceRoots.filter fun r => (F.funcs.map (·.name)).contains r := by
    simp only [List.mem_filter, List.contains_iff_mem]
    exact ⟨hr, by simpa using List.mem_map.mpr ⟨g, hg, hn⟩⟩
  have := closure_sub F.funcs (F.funcs.map (·.name)) _ r this
  simpa [hn, reachable] using this

example : "main" ∈ Goml.Gen.dceRoots := by decide +kernel

/-! ## (e) the whole pass on a whole file -/

/-- the contract of `dce_file_preserves` (decidable; `Model/Dce.lean`): every function of the file
    satisfies the contract of `dce_preserves_syn_field` for the parameter environment of a call (no `_`
    parameter, `scopeErrs = []` w.r.t. its parameters, `shapeOK`, `semOK (inertSyn true)`), and
    function names are pairwise distinct -/
def FileDceOK (F : GFile) : Prop := fileDceOK F = true

instance (F : GFile) : Decidable (FileDceOK F) := by unfold FileDceOK; infer_instance

open Goml.Sem in
/-- **(e) file-level preservation.**  For every file inside `FileDceOK`: a run of `main` that ends
    normally or panics is reproduced — stdout, status, extern events — by the file
    `eliminate_dead_vars` returns, under either `go` schedule and either capacity policy.
    `eliminate_dead_vars` = `dce_item` on every function at once, then `prune_dead_functions`, then
    `prune_unused_imports`; the three steps are `mapDce_preserves_call` (the `Go.Sem` file congruence
    `fileSim_all`, where at every call the simulation `sim_all` at `P := inertSyn true` — the one behind
    `dce_preserves_syn_field` — exchanges the body) and two instances of the lock-step
    theorem `prune_all` (the semantics never looks up a function outside the reachable set, by the
    invariant that no value contains a function value outside it).  Uses two properties of
    `Go.Sem`: `zero` reads the file only through its struct declarations, and a
    call with another number of arguments than parameters has no rule (`stuck`). -/
theorem dce_file_preserves (F : GFile) (hok : FileDceOK F) (fuel : Nat) (eager : Bool) (cap : Nat)
    (hdef : (runGo fuel F "main" eager cap).status = "ok" ∨ ∃ k, (runGo fuel F "main" eager cap).status = "panic:" ++ k) :
    ∃ m, runGo m (eliminateDeadVars F) "main" eager cap = runGo fuel F "main" eager cap := by
  unfold runGo at hdef ⊢
  generalize hr : callG fuel F { eager := eager, capPolicy := cap } (.func "main") [] = r at hdef ⊢
  have hd : Definite r := by
    cases r with
    | ok v w => trivial
    | fail f w => obtain ⟨k, rfl⟩ := Sem.failStr_definite f hdef; trivial
  obtain ⟨m, hm⟩ := dce_file_call hok fuel { eager := eager, capPolicy := cap } rfl rfl r hr hd
  exact ⟨m, by rw [hm]⟩

/-- the call-level form: any definite call of `main` in the initial world -/
theorem dce_file_preserves_call (F : GFile) (hok : FileDceOK F) (n : Nat) (w0 : GWorld) (h0 : w0.heap = #[])
    (hs0 : w0.spawned = []) (r : GRes GVal) (h : callG n F w0 (.func "main") [] = r) (hdef : Definite r) :
    ∃ m, callG m (eliminateDeadVars F) w0 (.func "main") [] = r :=
  dce_file_call hok n w0 h0 hs0 r h hdef

end Goml.Dce
