import GomlVerif.Model.Query
import GomlVerif.Gen.QueryGlue
/-!
# C20 — the position logic of the editor queries

What is proved here is the part of C20 a model can carry: for every text and every
`(line, col)` the offset the queries work with is absent or inside the text on a char
boundary; rowan's `token_at_offset` precondition then holds and the selected token contains
the offset; the completion placeholder is inserted at a valid place and the `.` / `::` the
completion is anchored to is still at the same offset of the text that is parsed.
Crash-freedom of the Rust code behind these offsets (lowering, typer) and agreement of the
hover text with the compiler are *searched*, not proved (see `tools/props/c20.py`).
-/
namespace Goml.Query

theorem newlinesFrom_bounds (t : Text) (pos : Nat) :
    ∀ x ∈ newlinesFrom pos t, pos < x ∧ x ≤ pos + t.length := by
  induction t generalizing pos with
  | nil => intro x hx; simp [newlinesFrom] at hx
  | cons b bs ih =>
    intro x hx
    simp only [newlinesFrom] at hx
    split at hx
    · rcases List.mem_cons.1 hx with h | h
      · subst h; simp only [List.length_cons]; omega
      · have := ih (pos + 1) x h; simp only [List.length_cons]; omega
    · have := ih (pos + 1) x hx; simp only [List.length_cons]; omega

theorem startOffset_le_length {t : Text} {line s : Nat}
    (h : startOffset (newlines t) line = some s) : s ≤ t.length := by
  cases line with
  | zero => simp [startOffset] at h; omega
  | succ l =>
    simp only [startOffset] at h
    have hm : s ∈ newlines t := List.mem_of_getElem? h
    have := newlinesFrom_bounds t 0 s hm
    omega

/-- a line past the last one has no start: `offset` is `None` there -/
theorem startOffset_none_of_large {t : Text} {line : Nat} (h : (newlines t).length < line) :
    startOffset (newlines t) line = none := by
  cases line with
  | zero => omega
  | succ l => simp only [startOffset]; exact List.getElem?_eq_none (by omega)

/-- with the bounds and boundary checks in place the offset is absent or valid -/
theorem offsetAt_checked_total (g : Glue) (hb : g.boundsCheck = true) (hc : g.boundaryCheck = true)
    (t : Text) (line col o : Nat) (h : offsetAt g t line col = some o) :
    o ≤ t.length ∧ isCharBoundary t o = true := by
  unfold offsetAt at h
  split at h
  · cases h -- no such line
  · rename_i s hs
    simp only [hb, hc, Bool.true_and] at h
    split at h
    · cases h -- the checked addition overflows
    · split at h
      · cases h -- beyond the text
      · rename_i h1
        split at h
        · cases h -- inside a character
        · rename_i h2
          simp only [Option.some.injEq] at h
          subst h
          simp only [decide_eq_true_eq, Nat.not_lt] at h1
          simp only [Bool.not_eq_true', Bool.not_eq_false] at h2
          exact ⟨h1, h2⟩

/-- `offsetAt_checked_total` for query.rs itself (`Gen.queryGlue` is regenerated from it on every run; if a check
disappears from the source this theorem stops compiling) -/
theorem offset_total (t : Text) (line col : Nat) :
    match offsetAt Gen.queryGlue t line col with
    | none => True
    | some o => o ≤ t.length ∧ isCharBoundary t o = true := by
  cases h : offsetAt Gen.queryGlue t line col with
  | none => trivial
  | some o => exact offsetAt_checked_total Gen.queryGlue rfl rfl t line col o h

/-- the check is not vacuous: every position inside the text on a char boundary is accepted -/
theorem offset_complete (g : Glue) (t : Text) (line col s : Nat) (hlen : t.length < U32)
    (hs : startOffset (newlines t) line = some s) (hin : s + col ≤ t.length)
    (hcb : isCharBoundary t (s + col) = true) :
    offsetAt g t line col = some (s + col) := by
  have h1 : ¬ U32 ≤ s + col := by omega
  have h2 : (s + col) % U32 = s + col := Nat.mod_eq_of_lt (by omega)
  simp [offsetAt, hs, h1, h2, hcb, Nat.not_lt.2 hin]

/-- without the checks the model is exactly `LineIndex::offset` -/
theorem offsetAt_unchecked_eq_raw (t : Text) (line col : Nat) :
    offsetAt Glue.unchecked t line col = rawOffset t line col := by
  unfold offsetAt rawOffset
  cases startOffset (newlines t) line <;> simp [Glue.unchecked]

/-- without the bounds check a column one past the end of the last line gives an offset outside the text, and rowan's
`token_at_offset` asserts -/
example :
    offsetAt Glue.unchecked [102, 110] 0 3 = some 3 ∧ ¬ (3 ≤ [102, 110].length) ∧
      rowanTokenAt [⟨"FnKeyword", 2⟩] 3 = none := by decide +kernel

/-- and the `u32` addition wraps: line 1 starts at 2, column `u32::MAX` lands on offset 1 -/
example : offsetAt Glue.unchecked [97, 10, 98] 1 4294967295 = some 1 := by decide +kernel
example : offsetAt Glue.checked [97, 10, 98] 1 4294967295 = none := by decide +kernel

/-- non-vacuity of `offset_total`: the second line of "a\nbé" (é = c3 a9): column 1 is a
position, column 2 is inside the two-byte character, column 3 is the end, column 4 is outside -/
example : offsetAt Glue.checked [97, 10, 98, 195, 169] 1 1 = some 3 ∧
    offsetAt Glue.checked [97, 10, 98, 195, 169] 1 2 = none ∧
    offsetAt Glue.checked [97, 10, 98, 195, 169] 1 3 = some 5 ∧
    offsetAt Glue.checked [97, 10, 98, 195, 169] 1 4 = none ∧
    offsetAt Glue.checked [97, 10, 98, 195, 169] 2 0 = none := by decide +kernel

theorem nextNonEmpty_spec (ts : List Tok) (idx j : Nat) (h : nextNonEmpty ts idx = some j) :
    ∃ m u, j = idx + m ∧ ts[m]? = some u ∧ 0 < u.len ∧ tokStart ts m = 0 := by
  induction ts generalizing idx with
  | nil => simp [nextNonEmpty] at h
  | cons t ts ih =>
    simp only [nextNonEmpty] at h
    split at h
    · rename_i h0
      obtain ⟨m, u, hj, hu, hpos, hst⟩ := ih (idx + 1) h
      refine ⟨m + 1, u, by omega, by simpa using hu, hpos, ?_⟩
      simp [tokStart, h0, hst]
    · rename_i h0
      simp only [Option.some.injEq] at h
      exact ⟨0, t, by omega, by simp, by omega, by simp [tokStart]⟩

theorem nextNonEmpty_none (ts : List Tok) (idx : Nat) (h : nextNonEmpty ts idx = none) :
    totalLen ts = 0 := by
  induction ts generalizing idx with
  | nil => rfl
  | cons t ts ih =>
    simp only [nextNonEmpty] at h
    split at h
    · rename_i h0; simp [totalLen, h0, ih (idx + 1) h]
    · cases h

/-- index `i` of the whole list is the non-empty token `t`, the `k`-th of the part `ts` still to scan -/
structure TokAt (ts : List Tok) (idx i k : Nat) (t : Tok) : Prop where
  index : i = idx + k
  get : ts[k]? = some t
  pos : 0 < t.len

theorem TokAt.cons {t u : Tok} {ts idx i k} (h : TokAt ts (idx + 1) i k u) : TokAt (t :: ts) idx i (k + 1) u :=
  ⟨by have := h.index; omega, by simpa using h.get, h.pos⟩

theorem TokAt.head {t : Tok} {ts idx} (hpos : 0 < t.len) : TokAt (t :: ts) idx idx 0 t := ⟨rfl, rfl, hpos⟩

/-- what `tokenAtFrom` returns, relative to the scan position -/
def AtSpec (ts : List Tok) (idx start off : Nat) : TokenAt → Prop
  | .none => totalLen ts = 0
  | .single i => ∃ k t, TokAt ts idx i k t ∧ start + tokStart ts k ≤ off ∧ off ≤ start + tokStart ts k + t.len
  | .between i j => ∃ k m t u, TokAt ts idx i k t ∧ TokAt ts idx j m u ∧ k < m ∧
      off = start + tokStart ts k + t.len ∧ off = start + tokStart ts m

/-- a token found in the tail, one position further in the whole list -/
theorem AtSpec.cons {t : Tok} {ts idx start off} : ∀ {r}, r ≠ .none → AtSpec ts (idx + 1) (start + t.len) off r →
    AtSpec (t :: ts) idx start off r
  | .none, hr, _ => absurd rfl hr
  | .single i, _, ⟨k, u, hu, ha, hb⟩ =>
    ⟨k + 1, u, hu.cons, by simp only [tokStart]; omega, by simp only [tokStart]; omega⟩
  | .between i j, _, ⟨k, m, u, v, hu, hv, hkm, ha, hb⟩ =>
    ⟨k + 1, m + 1, u, v, hu.cons, hv.cons, by omega, by simp only [tokStart]; omega, by simp only [tokStart]; omega⟩

theorem tokenAtFrom_spec (ts : List Tok) (idx start off : Nat)
    (h1 : start ≤ off) (h2 : off ≤ start + totalLen ts) :
    AtSpec ts idx start off (tokenAtFrom ts idx start off) := by
  induction ts generalizing idx start with
  | nil => simp [tokenAtFrom, AtSpec, totalLen]
  | cons t ts ih =>
    simp only [tokenAtFrom]
    split
    · -- an empty token is skipped
      rename_i h0
      have := ih (idx + 1) start h1 (by simpa [totalLen, h0] using h2)
      cases hr : tokenAtFrom ts (idx + 1) start off with
      | none => rw [hr] at this; simpa [AtSpec, totalLen, h0] using this
      | _ =>
        rw [← hr]
        refine AtSpec.cons (by rw [hr]; exact TokenAt.noConfusion) ?_
        rwa [h0, Nat.add_zero]
    · rename_i h0
      have hpos : 0 < t.len := Nat.pos_of_ne_zero h0
      split
      · omega -- `off` before the token: excluded by `h1`
      · split
        · -- strictly inside the token
          exact ⟨0, t, .head hpos, by simp [tokStart]; omega, by simp [tokStart]; omega⟩
        · split
          · -- at its end: with the next non-empty token if there is one, else alone
            rename_i heq
            split
            · rename_i j hj
              obtain ⟨m, u, hjm, hu, hpu, hst⟩ := nextNonEmpty_spec ts (idx + 1) j hj
              exact ⟨0, m + 1, t, u, .head hpos, ⟨by omega, by simpa using hu, hpu⟩, by omega,
                by simp [tokStart]; omega, by simp [tokStart, hst]; omega⟩
            · exact ⟨0, t, .head hpos, by simp [tokStart]; omega, by simp [tokStart]; omega⟩
          · -- beyond it
            rename_i hlt hne
            have := ih (idx + 1) (start + t.len) (by omega) (by simp only [totalLen] at h2; omega)
            refine AtSpec.cons (fun hr => ?_) this
            -- the scan cannot come up empty: the offset lies inside the tail
            rw [hr] at this
            simp only [AtSpec] at this
            simp only [totalLen, this] at h2
            omega

/-- token `i` is a non-empty token whose closed range contains `off` -/
def InTok (toks : List Tok) (off i : Nat) : Prop :=
  ∃ t, toks[i]? = some t ∧ 0 < t.len ∧ tokStart toks i ≤ off ∧ off ≤ tokStart toks i + t.len

/-- for an offset inside a non-empty token sequence rowan's selection does not fail (the `unwrap` on the first matching
child is safe), and every token it returns is a non-empty token whose range contains the offset; a `Between` pair meets
exactly at the offset -/
theorem token_at_in_range (toks : List Tok) (off : Nat) (hoff : off ≤ totalLen toks)
    (hne : 0 < totalLen toks) :
    match tokenAtFrom toks 0 0 off with
    | .none => False
    | .single i => InTok toks off i
    | .between i j => InTok toks off i ∧ InTok toks off j ∧ i < j ∧
        (∃ t, toks[i]? = some t ∧ tokStart toks i + t.len = off) ∧ tokStart toks j = off := by
  have := tokenAtFrom_spec toks 0 0 off (Nat.zero_le _) (by omega)
  revert this
  cases tokenAtFrom toks 0 0 off with
  | none => intro h; simp only [AtSpec] at h; omega
  | single i =>
    rintro ⟨k, t, ⟨hi, ht, hp⟩, ha, hb⟩
    simp only [Nat.zero_add] at hi ha hb; subst hi
    exact ⟨t, ht, hp, ha, hb⟩
  | between i j =>
    rintro ⟨k, m, t, u, ⟨hi, ht, hpt⟩, ⟨hj, hu, hpu⟩, hkm, ha, hb⟩
    simp only [Nat.zero_add] at hi hj ha hb; subst hi; subst hj
    exact ⟨⟨t, ht, hpt, by omega, by omega⟩, ⟨u, hu, hpu, by omega, by omega⟩, hkm,
      ⟨t, ht, by omega⟩, by omega⟩

/-- rowan's assertion holds for every offset the (checked) position mapping produces, for any
token sequence that tiles the text (C12: the tree is lossless) -/
theorem hover_no_bad_offset (t : Text) (toks : List Tok) (line col o : Nat)
    (htile : totalLen toks = t.length) (h : offsetAt Gen.queryGlue t line col = some o) :
    rowanTokenAt toks o ≠ none := by
  have := (offsetAt_checked_total Gen.queryGlue rfl rfl t line col o h).1
  simp [rowanTokenAt, htile, Nat.not_lt.2 this]

/-- the token each query goes on with is one of the tokens at the offset -/
theorem hoverPick_mem (toks : List Tok) (ta : TokenAt) (i : Nat) (h : hoverPick toks ta = some i) :
    match ta with
    | .none => False
    | .single a => i = a
    | .between a b => i = a ∨ i = b := by
  cases ta with
  | none => simp [hoverPick] at h
  | single a => simp [hoverPick] at h; exact h.symm
  | between a b =>
    simp only [hoverPick] at h
    split at h <;> simp only [Option.some.injEq] at h <;> subst h <;> simp

theorem dotPick_is_dot (toks : List Tok) (ta : TokenAt) (i : Nat) (h : dotPick toks ta = some i) :
    kindAt toks i = "Dot" := by
  cases ta with
  | none => simp [dotPick] at h
  | single a =>
    simp only [dotPick] at h
    split at h
    · rename_i hk; simp only [Option.some.injEq] at h; subst h; simpa using hk
    · cases h
  | between a b =>
    simp only [dotPick] at h
    split at h
    · rename_i hk; simp only [Option.some.injEq] at h; subst h; simpa using hk
    · split at h
      · rename_i hk; simp only [Option.some.injEq] at h; subst h; simpa using hk
      · cases h

/-- non-vacuity: `p.x` — at offset 1 (between `p` and `.`) hover takes the identifier, the dot
query takes the dot; at offset 2 (between `.` and `x`) hover takes `x` -/
example :
    let toks : List Tok := [⟨"Ident", 1⟩, ⟨"Dot", 1⟩, ⟨"Ident", 1⟩]
    tokenAtFrom toks 0 0 1 = .between 0 1 ∧ hoverPick toks (.between 0 1) = some 0 ∧
    dotPick toks (.between 0 1) = some 1 ∧ tokenAtFrom toks 0 0 2 = .between 1 2 ∧
    hoverPick toks (.between 1 2) = some 2 ∧ colonPick toks (.between 1 2) = some 2 ∧
    tokenAtFrom toks 0 0 3 = .single 2 ∧ tokenAtFrom toks 0 0 0 = .single 0 := by decide +kernel

/-! ## identifier prefix and the completion placeholder -/

theorem identRun_le (t : Text) (off : Nat) : identRun t off ≤ off := by
  unfold identRun
  have h1 := (List.takeWhile_sublist isIdentByte (l := (t.take off).reverse)).length_le
  have h2 : (t.take off).reverse.length ≤ off := by simp [List.length_take]; omega
  omega

theorem identPrefixStart_spec (t : Text) (off s : Nat) (h : identPrefixStart t off = some s) :
    s ≤ off ∧ off ≤ t.length ∧ isCharBoundary t s = true ∧ isCharBoundary t off = true ∧
      s = off - identRun t off := by
  unfold identPrefixStart at h
  split at h
  · cases h
  · rename_i hlen
    simp only at h
    split at h
    · rename_i hb
      simp only [Option.some.injEq] at h
      simp only [Bool.and_eq_true] at hb
      subst h
      exact ⟨Nat.sub_le _ _, by omega, hb.1, hb.2, rfl⟩
    · cases h

theorem insertAt_length (t ph : Text) (off : Nat) :
    (insertAt t off ph).length = t.length + ph.length := by
  simp only [insertAt, List.length_append, List.length_take, List.length_drop]
  omega

/-- the text before the insertion point is untouched, so the `.`/`::` offsets computed on the
original text address the same bytes in the text that is parsed -/
theorem insertAt_get_lt (t ph : Text) (off i : Nat) (hi : i < off) (hoff : off ≤ t.length) :
    (insertAt t off ph)[i]? = t[i]? := by
  have hlt : i < (t.take off).length := by simp [List.length_take]; omega
  simp only [insertAt, List.append_assoc]
  rw [List.getElem?_append_left hlt, List.getElem?_take]
  simp [hi]

/-- `dot_completions` up to the parse: whatever the position mapping lets through (even without
the bounds checks), the `.` (byte 46) is inside the parsed text at `anchor`, the tree is searched at an
offset inside the parsed text, and `insert_str` is called on a char boundary of the text -/
theorem dot_prepare_safe (g : Glue) (ph t : Text) (line col : Nat) (p : Prep)
    (h : dotPrepare g ph t line col = some p) :
    p.parseSrc[p.anchor]? = some 46 ∧ p.focus < p.parseSrc.length ∧
      (p.inserted = true → ∃ off, off ≤ t.length ∧ isCharBoundary t off = true ∧
        p.parseSrc = insertAt t off ph ∧ p.anchor + 1 = off) := by
  unfold dotPrepare at h
  split at h
  · cases h
  · rename_i off hoff
    split at h
    · cases h
    · rename_i start hst
      obtain ⟨hle, hlen, hbs, hbo, _⟩ := identPrefixStart_spec t off start hst
      split at h
      · cases h
      · rename_i h0
        split at h
        · cases h
        · rename_i hdot
          simp only [ne_eq, Decidable.not_not] at hdot
          simp only [Option.some.injEq] at h
          subst h
          have hlt : start - 1 < t.length := by
            have := (List.getElem?_eq_some_iff.1 hdot).1; exact this
          by_cases hins : start = off
          · subst hins
            simp only [beq_self_eq_true, if_true]
            refine ⟨?_, ?_, ?_⟩
            · rw [insertAt_get_lt t ph start (start - 1) (by omega) hlen]; exact hdot
            · rw [insertAt_length]; omega
            · intro _; exact ⟨start, hlen, hbo, rfl, by omega⟩
          · have hb : (start == off) = false := by simpa using hins
            simp only [hb]
            exact ⟨hdot, hlt, by intro hc; cases hc⟩

/-- the same for `colon_colon_completions` (58 is `:`) -/
theorem colon_prepare_safe (g : Glue) (ph t : Text) (line col : Nat) (p : Prep)
    (h : colonPrepare g ph t line col = some p) :
    p.parseSrc[p.anchor]? = some 58 ∧ p.parseSrc[p.anchor + 1]? = some 58 ∧
      p.focus ≤ p.parseSrc.length ∧
      (p.inserted = true → ∃ off, off ≤ t.length ∧ isCharBoundary t off = true ∧
        p.parseSrc = insertAt t off ph ∧ p.anchor + 2 = off ∧ p.focus = off) := by
  unfold colonPrepare at h
  split at h
  · cases h
  · rename_i off hoff
    split at h
    · cases h
    · rename_i start hst
      obtain ⟨hle, hlen, hbs, hbo, _⟩ := identPrefixStart_spec t off start hst
      split at h
      · cases h
      · rename_i h0
        split at h
        · cases h
        · rename_i hcc
          simp only [ne_eq, not_or, Decidable.not_not] at hcc
          obtain ⟨hc1, hc2⟩ := hcc
          have e2 : start - 2 + 1 = start - 1 := by omega
          by_cases hins : start = off
          · subst hins
            simp only [beq_self_eq_true, Bool.not_true, Bool.false_and, if_true] at h
            simp only [Bool.false_eq_true, if_false, Option.some.injEq] at h
            subst h
            refine ⟨?_, ?_, ?_, ?_⟩
            · show (insertAt t start ph)[start - 2]? = some 58
              rw [insertAt_get_lt t ph start (start - 2) (by omega) hlen]; exact hc1
            · show (insertAt t start ph)[start - 2 + 1]? = some 58
              rw [e2, insertAt_get_lt t ph start (start - 1) (by omega) hlen]; exact hc2
            · show start ≤ (insertAt t start ph).length
              rw [insertAt_length]; omega
            · intro _; exact ⟨start, hlen, hbo, rfl, by show start - 2 + 2 = start; omega, rfl⟩
          · have hb : (start == off) = false := by simpa using hins
            simp only [hb, Bool.not_false, Bool.true_and] at h
            split at h
            · cases h
            · simp only [Bool.false_eq_true, if_false, Option.some.injEq] at h
              subst h
              refine ⟨hc1, ?_, ?_, by intro hc; cases hc⟩
              · show t[start - 2 + 1]? = some 58
                rw [e2]; exact hc2
              · show off - 1 ≤ t.length
                omega

/-- non-vacuity: `p.` + cursor after the dot: the placeholder goes in at offset 2, the dot stays at 1 -/
example :
    (dotPrepare Glue.checked [112, 104] [112, 46] 0 2).map (fun p => (p.anchor, p.parseSrc, p.inserted))
      = some (1, [112, 46, 112, 104], true) := by decide +kernel

example :
    (colonPrepare Glue.checked [112, 104] [65, 58, 58, 66] 0 4).map (fun p => (p.anchor, p.focus, p.inserted))
      = some (1, 3, false) := by decide +kernel

end Goml.Query
