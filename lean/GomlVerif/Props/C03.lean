import GomlVerif.Lemmas.WtSubst
import GomlVerif.Lemmas.MonoCollapse
import GomlVerif.Lemmas.ValTySound
import GomlVerif.Lemmas.ValTyStore
import GomlVerif.Lemmas.ValTy2Sound
/-!
# C03 — acceptance is type-sound: every stage output is well-typed and closed

Three parts, each a group of property theorems followed by the definitions and `example`s of its non-vacuity: the
judgement `Wt` under substitution and monomorphisation; type soundness of `Sem` w.r.t. `Wt` without references;
the same with references and trait objects.  `Wt.errs` (Model/Wt.lean) is the type-consistency judgement that
`./check C03` evaluates on every real Core/Mono/Lift/ANF dump; `Closed.*` the closedness
predicates; `Mono.*` the model of mono.rs (tied to the Rust by `./check C07`).  `Lemmas/ValTyStore.lean` is imported
only to be built.
-/
namespace Goml.Wt
open Goml Goml.Mono Goml.Closed

/-! ## the judgement is stable under type substitution -/

/-- If `e` is type-consistent under `Σ`, `Γ`, then so is `e` with a type
substitution applied to every annotation, under `Γ` with the same substitution applied — for every
expression form, every substitution, and every environment whose definitions are closed (field types
mention only the parameters of their definition; trait method signatures mention none).  This is what
specialisation relies on: an instance of a consistent generic body is consistent.  References to
functions and builtins stay *instances* of their schemes (`instOf_subst`), constructor and field types
commute with instantiation (`fieldTys_subst`), callee annotations stay compatible modulo the wildcard
array length. -/
theorem subst_preserves_wt (S : Sig) (hS : SigClosed S) (σ : Subst) (Γ : TyEnv) (e : Expr)
    (h : wt S Γ e = true) : wt S (mapΓ σ Γ) (substE σ e) = true := by
  rw [wt_iff] at h ⊢
  exact errs_subst S hS σ e Γ h

/-- the type of a substituted expression is the substituted type -/
theorem getTy_subst (σ : Subst) (e : Expr) : getTy (substE σ e) = substTy σ (getTy e) := getTy_substE σ e

/-- a reference that is an instance of a scheme stays one under substitution of the use site's type -/
theorem scheme_instance_stable (σ : Subst) (scheme ty : Ty) (h : instOf scheme ty = true) :
    instOf scheme (substTy σ ty) = true := instOf_subst σ scheme ty h

/-! ## after monomorphisation no type parameter and no type application remains -/

/-- a substitution that binds every parameter of `t` to parameter-free types leaves
no `TParam` in `substTy σ t` -/
theorem subst_closed (σ : Subst) (t : Ty) (hd : ∀ x ∈ fvT t, (lookup σ x).isSome = true) (hc : ClosedSubst σ) :
    noParam (substTy σ t) = true := subst_closed_aux σ hc t hd

/-- When phase 2 of mono (`collapse_type_apps`) returns without error — in particular
without exhausting its fuel, which is the Rust's unbounded recursion — the type it returns contains no
`TApp`, provided every application in the input has arguments and a head that is a generic enum or
struct of the environment (`appsKnown`).  Covers every type constructor the Rust descends into
(tuple, function, array, `Ref`, `Vec`). -/
theorem collapse_noTApp (fuel : Nat) (t : Ty) (m : TM) (hk : appsKnown m.enumBase m.structBase t = true)
    (he : (collapse fuel t m).2.err = none) : noApp (collapse fuel t m).1 = true :=
  (collapse_noApp_aux fuel).1 t m hk he

/-- phase 2 never changes the tables of generic definitions and never clears an error -/
theorem collapse_preserves (fuel : Nat) (t : Ty) (m : TM) : Pres m (collapse fuel t m).2 :=
  (pres_all fuel).1 t m

/-! ## non-vacuity -/

def optDef : EnumDef := { name := "Opt", generics := ["T"], variants := [("Non", []), ("Som", [.param "T"])] }
def bagDef : StructDef := { name := "Bag", generics := ["T"], fields := [("items", .vec (.param "T")), ("n", .int 32 true)] }
def showTrait : TraitDef := { name := "Show", methods := [("show", .func [.struct "Self"] .string)] }

def exSig : Sig :=
  { fns := [{ name := "opt_or", generics := [], params := [("o/0", .app (.enum "Opt") [.param "T"]), ("d/1", .param "T")],
              ret := .param "T", body := .var "d/1" (.param "T") }],
    builtins := [("array_get", .func [.array Gen.arrayWildcardLen (.param "T"), .int 32 true] (.param "T")),
                 ("int32_to_string", .func [.int 32 true] .string)],
    enums := [optDef], structs := [bagDef], traits := [showTrait] }

theorem exSig_closed : SigClosed exSig := by
  refine ⟨?_, ?_, ?_⟩
  · intro d hd v hv t ht x hx
    simp only [exSig, List.mem_cons, List.not_mem_nil, or_false] at hd
    subst hd
    simp only [optDef, List.mem_cons, List.not_mem_nil, or_false] at hv
    rcases hv with rfl | rfl
    · simp at ht
    · simp only [List.mem_cons, List.not_mem_nil, or_false] at ht
      subst ht; simpa [fvT, optDef] using hx
  · intro d hd f hf x hx
    simp only [exSig, List.mem_cons, List.not_mem_nil, or_false] at hd
    subst hd
    simp only [bagDef, List.mem_cons, List.not_mem_nil, or_false] at hf
    rcases hf with rfl | rfl
    · simpa [fvT, bagDef] using hx
    · simp [fvT] at hx
  · intro d hd mt hm
    simp only [exSig, List.mem_cons, List.not_mem_nil, or_false] at hd
    subst hd
    simp only [showTrait, List.mem_cons, List.not_mem_nil, or_false] at hm
    subst hm; rfl

/-- a generic body: `match`-free excerpt `opt_or(Opt::Som(x), array_get(a, 0))` at type `T` -/
def exBody : Expr :=
  .call (.param "T") (.var "opt_or" (.func [.app (.enum "Opt") [.param "T"], .param "T"] (.param "T")))
    [.constr (.enum "Opt" "Som" 1) (.app (.enum "Opt") [.param "T"]) [.var "x/0" (.param "T")],
     .call (.param "T") (.var "array_get" (.func [.array Gen.arrayWildcardLen (.param "T"), .int 32 true] (.param "T")))
       [.var "a/1" (.array 3 (.param "T")), .prim (.int 32 true 0)]]

def exΓ : TyEnv := [("x/0", .param "T"), ("a/1", .array 3 (.param "T"))]

example : wt exSig exΓ exBody = true := by decide +kernel
/-- … and therefore its instance at `T := Vec[int32]` is consistent (by the theorem, and by evaluation) -/
example : wt exSig (mapΓ [("T", .vec (.int 32 true))] exΓ) (substE [("T", .vec (.int 32 true))] exBody) = true :=
  subst_preserves_wt exSig exSig_closed _ exΓ exBody (by decide +kernel)
example : wt exSig (mapΓ [("T", .vec (.int 32 true))] exΓ) (substE [("T", .vec (.int 32 true))] exBody) = true := by
  decide +kernel

-- what the judgement rejects: wrong argument type, wrong arity, unknown constructor/field, array length, branch types
example : errs exSig [] (.call .string (.var "int32_to_string" (.func [.int 32 true] .string)) [.prim (.str "s")])
    = ["call:argument-types|prim/prim"] := by decide +kernel
example : errs exSig [] (.call .string (.var "int32_to_string" (.func [.int 32 true] .string)) [])
    = ["call:argument-types|arity"] := by decide +kernel
example : errs exSig [("b/0", .struct "Bag")] (.cget (.struct "Bag") 5 .bool (.var "b/0" (.struct "Bag")))
    = ["field:no-such-constructor-at-this-type"] := by decide +kernel
example : errs exSig [("b/0", .app (.struct "Bag") [.bool])] (.cget (.struct "Bag") 5 .bool (.var "b/0" (.app (.struct "Bag") [.bool])))
    = ["field:index"] := by decide +kernel
example : errs exSig [] (.array (.array 3 (.int 32 true)) [.prim (.int 32 true 1), .prim (.int 32 true 2)])
    = ["array:length"] := by decide +kernel
example : errs exSig [] (.ite (.prim (.bool true)) (.prim (.int 32 true 1)) (.prim (.str "s")))
    = ["if:branch-types|prim/prim"] := by decide +kernel
example : errs exSig [] (.var "y/9" .bool) = ["var:unbound|y/9"] := by decide +kernel
-- the wildcard length of the builtin's annotation admits any array, a concrete length does not
example : errs exSig [("a/1", .array 3 .bool)]
    (.call .bool (.var "array_get" (.func [.array Gen.arrayWildcardLen .bool, .int 32 true] .bool)) [.var "a/1" (.array 3 .bool), .prim (.int 32 true 0)])
    = [] := by decide +kernel
example : errs exSig [("a/1", .array 3 .bool)]
    (.call .bool (.var "array_get" (.func [.array 5 .bool, .int 32 true] .bool)) [.var "a/1" (.array 3 .bool), .prim (.int 32 true 0)])
    = ["call:argument-types|array-length"] := by decide +kernel

-- phase 2: `Vec[Opt[int32]]` becomes `Vec[Opt__int32]` (no application left); an unknown head is outside the hypothesis
example : (collapse 10 (.vec (.app (.enum "Opt") [.int 32 true])) { enumBase := [optDef], structBase := [] }).1
    = .vec (.enum "Opt__int32") := by rfl
example : appsKnown [optDef] [] (.vec (.app (.enum "Opt") [.int 32 true])) = true := by decide +kernel
example : appsKnown [optDef] [] (.app (.enum "Nope") [.bool]) = false := by decide +kernel
example : noApp (collapse 40 (.tuple [.app (.enum "Opt") [.app (.enum "Opt") [.bool]], .ref (.app (.enum "Opt") [.unit])])
    { enumBase := [optDef], structBase := [] }).1 = true :=
  collapse_noTApp 40 _ _ (by decide +kernel) (by decide +kernel)
-- too little fuel is reported, not silently accepted
example : ((collapse 5 (.app (.enum "Opt") [.app (.enum "Opt") [.bool]]) { enumBase := [optDef], structBase := [] }).2.err).isSome = true := by
  decide +kernel

end Goml.Wt

/-! ## Type soundness of the reference semantics `Sem` w.r.t. `Wt`

`ValTy.VT S P v τ` types the VALUES of `Sem` (`Model/ValTy.lean`); `ValTy.ET S P θ ρ Γ` types an environment
against a context, `θ` instantiating the type parameters of the enclosing generic function (Core is generic, `Sem`
runs the generic body on concrete values); `ValTy.okProg S P` is the decidable whole-program hypothesis: every
function satisfies `Wt.wtFn` (the judgement `./check C03` evaluates on every real dump) and lies in the fragment
`ValTy.okE`.  Proofs: `Lemmas/ValTy{Basic,Key,Ops,Sound}.lean` (induction on the fuel over expressions, operand
lists, arms and `apply`). -/
namespace Goml.ValTy
open Goml Goml.Sem Goml.Wt Goml.Mono

/-- **Preservation, partial.**  In a program whose functions are all `Wt`-consistent and inside the fragment, an
expression of the fragment that is `Wt`-consistent under `Γ`, evaluated with ANY fuel in an environment of values
of the types of `Γ` (instantiated by `θ`) — if `Sem.eval` returns a value, the value inhabits the annotation of
the expression instantiated by `θ`.

Partial: the fragment `okE` = literals, local variables, `let`, `if`, `while`, unary / binary operators (with
short-circuit `&&` / `||`), tuples and projections, struct / enum constructors, struct field reads, enum field reads
under an arm that tested the variable for that variant, `match` as Core has it after match compilation, direct calls
of the printing / `*_to_string` builtins, closures, top-level functions as values (the annotation must be the
instance of the signature that `matchTy` finds), calls of any fragment expression of function type (closure, local,
top-level function) annotated with exactly `(argument types) -> result`, trait calls on receivers annotated with a
concrete type whose dispatch row has the annotated signature, and — when the dispatch table passes `implsOk` — trait
calls on ANY receiver, in particular `x: T` under a bound `T: Tr` (the only form real Core dumps contain): every row's
function has a first parameter of a keyable type (scalar of a real width, or a non-generic enum / struct of `S`) with the
row's key and the trait's method signature at that `Self`; no nominal type is named like a scalar key; `key_determines`
(`Lemmas/ValTyKey.lean`): the key of a well-typed value determines its type among the keyable types.
Arrays and vectors are values (`VT.array`, `VT.vec`): array literals, `array_get` / `array_set`, `vec_new` /
`vec_push` / `vec_get` / `vec_len`, judged on the shape of the argument and result types (`polyOk`).
Missing: `Ref` (needs a store typing), trait objects, `go`, builtins used as values, impls for instances of generic
types (`impl Tr for Opt[int32]`: `Sem`'s key is the head name only), trait calls on receivers of parametric type when
the dispatch table fails `implsOk`, ANF tags.  Progress (a fragment program is never `stuck`) is not proved.

What `Wt` alone is too weak for (each is a decidable conjunct of `okE`, evaluated on every real Core dump):
(1) `Wt` checks an enum field read against the constructor written in the node, `Sem` reads the field of whatever
variant the value has — the flow fact comes from the enclosing arm; (2) `Wt.nominalArgs` does not distinguish
`struct N` from `enum N` (`ctorTyOk`); (3) `Wt` compares a trait call with the TRAIT's method signature; nothing
relates the dispatch table to the implementing function (`dispatchOk`); (4) callee annotations are compared up
to the wildcard array length, the fragment asks for the exact instance. -/
theorem sem_preserves_types_partial (S : Sig) (P : Prog) (hS : SigClosed S) (hP : okProg S P = true) (fuel : Nat)
    {e : Expr} {ρ : Env} {w : World} {Γ : TyEnv} {K : Know} {θ : Subst} {v : Val} {w' : World}
    (hfrag : okE S P false Γ K e = true) (hwt : wt S Γ e = true) (hρ : ET S P θ ρ Γ) (hK : KOk K ρ)
    (hev : eval fuel P ρ w e = .ok v w') : VT S P v (substTy θ (getTy e)) := by
  rw [wt_iff] at hwt
  exact (sound_all hS hP fuel).expr hfrag hwt hρ hK hev

/-- the same for a call of a top-level function: arguments of the parameter types (at any instantiation `θ` of
its type parameters) give a result of the declared result type -/
theorem sem_preserves_types_apply_partial (S : Sig) (P : Prog) (hS : SigClosed S) (hP : okProg S P = true) (fuel : Nat)
    {name : String} {g : Fn} {θ : Subst} {args : List Val} {w : World} {v : Val} {w' : World}
    (hg : P.findFn name = some g) (ha : VTs S P args (substTys θ (g.params.map (·.2))))
    (hev : apply fuel P w (.fn name) args = .ok v w') : VT S P v (substTy θ g.ret) :=
  (sound_all hS hP fuel).app hg ha hev

/-- **Static dispatch.**  In a well-typed program of the fragment, whenever the receiver `recv` of
`ETraitCall Tr::m` evaluates to a value `rv` in an activation whose type arguments `θ` make the receiver's
annotation a concrete type `τ = substTy θ (getTy recv)` (for a concretely annotated receiver: every `θ`; for a
receiver of type `T` under a bound `T: Tr`: the `θ` of the instance `mono` creates), the runtime key `Sem`
dispatches on is the key of `τ`, so the dispatch-table row `Sem` selects — and the function it then applies — is
the row of the STATIC key, the one `Model/Mono.lean` names (`traitImplFnName tr (substTy σ (getTy recv)) m`). -/
theorem traitcall_static_dispatch (S : Sig) (P : Prog) (hS : SigClosed S) (hP : okProg S P = true) (fuel : Nat)
    {recv : Expr} {args : List Expr} {tr m : String} {ty : Ty} {ρ : Env} {w w1 : World} {Γ : TyEnv} {K : Know}
    {θ : Subst} {rv : Val}
    (hfrag : okE S P false Γ K recv = true) (hwt : wt S Γ recv = true) (hρ : ET S P θ ρ Γ) (hK : KOk K ρ)
    (hc : concreteTy (substTy θ (getTy recv)) = true) (hev : eval fuel P ρ w recv = .ok rv w1) :
    valKey rv = tyKey (substTy θ (getTy recv)) ∧
    eval (fuel + 1) P ρ w (.traitCall tr m ty recv args) =
      (evalList fuel P ρ w1 args).andThen (fun vs w2 =>
        match P.impls.find? (fun i => i.1 == tr && i.2.1 == tyKey (substTy θ (getTy recv)) && i.2.2.1 == m) with
        | some i => apply fuel P w2 (.fn i.2.2.2) (rv :: vs)
        | none => .fail (.stuck ("no impl of " ++ tr ++ " for " ++ tyKey (substTy θ (getTy recv)))) w2) := by
  have hv := sem_preserves_types_partial S P hS hP fuel hfrag hwt hρ hK hev
  have hk := valKey_of_VT hc hv
  refine ⟨hk, ?_⟩
  rw [eval_traitCall_at, hev]
  simp only [Res.andThen_ok]
  rw [hk]
  cases evalList fuel P ρ w1 args with
  | fail f w2 => rfl
  | ok vs w2 =>
    simp only [Res.andThen_ok]
    cases P.impls.find? (fun i => i.1 == tr && i.2.1 == tyKey (substTy θ (getTy recv)) && i.2.2.1 == m) <;> rfl

/-- application of ANY function value (closure, local holding one, top-level function): arguments of the
parameter types give a result of the result type -/
theorem sem_preserves_types_applyv_partial (S : Sig) (P : Prog) (hS : SigClosed S) (hP : okProg S P = true) (fuel : Nat)
    {fv : Val} {as : List Ty} {r : Ty} {args : List Val} {w : World} {v : Val} {w' : World}
    (hf : VT S P fv (.func as r)) (ha : VTs S P args as) (hev : apply fuel P w fv args = .ok v w') : VT S P v r :=
  (sound_all hS hP fuel).appv hf ha hev

/-! ### non-vacuity: a generic function, a struct, a trait call on its result -/

def tsSig : Sig :=
  { fns := [], structs := [{ name := "S", generics := [], fields := [("n", .int 32 true)] }],
    enums := [{ name := "Opt", generics := ["T"], variants := [("None", []), ("Some", [.param "T"])] }],
    traits := [{ name := "A", methods := [("foo", .func [.struct "Self"] .string)] }],
    builtins := [("int32_to_string", .func [.int 32 true] .string), ("string_println", .func [.string] .unit)] }

/-- `fn ident[T](x: T) -> T { x }`, `impl A for S { fn foo(self) -> string { int32_to_string(self.n) } }`,
    `fn unwrap(o: Opt[int32]) -> int32 { match o { None => 0, Some(v) => v } }`,
    `fn viaA[T: A](x: T) -> string { A::foo(x) }` (an `ETraitCall` on a receiver of parametric type, as in every real dump),
    `fn main() { let s = ident(S { n: unwrap(Some(7)) }); string_println(A::foo(s)); string_println(viaA(s)) }` -/
def tsProg : Prog :=
  { impls := [("A", "S", "foo", "trait_impl#A#S#foo")]
    fns := [
      { name := "ident", generics := ["T"], params := [("x", .param "T")], ret := .param "T", body := .var "x" (.param "T") },
      { name := "trait_impl#A#S#foo", generics := [], params := [("self", .struct "S")], ret := .string,
        body := .call .string (.var "int32_to_string" (.func [.int 32 true] .string))
                  [.cget (.struct "S") 0 (.int 32 true) (.var "self" (.struct "S"))] },
      { name := "viaA", generics := ["T"], params := [("x", .param "T")], ret := .string,
        body := .traitCall "A" "foo" .string (.var "x" (.param "T")) [] },
      { name := "unwrap", generics := [], params := [("o", .app (.enum "Opt") [.int 32 true])], ret := .int 32 true,
        body := .matchE (.int 32 true) (.var "o" (.app (.enum "Opt") [.int 32 true]))
          [.mk (.constr (.enum "Opt" "None" 0) (.app (.enum "Opt") [.int 32 true]) []) (.prim (.int 32 true 0)),
           .mk (.constr (.enum "Opt" "Some" 1) (.app (.enum "Opt") [.int 32 true]) [.var "v" (.int 32 true)])
               (.cget (.enum "Opt" "Some" 1) 0 (.int 32 true) (.var "o" (.app (.enum "Opt") [.int 32 true])))] none },
      { name := "main", generics := [], params := [], ret := .unit,
        body := .letE "s" (.call (.struct "S") (.var "ident" (.func [.struct "S"] (.struct "S")))
                  [.constr (.struct "S") (.struct "S")
                    [.call (.int 32 true) (.var "unwrap" (.func [.app (.enum "Opt") [.int 32 true]] (.int 32 true)))
                      [.constr (.enum "Opt" "Some" 1) (.app (.enum "Opt") [.int 32 true]) [.prim (.int 32 true 7)]]]])
                (.letE "u" (.call .unit (.var "string_println" (.func [.string] .unit))
                  [.traitCall "A" "foo" .string (.var "s" (.struct "S")) []])
                 (.call .unit (.var "string_println" (.func [.string] .unit))
                  [.call .string (.var "viaA" (.func [.struct "S"] .string)) [.var "s" (.struct "S")]])) }] }

def tsS : Sig := { tsSig with fns := tsProg.fns }

example : okProg tsS tsProg = true := by decide +kernel
-- closures and function values: `let k = 3; let add = |x: int32| x + k; let f = ident; add(f(4))`
example : okE tsS tsProg false [] []
    (.letE "k" (.prim (.int 32 true 3))
      (.letE "add" (.closure (.func [.int 32 true] (.int 32 true)) [("x", .int 32 true)]
          (.bin .add (.int 32 true) (.var "x" (.int 32 true)) (.var "k" (.int 32 true))))
        (.letE "f" (.var "ident" (.func [.int 32 true] (.int 32 true)))
          (.call (.int 32 true) (.var "add" (.func [.int 32 true] (.int 32 true)))
            [.call (.int 32 true) (.var "f" (.func [.int 32 true] (.int 32 true))) [.prim (.int 32 true 4)]])))) = true := by
  decide +kernel
example : wtProg tsS = true := by decide +kernel
example : (run 100 tsProg).out = "7\n7\n" ∧ (run 100 tsProg).status = "ok" := by decide +kernel
example : implsOk tsS tsProg = true := by decide +kernel
-- the dispatch-table check refuses a row whose function has another receiver type than its key says
example : implsOk tsS { tsProg with impls := [("A", "int32", "foo", "trait_impl#A#S#foo")] } = false := by decide +kernel
-- what the fragment refuses: the field read outside the arm that established the variant
example : okE tsS tsProg false [("o", .app (.enum "Opt") [.int 32 true])] []
    (.cget (.enum "Opt" "Some" 1) 0 (.int 32 true) (.var "o" (.app (.enum "Opt") [.int 32 true]))) = false := by decide +kernel
-- ... which `Wt` accepts although `Sem` would read a field of `None`
example : wt tsS [("o", .app (.enum "Opt") [.int 32 true])]
    (.cget (.enum "Opt" "Some" 1) 0 (.int 32 true) (.var "o" (.app (.enum "Opt") [.int 32 true]))) = true := by decide +kernel
-- arrays and vectors: `let a = [1, 2]; let v = vec_push(vec_new(), array_get(a, 0)); vec_len(v)`
example : okE tsS tsProg false [] []
    (.letE "a" (.array (.array 2 (.int 32 true)) [.prim (.int 32 true 1), .prim (.int 32 true 2)])
      (.letE "v" (.call (.vec (.int 32 true)) (.var "vec_push" (.func [.vec (.int 32 true), .int 32 true] (.vec (.int 32 true))))
          [.call (.vec (.int 32 true)) (.var "vec_new" (.func [] (.vec (.int 32 true)))) [],
           .call (.int 32 true) (.var "array_get" (.func [.array Gen.arrayWildcardLen (.int 32 true), .int 32 true] (.int 32 true)))
             [.var "a" (.array 2 (.int 32 true)), .prim (.int 32 true 0)]])
        (.call (.int 32 true) (.var "vec_len" (.func [.vec (.int 32 true)] (.int 32 true))) [.var "v" (.vec (.int 32 true))]))) = true := by
  decide +kernel
-- weakness (2): `Wt` accepts a struct constructor annotated with the ENUM type of the same name (`nominalArgs` looks at the name only)
example : wt { tsS with enums := [] } [] (.constr (.struct "S") (.enum "S") [.prim (.int 32 true 1)]) = true ∧
    ctorTyOk (.struct "S") (.enum "S") = false := by decide +kernel
-- weakness (4): `Wt` compares a callee annotation with the arguments up to the wildcard array length; the fragment asks for equality
example : compatTys [.array Gen.arrayWildcardLen .bool] [.array 3 .bool] = true ∧
    tyBeq (.func [.array Gen.arrayWildcardLen .bool] .bool) (.func [.array 3 .bool] .bool) = false := by decide +kernel
-- weakness (3): `Wt` accepts the trait call whatever the dispatch table says; a dispatch row naming a function of another signature is refused
example : dispatchOk { tsProg with impls := [("A", "S", "foo", "unwrap")] } "A" "foo" (.struct "S") [] .string = false := by
  decide +kernel
-- the receiver of a bounded generic function at the instance `T := S`: the key is that of `S`
example : concreteTy (substTy [("T", .struct "S")] (.param "T")) = true ∧
    tyKey (substTy [("T", .struct "S")] (.param "T")) = "S" := by decide +kernel

end Goml.ValTy

/-! ## Type soundness of `Sem` with references

`ValTyR.VT S P Ψ v τ` (`Model/ValTyRef.lean`) is `ValTy.VT` indexed by a store typing `Ψ : List Ty` (location ↦ type of its
content) with the rule `ref l : ref e` when `Ψ[l]? = some e`; `ValTyR.WT S P Ψ w` is the world invariant (one cell per entry of
`Ψ`, each holding a value of the recorded type); `Ext Ψ Ψ'` is append-only extension.  The fragment is `okE S P true` (the flag
admits the reference builtins `ref`, `ref_get`, `ref_set` and the trait-object forms `toDyn`, `dynCall`).  Proof: the same induction
(`Lemmas/ValTySound.lean`) at the flag `true`, restated for `ValTyR` in `Lemmas/ValTy2{Basic,Sound}.lean`. -/
namespace Goml.ValTyR
open Goml Goml.Sem Goml.Wt Goml.Mono Goml.ValTy

/-- **Preservation with a store, partial.**  As `ValTy.sem_preserves_types_partial`, for the fragment WITH the reference
builtins: from a well-typed world, a returned value inhabits its annotation under an append-only extension of the store
typing, and the new world satisfies the invariant for that extension (so every later `ref_get` reads a value of the
recorded type and no typed reference dangles).  Trait objects are typed values (`VT.dyn`: the packed value has a
keyable type whose key the object carries): `toDyn` at a keyable
source type and `dynCall` of an object-safe method (`objSafe`: `Self` is the receiver and occurs nowhere else) under the
dispatch-table check `implsOk` are inside the fragment.  Partial: no `go`, builtins as values, impls for instances
of generic types, `toDyn` at a type parameter; progress is not stated. -/
theorem sem_preserves_types_store_partial (S : Sig) (P : Prog) (hS : SigClosed S) (hP : okProg S P true = true) (fuel : Nat)
    {e : Expr} {ρ : Env} {w : World} {Γ : TyEnv} {K : Know} {θ : Subst} {Ψ : List Ty} {v : Val} {w' : World}
    (hfrag : okE S P true Γ K e = true) (hwt : wt S Γ e = true) (hρ : ET S P Ψ θ ρ Γ) (hK : KOk K ρ) (hw : WT S P Ψ w)
    (hev : eval fuel P ρ w e = .ok v w') :
    ∃ Ψ', Ext Ψ Ψ' ∧ WT S P Ψ' w' ∧ VT S P Ψ' v (substTy θ (getTy e)) := by
  rw [wt_iff] at hwt
  exact (sound_all hS hP fuel).expr hfrag hwt hρ hK hw hev

/-- a whole run: `main` applied in the initial world (empty store, empty store typing) returns a value of its declared
result type and leaves a well-typed store -/
theorem sem_preserves_types_main_partial (S : Sig) (P : Prog) (hS : SigClosed S) (hP : okProg S P true = true) (fuel : Nat)
    {g : Fn} (hg : P.findFn "main" = some g) (hpar : g.params = []) (eager : Bool) {v : Val} {w' : World}
    (hev : apply fuel P { eager := eager } (.fn "main") [] = .ok v w') :
    ∃ Ψ', WT S P Ψ' w' ∧ VT S P Ψ' v (substTy [] g.ret) := by
  have hw : WT S P [] ({ eager := eager } : World) := ⟨rfl, by intro l v h; simp at h⟩
  obtain ⟨Ψ', _, hw', hv⟩ := (sound_all hS hP fuel).app (θ := []) (Ψ := []) hg (by rw [hpar]; exact .nil) hw hev
  exact ⟨Ψ', hw', hv⟩

/-- static dispatch with a store: the key only (first conjunct of `ValTy.traitcall_static_dispatch`) -/
theorem traitcall_static_dispatch_store (S : Sig) (P : Prog) (hS : SigClosed S) (hP : okProg S P true = true) (fuel : Nat)
    {recv : Expr} {ρ : Env} {w w1 : World} {Γ : TyEnv} {K : Know} {θ : Subst} {Ψ : List Ty} {rv : Val}
    (hfrag : okE S P true Γ K recv = true) (hwt : wt S Γ recv = true) (hρ : ET S P Ψ θ ρ Γ) (hK : KOk K ρ) (hw : WT S P Ψ w)
    (hc : concreteTy (substTy θ (getTy recv)) = true) (hev : eval fuel P ρ w recv = .ok rv w1) :
    valKey rv = tyKey (substTy θ (getTy recv)) := by
  obtain ⟨Ψ', _, _, hv⟩ := sem_preserves_types_store_partial S P hS hP fuel hfrag hwt hρ hK hw hev
  exact valKey_of_VT hc hv

-- `let r = ref(1); let u = ref_set(r, ref_get(r) + 1); ref_get(r)`
example : okE ValTy.tsS ValTy.tsProg true [] []
    (.letE "r" (.call (.ref (.int 32 true)) (.var "ref" (.func [.int 32 true] (.ref (.int 32 true)))) [.prim (.int 32 true 1)])
      (.letE "u" (.call .unit (.var "ref_set" (.func [.ref (.int 32 true), .int 32 true] .unit))
          [.var "r" (.ref (.int 32 true)),
           .bin .add (.int 32 true)
             (.call (.int 32 true) (.var "ref_get" (.func [.ref (.int 32 true)] (.int 32 true))) [.var "r" (.ref (.int 32 true))])
             (.prim (.int 32 true 1))])
        (.call (.int 32 true) (.var "ref_get" (.func [.ref (.int 32 true)] (.int 32 true))) [.var "r" (.ref (.int 32 true))]))) = true := by
  decide +kernel
-- the same expression is outside the reference-free fragment
example : okE ValTy.tsS ValTy.tsProg false [] []
    (.call (.ref (.int 32 true)) (.var "ref" (.func [.int 32 true] (.ref (.int 32 true)))) [.prim (.int 32 true 1)]) = false := by
  decide +kernel
example : okProg ValTy.tsS ValTy.tsProg true = true := by decide +kernel
-- trait objects: `let d: dyn A = S { n: 1 }; A::foo(d)` — `toDyn` at a keyable source type, `dynCall` on an object-safe method
example : okE ValTy.tsS ValTy.tsProg true [] []
    (.letE "d" (.toDyn "A" (.struct "S") (.dyn "A") (.constr (.struct "S") (.struct "S") [.prim (.int 32 true 1)]))
      (.dynCall "A" "foo" .string (.var "d" (.dyn "A")) [])) = true ∧ objSafe ValTy.tsS "A" "foo" = true := by
  decide +kernel

end Goml.ValTyR
