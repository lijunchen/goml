import GomlVerif.Lemmas.LowerStack
import GomlVerif.Lemmas.LowerOkFile
import GomlVerif.Lemmas.LowerPrattOps
import GomlVerif.Props.C11
/-!
# CST→AST lowering — properties of `Model/Lower.lean`

The model is tied to `crates/ast/src/lower.rs` by `gv lower` / `gomlmodel lower` (`tools/props/lowertie.py`):
the REAL rowan tree of every text is lowered by the model and must give the real `ast::File` dump or the real
diagnostics.
-/
namespace Goml.Lower
open Goml.Src

/-- the classification test itself: a bare name (a one-segment path) is called a constructor exactly when
    its spelling is a constructor of the file and no local binder on the stack has that spelling -/
theorem isCtorPath_bare_iff (C locals : List String) (x : String) :
    isCtorPath C locals [x] x = true ↔ x ∈ C ∧ x ∉ locals := by
  simp [isCtorPath, isCtor]

/-- a qualified path (`Color::red`, `Lib::Color::Blue`) never consults the binder stack -/
theorem isCtorPath_qualified (C locals : List String) (a b : String) (rest : List String) (last : String) :
    isCtorPath C locals (a :: b :: rest) last = isCtor C last := by
  simp [isCtorPath]

/-- **The binder stack is balanced.** Whatever the tree, the pending postfix operations, the fuel and the state:
after lowering an expression (`lower_expr_with_args`), a branch / closure body, a struct-literal field, a call
argument, a match arm or a block, `LowerCtx::locals` is exactly what it was before — the names pushed for closure
parameters, pattern variables and `let`s never leak out of their closure, arm or block.  (To use it take the fields
of `coreBal`.) -/
theorem lower_binder_stack_balanced (C : List String) (n : Nat) (node : Cst) (s : St) :
    (∀ tr, (lowerExprW C n node tr s).2.locals = s.locals) ∧
    (∀ msg, (lowerBranch C n node msg s).2.locals = s.locals) ∧
    (lowerFieldInit C n node s).2.locals = s.locals ∧
    (lowerArg C n node s).2.locals = s.locals ∧
    (lowerArm C n node s).2.locals = s.locals ∧
    (lowerBlock C n node s).2.locals = s.locals :=
  have h := coreBal C n
  -- each conjunct is the first component of `Bal.run`, from `s` with `Γ := s.locals`
  have locals {α} {m : M α} (hm : Bal s.locals m (fun _ => True)) : (m s).2.locals = s.locals := hm.locals s rfl
  ⟨fun tr => locals (h.exprW node tr _),
   fun msg => locals (h.branch node msg _),
   locals (h.fieldInit node _),
   locals (h.arg node _),
   locals (h.arm node _),
   locals (h.block node _)⟩

/-- a statement only ever PUSHES (the names of a `let` pattern): the stack before it is a prefix of the stack
after it; the enclosing `lower_block` truncates (`lower_binder_stack_balanced`) -/
theorem lower_stmt_only_pushes (C : List String) (n : Nat) (st : Cst) (s : St) :
    ∃ ext, (lowerStmt C n st s).2.locals = s.locals ++ ext := by
  obtain ⟨ext, h, _⟩ := (coreBal C n).stmt st s.locals s rfl
  exact ⟨ext, h⟩

/-- types and patterns are lowered without touching the binder stack (`lower_pat` classifies a bare identifier
by the FILE's constructor set alone; `bind_pat` is the caller's business) -/
theorem lower_pat_ty_leave_stack (C : List String) (n : Nat) (node : Cst) (s : St) :
    (lowerPat C n node s).2.locals = s.locals ∧ (lowerTy n node s).2.locals = s.locals :=
  ⟨(run_lowerPat C n node s.locals).bal.locals s rfl, (run_lowerTy n node s.locals).bal.locals s rfl⟩

/-- **Totality, the panic side, function by function.**  For EVERY tree (any kinds, any children missing or
repeated), any fuel and any state, the lowering model never reaches a Rust panic: the only candidate in
`lower.rs`, `last_ident().expect("paths must contain at least one segment")`, is unreachable because
`lower_path` answers a diagnostic instead of an empty path.  A missing child is a diagnostic or a silent `None`.
The whole-file statement, with the fuel, is `lower_total`. -/
theorem lower_no_panic (C : List String) (n : Nat) (node : Cst) (s : St) :
    (∀ tr, (lowerExprW C n node tr s).2.stuck = s.stuck) ∧
    (lowerBlock C n node s).2.stuck = s.stuck ∧
    (lowerArm C n node s).2.stuck = s.stuck ∧
    (∃ ext, (lowerStmt C n node s).2.locals = s.locals ++ ext ∧ (lowerStmt C n node s).2.stuck = s.stuck) ∧
    (lowerPat C n node s).2.stuck = s.stuck ∧
    (lowerTy n node s).2.stuck = s.stuck := by
  have h := coreBal C n
  -- each conjunct but the statement's is the second component of `Bal.run`, from `s` with `Γ := s.locals`
  have stuck {α} {m : M α} (hm : Bal s.locals m (fun _ => True)) : (m s).2.stuck = s.stuck := hm.stuck s rfl
  refine ⟨fun tr => stuck (h.exprW node tr _),
    stuck (h.block node _),
    stuck (h.arm node _),
    ?_,
    stuck (run_lowerPat C n node _).bal,
    stuck (run_lowerTy n node _).bal⟩
  obtain ⟨ext, h1, h2, _⟩ := h.stmt node s.locals s rfl
  exact ⟨ext, h1, h2⟩

/-- `patVars` (the model of `LowerCtx::bind_pat`) pushes exactly the names the C05 specification puts in scope for
a pattern (`Resolve.patNames` of its scope-tree image) -/
theorem patVars_scope (p : Pat) : Resolve.patNames (scopePat p) = patVars p := patNames_scopePat p

/-- For EVERY tree, fuel and state: if lowering an expression (with no pending postfix
operations) from the binder stack `Γ = s.locals` yields `e`, then `e` is classified exactly as the DECLARATIVE scope
rules of `Model/Resolve.lean` say, with `Γ` as the enclosing local binders and the scope extended only downwards
(`Γ ++ params` in a closure body, `Γ ++ patNames p` in an arm body and in the rest of a block after `let p`):
* every `EConstr [x] args` (scope tree: `con x`) has `x ∈ C` (a constructor of the file) and no enclosing local binder
  spelled `x`;
* vice versa every classified one-segment `EPath [x]` (scope tree: `var x`; also as the callee of a call) is NOT such
  a name: `x ∉ C` or a local binder `x` encloses it (`classOkExpr`, both directions in one Boolean);
* hence `Resolve.conOkExpr` — the hypothesis of `resolve_refines_spec` (Props/C05.lean) — holds of the lowered AST:
  it is a theorem about the lowering model, for every tree.
The invariant behind it (`core`, `Lemmas/LowerOk.lean`): at every node the stack IS the list of binders the C05
specification has in scope there (`lower_binder_stack_balanced` + `patVars_scope` + `isCtorPath_bare_iff`). -/
theorem lower_ctor_iff (C D : List String) (n : Nat) (node : Cst) (s : St) (e : Expr)
    (h : (lowerExprW C n node [] s).1 = some e) :
    classOkExpr C s.locals (scopeOf e) = true ∧ Resolve.conOkExpr ⟨C, D⟩ s.locals (scopeOf e) = true := by
  have hk := ((coreOk C n).exprW node [] s.locals nil_okT).result s rfl h
  exact ⟨hk.1, conOk_expr D _ _ hk.1⟩

/-- `lower_ctor_iff` for a block (a function body, a branch, a closure or arm body that is a block) -/
theorem lower_ctor_iff_block (C D : List String) (n : Nat) (node : Cst) (s : St) (e : Expr)
    (h : (lowerBlock C n node s).1 = some e) :
    classOkExpr C s.locals (scopeOf e) = true ∧ Resolve.conOkExpr ⟨C, D⟩ s.locals (scopeOf e) = true := by
  have hk := ((coreOk C n).block node s.locals).result s rfl h
  exact ⟨hk.1, conOk_expr D _ _ hk.1⟩

/-- `lower_ctor_iff` for a match arm: the body is classified under the stack extended by the pattern's binders.  The
two conjuncts name that scope as the model pushes it (`patVars p`) and as the C05 specification computes it
(`Resolve.patNames (scopePat p)`); they are the same list (`patVars_scope`). -/
theorem lower_ctor_iff_arm (C D : List String) (n : Nat) (node : Cst) (s : St) (p : Pat) (b : Expr)
    (h : (lowerArm C n node s).1 = some (.mk p b)) :
    classOkExpr C (s.locals ++ patVars p) (scopeOf b) = true ∧
      Resolve.conOkExpr ⟨C, D⟩ (s.locals ++ Resolve.patNames (scopePat p)) (scopeOf b) = true := by
  have hk : OkArm C s.locals (.mk p b) := ((coreOk C n).arm node s.locals).result s rfl h
  rw [patNames_scopePat]
  exact ⟨hk.1, conOk_expr D _ _ hk.1⟩

/-- `lower_ctor_iff` for a whole function (`lower_fn`, also the methods of an `impl`): lowered at top level (empty stack), its body
is classified under exactly its parameter names — the scope `Resolve.specFn` / `resolveFn` start from. So `conOkExpr`,
the hypothesis of `resolve_refines_spec` / `resolveFn_refines_spec`, holds of every function the lowering model produces. -/
theorem lower_ctor_iff_fn (C D : List String) (n : Nat) (node : Cst) (s : St) (f : FnDef)
    (hs : s.locals = []) (h : (lowerFn C n node s).1 = some f) :
    classOkExpr C (f.params.map (·.1)) (scopeOf f.body) = true ∧
      Resolve.conOkExpr ⟨C, D⟩ (f.params.map (·.1)) (scopeOf f.body) = true ∧
      (lowerFn C n node s).2.locals = [] := by
  have hb := (run_lowerFn (C := C) n node []).bal
  have hk := hb.result s hs h
  simp only [List.nil_append] at hk
  exact ⟨hk.1, conOk_expr D _ _ hk.1, hb.locals s hs⟩

/-- The fuel `lowerFile` hands out (`2·size + 10`) is never exhausted: every recursive call of
every function of the model goes to a strict sub-tree with one unit less (`Lemmas/LowerFuel.lean`: `child` / `childrenK`
select strictly smaller trees; the statement loop of a block needs one unit per statement). -/
theorem lower_fuel_suffices (file : Cst) : (lowerFile file).st.starved = false := lowerFile_not_starved file

/-- `lower_fuel_suffices` for one expression / block, with any fuel `≥ 2·size` -/
theorem lower_fuel_suffices_expr (C : List String) (n : Nat) (node : Cst) (tr : List Trailing) (s : St)
    (hn : 2 * node.size ≤ n) (hs : s.starved = false) :
    (lowerExprW C n node tr s).2.starved = false ∧ (lowerBlock C n node s).2.starved = false :=
  ⟨((coreNS C n).exprW node tr hn).run s hs, ((coreNS C n).block node hn).run s hs⟩

/-- For EVERY tree the tree builder can hand to `lower` (any kinds, children missing, repeated or
misplaced): the model finishes within its fuel, never reaches a Rust panic, leaves the binder stack empty, and answers an
`ast::File` exactly when it pushed no diagnostic — a missing child is a diagnostic or a silent `None`, never a panic. -/
theorem lower_total (file : Cst) :
    (lowerFile file).st.starved = false ∧ (lowerFile file).st.stuck = false ∧ (lowerFile file).st.locals = [] ∧
    ((lowerFile file).ast.isSome ↔ (lowerFile file).st.diags = []) := by
  have h := ok_lowerFile file (fuelFor file)
  refine ⟨lowerFile_not_starved file, h.2.1, h.1, ?_⟩
  -- `lowerFileWith` ends with `ast := if r.2.diags.isEmpty then some f else none`
  unfold lowerFile lowerFileWith
  dsimp only
  split <;> simp_all

/-- Every function body of a lowered file — top-level functions and the methods of every `impl`
block — is classified under exactly its parameter names against the FILE's constructor set: `Resolve.conOkExpr` holds of it.
The hypothesis of `resolve_refines_spec` / `resolveFn_refines_spec` is discharged for whole files. -/
theorem lower_ctor_iff_file (file : Cst) (D : List String) (f : FnDef)
    (hf : Item.fn f ∈ (lowerFile file).built.items ∨
          ∃ d, Item.impl d ∈ (lowerFile file).built.items ∧ f ∈ d.methods) :
    classOkExpr (collectConstructorNames file) (f.params.map (·.1)) (scopeOf f.body) = true ∧
    Resolve.conOkExpr ⟨collectConstructorNames file, D⟩ (f.params.map (·.1)) (scopeOf f.body) = true := by
  have hk := fnOk_of_lowerFile hf
  exact ⟨hk, conOk_expr D _ _ hk⟩

/-- when lowering succeeds the `ast::File` it answers is the file that was built -/
theorem lower_ast_eq_built (file : Cst) (a : File) (h : (lowerFile file).ast = some a) : a = (lowerFile file).built := by
  unfold lowerFile lowerFileWith at h ⊢
  dsimp only at h ⊢
  split at h
  · cases h; rfl
  · cases h

/-- `lower_parse_print` restricted to OPERATOR trees (`plain c`: identifiers, integer literals, parentheses, both prefix
operators, the twelve binary operators; no call, no `.`), with fuel `depth c` and the side condition stated on the tree that
comes out: `fits C a`, no variable of `a` is spelled like a constructor of the file (it would be an `EConstr`, see
`lower_ctor_iff`); the bound of `fits` on tuple indices is vacuous here, an operator tree has no `.`.  It is `lower_full`
through `okC_of_plain`. -/
theorem lower_parse_print_ops (C : List String) (ts : List Pratt.Tok) (c : Pratt.Cst) (a : Pratt.Ast)
    (hc : Pratt.parseCst ts = some c) (hp : plain c = true) (ha : Pratt.parse ts = some a) (hf : fits C a = true) (s : St) :
    (lowerExprW C (depth c) (embed c) [] s).1 = some (toExpr a) := by
  unfold Pratt.parse at ha
  rw [hc] at ha
  exact lower_plain C c a (depth c) s hp ha hf (Nat.le_refl _)

/-- `lower_parse_print_tree` for operator trees -/
theorem lower_parse_print_ops_tree (C : List String) (t : Pratt.Ast) (hwf : Pratt.wf t = true) (hf : fits C t = true)
    (c : Pratt.Cst) (hc : Pratt.parseCst (Pratt.printMin t 0) = some c) (hp : plain c = true) (s : St) :
    (lowerExprW C (depth c) (embed c) [] s).1 = some (toExpr t) :=
  lower_parse_print_ops C _ c t hc hp (Goml.Props.C11.parse_print t hwf) hf s

/-- The whole image of `Pratt.Cst`: operators, parentheses, CALLS (identifier callee, postfix callee,
call handed down to the operand of a prefix operator or into parentheses), FIELD access and tuple PROJECTION (applied, or handed
down when the receiver chain starts at a prefix operator), with any pending list.  If the token list parses to `c` and
`Pratt.parse` reads it as `a`, the REAL lowering model `Model/Lower.lean` (tied to `ast::lower` on the real rowan tree) lowers
`embed c` to `toExpr a`, from any state, with fuel `dep c`.  Decidable side condition `okC C c`: no identifier in expression
position is spelled like a constructor of the file (it would be an `EConstr`: `lower_ctor_iff`), and every tuple index fits
`usize` (beyond it the real code reports "Invalid tuple index", see the `example`).  This is the re-attachment of postfix
chains to the operand of a prefix operator, proved for the lowering model itself (`lower_full_all`,
`Lemmas/LowerPrattFull.lean`). -/
theorem lower_parse_print (C : List String) (ts : List Pratt.Tok) (c : Pratt.Cst) (a : Pratt.Ast)
    (hc : Pratt.parseCst ts = some c) (hok : okC C c = true) (ha : Pratt.parse ts = some a) (s : St) :
    (lowerExprW C (dep c) (embed c) [] s).1 = some (toExpr a) := by
  unfold Pratt.parse at ha
  rw [hc] at ha
  exact lower_full C c [] a (dep c) s hok ha (Nat.le_refl _)

/-- `lower_parse_print` composed with `parse_print` (Props/C11.lean), which then holds for the real lowering model: print any
well-formed tree with minimal parentheses, parse, lower with `Model/Lower.lean` — the tree -/
theorem lower_parse_print_tree (C : List String) (t : Pratt.Ast) (hwf : Pratt.wf t = true)
    (c : Pratt.Cst) (hc : Pratt.parseCst (Pratt.printMin t 0) = some c) (hok : okC C c = true) (s : St) :
    (lowerExprW C (dep c) (embed c) [] s).1 = some (toExpr t) :=
  lower_parse_print C _ c t hc hok (Goml.Props.C11.parse_print t hwf) s

/-- non-vacuity of `lower_parse_print`: `- g ( x ) . h . k` arrives as `(((-g)(x)).h).k` and is lowered to
`-(g(x).h.k)` — the call and BOTH field accesses go down to the operand of the prefix operator -/
example : (lowerExprW ["Mk"] 5 (embed (.binary .Dot (.binary .Dot (.call (.prefix .Minus (.ident "g")) [.ident "x"]) (.ident "h")) (.ident "k"))) [] {}).1
    = some (.un .neg (.field (.field (.call (.path ["g"]) [.path ["x"]]) "h") "k")) :=
  have hok : okC ["Mk"] _ = true := by decide
  have hlower : Pratt.lower _ [] = some (.un .neg (.field (.field (.call (.var "g") [.var "x"]) "h") "k")) := by rfl
  have hfuel : dep _ ≤ 5 := by decide
  lower_full ["Mk"] _ [] _ 5 {} hok hlower hfuel

/-- beyond `usize` the real code (`text.parse::<usize>()` in the `.` case) reports "Invalid tuple index"; `Pratt.digitsNat`
has no such bound — which is why `fits` asks for indices below `2^64` -/
example : parseUsize "18446744073709551615" = some (2 ^ 64 - 1) ∧ parseUsize "18446744073709551616" = none ∧
    Pratt.digitsNat "18446744073709551616".toList = some (2 ^ 64) := by decide +kernel

/-- non-vacuity of `lower_parse_print_ops`: `- a * ( b + 1 )` -/
example : (lowerExprW ["Mk"] 4 (embed (.binary .Star (.prefix .Minus (.ident "a")) (.paren (.binary .Plus (.ident "b") (.int ['1']))))) [] {}).1
    = some (.bin .mul (.un .neg (.path ["a"])) (.bin .add (.path ["b"]) (.lit (.int none "1")))) :=
  have hplain : plain _ = true := by decide
  have hlower : Pratt.lower _ [] = some (.bin .mul (.un .neg (.var "a")) (.bin .add (.var "b") (.lit ['1']))) := by rfl
  have hfits : fits ["Mk"] _ = true := by decide
  have hfuel : depth _ ≤ 4 := by decide
  lower_plain ["Mk"] _ _ 4 {} hplain hlower hfits hfuel

/-! ## non-vacuity of `lower_ctor_iff`: concrete rowan-shaped trees -/

def tk (k t : String) : Cst := .tok k t none
def identE (x : String) : Cst := .node "EXPR_IDENT" [.node "PATH" [tk "Ident" x]]
def callE (f : Cst) (args : List Cst) : Cst :=
  .node "EXPR_CALL" [f, .node "ARG_LIST" (tk "LParen" "(" :: args.map (fun a => .node "ARG" [a]) ++ [tk "RParen" ")"])]
/-- `|Mk| Mk(y)` -/
def closureMk : Cst :=
  .node "EXPR_CLOSURE" [.node "CLOSURE_PARAM_LIST" [tk "Pipe" "|", .node "CLOSURE_PARAM" [tk "Ident" "Mk"], tk "Pipe" "|"],
    .node "EXPR_CLOSURE_BODY" [callE (identE "Mk") [identE "y"]]]
/-- `y => |Mk| Mk(y)` followed, in the same `match`, by `z => Mk(z)` -/
def armsMk : Cst :=
  .node "MATCH_ARM_LIST" [
    .node "MATCH_ARM" [.node "PATTERN_VARIABLE" [tk "Ident" "y"], tk "FatArrow" "=>", closureMk],
    .node "MATCH_ARM" [.node "PATTERN_VARIABLE" [tk "Ident" "z"], tk "FatArrow" "=>", callE (identE "Mk") [identE "z"]]]
def matchMk : Cst := .node "EXPR_MATCH" [tk "MatchKeyword" "match", identE "x", armsMk]

def isClosureCallingParam : Expr → Bool
  | .matchE (.path ["x"]) [.mk (.var "y") (.closure [("Mk", none)] (.call (.path ["Mk"]) [.path ["y"]])),
                            .mk (.var "z") (.constr ["Mk"] [.path ["z"]])] => true
  | _ => false

/-- a closure parameter spelled like a variant, used in call position inside a match arm, is a CALL of the
    parameter; in the next arm (the parameter is out of scope again) the same spelling is the constructor -/
example : ((lowerExprW ["Mk"] 20 matchMk [] {}).1.map isClosureCallingParam) = some true := by decide +kernel

/-- `P { x, y: Mk, z: w }` with `Mk` a constructor of the file: shorthand field = binder, renamed field with a
    constructor spelling = nullary constructor pattern, renamed field otherwise = binder -/
def structPat : Cst :=
  .node "PATTERN_CONSTR" [.node "PATH" [tk "Ident" "P"], .node "STRUCT_PATTERN_FIELD_LIST" [tk "LBrace" "{",
    .node "STRUCT_PATTERN_FIELD" [tk "Ident" "x"], tk "Comma" ",",
    .node "STRUCT_PATTERN_FIELD" [tk "Ident" "y", tk "Colon" ":", .node "PATTERN_VARIABLE" [tk "Ident" "Mk"]], tk "Comma" ",",
    .node "STRUCT_PATTERN_FIELD" [tk "Ident" "z", tk "Colon" ":", .node "PATTERN_VARIABLE" [tk "Ident" "w"]], tk "RBrace" "}"]]

example : ((lowerPat ["Mk", "P"] 5 structPat {}).1.map patVars) = some ["x", "w"] := by decide +kernel

end Goml.Lower
