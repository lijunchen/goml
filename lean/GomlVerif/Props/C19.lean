import GomlVerif.Model.Mangle
/-!
# C19 — generated names are unique and never capture Go or runtime names

The property theorems over `Model/Mangle.lean` (tied to the Rust by the exhaustive encoder diff and
the whole-program oracle of `./check C19`).

What is proved (for *all* strings / types / indices, no bound):

* `goIdent_legal` — every output of `go_ident` is a legal Go identifier and not a keyword
  (neither of the table extracted from `is_go_keyword` nor of the Go specification's list,
  `keywords_cover_spec`).
* `goIdent_injective_on_source_idents` — on identifiers the goml lexer can produce `go_ident`
  is injective (so two source names never merge by escaping alone; nor with an escaped name,
  `escape_not_source_ident`).
* `local_vs_temp_disjoint`, `goLocal_ne_goTemp` — a renamed local `hint__idx` is never a
  compiler temporary `prefix ++ digits`, for every prefix passed to `Gensym::gensym`.
* `local_rename_injective`, `gensym_injective` — locals of one package and temporaries of one
  compilation get pairwise distinct Go names.
* `traitImplFnName_injective_partial`, `goTypeNameFor_injective_partial` — the compound encoders
  are injective when component names avoid the separator (`#`, resp. `_`).
* `tyCompact_injective_partial`, `monoTypeName_injective_one_param_partial` — the spelling of type
  arguments in instance names is injective on primitives, structs, tuples and struct applications
  (`tyCompact_unique`; all monomorphic types: `Props/C19Compact.lean`).
* `variant_eq_type_only_if_qualified_partial` — a variant struct can share a name with a type only through
  the `Enum_Variant` form.
* ties to tables read off the source: `srcIdent_is_lexer_rule`, `escape_prefix_outside_lexer`, `prefix_lastOk`,
  `instance_names_use_tyCompact`.

What is *false* and shown false by `example`s (each replayed on the real compiler by the
check): the full-strength statements `goIdent` injective, `encodeTy` injective,
`goTypeNameFor` injective, `refStructName` injective, `goIdent ∘ traitImplFnName`
injective, "no top-level function is spelled like a temporary / a runtime helper / a
predeclared identifier / `main0`".  They are the known findings of C19.
-/
namespace Goml.Mangle
open Goml.Gen

theorem all_append_iff {α} (p : α → Bool) (a b : List α) :
    (a ++ b).all p = true ↔ a.all p = true ∧ b.all p = true := by
  simp [List.all_append]

theorem all_imp {p q : Char → Bool} (h : ∀ c, p c = true → q c = true) {l : Name} (hl : l.all p = true) :
    l.all q = true := by
  simp only [List.all_eq_true] at hl ⊢
  exact fun c hc => h c (hl c hc)

theorem ne_of_class {p : Char → Bool} {d : Char} (hd : p d = false) (c : Char) (hc : p c = true) : (c != d) = true := by
  simp only [bne_iff_ne, ne_eq]
  rintro rfl
  rw [hd] at hc
  cases hc

theorem alnum_identChar {c : Char} (h : isAsciiAlnum c = true) : isIdentChar c = true := by
  simp [isIdentChar, h]

theorem hexDigit_identChar (n : Nat) : isIdentChar (hexDigit n) = true := by
  have h : n % 16 < 16 := Nat.mod_lt _ (by decide)
  unfold hexDigit
  generalize n % 16 = k at h
  have : ∀ k : Fin 16, isIdentChar (hexChars.getD k.val '0') = true := by decide
  exact this ⟨k, h⟩

theorem hex2_all (b : Nat) : (hex2 b).all isIdentChar = true := by
  simp [hex2, hexDigit_identChar]

theorem escChar_all (c : Char) : (escChar c).all isIdentChar = true := by
  unfold escChar
  split
  · rename_i h; simp [alnum_identChar h]
  · split
    · decide
    · have h1 : escHexOpen.all isIdentChar = true := by decide +kernel
      have h2 : isIdentChar escHexClose = true := by decide
      simp only [List.all_append, List.all_flatMap, h1, Bool.true_and, List.all_cons, h2, List.all_nil,
        Bool.and_true]
      simp [hex2_all]

theorem escapeBody_all (s : Name) : (s.flatMap escChar).all isIdentChar = true := by
  simp [List.all_flatMap, escChar_all]

theorem escPrefix_eq : escPrefix = '_' :: "goml_".toList := by decide

theorem escape_valid (s : Name) : isValidGoIdent (escape s) = true := by
  unfold escape
  rw [escPrefix_eq]
  show isValidGoIdent ('_' :: ("goml_".toList ++ s.flatMap escChar)) = true
  simp only [isValidGoIdent, List.all_append, Bool.and_eq_true]
  exact ⟨by decide, by decide, escapeBody_all s⟩

theorem escape_head (s : Name) : (escape s).head? = some '_' := by
  simp [escape, escPrefix_eq]

theorem keyword_head_ne_underscore : ∀ k ∈ keywordNames, k.head? ≠ some '_' := by decide +kernel

/-- the 25 keywords of the Go specification (written out here, not extracted) -/
def goSpecKeywords : List Name :=
  ["break", "case", "chan", "const", "continue", "default", "defer", "else", "fallthrough", "for", "func",
   "go", "goto", "if", "import", "interface", "map", "package", "range", "return", "select", "struct",
   "switch", "type", "var"].map String.toList

/-- `is_go_keyword` knows every keyword of the Go specification -/
theorem keywords_cover_spec : ∀ k ∈ goSpecKeywords, isGoKeyword k = true := by decide +kernel

theorem escape_not_keyword (s : Name) : isGoKeyword (escape s) = false := by
  cases h : isGoKeyword (escape s) with
  | false => rfl
  | true =>
    have hm : escape s ∈ keywordNames := by simpa [isGoKeyword] using h
    exact absurd (escape_head s) (keyword_head_ne_underscore _ hm)

/-! ## C19.1 legality -/

/-- for **every** string, `go_ident` yields a legal Go identifier that is not a keyword -/
theorem goIdent_legal (s : Name) :
    isValidGoIdent (goIdent s) = true ∧ isGoKeyword (goIdent s) = false ∧ goIdent s ∉ goSpecKeywords := by
  have key : isValidGoIdent (goIdent s) = true ∧ isGoKeyword (goIdent s) = false := by
    unfold goIdent
    split
    · rename_i h
      simp only [Bool.and_eq_true, Bool.not_eq_true'] at h
      exact h
    · exact ⟨escape_valid s, escape_not_keyword s⟩
  refine ⟨key.1, key.2, fun hmem => ?_⟩
  have := keywords_cover_spec _ hmem
  rw [key.2] at this
  exact Bool.noConfusion this

/-- non-vacuity: the escaping branch is taken for keywords and for non-identifiers -/
example : goIdent "type".toList = "_goml_type".toList ∧ goIdent "a/b é".toList = "_goml_a_x2f_b_x20__xc3a9_".toList := by decide +kernel

theorem goIdent_id {s : Name} (h1 : isValidGoIdent s = true) (h2 : isGoKeyword s = false) : goIdent s = s := by
  simp [goIdent, h1, h2]

/-! ## C19.2 source identifiers -/

/-- identifiers of the goml lexer: `[A-Za-z][A-Za-z_0-9]*` -/
def isSrcIdent : Name → Bool
  | [] => false
  | c :: rest => isAsciiAlpha c && rest.all isIdentChar

theorem srcIdent_valid {s : Name} (h : isSrcIdent s = true) : isValidGoIdent s = true := by
  cases s with
  | nil => simp [isSrcIdent] at h
  | cons c rest =>
    simp only [isSrcIdent, Bool.and_eq_true] at h
    simp [isValidGoIdent, isIdentStart, h.1, h.2]

theorem escChar_identChar {c : Char} (h : isIdentChar c = true) : escChar c = [c] := by
  unfold escChar
  split
  · rfl
  · rename_i hn
    have hc : c = '_' := by
      simp only [isIdentChar, Bool.or_eq_true, beq_iff_eq] at h
      rcases h with h | h
      · exact absurd h hn
      · exact h
    subst hc
    decide

theorem escapeBody_id {s : Name} (h : s.all isIdentChar = true) : s.flatMap escChar = s := by
  induction s with
  | nil => rfl
  | cons c rest ih =>
    simp only [List.all_cons, Bool.and_eq_true] at h
    simp [List.flatMap_cons, escChar_identChar h.1, ih h.2]

theorem valid_all {s : Name} (h : isValidGoIdent s = true) : s.all isIdentChar = true := by
  cases s with
  | nil => simp [isValidGoIdent] at h
  | cons c rest =>
    simp only [isValidGoIdent, Bool.and_eq_true] at h
    have : isIdentChar c = true := by
      have := h.1
      simp only [isIdentStart, Bool.or_eq_true] at this
      simp only [isIdentChar, isAsciiAlnum, Bool.or_eq_true]
      rcases this with h' | h'
      · exact Or.inl (Or.inl h')
      · exact Or.inr h'
    simp [this, h.2]

theorem goIdent_valid_eq {s : Name} (h : isValidGoIdent s = true) :
    goIdent s = if isGoKeyword s then escPrefix ++ s else s := by
  unfold goIdent escape
  rw [escapeBody_id (valid_all h)]
  cases isGoKeyword s <;> simp [h]

/-! ### the hypothesis `isSrcIdent` is the lexer's identifier rule, and the escape prefix is outside it -/

def inRanges (rs : List (Nat × Nat)) (c : Char) : Bool := rs.any fun r => decide (r.1 ≤ c.toNat) && decide (c.toNat ≤ r.2)

theorem char_underscore (c : Char) : (c == '_') = decide (c.toNat = 95) := by
  by_cases h : c = '_'
  · subst h; decide
  · have : c.toNat ≠ 95 := by
      intro hn
      apply h
      apply Char.ext
      apply UInt32.toNat_inj.mp
      exact hn
    rw [decide_eq_false this]
    simpa using h

/-- `isSrcIdent` is exactly the token rule extracted from the lexer on this run: first character in
`lexerIdentFirst`, every following character in `lexerIdentRest` -/
theorem srcIdent_is_lexer_rule :
    (∀ c : Char, isAsciiAlpha c = inRanges lexerIdentFirst c) ∧ (∀ c : Char, isIdentChar c = inRanges lexerIdentRest c) := by
  constructor
  · intro c
    simp only [isAsciiAlpha, isAsciiLower, isAsciiUpper, inRanges, lexerIdentFirst, List.any_cons, List.any_nil, Bool.or_false]
    rw [Bool.eq_iff_iff]
    simp only [Bool.or_eq_true, Bool.and_eq_true, decide_eq_true_eq]
    omega
  · intro c
    simp only [isIdentChar, isAsciiAlnum, isAsciiAlpha, isAsciiLower, isAsciiUpper, isAsciiDigit, inRanges, lexerIdentRest,
      List.any_cons, List.any_nil, Bool.or_false, char_underscore]
    rw [Bool.eq_iff_iff]
    simp only [Bool.or_eq_true, Bool.and_eq_true, decide_eq_true_eq]
    omega

def escPrefixHeadOutsideLexer : Bool :=
  match escPrefix with
  | c :: _ => !inRanges lexerIdentFirst c
  | [] => false

/-- the prefix `go_ident` puts before an escaped name starts with a character no identifier of the
language can start with (checked on the two extracted tables: a prefix such as `goml_`, or an empty
one, fails here) -/
theorem escape_prefix_outside_lexer : escPrefixHeadOutsideLexer = true := by decide +kernel

/-- hence no source identifier begins with the escape prefix: an escaped name (keyword or not) can never
be spelled by the user, which is what `goIdent_injective_on_source_idents` rests on (`src_ne_escaped`) -/
theorem escape_prefix_unspellable {s : Name} (h : isSrcIdent s = true) : escPrefix.isPrefixOf s = false := by
  have hp := escape_prefix_outside_lexer
  unfold escPrefixHeadOutsideLexer at hp
  cases hE : escPrefix with
  | nil => rw [hE] at hp; exact Bool.noConfusion hp
  | cons c rest =>
    rw [hE] at hp
    cases s with
    | nil => simp [isSrcIdent] at h
    | cons d r =>
      simp only [isSrcIdent, Bool.and_eq_true] at h
      simp only [List.isPrefixOf, Bool.and_eq_false_iff]
      left
      cases hcd : (c == d) with
      | false => rfl
      | true =>
        have : c = d := by simpa using hcd
        subst this
        have hp' : (!inRanges lexerIdentFirst c) = true := hp
        rw [← srcIdent_is_lexer_rule.1 c, h.1] at hp'
        exact Bool.noConfusion hp'

theorem src_ne_escaped {s x : Name} (h : isSrcIdent s = true) : s ≠ escPrefix ++ x := by
  intro e
  have := escape_prefix_unspellable h
  rw [e, List.isPrefixOf_iff_prefix.mpr (List.prefix_append _ _)] at this
  cases this

/-- every escaped name is outside the source language (so it cannot coincide with an unescaped one) -/
theorem escape_not_source_ident (s : Name) : isSrcIdent (escape s) = false := by
  cases h : isSrcIdent (escape s) with
  | false => rfl
  | true =>
    have h1 := escape_prefix_unspellable h
    have h2 : escPrefix.isPrefixOf (escape s) = true := by
      unfold escape
      exact List.isPrefixOf_iff_prefix.mpr (List.prefix_append _ _)
    rw [h2] at h1
    exact Bool.noConfusion h1

/-- two different identifiers of the source language never get the same Go identifier -/
theorem goIdent_injective_on_source_idents {s t : Name} (hs : isSrcIdent s = true) (ht : isSrcIdent t = true)
    (h : goIdent s = goIdent t) : s = t := by
  rw [goIdent_valid_eq (srcIdent_valid hs), goIdent_valid_eq (srcIdent_valid ht)] at h
  by_cases ks : isGoKeyword s = true <;> by_cases kt : isGoKeyword t = true
  · simp only [ks, kt, if_true] at h
    exact List.append_cancel_left h
  · simp only [ks, kt, if_true] at h
    exact (src_ne_escaped ht h.symm).elim
  · simp only [ks, kt, if_true] at h
    exact (src_ne_escaped hs h).elim
  · simpa [ks, kt] using h

/-- non-vacuity: a keyword and an ordinary identifier, both lexable -/
example : isSrcIdent "range".toList = true ∧ isSrcIdent "a_1".toList = true ∧
    goIdent "range".toList ≠ goIdent "a_1".toList := by decide +kernel

/-! ## C19.3 locals and temporaries -/

/-- a run of `p`-characters cannot continue into such a string -/
def headNot (p : Char → Bool) : Name → Bool
  | [] => true
  | c :: _ => !p c

def readRun (p : Char → Bool) : Name → Name × Name
  | [] => ([], [])
  | c :: s => if p c then ((readRun p s).1.cons c, (readRun p s).2) else ([], c :: s)

theorem readRun_append (p : Char → Bool) {x r : Name} (hx : x.all p = true) (hr : headNot p r = true) :
    readRun p (x ++ r) = (x, r) := by
  induction x with
  | nil =>
    cases r with
    | nil => rfl
    | cons c r =>
      have : p c = false := by simpa [headNot] using hr
      simp [readRun, this]
  | cons c x ih =>
    simp only [List.all_cons, Bool.and_eq_true] at hx
    simp [readRun, hx.1, ih hx.2]

theorem readRun_stop {p : Char → Bool} {c : Char} (h : p c = false) (s : Name) : readRun p (c :: s) = ([], c :: s) := by
  simp [readRun, h]

/-- a run of `p`-characters followed by something that does not continue it is determined by the whole string -/
theorem run_unique (p : Char → Bool) {x y r r' : Name} (hx : x.all p = true) (hy : y.all p = true)
    (hr : headNot p r = true) (hr' : headNot p r' = true) (h : x ++ r = y ++ r') : x = y ∧ r = r' := by
  have e := congrArg (readRun p) h
  rw [readRun_append p hx hr, readRun_append p hy hr'] at e
  exact Prod.mk.inj e

theorem headNot_cons {p : Char → Bool} {c : Char} (h : p c = false) (r : Name) : headNot p (c :: r) = true := by
  simp [headNot, h]

theorem digit_run_unique {x y r r' : Name} {c c' : Char} (hx : x.all isAsciiDigit = true) (hy : y.all isAsciiDigit = true)
    (hc : isAsciiDigit c = false) (hc' : isAsciiDigit c' = false) (h : x ++ c :: r = y ++ c' :: r') :
    x = y ∧ c :: r = c' :: r' :=
  run_unique isAsciiDigit hx hy (headNot_cons hc r) (headNot_cons hc' r') h

theorem digits_all (n : Nat) : (digits n).all isAsciiDigit = true := by
  simp only [List.all_eq_true]
  intro c hc
  have := Nat.isDigit_of_mem_toDigits (b := 10) (by decide) (by decide) hc
  simp only [Char.isDigit, Bool.and_eq_true, decide_eq_true_eq] at this
  have h1 : (48 : UInt32).toNat ≤ c.val.toNat := UInt32.le_iff_toNat_le.mp this.1
  have h2 : c.val.toNat ≤ (57 : UInt32).toNat := UInt32.le_iff_toNat_le.mp this.2
  simp only [isAsciiDigit, Bool.and_eq_true, decide_eq_true_eq]
  exact ⟨h1, h2⟩

theorem digits_ne_nil (n : Nat) : digits n ≠ [] := Nat.toDigits_ne_nil

theorem digits_injective {n m : Nat} (h : digits n = digits m) : n = m := by
  have := congrArg (fun l => Nat.ofDigitChars 10 l 0) h
  simpa [digits, Nat.ofDigitChars_ten_toDigits] using this

theorem revDigits_all (n : Nat) : (digits n).reverse.all isAsciiDigit = true := by
  rw [List.all_reverse]; exact digits_all n

/-- `anf_renamer` leaves a `/`-free name alone -/
theorem renameLocal_id {n : Name} (h : n.all (fun c => c != '/') = true) : renameLocal n = n := by
  induction n with
  | nil => rfl
  | cons c r ih =>
    simp only [List.all_cons, Bool.and_eq_true, bne_iff_ne, ne_eq] at h
    have hc : (c == '/') = false := by simpa using h.1
    have ih' := ih h.2
    unfold renameLocal at ih' ⊢
    rw [List.flatMap_cons, ih', hc]
    rfl

theorem renameLocal_append (a b : Name) : renameLocal (a ++ b) = renameLocal a ++ renameLocal b := by
  simp [renameLocal, List.flatMap_append]

theorem digit_ne_slash {n : Name} (h : n.all isAsciiDigit = true) : n.all (fun c => c != '/') = true :=
  all_imp (ne_of_class (by decide)) h

theorem renameLocal_localName (hint : Name) (idx : Nat) :
    renameLocal (localName hint idx) = renameLocal hint ++ '_' :: '_' :: digits idx := by
  simp only [localName, renameLocal_append, List.append_assoc]
  rw [renameLocal_id (digit_ne_slash (digits_all idx))]
  simp [renameLocal]

theorem digits_suffix_unique {a b : Name} {c d : Char} {n m : Nat} (hc : isAsciiDigit c = false)
    (hd : isAsciiDigit d = false) (h : a ++ c :: digits n = b ++ d :: digits m) : a = b ∧ c = d ∧ n = m := by
  have h' := congrArg List.reverse h
  simp only [List.reverse_append, List.reverse_cons, List.append_assoc, List.singleton_append] at h'
  obtain ⟨e1, e2⟩ := digit_run_unique (revDigits_all n) (revDigits_all m) hc hd h'
  obtain ⟨e3, e4⟩ := List.cons.inj e2
  exact ⟨List.reverse_inj.mp e4, e3, digits_injective (List.reverse_inj.mp e1)⟩

/-- last character of a gensym prefix: neither a digit nor `_` -/
def lastOk (p : Name) : Bool :=
  match p.reverse with
  | c :: _ => !isAsciiDigit c && c != '_'
  | [] => false

theorem prefix_lastOk : ∀ p ∈ gensymPrefixNames, lastOk p = true := by decide +kernel

theorem prefix_last_not_digit_or_underscore (p : Name) (hp : p ∈ gensymPrefixNames) :
    ∃ p₀ c, p = p₀ ++ [c] ∧ isAsciiDigit c = false ∧ c ≠ '_' := by
  have h := prefix_lastOk p hp
  unfold lastOk at h
  split at h
  · rename_i c r heq
    simp only [Bool.and_eq_true, Bool.not_eq_true', bne_iff_ne, ne_eq] at h
    exact ⟨r.reverse, c, List.reverse_eq_cons_iff.mp heq, h.1, h.2⟩
  · exact Bool.noConfusion h

/-- **locals vs temporaries**: for every hint (any string at all), every index, every prefix passed
to `Gensym::gensym` anywhere in the compiler and every counter value, the renamed local
`hint__idx` differs from the temporary `prefix ++ counter` -/
theorem local_vs_temp_disjoint (hint : Name) (idx : Nat) (pfx : Name) (n : Nat) (hp : pfx ∈ gensymPrefixNames) :
    renameLocal (localName hint idx) ≠ gensymName pfx n := by
  intro h
  rw [renameLocal_localName] at h
  obtain ⟨p₀, c, rfl, hd, hu⟩ := prefix_last_not_digit_or_underscore pfx hp
  have h' : (renameLocal hint ++ ['_']) ++ '_' :: digits idx = p₀ ++ c :: digits n := by simpa [gensymName] using h
  exact hu (digits_suffix_unique (by decide) hd h').2.1.symm

/-- non-vacuity / sharpness: the statement is about the separator, not about the hint — a hint that
itself looks like a temporary is still kept apart -/
example : renameLocal (localName "t".toList 2) = "t__2".toList ∧ gensymName "t".toList 2 = "t2".toList := by decide +kernel

theorem keyword_no_underscore_no_digit : ∀ k ∈ keywordNames, k.all (fun c => c != '_' && !isAsciiDigit c) = true := by decide +kernel

theorem not_keyword_of_mem {s : Name} {c : Char} (hc : c ∈ s) (h : c = '_' ∨ isAsciiDigit c = true) :
    isGoKeyword s = false := by
  cases hk : isGoKeyword s with
  | false => rfl
  | true =>
    have hm : s ∈ keywordNames := by simpa [isGoKeyword] using hk
    have := keyword_no_underscore_no_digit s hm
    simp only [List.all_eq_true, Bool.and_eq_true, bne_iff_ne, ne_eq, Bool.not_eq_true'] at this
    have hh := this c hc
    rcases h with h | h
    · exact absurd h hh.1
    · rw [hh.2] at h; exact Bool.noConfusion h

theorem valid_append {a b : Name} (ha : isValidGoIdent a = true) (hb : b.all isIdentChar = true) :
    isValidGoIdent (a ++ b) = true := by
  cases a with
  | nil => simp [isValidGoIdent] at ha
  | cons c r =>
    simp only [isValidGoIdent, Bool.and_eq_true] at ha
    simp [isValidGoIdent, ha.1, ha.2, List.all_append, hb]

theorem digit_identChar_all {n : Name} (h : n.all isAsciiDigit = true) : n.all isIdentChar = true :=
  all_imp (fun c hc => by simp [isIdentChar, isAsciiAlnum, hc]) h

theorem srcIdent_no_slash {s : Name} (h : isSrcIdent s = true) : s.all (fun c => c != '/') = true :=
  all_imp (ne_of_class (by decide)) (valid_all (srcIdent_valid h))

theorem goLocal_eq {hint : Name} (h : isSrcIdent hint = true) (idx : Nat) :
    goLocal hint idx = hint ++ '_' :: '_' :: digits idx := by
  unfold goLocal
  rw [renameLocal_localName, renameLocal_id (srcIdent_no_slash h)]
  apply goIdent_id
  · apply valid_append (srcIdent_valid h)
    simp [List.all_cons, digit_identChar_all (digits_all idx)]
    decide
  · exact not_keyword_of_mem (c := '_') (by simp) (Or.inl rfl)

theorem prefix_valid : ∀ p ∈ gensymPrefixNames, isValidGoIdent p = true := by decide +kernel

theorem goTemp_eq {pfx : Name} (hp : pfx ∈ gensymPrefixNames) (n : Nat) : goTemp pfx n = pfx ++ digits n := by
  unfold goTemp gensymName
  apply goIdent_id
  · exact valid_append (prefix_valid pfx hp) (digit_identChar_all (digits_all n))
  · cases hd : digits n with
    | nil => exact absurd hd (digits_ne_nil n)
    | cons d r =>
      have hdig : isAsciiDigit d = true := by
        have := digits_all n
        rw [hd] at this
        simp only [List.all_cons, Bool.and_eq_true] at this
        exact this.1
      exact not_keyword_of_mem (c := d) (by simp) (Or.inr hdig)

/-- the same on the identifiers that reach the Go file (after `go_ident`) -/
theorem goLocal_ne_goTemp {hint : Name} (h : isSrcIdent hint = true) (idx : Nat) {pfx : Name}
    (hp : pfx ∈ gensymPrefixNames) (n : Nat) : goLocal hint idx ≠ goTemp pfx n := by
  rw [goLocal_eq h, goTemp_eq hp]
  have := local_vs_temp_disjoint hint idx pfx n hp
  rw [renameLocal_localName, renameLocal_id (srcIdent_no_slash h)] at this
  exact this

/-- two locals of one package (distinct `idx`, or distinct hints) get distinct Go names -/
theorem local_rename_injective {h₁ h₂ : Name} (s₁ : isSrcIdent h₁ = true) (s₂ : isSrcIdent h₂ = true) {i₁ i₂ : Nat}
    (h : goLocal h₁ i₁ = goLocal h₂ i₂) : h₁ = h₂ ∧ i₁ = i₂ := by
  rw [goLocal_eq s₁, goLocal_eq s₂] at h
  have h' : (h₁ ++ ['_']) ++ '_' :: digits i₁ = (h₂ ++ ['_']) ++ '_' :: digits i₂ := by simpa using h
  obtain ⟨e1, -, e2⟩ := digits_suffix_unique (by decide) (by decide) h'
  exact ⟨List.append_cancel_right e1, e2⟩

/-- two temporaries drawn from the one shared counter get distinct names (whatever their prefixes) -/
theorem gensym_injective {p q : Name} (hp : p ∈ gensymPrefixNames) (hq : q ∈ gensymPrefixNames) {n m : Nat}
    (h : gensymName p n = gensymName q m) : p = q ∧ n = m := by
  obtain ⟨p₀, c, rfl, hd, _⟩ := prefix_last_not_digit_or_underscore p hp
  obtain ⟨q₀, c', rfl, hd', _⟩ := prefix_last_not_digit_or_underscore q hq
  have h' : p₀ ++ c :: digits n = q₀ ++ c' :: digits m := by simpa [gensymName] using h
  obtain ⟨e1, e2, e3⟩ := digits_suffix_unique hd hd' h'
  exact ⟨by rw [e1, e2], e3⟩

/-- non-vacuity: the table is not empty and contains the prefixes ANF and the match compiler use -/
example : "t".toList ∈ gensymPrefixNames ∧ "mtmp".toList ∈ gensymPrefixNames ∧ "_wild".toList ∈ gensymPrefixNames := by decide +kernel

/-! ## C19.4 compound names -/

theorem sep_split_unique {sep : Char} {a a' b b' : Name} (ha : a.all (fun c => c != sep) = true)
    (ha' : a'.all (fun c => c != sep) = true) (h : a ++ sep :: b = a' ++ sep :: b') : a = a' ∧ b = b' := by
  have hs (r : Name) : headNot (fun c => c != sep) (sep :: r) = true := by simp [headNot]
  obtain ⟨e1, e2⟩ := run_unique (fun c => c != sep) ha ha' (hs b) (hs b') h
  exact ⟨e1, (List.cons.inj e2).2⟩

def hashFree (n : Name) : Bool := n.all (fun c => c != '#')

/-- `trait_impl#Tr#ty#m` determines `(Tr, ty_compact ty, m)` as long as the trait name and the
compact type text contain no `#` (true of everything the lexer accepts).  PARTIAL: injectivity in
the *type* needs `tyCompact` injective, which fails only for an enum and a struct of one name and
for names containing white space (`example`s below); and the statement is about the name *before*
`go_ident`, which merges `#` with `_` (negative witness `traitImpl_goIdent_collision`). -/
theorem traitImplFnName_injective_partial {tr tr' m m' : Name} {t t' : Ty} (h1 : hashFree tr = true) (h1' : hashFree tr' = true)
    (h2 : hashFree (tyCompact t) = true) (h2' : hashFree (tyCompact t') = true)
    (h : traitImplFnName tr t m = traitImplFnName tr' t' m') : tr = tr' ∧ tyCompact t = tyCompact t' ∧ m = m' := by
  unfold traitImplFnName at h
  simp only [List.append_assoc, List.cons_append, List.nil_append, List.cons.injEq, true_and] at h
  obtain ⟨e1, h⟩ := sep_split_unique h1 h1' h
  obtain ⟨e2, e3⟩ := sep_split_unique h2 h2' h
  exact ⟨e1, e2, e3⟩

example : hashFree "Show".toList = true ∧ hashFree (tyCompact (.tapp (.tstruct "P".toList) [.prim .int32])) = true := by decide +kernel

/-! ## C19.5 `go_type_name_for` on the `_`-free fragment -/

/-- first token of a composite name: `Tuple…`, `Array…`, `Vec` -/
def isHeadTok : Name → Bool
  | 'T' :: 'u' :: 'p' :: 'l' :: 'e' :: _ => true
  | 'A' :: 'r' :: 'r' :: 'a' :: 'y' :: _ => true
  | ['V', 'e', 'c'] => true
  | _ => false

def primSpellings : List Name := Prim.all.map goTypeNamePrim

/-- side condition on struct/enum names: a lexer identifier without `_`, not a Go keyword, not the
spelling of a primitive and not shaped like the head of a composite name -/
def atomOk (n : Name) : Bool :=
  isSrcIdent n && n.all (fun c => c != '_') && !isGoKeyword n && !primSpellings.contains n && !isHeadTok n

mutual
/-- the fragment: primitives, structs with `atomOk` names, tuples, `Vec`, arrays -/
def simple : Ty → Bool
  | .prim _ => true
  | .tstruct n => atomOk n
  | .ttuple ts => simples ts
  | .tvec e => simple e
  | .tarray _ e => simple e
  | _ => false
def simples : List Ty → Bool
  | [] => true
  | t :: ts => simple t && simples ts
end

mutual
/-- prefix serialisation of a fragment type into `_`-free tokens -/
def toks : Ty → List Name
  | .prim p => [goTypeNamePrim p]
  | .tstruct n => [n]
  | .ttuple ts => (['T', 'u', 'p', 'l', 'e'] ++ digits ts.length) :: toksList ts
  | .tvec e => ['V', 'e', 'c'] :: toks e
  | .tarray len e => (['A', 'r', 'r', 'a', 'y'] ++ digits len) :: toks e
  | _ => []
def toksList : List Ty → List Name
  | [] => []
  | t :: ts => toks t ++ toksList ts
end

/-- every token preceded by `_` -/
def pre (xs : List Name) : Name := xs.flatMap fun x => '_' :: x

def tokOk (x : Name) : Bool := !x.isEmpty && x.all isAsciiAlnum

theorem pre_append (a b : List Name) : pre (a ++ b) = pre a ++ pre b := by simp [pre, List.flatMap_append]

theorem alnum_ne_underscore {x : Name} (h : x.all isAsciiAlnum = true) : x.all (fun c => c != '_') = true :=
  all_imp (ne_of_class (by decide)) h

theorem pre_nil : pre [] = [] := rfl
theorem pre_cons (x : Name) (xs : List Name) : pre (x :: xs) = '_' :: (x ++ pre xs) := by simp [pre, List.flatMap_cons]

/-- what follows a token inside `pre _` is the `_` of the next token, or nothing -/
theorem pre_headNot (xs : List Name) : headNot (fun c => c != '_') (pre xs) = true := by
  cases xs <;> simp [pre, headNot]

theorem pre_injective {xs ys : List Name} (hx : xs.all tokOk = true) (hy : ys.all tokOk = true) (h : pre xs = pre ys) : xs = ys := by
  induction xs generalizing ys with
  | nil => cases ys <;> simp [pre] at h ⊢
  | cons x xs ih =>
    cases ys with
    | nil => simp [pre] at h
    | cons y ys =>
      simp only [List.all_cons, Bool.and_eq_true, tokOk] at hx hy
      rw [pre_cons, pre_cons, List.cons.injEq] at h
      obtain ⟨e1, e2⟩ := run_unique _ (alnum_ne_underscore hx.1.2) (alnum_ne_underscore hy.1.2)
        (pre_headNot xs) (pre_headNot ys) h.2
      rw [e1, ih hx.2 hy.2 e2]

theorem primSpelling_tokOk : ∀ p : Prim, tokOk (goTypeNamePrim p) = true := by
  intro p; cases p <;> decide

/-- a spelling of the primitives under which each one is the first in `Prim.all` with its spelling is injective -/
theorem prim_injective_of_find {f : Prim → Name} (h : ∀ p, Prim.all.find? (fun q => f q == f p) = some p) :
    ∀ p q : Prim, f p = f q → p = q := by
  intro p q e
  have hp := h p
  rw [e, h q] at hp
  exact (Option.some.inj hp).symm

theorem primSpelling_injective : ∀ p q : Prim, goTypeNamePrim p = goTypeNamePrim q → p = q :=
  prim_injective_of_find (by intro p; cases p <;> rfl)

theorem digits_alnum (n : Nat) : (digits n).all isAsciiAlnum = true :=
  all_imp (fun c hc => by simp [isAsciiAlnum, hc]) (digits_all n)

theorem atomOk_tokOk {n : Name} (h : atomOk n = true) : tokOk n = true := by
  simp only [atomOk, Bool.and_eq_true] at h
  obtain ⟨⟨⟨⟨hs, hu⟩, _⟩, _⟩, _⟩ := h
  have hid := valid_all (srcIdent_valid hs)
  have hne : n ≠ [] := by rintro rfl; simp [isSrcIdent] at hs
  simp only [tokOk, Bool.and_eq_true, Bool.not_eq_true', List.isEmpty_eq_false_iff, List.all_eq_true] at hid hu ⊢
  refine ⟨hne, fun c hc => ?_⟩
  have h1 := hid c hc
  have h2 := hu c hc
  simp only [isIdentChar, Bool.or_eq_true, beq_iff_eq, bne_iff_ne, ne_eq] at h1 h2
  exact h1.resolve_right h2

theorem atomOk_goIdent {n : Name} (h : atomOk n = true) : goIdent n = n := by
  simp only [atomOk, Bool.and_eq_true, Bool.not_eq_true'] at h
  exact goIdent_id (srcIdent_valid h.1.1.1.1) h.1.1.2

theorem tokOk_digits {pfx : Name} (h : pfx.all isAsciiAlnum = true) (hne : pfx ≠ []) (n : Nat) :
    tokOk (pfx ++ digits n) = true := by
  simp [tokOk, List.all_append, digits_alnum, h, hne]

theorem toks_ok_all :
    (∀ t, simple t = true → (toks t).all tokOk = true ∧ toks t ≠ []) ∧
    (∀ ts, simples ts = true → (toksList ts).all tokOk = true) := by
  apply simple.mutual_induct
  · -- .prim
    intro p _; simp [toks, primSpelling_tokOk]
  · -- .tstruct
    intro n h; simp only [simple] at h; simp [toks, atomOk_tokOk h]
  · -- .ttuple
    intro ts ih h
    simp only [simple] at h
    simp only [toks, List.all_cons, ih h, Bool.and_true, ne_eq, reduceCtorEq, not_false_eq_true, and_true]
    exact tokOk_digits (pfx := ['T', 'u', 'p', 'l', 'e']) (by decide) (by simp) _
  · -- .tvec
    intro e ih h
    simp only [simple] at h
    exact ⟨by simp only [toks, List.all_cons, (ih h).1, Bool.and_true]; decide, by simp [toks]⟩
  · -- .tarray
    intro len e ih h
    simp only [simple] at h
    simp only [toks, List.all_cons, (ih h).1, Bool.and_true, ne_eq, reduceCtorEq, not_false_eq_true, and_true]
    exact tokOk_digits (pfx := ['A', 'r', 'r', 'a', 'y']) (by decide) (by simp) _
  · -- any other constructor
    intro t h1 h2 h3 h4 h5 h; rw [simple.eq_6 t h1 h2 h3 h4 h5] at h; cases h
  · -- []
    intro _; rfl
  · -- t :: ts
    intro t ts iht ihts h
    simp only [simples, Bool.and_eq_true] at h
    simp only [toksList, List.all_append, Bool.and_eq_true]
    exact ⟨(iht h.1).1, ihts h.2⟩

theorem toks_ok (t : Ty) : simple t = true → (toks t).all tokOk = true ∧ toks t ≠ [] := toks_ok_all.1 t

theorem pre_all_identChar {xs : List Name} (h : xs.all tokOk = true) : (pre xs).all isIdentChar = true := by
  induction xs with
  | nil => rfl
  | cons x xs ih =>
    simp only [List.all_cons, Bool.and_eq_true, tokOk] at h
    rw [pre_cons]
    simp only [List.all_cons, List.all_append, Bool.and_eq_true]
    refine ⟨by decide, ?_, ih h.2⟩
    have := h.1.2
    simp only [List.all_eq_true] at this ⊢
    intro c hc
    exact alnum_identChar (this c hc)

theorem replaced_not_identChar : ∀ c ∈ typeNameReplaced, isIdentChar c = false := by decide +kernel

theorem replaceChars_id {n : Name} (h : n.all isIdentChar = true) : replaceChars typeNameReplaced n = n := by
  unfold replaceChars
  induction n with
  | nil => rfl
  | cons c r ih =>
    simp only [List.all_cons, Bool.and_eq_true] at h
    have : typeNameReplaced.contains c = false := by
      cases hc : typeNameReplaced.contains c with
      | false => rfl
      | true =>
        have := replaced_not_identChar c (by simpa using hc)
        rw [h.1] at this
        exact Bool.noConfusion this
    simp only [List.map_cons, this]
    rw [ih h.2]
    rfl

theorem name_all_of_pre {n : Name} {xs : List Name} (h : '_' :: n = pre xs) (hx : xs.all tokOk = true) : n.all isIdentChar = true := by
  have := pre_all_identChar hx
  rw [← h] at this
  simp only [List.all_cons, Bool.and_eq_true] at this
  exact this.2

theorem name_eq_pre_all :
    (∀ t, simple t = true → '_' :: goTypeNameFor t = pre (toks t)) ∧
    (∀ ts, simples ts = true → goTypeNameComps ts = pre (toksList ts)) := by
  apply simple.mutual_induct
  · -- .prim
    intro p _
    simp only [goTypeNameFor, toks]
    rw [pre_cons, pre_nil, List.append_nil]
  · -- .tstruct
    intro n h
    simp only [simple] at h
    simp only [goTypeNameFor, toks]
    rw [pre_cons, pre_nil, List.append_nil, atomOk_goIdent h]
  · -- .ttuple
    intro ts ih h
    simp only [simple] at h
    simp only [goTypeNameFor, toks]
    rw [pre_cons, ih h, List.append_assoc]
  · -- .tvec
    intro e ih h
    simp only [simple] at h
    have hn := name_all_of_pre (ih h) (toks_ok e h).1
    simp only [goTypeNameFor, toks]
    rw [pre_cons, ← ih h, replaceChars_id hn]
    simp
  · -- .tarray
    intro len e ih h
    simp only [simple] at h
    have hn := name_all_of_pre (ih h) (toks_ok e h).1
    simp only [goTypeNameFor, toks]
    rw [pre_cons, ← ih h, replaceChars_id hn]
    simp
  · -- any other constructor
    intro t h1 h2 h3 h4 h5 h; rw [simple.eq_6 t h1 h2 h3 h4 h5] at h; cases h
  · -- []
    intro _; simp [goTypeNameComps, toksList, pre_nil]
  · -- t :: ts
    intro t ts iht ihts h
    simp only [simples, Bool.and_eq_true] at h
    have hn := name_all_of_pre (iht h.1) (toks_ok t h.1).1
    simp only [goTypeNameComps, toksList]
    rw [pre_append, ← iht h.1, ← ihts h.2, replaceChars_id hn]
    simp

/-- on the fragment the type name is the `_`-joined token list -/
theorem name_eq_pre (t : Ty) : simple t = true → '_' :: goTypeNameFor t = pre (toks t) := name_eq_pre_all.1 t

theorem prim_mem_all : ∀ p : Prim, p ∈ Prim.all := by intro p; cases p <;> decide

/-- the constructors of the fragment -/
inductive Tag where
  | prim | atom | tuple | vec | array | other
  deriving DecidableEq

def tag : Ty → Tag
  | .prim _ => .prim
  | .tstruct _ => .atom
  | .ttuple _ => .tuple
  | .tvec _ => .vec
  | .tarray _ _ => .array
  | _ => .other

/-- the constructor a token announces -/
def tokTag : Name → Tag
  | 'T' :: 'u' :: 'p' :: 'l' :: 'e' :: _ => .tuple
  | 'A' :: 'r' :: 'r' :: 'a' :: 'y' :: _ => .array
  | ['V', 'e', 'c'] => .vec
  | x => if primSpellings.contains x then .prim else .atom

theorem tokTag_atom {n : Name} (h : atomOk n = true) : tokTag n = .atom := by
  simp only [atomOk, Bool.and_eq_true, Bool.not_eq_true'] at h
  obtain ⟨⟨_, hp⟩, hh⟩ := h
  unfold isHeadTok at hh
  unfold tokTag
  split at hh
  · cases hh
  · cases hh
  · cases hh
  · rw [hp]; rfl

theorem tokTag_toks {t : Ty} (ht : simple t = true) : ∃ x rest, toks t = x :: rest ∧ tokTag x = tag t := by
  cases t with
  | prim p => exact ⟨_, _, rfl, by cases p <;> rfl⟩
  | tstruct n => exact ⟨_, _, rfl, tokTag_atom ht⟩
  | ttuple ts => exact ⟨_, _, rfl, rfl⟩
  | tvec e => exact ⟨_, _, rfl, rfl⟩
  | tarray len e => exact ⟨_, _, rfl, rfl⟩
  | _ => simp [simple] at ht

theorem tag_eq_of_toks {t u : Ty} {r r' : List Name} (ht : simple t = true) (hu : simple u = true)
    (h : toks t ++ r = toks u ++ r') : tag t = tag u := by
  obtain ⟨x, a, hx, hxt⟩ := tokTag_toks ht
  obtain ⟨y, b, hy, hyt⟩ := tokTag_toks hu
  rw [hx, hy, List.cons_append, List.cons_append, List.cons.injEq] at h
  rw [← hxt, ← hyt, h.1]

/-- in each row the first token (`tag_eq_of_toks`) makes `u` a type of the same row -/
theorem toks_unique_all :
    (∀ t, ∀ u r r', simple t = true → simple u = true → toks t ++ r = toks u ++ r' → t = u ∧ r = r') ∧
    (∀ ts, ∀ us r r', simples ts = true → simples us = true → ts.length = us.length →
      toksList ts ++ r = toksList us ++ r' → ts = us ∧ r = r') := by
  apply simple.mutual_induct
  · -- .prim
    intro p u r r' ht hu h
    have hg := tag_eq_of_toks ht hu h
    cases u with
    | prim q =>
      simp only [toks, List.cons_append, List.nil_append, List.cons.injEq] at h
      exact ⟨by rw [primSpelling_injective p q h.1], h.2⟩
    | _ => cases hg
  · -- .tstruct
    intro n u r r' ht hu h
    have hg := tag_eq_of_toks ht hu h
    cases u with
    | tstruct m =>
      simp only [toks, List.cons_append, List.nil_append, List.cons.injEq] at h
      exact ⟨by rw [h.1], h.2⟩
    | _ => cases hg
  · -- .ttuple
    intro ts ih u r r' ht hu h
    have hg := tag_eq_of_toks ht hu h
    cases u with
    | ttuple us =>
      simp only [simple] at ht hu
      simp only [toks, List.cons_append, List.cons.injEq, List.nil_append, true_and] at h
      have hl : ts.length = us.length := digits_injective h.1
      obtain ⟨e1, e2⟩ := ih us r r' ht hu hl h.2
      exact ⟨by rw [e1], e2⟩
    | _ => cases hg
  · -- .tvec
    intro e ih u r r' ht hu h
    have hg := tag_eq_of_toks ht hu h
    cases u with
    | tvec e' =>
      simp only [simple] at ht hu
      simp only [toks, List.cons_append, List.cons.injEq, true_and] at h
      obtain ⟨e1, e2⟩ := ih e' r r' ht hu h
      exact ⟨by rw [e1], e2⟩
    | _ => cases hg
  · -- .tarray
    intro len e ih u r r' ht hu h
    have hg := tag_eq_of_toks ht hu h
    cases u with
    | tarray len' e' =>
      simp only [simple] at ht hu
      simp only [toks, List.cons_append, List.cons.injEq, List.nil_append, true_and] at h
      have hl : len = len' := digits_injective h.1
      obtain ⟨e1, e2⟩ := ih e' r r' ht hu h.2
      exact ⟨by rw [hl, e1], e2⟩
    | _ => cases hg
  · -- any other constructor
    intro t h1 h2 h3 h4 h5 u r r' h; rw [simple.eq_6 t h1 h2 h3 h4 h5] at h; cases h
  · -- []
    intro us r r' _ _ hl h
    cases us with
    | nil => exact ⟨rfl, by simpa [toksList] using h⟩
    | cons u us => simp at hl
  · -- t :: ts
    intro t ts iht ihts us r r' ht hu hl h
    cases us with
    | nil => simp at hl
    | cons u us =>
      simp only [simples, Bool.and_eq_true] at ht hu
      simp only [toksList, List.append_assoc] at h
      obtain ⟨e1, e2⟩ := iht u _ _ ht.1 hu.1 h
      obtain ⟨e3, e4⟩ := ihts us r r' ht.2 hu.2 (by simpa using hl) e2
      exact ⟨by rw [e1, e3], e4⟩

/-- the token stream parses in exactly one way -/
theorem toks_unique (t : Ty) : ∀ u r r', simple t = true → simple u = true → toks t ++ r = toks u ++ r' → t = u ∧ r = r' :=
  toks_unique_all.1 t

/-- **`go_type_name_for` is injective on the `_`-free fragment** (primitives, structs whose names
satisfy `atomOk`, tuples, `Vec`, arrays, nested arbitrarily): the arity/length prefix makes the
serialisation prefix-free.  PARTIAL — missing from the full statement: names containing `_`
(collision `Tuple2_A_B_C`), `Ref` (lower-casing), function types (`TFunc_unit_…`), enum vs struct of
one name, generic applications (the arguments are dropped: only reachable before monomorphisation). -/
theorem goTypeNameFor_injective_partial {t u : Ty} (ht : simple t = true) (hu : simple u = true)
    (h : goTypeNameFor t = goTypeNameFor u) : t = u := by
  have h1 : pre (toks t) = pre (toks u) := by rw [← name_eq_pre t ht, ← name_eq_pre u hu, h]
  have h2 := pre_injective (toks_ok t ht).1 (toks_ok u hu).1 h1
  have := toks_unique t u [] [] ht hu (by rw [h2])
  exact this.1

/-- non-vacuity: nested tuples with arrays and vectors are in the fragment, and the arity prefix is
what separates `((a,b),c)` from `(a,(b,c))` -/
example : simple (.ttuple [.ttuple [.tstruct ['a'], .tstruct ['b']], .tarray 3 (.tvec (.prim .int32))]) = true := by decide +kernel
example : goTypeNameFor (.ttuple [.ttuple [.tstruct ['a'], .tstruct ['b']], .tstruct ['c']]) = "Tuple2_Tuple2_a_b_c".toList ∧
    goTypeNameFor (.ttuple [.tstruct ['a'], .ttuple [.tstruct ['b'], .tstruct ['c']]]) = "Tuple2_a_Tuple2_b_c".toList := by decide +kernel

/-! ## C19.6 `ty_compact` — the spelling `ensure_instance` and `spec_name_for` use for type arguments -/

/-- the spelling functions mono.rs calls for type arguments, read off the source on every run -/
theorem instance_names_use_tyCompact : Goml.Gen.instanceArgSpelling = "ty_compact" ∧ Goml.Gen.specArgSpelling = "ty_compact" := by decide +kernel

def tyCompacts (ts : List Ty) : List Name := ts.map tyCompact
def joinC (ts : List Ty) : Name := join [','] (tyCompacts ts)

theorem tyPrettys_eq_map (ts : List Ty) : tyPrettys ts = ts.map tyPretty := by
  induction ts with
  | nil => simp [tyPrettys]
  | cons t ts ih => simp [tyPrettys, ih]

theorem filter_join (p : Char → Bool) (sep : Name) (xs : List Name) :
    (join sep xs).filter p = join (sep.filter p) (xs.map (List.filter p)) := by
  induction xs with
  | nil => simp [join]
  | cons x rest ih =>
    cases rest with
    | nil => simp [join]
    | cons y rest' =>
      simp only [join, List.filter_append, List.map_cons] at ih ⊢
      rw [ih]

theorem compact_join (ts : List Ty) :
    (join [',', ' '] (tyPrettys ts)).filter (fun c => !isWhitespace c) = joinC ts := by
  have hsep : [',', ' '].filter (fun c => !isWhitespace c) = [','] := by decide
  rw [filter_join, hsep, tyPrettys_eq_map]
  simp only [joinC, tyCompacts, List.map_map]
  rfl

theorem tyCompact_tuple (ts : List Ty) : tyCompact (.ttuple ts) = '(' :: joinC ts ++ [')'] := by
  simp +decide [tyCompact, tyPretty, List.filter_append, compact_join ts]

theorem tyCompact_app (t : Ty) (a : Ty) (as : List Ty) :
    tyCompact (.tapp t (a :: as)) = tyCompact t ++ '[' :: joinC (a :: as) ++ [']'] := by
  simp +decide [tyCompact, tyPretty, List.filter_append, compact_join (a :: as)]

def primDocSpellings : List Name := Prim.all.map toDocPrim

/-- side condition on struct names: non-empty, identifier characters only, not the spelling of a primitive -/
def identOk (n : Name) : Bool := !n.isEmpty && n.all isIdentChar && !primDocSpellings.contains n

mutual
/-- the fragment: primitives, structs with `identOk` names, tuples (any arity, `()` and `(a)` included),
applications `S[a, …]` of such a struct to at least one argument — nested arbitrarily -/
def cfrag : Ty → Bool
  | .prim _ => true
  | .tstruct n => identOk n
  | .ttuple ts => cfrags ts
  | .tapp t args => (match t with | .tstruct n => identOk n | _ => false) && !args.isEmpty && cfrags args
  | _ => false
def cfrags : List Ty → Bool
  | [] => true
  | t :: ts => cfrag t && cfrags ts
end

/-- what may follow a complete type spelling inside a larger one -/
def stopOk : Name → Bool
  | [] => true
  | c :: _ => c == ',' || c == ')' || c == ']'

theorem primDoc_ident : ∀ p : Prim, (toDocPrim p).all isIdentChar = true ∧ toDocPrim p ≠ [] := by
  intro p; cases p <;> decide

def primOfName (a : Name) : Option Prim := Prim.all.find? (fun p => toDocPrim p == a)

theorem primOfName_toDocPrim (p : Prim) : primOfName (toDocPrim p) = some p := by cases p <;> rfl

theorem tyCompact_prim (p : Prim) : tyCompact (.prim p) = toDocPrim p := by cases p <;> decide

theorem identChar_not_ws {c : Char} (h : isIdentChar c = true) : isWhitespace c = false := by
  cases hw : isWhitespace c with
  | false => rfl
  | true =>
    exfalso
    simp only [isWhitespace, Bool.or_eq_true, Bool.and_eq_true, decide_eq_true_eq, beq_iff_eq] at hw
    simp only [isIdentChar, isAsciiAlnum, isAsciiAlpha, isAsciiLower, isAsciiUpper, isAsciiDigit, Bool.or_eq_true,
      Bool.and_eq_true, decide_eq_true_eq, beq_iff_eq] at h
    have h95 : c = '_' → c.toNat = 95 := fun e => by rw [e]; rfl
    rcases h with ((h | h) | h) | h
    · omega
    · omega
    · omega
    · have := h95 h; omega

theorem filter_ident {n : Name} (h : n.all isIdentChar = true) : n.filter (fun c => !isWhitespace c) = n := by
  induction n with
  | nil => rfl
  | cons c r ih =>
    simp only [List.all_cons, Bool.and_eq_true] at h
    simp [identChar_not_ws h.1, ih h.2]

theorem tyCompact_struct {n : Name} (h : n.all isIdentChar = true) : tyCompact (.tstruct n) = n := by
  simp only [tyCompact, tyPretty]
  exact filter_ident h

theorem identOk_all {n : Name} (h : identOk n = true) : n.all isIdentChar = true := by
  simp only [identOk, Bool.and_eq_true] at h
  exact h.1.2

theorem identOk_ne_nil {n : Name} (h : identOk n = true) : n ≠ [] := by
  simp only [identOk, Bool.and_eq_true, Bool.not_eq_true', List.isEmpty_eq_false_iff] at h
  exact h.1.1

theorem identOk_not_prim {n : Name} (h : identOk n = true) (p : Prim) : toDocPrim p ≠ n := by
  intro heq
  simp only [identOk, Bool.and_eq_true, Bool.not_eq_true'] at h
  have hm : n ∈ primDocSpellings := by rw [← heq]; exact List.mem_map.mpr ⟨p, prim_mem_all p, rfl⟩
  have : primDocSpellings.contains n = true := by simpa using hm
  rw [h.2] at this
  exact Bool.noConfusion this

theorem bracket_headNot (x : Name) : headNot isIdentChar ('[' :: x) = true := headNot_cons (by decide) x

theorem tuple_append (ts : List Ty) (r : Name) : tyCompact (.ttuple ts) ++ r = '(' :: (joinC ts ++ ')' :: r) := by
  rw [tyCompact_tuple]; simp

theorem app_append (t : Ty) {n : Name} (ht : tyCompact t = n) (a : Ty) (as : List Ty) (r : Name) :
    tyCompact (.tapp t (a :: as)) ++ r = n ++ '[' :: (joinC (a :: as) ++ ']' :: r) := by
  rw [tyCompact_app, ht]; simp

theorem joinC_cons_cons (t u : Ty) (rest : List Ty) : joinC (t :: u :: rest) = tyCompact t ++ ',' :: joinC (u :: rest) := by
  simp [joinC, tyCompacts, join]

theorem joinC_single (t : Ty) : joinC [t] = tyCompact t := by simp [joinC, tyCompacts, join]

/-! ### a reader for compact spellings

`tyCompact` is inverted by a recursive descent over its output.  What an identifier run and what `h[..]` stand
for are parameters, so that each fragment is read back by its own instance; later proofs use the reader only
through the rules below. -/

/-- what the reader takes for an atom or for the head of `h[..]`; `Props/C19Compact.lean` also asks it of the trait
name in `dyn Tr` -/
def traitOk (n : Name) : Bool := !n.isEmpty && n.all isIdentChar

/-- `stopOk`, or `;` (after an array element) -/
def stopOk' : Name → Bool
  | [] => true
  | c :: _ => c == ',' || c == ')' || c == ']' || c == ';'

theorem stop_headNot {r : Name} (h : stopOk' r = true) : headNot isIdentChar r = true := by
  cases r with
  | nil => rfl
  | cons c r' =>
    simp only [stopOk', Bool.or_eq_true, beq_iff_eq] at h
    have : isIdentChar c = false := by
      rcases h with ((h | h) | h) | h <;> (rw [h]; decide)
    simp [headNot, this]

theorem stop_not_bracket (x : Name) : stopOk' ('[' :: x) = false := rfl
theorem stop_not_dash (x : Name) : stopOk' ('-' :: x) = false := rfl
theorem closer_stop {c : Char} {r : Name} (hc : c = ')' ∨ c = ']') : stopOk' (c :: r) = true := by
  rcases hc with h | h <;> subst h <;> rfl
theorem comma_stop (r : Name) : stopOk' (',' :: r) = true := rfl
theorem semi_stop (r : Name) : stopOk' (';' :: r) = true := rfl

theorem stop_weaken {r : Name} (h : stopOk r = true) : stopOk' r = true := by
  cases r with
  | nil => rfl
  | cons c r => simp only [stopOk, stopOk'] at h ⊢; rw [h]; rfl

theorem rbracket_headNot_digit (x : Name) : headNot isAsciiDigit (']' :: x) = true :=
  headNot_cons (by decide) x

mutual
/-- one spelling off the front of a string: `A a` for an identifier run `a`, `B h as` for `h[..]` -/
def readTy (A : Name → Ty) (B : Name → List Ty → Ty) : Nat → Name → Option (Ty × Name)
  | 0, _ => none
  | n + 1, s =>
    match readRun isIdentChar s with
    | (c :: a, s') =>
      match s' with
      | '[' :: s'' =>
        match readArgs A B n s'' with
        | some (as, ']' :: s3) => some (B (c :: a) as, s3)
        | _ => none
      | _ => some (A (c :: a), s')
    | ([], s') =>
      match s' with
      | '(' :: s'' =>
        match readArgs A B n s'' with
        | some (ts, ')' :: s3) =>
          match s3 with
          | '-' :: '>' :: s4 =>
            match readTy A B n s4 with
            | some (r, s5) => some (.tfunc ts r, s5)
            | none => none
          | _ => some (.ttuple ts, s3)
        | _ => none
      | '[' :: s'' =>
        match readTy A B n s'' with
        | some (e, ';' :: s3) =>
          match readRun isAsciiDigit s3 with
          | (d, ']' :: s4) => some (.tarray (Nat.ofDigitChars 10 d 0) e, s4)
          | _ => none
        | _ => none
      | _ => none
/-- comma-separated spellings; stops before whatever is no spelling (the closer) -/
def readArgs (A : Name → Ty) (B : Name → List Ty → Ty) : Nat → Name → Option (List Ty × Name)
  | 0, _ => none
  | n + 1, s =>
    match readTy A B n s with
    | none => some ([], s)
    | some (t, s') =>
      match s' with
      | ',' :: s'' =>
        match readArgs A B n s'' with
        | some (ts, s3) => some (t :: ts, s3)
        | none => none
      | _ => some ([t], s')
end

theorem traitOk_parts {a : Name} (h : traitOk a = true) : a.all isIdentChar = true ∧ ∃ c a', a = c :: a' := by
  simp only [traitOk, Bool.and_eq_true, Bool.not_eq_true', List.isEmpty_eq_false_iff] at h
  cases a with
  | nil => exact absurd rfl h.1
  | cons c a' => exact ⟨h.2, c, a', rfl⟩

theorem traitOk_of {a : Name} (h : a.all isIdentChar = true ∧ a ≠ []) : traitOk a = true := by
  simp [traitOk, h.1, h.2]

section rules
variable {A : Name → Ty} {B : Name → List Ty → Ty} {n : Nat}

/-! the reader's rules, one per form of spelling (`simp only []` decides a `match` on a character literal) -/

theorem readTy_atom {a r : Name} (ha : traitOk a = true) (hr : stopOk' r = true) :
    readTy A B (n + 1) (a ++ r) = some (A a, r) := by
  obtain ⟨h1, c, a', rfl⟩ := traitOk_parts ha
  unfold readTy
  rw [readRun_append _ h1 (stop_headNot hr)]
  simp only []
  split
  · rw [stop_not_bracket] at hr; cases hr
  · rfl

theorem readTy_brk {h s r : Name} {as : List Ty} (hh : traitOk h = true)
    (hs : readArgs A B n s = some (as, ']' :: r)) : readTy A B (n + 1) (h ++ '[' :: s) = some (B h as, r) := by
  obtain ⟨h1, c, h', rfl⟩ := traitOk_parts hh
  unfold readTy
  rw [readRun_append _ h1 (bracket_headNot _)]
  simp only [hs]

theorem readTy_tup {s r : Name} {ts : List Ty} (hs : readArgs A B n s = some (ts, ')' :: r)) (hr : stopOk' r = true) :
    readTy A B (n + 1) ('(' :: s) = some (.ttuple ts, r) := by
  unfold readTy
  rw [readRun_stop (by decide)]
  simp only [hs]
  split
  · rw [stop_not_dash] at hr; cases hr
  · rfl

theorem readTy_fn {s s' r : Name} {ps : List Ty} {r0 : Ty} (hs : readArgs A B n s = some (ps, ')' :: '-' :: '>' :: s'))
    (hr : readTy A B n s' = some (r0, r)) : readTy A B (n + 1) ('(' :: s) = some (.tfunc ps r0, r) := by
  unfold readTy
  rw [readRun_stop (by decide)]
  simp only [hs, hr]

theorem readTy_arr {s r : Name} {e : Ty} {len : Nat} (hs : readTy A B n s = some (e, ';' :: (digits len ++ ']' :: r))) :
    readTy A B (n + 1) ('[' :: s) = some (.tarray len e, r) := by
  unfold readTy
  rw [readRun_stop (by decide)]
  simp only [hs, readRun_append _ (digits_all len) (rbracket_headNot_digit _)]
  simp only [digits, Nat.ofDigitChars_ten_toDigits]

theorem readTy_closer {c : Char} (hc : c = ')' ∨ c = ']') (n : Nat) (r : Name) : readTy A B n (c :: r) = none := by
  cases n with
  | zero => rfl
  | succ n =>
    unfold readTy
    rcases hc with rfl | rfl <;> (rw [readRun_stop (by decide)]; rfl)

theorem readArgs_nil {c : Char} (hc : c = ')' ∨ c = ']') (r : Name) : readArgs A B (n + 1) (c :: r) = some ([], c :: r) := by
  unfold readArgs
  rw [readTy_closer hc]

theorem readArgs_last {s r : Name} {t : Ty} {c : Char} (hc : c = ')' ∨ c = ']') (ht : readTy A B n s = some (t, c :: r)) :
    readArgs A B (n + 1) s = some ([t], c :: r) := by
  unfold readArgs
  rw [ht]
  rcases hc with rfl | rfl <;> rfl

theorem readArgs_cons {s s' r : Name} {t : Ty} {ts : List Ty} (ht : readTy A B n s = some (t, ',' :: s'))
    (hts : readArgs A B n s' = some (ts, r)) : readArgs A B (n + 1) s = some (t :: ts, r) := by
  unfold readArgs
  simp only [ht, hts]

end rules

/-- the spelling of `t` before any stop is read as `t'`.  Fuel above `2 * sizeOf t`: `Vec[e]` takes the reader through
two levels (the type, its argument list) for one level of `Ty`. -/
def Reads (A : Name → Ty) (B : Name → List Ty → Ty) (t t' : Ty) : Prop :=
  ∀ n r, 2 * sizeOf t < n → stopOk' r = true → readTy A B n (tyCompact t ++ r) = some (t', r)

inductive ReadsL (A : Name → Ty) (B : Name → List Ty → Ty) : List Ty → List Ty → Prop
  | nil : ReadsL A B [] []
  | cons {t t' ts ts'} : Reads A B t t' → ReadsL A B ts ts' → ReadsL A B (t :: ts) (t' :: ts')

theorem readArgs_join {A B} {ts ts' : List Ty} (h : ReadsL A B ts ts') :
    ∀ n c r, 2 * sizeOf ts ≤ n → (c = ')' ∨ c = ']') → readArgs A B n (joinC ts ++ c :: r) = some (ts', c :: r) := by
  induction h with
  | nil =>
    intro n c r hn hc
    simp only [List.nil.sizeOf_spec] at hn
    obtain ⟨m, rfl⟩ : ∃ m, n = m + 1 := ⟨n - 1, by omega⟩
    exact readArgs_nil hc r
  | @cons t t' ts ts' ht hts ih =>
    intro n c r hn hc
    simp only [List.cons.sizeOf_spec] at hn
    obtain ⟨m, rfl⟩ : ∃ m, n = m + 1 := ⟨n - 1, by omega⟩
    cases hts with
    | nil =>
      rw [joinC_single]
      exact readArgs_last hc (ht m _ (by omega) (closer_stop hc))
    | cons hu hrest =>
      rw [joinC_cons_cons, List.append_assoc, List.cons_append]
      exact readArgs_cons (ht m _ (by omega) (comma_stop _)) (ih m c r (by omega) hc)

theorem Reads.unique {A B} {t u t' u' : Ty} {r r' : Name} (ht : Reads A B t t') (hu : Reads A B u u')
    (hr : stopOk' r = true) (hr' : stopOk' r' = true) (h : tyCompact t ++ r = tyCompact u ++ r') : t' = u' ∧ r = r' := by
  have e := congrArg (readTy A B (2 * sizeOf t + 2 * sizeOf u + 1)) h
  rw [ht _ r (by omega) hr, hu _ r' (by omega) hr'] at e
  exact Prod.mk.inj (Option.some.inj e)

def atomC (a : Name) : Ty :=
  match primOfName a with
  | some p => .prim p
  | none => .tstruct a

theorem primOfName_identOk {n : Name} (h : identOk n = true) : primOfName n = none := by
  simp only [primOfName, List.find?_eq_none, beq_iff_eq]
  exact fun p _ heq => identOk_not_prim h p heq

theorem identOk_traitOk {n : Name} (h : identOk n = true) : traitOk n = true :=
  traitOk_of ⟨identOk_all h, identOk_ne_nil h⟩

/-- the reader, told that `h[..]` is an application of the struct `h`, inverts `ty_compact` on the fragment -/
theorem read_tyCompact_cfrag :
    (∀ t, cfrag t = true → Reads atomC (fun h as => .tapp (.tstruct h) as) t t) ∧
    (∀ ts, cfrags ts = true → ReadsL atomC (fun h as => .tapp (.tstruct h) as) ts ts) := by
  apply cfrag.mutual_induct
  · -- .prim
    intro p _ n r hn hr
    obtain ⟨m, rfl⟩ : ∃ m, n = m + 1 := ⟨n - 1, by omega⟩
    rw [tyCompact_prim, readTy_atom (traitOk_of (primDoc_ident p)) hr, atomC, primOfName_toDocPrim]
  · -- .tstruct
    intro a h n r hn hr
    obtain ⟨m, rfl⟩ : ∃ m, n = m + 1 := ⟨n - 1, by omega⟩
    rw [tyCompact_struct (identOk_all h), readTy_atom (identOk_traitOk h) hr, atomC, primOfName_identOk h]
  · -- .ttuple
    intro ts ih h n r hn hr
    simp only [Ty.ttuple.sizeOf_spec] at hn
    obtain ⟨m, rfl⟩ : ∃ m, n = m + 1 := ⟨n - 1, by omega⟩
    rw [tuple_append]
    exact readTy_tup (readArgs_join (ih h) m ')' r (by omega) (Or.inl rfl)) hr
  · -- .tapp
    intro t0 args ih h n r hn hr
    simp only [cfrag, Bool.and_eq_true] at h
    simp only [Ty.tapp.sizeOf_spec] at hn
    obtain ⟨m, rfl⟩ : ∃ m, n = m + 1 := ⟨n - 1, by omega⟩
    cases t0 with
    | tstruct a =>
      cases args with
      | nil => simp at h
      | cons x xs =>
        rw [app_append _ (tyCompact_struct (identOk_all h.1.1))]
        exact readTy_brk (identOk_traitOk h.1.1) (readArgs_join (ih h.2) m ']' r (by omega) (Or.inr rfl))
    | _ => simp at h
  · -- any other constructor
    intro t h1 h2 h3 h4 h; rw [cfrag.eq_6 t h1 h2 h3 h4] at h; cases h
  · -- []
    exact fun _ => .nil
  · -- t :: ts
    intro t ts iht ihts h
    simp only [cfrags, Bool.and_eq_true] at h
    exact .cons (iht h.1) (ihts h.2)

/-- a fragment spelling followed by a stop is parsed in exactly one way -/
theorem tyCompact_unique (t : Ty) : ∀ u r r', cfrag t = true → cfrag u = true → stopOk r = true → stopOk r' = true →
    tyCompact t ++ r = tyCompact u ++ r' → t = u ∧ r = r' :=
  fun u _ _ ht hu hr hr' h =>
    (read_tyCompact_cfrag.1 t ht).unique (read_tyCompact_cfrag.1 u hu) (stop_weaken hr) (stop_weaken hr') h

/-- **`ty_compact` is injective on the fragment** (primitives, structs with identifier names, tuples of any
arity and nesting, applications `S[…]`) — the spelling `TypeMono::ensure_instance` and `spec_name_for` use
for type arguments keeps brackets, commas and parentheses, so regrouping a tuple, nesting an application or
a `_` inside a name never merges two types.  PARTIAL: enums (same text as a struct of that name), `Vec`,
`Ref`, arrays, function types, `dyn` are outside the fragment. -/
theorem tyCompact_injective_partial {t u : Ty} (ht : cfrag t = true) (hu : cfrag u = true)
    (h : tyCompact t = tyCompact u) : t = u :=
  (tyCompact_unique t u [] [] ht hu rfl rfl (by rw [List.append_nil, List.append_nil, h])).1

/-- a generic type with ONE parameter: distinct fragment arguments give distinct instance names -/
theorem monoTypeName_injective_one_param_partial (base : Name) {t u : Ty} (ht : cfrag t = true) (hu : cfrag u = true)
    (h : monoTypeName base [t] = monoTypeName base [u]) : t = u := by
  simp only [monoTypeName, join, List.map_cons, List.map_nil] at h
  exact tyCompact_injective_partial ht hu (List.append_cancel_left h)

/-- non-vacuity: the pairs the lossy spelling `encode_ty` merges are in the fragment and stay apart -/
example :
    let i := Ty.prim .int32
    let a := Ty.ttuple [.ttuple [i, i], i, i]
    let b := Ty.ttuple [.ttuple [i, i, i], i]
    cfrag a = true ∧ cfrag b = true ∧ encodeTy a = encodeTy b ∧ tyCompact a ≠ tyCompact b := by decide +kernel
example :
    let a := Ty.tapp (.tstruct "Pair".toList) [.prim .int32]
    let b := Ty.tstruct "Pair_int32".toList
    cfrag a = true ∧ cfrag b = true ∧ encodeTy a = encodeTy b ∧ tyCompact a ≠ tyCompact b := by decide +kernel

/-- KNOWN FINDING (negative witness): with TWO parameters the `__` that joins the arguments can also occur
inside a name — `Duo[A__B, C]` and `Duo[A, B__C]`; the same for `spec_name_for` -/
example : monoTypeName "Duo".toList [.tstruct "A__B".toList, .tstruct ['C']] = monoTypeName "Duo".toList [.tstruct ['A'], .tstruct "B__C".toList] := by decide +kernel
example :
    specNameFor "duo".toList [(['T'], .tstruct "A__U_B".toList), (['U'], .tstruct ['C'])] =
    specNameFor "duo".toList [(['T'], .tstruct ['A']), (['U'], .tstruct "B__U_C".toList)] := by decide +kernel

/-! ## negative witnesses — each is a collision of the encoders; `./check C19` replays every
one on the real functions (PAIR lines) and on the real pipeline (WITNESS programs) -/

/-- `go_ident` is not injective: `#` and `_` both become `_`, and escaped names live in the same
space as ordinary ones -/
example : goIdent "a#b".toList = goIdent "_goml_a_b".toList ∧ "a#b".toList ≠ "_goml_a_b".toList := by decide +kernel
example : goIdent "a#b_c".toList = goIdent "a_b#c".toList := by decide +kernel
example : goIdent "é".toList = goIdent "#xc3a9#".toList := by decide +kernel

/-- `encode_ty` forgets tuple nesting: `((a,b),c,d)` and `((a,b,c),d)` -/
example :
    encodeTy (.ttuple [.ttuple [.tstruct ['a'], .tstruct ['b']], .tstruct ['c'], .tstruct ['d']]) =
    encodeTy (.ttuple [.ttuple [.tstruct ['a'], .tstruct ['b'], .tstruct ['c']], .tstruct ['d']]) := by decide +kernel

/-- … and cannot tell `_` inside a name from its own separator -/
example : encodeTy (.ttuple [.tstruct "a_b".toList, .tstruct ['c']]) = encodeTy (.ttuple [.tstruct ['a'], .tstruct "b_c".toList]) := by decide +kernel

/-- `ref_struct_name` lower-cases: `Ref[Foo]` and `Ref[foo]` share one struct -/
example : refStructName (.tstruct "Foo".toList) = refStructName (.tstruct "foo".toList) := by decide +kernel

/-- `go_type_name_for`: the arity prefix does not help once a component name contains `_` -/
example : goTypeNameFor (.ttuple [.tstruct "A_B".toList, .tstruct ['C']]) = goTypeNameFor (.ttuple [.tstruct ['A'], .tstruct "B_C".toList]) := by decide +kernel

/-- `go_type_name_for`: `() -> int32` and `(unit) -> int32` -/
example : goTypeNameFor (.tfunc [] (.prim .int32)) = goTypeNameFor (.tfunc [.prim .unit] (.prim .int32)) := by decide +kernel

/-- `ty_compact` (hence method and instance names) identifies an enum and a struct of one name, and
drops white space inside names -/
example : tyCompact (.tenum ['a']) = tyCompact (.tstruct ['a']) ∧ tyCompact (.tstruct "a b".toList) = tyCompact (.tstruct "ab".toList) := by decide +kernel

/-- after `go_ident` two different impl functions coincide: `impl A_B for C` and `impl A for B_C` -/
theorem traitImpl_goIdent_collision :
    goIdent (traitImplFnName "A_B".toList (.tstruct ['C']) ['m']) = goIdent (traitImplFnName ['A'] (.tstruct "B_C".toList) ['m']) ∧
    traitImplFnName "A_B".toList (.tstruct ['C']) ['m'] ≠ traitImplFnName ['A'] (.tstruct "B_C".toList) ['m'] := by decide +kernel

/-- inherent methods likewise: `impl a { fn a_a_a_m }` and `impl a_a { fn a_m }` -/
example : goIdent (inherentMethodFnName (.tstruct ['a']) "a_a_a_m".toList) = goIdent (inherentMethodFnName (.tstruct "a_a".toList) "a_m".toList) := by decide +kernel

/-- a monomorphic instance and a user function: `id[T := int32]` vs `fn id__T_int32` -/
example : compileFnName (specNameFor "id".toList [(['T'], .prim .int32)]) = compileFnName "id__T_int32".toList := by decide +kernel

/-- an instance type and a user type: `Opt[int32]` vs `enum Opt__int32` -/
example : goIdent (monoTypeName "Opt".toList [.prim .int32]) = goIdent "Opt__int32".toList := by decide +kernel

/-- no collision: a variant spelled like an enum or struct type is qualified, so
`enum Foo { Foo }` declares `Foo` and `Foo_Foo` -/
example : variantStructName [("Foo".toList, ["Foo".toList, "Bar".toList])] [] "Foo".toList "Foo".toList = "Foo_Foo".toList := by decide +kernel

/-- a variant struct can be spelled like an enum or struct type of the program only through the
qualified form `Enum_Variant` (names the lexer accepts).  PARTIAL: the qualified form itself can
still coincide with a type called `Enum_Variant` — next `example`s. -/
theorem variant_eq_type_only_if_qualified_partial (enums : List (Name × List Name)) (structs : List Name) (e v ty : Name)
    (hv : isSrcIdent v = true) (hty : isSrcIdent ty = true) (hmem : ty ∈ enums.map (·.1) ∨ ty ∈ structs)
    (h : variantStructName enums structs e v = goIdent ty) :
    variantStructName enums structs e v = goIdent e ++ ['_'] ++ goIdent v := by
  unfold variantStructName at h ⊢
  split
  · rfl
  · rename_i hc
    rw [if_neg hc] at h
    have hvt : v = ty := goIdent_injective_on_source_idents hv hty h
    subst hvt
    exfalso
    apply hc
    simp only [Bool.or_eq_true, List.any_eq_true, beq_iff_eq, List.contains_iff_mem]
    rcases hmem with h' | h'
    · obtain ⟨p, hp, rfl⟩ := List.mem_map.mp h'
      exact Or.inl (Or.inr ⟨p, hp, rfl⟩)
    · exact Or.inr h'

/-- non-vacuity: the hypothesis is met by `enum Foo { Foo }` with `struct Foo_Foo` -/
example : variantStructName [("Foo".toList, ["Foo".toList])] ["Foo_Foo".toList] "Foo".toList "Foo".toList = goIdent "Foo_Foo".toList ∧
    "Foo_Foo".toList ∈ ["Foo_Foo".toList] := by decide +kernel

/-- qualified variant names collide through `_`: `A::B_C` and `A_B::C` (both variant names shared) -/
example :
    let enums := [(['A'], ["B_C".toList, ['C']]), ("A_B".toList, [['C'], "B_C".toList])]
    variantStructName enums [] ['A'] "B_C".toList = variantStructName enums [] "A_B".toList ['C'] := by decide +kernel

/-- … and a qualified variant can still be spelled like a third type: `Foo::Foo` vs `struct Foo_Foo` -/
example : variantStructName [("Foo".toList, ["Foo".toList])] ["Foo_Foo".toList] "Foo".toList "Foo".toList = goIdent "Foo_Foo".toList := by decide +kernel

/-- user types spelled like generated ones -/
example : goTypeNameFor (.ttuple [.prim .int32, .prim .int32]) = goIdent "Tuple2_int32_int32".toList := by decide +kernel
example : refStructName (.prim .int32) = goIdent "ref_int32_x".toList := by decide +kernel
example : closureEnvName (sanitizeEnvName "f/3".toList) 0 = goIdent "closure_env_f_0".toList := by decide +kernel
example : dynStructName "Show".toList = goIdent "dyn__Show".toList := by decide +kernel
example : helperFnName "ref_get".toList (.tref (.prim .int32)) = compileFnName "ref_get__Ref_int32".toList := by decide +kernel

/-- the hypothesis the pass models make ("no source entity is spelled like a temporary") is TRUE
for locals (`goLocal_ne_goTemp`) and FALSE for top-level functions: `fn t2` -/
example : compileFnName "t2".toList = goTemp ['t'] 2 := by decide +kernel

/-- a user function may be called `main0`, like the renamed entry point -/
example : compileFnName "main0".toList = compileFnName "main".toList := by decide +kernel

/-- user functions named like a runtime helper, a predeclared identifier the runtime calls, or the
imported package keep their spelling -/
example : ∀ h ∈ runtimeHelpers, compileFnName h = h := by decide +kernel
example : ∀ h ∈ reliedPredeclared, compileFnName h = h := by decide +kernel
example : ∀ h ∈ runtimeImports, compileFnName h = h := by decide +kernel

end Goml.Mangle
