import GomlVerif.Lemmas.LiftCaptures
import GomlVerif.Lemmas.LiftNoClosure
import GomlVerif.Lemmas.LiftSimMain
import GomlVerif.Lemmas.LiftExamples
import GomlVerif.Gen.LiftCaptureWalk
/-!
C08 — closures keep their lexical meaning after lambda lifting.

Model: `Model/Lift.lean` (`lift.rs`), tied to the Rust by exact equality of the model's output
with the real `LiftFile` and environment on every checked program (the tie DESIGN.md calls L1).
Semantics: `Model/Sem.lean` (`Sem.eval`, fuel on every recursive call).

* `captures_exact`, `captures_mem`, `captures_nodup`, `captures_types` — `collect_captured`
  computes exactly the free variables of the body, minus the parameters, that are in scope: as a
  set, without repetition, in first-occurrence order, with the type recorded in the scope;
* `lift_no_closures` — the output of the pass contains no closure node;
* `lift_preserves_partial` — for every program whose lifting passes the decidable structural
  check `DirectFlow`, a source run that ends normally or panics is reproduced by the lifted
  program (same stdout, status, extern events) for every sufficiently large fuel.  Proved against
  the full `Sem` (all node kinds, builtins, `Ref` store, `go`, dyn dispatch) in fuel-monotone
  form, by a simulation in which a closure value `closure ps body ρ` is related to the pair
  (environment struct value, apply function of its type);
* `ref_sharing` — in that relation a `Ref` is related only to the same store location, and the
  environment struct of a closure holds, for every captured variable bound to a `Ref` cell, that
  very location (captures copy values; a reference is a value).

What is missing for the full statement (any flow of a function value, at the level of the emitted
Go): `DirectFlow` is a hypothesis checked per program, not a theorem about a syntactic class of
programs, and the statement is about `Sem`, where calling an environment struct value is defined
for every flow.  The emitted Go is typed: a closure passed as an argument, chosen by a branch,
stored in an array or a `Ref`, returned by a closure, or returned before the caller of its maker
is lifted yields Go that `Go.Check` rejects (C02's known findings `assign-mismatch … want func got
closure_env_struct`, witnesses `corpus/C02/closure-as-argument.gom`,
`corpus/C02/closure-as-branch-result.gom`), and two closures stored in the same struct field are
outside `DirectFlow` (the field keeps the type of the last one; see the `example` below).

    -- full statement, not proved:
    -- theorem lift_preserves (env : Env) (p : Prog) (accepted : Typed p) :
    --   GoSem.run (emit (anf (liftProg env p))) = Sem.run p
-/
namespace Goml.Lift
open Goml Goml.Sem

/-! ### captured variables -/

/-- `collect_captured` = (free variables of the body minus the parameters) ∩ scope, in
    first-occurrence order, each once -/
theorem captures_exact (sc : Scope) (params : List String) (body : Expr) :
    (collectCaptured sc params [] body).map (·.1) =
      dedup (((fv body).filter (fun x => !params.contains x)).filter sc.has) := by
  rw [collect_eq, foldl_captureStep_names]
  rfl

/-- no variable missed, none invented -/
theorem captures_mem (sc : Scope) (params : List String) (body : Expr) (x : String) :
    x ∈ (collectCaptured sc params [] body).map (·.1) ↔ x ∈ fv body ∧ x ∉ params ∧ sc.has x = true :=
  captured_mem sc params body x

theorem captures_nodup (sc : Scope) (params : List String) (body : Expr) :
    ((collectCaptured sc params [] body).map (·.1)).Nodup := by
  rw [captures_exact, dedup]
  exact nodup_foldl_dedupStep _ _ List.nodup_nil

/-- every environment field has the type recorded in the scope entry of the captured variable -/
theorem captures_types (sc : Scope) (params : List String) (body : Expr) (p : String × Ty)
    (h : p ∈ collectCaptured sc params [] body) : ∃ entry, sc.get p.1 = some entry ∧ p.2 = entry.ty :=
  captured_types sc params body p h

/-- The sub-expressions `Model/Lift.lean`'s `collectCaptured` walks, per Lift node kind and in
    order (transcribed from its equations there: `captures_exact` is proved about exactly this
    traversal). -/
def modelCaptureWalk : List (String × List String) := [
  ("EVar", []), ("EPrim", []), ("EConstr", ["args"]), ("ETuple", ["items"]), ("EArray", ["items"]),
  ("ELet", ["value", "body"]), ("EMatch", ["expr", "arms", "default"]),
  ("EIf", ["cond", "then_branch", "else_branch"]), ("EWhile", ["cond", "body"]), ("EGo", ["expr"]),
  ("EConstrGet", ["expr"]), ("EUnary", ["expr"]), ("EBinary", ["lhs", "rhs"]), ("ECall", ["func", "args"]),
  ("EToDyn", ["expr"]), ("EDynCall", ["receiver", "args"]), ("EProj", ["tuple"])]

/-- The case list of the Rust `collect_captured`, regenerated from `lift.rs` on every run
    (`Gen/LiftCaptureWalk.lean`; the extractor itself fails when a variant with sub-expressions sits
    in a leaf arm or an arm skips such a field), is the traversal of the model. -/
theorem capture_walk_table : Consts.captureWalk = modelCaptureWalk := rfl

/-! ### no closure node is left -/

theorem lift_no_closures (env : Env) (fns : List Fn) :
    ∀ f ∈ (liftFile env fns).1, noClosure f.body = true :=
  liftFile_noClosure env fns

/-! ### behaviour -/

/-- For every program whose lifting is accepted by `DirectFlow`: a run of the Mono program that
    ends normally or with a panic (i.e. neither out of fuel nor stuck) is reproduced by the lifted
    program — same output, same status, same extern events — for every sufficiently large fuel.
    Closure values correspond to (environment struct, apply function) pairs (`VRel.closure`). -/
theorem lift_preserves_partial (env : Env) (p : Prog) (h : DirectFlow env p = true) (fuel : Nat) (eager : Bool)
    (hgood : (run fuel p "main" eager).status = "ok" ∨ ∃ k, (run fuel p "main" eager).status = "panic:" ++ k) :
    ∃ fuel', ∀ m, fuel' ≤ m → run m (liftProg env p) "main" eager = run fuel p "main" eager :=
  run_sim h fuel eager hgood

/-- the same for any pair accepted by the check — in particular the REAL output of `lift.rs`,
    on which the check is run as a validator (L2 of DESIGN.md) -/
theorem accepted_pair_preserves (P P' : Prog) (h : progOk P P' = true) (fuel : Nat) (eager : Bool)
    (hgood : (run fuel P "main" eager).status = "ok" ∨ ∃ k, (run fuel P "main" eager).status = "panic:" ++ k) :
    ∃ fuel', ∀ m, fuel' ≤ m → run m P' "main" eager = run fuel P "main" eager :=
  run_sim h fuel eager hgood

/-! ### references are shared, not copied -/

theorem capRel_refs {P P' : Prog} {Γ : SEnv} {ρ : Sem.Env} : ∀ (ys : List String) (vs' : List Val),
    CapRel P P' Γ ρ ys vs' →
    ys.length = vs'.length ∧
      ∀ (i : Nat) (y : String) (l : Nat), ys[i]? = some y → lookupEnv ρ y = some (Val.ref l) → vs'[i]? = some (Val.ref l) := by
  intro ys
  induction ys with
  | nil => intro vs' h; cases h; exact ⟨rfl, fun i y l hi => by simp at hi⟩
  | cons y0 ys ih =>
    intro vs' h
    cases h with
    | cons hv _ hrest =>
      obtain ⟨hl, hr⟩ := ih _ hrest
      refine ⟨by simp [hl], ?_⟩
      intro i y l hi hy
      cases i with
      | zero =>
        simp only [List.getElem?_cons_zero, Option.some.injEq] at hi
        subst hi
        have : valOf ρ y0 = .ref l := by simp [valOf, hy]
        rw [this] at hv
        cases hv
        rfl
      | succ i => simpa using hr i y l (by simpa using hi) hy

/-- A `Ref` is related only to the same location; and the environment struct that represents a
    closure after lifting stores, for every captured variable that holds a `Ref` cell in the
    closure's environment, that very location: closure and creator keep sharing the cell. -/
theorem ref_sharing {P P' : Prog} :
    (∀ l v', VRel P P' (.ref l) v' → v' = .ref l) ∧
    (∀ ps body ρ n vs', VRel P P' (.closure ps body ρ) (.structV n vs') →
      ∃ ys : List String, ys.length = vs'.length ∧
        ∀ (i : Nat) (y : String) (l : Nat), ys[i]? = some y → lookupEnv ρ y = some (Val.ref l) → vs'[i]? = some (Val.ref l)) := by
  refine ⟨?_, ?_⟩
  · intro l v' h; cases h; rfl
  · intro ps body ρ n vs' h
    cases h with
    | closure _ _ _ _ _ _ _ _ hcap => exact ⟨_, capRel_refs _ _ hcap⟩

/-- the lifted closure creation is the environment struct's constructor applied to variables (to which ones:
    `closure_apply_rebinds`) -/
theorem closure_env_args_are_variables (st : State) (sc : Scope) (params : List (String × Ty)) (ty : Ty)
    (hint : Option String) (body : Expr) :
    ∃ caps : List (String × Ty),
      (finishClosure st sc params ty hint body).1 =
        .constr (.struct (structNameFor hint st.nextId)) (.struct (structNameFor hint st.nextId))
          (caps.map (fun p => .var p.1 p.2)) :=
  ⟨_, rfl⟩

theorem unrebind_rebind (n envp : String) (t : Ty) (body : Expr) : ∀ (caps : List (String × Ty)) (i : Nat),
    unrebind n envp i (caps.map (·.1)) (rebind n envp t body i caps) = some body
  | [], _ => rfl
  | (x, ty) :: rest, i => by
    simp only [List.map_cons, rebind, unrebind, beq_self_eq_true, Bool.and_self, if_true]
    exact unrebind_rebind n envp t body rest (i + 1)

/-- `transform_closure`, structurally: the environment struct is built from exactly the captured
    variables, in order; the apply function pushed for it is named `inherent#S#S#apply`, takes the
    environment first and then the closure's parameters, and its body is the lifted closure body
    under one rebinding `let x = env.<i>` per captured variable with the index of the field it was
    stored in — which is what the `DirectFlow` check looks for at every closure. -/
theorem closure_apply_rebinds (st : State) (sc : Scope) (params : List (String × Ty)) (ty : Ty)
    (hint : Option String) (body : Expr) :
    let caps := collectCaptured sc ((loweredParams params (funcParts ty).1).map (·.1)) [] body
    let sn := structNameFor hint st.nextId
    let envp := Consts.envParamPrefix ++ toString st.gensym
    ∃ fn, (finishClosure st sc params ty hint body).2.2.newFns = st.newFns ++ [fn] ∧
      fn.name = applyFnName sn ∧
      fn.params.map (·.1) = envp :: (loweredParams params (funcParts ty).1).map (·.1) ∧
      unrebind sn envp 0 (caps.map (·.1)) fn.body = some body ∧
      varNames? (caps.map (fun p => Expr.var p.1 p.2)) = some (caps.map (·.1)) ∧
      (finishClosure st sc params ty hint body).1 =
        .constr (.struct sn) (.struct sn) (caps.map (fun p => .var p.1 p.2)) := by
  refine ⟨_, rfl, rfl, rfl, unrebind_rebind _ _ _ _ _ 0, ?_, rfl⟩
  generalize collectCaptured sc _ [] body = caps
  induction caps with
  | nil => rfl
  | cons c cs ih => simp [varNames?, varName?, ih]

/-! ### non-vacuity: corpus programs (real Mono dumps, `Lemmas/LiftExamples.lean`) -/
section NonVacuity
open Examples

/-- corpus 037 (four nested closures, each capturing the variables of every enclosing scope) is in
    `DirectFlow`, its source run ends normally, the lifted program prints the same, and there are
    five functions after lifting: `main` and four apply functions.  One statement, so that the
    source run and the lifted program are evaluated once. -/
theorem corpus037 :
    DirectFlow env037 p037 = true ∧ (run 100 p037).status = "ok" ∧
    (run 200 (liftProg env037 p037)).out = (run 100 p037).out ∧
    (liftFile env037 p037.fns).1.length = 5 := by decide +kernel

example : DirectFlow env037 p037 = true := corpus037.1
example : (run 100 p037).status = "ok" := corpus037.2.1
example : (run 200 (liftProg env037 p037)).out = (run 100 p037).out := corpus037.2.2.1
example : (liftFile env037 p037.fns).1.length = 5 := corpus037.2.2.2

/-- corpus 038 (two closures returned in a tuple that share a `Ref` cell with each other) -/
theorem corpus038 :
    DirectFlow env038 p038 = true ∧ (run 100 p038).status = "ok" ∧
    (run 300 (liftProg env038 p038)).out = (run 100 p038).out := by decide +kernel

example : DirectFlow env038 p038 = true := corpus038.1
example : (run 100 p038).status = "ok" := corpus038.2.1
example : (run 300 (liftProg env038 p038)).out = (run 100 p038).out := corpus038.2.2

/-- corpus 033 (captures of lets, pattern variables, an enum and a struct value) -/
example : DirectFlow env033 p033 = true := by decide +kernel

/-- `captures_exact` on a concrete body: `|x| x * y * z + y` in a scope with `y`, `z`, `w` -/
example :
    (collectCaptured ⟨[[("y", ⟨.unit, none⟩), ("z", ⟨.unit, none⟩), ("w", ⟨.unit, none⟩)]]⟩ ["x"] []
      (.bin .add .unit (.bin .mul .unit (.bin .mul .unit (.var "x" .unit) (.var "z" .unit)) (.var "y" .unit))
        (.var "z" .unit))).map (·.1) = ["z", "y"] := by decide +kernel

/-- Outside `DirectFlow`: two different closures stored in the same struct field.  `lift.rs`
    overwrites the declared field type with the environment of the *last* closure stored
    (lift.rs:465-474), so a call through the field of the first struct is rewritten into the
    apply function of the second closure.  (The emitted Go is ill-typed — C02's finding — so this
    never reaches a Go run.) -/
def pShared : Prog := { fns := [
  { name := "main", generics := [], params := [], ret := .unit,
    body :=
      .letE "a/0" (.prim (.int 32 true 1))
      (.letE "f/2" (.closure (.func [.int 32 true] (.int 32 true)) [("x/1", .int 32 true)]
          (.bin .add (.int 32 true) (.var "x/1" (.int 32 true)) (.var "a/0" (.int 32 true))))
      (.letE "g/4" (.closure (.func [.int 32 true] (.int 32 true)) [("y/3", .int 32 true)]
          (.bin .mul (.int 32 true) (.var "y/3" (.int 32 true)) (.prim (.int 32 true 2))))
      (.letE "b/5" (.constr (.struct "Sh") (.struct "Sh") [.var "f/2" (.func [.int 32 true] (.int 32 true))])
      (.letE "c/6" (.constr (.struct "Sh") (.struct "Sh") [.var "g/4" (.func [.int 32 true] (.int 32 true))])
      (.letE "h/7" (.cget (.struct "Sh") 0 (.func [.int 32 true] (.int 32 true)) (.var "b/5" (.struct "Sh")))
      (.call .unit (.var "string_println" (.func [.string] .unit))
        [.call .string (.var "int32_to_string" (.func [.int 32 true] .string))
          [.call (.int 32 true) (.var "h/7" (.func [.int 32 true] (.int 32 true))) [.prim (.int 32 true 5)]]])))))) }] }
def envShared : Env :=
  { funcs := [("main", .func [] .unit)],
    structs := [{ name := "Sh", generics := [], fields := [("f", .func [.int 32 true] (.int 32 true))] }] }

theorem shared_field_differs :
    DirectFlow envShared pShared = false ∧ (run 100 pShared).out = "6\n" ∧
    (run 200 (liftProg envShared pShared)).out = "10\n" := by decide +kernel

example : DirectFlow envShared pShared = false := shared_field_differs.1
example : (run 100 pShared).out = "6\n" := shared_field_differs.2.1
example : (run 200 (liftProg envShared pShared)).out = "10\n" := shared_field_differs.2.2

end NonVacuity

end Goml.Lift
