import GomlVerif.Lemmas.Coherence
import GomlVerif.Props.C13
/-!
# C16 — packages are isolated by imports; trait implementations are coherent

Statements about `Model/Visibility.lean` (decision logic of name resolution, orphan rule, duplicate
checks, merge) and `Model/Graph.lean` (discovery, dependency order).  `package_allowed_iff` restates
`Lemmas/Coherence.lean`, and `topo_ok_iff_acyclic` (also the C04 clause on `topo_sort_packages`),
`topo_order_correct`, `topo_error_truthful` restate `Lemmas/Topo.lean`, so that they are audited here.
-/
namespace Goml.Vis
open Goml.Graph

/-! ## ownership is decided by package identity -/

/-- the regenerated anchor of `is_local_name` / `is_local_nominal_type` (typer/toplevel.rs): a
    qualified name is local iff its package segment equals the current package; unqualified names
    are local to `Main` and `Builtin` only -/
theorem local_name_anchor :
    localByPackageSegmentEquality = true ∧ unqualifiedLocalTo = [mainName, builtinName] := by decide +kernel

/-- a target type is local to `q` iff it is a struct / generic application whose head package **is** `q` -/
theorem typeLocalTo_iff (d : ImplD) (q : Pkg) :
    d.typeLocalTo q = true ↔ (d.shape = .nom ∨ d.shape = .gen) ∧ d.head = q := by
  simp [ImplD.typeLocalTo]

/-- **a package whose name is a proper prefix of (or otherwise merely resembles) the owner's name
    owns nothing of it**: for any other package — `Net` vs `NetTypes`, `Main` vs `MainLib`, `Lib` vs
    `lib` — the type is not local -/
theorem typeLocalTo_other_package (d : ImplD) (q : Pkg) (h : q ≠ d.head) : d.typeLocalTo q = false := by
  cases hl : d.typeLocalTo q with
  | false => rfl
  | true => exact absurd ((typeLocalTo_iff d q).1 hl).2.symm h

example : ("Net".toList.isPrefixOf "NetTypes".toList = true) ∧
    (⟨0, false, "Fmt", .nom, "NetTypes", "", "S"⟩ : ImplD).typeLocalTo "Net" = false ∧
    (⟨0, true, "", .gen, "MainLib", "int32", "S"⟩ : ImplD).typeLocalTo "Main" = false ∧
    (⟨0, false, "Fmt", .nom, "lib", "", "S"⟩ : ImplD).typeLocalTo "Lib" = false := by decide +kernel

/-! ## isolation: what a file can name -/

/-- `package_allowed` is exactly: own package, `Builtin`, or an import of the file -/
theorem package_allowed_iff (p cur : Pkg) (imps : List Pkg) :
    packageAllowed p cur imps = true ↔ p = cur ∨ p = builtinName ∨ p ∈ imps :=
  packageAllowed_iff p cur imps

/-- every import of the file is an import of the package, whose interface has been loaded -/
def Ctx.WF (c : Ctx) : Prop := ∀ p ∈ c.imports, (c.deps.lookup p).isSome

/-- the item exists where the compiler would look for it: among the own definitions for the
    current package and `Builtin`, in the package's interface otherwise -/
def ItemExists (c : Ctx) (p : Pkg) (full : String) : Prop :=
  if p = c.current ∨ p = builtinName then full ∈ c.defNames
  else ∀ ex, c.deps.lookup p = some ex → full ∈ ex

/-- **`P::x` resolves from a file of `Q` iff `P = Q ∨ P = Builtin ∨ P ∈ imports`**, given that the
    item exists -/
theorem visible_iff (c : Ctx) (hwf : c.WF) (p : Pkg) (full : String) (hex : ItemExists c p full) :
    (resolveQualified c p full).res = .defn ↔ p = c.current ∨ p = builtinName ∨ p ∈ c.imports := by
  unfold ItemExists at hex
  by_cases h1 : p = c.current ∨ p = builtinName
  · rw [if_pos h1] at hex
    have : p = c.current ∨ p = builtinName ∨ p ∈ c.imports := h1.elim Or.inl (Or.inr ∘ Or.inl)
    simp [resolveQualified, h1, hex, this]
  · rw [if_neg h1] at hex
    by_cases h2 : p ∈ c.imports
    · obtain ⟨ex, hl⟩ := Option.isSome_iff_exists.1 (hwf p h2)
      simp [resolveQualified, h1, h2, hl, hex ex hl]
    · obtain ⟨h3, h4⟩ := not_or.1 h1
      simp [resolveQualified, h2, h3, h4]

/-- a package that is neither the current one, nor `Builtin`, nor imported by the file never
    resolves — whether or not it exists, is loaded, or is imported by someone else -/
theorem invisible_unresolved (c : Ctx) (p : Pkg) (full : String)
    (h : ¬(p = c.current ∨ p = builtinName ∨ p ∈ c.imports)) :
    (resolveQualified c p full).res = .unresolved := by
  simp only [not_or] at h
  simp [resolveQualified, h.1, h.2.1, h.2.2]

/-- … and when another file of the package imports it, the diagnostic says so -/
theorem not_imported_reported (c : Ctx) (p : Pkg) (full : String)
    (h1 : p ≠ c.current) (h2 : p ≠ builtinName) (h3 : p ∉ c.imports) (h4 : (c.deps.lookup p).isSome) :
    (resolveQualified c p full).notImported = true := by
  simp [resolveQualified, h1, h2, h3, h4]

/-- a value path — of any length — is error-free only if its root is the package itself or an
    import of the file -/
theorem path_accepted_visible {q : PkgSrc} {fi : List Pkg} {p : Pkg} (h : pathCls q fi p = []) :
    p = q.name ∨ p ∈ fi := by
  unfold pathCls at h
  by_cases ho : p = q.name
  · exact Or.inl ho
  · have ho' : (p == q.name) = false := by simpa using ho
    simp only [ho', Bool.false_eq_true, if_false] at h
    by_cases hc : p ∈ fi
    · exact Or.inr hc
    · simp [hc] at h

/-- **no reference form is accepted unless every package it names is visible from its file**:
    `P::f`, `P::SP`, `P::SP { }`, `P::EP::K`, `T: P::TP`, `dyn P::TP`, and the three-segment paths
    `P::SP::mk`, `P::SP::get`, `P::TP::m` name `P`; `sself` and `flow` name the package whose
    function hands out the value (`flow` names nothing else: it only uses a value of a type of `P`) -/
theorem use_accepted_visible (q : PkgSrc) (u : Use) (h : useClasses q u = []) :
    ∀ n ∈ u.named, n = q.name ∨ n = builtinName ∨ n ∈ fileImports q u.file := by
  have viaAllowed : ∀ p, packageAllowed p q.name (fileImports q u.file) = true →
      p = q.name ∨ p = builtinName ∨ p ∈ fileImports q u.file :=
    fun p => (package_allowed_iff _ _ _).1
  have ofPath : ∀ p, pathCls q (fileImports q u.file) p = [] →
      p = q.name ∨ p = builtinName ∨ p ∈ fileImports q u.file := by
    intro p hp
    rcases path_accepted_visible hp with e | e
    · exact Or.inl e
    · exact Or.inr (Or.inr e)
  have single : u.named = [u.target] →
      ((u.target == q.name) = false → u.target = q.name ∨ u.target = builtinName ∨ u.target ∈ fileImports q u.file) →
      ∀ n ∈ u.named, n = q.name ∨ n = builtinName ∨ n ∈ fileImports q u.file := by
    intro hn ht n hm
    rw [hn] at hm
    have : n = u.target := by simpa using hm
    rw [this]
    by_cases hown : u.target = q.name
    · exact Or.inl hown
    · exact ht (by simpa using hown)
  unfold useClasses at h
  cases hf : u.form <;> simp only [hf] at h
  case smeth | tmeth => exact single (by simp [Use.named, hf]) fun _ => ofPath _ (List.append_eq_nil_iff.1 h).2
  case sself =>
    have h' := List.append_eq_nil_iff.1 h
    intro n hm
    have : n = u.via ∨ n = u.target := by simpa [Use.named, hf] using hm
    rcases this with e | e
    · exact e ▸ ofPath _ (List.append_eq_nil_iff.1 h'.1).1
    · exact e ▸ ofPath _ h'.2
  case flow =>
    have h' := List.append_eq_nil_iff.1 h
    intro n hm
    have : n = u.via := by simpa [Use.named, hf] using hm
    exact this ▸ ofPath _ h'.1
  -- a foreign target: `fn` is a path, `nofn` and `unq` always report, the rest ask `packageAllowed`
  case fn =>
    refine single (by simp [Use.named, hf]) fun hown => ofPath _ ?_
    simpa only [hown, Bool.false_eq_true, if_false] using h
  case nofn | unq =>
    refine single (by simp [Use.named, hf]) fun hown => ?_
    simp [hown] at h
  case ty | lit | dynT | ctor | bound =>
    refine single (by simp [Use.named, hf]) fun _ => ?_
    by_cases ha : packageAllowed u.target q.name (fileImports q u.file) = true
    · exact viaAllowed _ ha
    · simp [ha] at h

/-- **an error-free package names only visible packages in its impls and obeys the orphan rule**:
    every package named by an impl (its trait, the head and the argument of its target type) is
    visible from the file; a trait impl has its trait or the outermost nominal type of its target
    in the package itself — `Vec[…]`, `Ref[…]`, tuples, arrays, function types, `dyn` and primitives
    are nobody's — and an inherent impl is for a type of the package itself -/
theorem accepted_package_isolated (q : PkgSrc) (h : (localCheck q).cls = []) :
    (∀ u ∈ q.uses, ∀ n ∈ u.named, n = q.name ∨ n = builtinName ∨ n ∈ fileImports q u.file) ∧
    (∀ d ∈ q.impls,
      (∀ n ∈ d.tyNames, n = q.name ∨ n = builtinName ∨ n ∈ fileImports q d.file) ∧
      (d.inherent = true → (d.shape = .nom ∨ d.shape = .gen) ∧ d.head = q.name) ∧
      (d.inherent = false →
        (d.tr = q.name ∨ d.tr = builtinName ∨ d.tr ∈ fileImports q d.file) ∧
        (d.tr = q.name ∨ ((d.shape = .nom ∨ d.shape = .gen) ∧ d.head = q.name)))) := by
  have hl := localCheck_nil h
  refine ⟨fun u hu' => use_accepted_visible q u (hl.uses u hu'), ?_⟩
  intro d hd'
  obtain ⟨hi, ht⟩ := hl.impls d hd'
  cases hinh : d.inherent with
  | true =>
    obtain ⟨vis, loc⟩ := hi hinh
    exact ⟨fun n hn => (package_allowed_iff _ _ _).1 (vis n hn), fun _ => (typeLocalTo_iff d _).1 loc, fun hf => absurd hf (by decide)⟩
  | false =>
    obtain ⟨r1, vis, r3⟩ := ht hinh
    refine ⟨fun n hn => (package_allowed_iff _ _ _).1 (vis n hn), fun hf => absurd hf (by decide), fun _ => ?_⟩
    refine ⟨(package_allowed_iff _ _ _).1 r1, ?_⟩
    rcases r3 with r | r
    · exact Or.inl r
    · exact Or.inr ((typeLocalTo_iff d _).1 r)

/-- **`topo_sort_packages` succeeds exactly on acyclic graphs whose imports are all present** -/
theorem topo_ok_iff_acyclic (g : Graph) : (∃ o, topoSort g = .ok o) ↔ Acyclic g ∧ ImportsPresent g :=
  topoSort_ok_iff g

/-- … and then the order lists every package exactly once, each after all its imports -/
theorem topo_order_correct {g : Graph} {o : List Pkg} (hn : g.names.Nodup) (h : topoSort g = .ok o) :
    o.Perm g.names ∧ ∀ pre n post, o = pre ++ n :: post → ∀ d ∈ g.imports n, d ∈ pre :=
  ⟨topoSort_perm hn h, (topoSort_isTopoOrder h).2.2⟩

/-- an error of `topo_sort_packages` tells the truth: the cycle it prints is a closed walk of
    import edges, the missing package is imported and absent -/
theorem topo_error_truthful {g : Graph} {e : Err} (h : topoSort g = .error e) :
    (∃ m mid, e = .cycle (m :: mid ++ [m]) ∧ Linked (Edge g) (m :: mid ++ [m])) ∨
    (∃ p d, e = .missing p d ∧ Edge g p d ∧ d ∉ g.names) :=
  topoSort_err_truth h

/-- **missing packages, mismatched declarations and import cycles are always reported**: if the
    front end gets as far as type checking, then every package reachable from `Main` through
    imports has a directory whose files declare that very package, and the import graph of the
    discovered packages has no cycle and no dangling import -/
theorem cycle_missing_reported {w : World} {iter : Pkg → List Pkg} {keys : List Pkg → List Pkg}
    {cls : List Cls} (hi : IterOk w.disk iter) (h : check w iter keys = .ok cls) :
    (∀ p, Reach w.disk p → ∃ imps, w.disk.load p = .unit p imps) ∧
    ∃ order, discover w.disk iter = .ok order ∧
      Acyclic ⟨keys order, iter⟩ ∧ ImportsPresent ⟨keys order, iter⟩ := by
  unfold check at h
  split at h
  · cases h
  · rename_i p hp
    obtain ⟨order, topo, hd, ht, rfl⟩ := (plan_ok_iff ..).1 hp
    refine ⟨fun p hp => ?_, order, hd, (topo_ok_iff_acyclic _).1 ⟨topo, ht⟩⟩
    -- reachable packages are in `order` (closedness), and everything in `order` loaded
    exact (discover_inv hi hd).loads p (((discover_mem_iff_reach hi hd).2 p).2 hp)

/-- all trait-impl declarations of the packages in `order`, the standard one included -/
def decls (w : World) (order : List Pkg) : List Key :=
  order.flatMap fun p => stdKey (w.src p).name :: (traitImpls (w.src p).impls).map ImplD.key

/-- **accepted ⇒ at most one implementation for every (trait, type)** among the type-checked
    packages -/
theorem coherent (w : World) (order : List Pkg) (h : checkOrder w order = []) :
    ∀ k, (decls w order).count k ≤ 1 := by
  obtain ⟨hloc, hpair⟩ := (checkOrder_nil_iff w order).1 h
  have hn : ((order.map fun p => (localCheck (w.src p)).reg).flatten).Nodup := by
    apply flatten_nodup_of_pairwise _ _ hpair
    intro r hr
    obtain ⟨p, hp, rfl⟩ := List.mem_map.1 hr
    exact (localCheck_nil (hloc p hp)).reg_nodup
  have he : decls w order = (order.map fun p => (localCheck (w.src p)).reg).flatten := by
    unfold decls
    rw [List.flatMap_def]
    congr 1
    apply List.map_congr_left
    intro p hp
    exact (localCheck_nil (hloc p hp)).reg_eq.symm
  rw [he]
  exact fun k => List.nodup_iff_count_le_one.1 hn k

/-- **acceptance does not depend on the order in which the packages are type-checked and merged**
    (any permutation, in particular any topological order) -/
theorem order_independent (w : World) (o₁ o₂ : List Pkg) (hp : o₁.Perm o₂) :
    checkOrder w o₁ = [] ↔ checkOrder w o₂ = [] := by
  rw [checkOrder_nil_iff, checkOrder_nil_iff]
  have h1 : (∀ p ∈ o₁, (localCheck (w.src p)).cls = []) ↔ (∀ p ∈ o₂, (localCheck (w.src p)).cls = []) :=
    ⟨fun h p hp' => h p (hp.mem_iff.2 hp'), fun h p hp' => h p (hp.mem_iff.1 hp')⟩
  have h2 := (hp.map fun p => (localCheck (w.src p)).reg).pairwise_iff (R := Disj) (fun h => h.symm)
  rw [h1, h2]

/-- **nor on how any set is enumerated** (with imports iterated in key order): the whole verdict — graph error or
    classes of diagnostics — is the same for every pair of enumerations -/
theorem enum_independent (w : World) (e₁ e₂ : Pkg → List Pkg) (k₁ k₂ : List Pkg → List Pkg)
    (he : ∀ p, SameSet (e₁ p) (e₂ p)) (hk : ∀ l, SameSet (k₁ l) (k₂ l)) :
    check w (btreeIter e₁) k₁ = check w (btreeIter e₂) k₂ := by
  unfold check
  rw [plan_enum_invariant w.disk e₁ e₂ k₁ k₂ he hk]

/-- what a key registered by an error-free package says about packages: its trait or its type belongs to the
    package (the orphan rule; of the standard key, both), and any other package it names, as its trait or as the
    head of a nominal or generic type, is `Builtin` or an import of the package -/
theorem reg_key_facts {q : PkgSrc} (hc : (localCheck q).cls = []) {k : Key} (hk : k ∈ (localCheck q).reg) :
    (k.tr = q.name ∨ (k.shape = .nom ∨ k.shape = .gen) ∧ k.head = q.name) ∧
    ∀ p, p ≠ q.name → p ≠ builtinName → (k.tr = p ∨ (k.shape = .nom ∨ k.shape = .gen) ∧ k.head = p) → p ∈ q.imports := by
  have hl := localCheck_nil hc
  rw [hl.reg_eq] at hk
  rcases List.mem_cons.1 hk with rfl | hk
  · exact ⟨Or.inl rfl, fun p hp _ h => absurd (h.elim Eq.symm fun h => h.2.symm) hp⟩
  · obtain ⟨d, hd, rfl⟩ := List.mem_map.1 hk
    have hd' := List.mem_filter.1 hd
    obtain ⟨a, b, c⟩ := (hl.impls d hd'.1).2 (by simpa using hd'.2)
    refine ⟨c.imp_right (typeLocalTo_iff d _).1, fun p hp hb h => ?_⟩
    have hv : packageAllowed p q.name (fileImports q d.file) = true := by
      rcases h with h | ⟨hs, h⟩
      · exact h ▸ a
      · refine h ▸ b d.head ?_
        rcases hs with hs | hs <;> simp [ImplD.tyNames, show d.shape = _ from hs, Shape.hasHead]
    rcases (package_allowed_iff _ _ _).1 hv with h | h | h
    · exact absurd h hp
    · exact absurd h hb
    · exact fileImports_sub _ _ p h

/-- **the cross-package duplicate check is implied by the orphan rule, visibility and acyclicity**:
    two different error-free packages of an acyclic graph never register the same (trait, type) -/
theorem merge_check_redundant (g : Graph) (hac : Acyclic g) (w : World) (q₁ q₂ : Pkg)
    (h₁ : q₁ ∈ g.names) (h₂ : q₂ ∈ g.names) (hne : q₁ ≠ q₂) (hb : builtinName ∉ g.names)
    (hn₁ : (w.src q₁).name = q₁) (hn₂ : (w.src q₂).name = q₂)
    (hi₁ : ∀ x, x ∈ (w.src q₁).imports → x ∈ g.imports q₁)
    (hi₂ : ∀ x, x ∈ (w.src q₂).imports → x ∈ g.imports q₂)
    (hc₁ : (localCheck (w.src q₁)).cls = []) (hc₂ : (localCheck (w.src q₂)).cls = []) :
    Disj (localCheck (w.src q₁)).reg (localCheck (w.src q₂)).reg := by
  intro k hk₂ hk₁
  obtain ⟨own₁, imp₁⟩ := reg_key_facts hc₁ hk₁
  obtain ⟨own₂, imp₂⟩ := reg_key_facts hc₂ hk₂
  rw [hn₁] at own₁ imp₁
  rw [hn₂] at own₂ imp₂
  -- a package that names the other one imports it
  have e12 := fun h => (⟨h₁, hi₁ _ (imp₁ q₂ hne.symm (fun e => hb (e ▸ h₂)) h)⟩ : Edge g q₁ q₂)
  have e21 := fun h => (⟨h₂, hi₂ _ (imp₂ q₁ hne (fun e => hb (e ▸ h₁)) h)⟩ : Edge g q₂ q₁)
  rcases own₁ with t1 | s1 <;> rcases own₂ with t2 | s2
  · exact hne (t1.symm.trans t2)
  · exact hac q₁ (.step (e12 (Or.inr s2)) (.one (e21 (Or.inl t1))))
  · exact hac q₁ (.step (e12 (Or.inl t2)) (.one (e21 (Or.inr s1))))
  · exact hne (s1.2.symm.trans s2.2)

/-- `Net` imports `Fmt` and `NetTypes` and implements `Fmt`'s trait for `NetTypes`'s struct, `Fm`
    implements `Fmt`'s trait for `int32`, `Net` writes an inherent impl for `NetTypes`'s struct: two
    orphans and a non-local inherent impl, whatever the names look like -/
def prefixWorld : World :=
  { disk := [("Main", .unit "Main" ["Net", "Fm"]), ("Net", .unit "Net" ["Fmt", "NetTypes"]), ("Fm", .unit "Fm" ["Fmt"]),
             ("Fmt", .unit "Fmt" []), ("NetTypes", .unit "NetTypes" [])]
    srcs := [
      { name := "Main", imports := ["Net", "Fm"], uses := [], impls := [] },
      { name := "Net", imports := ["Fmt", "NetTypes"], uses := [],
        impls := [⟨0, false, "Fmt", .nom, "NetTypes", "", "S"⟩, ⟨0, true, "", .nom, "NetTypes", "", "S"⟩] },
      { name := "Fm", imports := ["Fmt"], uses := [], impls := [⟨0, false, "Fmt", .prim, "", "", "S"⟩] },
      { name := "Fmt", imports := [], uses := [], impls := [] },
      { name := "NetTypes", imports := [], uses := [], impls := [] }] }

example : check prefixWorld (btreeIter prefixWorld.disk.importsOf) id =
    .ok [.orphan, .orphan, .inherentNonLocal] := by decide +kernel

/-- a package named like a trait of the importing package takes over the two-segment path: in `Aa`,
    which imports the package `TAa`, the own trait's method `TAa::m(true)` is looked up in that package
    and not found (a rejection; qualified or not imported it resolves) -/
example :
    useClasses { name := "Aa", imports := ["TAa"], uses := [], impls := [] } ⟨0, .tmeth, "Aa", false, ""⟩ = [.unresolved] ∧
    useClasses { name := "Aa", imports := ["Bb"], uses := [], impls := [] } ⟨0, .tmeth, "Aa", false, ""⟩ = [] := by decide +kernel

/-! ## non-vacuity -/

/-- `Aa` owns a trait, `Bb` a type and the impl (allowed: the type is local), `Main` uses both -/
def okWorld : World :=
  { disk := [("Main", .unit "Main" ["Aa", "Bb"]), ("Aa", .unit "Aa" []), ("Bb", .unit "Bb" ["Aa"])]
    srcs := [
      { name := "Main", imports := ["Aa", "Bb"],
        uses := [⟨0, .fn, "Aa", false, ""⟩, ⟨0, .ty, "Bb", false, ""⟩, ⟨0, .ctor, "Bb", false, ""⟩,
                 ⟨0, .smeth, "Bb", false, ""⟩, ⟨0, .sself, "Aa", false, "Bb"⟩, ⟨0, .tmeth, "Aa", false, ""⟩,
                 ⟨0, .flow, "Aa", false, "Bb"⟩],
        impls := [⟨0, false, "Main", .nom, "Bb", "", "R"⟩, ⟨0, false, "Main", .vec, "", "Bb", "S"⟩,
                  ⟨0, true, "", .gen, "Main", "Aa", "S"⟩, ⟨0, false, "Aa", .gen, "Main", "Bb", "S"⟩] },
      { name := "Aa", imports := [], uses := [⟨0, .fn, "Aa", true, ""⟩], impls := [⟨0, false, "Aa", .prim, "", "", "S"⟩, ⟨0, false, "Aa", .dynT, "Aa", "", "S"⟩] },
      { name := "Bb", imports := ["Aa"], uses := [⟨0, .bound, "Aa", false, ""⟩], impls := [⟨0, false, "Aa", .nom, "Bb", "", "S"⟩, ⟨0, false, "Bb", .ref, "", "Aa", "S"⟩] }] }

example : check okWorld (btreeIter okWorld.disk.importsOf) id = .ok [] := by decide +kernel

/-- the same program with references to a package that is only transitively imported (`Aa::f`,
    `x: Aa::SAa`, and the three-segment paths `Aa::SAa::mk`, `Aa::SAa::get`, `Aa::TAa::m`, plus the
    field access on a value of `Aa::SAa` obtained from `Bb`), an orphan
    impl, a duplicate impl, orphan impls of a foreign trait for `Vec[int32]` and `Ref[Bb::SBb]` in the
    root package, and inherent impls for `Vec[int32]` and for a foreign generic type -/
def badWorld : World :=
  { srcs := [
      { name := "Main", imports := ["Bb"],
        uses := [⟨0, .fn, "Aa", false, ""⟩, ⟨0, .ty, "Aa", false, ""⟩,
                 ⟨0, .smeth, "Aa", false, ""⟩, ⟨0, .sself, "Aa", false, "Bb"⟩, ⟨0, .tmeth, "Aa", false, ""⟩,
                 ⟨0, .flow, "Aa", false, "Bb"⟩],
        impls := [⟨0, false, "Bb", .nom, "Bb", "", "S"⟩, ⟨0, false, "Main", .nom, "Main", "", "S"⟩,
                  ⟨0, false, "Bb", .vec, "", "int32", "S"⟩, ⟨0, false, "Bb", .ref, "", "Bb", "S"⟩,
                  ⟨0, true, "", .vec, "", "int32", "S"⟩, ⟨0, true, "", .gen, "Bb", "Main", "S"⟩] },
      { name := "Aa", imports := [], uses := [], impls := [] },
      { name := "Bb", imports := ["Aa"], uses := [], impls := [] }],
    disk := [("Main", .unit "Main" ["Bb"]), ("Aa", .unit "Aa" []), ("Bb", .unit "Bb" ["Aa"])] }

example : check badWorld (btreeIter badWorld.disk.importsOf) id =
    .ok [.unresolved, .notImported, .unresolved, .unresolved, .unresolved, .unresolved, .unresolved,
         .orphan, .dupLocal, .orphan, .orphan, .inherentNonLocal, .inherentNonLocal] := by decide +kernel

example : check { disk := [("Main", .unit "Main" ["Aa", "Zz"]), ("Aa", .unit "Aa" [])], srcs := [] }
    (btreeIter fun p => if p = "Main" then ["Aa", "Zz"] else []) id = .error (.load "Zz" .unreadable) := by decide +kernel

/-- the hypotheses of `visible_iff` hold for an imported package, and the item resolves -/
example :
    let c : Ctx := { current := "Main", imports := ["Aa"], defNames := ["fMain"], deps := [("Aa", ["Aa::fAa"])] }
    c.WF ∧ ItemExists c "Aa" "Aa::fAa" ∧ (resolveQualified c "Aa" "Aa::fAa").res = .defn ∧
    (resolveQualified { c with imports := [] } "Aa" "Aa::fAa") = ⟨.unresolved, true⟩ := by
  refine ⟨?_, ?_, by decide, by decide⟩
  · intro p hp
    have : p = "Aa" := by simpa using hp
    subst this
    decide
  · unfold ItemExists
    rw [if_neg (by decide)]
    intro ex hex
    have : ex = ["Aa::fAa"] := by
      have h : (some ["Aa::fAa"] : Option (List String)) = some ex := by
        rw [← hex]; decide
      exact (Option.some.inj h).symm
    subst this
    simp

end Goml.Vis
