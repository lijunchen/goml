import GomlVerif.Lemmas.InferTotal
import GomlVerif.Lemmas.InferCert
/-!
Theorems about the model of the typer's constraint generation (`Model/Infer.lean`, the fragment of
`typer/check.rs` + `localenv.rs` + `toplevel.rs::typecheck_fn` listed there), composed with those about
`solve` (`Props/Solve.lean`) and `unify` (`Props/Unify.lean`).
-/
namespace Goml.Infer
open Goml Goml.Unify

/-- **Generation is total.**  For every expression of the fragment, expected type (or none), environment,
scope stack and state, `infer_expr` / `check_expr` RETURN: an elaborated tree, the scopes and the state.
The model has no fuel here (the recursion is structural in the expression), `Vec` indexing is
`List.get?`, and `none` stands for a Rust panic (`args_tast[0]` in the `array_set` arm of
`infer_call_expr`; reachable only under the guard `args_tast.len() == 3`) — so a call with any number of
arguments, a projection at any index, an unknown name or callee end in a diagnostic and an error node,
never in a stuck state.  (Dropping the guard — "index the arguments without checking their number" —
makes `callRet_total`, hence this theorem, unprovable.) -/
theorem infer_total (e : IExpr) (exp : Option Ty) (G : GEnv) (Γ : Scopes) (s : St) :
    ∃ t Γ' s', go e exp G Γ s = some (t, Γ', s') := by
  obtain ⟨t, Γ', s', h, _⟩ := go_le e exp G Γ s
  exact ⟨t, Γ', s', h⟩

/-- … and so is `typecheck_fn` up to `solve`: it never panics; with `solve_terminates` the whole function
ends (`stuck` / `noRounds` are impossible, `noFuel` is the fuel of `unify` / `norm`). -/
theorem inferFn_total (G : GEnv) (fuel : Nat) (params ret body σ0) :
    inferFn G fuel params ret body σ0 ≠ .stuck ∧ inferFn G fuel params ret body σ0 ≠ .noRounds := by
  obtain ⟨t, s, g⟩ := genFn_spec G params ret body σ0
  have ht := solve_terminates G.env fuel s.σ s.cs
  unfold inferFn
  simp only [g.eq]
  -- `inferFn` is `.stuck` only if generation is, and `.noRounds` only if `solve` is (`ht`)
  constructor <;> cases hs : solve G.env fuel s.σ s.cs <;> simp_all

/-- **Generation only extends the state.**  The union-find store keeps `find` and every value (only fresh
keys are created: `fresh_ty_var`, `inst_ty`), so it stays well-formed and acyclic and refines the old
one (`Ext`); constraints and diagnostics are appended at the end. -/
theorem infer_store_invariant {e exp G Γ s t Γ' s'} (h : go e exp G Γ s = some (t, Γ', s'))
    (hW : WF s.σ) (hA : Acyclic s.σ) :
    WF s'.σ ∧ Acyclic s'.σ ∧ Ext s.σ s'.σ ∧ (∃ new, s'.cs = s.cs ++ new) ∧ (∃ more, s'.diags = s.diags ++ more) := by
  obtain ⟨t1, Γ1, s1, h1, l⟩ := go_le e exp G Γ s
  cases h.symm.trans h1
  obtain ⟨w, e⟩ := l.store hW
  exact ⟨w, hA.of_ext e, e, l.cs, l.diags⟩

/-- … composed with `solveLoop_post`: whatever a function body is, after `typecheck_fn` the store is
well-formed, acyclic and refines the store before the function (so `norm` / `subst_ty` of every
recorded type terminate: `norm_total`). -/
theorem inferFn_store_invariant {G fuel params ret body σ0 r} (h : inferFn G fuel params ret body σ0 = .ok r)
    (hW : WF σ0) (hA : Acyclic σ0) : WF r.σ ∧ Acyclic r.σ ∧ Ext σ0 r.σ := by
  obtain ⟨sd, run⟩ := inferFn_ok h
  obtain ⟨t, s, g⟩ := genFn_spec G params ret body σ0
  cases run.gen.symm.trans g.eq
  obtain ⟨w, e⟩ := g.le.store hW
  obtain ⟨w2, e2⟩ := solveLoop_post _ _ _ _ _ _ _ w run.solved
  exact ⟨w2, (hA.of_ext e).of_ext e2, e.trans e2⟩

/-! ### soundness -/

/-- the two types are identical or have agreeing normal forms in `σ` (equal up to array lengths one of
which is the wildcard — `unify_sound`; plain equality when no wildcard length occurs: `unify_sound_eq`).  The identity
is a disjunct of its own because `Eqv σ t t` needs `t` to HAVE a normal form, i.e. an acyclic store, which `infer_sound`
does not assume. -/
def AgreeIn (σ : Store) (l r : Ty) : Prop := l = r ∨ Eqv σ l r

/-- after a run without any diagnostic every `TypeEqual` that generation queued holds in the store `solve` left -/
theorem eqs_agree {G fuel params ret body σ0 r} (h : inferFn G fuel params ret body σ0 = .ok r) (hd : r.diags = [])
    (hW : WF σ0) : ∀ a b, Constraint.eq a b ∈ r.gen.cs → AgreeIn r.σ a b := by
  obtain ⟨sd, run⟩ := inferFn_ok h
  obtain ⟨t, s, g⟩ := genFn_spec G params ret body σ0
  cases run.gen.symm.trans g.eq
  rw [run.diags, List.append_eq_nil_iff, List.map_eq_nil_iff, List.map_eq_nil_iff] at hd
  have hs := run.solved
  rw [hd.2] at hs
  intro a b hm
  obtain ⟨x, y, ⟨f1, hx⟩, ⟨g1, hy⟩, ha⟩ := solve_eq_sound (g.le.store hW).1 hs a b hm
  exact Or.inr ⟨f1, g1, x, y, hx, hy, ha⟩

/-- **Acceptance is type-sound (partial).**  If `typecheck_fn` ends WITHOUT ANY DIAGNOSTIC — none from
generation, none from `solve` — then the elaborated body is well typed in the declarative judgement `Wt`
with types compared in the FINAL store (`AgreeIn r.σ`), and the type of the body agrees with the declared result; what `Wt`
says is spelled out at `infer_sound` below.  This form serves the runs with `r.gen.outside = true` (struct literals whose written
fields are not the declared ones; not method-call forms: `cert` is false), where `genFn_justified` does not apply; it takes
instead (hence `_partial`):
* the hypothesis `cert`: the decidable certificate that every obligation of the tree is discharged by an
  identity or by a constraint of the queue.  The driver evaluates `cert` on every function of the tie stream (model tree,
  model queue — which the tie shows equal to the real queue) and `./check C03` fails if it is ever false;
* field accesses (`StructFieldAccess` constraints): `cert` is false for a tree with a field node — what a
  solved field constraint means (struct table lookup + instantiation) is not stated;
* binders: `cert` looks binders up in `params ++ binders tree`, i.e. it assumes what name resolution
  provides (one `LocalId` per binder). -/
theorem infer_sound_partial {G fuel params ret body σ0 r}
    (h : inferFn G fuel params ret body σ0 = .ok r) (hd : r.diags = []) (hW : WF σ0)
    (cert : justB r.gen.cs (params ++ binders r.tree) G.funs (obls r.tree ++ [.rel r.tree.ty ret]) = true) :
    Wt (AgreeIn r.σ) (fun x => lookupScope x (params ++ binders r.tree)) G.funs r.tree ∧
    AgreeIn r.σ r.tree.ty ret := by
  have hR := eqs_agree h hd hW
  have hall := List.all_eq_true.1 cert
  exact ⟨fun o ho => checkB_sound hR (fun _ => Or.inl rfl) (hall o (List.mem_append_left _ ho)),
    checkB_sound (o := .rel r.tree.ty ret) hR (fun _ => Or.inl rfl) (hall _ (List.mem_append_right _ (by simp)))⟩

/-- the binder table `B` gives every parameter and every binder of the tree its type — what name resolution
provides (one `LocalId` per binder); e.g. `fun x => lookupScope x (params ++ binders tree)` when the ids are distinct -/
def BinderTable (B : Nat → Option Ty) (params : List (Nat × Ty)) (t : TExpr) : Prop := BIn B (params ++ binders t)

/-- **Every tree generation returns is justified by the queue it returns** (no per-function certificate):
if `typecheck_fn` up to `solve` pushed no diagnostic, every obligation of the elaborated body — and "the body has
the declared result type" — is an identity, a queued `TypeEqual` (`rel`), a queued `StructFieldAccess` (`fld`), a
binder of the table, an instance made by `inst_ty`, a component of a syntactic tuple type.  By induction over the
mutual recursor of `IExpr` (`Lemmas/InferTotal.lean::go_spec`). -/
theorem genFn_justified {G params ret body σ0 t s} (h : genFn G params ret body σ0 = some (t, s)) (hd : s.diags = [])
    (hin : s.outside = false) {B} (hB : BinderTable B params t) :
    JL B G.funs s.cs (obls t ++ [.rel t.ty ret]) := by
  obtain ⟨t', s', g⟩ := genFn_spec G params ret body σ0
  cases h.symm.trans g.eq
  exact g.just ⟨hd, hin⟩ hB

/-- **Acceptance is type-sound** (fragment of `Model/Infer.lean`).  If `typecheck_fn` ends WITHOUT ANY DIAGNOSTIC — none
from generation, none from `solve` — then, for every binder table `B` (name resolution's: one `LocalId` per binder), the
elaborated body is well typed in the declarative judgement, with types compared in the FINAL store (`AgreeIn r.σ`:
identical, or agreeing normal forms — equal up to array lengths one of which is the wildcard, which is what the real
`unify` guarantees): every use of a local has the type of its binder, every reference to a top-level function carries an
instance of its signature, every callee has the function type made of the argument types and the type of the call,
conditions are `bool`, branches / arms / operands / `let` values / patterns agree, projections select a component; and the
body has the declared result type.  No certificate: `genFn_justified` + `solve_eq_sound`.
`hin` (`r.gen.outside = false`, a ghost flag of the run, decidable): generation did not go through a method-call form
(`x.m(a)`, `T::m(x, a)`) — these are modelled and tied but have no declarative rule — nor through a struct literal
whose written fields are not exactly the declared ones; for them only `infer_total` / `infer_store_invariant` hold.
A field access `e.f : r` is judged by `F`: here only "its `StructFieldAccess(e, f, r)` was queued and `solve` ended
without a diagnostic and with an empty queue"; what that MEANS (r is the instantiated field type) is
not stated (see DESIGN, Limits). -/
theorem infer_sound {G fuel params ret body σ0 r}
    (h : inferFn G fuel params ret body σ0 = .ok r) (hd : r.diags = []) (hin : r.gen.outside = false) (hW : WF σ0)
    {B} (hB : BinderTable B params r.tree) :
    WtF (AgreeIn r.σ) (fun e f res => Constraint.field e f res ∈ r.gen.cs) B G.funs r.tree ∧
    AgreeIn r.σ r.tree.ty ret := by
  obtain ⟨sd, run⟩ := inferFn_ok h
  have hR := eqs_agree h hd hW
  rw [run.diags, List.append_eq_nil_iff, List.map_eq_nil_iff] at hd
  have hj := genFn_justified run.gen hd.1 hin hB
  refine ⟨fun o ho => ?_, (hj (.rel r.tree.ty ret) (List.mem_append_right _ (by simp))).elim Or.inl (hR _ _)⟩
  have := hj o (List.mem_append_left _ ho)
  cases o with
  | rel a b => exact this.elim Or.inl (hR a b)
  | _ => exact this

/-- for a body without field accesses this is `Wt` outright -/
theorem infer_sound_nofield {G fuel params ret body σ0 r}
    (h : inferFn G fuel params ret body σ0 = .ok r) (hd : r.diags = []) (hin : r.gen.outside = false) (hW : WF σ0)
    {B} (hB : BinderTable B params r.tree) (nf : ∀ e f res, Obl.fld e f res ∉ obls r.tree) :
    Wt (AgreeIn r.σ) B G.funs r.tree ∧ AgreeIn r.σ r.tree.ty ret := by
  obtain ⟨h1, h2⟩ := infer_sound h hd hin hW hB
  refine ⟨?_, h2⟩
  intro o ho
  have := h1 o ho
  cases o with
  | fld e f res => exact (nf e f res ho).elim
  | _ => exact this

/-! ### non-vacuity -/
section Examples

def i32 : Ty := .int 32 true

def exG : GEnv :=
  { funs := [("id", .func [.param "T"] (.param "T")), ("inc", .func [i32] i32),
             ("fst", .func [.tuple [.param "A", .param "B"]] (.param "A"))],
    env := { structs := [], impls := [] } }

/-- `fn g(a: int32) -> int32 { let f = |z| id(z) + 1; f(fst((a, true))) }` : a generic call inside a
closure body, the closure called through a local, a second generic call -/
def exBody : IExpr :=
  .block 0 [
    .letE 1 (.var 10) none
      (.closure 2 [(11, none)] (.bin 3 .add (.call 4 (.name 5 (.defn "id")) [.name 6 (.loc 11)]) (.lit 7 i32))),
    .call 8 (.name 9 (.loc 10)) [.call 12 (.name 13 (.defn "fst")) [.tuple 14 [.name 15 (.loc 0), .lit 16 .bool]]]]

/-- what a run gives: diagnostic classes, number of keys, length of the queue, and the certificate -/
def summary (G : GEnv) (params : List (Nat × Ty)) (ret : Ty) (body : IExpr) : Option (List String × Nat × Nat × Bool) :=
  match inferFn G 40 params ret body Store.empty with
  | .ok r => some (r.diags.map FDiag.name, r.σ.n, r.gen.cs.length,
      justB r.gen.cs (params ++ binders r.tree) G.funs (obls r.tree ++ [.rel r.tree.ty ret]))
  | _ => none

/-- the hypotheses of `infer_sound_partial` are satisfiable on a non-trivial body: no diagnostic, 8 keys
(closure parameter, `T`, the results of the calls, `+`, `A`, `B`), 11 queued constraints, the certificate holds -/
example : summary exG [(0, i32)] i32 exBody = some ([], 8, 11, true) := by decide +kernel

/-- the hypothesis `BinderTable` of `infer_sound` is satisfiable for that body: its binder ids are distinct, so looking
a binder up in `params ++ binders tree` returns its own type (checked with the executable type equality) -/
example : (match inferFn exG 40 [(0, i32)] i32 exBody Store.empty with
    | .ok r => ([(0, i32)] ++ binders r.tree).all fun p =>
        match lookupScope p.1 ([(0, i32)] ++ binders r.tree) with
        | some ty => Match.tyEqB ty p.2
        | none => false
    | _ => false) = true := by decide +kernel

/-- … and its conclusion is not trivial: the same body at result type `bool` is rejected (by `unify`) -/
example : (summary exG [(0, i32)] .bool exBody).map (·.1) = some ["not-equal", "not-equal"] := by decide +kernel

/-- ill-formed names, callees and projections end in their diagnostic class, none in a stuck state -/
example : (summary exG [] .unit (.block 0 [
      .name 1 (.loc 99), .name 2 (.defn "nope"), .name 3 (.builtin "vec_push"), .name 4 (.unres (some "zz")),
      .call 5 (.name 6 (.unres (some "zz"))) [.lit 7 i32], .proj 8 (.tuple 9 [.lit 10 i32]) 5, .proj 11 (.lit 12 i32) 0,
      .call 13 (.name 14 (.defn "nope")) [], .lit 15 .unit])).map (·.1)
    = some ["var-not-found", "fn-not-found", "builtin-as-value", "unresolved-name", "unresolved-callee",
            "tuple-index", "proj-non-tuple", "fn-not-found"] := by decide +kernel

/-- `pop_scope` on the base scope (an empty scope stack) -/
example : (go (.block 0 [.lit 1 .unit]) none exG [] { σ := Store.empty, cs := [], diags := [], recs := [] }).map
    (fun r => r.2.2.diags.map IDiag.name) = some ["pop-base"] := by decide +kernel

/-- ill-typed bodies end in a diagnostic of `solve` / `unify`: wrong argument type, wrong number of
arguments, branches of different types, a condition that is not `bool`, a call of a non-function -/
example : (summary exG [(0, i32)] i32 (.call 1 (.name 2 (.defn "inc")) [.lit 3 .bool])).map (·.1) = some ["not-equal", "not-equal"] := by decide +kernel
example : (summary exG [(0, i32)] i32 (.call 1 (.name 2 (.defn "inc")) [.lit 3 i32, .lit 4 i32])).map (·.1) = some ["func-len"] := by decide +kernel
example : (summary exG [(0, i32)] i32 (.ite 1 (.lit 2 .bool) (.lit 3 i32) (.lit 4 .string))).map (·.1) = some ["not-equal"] := by decide +kernel
example : (summary exG [(0, i32)] .unit (.block 0 [.letE 1 .wild none (.ite 2 (.lit 3 i32) (.lit 4 i32) (.lit 5 i32)), .lit 6 .unit])).map (·.1)
    = some ["not-equal"] := by decide +kernel
example : (summary exG [(0, i32)] i32 (.call 1 (.name 2 (.loc 0)) [.lit 3 i32])).map (·.1) = some ["not-equal"] := by decide +kernel

end Examples

end Goml.Infer
