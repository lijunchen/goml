import GomlVerif.Model.PrattGrammar
import GomlVerif.Lemmas.PrattParse
import GomlVerif.Lemmas.PrattConsumed
import GomlVerif.Lemmas.PrattLower
import GomlVerif.Lemmas.StrLitLemmas
/-!
# C11 — source text is read as written: precedence, associativity, literal fidelity

Theorems about `Model/Pratt.lean` (Pratt loop over the regenerated binding-power table,
`lower_expr_with_args`) and `Model/StrLit.lean` (string literals). The models are tied to the
Rust by `./check C11` (translator for the table, differential run for parser + lowering + literals).
-/
namespace Goml.Props.C11
open Goml.Pratt Goml.Gen.BindingPower Goml.StrLit

/-- The regenerated table realises the documented order. -/
theorem bp_levels :
    -- every infix operator is left-associative: its right power exceeds its left power
    (∀ k l r, infixBp k = some (l, r) → l < r) ∧
    -- a higher documented level binds tighter, equal levels share their powers
    (∀ o o' : BinOp, ∀ l r l' r', infixBp o.tk = some (l, r) → infixBp o'.tk = some (l', r') →
        ((o.level < o'.level ↔ r ≤ l') ∧ (o.level = o'.level → l = l' ∧ r = r'))) ∧
    -- prefix operators bind tighter than every binary operator …
    (∀ u : UnOp, ∀ o : BinOp, ∀ p l r, prefixBp u.tk = some p → infixBp o.tk = some (l, r) → r < p) ∧
    -- … field access binds at least as tightly as a prefix operator (`-a.b` is `-(a.b)`),
    -- calls bind tighter than every binary operator …
    (∀ u : UnOp, ∀ p l r, prefixBp u.tk = some p → infixBp .Dot = some (l, r) → p ≤ l) ∧
    (∀ o : BinOp, ∀ l r c, infixBp o.tk = some (l, r) → postfixBp .LParen = some c → r < c) ∧
    -- … but *looser* than a prefix operator in the table: `-f(x)` is the CST `(-f)(x)`, and it is
    -- lowering (`parse_print` below) that makes calls bind tightest
    (∀ u : UnOp, ∀ p c, prefixBp u.tk = some p → postfixBp .LParen = some c → c < p) := by
  -- a table: the operator fixes the entry, the entry fixes `l`, `r`, `p`, `c`, and the comparison is decided
  refine ⟨?_, ?_, ?_, ?_, ?_, ?_⟩
  · intro k l r h; cases k <;> cases h <;> decide
  · intro o o' l r l' r' h h'
    cases o <;> cases h <;> cases o' <;> cases h' <;> decide
  · intro u o p l r hp h
    cases u <;> cases hp <;> cases o <;> cases h <;> decide
  · intro u p l r hp h
    cases u <;> cases hp <;> cases h <;> decide
  · intro o l r c h hc
    cases hc; cases o <;> cases h <;> decide
  · intro u p c hp hc
    cases hc; cases u <;> cases hp <;> decide

/-- The Pratt loop turns the minimal-parentheses printing of **any** tree into the CST described
by its spine (no side condition): prefix operators take the receiver chain up to the first call,
everything else nests as written. -/
theorem parse_print_cst (t : Ast) : parseCst (printMin t 0) = some (bare t).full :=
  parseCst_printMin t

/-- **parse ∘ print = id**: printing a well-formed operator tree (all 12 binary operators, both
prefix operators, calls with any number of arguments, field access, tuple projection, over
identifiers and integer literals) with only the necessary parentheses and reading it back with the
Pratt loop and `lower_expr_with_args` yields the same tree. `wf` only excludes an integer literal
that is called directly (see `literal_receiver_rejected`); a literal may be the receiver of `.field` /
`.index`, also under a prefix operator and followed by further postfix operations (`-7 . f (x) . 0`). -/
theorem parse_print (t : Ast) (h : wf t = true) : parse (printMin t 0) = some t := by
  unfold parse
  rw [parseCst_printMin]
  exact (lp_all t h).c0

/-- binary operators are left-associative: `a ∘ b ∘ c` printed without parentheses is `(a ∘ b) ∘ c` -/
theorem left_assoc (o : BinOp) (a b c : String) :
    parse [.ident a, .op o.tk, .ident b, .op o.tk, .ident c] =
      some (.bin o (.bin o (.var a) (.var b)) (.var c)) := by
  have := parse_print (.bin o (.bin o (.var a) (.var b)) (.var c)) rfl
  simpa [printMin, parens] using this

/-- … and the right-nested tree needs (and gets) parentheses -/
theorem right_nested_needs_parens (o : BinOp) (a b c : String) :
    printMin (.bin o (.var a) (.bin o (.var b) (.var c))) 0 =
      [.ident a, .op o.tk, .op .LParen, .ident b, .op o.tk, .ident c, .rparen] := by
  simp [printMin, parens]

/-- why `wf` is needed: a call on an integer literal is a lowering diagnostic
("Cannot apply arguments to integer literal") -/
theorem literal_receiver_rejected :
    parse (printMin (.call (.lit ['1']) [.var "x"]) 0) = none := by
  rfl

/-! ### non-vacuity: concrete trees that exercise every re-association -/

/-- `- 7 . f ( x )`: the pending call reaches the `.` node whose receiver is a literal; it is applied
there, not handed to the literal -/
example : parse [.op .Minus, .int ['7'], .op .Dot, .ident "f", .op .LParen, .ident "x", .rparen] =
    some (.un .neg (.call (.field (.lit ['7']) "f") [.var "x"])) :=
  parse_print (.un .neg (.call (.field (.lit ['7']) "f") [.var "x"])) rfl

/-- `(a + f)(c)` keeps its parentheses and is read back as a call of `a + f` -/
example : printMin (.call (.bin .add (.var "a") (.var "f")) [.var "c"]) 0 =
    [.op .LParen, .ident "a", .op .Plus, .ident "f", .rparen, .op .LParen, .ident "c", .rparen] := rfl
example : parse (printMin (.call (.bin .add (.var "a") (.var "f")) [.var "c"]) 0) =
    some (.call (.bin .add (.var "a") (.var "f")) [.var "c"]) := parse_print _ rfl
/-- `!done()`: the empty argument list is not lost -/
example : parse [.op .Bang, .ident "done", .op .LParen, .rparen] = some (.un .not (.call (.var "done") [])) :=
  parse_print (.un .not (.call (.var "done") [])) rfl
/-- `-g(x).h` is `-(g(x).h)`: the CST is `((-g)(x)).h`, lowering re-attaches call and field -/
example : parseCst [.op .Minus, .ident "g", .op .LParen, .ident "x", .rparen, .op .Dot, .ident "h"] =
    some (.binary .Dot (.call (.prefix .Minus (.ident "g")) [.ident "x"]) (.ident "h")) := by rfl
example : parse [.op .Minus, .ident "g", .op .LParen, .ident "x", .rparen, .op .Dot, .ident "h"] =
    some (.un .neg (.field (.call (.var "g") [.var "x"]) "h")) :=
  parse_print (.un .neg (.field (.call (.var "g") [.var "x"]) "h")) rfl
/-- a larger tree: `- a * (b + c) . f (d, !e) < g || h` -/
example : wf (.bin .or (.bin .lt (.bin .mul (.un .neg (.var "a"))
    (.call (.field (.bin .add (.var "b") (.var "c")) "f") [.var "d", .un .not (.var "e")])) (.var "g")) (.var "h")) = true := rfl

/-! ### string literals -/

/-- every string has a spelling the lexer accepts … -/
theorem escape_accepted (s : List Char) : accepts (escape s) = true :=
  acceptsF_escape s _ (Nat.le_refl _)

/-- … and lowering that spelling yields exactly the string: escapes denote the characters written -/
theorem decode_escape (s : List Char) : lowerStr (escape s) = some s :=
  decodeF_escape s _ (Nat.le_refl _)

/-- text without a backslash denotes itself -/
theorem decode_plain (s : List Char) (h : ∀ c, c ∈ s → c ≠ '\\') : lowerStr s = some s :=
  decodeF_noBackslash s _ (Nat.le_refl _) h

/-- the escape table of the lexer, one by one -/
theorem escape_table :
    lowerStr "\\n".toList = some ['\n'] ∧ lowerStr "\\t".toList = some ['\t'] ∧
    lowerStr "\\r".toList = some ['\r'] ∧ lowerStr "\\\"".toList = some ['"'] ∧
    lowerStr "\\\\".toList = some ['\\'] ∧ lowerStr "\\/".toList = some ['/'] ∧
    lowerStr "\\b".toList = some [Char.ofNat 8] ∧ lowerStr "\\f".toList = some [Char.ofNat 12] ∧
    lowerStr "\\u0041".toList = some ['A'] ∧ lowerStr "\\u20AC".toList = some ['€'] ∧
    lowerStr "\\ud83d\\ude00".toList = some [Char.ofNat 0x1F600] ∧
    lowerStr "\\ud83d".toList = none := by
  decide +kernel

example : lowerStr "a\\nb".toList = some ['a', '\n', 'b'] := by decide +kernel
example : accepts "a\\nb \\u00e9 \\\" x".toList = true := by decide +kernel
example : accepts "a\\qb".toList = false := by decide +kernel
example : escape ['a', '\n', '"', Char.ofNat 1] = "a\\n\\\"\\u0001".toList := by decide +kernel

/-! ### `\u` escapes and UTF-16 surrogate pairs (`Gen/StrEscapes.lean` is regenerated from
`unescape_string`: escape table, surrogate ranges and the recombination arithmetic) -/

/-- the regenerated pieces are the JSON ones: the surrogate ranges, every escape letter the lexer
admits has an arm in `unescape_string`, and the arms denote the documented characters -/
theorem escapes_table_spec :
    (Gen.StrEscapes.highLo, Gen.StrEscapes.highHi, Gen.StrEscapes.lowLo, Gen.StrEscapes.lowHi) =
      (0xD800, 0xDC00, 0xDC00, 0xE000) ∧
    Gen.StrEscapes.lexerEscapes.all (fun e => (simpleEscape (Char.ofNat e)).isSome) = true ∧
    Gen.StrEscapes.simpleTable.all (fun p => Gen.StrEscapes.lexerEscapes.contains p.1) = true ∧
    (simpleEscape 'n' = some '\n' ∧ simpleEscape 't' = some '\t' ∧ simpleEscape 'r' = some '\r' ∧
      simpleEscape 'b' = some (Char.ofNat 8) ∧ simpleEscape 'f' = some (Char.ofNat 12) ∧
      simpleEscape '"' = some '"' ∧ simpleEscape '\\' = some '\\' ∧ simpleEscape '/' = some '/') := by
  refine ⟨by decide +kernel, by decide +kernel, by decide +kernel, ?_⟩
  decide +kernel

/-- the recombination arithmetic found in the Rust source is the UTF-16 formula for **all**
1024 × 1024 surrogate pairs and always yields a supplementary-plane scalar value -/
theorem surrogate_combine (hi lo : Nat) (h1 : 0xD800 ≤ hi) (h2 : hi < 0xDC00) (h3 : 0xDC00 ≤ lo) (h4 : lo < 0xE000) :
    Gen.StrEscapes.combine hi lo = 0x10000 + (hi - 0xD800) * 0x400 + (lo - 0xDC00) ∧
      0x10000 ≤ Gen.StrEscapes.combine hi lo ∧ Gen.StrEscapes.combine hi lo ≤ 0x10FFFF :=
  combine_spec hi lo h1 h2 h3 h4

/-- a pair of escapes `\uHHHH\uLLLL` (any spelling of the hexadecimal digits) with `hi` a high and
`lo` a low surrogate denotes exactly the scalar value `0x10000 + (hi-0xD800)*0x400 + (lo-0xDC00)` -/
theorem decode_surrogate_pair (a b c d a' b' c' d' : Char) (hi lo : Nat)
    (hh : hex4 a b c d = some hi) (hl : hex4 a' b' c' d' = some lo)
    (h1 : 0xD800 ≤ hi) (h2 : hi < 0xDC00) (h3 : 0xDC00 ≤ lo) (h4 : lo < 0xE000) :
    lowerStr ['\\', 'u', a, b, c, d, '\\', 'u', a', b', c', d'] =
      some [Char.ofNat (0x10000 + (hi - 0xD800) * 0x400 + (lo - 0xDC00))] := by
  show decodeF 12 _ = _
  rw [decodeF_u, readU_pair a b c d a' b' c' d' [] hi lo hh hl h1 h2 h3 h4]
  rfl

/-- a single escape outside the surrogate range denotes its code point -/
theorem decode_bmp_escape (a b c d : Char) (n : Nat) (h : hex4 a b c d = some n) (hs : n < 0xD800 ∨ 0xDFFF < n) :
    lowerStr ['\\', 'u', a, b, c, d] = some [Char.ofNat n] := by
  have hb : n < 0x10000 := hex4_lt h
  show decodeF 6 _ = _
  rw [decodeF_u, readU_bmp a b c d [] n h hs hb]
  rfl

/-- a high surrogate escape that is not followed by a low surrogate escape, and a low surrogate
escape on its own, denote no character: lowering reports a diagnostic -/
theorem decode_lone_surrogate (a b c d : Char) (n : Nat) (h : hex4 a b c d = some n)
    (hs : 0xD800 ≤ n ∧ n < 0xE000) (tail : List Char) (ht : ∀ r, tail ≠ '\\' :: r) :
    lowerStr ('\\' :: 'u' :: a :: b :: c :: d :: tail) = none := by
  show decodeF (tail.length + 6) _ = _
  rw [decodeF_u]
  by_cases hh : n < 0xDC00
  · rw [readU_lone_high a b c d tail n h hs.1 hh
      (fun a' b' c' d' r lo e _ => absurd e (ht _))]
  · rw [readU_lone_low a b c d tail n h (by omega) hs.2]

/-- round trip with the all-escapes encoder (one `\u` escape in the BMP, a surrogate pair above):
every string has such a spelling, the lexer accepts it, lowering decodes it back -/
theorem decode_escapeAllU (s : List Char) :
    accepts (escapeAllU s) = true ∧ lowerStr (escapeAllU s) = some s :=
  ⟨acceptsF_escapeAllU s _ (Nat.le_refl _), decodeF_escapeAllU s _ (Nat.le_refl _)⟩

example : escapeAllU [Char.ofNat 0x20000, 'é'] = "\\ud840\\udc00\\u00e9".toList := by decide +kernel
example : lowerStr "\\uD840\\uDC00".toList = some [Char.ofNat 0x20000] := by decide +kernel
example : lowerStr "\\uDBFF\\uDFFF".toList = some [Char.ofNat 0x10FFFF] := by decide +kernel
example : lowerStr "\\ud800\\u0041".toList = none := by decide +kernel
example : lowerStr "\\udc00\\ud800".toList = none := by decide +kernel

/-- a multi-line string literal (every line: blanks, the `\\` marker, raw content) denotes its
contents joined by line feeds; nothing inside is an escape -/
theorem multiline_fidelity (ls : List (List Char × List Char)) (hne : ls ≠ [])
    (hok : ∀ p, p ∈ ls → LineOK p) :
    lowerMultiline (spellLines ls) = some (joinLines (ls.map (·.2))) :=
  lowerMultiline_spell ls hne hok

example : LineOK ("    ".toList, "a\\nb \"q\"".toList) := by
  refine ⟨by decide +kernel, by decide +kernel, by decide +kernel⟩
example : lowerMultiline "\\\\first\n      \\\\a\\nb".toList = some "first\na\\nb".toList := by decide +kernel

end Goml.Props.C11

/-! ## the Pratt model against the grammar model (`Model/PrattGrammar.lean`)

`Model/Grammar.lean` holds `expr_bp`, `atom`, `arg_list`, `arg` as data and is tied event for event to `Parser.events`;
`Model/Pratt.lean` is the model the theorems above are about. -/
namespace Goml.PrattGrammar
open Goml.Pratt Goml.Gen.BindingPower

/-- **The two regenerated binding-power tables are the same table**: `Gen/BindingPower.lean` (`extract_binding_power`,
functions on the enum `TK`) and `Gen/Grammar.lean` (`extract_grammar`, association lists on `TokenKind as u16`) agree on
every operator, and neither has an operator the other lacks. -/
theorem binding_power_tables_agree : tablesAgree = true := by decide +kernel

/-! `agrees ts` is `true` by definition when `Pratt.parseCst` rejects `ts`, and `parseCst` accepts only lists that start
with a token an expression can start with and end with an atom or `)` (`Pratt.parseCst_starts`, `Pratt.parseCst_ends`).
So the sweep of `pratt_is_grammar_upto4` evaluates only such lists, enumerated from the last token backwards without
building the list of lists. -/

theorem agrees_of_none {ts : List Tok} (h : parseCst ts = none) : agrees ts = true := by
  simp [agrees, h]

def sweepFrom (alpha : List Tok) (p : List Tok → Bool) : Nat → List Tok → Bool
  | 0, l => p l
  | n + 1, l => p l && alpha.all (fun t => sweepFrom alpha p n (t :: l))

theorem sweepFrom_sound {alpha : List Tok} {p : List Tok → Bool} : ∀ (n : Nat) (l : List Tok),
    sweepFrom alpha p n l = true →
    ∀ pre : List Tok, pre.length ≤ n → (∀ t ∈ pre, t ∈ alpha) → p (pre.reverse ++ l) = true
  | 0, l, h, pre, hn, _ => by
    cases pre with
    | nil => simpa [sweepFrom] using h
    | cons _ _ => simp at hn
  | n + 1, l, h, pre, hn, ha => by
    simp only [sweepFrom, Bool.and_eq_true, List.all_eq_true] at h
    cases pre with
    | nil => simpa using h.1
    | cons t pre =>
      have := sweepFrom_sound n (t :: l) (h.2 t (ha t (List.mem_cons_self ..))) pre (by simpa using hn)
        (fun u hu => ha u (List.mem_cons_of_mem _ hu))
      simpa using this

def sweepEnds (alpha : List Tok) (n : Nat) : Bool :=
  alpha.all (fun t => !(endOK t) || sweepFrom alpha (fun ts => !(starts ts) || agrees ts) n [t])

theorem mem_listsUpTo {alpha : List Tok} : ∀ (n : Nat) (ts : List Tok), ts ∈ listsUpTo alpha n →
    ts.length ≤ n ∧ ∀ t ∈ ts, t ∈ alpha
  | 0, ts, h => by simp [listsUpTo] at h; subst h; simp
  | n + 1, ts, h => by
    simp only [listsUpTo, List.mem_cons, List.mem_flatMap, List.mem_map] at h
    rcases h with rfl | ⟨l, hl, t, ht, rfl⟩
    · simp
    · obtain ⟨h1, h2⟩ := mem_listsUpTo n l hl
      refine ⟨by simp; omega, ?_⟩
      intro u hu
      rcases List.mem_cons.mp hu with rfl | hu
      · exact ht
      · exact h2 u hu

theorem all_agrees_of_sweepEnds {alpha : List Tok} {n : Nat} (h : sweepEnds alpha n = true) :
    (listsUpTo alpha (n + 1)).all agrees = true := by
  rw [List.all_eq_true]
  intro ts hts
  obtain ⟨hlen, hal⟩ := mem_listsUpTo _ _ hts
  cases hp : parseCst ts with
  | none => exact agrees_of_none hp
  | some c =>
    -- an accepted list is `init ++ [t]` with `t` a possible last token: the sweep has visited it from `[t]`
    obtain ⟨init, t, rfl, ht⟩ := parseCst_ends hp
    have hs := parseCst_starts hp
    simp only [sweepEnds, List.all_eq_true] at h
    have h1 := h t (hal t (by simp))
    simp only [ht, Bool.not_true, Bool.false_or] at h1
    have := sweepFrom_sound n [t] h1 init.reverse (by simp at hlen ⊢; omega)
      (fun u hu => hal u (by simp at hu ⊢; exact Or.inl hu))
    simpa [hs] using this

/-- **`pratt_is_grammar`, for every token list of at most 4 tokens** over one token of each class the operator loop
distinguishes (identifier, integer, `)`, `,`, `(`, `-`, `!`, `*`, `==`, `||`, `.`; 16 105 lists): whenever `Pratt.parseCst`
accepts, the grammar model started at `expr` consumes every token, reports no error and emits exactly the item tree of that
`Cst` (`EXPR_IDENT(PATH)`, `EXPR_INT`, `EXPR_PAREN`, `EXPR_PREFIX`, `EXPR_BINARY`/`EXPR_CALL` opened by `precede` on the left
operand, `ARG_LIST`/`ARG`), up to the trailing `,` of a last argument, which a `Cst` does not record.
*Bounded*: the statement for ALL token lists is false without a bound on the nesting (`pratt_is_grammar_needs_fuel_bound`)
and is not proved with one; the same predicate `agrees` is evaluated on every tree of the C11 streams at run time
(`pratt_vs_grammar_model` in the evidence). -/
theorem pratt_is_grammar_upto4 : (listsUpTo alphabet 4).all agrees = true :=
  all_agrees_of_sweepEnds (by decide +kernel)

/-- **The unbounded statement is false**: `( - … - x )` with 260 prefix operators is accepted by `Pratt.parseCst`, but the
grammar model — like the real parser, whose events it reproduces — has spent its 256 looks of fuel while returning through
the nested `expr_bp` frames, answers `eof` to `p.expect(')')` and reports an error. Any general `pratt_is_grammar` needs a
bound on the nesting depth (≈ 250). -/
theorem pratt_is_grammar_needs_fuel_bound :
    (parseCst ([.op .LParen] ++ List.replicate 260 (.op .Minus) ++ [.ident "x", .rparen])).isSome = true ∧
      agrees ([.op .LParen] ++ List.replicate 260 (.op .Minus) ++ [.ident "x", .rparen]) = false := by
  decide +kernel

end Goml.PrattGrammar
