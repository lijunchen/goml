import GomlVerif.Props.C19
import GomlVerif.Gen.Dispatch
import GomlVerif.Model.MethodEnv
/-!
# C17 — all call forms of a method agree

The property theorems over the dispatch part of `Model/Mangle.lean` and over `Model/MethodEnv.lean`, with the
list and `splitOn` lemmas they need.  A trait method
`impl Tr for T { fn m }` becomes ONE Core function, named at the definition site
(`implDefName`).  The three call forms reach it through three different pieces of code, each of
which re-computes that name:

* static  `Tr::m(x, a)`, `x : T` concrete        — `coreCallTarget` (`compile_match::compile_expr`, row `ECall` on an `ETraitMethod`)
* bounded `Tr::m(x, a)`, `x : P`, `P : Tr`, in an instance with `σ P = T` — `monoCallee` (`mono::mono_expr`, row `ETraitCall`)
* dyn     `Tr::m(d, a)`, `d = x as dyn Tr`       — `dynWrapperCallee` (`go::compile::gen_dyn_wrap_fn`),
  computed from the `EToDyn` type *after* mono's phase 2 (`collapseTy`)

`call_forms_agree` proves that all three name the function of the definition site for every
trait, method, substitution and every receiver type without generic applications;
`call_forms_static_bounded_agree` covers the first two for **all** receiver types.  For a
receiver that is an instance of a generic type (`impl Tr for Opt[int32]`) the dyn form is FALSE —
`dyn_generic_instance_mismatch` — which is the known finding of C17 (replayed by the check).
`inherent_generic_lookup`, `dyn_requires_impl`, `no_impl_no_dyn` are the remaining clauses of the property
(`inherent_forms_agree` is `rfl` between two definitions of this file).
-/
namespace Goml.Mangle
open Goml.Gen

theorem substTy_noTParam (σ : List (Name × Ty)) (t : Ty) : hasTParam t = false → substTy σ t = t := by
  apply Ty.rec
    (motive_1 := fun t => hasTParam t = false → substTy σ t = t)
    (motive_2 := fun ts => hasTParams ts = false → substTys σ ts = ts)
  case tvar | prim | tenum | tstruct | tdyn => intro n _; simp [substTy]
  case ttuple | tvec | tref => intro e ih h; simp only [hasTParam] at h; simp [substTy, ih h]
  case tarray => intro len e ih h; simp only [hasTParam] at h; simp [substTy, ih h]
  case tparam => intro n h; simp [hasTParam] at h
  case tapp | tfunc =>
    intro t args iht iha h
    simp only [hasTParam, Bool.or_eq_false_iff] at h
    simp [substTy, iht h.1, iha h.2]
  case nil => intro _; simp [substTys]
  case cons =>
    intro t ts iht ihts h
    simp only [hasTParams, Bool.or_eq_false_iff] at h
    simp [substTys, iht h.1, ihts h.2]

theorem collapseTy_appFree (en st : Name → Bool) (t : Ty) : appFree t = true → collapseTy en st t = t := by
  apply Ty.rec
    (motive_1 := fun t => appFree t = true → collapseTy en st t = t)
    (motive_2 := fun ts => appFrees ts = true → collapseTys en st ts = ts)
  case tvar | prim | tenum | tstruct | tdyn | tparam => intro n _; simp [collapseTy]
  case ttuple | tvec | tref => intro e ih h; simp only [appFree] at h; simp [collapseTy, ih h]
  case tarray => intro len e ih h; simp only [appFree] at h; simp [collapseTy, ih h]
  case tapp => intro t args _ _ h; simp [appFree] at h
  case tfunc =>
    intro ps r ihp ihr h
    simp only [appFree, Bool.and_eq_true] at h
    simp [collapseTy, ihp h.1, ihr h.2]
  case nil => intro _; simp [collapseTys]
  case cons =>
    intro t ts iht ihts h
    simp only [appFrees, Bool.and_eq_true] at h
    simp [collapseTys, iht h.1, ihts h.2]

theorem not_prefix_of_sep {p a b : Name} {c d : Char} (hd : d ∈ p) (hda : d ∉ a) (hc : c ∉ p) :
    p.isPrefixOf (a ++ c :: b) = false := by
  induction a generalizing p with
  | nil =>
    cases p with
    | nil => simp at hd
    | cons x p' =>
      have hx : x ≠ c := fun h => hc (by simp [h])
      simp [List.isPrefixOf, hx]
  | cons y a' ih =>
    cases p with
    | nil => simp at hd
    | cons x p' =>
      simp only [List.cons_append, List.isPrefixOf, Bool.and_eq_false_iff]
      by_cases hx : x = y
      · right
        subst hx
        have hxa : d ≠ x := fun h => hda (by simp [h])
        rcases List.mem_cons.mp hd with h | h
        · exact absurd h hxa
        · exact ih h (fun h' => hda (List.mem_cons_of_mem _ h')) (fun h' => hc (List.mem_cons_of_mem _ h'))
      · left; simpa using hx

theorem splitOn_no_sep {sep : Char} {a : Name} (h : a.all (fun c => c != sep) = true) : splitOn sep a = [a] := by
  induction a with
  | nil => rfl
  | cons c r ih =>
    simp only [List.all_cons, Bool.and_eq_true, bne_iff_ne, ne_eq] at h
    have hc : (c == sep) = false := by simpa using h.1
    simp [splitOn, ih h.2, hc]

theorem splitOn_ne_nil (sep : Char) (b : Name) : splitOn sep b ≠ [] := by
  cases b with
  | nil => simp [splitOn]
  | cons x xs =>
    simp only [splitOn]
    -- the `match` on `splitOn sep xs`, then the `if` on `x == sep`
    split
    · simp
    · split <;> simp

theorem splitOn_append_sep {sep : Char} {a b : Name} (h : a.all (fun c => c != sep) = true) :
    splitOn sep (a ++ sep :: b) = a :: splitOn sep b := by
  induction a with
  | nil =>
    simp only [List.nil_append, splitOn]
    cases hb : splitOn sep b with
    | nil => exact absurd hb (splitOn_ne_nil sep b)
    | cons p ps => simp
  | cons c r ih =>
    simp only [List.all_cons, Bool.and_eq_true, bne_iff_ne, ne_eq] at h
    have hc : (c == sep) = false := by simpa using h.1
    simp only [List.cons_append, splitOn, ih h.2, hc]
    simp

/-! ## trait methods -/

/-- the bounded-generic site names the impl of the receiver type under the instance's substitution, whether or not
the static site had already named it: a type without parameters is its own instance -/
theorem monoCallee_eq (σ : List (Name × Ty)) (tr m : Name) (recvTy : Ty) :
    monoCallee σ tr recvTy m = traitImplFnName tr (substTy σ recvTy) m := by
  unfold monoCallee coreCallTarget
  cases hp : hasTParam recvTy with
  | true => simp
  | false => simp [substTy_noTParam σ recvTy hp]

/-- **static and bounded-generic forms agree, for every receiver type**: if the instance's
substitution turns the receiver's (possibly parametric) type into the concrete `ty`, the callee
mono computes is the function the impl for `ty` was compiled to — which is also what a static call
on a receiver of type `ty` names. -/
theorem call_forms_static_bounded_agree (σ : List (Name × Ty)) (tr m : Name) (recvTy ty : Ty)
    (hσ : substTy σ recvTy = ty) (hty : hasTParam ty = false) :
    monoCallee σ tr recvTy m = implDefName tr ty m ∧ coreCallTarget tr ty m = .direct (implDefName tr ty m) :=
  ⟨by rw [monoCallee_eq, hσ]; rfl, by simp [coreCallTarget, hty, implDefName]⟩

/-- the bound `T: Tr` with `σ T = ty` — the special case in the property text -/
theorem call_forms_bound_param (σ : List (Name × Ty)) (tr m T : Name) (ty : Ty)
    (hσ : lookupSubst σ T = some ty) (hty : hasTParam ty = false) :
    monoCallee σ tr (.tparam T) m = implDefName tr ty m :=
  (call_forms_static_bounded_agree σ tr m (.tparam T) ty (by simp [substTy, hσ]) hty).1

def colonFree (n : Name) : Bool := n.all (fun c => c != ':')

/-- the Go function an impl method is emitted as is `go_ident` of its Core name (it is never the
entry point), for method names without `:` — every identifier of the lexer -/
theorem implFn_goName (tr m : Name) (ty : Ty) (hm : colonFree m = true) :
    compileFnName (implDefName tr ty m) = goIdent (implDefName tr ty m) := by
  unfold compileFnName
  have h1 : (implDefName tr ty m == entrySrc) = false := by
    unfold implDefName traitImplFnName
    have : entrySrc = ['m', 'a', 'i', 'n'] := by decide +kernel
    rw [this]
    simp
  have h2 : endsWith (implDefName tr ty m) ([':', ':'] ++ entrySrc) = false := by
    unfold endsWith implDefName traitImplFnName
    have : ([':', ':'] ++ entrySrc).reverse = ['n', 'i', 'a', 'm', ':', ':'] := by decide +kernel
    rw [this]
    simp only [List.reverse_append, List.reverse_cons, List.nil_append, List.append_assoc,
      List.cons_append]
    apply not_prefix_of_sep (d := ':') (by simp)
    · simp only [colonFree, List.all_eq_true, bne_iff_ne, ne_eq] at hm
      intro h
      exact hm ':' (by simpa using h) rfl
    · decide
  have h2' : endsWith (implDefName tr ty m) (':' :: ':' :: entrySrc) = false := h2
  simp [h1, h2']

/-- **all call forms of a trait method agree** — for every trait `tr`, method `m`, substitution `σ`
and receiver type `ty` free of generic applications (`appFree`: primitives, structs, enums, tuples,
arrays, `Vec`, `Ref`, function types; `hasTParam ty = false` says it is concrete):

1. the static form names the function of the definition site,
2. so does the bounded-generic form in any instance whose substitution maps the receiver's type to `ty`,
3. the dyn wrapper calls exactly the Go function that definition is emitted as. -/
theorem call_forms_agree (σ : List (Name × Ty)) (en st : Name → Bool) (tr m : Name) (recvTy ty : Ty)
    (hσ : substTy σ recvTy = ty) (hty : hasTParam ty = false) (happ : appFree ty = true) (hm : colonFree m = true) :
    coreCallTarget tr ty m = .direct (implDefName tr ty m) ∧
    monoCallee σ tr recvTy m = implDefName tr ty m ∧
    dynWrapperCallee en st tr ty m = compileFnName (implDefName tr ty m) := by
  obtain ⟨h1, h2⟩ := call_forms_static_bounded_agree σ tr m recvTy ty hσ hty
  refine ⟨h2, h1, ?_⟩
  rw [implFn_goName tr m ty hm]
  simp [dynWrapperCallee, implDefName, collapseTy_appFree en st ty happ]

/-- non-vacuity: a bound `T: Show` instantiated at a struct, and at a tuple of a primitive and a `Ref` -/
example : substTy [(['T'], .tstruct ['P'])] (.tparam ['T']) = .tstruct ['P'] ∧ hasTParam (.tstruct ['P']) = false ∧
    appFree (.ttuple [.prim .int32, .tref (.tstruct ['P'])]) = true ∧ colonFree "show".toList = true :=
  ⟨rfl, by decide, by decide, by decide⟩

/-- KNOWN FINDING (negative witness): for a receiver that is an instance of a generic type the dyn
wrapper names a function that does not exist — `impl Show for Opt[int32]` is compiled to
`trait_impl#Show#Opt[int32]#show`, the wrapper calls `trait_impl#Show#Opt__int32#show` -/
theorem dyn_generic_instance_mismatch :
    let en : Name → Bool := fun n => n == "Opt".toList
    let ty : Ty := .tapp (.tenum "Opt".toList) [.prim .int32]
    dynWrapperCallee en (fun _ => false) "Show".toList ty "show".toList ≠
      compileFnName (implDefName "Show".toList ty "show".toList) ∧
    monoCallee [] "Show".toList ty "show".toList = implDefName "Show".toList ty "show".toList := by decide +kernel

/-! ## inherent methods -/

/-- `x.m(a)` and `T::m(x, a)` are one typed node (`EInherentMethod { receiver_ty, method_name }`);
`compile_match::compile_expr` (row `ECall`) names the callee from these two fields only -/
def inherentCallee (recvTy : Ty) (m : Name) : Name := inherentMethodFnName recvTy m
/-- definition site `compile_match::compile_file` (row `Item::ImplBlock`) for `impl T { fn m }` -/
def inherentDefName (forTy : Ty) (m : Name) : Name := inherentMethodFnName forTy m

/-- `rfl`: both sides are `inherentMethodFnName ty m` by the definitions above; that call site and definition
site are handed the same type is not stated -/
theorem inherent_forms_agree (ty : Ty) (m : Name) : inherentCallee ty m = inherentDefName ty m := rfl

/-- for a generic inherent impl mono finds the callee through `(base, method)` parsed back from the
call-site name: the parse recovers exactly the base and the method (names without `#`), so the
instance `Opt[int32]` and the definition for `Opt[T]` meet in the index -/
theorem inherent_generic_lookup (recv : Ty) (m : Name) (hp : isPrimitive recv = false)
    (hb : hashFree (inherentBase recv) = true) (ht : hashFree (tyCompact recv) = true) (hm : hashFree m = true) :
    parseInherent (inherentMethodFnName recv m) = some (inherentBase recv, m) := by
  unfold parseInherent inherentMethodFnName
  rw [if_neg (by simp [hp])]
  have e : (['i', 'n', 'h', 'e', 'r', 'e', 'n', 't', '#'] ++ inherentBase recv ++ ['#'] ++ tyCompact recv ++ ['#'] ++ m) =
      ['i', 'n', 'h', 'e', 'r', 'e', 'n', 't'] ++ '#' :: (inherentBase recv ++ '#' :: (tyCompact recv ++ '#' :: m)) := by simp
  have h0 : ['i', 'n', 'h', 'e', 'r', 'e', 'n', 't'].all (fun c => c != '#') = true := by decide +kernel
  rw [e, splitOn_append_sep h0, splitOn_append_sep hb, splitOn_append_sep ht, splitOn_no_sep hm]
  simp

example : parseInherent (inherentMethodFnName (.tapp (.tenum "Opt".toList) [.prim .int32]) "has".toList) = some ("Opt".toList, "has".toList) ∧
    parseInherent (inherentMethodFnName (.tapp (.tenum "Opt".toList) [.tparam ['T']]) "has".toList) = some ("Opt".toList, "has".toList) := by decide +kernel

/-! ## coercion to `dyn` -/

/-- **a value is coerced to `dyn Tr` only if an implementation for its type is visible** (and the
trait resolves, and the type is concrete) -/
theorem dyn_requires_impl (resolve : Name → Option Name) (concrete : Ty → Bool) (visible : Name → Ty → Bool)
    (exprTy expected : Ty) (r : Name) (forTy : Ty)
    (h : coerceToExpectedDyn resolve concrete visible exprTy expected = .toDyn r forTy) :
    visible r forTy = true ∧ concrete forTy = true ∧ forTy = exprTy ∧ ∃ tr, expected = .tdyn tr ∧ resolve tr = some r := by
  unfold coerceToExpectedDyn at h
  split at h
  · rename_i tr
    split at h
    · exact Coerce.noConfusion h
    · split at h
      · exact Coerce.noConfusion h
      · rename_i r' hr
        by_cases hc : concrete exprTy = true
        · by_cases hv : visible r' exprTy = true
          · simp only [hc, hv, Bool.not_true, Bool.false_eq_true, if_false, Coerce.toDyn.injEq] at h
            obtain ⟨e1, e2⟩ := h
            subst e1; subst e2
            exact ⟨hv, hc, rfl, tr, rfl, hr⟩
          · have hv' : visible r' exprTy = false := by simpa using hv
            simp [hc, hv'] at h
        · have hc' : concrete exprTy = false := by simpa using hc
          simp [hc'] at h
  · exact Coerce.noConfusion h

/-- contrapositive, as the check tests it: without a visible impl the result is never a coercion -/
theorem no_impl_no_dyn (resolve : Name → Option Name) (concrete : Ty → Bool) (visible : Name → Ty → Bool)
    (exprTy : Ty) (tr : Name) (hv : ∀ r, visible r exprTy = false) :
    ∀ r t, coerceToExpectedDyn resolve concrete visible exprTy (.tdyn tr) ≠ .toDyn r t := by
  intro r t h
  obtain ⟨hvis, -, rfl, -⟩ := dyn_requires_impl resolve concrete visible exprTy (.tdyn tr) r t h
  rw [hv r] at hvis
  exact Bool.noConfusion hvis

/-- non-vacuity of `dyn_requires_impl`: a struct with an impl is coerced -/
example :
    coerceToExpectedDyn (fun n => some n) isConcreteDynTarget (fun _ t => match t with | .tstruct n => n == ['P'] | _ => false)
      (.tstruct ['P']) (.tdyn ['A']) = .toDyn ['A'] (.tstruct ['P']) := by rfl

/-- an implementation in a dependency counts, one nowhere does not -/
theorem hasVisible_iff {K} (hasKey : K → Bool) (cur : K) (deps : List K) :
    hasVisibleTraitImpl hasKey cur deps = true ↔ hasKey cur = true ∨ ∃ d ∈ deps, hasKey d = true := by
  simp [hasVisibleTraitImpl]

/-! ## UFCS calls on trait objects, calls in statement position -/

/-- the dynamic path is taken only for a trait object of the trait the call names -/
theorem dyn_call_only_for_own_trait (tr m tr' m' : Name) (recvTy : Ty)
    (h : staticMemberCallPath tr recvTy m = .dynCall tr' m') : recvTy = .tdyn tr ∧ tr' = tr ∧ m' = m := by
  unfold staticMemberCallPath at h
  split at h
  · rename_i a
    by_cases ha : (a == tr) = true
    · simp only [ha, if_true, MemberCallPath.dynCall.injEq] at h
      have : a = tr := by simpa using ha
      exact ⟨by rw [this], h.1.symm, h.2.symm⟩
    · simp [ha] at h
  · exact MemberCallPath.noConfusion h

/-- `B::m(d)` on `d : dyn A`, `A ≠ B`, is an ordinary static call: it needs `impl B for dyn A`, and by
`call_forms_static_bounded_agree` it names the same function as the `T: B` forms instantiated at `dyn A` -/
theorem other_trait_on_dyn_is_static (a tr m : Name) (h : a ≠ tr) (σ : List (Name × Ty)) (recvTy : Ty)
    (hσ : substTy σ recvTy = .tdyn a) :
    staticMemberCallPath tr (.tdyn a) m = .overloaded tr (.tdyn a) m ∧
    coreCallTarget tr (.tdyn a) m = .direct (implDefName tr (.tdyn a) m) ∧
    monoCallee σ tr recvTy m = implDefName tr (.tdyn a) m := by
  have hb : (a == tr) = false := by simpa using h
  obtain ⟨h1, h2⟩ := call_forms_static_bounded_agree σ tr m recvTy (.tdyn a) hσ rfl
  exact ⟨by simp [staticMemberCallPath, hb], h2, h1⟩

example : staticMemberCallPath "Quiet".toList (.tdyn "Loud".toList) "name".toList =
    .overloaded "Quiet".toList (.tdyn "Loud".toList) "name".toList := by rfl

/-- a method call compiled for its effect always emits a statement, whatever the call form -/
theorem call_forms_emit_statement : effectEmitsStatement .call = true ∧ effectEmitsStatement .dynCall = true := ⟨rfl, rfl⟩

/-! ## overlapping inherent impls: `x.m()` and `Base::m(x)` -/

/-- **both inherent call forms pick the same impl block** whenever an impl of a single instantiation
of `Base` defines the method (the only situation in which the two lookups can differ): for every
impl table, receiver type of constructor `Base` and method the dot form finds. -/
theorem inherent_overlap_forms_agree (E : InhEnv) (base m : Name) (t : Ty) (f : InhFound)
    (hb : constrName t = some base) (hov : instantiationImplDefines E base m = true)
    (hdot : dotFormLookup E t m = some f) : pathFormLookup E base (some t) m = some f := by
  unfold dotFormLookup at hdot
  simp [pathFormLookup, hov, hb, hdot]

/-- without such an impl the path form is the lookup under the bare constructor -/
theorem path_form_without_overlap (E : InhEnv) (base m : Name) (a : Option Ty)
    (hov : instantiationImplDefines E base m = false) :
    pathFormLookup E base a m = lookupInherentMethod E (.tstruct base) m := by
  simp [pathFormLookup, hov]

/-- the exact impl wins over the generic one (dot form, hence also path form) -/
theorem exact_instantiation_wins (E : InhEnv) (t : Ty) (m : Name)
    (h : E.exact.any (fun r => tyCompact r.1 == tyCompact t && r.2.contains m) = true) :
    dotFormLookup E t m = some (.exact (tyCompact t)) := by
  simp only [dotFormLookup, lookupInherentMethod]
  rw [if_pos h]

/-- non-vacuity: `impl[T] Cell[T] { describe }` + `impl Cell[int32] { describe }`, receiver `Cell[int32]` —
dot and path form find the instantiation's impl, the lookup under the bare constructor the generic one -/
example :
    let cellInt : Ty := .tapp (.tstruct "Cell".toList) [.prim .int32]
    let E : InhEnv := { exact := [(cellInt, ["describe".toList, "only".toList])], constr := [("Cell".toList, ["describe".toList])] }
    dotFormLookup E cellInt "describe".toList = some (.exact "Cell[int32]".toList) ∧
    pathFormLookup E "Cell".toList (some cellInt) "describe".toList = some (.exact "Cell[int32]".toList) ∧
    lookupInherentMethod E (.tstruct "Cell".toList) "describe".toList = some (.constr "Cell".toList) ∧
    pathFormLookup E "Cell".toList (some cellInt) "only".toList = some (.exact "Cell[int32]".toList) ∧
    pathFormLookup E "Cell".toList (some (.tapp (.tstruct "Cell".toList) [.prim .bool])) "describe".toList = some (.constr "Cell".toList) := by
  decide +kernel

/-- the constructor name of a type is its RESOLVED name: inside package `Lib` the path written `Cell`
denotes `Lib::Cell`.  `pathFormLookup` must be given the resolved name — with the written one the
receiver is not recognised and the lookup falls back to the bare constructor (here: nothing at all) -/
example :
    let cellInt : Ty := .tapp (.tstruct "Lib::Cell".toList) [.prim .int32]
    let E : InhEnv := { exact := [(cellInt, ["describe".toList])], constr := [("Lib::Cell".toList, ["describe".toList])] }
    pathFormLookup E "Lib::Cell".toList (some cellInt) "describe".toList = dotFormLookup E cellInt "describe".toList ∧
    pathFormLookup E "Cell".toList (some cellInt) "describe".toList ≠ dotFormLookup E cellInt "describe".toList := by
  decide +kernel

/-! ## the two inherent call forms across package boundaries (`Model/MethodEnv.lean`)

In a multi-package program every site chooses WHICH package's impl table it asks.  The dot form asks
the table of the package that defines the receiver's type (`env_for_receiver_ty`); the path form
resolves the written path (`resolve_type_name`) and must put both the guard and the lookups to the
table that comes with the resolved name — not to the table of the package being checked. -/

theorem pathFormLookupGuard_self (E : InhEnv) (base : Name) (a : Option Ty) (m : Name) :
    pathFormLookupGuard E E base a m = pathFormLookup E base a m := rfl

/-- the hypothesis rewritten into a reflexivity; which names resolution leaves unchanged is not proved here -/
theorem resolve_env_idem_of_fixed (G : PkgInhEnvs) (w : Name) (h : (resolveTypeName G w).1 = w) :
    (resolveTypeName G (resolveTypeName G w).1).2 = (resolveTypeName G w).2 := by rw [h]

/-- `env_for_receiver_ty` of a nominal receiver is the environment its constructor name resolves to -/
theorem envForReceiverTy_nominal (G : PkgInhEnvs) (b : Name) (args : List Ty) :
    envForReceiverTy G (.tstruct b) = (resolveTypeName G b).2 ∧
    envForReceiverTy G (.tenum b) = (resolveTypeName G b).2 ∧
    envForReceiverTy G (.tapp (.tstruct b) args) = (resolveTypeName G b).2 ∧
    envForReceiverTy G (.tapp (.tenum b) args) = (resolveTypeName G b).2 := by
  simp [envForReceiverTy]

/-- **both inherent call forms agree across package boundaries**: for every package environment,
written type path, method and receiver whose type the dot form looks up in the environment the
written path resolves to (`henv`; for a receiver `Base[..]` / `Base` of the named type:
`envForReceiverTy_nominal`, then `resolve_env_idem_unqualified_in_library` for a name written unqualified in a
library), whenever an impl of a single instantiation defines the method, the path form finds what the dot form finds. -/
theorem inherent_forms_agree_across_packages (G : PkgInhEnvs) (written m : Name) (t : Ty) (f : InhFound)
    (hb : constrName t = some (resolveTypeName G written).1)
    (henv : envForReceiverTy G t = (resolveTypeName G written).2)
    (hov : instantiationImplDefines (resolveTypeName G written).2 (resolveTypeName G written).1 m = true)
    (hdot : dotFormLookupPkg G t m = some f) :
    pathFormLookupPkg G written (some t) m = some f := by
  unfold dotFormLookupPkg at hdot
  rw [henv] at hdot
  show pathFormLookupGuard (resolveTypeName G written).2 (resolveTypeName G written).2 (resolveTypeName G written).1 (some t) m = some f
  rw [pathFormLookupGuard_self]
  exact inherent_overlap_forms_agree _ _ _ _ _ hb hov hdot

/-- the guard decides: put to a table that does not hold the impls of the type (the table of the
package being CHECKED, for a type of another package) it is false, and the path form degrades to the
lookup under the bare constructor — the generic impl, or nothing — whatever the defining package holds -/
theorem path_form_guard_on_other_table (Eg E : InhEnv) (base m : Name) (a : Option Ty)
    (h : instantiationImplDefines Eg base m = false) :
    pathFormLookupGuard Eg E base a m = lookupInherentMethod E (.tstruct base) m := by
  simp [pathFormLookupGuard, h]

/-- non-vacuity: package `Main` calls methods of `Lib::Cell` (both impls live in `Lib`).  Dot and path form agree on the
instantiation's impl; with the guard read off `Main`'s own (empty) table the path form runs the generic impl and does
not find a method that only the instantiation's impl defines. -/
example :
    let cellInt : Ty := .tapp (.tstruct "Lib::Cell".toList) [.prim .int32]
    let E : InhEnv := { exact := [(cellInt, ["describe".toList, "only".toList])], constr := [("Lib::Cell".toList, ["describe".toList])] }
    let G : PkgInhEnvs := { package := "Main".toList, current := { exact := [], constr := [] }, deps := [("Lib".toList, E)] }
    dotFormLookupPkg G cellInt "describe".toList = some (.exact "Lib::Cell[int32]".toList) ∧
    pathFormLookupPkg G "Lib::Cell".toList (some cellInt) "describe".toList = some (.exact "Lib::Cell[int32]".toList) ∧
    pathFormLookupPkg G "Lib::Cell".toList (some cellInt) "only".toList = dotFormLookupPkg G cellInt "only".toList ∧
    dotFormLookupPkg G cellInt "only".toList = some (.exact "Lib::Cell[int32]".toList) ∧
    pathFormLookupGuard G.current E "Lib::Cell".toList (some cellInt) "describe".toList = some (.constr "Lib::Cell".toList) ∧
    pathFormLookupGuard G.current E "Lib::Cell".toList (some cellInt) "only".toList = none := by
  decide +kernel

/-- the same from inside a library: package `Lib` (which also has a `Cell` of its own, with other
impls) calls methods of `Base::Cell`; the unqualified `Cell` is `Lib::Cell` and goes to `Lib`'s table -/
example :
    let baseCell : Ty := .tapp (.tstruct "Base::Cell".toList) [.prim .int32]
    let libCell : Ty := .tapp (.tstruct "Lib::Cell".toList) [.prim .int32]
    let EB : InhEnv := { exact := [(baseCell, ["describe".toList])], constr := [("Base::Cell".toList, ["describe".toList])] }
    let EL : InhEnv := { exact := [], constr := [("Lib::Cell".toList, ["describe".toList])] }
    let G : PkgInhEnvs := { package := "Lib".toList, current := EL, deps := [("Base".toList, EB)] }
    pathFormLookupPkg G "Base::Cell".toList (some baseCell) "describe".toList = some (.exact "Base::Cell[int32]".toList) ∧
    dotFormLookupPkg G baseCell "describe".toList = some (.exact "Base::Cell[int32]".toList) ∧
    (resolveTypeName G "Cell".toList).1 = "Lib::Cell".toList ∧
    pathFormLookupPkg G "Cell".toList (some libCell) "describe".toList = some (.constr "Lib::Cell".toList) ∧
    dotFormLookupPkg G libCell "describe".toList = some (.constr "Lib::Cell".toList) := by
  decide +kernel

/-- `split_once("::")` of `p::w` for a package name without a colon is `(p, w)` -/
theorem splitOnceColons_append (p w : Name) (hp : colonFree p = true) :
    splitOnceColons (p ++ ':' :: ':' :: w) = some (p, w) := by
  induction p with
  | nil => simp [splitOnceColons]
  | cons c p ih =>
    simp only [colonFree, List.all_cons, Bool.and_eq_true, bne_iff_ne, ne_eq] at hp
    obtain ⟨hc, hp'⟩ := hp
    have ih' := ih (by simpa [colonFree] using hp')
    rw [List.cons_append, splitOnceColons]
    · simp [ih']
    · intro tail h1; exact absurd h1 hc

/-- inside a library package `P` an unqualified name `w` resolves to `P::w` in `P`'s own environment,
and so does `P::w` itself (the name a receiver's type carries) -/
theorem resolve_unqualified_in_library (G : PkgInhEnvs) (w : Name) (hp : colonFree G.package = true)
    (hm : G.package ≠ pkgMain) (hb : G.package ≠ pkgBuiltin) (hs : w ≠ ['S', 'e', 'l', 'f'])
    (hw : splitOnceColons w = none) :
    resolveTypeName G w = (G.package ++ [':', ':'] ++ w, G.current) ∧
    resolveTypeName G (G.package ++ [':', ':'] ++ w) = (G.package ++ [':', ':'] ++ w, G.current) := by
  constructor
  · simp [resolveTypeName, hs, hw, hm, hb]
  · have hne : G.package ++ ':' :: ':' :: w ≠ ['S', 'e', 'l', 'f'] := fun h => by
      have : ':' ∈ G.package ++ ':' :: ':' :: w := by simp
      rw [h] at this
      simp at this
    simp [resolveTypeName, hne, splitOnceColons_append G.package w hp, hm, hb]

/-- hence the hypothesis `henv` of `inherent_forms_agree_across_packages` also holds for a type written
unqualified inside a library package -/
theorem resolve_env_idem_unqualified_in_library (G : PkgInhEnvs) (w : Name) (hp : colonFree G.package = true)
    (hm : G.package ≠ pkgMain) (hb : G.package ≠ pkgBuiltin) (hs : w ≠ ['S', 'e', 'l', 'f'])
    (hw : splitOnceColons w = none) :
    (resolveTypeName G (resolveTypeName G w).1).2 = (resolveTypeName G w).2 := by
  obtain ⟨h1, h2⟩ := resolve_unqualified_in_library G w hp hm hb hs hw
  rw [h1]
  show (resolveTypeName G (G.package ++ [':', ':'] ++ w)).2 = G.current
  rw [h2]

end Goml.Mangle
