import GomlVerif.Model.Unify
import GomlVerif.Gen.UnifyShape
/-!
Theorems about the model of the typer's unifier (`Model/Unify.lean`; Rust: `typer/unify.rs`).
They count under C03 (soundness of the equations the typer solves) and C04 (`norm` cannot loop).
-/
namespace Goml.Unify
open Goml

/-! ### the shape of `unify.rs` (`Gen/UnifyShape`, regenerated on every run) -/

/-- the arms of the Rust `match`, in order, are the ones the model mirrors -/
theorem arms_match_source : Gen.unifyArms = armOrder := rfl

/-- one diagnostic class per message of `occurs` / `unify`, in source order -/
theorem diag_messages_match_source : Gen.unifyMessages = Diag.all.map Diag.message := rfl

theorem exists_least {p : Nat → Prop} (h : ∃ n, p n) : ∃ n, p n ∧ ∀ m, m < n → ¬ p m := by
  obtain ⟨n, hn⟩ := h
  induction n using Nat.strongRecOn with
  | _ n ih =>
    by_cases hex : ∃ m, m < n ∧ p m
    · obtain ⟨m, hm, hpm⟩ := hex
      exact ih m hm hpm
    · exact ⟨n, hn, fun m hm hpm => hex ⟨m, hm, hpm⟩⟩

theorem mapO_cons_some {α β} {g : α → Option β} {x xs zs} :
    mapO g (x :: xs) = some zs ↔ ∃ y ys, g x = some y ∧ mapO g xs = some ys ∧ zs = y :: ys := by
  simp only [mapO]
  cases hx : g x with
  | none => simp
  | some y =>
    cases hxs : mapO g xs with
    | none => simp
    | some ys => simp [eq_comm]

theorem mapO_nil_some {α β} {g : α → Option β} {zs} : mapO g [] = some zs ↔ zs = [] := by
  simp [mapO, eq_comm]

theorem mapO_length {α β} {g : α → Option β} : ∀ {xs ys}, mapO g xs = some ys → ys.length = xs.length
  | [], ys, h => by simp [mapO_nil_some.1 h]
  | x :: xs, zs, h => by
    obtain ⟨y, ys, _, h2, rfl⟩ := mapO_cons_some.1 h
    simp [mapO_length h2]

theorem mapO_congr {α β} {g h : α → Option β} :
    ∀ {xs ys}, (∀ x y, x ∈ xs → g x = some y → h x = some y) → mapO g xs = some ys → mapO h xs = some ys
  | [], ys, _, e => by simpa [mapO] using e
  | x :: xs, zs, H, e => by
    obtain ⟨y, ys, h1, h2, rfl⟩ := mapO_cons_some.1 e
    exact mapO_cons_some.2 ⟨y, ys, H x y (by simp) h1,
      mapO_congr (fun a b ha => H a b (by simp [ha])) h2, rfl⟩

theorem mapO_rel2 {α} {g h : α → Option α} (H : ∀ x y, g x = some y → ∃ z, h x = some z ∧ h y = some z) :
    ∀ {xs ys}, mapO g xs = some ys → ∃ zs, mapO h xs = some zs ∧ mapO h ys = some zs
  | [], ys, e => by cases mapO_nil_some.1 e; exact ⟨[], rfl, rfl⟩
  | x :: xs, zs, e => by
    obtain ⟨y, ys, h1, h2, rfl⟩ := mapO_cons_some.1 e
    obtain ⟨z, hz1, hz2⟩ := H x y h1
    obtain ⟨zs, hzs1, hzs2⟩ := mapO_rel2 H h2
    exact ⟨z :: zs, mapO_cons_some.2 ⟨z, zs, hz1, hzs1, rfl⟩, mapO_cons_some.2 ⟨z, zs, hz2, hzs2, rfl⟩⟩

theorem mapO_fix {α} {g : α → Option α} (H : ∀ x y, g x = some y → g y = some y) :
    ∀ {xs ys}, mapO g xs = some ys → mapO g ys = some ys
  | [], ys, e => by cases mapO_nil_some.1 e; rfl
  | x :: xs, zs, e => by
    obtain ⟨y, ys, h1, h2, rfl⟩ := mapO_cons_some.1 e
    exact mapO_cons_some.2 ⟨y, ys, H x y h1, mapO_fix H h2, rfl⟩

theorem mapO_mem {α β} {g : α → Option β} :
    ∀ {xs ys y}, mapO g xs = some ys → y ∈ ys → ∃ x, x ∈ xs ∧ g x = some y
  | [], ys, y, e, hy => by cases mapO_nil_some.1 e; cases hy
  | x :: xs, zs, y, e, hy => by
    obtain ⟨y', ys, h1, h2, rfl⟩ := mapO_cons_some.1 e
    rcases List.mem_cons.1 hy with rfl | hy
    · exact ⟨x, by simp, h1⟩
    · obtain ⟨a, ha, hga⟩ := mapO_mem h2 hy
      exact ⟨a, by simp [ha], hga⟩

theorem mapO_some_mem {α β} {g : α → Option β} :
    ∀ {xs ys x}, mapO g xs = some ys → x ∈ xs → ∃ y, g x = some y
  | a :: xs, zs, x, e, hx => by
    obtain ⟨y, ys, h1, h2, _⟩ := mapO_cons_some.1 e
    rcases List.mem_cons.1 hx with rfl | hx
    · exact ⟨y, h1⟩
    · exact mapO_some_mem h2 hx

theorem mapO_fix_mem {α} {g : α → Option α} :
    ∀ {xs x}, mapO g xs = some xs → x ∈ xs → g x = some x
  | [], x, _, hx => by cases hx
  | a :: xs, x, e, hx => by
    obtain ⟨y, ys, h1, h2, h3⟩ := mapO_cons_some.1 e
    cases h3
    rcases List.mem_cons.1 hx with rfl | hx
    · exact h1
    · exact mapO_fix_mem h2 hx

@[simp] theorem normF_zero (σ t) : normF 0 σ t = none := by simp [normF]
theorem normF_tvar (f σ v) : normF (f+1) σ (.tvar v) =
    match σ.val (σ.rep v) with | some u => normF f σ u | none => some (.tvar (σ.rep v)) := by
  cases h : σ.val (σ.rep v) <;> simp [normF, h]
theorem normF_tuple (f σ ts) : normF (f+1) σ (.tuple ts) = (mapO (normF f σ) ts).map Ty.tuple := by simp [normF]
theorem normF_app (f σ t args) : normF (f+1) σ (.app t args) =
    match normF f σ t with | none => none | some t' => (mapO (normF f σ) args).map (Ty.app t') := by
  cases h : normF f σ t <;> simp [normF, h]
theorem normF_array (f σ n e) : normF (f+1) σ (.array n e) = (normF f σ e).map (Ty.array n) := by simp [normF]
theorem normF_vec (f σ e) : normF (f+1) σ (.vec e) = (normF f σ e).map Ty.vec := by simp [normF]
theorem normF_ref (f σ e) : normF (f+1) σ (.ref e) = (normF f σ e).map Ty.ref := by simp [normF]
theorem normF_func (f σ ps r) : normF (f+1) σ (.func ps r) =
    match mapO (normF f σ) ps with | none => none | some ps' => (normF f σ r).map (Ty.func ps') := by
  cases h : mapO (normF f σ) ps <;> simp [normF, h]

/-- the types `norm` copies -/
def isLeaf : Ty → Bool
  | .tvar _ | .tuple _ | .app _ _ | .array _ _ | .vec _ | .ref _ | .func _ _ => false
  | _ => true

theorem normF_leaf {t} (h : isLeaf t = true) (f σ) : normF (f+1) σ t = some t := by
  cases t <;> first | rfl | cases h

/-! ### a type as a node over its immediate subterms

Away from variables `norm` maps itself over the children and puts the same constructor back (a leaf
is a node without children), so an induction over `normF` has three cases: a bound variable, an
unbound one, and a node seen through `kids` / `rebuild`. -/

def isVar : Ty → Bool
  | .tvar _ => true
  | _ => false

def kids : Ty → List Ty
  | .tuple ts => ts
  | .app t args => t :: args
  | .array _ e | .vec e | .ref e => [e]
  | .func ps r => r :: ps
  | _ => []

/-- the node `t` with `ks` in place of its children -/
def rebuild : Ty → List Ty → Ty
  | .tuple _, ks => .tuple ks
  | .app _ _, k :: ks => .app k ks
  | .array n _, [k] => .array n k
  | .vec _, [k] => .vec k
  | .ref _, [k] => .ref k
  | .func _ _, k :: ks => .func ks k
  | t, _ => t

theorem rebuild_kids (t) : rebuild t (kids t) = t := by
  cases t <;> rfl

/-- `rebuild t ks` is a node of the kind of `t` with the children `ks` -/
structure Rebuilt (t : Ty) (ks : List Ty) : Prop where
  isVar : isVar (rebuild t ks) = false
  kids : kids (rebuild t ks) = ks
  again : ∀ ks', ks'.length = ks.length → rebuild (rebuild t ks) ks' = rebuild t ks'

theorem rebuild_node {t ks} (hn : isVar t = false) (hl : ks.length = (kids t).length) : Rebuilt t ks := by
  cases t with
  | tvar v => cases hn
  | tuple ts => exact ⟨rfl, rfl, fun _ _ => rfl⟩
  | app _ _ | func _ _ =>
    match ks, hl with
    | k :: ks, _ => exact ⟨rfl, rfl, fun ks' hl' => by match ks', hl' with | _ :: _, _ => rfl⟩
  | array _ _ | vec _ | ref _ =>
    match ks, hl with
    | [k], _ => exact ⟨rfl, rfl, fun ks' hl' => by match ks', hl' with | [_], _ => rfl⟩
  | _ =>
    match ks, hl with
    | [], _ => exact ⟨rfl, rfl, fun _ _ => rfl⟩

mutual
theorem node_ind {P : Ty → Prop} (hv : ∀ v, P (.tvar v))
    (hnode : ∀ t, isVar t = false → (∀ k, k ∈ kids t → P k) → P t) : ∀ t, P t
  | .tvar v => hv v
  | .tuple ts => hnode _ rfl (node_indL hv hnode ts)
  | .app t args => hnode _ rfl (List.forall_mem_cons.2 ⟨node_ind hv hnode t, node_indL hv hnode args⟩)
  | .array _ e | .vec e | .ref e => hnode _ rfl (List.forall_mem_singleton.2 (node_ind hv hnode e))
  | .func ps r => hnode _ rfl (List.forall_mem_cons.2 ⟨node_ind hv hnode r, node_indL hv hnode ps⟩)
  | .unit | .bool | .string | .int _ _ | .float _ | .enum _ | .struct _ | .dyn _ | .param _ =>
    hnode _ rfl (fun _ h => nomatch h)
theorem node_indL {P : Ty → Prop} (hv : ∀ v, P (.tvar v))
    (hnode : ∀ t, isVar t = false → (∀ k, k ∈ kids t → P k) → P t) : ∀ (ts : List Ty) k, k ∈ ts → P k
  | [] => fun _ h => nomatch h
  | t :: ts => List.forall_mem_cons.2 ⟨node_ind hv hnode t, node_indL hv hnode ts⟩
end

theorem normF_node {t} (hn : isVar t = false) (f σ) :
    normF (f+1) σ t = (mapO (normF f σ) (kids t)).map (rebuild t) := by
  cases t with
  | tvar v => cases hn
  | tuple ts => rw [normF_tuple]; simp only [kids]; cases mapO (normF f σ) ts <;> rfl
  | app u args =>
    rw [normF_app]; simp only [kids, mapO]
    cases normF f σ u with
    | none => rfl
    | some u' => cases mapO (normF f σ) args <;> rfl
  | array n e => rw [normF_array]; simp only [kids, mapO]; cases normF f σ e <;> rfl
  | vec e => rw [normF_vec]; simp only [kids, mapO]; cases normF f σ e <;> rfl
  | ref e => rw [normF_ref]; simp only [kids, mapO]; cases normF f σ e <;> rfl
  | func ps r =>
    rw [normF_func]; simp only [kids, mapO]
    cases normF f σ r <;> cases mapO (normF f σ) ps <;> rfl
  | _ => exact normF_leaf rfl f σ

theorem normF_rebuild {t ks} (hn : isVar t = false) (hl : ks.length = (kids t).length) (f σ) :
    normF (f+1) σ (rebuild t ks) = (mapO (normF f σ) ks).map (rebuild t) := by
  have hr := rebuild_node hn hl
  rw [normF_node hr.isVar, hr.kids]
  cases hm : mapO (normF f σ) ks with
  | none => rfl
  | some ks' => exact congrArg some (hr.again ks' (mapO_length hm))

theorem occursOk_node {a t} (hn : isVar t = false) : occursOk a t = occursOkL a (kids t) := by
  cases t with
  | tvar v => cases hn
  | func ps r => simp only [occursOk, kids, occursOkL, Bool.and_comm]
  | _ => simp only [occursOk, kids, occursOkL, Bool.and_true]

theorem occursOk_rebuild {a t ks} (hn : isVar t = false) (hl : ks.length = (kids t).length) :
    occursOk a (rebuild t ks) = occursOkL a ks := by
  have hr := rebuild_node hn hl
  rw [occursOk_node hr.isVar, hr.kids]

theorem normF_succ_cases {f σ t t'} (h : normF (f+1) σ t = some t') :
    (∃ v u, t = .tvar v ∧ σ.val (σ.rep v) = some u ∧ normF f σ u = some t')
  ∨ (∃ v, t = .tvar v ∧ σ.val (σ.rep v) = none ∧ t' = .tvar (σ.rep v))
  ∨ (isVar t = false ∧ ∃ ks, mapO (normF f σ) (kids t) = some ks ∧ t' = rebuild t ks) := by
  cases hn : isVar t with
  | true =>
    match t, hn with
    | .tvar v, _ =>
      rw [normF_tvar] at h
      cases hv : σ.val (σ.rep v) with
      | some u => rw [hv] at h; exact .inl ⟨v, u, rfl, hv, h⟩
      | none => rw [hv] at h; exact .inr (.inl ⟨v, rfl, hv, (Option.some.inj h).symm⟩)
  | false =>
    rw [normF_node hn] at h
    cases hm : mapO (normF f σ) (kids t) with
    | none => rw [hm] at h; cases h
    | some ks => rw [hm] at h; exact .inr (.inr ⟨rfl, ks, rfl, (Option.some.inj h).symm⟩)

theorem normF_mono1 : ∀ f σ t t', normF f σ t = some t' → normF (f+1) σ t = some t'
  | 0, _, _, _, h => by simp at h
  | f+1, σ, t, t', h => by
    have IH := normF_mono1 f σ
    have IHL : ∀ xs ys, mapO (normF f σ) xs = some ys → mapO (normF (f+1) σ) xs = some ys :=
      fun xs ys => mapO_congr (fun x y _ => IH x y)
    rcases normF_succ_cases h with ⟨v, u, rfl, hv, hu⟩ | ⟨v, rfl, hv, rfl⟩ | ⟨hn, ks, hm, rfl⟩
    · rw [normF_tvar, hv]; exact IH _ _ hu
    · rw [normF_tvar, hv]
    · rw [normF_node hn, IHL _ _ hm]; rfl

theorem normF_mono {f σ t t'} (h : normF f σ t = some t') : ∀ k, normF (f + k) σ t = some t'
  | 0 => h
  | k+1 => normF_mono1 _ _ _ _ (normF_mono h k)

theorem normF_le {f f' σ t t'} (h : normF f σ t = some t') (hle : f ≤ f') : normF f' σ t = some t' := by
  obtain ⟨k, rfl⟩ := Nat.exists_eq_add_of_le hle
  exact normF_mono h k

/-- `norm` is a function of the store and the type, whatever the fuel -/
theorem normF_functional {f g σ t a b} (h1 : normF f σ t = some a) (h2 : normF g σ t = some b) : a = b := by
  have := normF_le h1 (Nat.le_max_left f g)
  have := normF_le h2 (Nat.le_max_right f g)
  simp_all

theorem occursOkL_all (a) : ∀ ts, occursOkL a ts = ts.all (occursOk a)
  | [] => by simp [occursOkL]
  | t :: ts => by simp [occursOkL, occursOkL_all a ts]

theorem occursOkL_false {a ts} (h : occursOkL a ts = false) : ∃ t, t ∈ ts ∧ occursOk a t = false := by
  rw [occursOkL_all] at h
  simpa using h

theorem occursOkL_true {a ts} (h : occursOkL a ts = true) : ∀ t, t ∈ ts → occursOk a t = true := by
  rw [occursOkL_all] at h
  simpa using h

theorem occursOkL_false_of_mem {a ts t} (ht : t ∈ ts) (h : occursOk a t = false) : occursOkL a ts = false := by
  cases hc : occursOkL a ts with
  | false => rfl
  | true => rw [occursOkL_true hc t ht] at h; cases h

/-- `find` returns a root: what `ena` guarantees -/
def WF (σ : Store) : Prop := ∀ v, σ.rep (σ.rep v) = σ.rep v

def UnboundRoot (σ : Store) (v : Nat) : Prop := σ.rep v = v ∧ σ.val v = none

/-- The store is acyclic: every variable has a normal form (a finite unfolding).  On a store with a
cycle `v ↦ … v …` no fuel suffices (`cyclic_store_not_acyclic` below). -/
def Acyclic (σ : Store) : Prop := ∀ v, ∃ f t, normF f σ (.tvar v) = some t

theorem normF_idem {σ} (hW : WF σ) : ∀ f t t', normF f σ t = some t' → normF f σ t' = some t'
  | 0, _, _, h => by simp at h
  | f+1, t, t', h => by
    have IH := normF_idem hW f
    rcases normF_succ_cases h with ⟨v, u, rfl, hv, hu⟩ | ⟨v, rfl, hv, rfl⟩ | ⟨hn, ks, hm, rfl⟩
    · exact normF_mono1 _ _ _ _ (IH _ _ hu)
    · rw [normF_tvar, hW v, hv]
    · rw [normF_rebuild hn (mapO_length hm), mapO_fix IH hm]; rfl

/-- every variable left in a normal form is an unbound root -/
theorem normF_unbound {σ} (hW : WF σ) : ∀ f t t' v, normF f σ t = some t' → occursOk v t' = false → UnboundRoot σ v
  | 0, _, _, _, h, _ => by simp at h
  | f+1, t, t', w, h, ho => by
    have IH := normF_unbound hW f
    rcases normF_succ_cases h with ⟨v, u, rfl, hv, hu⟩ | ⟨v, rfl, hv, rfl⟩ | ⟨hn, ks, hm, rfl⟩
    · exact IH _ _ _ hu ho
    · simp [occursOk] at ho; subst ho; exact ⟨hW v, hv⟩
    · rw [occursOk_rebuild hn (mapO_length hm)] at ho
      obtain ⟨y, hy, hyo⟩ := occursOkL_false ho
      obtain ⟨x, _, hx⟩ := mapO_mem hm hy
      exact IH _ _ _ hx hyo

/-- `t` has the normal form `x` in `σ` (with some fuel; the answer does not depend on it:
`normF_functional`) -/
def NF (σ : Store) (t x : Ty) : Prop := ∃ f, normF f σ t = some x

theorem NF.functional {σ t a b} (h1 : NF σ t a) (h2 : NF σ t b) : a = b :=
  let ⟨_, h1⟩ := h1; let ⟨_, h2⟩ := h2; normF_functional h1 h2

/-- `σ'` refines `σ`: a type and its `σ`-normal form have the same `σ'`-normal form (with an explicit
fuel overhead `K`) -/
def Ext (σ σ' : Store) : Prop :=
  ∃ K, ∀ f u u', normF f σ u = some u' → ∃ x, normF (f+K) σ' u = some x ∧ normF (f+K) σ' u' = some x

theorem Ext.refl {σ} (hW : WF σ) : Ext σ σ :=
  ⟨0, fun f u u' h => ⟨u', h, normF_idem hW f u u' h⟩⟩

theorem Ext.nf {σ σ' u u'} (hE : Ext σ σ') (h : NF σ u u') : ∃ x, NF σ' u x ∧ NF σ' u' x :=
  let ⟨_, H⟩ := hE; let ⟨_, hf⟩ := h; let ⟨x, h1, h2⟩ := H _ _ _ hf; ⟨x, ⟨_, h1⟩, ⟨_, h2⟩⟩

theorem Ext.trans {σ σ1 σ2} (h1 : Ext σ σ1) (h2 : Ext σ1 σ2) : Ext σ σ2 := by
  obtain ⟨K1, H1⟩ := h1
  obtain ⟨K2, H2⟩ := h2
  refine ⟨K1 + K2, fun f u u' h => ?_⟩
  obtain ⟨x, hx1, hx2⟩ := H1 f u u' h
  obtain ⟨y, hy1, hy2⟩ := H2 _ _ _ hx1
  obtain ⟨y', hy1', hy2'⟩ := H2 _ _ _ hx2
  have : y = y' := normF_functional hy2 hy2'
  subst this
  exact ⟨y, by rw [← Nat.add_assoc]; exact hy1, by rw [← Nat.add_assoc]; exact hy1'⟩

theorem Acyclic.of_ext {σ σ'} (hA : Acyclic σ) (hE : Ext σ σ') : Acyclic σ' := by
  intro v
  obtain ⟨f, t, h⟩ := hA v
  obtain ⟨x, ⟨_, hx⟩, _⟩ := hE.nf ⟨f, h⟩
  exact ⟨_, x, hx⟩

/-- one store step: bound roots keep their value; a variable whose root was unbound normalises like
that root does now -/
theorem ext_of_step {σ σ' : Store} (K : Nat)
    (S1 : ∀ v s, σ.val (σ.rep v) = some s → σ'.val (σ'.rep v) = some s)
    (S2 : ∀ v, σ.val (σ.rep v) = none → ∃ x, normF (K+1) σ' (.tvar v) = some x ∧ normF (K+1) σ' (.tvar (σ.rep v)) = some x) :
    ∀ f u u', normF f σ u = some u' → ∃ x, normF (f+(K+1)) σ' u = some x ∧ normF (f+(K+1)) σ' u' = some x
  | 0, _, _, h => by simp at h
  | f+1, t, t', h => by
    have IH := ext_of_step K S1 S2 f
    have e : f + 1 + (K+1) = (f + (K+1)) + 1 := by omega
    rw [e]
    rcases normF_succ_cases h with ⟨v, u, rfl, hv, hu⟩ | ⟨v, rfl, hv, rfl⟩ | ⟨hn, ks, hm, rfl⟩
    · obtain ⟨x, hx1, hx2⟩ := IH _ _ hu
      exact ⟨x, by rw [normF_tvar, S1 v u hv]; exact hx1, normF_mono1 _ _ _ _ hx2⟩
    · obtain ⟨x, hx1, hx2⟩ := S2 v hv
      exact ⟨x, normF_le hx1 (by omega), normF_le hx2 (by omega)⟩
    · obtain ⟨zs, h1, h2⟩ := mapO_rel2 IH hm
      exact ⟨rebuild t zs, by rw [normF_node hn, h1]; rfl, by rw [normF_rebuild hn (mapO_length hm), h2]; rfl⟩

/-! ### binding an unbound root to a normal type that passes the occurs check -/

def Store.bind (σ : Store) (a : Nat) (t : Ty) : Store := { σ with val := upd σ.val a (some t) }

theorem unifyVarValue_unbound {σ a t} (ha : UnboundRoot σ a) : σ.unifyVarValue a t = some (σ.bind a t) := by
  simp [Store.unifyVarValue, ha.1, ha.2, combine, Store.bind]

/-- a normal type without `a` is still its own normal form after binding `a` -/
theorem bind_fix {σ a t0} (hW : WF σ) :
    ∀ f u, normF f σ u = some u → occursOk a u = true → normF f (σ.bind a t0) u = some u
  | 0, _, h, _ => by simp at h
  | f+1, t, h, ho => by
    have IH := bind_fix (a := a) (t0 := t0) hW f
    rcases normF_succ_cases h with ⟨v, u, rfl, hv, hu⟩ | ⟨v, rfl, hv, heq⟩ | ⟨hn, ks, hm, heq⟩
    · have hub := normF_unbound hW f _ _ v hu (by simp [occursOk])
      rw [hub.1, hub.2] at hv; cases hv
    · injection heq with hr
      simp [occursOk] at ho
      have hav : ¬ v = a := fun e => ho e.symm
      rw [normF_tvar]
      rw [← hr] at hv
      simp [Store.bind, upd, ← hr, hav, hv]
    · -- the children of a normal node are its own children, each normal and without `a`
      have hk : kids t = ks := (congrArg kids heq).trans (rebuild_node hn (mapO_length hm)).kids
      subst hk
      rw [occursOk_node hn] at ho
      have hm' : mapO (normF f (σ.bind a t0)) (kids t) = some (kids t) :=
        mapO_congr (fun x y hx hy => by
          have hxx := mapO_fix_mem hm hx
          cases hxx.symm.trans hy
          exact IH _ hxx (occursOkL_true ho _ hx)) hm
      rw [normF_node hn, hm']
      exact congrArg some (rebuild_kids t)

theorem bind_ext {σ a t k} (hW : WF σ) (ha : UnboundRoot σ a) (ht : normF k σ t = some t)
    (ho : occursOk a t = true) : Ext σ (σ.bind a t) := by
  have hfix := bind_fix (a := a) (t0 := t) hW k t ht ho
  refine ⟨k+1, ext_of_step k ?_ ?_⟩
  · intro v s hv
    have : ¬ σ.rep v = a := by intro e; rw [e, ha.2] at hv; cases hv
    simp [Store.bind, upd, this, hv]
  · intro v hv
    by_cases e : σ.rep v = a
    · refine ⟨t, ?_, ?_⟩
      · simpa [normF_tvar, Store.bind, upd, e] using hfix
      · simpa [normF_tvar, Store.bind, upd, e, ha.1] using hfix
    · refine ⟨.tvar (σ.rep v), ?_, ?_⟩
      · rw [normF_tvar]; simp [Store.bind, upd, e, hv]
      · rw [normF_tvar]; simp [Store.bind, upd, e, hv, hW v]

theorem bind_eq {σ a t k} (hW : WF σ) (ha : UnboundRoot σ a) (ht : normF k σ t = some t)
    (ho : occursOk a t = true) :
    normF (k+1) (σ.bind a t) (.tvar a) = some t ∧ normF (k+1) (σ.bind a t) t = some t := by
  have hfix := bind_fix (a := a) (t0 := t) hW k t ht ho
  refine ⟨?_, normF_mono1 _ _ _ _ hfix⟩
  simpa [normF_tvar, Store.bind, upd, ha.1] using hfix

/-! ### uniting two unbound roots -/

theorem redirect_wf {σ : Store} {nr old new v} (hW : WF σ) (hn : UnboundRoot σ new) (hne : old ≠ new) :
    WF (σ.redirect nr old new v) := by
  intro i
  simp only [Store.redirect]
  by_cases e : σ.rep i = old
  · simp [e, hn.1, Ne.symm hne]
  · simp [e, hW i]

theorem redirect_ext {σ : Store} {nr old new} (hW : WF σ) (ho : UnboundRoot σ old) (hn : UnboundRoot σ new) :
    Ext σ (σ.redirect nr old new none) := by
  refine ⟨1, ext_of_step 0 ?_ ?_⟩
  · intro v s hv
    have h1 : ¬ σ.rep v = old := by intro e; rw [e, ho.2] at hv; cases hv
    have h2 : ¬ σ.rep v = new := by intro e; rw [e, hn.2] at hv; cases hv
    simp [Store.redirect, upd, h1, h2, hv]
  · intro v hv
    by_cases e : σ.rep v = old
    · refine ⟨.tvar new, ?_, ?_⟩
      · rw [normF_tvar]; simp [Store.redirect, upd, e]
      · rw [normF_tvar]; simp [Store.redirect, upd, e, ho.1]
    · refine ⟨.tvar (σ.rep v), ?_, ?_⟩
      · rw [normF_tvar]; simp [Store.redirect, upd, e, hv]
      · rw [normF_tvar]; simp [Store.redirect, upd, e, hW v, hv]

theorem redirect_eq {σ : Store} {nr old new} (ho : UnboundRoot σ old) (hn : UnboundRoot σ new) (hne : old ≠ new) :
    normF 1 (σ.redirect nr old new none) (.tvar old) = some (.tvar new) ∧
    normF 1 (σ.redirect nr old new none) (.tvar new) = some (.tvar new) := by
  constructor
  · rw [normF_tvar]; simp [Store.redirect, upd, ho.1]
  · rw [normF_tvar]; simp [Store.redirect, upd, hn.1, Ne.symm hne]

/-! ### agreement of two normal forms

`unify` lets an array type of the wildcard length (`tast::ARRAY_WILDCARD_LEN`, the length the
signatures of `array_get` / `array_set` are written with) stand for an array of any length, and does
NOT bind or rewrite anything when it does so.  So after a successful `unify l r` the two normal forms
are not always identical: they are identical up to array lengths one of which is the wildcard.
`agree` is that relation (it is reflexive and symmetric, not transitive); on types without the
wildcard length it is equality (`agree_eq_of_noWild`). -/
mutual
def agree : Ty → Ty → Bool
  | .tvar a, .tvar b => a == b
  | .unit, .unit => true
  | .bool, .bool => true
  | .string, .string => true
  | .int b s, .int b' s' => b == b' && s == s'
  | .float b, .float b' => b == b'
  | .tuple ts, .tuple us => agreeL ts us
  | .enum n, .enum m => n == m
  | .struct n, .struct m => n == m
  | .dyn n, .dyn m => n == m
  | .param n, .param m => n == m
  | .app t args, .app u brgs => agree t u && agreeL args brgs
  | .array n e, .array m e' => (n == m || n == Gen.arrayWildcardLen || m == Gen.arrayWildcardLen) && agree e e'
  | .vec e, .vec e' => agree e e'
  | .ref e, .ref e' => agree e e'
  | .func ps r, .func qs r' => agreeL ps qs && agree r r'
  | _, _ => false
def agreeL : List Ty → List Ty → Bool
  | [], [] => true
  | t :: ts, u :: us => agree t u && agreeL ts us
  | _, _ => false
end

mutual
def noWild : Ty → Bool
  | .tuple ts => noWildL ts
  | .app t args => noWild t && noWildL args
  | .array n e => n != Gen.arrayWildcardLen && noWild e
  | .vec e => noWild e
  | .ref e => noWild e
  | .func ps r => noWildL ps && noWild r
  | _ => true
def noWildL : List Ty → Bool
  | [] => true
  | t :: ts => noWild t && noWildL ts
end

mutual
theorem agree_refl : ∀ t, agree t t = true
  | .tvar _ | .unit | .bool | .string | .int _ _ | .float _ | .enum _ | .struct _ | .dyn _ | .param _ => by simp [agree]
  | .tuple ts => by simp [agree, agreeL_refl ts]
  | .app t args => by simp [agree, agree_refl t, agreeL_refl args]
  | .array n e => by simp [agree, agree_refl e]
  | .vec e => by simp [agree, agree_refl e]
  | .ref e => by simp [agree, agree_refl e]
  | .func ps r => by simp [agree, agreeL_refl ps, agree_refl r]
theorem agreeL_refl : ∀ ts, agreeL ts ts = true
  | [] => by simp [agreeL]
  | t :: ts => by simp [agreeL, agree_refl t, agreeL_refl ts]
end

/-- Only the `array` row has content: without wildcards the lengths were compared by `==`. -/
theorem agree_agreeL_eq_of_noWild :
    (∀ t u, agree t u = true → noWild t = true → noWild u = true → t = u) ∧
    (∀ ts us, agreeL ts us = true → noWildL ts = true → noWildL us = true → ts = us) := by
  apply agree.mutual_induct_unfolding
    (motive_1 := fun t u r => r = true → noWild t = true → noWild u = true → t = u)
    (motive_2 := fun ts us r => r = true → noWildL ts = true → noWildL us = true → ts = us)
  case case13 =>  -- .array
    intro n e m e' ih h a b
    simp only [noWild, Bool.and_eq_true, Bool.or_eq_true, beq_iff_eq, bne_iff_ne] at h a b
    rw [ih h.2 a.2 b.2]
    rcases h.1 with (h | h) | h
    · rw [h]
    · exact absurd h a.1
    · exact absurd h b.1
  case case17 | case20 => intros; contradiction  -- unlike constructors, lists of unlike length
  all_goals intros
  all_goals simp_all only [noWild, noWildL, Bool.and_eq_true, beq_iff_eq, and_self]

theorem agree_eq_of_noWild : ∀ t u, agree t u = true → noWild t = true → noWild u = true → t = u :=
  agree_agreeL_eq_of_noWild.1
theorem agreeL_eq_of_noWild : ∀ ts us, agreeL ts us = true → noWildL ts = true → noWildL us = true → ts = us :=
  agree_agreeL_eq_of_noWild.2

theorem agreeL_mapO {G H : Ty → Option Ty}
    (IH : ∀ x y x' y', agree x y = true → G x = some x' → H y = some y' → agree x' y' = true) :
    ∀ ts us ts' us', agreeL ts us = true → mapO G ts = some ts' → mapO H us = some us' → agreeL ts' us' = true
  | [], [], ts', us', _, h1, h2 => by
    cases mapO_nil_some.1 h1; cases mapO_nil_some.1 h2; simp [agreeL]
  | [], _ :: _, _, _, h, _, _ => by simp [agreeL] at h
  | _ :: _, [], _, _, h, _, _ => by simp [agreeL] at h
  | t :: ts, u :: us, ts', us', h, h1, h2 => by
    obtain ⟨x, xs, hx, hxs, rfl⟩ := mapO_cons_some.1 h1
    obtain ⟨y, ys, hy, hys, rfl⟩ := mapO_cons_some.1 h2
    simp only [agreeL, Bool.and_eq_true] at h ⊢
    exact ⟨IH _ _ _ _ h.1 hx hy, agreeL_mapO IH ts us xs ys h.2 hxs hys⟩

theorem agreeL_length : ∀ {ts us}, agreeL ts us = true → ts.length = us.length
  | [], [], _ => rfl
  | [], _ :: _, h => by simp [agreeL] at h
  | _ :: _, [], h => by simp [agreeL] at h
  | _ :: ts, _ :: us, h => by
    simp only [agreeL, Bool.and_eq_true] at h
    simp [agreeL_length h.2]

theorem agree_tvar {a u} (h : agree (.tvar a) u = true) : u = .tvar a := by
  cases u with
  | tvar b => rw [beq_iff_eq.1 h]
  | _ => exact absurd h Bool.false_ne_true

/-- `agree` on a node: the other side is a node, the children agree, and whether two nodes with these
labels agree depends on their children only through `agreeL` -/
theorem agree_node {t u} (hn : isVar t = false) (h : agree t u = true) :
    isVar u = false ∧ agreeL (kids t) (kids u) = true ∧
    ∀ ks ks', ks.length = (kids t).length → agreeL ks ks' = true →
      agree (rebuild t ks) (rebuild u ks') = true := by
  have h0 := h
  unfold agree at h
  split at h
  -- the rows of `agree`, in its order: 1 two variables, 17 unlike constructors; 7 `tuple` (a node over a list);
  -- 12 `app`, 16 `func` (over a head and a list); 13 `array` (one child, the lengths compared); 14 `vec`, 15 `ref`
  -- (one child); the remaining rows are leaves
  case h_1 => cases hn
  case h_17 => cases h
  case h_7 => exact ⟨rfl, h, fun _ _ _ hk => by simpa only [rebuild, agree] using hk⟩
  case h_12 | h_16 =>
    refine ⟨rfl, by simpa only [kids, agreeL, Bool.and_comm] using h, fun ks ks' hl hk => ?_⟩
    match ks, ks', hl, agreeL_length hk, hk with
    | _ :: _, _ :: _, _, _, hk => simpa only [rebuild, agree, agreeL, Bool.and_comm] using hk
  case h_13 =>
    simp only [Bool.and_eq_true] at h
    refine ⟨rfl, by simp only [kids, agreeL, h.2, Bool.and_true], fun ks ks' hl hk => ?_⟩
    match ks, ks', hl, agreeL_length hk, hk with
    | [_], [_], _, _, hk => simpa only [rebuild, agree, agreeL, Bool.and_true, h.1, Bool.true_and] using hk
  case h_14 | h_15 =>
    refine ⟨rfl, by simp only [kids, agreeL, h, Bool.and_true], fun ks ks' hl hk => ?_⟩
    match ks, ks', hl, agreeL_length hk, hk with
    | [_], [_], _, _, hk => simpa only [rebuild, agree, agreeL, Bool.and_true] using hk
  all_goals
    refine ⟨rfl, rfl, fun ks ks' hl hk => ?_⟩
    match ks, ks', hl, agreeL_length hk with
    | [], [], _, _ => exact h0

theorem agree_norm {σ} : ∀ f g x y x' y', agree x y = true → normF f σ x = some x' → normF g σ y = some y' →
    agree x' y' = true
  | 0, _, _, _, _, _, _, h, _ => by simp at h
  | _, 0, _, _, _, _, _, _, h => by simp at h
  | f+1, g+1, x, y, x', y', ha, hx, hy => by
    have IHL := agreeL_mapO (fun x y x' y' => agree_norm (σ := σ) f g x y x' y')
    cases hn : isVar x with
    | true =>
      match x, hn with
      | .tvar a, _ => cases agree_tvar ha; cases normF_functional hx hy; exact agree_refl _
    | false =>
      obtain ⟨hu, hk, hr⟩ := agree_node hn ha
      rw [normF_node hn] at hx
      rw [normF_node hu] at hy
      obtain ⟨ks, hks, rfl⟩ := Option.map_eq_some_iff.1 hx
      obtain ⟨ks', hks', rfl⟩ := Option.map_eq_some_iff.1 hy
      exact hr _ _ (mapO_length hks) (IHL _ _ _ _ hk hks hks')

/-- `l` and `r` have agreeing normal forms in `σ` -/
def Eqv (σ : Store) (l r : Ty) : Prop :=
  ∃ f g x y, normF f σ l = some x ∧ normF g σ r = some y ∧ agree x y = true

def EqvL (σ : Store) : List Ty → List Ty → Prop
  | [], [] => True
  | t :: ts, u :: us => Eqv σ t u ∧ EqvL σ ts us
  | _, _ => False

theorem Eqv.nf {σ l r} (h : Eqv σ l r) : ∃ x y, NF σ l x ∧ NF σ r y ∧ agree x y = true :=
  let ⟨f, g, x, y, hx, hy, ha⟩ := h; ⟨x, y, ⟨f, hx⟩, ⟨g, hy⟩, ha⟩

theorem Eqv.transport {σ σ' l r} (hE : Ext σ σ') (h : Eqv σ l r) : Eqv σ' l r := by
  obtain ⟨f, g, x, y, hx, hy, ha⟩ := h
  obtain ⟨x2, ⟨_, hx1⟩, ⟨_, hx2⟩⟩ := hE.nf ⟨f, hx⟩
  obtain ⟨y2, ⟨_, hy1⟩, ⟨_, hy2⟩⟩ := hE.nf ⟨g, hy⟩
  exact ⟨_, _, x2, y2, hx1, hy1, agree_norm _ _ _ _ _ _ ha hx2 hy2⟩

theorem EqvL.transport {σ σ'} (hE : Ext σ σ') : ∀ {ts us}, EqvL σ ts us → EqvL σ' ts us
  | [], [], _ => trivial
  | [], _ :: _, h => h.elim
  | _ :: _, [], h => h.elim
  | _ :: _, _ :: _, h => ⟨h.1.transport hE, EqvL.transport hE h.2⟩

/-- replace both sides by types with the same `σ`-normal forms -/
theorem Eqv.of_norm {σ l r ln rn f g} (hl : normF f σ l = some ln) (hr : normF g σ r = some rn)
    (hW : WF σ) (h : Eqv σ ln rn) : Eqv σ l r := by
  obtain ⟨f', g', x, y, hx, hy, ha⟩ := h
  have e1 : x = ln := normF_functional hx (normF_idem hW _ _ _ hl)
  have e2 : y = rn := normF_functional hy (normF_idem hW _ _ _ hr)
  subst e1; subst e2
  exact ⟨_, _, _, _, hl, hr, ha⟩

theorem mapO_normF_le {f f' σ ts xs} (h : mapO (normF f σ) ts = some xs) (hle : f ≤ f') :
    mapO (normF f' σ) ts = some xs :=
  mapO_congr (fun _ _ _ hx => normF_le hx hle) h

theorem EqvL.lists {σ} : ∀ {ts us}, EqvL σ ts us →
    ∃ f xs ys, mapO (normF f σ) ts = some xs ∧ mapO (normF f σ) us = some ys ∧ agreeL xs ys = true
  | [], [], _ => ⟨0, [], [], rfl, rfl, by simp [agreeL]⟩
  | [], _ :: _, h => h.elim
  | _ :: _, [], h => h.elim
  | t :: ts, u :: us, h => by
    obtain ⟨f1, g1, x, y, hx, hy, ha⟩ := h.1
    obtain ⟨f2, xs, ys, hxs, hys, has⟩ := EqvL.lists h.2
    refine ⟨max (max f1 g1) f2, x :: xs, y :: ys, ?_, ?_, by simp [agreeL, ha, has]⟩
    · exact mapO_cons_some.2 ⟨x, xs, normF_le hx (by omega), mapO_normF_le hxs (by omega), rfl⟩
    · exact mapO_cons_some.2 ⟨y, ys, normF_le hy (by omega), mapO_normF_le hys (by omega), rfl⟩

/-- what every call of `unify` guarantees, whatever its outcome: the table is still well-formed, the
new store refines the old one, and if the call returned `true` the two sides now agree -/
structure Post (σ : Store) (l r : Ty) (res : Option Diag × Store) : Prop where
  wf : WF res.2
  ext : Ext σ res.2
  eqv : res.1 = none → Eqv res.2 l r

abbrev RecOk (rec : Store → Ty → Ty → Res) : Prop :=
  ∀ σ l r res, WF σ → rec σ l r = some res → Post σ l r res

theorem post_fail {σ l r d} (hW : WF σ) : Post σ l r (some d, σ) :=
  ⟨hW, Ext.refl hW, fun h => by cases h⟩

/-- the model's "go on if the first call returned `true`": `unifyList` and the `func` and `app` rows of `unifyCtor` have
this `match` inline, and their equations are used below as instances of it without rewriting -/
def andThen (r : Res) (k : Store → Res) : Res := match r with | some (none, σ') => k σ' | r => r

/-- `Post` with the success condition left open -/
structure Step (σ : Store) (E : Store → Prop) (res : Option Diag × Store) : Prop where
  wf : WF res.2
  ext : Ext σ res.2
  on_ok : res.1 = none → E res.2

theorem Post.step {σ l r res} (P : Post σ l r res) : Step σ (fun τ => Eqv τ l r) res := ⟨P.wf, P.ext, P.eqv⟩

/-- the one place where two refinements compose: what the first call established is carried along the second -/
theorem Step.andThen {σ E1 E2 r1 k res} (h1 : ∀ res1, r1 = some res1 → Step σ E1 res1)
    (hE : ∀ σ1 σ2, Ext σ1 σ2 → E1 σ1 → E1 σ2)
    (h2 : ∀ σ1 res, WF σ1 → k σ1 = some res → Step σ1 E2 res)
    (h : andThen r1 k = some res) : Step σ (fun τ => E1 τ ∧ E2 τ) res := by
  match r1, h1, h with
  | some (some d, σ1), h1, h => cases h; exact ⟨(h1 _ rfl).wf, (h1 _ rfl).ext, fun hn => by cases hn⟩
  | some (none, σ1), h1, h =>
    obtain ⟨w1, e1, q1⟩ := h1 _ rfl
    obtain ⟨w2, e2, q2⟩ := h2 σ1 res w1 h
    exact ⟨w2, e1.trans e2, fun hn => ⟨hE _ _ e2 (q1 rfl), q2 hn⟩⟩

theorem unifyList_post {rec} (hrec : RecOk rec) :
    ∀ σ ts us res, WF σ → unifyList rec σ ts us = some res → ts.length = us.length →
      Step σ (fun τ => EqvL τ ts us) res
  | σ, [], [], res, hW, h, _ => by
    simp [unifyList, ok] at h; subst h
    exact ⟨hW, Ext.refl hW, fun _ => trivial⟩
  | σ, [], _ :: _, res, _, _, hlen => by simp at hlen
  | σ, _ :: _, [], res, _, _, hlen => by simp at hlen
  | σ, t :: ts, u :: us, res, hW, h, hlen =>
    Step.andThen (r1 := rec σ t u) (k := fun σ' => unifyList rec σ' ts us)
      (fun _ h1 => (hrec σ t u _ hW h1).step) (fun _ _ e q => Eqv.transport e q)
      (fun σ1 res w h => unifyList_post hrec σ1 ts us res w h (by simpa using hlen)) h

theorem eqv_leaf_refl {σ t} (hl : isLeaf t = true) : Eqv σ t t :=
  ⟨1, 1, t, t, normF_leaf hl _ _, normF_leaf hl _ _, agree_refl t⟩

theorem post_ok_leaf {σ t} (hW : WF σ) (hl : isLeaf t = true) : Post σ t t (none, σ) :=
  ⟨hW, Ext.refl hW, fun _ => eqv_leaf_refl hl⟩

theorem eqv_tuple {σ ts us} (h : EqvL σ ts us) : Eqv σ (.tuple ts) (.tuple us) := by
  obtain ⟨f, xs, ys, hx, hy, ha⟩ := h.lists
  exact ⟨f+1, f+1, .tuple xs, .tuple ys, by rw [normF_tuple, hx]; rfl, by rw [normF_tuple, hy]; rfl, by simpa [agree] using ha⟩

theorem eqv_cong1 {σ e e'} (C : Ty → Ty) (hn : ∀ f σ e, normF (f+1) σ (C e) = (normF f σ e).map C)
    (hag : ∀ x y, agree (C x) (C y) = agree x y) (h : Eqv σ e e') : Eqv σ (C e) (C e') := by
  obtain ⟨f, g, x, y, hx, hy, ha⟩ := h
  exact ⟨f+1, g+1, C x, C y, by rw [hn, hx]; rfl, by rw [hn, hy]; rfl, by rw [hag]; exact ha⟩

theorem eqv_array {σ n m e e'} (hnm : ¬ (n ≠ m ∧ n ≠ Gen.arrayWildcardLen ∧ m ≠ Gen.arrayWildcardLen))
    (h : Eqv σ e e') : Eqv σ (.array n e) (.array m e') := by
  obtain ⟨f, g, x, y, hx, hy, ha⟩ := h
  refine ⟨f+1, g+1, .array n x, .array m y, by rw [normF_array, hx]; rfl, by rw [normF_array, hy]; rfl, ?_⟩
  simp only [agree, Bool.and_eq_true, ha, and_true, Bool.or_eq_true, beq_iff_eq]
  by_cases h1 : n = m
  · exact .inl (.inl h1)
  · by_cases h2 : n = Gen.arrayWildcardLen
    · exact .inl (.inr h2)
    · by_cases h3 : m = Gen.arrayWildcardLen
      · exact .inr h3
      · exact absurd ⟨h1, h2, h3⟩ hnm

theorem eqv_func {σ ps qs r r'} (h1 : EqvL σ ps qs) (h2 : Eqv σ r r') : Eqv σ (.func ps r) (.func qs r') := by
  obtain ⟨f, xs, ys, hx, hy, ha⟩ := h1.lists
  obtain ⟨f2, g2, x, y, hx2, hy2, ha2⟩ := h2
  refine ⟨max f (max f2 g2) + 1, max f (max f2 g2) + 1, .func xs x, .func ys y, ?_, ?_, by simp [agree, ha, ha2]⟩
  · rw [normF_func, mapO_normF_le hx (by omega)]; simp [normF_le hx2 (show f2 ≤ max f (max f2 g2) by omega)]
  · rw [normF_func, mapO_normF_le hy (by omega)]; simp [normF_le hy2 (show g2 ≤ max f (max f2 g2) by omega)]

theorem eqv_app {σ t u args brgs} (h2 : Eqv σ t u) (h1 : EqvL σ args brgs) : Eqv σ (.app t args) (.app u brgs) := by
  obtain ⟨f, xs, ys, hx, hy, ha⟩ := h1.lists
  obtain ⟨f2, g2, x, y, hx2, hy2, ha2⟩ := h2
  refine ⟨max f (max f2 g2) + 1, max f (max f2 g2) + 1, .app x xs, .app y ys, ?_, ?_, by simp [agree, ha, ha2]⟩
  · rw [normF_app, normF_le hx2 (show f2 ≤ max f (max f2 g2) by omega)]; simp [mapO_normF_le hx (show f ≤ max f (max f2 g2) by omega)]
  · rw [normF_app, normF_le hy2 (show g2 ≤ max f (max f2 g2) by omega)]; simp [mapO_normF_le hy (show f ≤ max f (max f2 g2) by omega)]

theorem unifyCtor_post {rec} (hrec : RecOk rec) {σ l r res} (hW : WF σ)
    (h : unifyCtor rec σ l r = some res) : Post σ l r res := by
  unfold unifyCtor at h
  split at h
  · cases h; exact post_ok_leaf hW rfl  -- unit
  · cases h; exact post_ok_leaf hW rfl  -- bool
  · cases h; exact post_ok_leaf hW rfl  -- string
  · -- int
    split at h
    · rename_i hc; obtain ⟨rfl, rfl⟩ := hc; cases h; exact post_ok_leaf hW rfl
    · cases h; exact post_fail hW
  · -- float
    split at h
    · rename_i hc; subst hc; cases h; exact post_ok_leaf hW rfl
    · cases h; exact post_fail hW
  · -- tuple
    split at h
    · cases h; exact post_fail hW
    · rename_i hlen
      obtain ⟨w, e, q⟩ := unifyList_post hrec _ _ _ _ hW h (by simpa using hlen)
      exact ⟨w, e, fun hn => eqv_tuple (q hn)⟩
  · -- array
    split at h
    · cases h; exact post_fail hW
    · rename_i hnm
      have P := hrec _ _ _ _ hW h
      exact ⟨P.wf, P.ext, fun hn => eqv_array hnm (P.eqv hn)⟩
  · -- ref
    have P := hrec _ _ _ _ hW h
    exact ⟨P.wf, P.ext, fun hn => eqv_cong1 Ty.ref normF_ref (fun _ _ => by simp [agree]) (P.eqv hn)⟩
  · -- vec
    have P := hrec _ _ _ _ hW h
    exact ⟨P.wf, P.ext, fun hn => eqv_cong1 Ty.vec normF_vec (fun _ _ => by simp [agree]) (P.eqv hn)⟩
  · -- func
    split at h
    · cases h; exact post_fail hW
    · rename_i ps _ qs _ hlen
      obtain ⟨w, e, q⟩ := Step.andThen (r1 := unifyList rec σ ps qs)
        (fun _ h1 => unifyList_post hrec _ _ _ _ hW h1 (by simpa using hlen)) (fun _ _ e q => EqvL.transport e q)
        (fun σ1 res w h => (hrec σ1 _ _ res w h).step) h
      exact ⟨w, e, fun hn => eqv_func (q hn).1 (q hn).2⟩
  · -- enum
    split at h
    · cases h; exact post_fail hW
    · rename_i hc; simp at hc; subst hc; cases h; exact post_ok_leaf hW rfl
  · -- struct
    split at h
    · cases h; exact post_fail hW
    · rename_i hc; simp at hc; subst hc; cases h; exact post_ok_leaf hW rfl
  · -- dyn
    split at h
    · cases h; exact post_fail hW
    · rename_i hc; simp at hc; subst hc; cases h; exact post_ok_leaf hW rfl
  · -- app
    split at h
    · cases h; exact post_fail hW
    · rename_i t args u brgs hlen
      obtain ⟨w, e, q⟩ := Step.andThen (r1 := rec σ t u) (k := fun σ' => unifyList rec σ' args brgs)
        (fun _ h1 => (hrec σ t u _ hW h1).step) (fun _ _ e q => Eqv.transport e q)
        (fun σ1 res w h => unifyList_post hrec σ1 _ _ res w h (by simpa using hlen)) h
      exact ⟨w, e, fun hn => eqv_app (q hn).1 (q hn).2⟩
  · -- param
    split at h
    · cases h; exact post_fail hW
    · rename_i hc; simp at hc; subst hc; cases h; exact post_ok_leaf hW rfl
  · split at h <;> (cases h; exact post_fail hW)  -- unlike constructors

theorem eqv_var_of {σ a b x f g} (h1 : normF f σ (.tvar a) = some x) (h2 : normF g σ (.tvar b) = some x) :
    Eqv σ (.tvar a) (.tvar b) := ⟨f, g, x, x, h1, h2, agree_refl x⟩

theorem redirect_post {σ : Store} {nr old new} (hW : WF σ) (ho : UnboundRoot σ old) (hn : UnboundRoot σ new)
    (hne : old ≠ new) :
    Post σ (.tvar old) (.tvar new) (none, σ.redirect nr old new none) ∧
    Post σ (.tvar new) (.tvar old) (none, σ.redirect nr old new none) := by
  have e := redirect_eq (nr := nr) ho hn hne
  exact ⟨⟨redirect_wf hW hn hne, redirect_ext hW ho hn, fun _ => eqv_var_of e.1 e.2⟩,
         ⟨redirect_wf hW hn hne, redirect_ext hW ho hn, fun _ => eqv_var_of e.2 e.1⟩⟩

theorem varVarArm_post {σ a b res} (hW : WF σ) (ha : UnboundRoot σ a) (hb : UnboundRoot σ b)
    (h : varVarArm σ a b = some res) : Post σ (.tvar a) (.tvar b) res := by
  unfold varVarArm Store.unifyVarVar at h
  simp only [ha.1, hb.1] at h
  by_cases hab : a = b
  · subst hab
    simp [ok] at h; subst h
    have : normF 1 σ (.tvar a) = some (.tvar a) := by rw [normF_tvar]; simp [ha.1, ha.2]
    exact ⟨hW, Ext.refl hW, fun _ => eqv_var_of this this⟩
  · simp only [hab, if_false, ha.2, hb.2, combine] at h
    unfold Store.unifyRoots at h
    split at h
    · simp [ok] at h; subst h; exact (redirect_post hW hb ha (Ne.symm hab)).2
    · split at h
      · simp [ok] at h; subst h; exact (redirect_post hW ha hb hab).1
      · simp [ok] at h; subst h; exact (redirect_post hW ha hb hab).1

theorem bindArm_post {σ a t res k} (hW : WF σ) (ha : UnboundRoot σ a) (ht : normF k σ t = some t)
    (h : bindArm σ a t = some res) :
    Step σ (fun τ => Eqv τ (.tvar a) t ∧ Eqv τ t (.tvar a)) res := by
  unfold bindArm at h
  split at h
  · cases h; exact ⟨hW, Ext.refl hW, fun hn => by cases hn⟩
  · rename_i ho
    simp at ho
    rw [unifyVarValue_unbound ha] at h
    simp [ok] at h; subst h
    have e := bind_eq hW ha ht ho
    exact ⟨hW, bind_ext hW ha ht ho,  -- `WF` reads `rep` only
      fun _ => ⟨⟨_, _, t, t, e.1, e.2, agree_refl t⟩, ⟨_, _, t, t, e.2, e.1, agree_refl t⟩⟩⟩

theorem unifyNorm_post {rec} (hrec : RecOk rec) {σ l r ln rn res f g} (hW : WF σ)
    (hl : normF f σ l = some ln) (hr : normF g σ r = some rn)
    (h : unifyNorm rec σ ln rn = some res) : Post σ ln rn res := by
  have fl := normF_idem hW _ _ _ hl
  have fr := normF_idem hW _ _ _ hr
  unfold unifyNorm at h
  split at h
  · rename_i a
    have ha : UnboundRoot σ a := normF_unbound hW _ _ _ a hl (by simp [occursOk])
    split at h
    · rename_i b
      have hb : UnboundRoot σ b := normF_unbound hW _ _ _ b hr (by simp [occursOk])
      exact varVarArm_post hW ha hb h
    · obtain ⟨w, e, q⟩ := bindArm_post hW ha fr h
      exact ⟨w, e, fun hn => (q hn).1⟩
  · split at h
    · rename_i b
      have hb : UnboundRoot σ b := normF_unbound hW _ _ _ b hr (by simp [occursOk])
      obtain ⟨w, e, q⟩ := bindArm_post hW hb fl h
      exact ⟨w, e, fun hn => (q hn).2⟩
    · exact unifyCtor_post hrec hW h

theorem Eqv.of_ext_norm {σ σ' l r ln rn f g} (hE : Ext σ σ') (hl : normF f σ l = some ln)
    (hr : normF g σ r = some rn) (h : Eqv σ' ln rn) : Eqv σ' l r := by
  obtain ⟨x, ⟨_, hx1⟩, ⟨_, hx2⟩⟩ := hE.nf ⟨f, hl⟩
  obtain ⟨y, ⟨_, hy1⟩, ⟨_, hy2⟩⟩ := hE.nf ⟨g, hr⟩
  obtain ⟨f', g', x0, y0, hx0, hy0, ha⟩ := h
  cases normF_functional hx0 hx2
  cases normF_functional hy0 hy2
  exact ⟨_, _, _, _, hx1, hy1, ha⟩

/-- the invariant of every call of `unify` (any fuel, any outcome) -/
theorem unifyF_post : ∀ f, RecOk (unifyF f)
  | 0, _, _, _, _, _, h => by simp [unifyF] at h
  | f+1, σ, l, r, res, hW, h => by
    simp only [unifyF] at h
    cases hl : normF f σ l with
    | none => simp [hl] at h
    | some ln =>
      cases hr : normF f σ r with
      | none => simp [hl, hr] at h
      | some rn =>
        simp only [hl, hr] at h
        have P := unifyNorm_post (unifyF_post f) hW hl hr h
        exact ⟨P.wf, P.ext, fun hn => Eqv.of_ext_norm P.ext hl hr (P.eqv hn)⟩

/-! ## The theorems -/

/-- **Soundness of `unify`.**  If `unify l r` returns `true`, leaving the store `σ'`, then `l` and `r`
have normal forms in `σ'` and these agree: they are equal up to array lengths one of which is
`ARRAY_WILDCARD_LEN`.  (Plain equality does not hold for the real code: `unify_sound_eq_fails`.) -/
theorem unify_sound {f σ l r σ'} (hW : WF σ) (h : unifyF f σ l r = some (none, σ')) :
    ∃ x y, NF σ' l x ∧ NF σ' r y ∧ agree x y = true :=
  ((unifyF_post f σ l r _ hW h).eqv rfl).nf

/-- … and when neither normal form mentions the wildcard array length, `norm σ' l = norm σ' r`. -/
theorem unify_sound_eq {f σ l r σ' x y} (hW : WF σ) (h : unifyF f σ l r = some (none, σ'))
    (hx : NF σ' l x) (hy : NF σ' r y) (wx : noWild x = true) (wy : noWild y = true) : x = y := by
  obtain ⟨x', y', ⟨_, hx'⟩, ⟨_, hy'⟩, ha⟩ := unify_sound hW h
  obtain ⟨_, hx⟩ := hx
  obtain ⟨_, hy⟩ := hy
  cases normF_functional hx hx'
  cases normF_functional hy hy'
  exact agree_eq_of_noWild _ _ ha wx wy

/-- **`unify` only adds information**, whatever its outcome: an equation between normal forms that
held before the call still holds after it (also after a failing call, which keeps the bindings made
before the failure). -/
theorem unify_extends {f σ l r d σ'} (hW : WF σ) (h : unifyF f σ l r = some (d, σ')) :
    ∀ a b x, NF σ a x → NF σ b x → ∃ y, NF σ' a y ∧ NF σ' b y := by
  intro a b x ha hb
  have hE := (unifyF_post f σ l r _ hW h).ext
  obtain ⟨y, hy1, hy2⟩ := hE.nf ha
  obtain ⟨y', hy1', hy2'⟩ := hE.nf hb
  cases hy2.functional hy2'
  exact ⟨y, hy1, hy1'⟩

/-- … in particular a type keeps being equal to its own earlier normal form -/
theorem unify_extends_norm {f σ l r d σ'} (hW : WF σ) (h : unifyF f σ l r = some (d, σ')) :
    ∀ t t', NF σ t t' → ∃ y, NF σ' t y ∧ NF σ' t' y := by
  exact fun t t' ht => (unifyF_post f σ l r _ hW h).ext.nf ht

/-- **The occurs check keeps the store acyclic**, for every outcome of `unify` (and the table stays a
valid union-find table). -/
theorem acyclic_invariant {f σ l r d σ'} (hW : WF σ) (hA : Acyclic σ) (h : unifyF f σ l r = some (d, σ')) :
    Acyclic σ' ∧ WF σ' :=
  have P := unifyF_post f σ l r _ hW h
  ⟨hA.of_ext P.ext, P.wf⟩

/-- `norm` is idempotent (same fuel suffices) -/
theorem norm_idempotent {f σ t t'} (hW : WF σ) (h : normF f σ t = some t') : normF f σ t' = some t' :=
  normF_idem hW f t t' h

/-- a normal form mentions only root keys that have no value -/
theorem norm_no_bound_var {f σ t t' v} (hW : WF σ) (h : normF f σ t = some t') (hv : occursOk v t' = false) :
    σ.rep v = v ∧ σ.val v = none :=
  normF_unbound hW f t t' v h hv

/-! ### `norm` terminates on an acyclic store -/

/-- normal forms of the elements, with a common fuel, make a normal form of the list -/
theorem mapO_normF_of_mem {σ} : ∀ ts : List Ty, (∀ t, t ∈ ts → ∃ x f, normF f σ t = some x) →
    ∃ f xs, mapO (normF f σ) ts = some xs
  | [], _ => ⟨0, [], rfl⟩
  | t :: ts, H => by
    obtain ⟨x, f1, hx⟩ := H t (by simp)
    obtain ⟨f2, xs, hxs⟩ := mapO_normF_of_mem ts (fun u hu => H u (by simp [hu]))
    exact ⟨max f1 f2, x :: xs, mapO_cons_some.2 ⟨x, xs, normF_le hx (by omega), mapO_normF_le hxs (by omega), rfl⟩⟩

/-- **`norm` cannot loop on an acyclic store**: every type has a normal form. -/
theorem norm_total {σ} (hA : Acyclic σ) : ∀ t, ∃ x, NF σ t x := by
  refine node_ind (fun v => ?_) (fun t hn IH => ?_)
  · obtain ⟨f, t, h⟩ := hA v; exact ⟨t, f, h⟩
  · obtain ⟨f, xs, h⟩ := mapO_normF_of_mem _ IH
    exact ⟨rebuild t xs, f+1, by rw [normF_node hn, h]; rfl⟩

theorem norm_totalL {σ} (hA : Acyclic σ) : ∀ ts : List Ty, ∃ f xs, mapO (normF f σ) ts = some xs :=
  fun ts => mapO_normF_of_mem ts (fun t _ => norm_total hA t)

/-! ### an explicit bound on the recursion depth of `norm` -/

mutual
/-- nesting depth of a type (leaves and variables have depth 0): `norm` on a type without bound
variables recurses exactly `depth t + 1` deep -/
def depth : Ty → Nat
  | .tuple ts => depthL ts + 1
  | .app t args => max (depth t) (depthL args) + 1
  | .array _ e => depth e + 1
  | .vec e => depth e + 1
  | .ref e => depth e + 1
  | .func ps r => max (depthL ps) (depth r) + 1
  | _ => 0
def depthL : List Ty → Nat
  | [] => 0
  | t :: ts => max (depth t) (depthL ts)
end

/-- `h` ranks the store: every variable inside the value of a root key has (through its root) a
smaller rank than that key.  A store has a ranking iff it is acyclic (`ranked_of_acyclic`,
`acyclic_of_ranked`). -/
def RankedBy (h : Nat → Nat) (σ : Store) : Prop :=
  ∀ r t, σ.rep r = r → σ.val r = some t → ∀ w, occursOk w t = false → h (σ.rep w) < h r

theorem depth_kids (t) : kids t = [] ∨ depth t = depthL (kids t) + 1 := by
  cases t with
  | tuple _ | app _ _ | array _ _ | vec _ | ref _ => exact .inr (by simp [depth, kids, depthL])
  | func ps r => exact .inr (by simp only [depth, kids, depthL, Nat.max_comm])
  | _ => exact .inl rfl

theorem mapO_normF_depth {σ B} : ∀ ts : List Ty, (∀ t, t ∈ ts → ∃ x, normF (depth t + B + 1) σ t = some x) →
    ∃ xs, mapO (normF (depthL ts + B + 1) σ) ts = some xs
  | [], _ => ⟨[], rfl⟩
  | t :: ts, H => by
    obtain ⟨x, hx⟩ := H t (by simp)
    obtain ⟨xs, hxs⟩ := mapO_normF_depth ts (fun u hu => H u (by simp [hu]))
    exact ⟨x :: xs, mapO_cons_some.2 ⟨x, xs, normF_le hx (by simp only [depthL]; omega),
      mapO_normF_le hxs (by simp only [depthL]; omega), rfl⟩⟩

/-- if the variables of rank below `K` normalise with fuel `B + 1`, a type over such variables
normalises with `depth t` more -/
theorem measT {σ : Store} {h : Nat → Nat} {K B : Nat}
    (Hvar : ∀ v, h (σ.rep v) < K → ∃ x, normF (B + 1) σ (.tvar v) = some x) :
    ∀ t, (∀ w, occursOk w t = false → h (σ.rep w) < K) → ∃ x, normF (depth t + B + 1) σ t = some x := by
  refine node_ind (fun v H => ?_) (fun t hn IH H => ?_)
  · obtain ⟨x, hx⟩ := Hvar v (H v (by simp [occursOk]))
    exact ⟨x, normF_le hx (by simp only [depth]; omega)⟩
  · obtain ⟨xs, hxs⟩ := mapO_normF_depth (B := B) (kids t) (fun k hk => IH k hk (fun w hw =>
      H w (by rw [occursOk_node hn]; exact occursOkL_false_of_mem hk hw)))
    have hm : mapO (normF (depth t + B) σ) (kids t) = some xs := by
      rcases depth_kids t with hk | hd
      · rw [hk] at hxs ⊢; exact hxs
      · exact mapO_normF_le hxs (by omega)
    exact ⟨rebuild t xs, by rw [normF_node hn, hm]; rfl⟩

theorem measL {σ : Store} {h : Nat → Nat} {K B : Nat}
    (Hvar : ∀ v, h (σ.rep v) < K → ∃ x, normF (B + 1) σ (.tvar v) = some x) :
    ∀ ts, (∀ w, occursOkL w ts = false → h (σ.rep w) < K) → ∃ xs, mapO (normF (depthL ts + B + 1) σ) ts = some xs :=
  fun ts H => mapO_normF_depth ts (fun t ht => measT Hvar t (fun w hw => H w (occursOkL_false_of_mem ht hw)))

/-- a variable of rank below `K` normalises within `K * (D+1) + 1` steps, `D` bounding the depth of
every stored value -/
theorem ranked_var {σ : Store} {h : Nat → Nat} {D : Nat} (hW : WF σ) (hR : RankedBy h σ)
    (hD : ∀ r t, σ.val r = some t → depth t ≤ D) :
    ∀ K v, h (σ.rep v) < K → ∃ x, normF (K * (D+1) + 1) σ (.tvar v) = some x
  | 0, _, hv => by cases hv
  | K+1, v, hv => by
    have IH := ranked_var hW hR hD K
    cases hs : σ.val (σ.rep v) with
    | none => exact ⟨_, by rw [normF_tvar, hs]⟩
    | some s =>
      have hvars : ∀ w, occursOk w s = false → h (σ.rep w) < K := fun w hw => by
        have := hR _ _ (hW v) hs w hw; omega
      obtain ⟨x, hx⟩ := measT (B := K * (D+1)) IH s hvars
      have hd := hD _ _ hs
      refine ⟨x, ?_⟩
      rw [normF_tvar, hs]
      exact normF_le hx (by rw [Nat.succ_mul]; omega)

/-- **`norm` terminates within an explicit number of nested calls.**  On a store ranked by `h` with
ranks below `H` and stored values of depth at most `D`, `norm t` returns using at most
`depth t + H * (D+1) + 1` nested calls — so the real `norm` cannot overflow the stack on such a store. -/
theorem norm_terminates {σ : Store} {h : Nat → Nat} {H D : Nat} (hW : WF σ) (hR : RankedBy h σ)
    (hH : ∀ v, h v < H) (hD : ∀ r t, σ.val r = some t → depth t ≤ D) :
    ∀ t, ∃ x, normF (depth t + H * (D+1) + 1) σ t = some x :=
  fun t => measT (K := H) (ranked_var hW hR hD H) t (fun _ _ => hH _)

theorem acyclic_of_ranked {σ : Store} {h : Nat → Nat} {D : Nat} (hW : WF σ) (hR : RankedBy h σ)
    (hD : ∀ r t, σ.val r = some t → depth t ≤ D) : Acyclic σ :=
  fun v => let ⟨x, hx⟩ := ranked_var hW hR hD (h (σ.rep v) + 1) v (Nat.lt_succ_self _); ⟨_, x, hx⟩

/-- a variable inside a type that normalises with fuel `f` normalises with fuel `f` itself -/
theorem normF_var_inside {σ} : ∀ f t x w, normF f σ t = some x → occursOk w t = false → ∃ y, normF f σ (.tvar w) = some y
  | 0, _, _, _, h, _ => by simp at h
  | f+1, t, x, w, h, ho => by
    rcases normF_succ_cases h with ⟨v, u, rfl, hv, hu⟩ | ⟨v, rfl, hv, rfl⟩ | ⟨hn, ks, hm, rfl⟩
    · simp [occursOk] at ho; subst ho; exact ⟨_, h⟩
    · simp [occursOk] at ho; subst ho; exact ⟨_, h⟩
    · rw [occursOk_node hn] at ho
      obtain ⟨k, hk, hko⟩ := occursOkL_false ho
      obtain ⟨z, hz⟩ := mapO_some_mem hm hk
      obtain ⟨y, hy⟩ := normF_var_inside f _ _ _ hz hko
      exact ⟨y, normF_mono1 _ _ _ _ hy⟩

/-- `norm ?v` and `norm ?(find v)` take the same number of calls -/
theorem normF_tvar_rep {σ} (hW : WF σ) (f v) : normF f σ (.tvar (σ.rep v)) = normF f σ (.tvar v) := by
  cases f with
  | zero => simp
  | succ f => rw [normF_tvar, normF_tvar, hW v]

/-- an acyclic store has a ranking: the number of nested calls `norm ?v` takes -/
theorem ranked_of_acyclic {σ} (hW : WF σ) (hA : Acyclic σ) : ∃ h, RankedBy h σ := by
  have L : ∀ v, ∃ n, (∃ x, normF n σ (.tvar v) = some x) ∧ ∀ m, m < n → ¬ ∃ x, normF m σ (.tvar v) = some x :=
    fun v => exists_least (let ⟨f, t, h⟩ := hA v; ⟨f, t, h⟩)
  refine ⟨fun v => Classical.choose (L v), fun r t hr hv w hw => ?_⟩
  show Classical.choose (L (σ.rep w)) < Classical.choose (L r)
  obtain ⟨⟨x, hx⟩, _⟩ := Classical.choose_spec (L r)
  obtain ⟨_, hmin⟩ := Classical.choose_spec (L (σ.rep w))
  generalize Classical.choose (L r) = n at hx ⊢
  generalize Classical.choose (L (σ.rep w)) = k at hmin ⊢
  cases n with
  | zero => simp at hx
  | succ n =>
    rw [normF_tvar, hr, hv] at hx
    obtain ⟨y, hy⟩ := normF_var_inside n t x w hx hw
    rw [← normF_tvar_rep hW] at hy
    by_cases hk : k < n + 1
    · exact hk
    · exact absurd ⟨y, hy⟩ (hmin n (by omega))

/-- **`norm` on an acyclic store**: a ranking exists, and any bounds `H` on the ranks and `D` on the
depth of stored values give the explicit bound `depth t + H * (D+1) + 1` on the nesting of calls. -/
theorem norm_terminates_acyclic {σ} (hW : WF σ) (hA : Acyclic σ) :
    ∃ h, RankedBy h σ ∧ ∀ H D, (∀ v, h v < H) → (∀ r t, σ.val r = some t → depth t ≤ D) →
      ∀ t, ∃ x, normF (depth t + H * (D+1) + 1) σ t = some x := by
  obtain ⟨h, hR⟩ := ranked_of_acyclic hW hA
  exact ⟨h, hR, fun _ _ hH hD => norm_terminates hW hR hH hD⟩

/-! ### the stores the typer can reach -/

theorem empty_wf : WF Store.empty := fun _ => rfl
theorem empty_acyclic : Acyclic Store.empty := fun v => ⟨1, .tvar v, by rw [normF_tvar]; rfl⟩
/-- `norm` reads `rep` and `val` only -/
theorem normF_congr {σ τ : Store} (h1 : σ.rep = τ.rep) (h2 : σ.val = τ.val) : ∀ f, normF f σ = normF f τ
  | 0 => by funext t; simp
  | f+1 => by
    have IH := normF_congr h1 h2 f
    funext t
    cases hn : isVar t with
    | true => match t, hn with | .tvar v, _ => rw [normF_tvar, normF_tvar, IH, h1, h2]
    | false => rw [normF_node hn, normF_node hn, IH]
theorem fresh_acyclic {σ} (h : Acyclic σ) : Acyclic σ.fresh := fun v => by
  obtain ⟨f, t, ht⟩ := h v
  exact ⟨f, t, by rw [normF_congr (σ := σ.fresh) (τ := σ) rfl rfl]; exact ht⟩

/-- a store built from the empty table by `new_key` and (returning) calls of `unify` -/
inductive Reachable : Store → Prop
  | empty : Reachable Store.empty
  | fresh {σ} : Reachable σ → Reachable σ.fresh
  | unify {σ f l r d σ'} : Reachable σ → unifyF f σ l r = some (d, σ') → Reachable σ'

/-- **Every reachable store is acyclic** (so `norm`, `subst_ty`, … terminate on it: `norm_total`). -/
theorem reachable_acyclic {σ} (h : Reachable σ) : WF σ ∧ Acyclic σ := by
  induction h with
  | empty => exact ⟨empty_wf, empty_acyclic⟩
  | fresh _ ih => exact ⟨ih.1, fresh_acyclic ih.2⟩  -- `WF` reads `rep` only
  | unify _ hu ih => exact (acyclic_invariant ih.1 ih.2 hu).symm

/-! ### completeness, as far as it holds -/

theorem unifyList_refl {rec : Store → Ty → Ty → Res} {σ} :
    ∀ ts : List Ty, (∀ t, t ∈ ts → rec σ t t = some (none, σ)) → unifyList rec σ ts ts = some (none, σ)
  | [], _ => rfl
  | t :: ts, H => by
    simp only [unifyList, H t (by simp)]
    exact unifyList_refl ts (fun u hu => H u (by simp [hu]))

theorem unifyF_refl {σ} (hW : WF σ) : ∀ f x, normF f σ x = some x → unifyF (f+1) σ x x = some (none, σ)
  | 0, _, h => by simp at h
  | f+1, x, h => by
    have IH := unifyF_refl hW f
    have hu : unifyF (f+2) σ x x = unifyNorm (unifyF (f+1)) σ x x := by simp [unifyF, h]
    rw [hu]
    rcases normF_succ_cases h with ⟨v, u, rfl, hv, hu⟩ | ⟨v, rfl, hv, _⟩ | ⟨hn, ks, hm, heq⟩
    · have hub := normF_unbound hW f _ _ v hu (by simp [occursOk])
      rw [hub.1, hub.2] at hv; cases hv
    · simp [unifyNorm, varVarArm, Store.unifyVarVar, ok]
    · have hk : kids x = ks := (congrArg kids heq).trans (rebuild_node hn (mapO_length hm)).kids
      subst hk
      have K : ∀ k, k ∈ kids x → unifyF (f+1) σ k k = some (none, σ) := fun k hk => IH k (mapO_fix_mem hm hk)
      have KL : ∀ ts, (∀ k, k ∈ ts → k ∈ kids x) → unifyList (unifyF (f+1)) σ ts ts = some (none, σ) :=
        fun ts hts => unifyList_refl ts (fun k hk => K k (hts k hk))
      cases x with
      | tvar v => cases hn
      | tuple ts => simp only [unifyNorm, unifyCtor]; simp [KL ts (fun _ hk => hk)]
      | app t args =>
        simp only [unifyNorm, unifyCtor]
        simp [K t (by simp [kids]), KL args (fun _ hk => by simp [kids, hk])]
      | array n e => simp only [unifyNorm, unifyCtor]; simp [K e (by simp [kids])]
      | vec e => simp only [unifyNorm, unifyCtor]; simp [K e (by simp [kids])]
      | ref e => simp only [unifyNorm, unifyCtor]; simp [K e (by simp [kids])]
      | func ps r =>
        simp only [unifyNorm, unifyCtor]
        simp [KL ps (fun _ hk => by simp [kids, hk]), K r (by simp [kids])]
      | _ => simp [unifyNorm, unifyCtor, ok]

/-- **Completeness, partial.**  Two types that already have the same normal form unify (given fuel),
and the call leaves the store exactly as it was.  What is missing for full completeness — "if some
substitution extending `σ` unifies `l` and `r` then `unify` does not fail" — is false for the real
code as it stands (`incomplete_nullary_app`, rigid `TParam`s) and is not proved for the remaining
fragment. -/
theorem unify_complete_partial {σ l r x} (hW : WF σ) (hl : NF σ l x) (hr : NF σ r x) :
    ∃ f, unifyF f σ l r = some (none, σ) := by
  obtain ⟨f1, h1⟩ := hl
  obtain ⟨f2, h2⟩ := hr
  have a1 := normF_le h1 (Nat.le_max_left f1 f2)
  have a2 := normF_le h2 (Nat.le_max_right f1 f2)
  have fx := normF_idem hW _ _ _ a1
  refine ⟨max f1 f2 + 1, ?_⟩
  have := unifyF_refl hW _ _ fx
  simp only [unifyF, fx] at this
  simp only [unifyF, a1, a2]
  exact this

/-! ### the constraint loop on `TypeEqual` constraints -/

/-- the invariant of the pass: well-formedness, refinement, and every constraint whose `unify`
returned `true` holds in the FINAL store -/
theorem solveEqs_post {f} : ∀ σ cs ds σ', WF σ → solveEqs f σ cs = some (ds, σ') →
    WF σ' ∧ Ext σ σ' ∧ (ds = [] → ∀ c, c ∈ cs → Eqv σ' c.1 c.2)
  | σ, [], ds, σ', hW, h => by
    simp [solveEqs] at h
    obtain ⟨rfl, rfl⟩ := h
    exact ⟨hW, Ext.refl hW, fun _ c hc => by cases hc⟩
  | σ, (l, r) :: cs, ds, σ', hW, h => by
    simp only [solveEqs] at h
    cases hu : unifyF f σ l r with
    | none => simp [hu] at h
    | some res =>
      obtain ⟨d, σ1⟩ := res
      have P := unifyF_post f σ l r _ hW hu
      cases hs : solveEqs f σ1 cs with
      | none => simp [hu, hs] at h
      | some res2 =>
        obtain ⟨ds2, σ2⟩ := res2
        simp [hu, hs] at h
        obtain ⟨hds, rfl⟩ := h
        obtain ⟨w2, e2, q2⟩ := solveEqs_post σ1 cs ds2 σ2 P.wf hs
        refine ⟨w2, P.ext.trans e2, fun hnil c hc => ?_⟩
        cases d with
        | some d => simp [← hds] at hnil
        | none =>
          have hds2 : ds2 = [] := by simpa [← hds] using hnil
          rcases List.mem_cons.1 hc with rfl | hc
          · exact (P.eqv rfl).transport e2
          · exact q2 hds2 c hc

/-- **If solving the equality constraints pushes no diagnostic, the final store satisfies every one
of them** (normal forms agree), it refines the initial store, and it is acyclic if the initial one was. -/
theorem solve_type_equal_sound {f σ cs σ'} (hW : WF σ) (hA : Acyclic σ) (h : solveEqs f σ cs = some ([], σ')) :
    (∀ c, c ∈ cs → ∃ x y, NF σ' c.1 x ∧ NF σ' c.2 y ∧ agree x y = true) ∧ Acyclic σ' ∧ WF σ' := by
  obtain ⟨w, e, q⟩ := solveEqs_post σ cs [] σ' hW h
  exact ⟨fun c hc => (q rfl c hc).nf, hA.of_ext e, w⟩

/-- … and with diagnostics the store is still acyclic (later phases normalise types of rejected
programs too) -/
theorem solve_type_equal_acyclic {f σ cs ds σ'} (hW : WF σ) (hA : Acyclic σ) (h : solveEqs f σ cs = some (ds, σ')) :
    Acyclic σ' ∧ WF σ' :=
  let ⟨w, e, _⟩ := solveEqs_post σ cs ds σ' hW h
  ⟨hA.of_ext e, w⟩

/-! ## Non-vacuity, and what the real code does NOT guarantee -/

section Examples

def s3 : Store := Store.empty.fresh.fresh.fresh
def W : Nat := Gen.arrayWildcardLen

/-- an alias chain followed by knot-tying: `?0 ~ ?1`, then `?1 ~ Vec[?0]` is refused by the occurs
check THROUGH the alias (if `norm` returned the variable instead of its root, the check would pass here and the
store become cyclic: the seeded change `C04-occurs-check-alias`) -/
example : (do let (_, σ1) ← unifyF 9 s3 (.tvar 0) (.tvar 1)
              let (d, _) ← unifyF 9 σ1 (.tvar 1) (.vec (.tvar 0))
              pure d) = some (some Diag.occurs) := by decide +kernel

/-- a successful deep unification that binds two variables; hypotheses of `unify_sound` hold -/
example : ∃ σ', unifyF 9 s3 (.tuple [.tvar 0, .func [.tvar 1] (.int 32 true)])
                            (.tuple [.vec (.tvar 1), .func [.string] (.int 32 true)]) = some (none, σ') ∧
    normF 9 σ' (.tvar 0) = some (.vec .string) := ⟨_, rfl, rfl⟩

example : WF s3 ∧ Acyclic s3 := reachable_acyclic (.fresh (.fresh (.fresh .empty)))

/-- a failing call keeps the bindings made before the failure (`unify_extends` and
`acyclic_invariant` are stated for every outcome for that reason) -/
example : ∃ σ', unifyF 9 s3 (.tuple [.tvar 0, .bool]) (.tuple [.string, .unit]) = some (some .notEqual, σ') ∧
    normF 9 σ' (.tvar 0) = some .string := ⟨_, rfl, rfl⟩

/-- a store with a cycle: `?0 ↦ Vec[?0]` -/
def knot : Store := { Store.empty with n := 1, val := upd (fun _ => none) 0 (some (.vec (.tvar 0))) }

theorem knot_loops : ∀ f, normF f knot (.tvar 0) = none ∧ normF f knot (.vec (.tvar 0)) = none
  | 0 => by simp
  | f+1 => by
    obtain ⟨h1, h2⟩ := knot_loops f
    constructor
    · rw [normF_tvar]; simpa [knot, upd, Store.empty] using h2
    · rw [normF_vec, h1]; rfl

/-- `Acyclic` is not vacuous: on the knot no fuel suffices, i.e. the real `norm` would not return -/
theorem cyclic_store_not_acyclic : ¬ Acyclic knot := by
  intro h
  obtain ⟨f, t, ht⟩ := h 0
  rw [(knot_loops f).1] at ht
  cases ht

/-- … hence the knot is not reachable by `new_key` and `unify` -/
example : ¬ Reachable knot := fun h => cyclic_store_not_acyclic (reachable_acyclic h).2

/-- **Plain equality of the normal forms is NOT what the real `unify` establishes**: an array of the
wildcard length unifies with an array of length 3 and nothing is bound; the two normal forms differ.
(Replayed on the real code by the tie: the scripts of `gv unify` contain wildcard lengths.) -/
theorem unify_sound_eq_fails :
    ∃ σ', unifyF 9 s3 (.array W .bool) (.array 3 .bool) = some (none, σ') ∧
      normF 9 σ' (.array W .bool) = some (.array W .bool) ∧ normF 9 σ' (.array 3 .bool) = some (.array 3 .bool) ∧
      W ≠ 3 := ⟨_, rfl, rfl, rfl, by decide⟩

/-- … and because agreement is not transitive the outcome depends on the ORDER of the constraints:
with `?0 := [bool; W]` first, both `?0 ~ [bool; 3]` and `?0 ~ [bool; 4]` succeed; with
`?0 := [bool; 3]` first, `?0 ~ [bool; 4]` fails. -/
theorem wildcard_order_dependence :
    (do let (_, σ1) ← unifyF 9 s3 (.tvar 0) (.array W .bool)
        let (d2, σ2) ← unifyF 9 σ1 (.tvar 0) (.array 3 .bool)
        let (d3, _) ← unifyF 9 σ2 (.tvar 0) (.array 4 .bool)
        pure (d2, d3)) = some (none, none) ∧
    (do let (_, σ1) ← unifyF 9 s3 (.tvar 0) (.array 3 .bool)
        let (d2, σ2) ← unifyF 9 σ1 (.tvar 0) (.array W .bool)
        let (d3, _) ← unifyF 9 σ2 (.tvar 0) (.array 4 .bool)
        pure (d2, d3)) = some (none, some .arrayLen) := by decide +kernel

/-- **Incompleteness of the real `unify`** (it fails although the two sides denote the same type):
a nullary application `E[]` against the bare constructor `E` falls to the `_` arm. -/
theorem incomplete_nullary_app :
    (unifyF 9 s3 (.app (.enum "E") []) (.enum "E")).map (·.1) = some (some .notEqual) := by decide +kernel

/-- rigid type parameters: `T` against a variable binds the variable; against anything else fails -/
example : (unifyF 9 s3 (.param "T") (.int 32 true)).map (·.1) = some (some .paramConcrete) ∧
          (unifyF 9 s3 (.param "T") (.param "U")).map (·.1) = some (some .paramName) ∧
          (unifyF 9 s3 (.param "T") (.tvar 0)).map (·.1) = some none := by decide +kernel

/-- `dyn` types are nominal: equal trait names or `dyn-name` -/
example : (unifyF 9 s3 (.dyn "A") (.dyn "B")).map (·.1) = some (some .dynName) ∧
          (unifyF 9 s3 (.dyn "A") (.dyn "A")).map (·.1) = some none := by decide +kernel

/-- the pass goes on after a failing constraint and reports the failures in order -/
example : (solveEqs 9 s3 [(.tvar 0, .bool), (.tvar 0, .string), (.tvar 1, .vec (.tvar 0)), (.tvar 1, .vec .unit)]).map (·.1)
    = some [.notEqual, .notEqual] := by decide +kernel

/-- the hypotheses of `norm_terminates` on a concrete store: `?0 ↦ Vec[?1]`, ranks 1 and 0 -/
example : RankedBy (fun v => if v = 0 then 1 else 0) (s3.bind 0 (.vec (.tvar 1))) ∧
    (∀ v, (fun v => if v = 0 then 1 else 0) v < 2) ∧
    (∀ r t, (s3.bind 0 (.vec (.tvar 1))).val r = some t → depth t ≤ 1) := by
  refine ⟨?_, ?_, ?_⟩
  · intro r t _ hv w hw
    simp only [Store.bind, upd, s3, Store.fresh, Store.empty] at hv
    split at hv
    · rename_i hr0; subst hr0
      cases hv
      simp [occursOk] at hw; subst hw
      simp [Store.bind, s3, Store.fresh, Store.empty]
    · cases hv
  · intro v; simp only; split <;> omega
  · intro r t hv
    simp only [Store.bind, upd, s3, Store.fresh, Store.empty] at hv
    split at hv
    · cases hv; simp [depth]
    · cases hv

end Examples

end Goml.Unify
