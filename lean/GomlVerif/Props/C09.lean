import GomlVerif.Lemmas.AnfShape
import GomlVerif.Lemmas.ProgAnf
/-!
# C09 — evaluation order and effects: left to right, exactly once, short-circuit

Model: `Model/Anf.lean` (`anf`, `anfImm`, `anfList`, `anfArms`, `anfDflt`, `anfProg`), the CPS
A-normalisation of `crates/compiler/src/anf.rs` with the gensym counter threaded; tied to the Rust
on every run by exact comparison with the real ANF of every corpus / generated function.
Semantics: `Model/Sem.lean` (`eval fuel P ρ w e`), whose result carries the whole observable
world (stdout, Ref store, spawned activations, extern events) and the failure point.

The full property would be, for all `P e n ρ w r`,

    (∃ fuel, eval fuel P ρ w e = r ∧ r is not fuel exhaustion) ↔
    (∃ fuel, eval fuel P ρ w (anf e n ret).1 = r ∧ r is not fuel exhaustion)

and the same for `run (anfProg P n)` against `run P`.  The theorems below (the `_partial` forms) state
exactly this — for one expression with the called functions unchanged
(`anf_preserves_partial`) and for the whole file (`anf_file_preserves_partial`, every function
body replaced by its A-normal form, `anfProg`) — for every expression `e` with
`InAnfFragment e n` (every function body of the file: `FileInAnfFragment`), except that
 * a source run that goes wrong (`Fail.stuck`, i.e. ill-typed IR) need not be matched at all, and a run of
   the output is a run of the source unless the source can go wrong (ANF names all operands before the
   operation, so an ill-typed operand is noticed later than in the source, or never);
 * `InAnfFragment` requires (a) that no `let`-bound name of an operand is mentioned by another operand of
   the same node (true when binders are unique, as goml's renamer and gensym guarantee) and
   (b) that no temporary `t<m>` handed out for `e` occurs in `e` (C19's
   `local_vs_temp_disjoint`).  The driver evaluates the predicate on every real Lift function
   on every run.
-/
namespace Goml.C09
open Goml Goml.Sem Goml.Anf

/-- the fragment (decidable): `Model/AnfFrag.lean` -/
def InAnfFragment (e : Expr) (n : Nat) : Prop := inAnfFragment e n = true

instance (e : Expr) (n : Nat) : Decidable (InAnfFragment e n) := by
  unfold InAnfFragment; infer_instance

theorem hyp_of_fragment {e : Expr} {n : Nat} (h : InAnfFragment e n) : Hyp [] e n (anf e n ret).2 :=
  hyp_of_inFragment h

/-! ## fuel -/

/-- a result other than fuel exhaustion is stable under more fuel -/
theorem eval_fuel_monotone (P : Prog) {n m : Nat} (hnm : n ≤ m) {ρ : Env} {w : World} {e : Expr} {r : Res Val}
    (h : eval n P ρ w e = r) (hr : NF r) : eval m P ρ w e = r := eval_mono hnm h hr

/-! ## the output is in A-normal form -/

/-- every operand in the output is immediate (`ImmExpr`), for every Lift expression -/
theorem anf_is_anf (e : Expr) (n : Nat) (h : isLift e = true) : isA (anf e n ret).1 = true := by
  rw [anf_ret, isA_wrap]
  have := dec_shape e n h
  simp [this.1, isA_of_isC this.2]

/-! ## `anf e k`: a chain of bindings around the continuation -/

/-- For EVERY expression and EVERY continuation: evaluating `anf e n k` is evaluating the chain of
    bindings `(dec e n).L` (the operands of `e`, named in evaluation order) and then what `k`
    builds from the final expression `(dec e n).c`, in the environment extended by the chain. -/
theorem anf_cont (P : Prog) (e : Expr) (n : Nat) (k : Kont Expr) (ρ : Env) (w : World) (r : Res Val) :
    Ev P (anf e n k).1 ρ w r ↔
      RB (EvB P (dec e n).L ρ w) (fun ρ1 w1 => Ev P (k (dec e n).c (dec e n).n).1 ρ1 w1) r := by
  rw [anf_eq_dec]; exact ev_wrap

/-! ## preservation -/

/-- Source to ANF, relational form: the chain of bindings fails where `e` fails, or ends in an
    environment where the final expression evaluates to what `e` evaluates to. -/
theorem anf_chain_fwd (P : Prog) {e : Expr} {n : Nat} (h : InAnfFragment e n) {ρ : Env} {w : World} {r : Res Val}
    (he : Ev P e ρ w r) (hs : ¬Stuck r) :
    RB (EvB P (dec e n).L ρ w) (fun ρ1 w1 => Ev P (dec e n).c ρ1 w1) r :=
  fw P e n _ [] ρ ρ w r (hyp_of_fragment h) (Agree.refl _ _) he hs

/-- ANF to source -/
theorem anf_chain_bwd (P : Prog) {e : Expr} {n : Nat} (h : InAnfFragment e n) {ρ : Env} {w : World} {r : Res Val}
    (he : RB (EvB P (dec e n).L ρ w) (fun ρ1 w1 => Ev P (dec e n).c ρ1 w1) r) :
    Ev P e ρ w r ∨ Wrong P e ρ w :=
  bw P e n _ [] ρ ρ w r (hyp_of_fragment h) (Agree.refl _ _) he

/-- **anf_preserves** (partial: see the header).  In the fuel-monotone form: whatever `e` evaluates
    to with some fuel — value, stdout, store, spawned activations, or the failure and the world
    at the failure point — `anf e` evaluates to with some fuel, unless it is a `Fail.stuck`; and whatever
    `anf e` evaluates to, `e` evaluates to or `e` can go wrong. -/
theorem anf_preserves_partial (P : Prog) (e : Expr) (n : Nat) (ρ : Env) (w : World) (h : InAnfFragment e n) :
    (∀ fuel r, eval fuel P ρ w e = r → NF r → ¬Stuck r → ∃ m, eval m P ρ w (anf e n ret).1 = r) ∧
    (∀ fuel r, eval fuel P ρ w (anf e n ret).1 = r → NF r →
      (∃ m, eval m P ρ w e = r) ∨ (∃ m s w', eval m P ρ w e = .fail (.stuck s) w')) := by
  constructor
  · intro fuel r he hn
    exact UnlessStuck.fuel (sim_top (sim .fwd e) n _ [] ρ ρ w (hyp_of_fragment h) (Agree.refl _ _) r ⟨fuel, he, hn⟩)
  · intro fuel r he hn
    exact OrWrong.fuel (sim_top (sim .bwd e) n _ [] ρ ρ w (hyp_of_fragment h) (Agree.refl _ _) r ⟨fuel, he, hn⟩)

/-- if the source expression does not go wrong, `e` and `anf e` have the same outcomes -/
theorem anf_preserves_outcome (P : Prog) (e : Expr) (n : Nat) (ρ : Env) (w : World) (h : InAnfFragment e n)
    (hw : ¬Wrong P e ρ w) (r : Res Val) : Ev P e ρ w r ↔ Ev P (anf e n ret).1 ρ w r := by
  constructor
  · intro he
    refine sim_top (sim .fwd e) n _ [] ρ ρ w (hyp_of_fragment h) (Agree.refl _ _) r he ?_
    intro hs; exact hw (wrong_of_stuck he hs)
  · intro he
    rcases sim_top (sim .bwd e) n _ [] ρ ρ w (hyp_of_fragment h) (Agree.refl _ _) r he with h1 | h1
    · exact h1
    · exact absurd h1 hw

/-! ## the whole file -/

/-- `allInFragment` (decidable; the driver evaluates it on every real Lift file) -/
def FileInAnfFragment (P : Prog) (n : Nat) : Prop := allInFragment P n = true

instance (P : Prog) (n : Nat) : Decidable (FileInAnfFragment P n) := by
  unfold FileInAnfFragment; infer_instance

/-- **anf_file_preserves** (partial: see the header).  `anfProg P n` is the file `anf_file` produces
    from `P` starting at gensym counter `n`.  Applying any function value to any arguments in any
    world — in particular `main` to no arguments in the initial world, which is `Sem.run` — has
    the same outcome (result value, stdout, store, spawned activations, extern events, failure
    and failure point) before and after, for some amount of fuel — forward for every outcome but a
    `Fail.stuck`, backward unless the application can go wrong in `P`. -/
theorem anf_file_preserves_partial (P : Prog) (n : Nat) (h : FileInAnfFragment P n) (w : World) (f : Val)
    (args : List Val) :
    (∀ fuel r, apply fuel P w f args = r → NF r → ¬Stuck r → ∃ m, apply m (anfProg P n) w f args = r) ∧
    (∀ fuel r, apply fuel (anfProg P n) w f args = r → NF r →
      (∃ m, apply m P w f args = r) ∨ (∃ m s w', apply m P w f args = .fail (.stuck s) w')) := by
  constructor
  · intro fuel r ha hn
    subst ha
    exact UnlessStuck.fuel ((prog_sim transfer_unlessStuck (progFw_anf h) fuel).app w f args hn)
  · intro fuel r ha hn
    subst ha
    exact OrWrong.fuel ((prog_sim transfer_orWrong (progBw_anf h) fuel).app w f args hn)

/-- the same for `Sem.run` (what the check's stage-wise oracle computes): a run of the Lift file
    that ends normally or fails with a panic is reproduced, outcome for outcome, by the ANF file,
    under either `go` schedule -/
theorem anf_run_preserves_partial (P : Prog) (n : Nat) (h : FileInAnfFragment P n) (entry : String) (eager : Bool)
    (fuel : Nat) (hn : NF (apply fuel P { eager := eager } (.fn entry) []))
    (hs : ¬Stuck (apply fuel P { eager := eager } (.fn entry) [])) :
    ∃ m, run m (anfProg P n) entry eager = run fuel P entry eager := by
  obtain ⟨m, hm⟩ := (anf_file_preserves_partial P n h { eager := eager } (.fn entry) []).1 fuel _ rfl hn hs
  exact ⟨m, by unfold run; rw [hm]⟩

/-! ## corollaries: order, exactly once, selected branch, short-circuit, loop condition

`EvL` threads the world through the operands from left to right, evaluating each exactly once
(`evL_cons`); the world is the trace (stdout, store, spawned activations). -/

/-- the arguments of a call — and before them the callee — are evaluated left to right, each
    exactly once, and then the call happens in the world they leave behind -/
theorem args_left_to_right_once (P : Prog) (ty : Ty) (f : Expr) (args : List Expr) (n : Nat) (ρ : Env) (w : World)
    (h : InAnfFragment (.call ty f args) n) (hw : ¬Wrong P (.call ty f args) ρ w) (r : Res Val) :
    Ev P (anf (.call ty f args) n ret).1 ρ w r ↔
      RB (Ev P f ρ w) (fun fv w1 => RB (EvL P args ρ w1) (fun vs w2 => App P w2 fv vs)) r := by
  rw [← anf_preserves_outcome P _ n ρ w h hw r, ev_call]

/-- the same for the fields of a tuple (arrays and constructors: the same by `ev_array`, `ev_constr`) -/
theorem items_left_to_right_once (P : Prog) (ty : Ty) (items : List Expr) (n : Nat) (ρ : Env) (w : World)
    (h : InAnfFragment (.tuple ty items) n) (hw : ¬Wrong P (.tuple ty items) ρ w) (r : Res Val) :
    Ev P (anf (.tuple ty items) n ret).1 ρ w r ↔
      RB (EvL P items ρ w) (fun vs w' r => r = .ok (.tuple vs) w') r := by
  rw [← anf_preserves_outcome P _ n ρ w h hw r, ev_tuple]

/-- only the selected branch of an `if` runs: after the condition, the outcome is the outcome of
    that branch alone, from the world the condition left -/
theorem only_selected_branch (P : Prog) (c t e : Expr) (n : Nat) (ρ : Env) (w w1 : World) (b : Bool)
    (h : InAnfFragment (.ite c t e) n) (hw : ¬Wrong P (.ite c t e) ρ w)
    (hc : Ev P c ρ w (.ok (.bool b) w1)) (r : Res Val) :
    Ev P (anf (.ite c t e) n ret).1 ρ w r ↔ Ev P (if b then t else e) ρ w1 r := by
  rw [← anf_preserves_outcome P _ n ρ w h hw r, ev_ite, RB.of_pure (Ev.ok_iff hc)]
  cases b <;> exact Iff.rfl

/-- `match`: the scrutinee once, then the first arm whose head matches, and nothing else -/
theorem only_selected_arm (P : Prog) (ty : Ty) (s : Expr) (arms : List Arm) (d : Option Expr) (n : Nat)
    (ρ : Env) (w : World) (h : InAnfFragment (.matchE ty s arms d) n)
    (hw : ¬Wrong P (.matchE ty s arms d) ρ w) (r : Res Val) :
    Ev P (anf (.matchE ty s arms d) n ret).1 ρ w r ↔
      RB (Ev P s ρ w) (fun v w1 => EvA P ρ w1 v arms d) r := by
  rw [← anf_preserves_outcome P _ n ρ w h hw r, ev_matchE]

/-- `&&` / `||`: when the left operand decides, the right operand is not evaluated — the world is
    the one the left operand left -/
theorem short_circuit (P : Prog) (op : BinOp) (ty : Ty) (l r : Expr) (n : Nat) (ρ : Env) (w w1 : World)
    (b : Bool) (hop : (op = .and ∧ b = false) ∨ (op = .or ∧ b = true))
    (h : InAnfFragment (.bin op ty l r) n) (hw : ¬Wrong P (.bin op ty l r) ρ w)
    (hl : Ev P l ρ w (.ok (.bool b) w1)) (x : Res Val) :
    Ev P (anf (.bin op ty l r) n ret).1 ρ w x ↔ x = .ok (.bool b) w1 := by
  rw [← anf_preserves_outcome P _ n ρ w h hw x, ev_bin, RB.of_pure (Ev.ok_iff hl)]
  rcases hop with ⟨rfl, rfl⟩ | ⟨rfl, rfl⟩ <;> simp [binK, scVal]

/-- `while`: after every iteration the condition is evaluated again, in the world the body left -/
theorem while_recheck (P : Prog) (c b : Expr) (n : Nat) (ρ : Env) (w w1 w2 : World) (u : Val)
    (h : InAnfFragment (.while c b) n) (hw : ¬Wrong P (.while c b) ρ w)
    (hc : Ev P c ρ w (.ok (.bool true) w1)) (hb : Ev P b ρ w1 (.ok u w2)) (r : Res Val) :
    Ev P (anf (.while c b) n ret).1 ρ w r ↔ Ev P (.while c b) ρ w2 r := by
  rw [← anf_preserves_outcome P _ n ρ w h hw r, ev_while, RB.of_pure (Ev.ok_iff hc)]
  exact RB.of_pure (Ev.ok_iff hb)

/-- `while`: when the condition is false the body does not run -/
theorem while_exit (P : Prog) (c b : Expr) (n : Nat) (ρ : Env) (w w1 : World)
    (h : InAnfFragment (.while c b) n) (hw : ¬Wrong P (.while c b) ρ w)
    (hc : Ev P c ρ w (.ok (.bool false) w1)) (r : Res Val) :
    Ev P (anf (.while c b) n ret).1 ρ w r ↔ r = .ok .unit w1 := by
  rw [← anf_preserves_outcome P _ n ρ w h hw r, ev_while, RB.of_pure (Ev.ok_iff hc)]
  exact Iff.rfl

/-- `go e`: the closure expression once, then exactly one activation (run at the spawn under the
    eager schedule, queued under the lazy one), and the spawner continues with `unit` -/
theorem go_once (P : Prog) (e : Expr) (n : Nat) (ρ : Env) (w : World)
    (h : InAnfFragment (.go e) n) (hw : ¬Wrong P (.go e) ρ w) (r : Res Val) :
    Ev P (anf (.go e) n ret).1 ρ w r ↔ RB (Ev P e ρ w) (goK P) r := by
  rw [← anf_preserves_outcome P _ n ρ w h hw r, ev_go]

/-! ## non-vacuity: the hypotheses hold on concrete effectful expressions, and they are needed -/

section Examples

private def i32 (v : Int) : Expr := .prim (.int 32 true v)
private def pr (s : String) : Expr :=
  .call .unit (.var "string_println" (.func [.string] .unit)) [.prim (.str s)]
private def f2 : Fn := ⟨"f2", [], [("a", .int 32 true), ("b", .int 32 true)], .int 32 true,
  .bin .sub (.int 32 true) (.var "a" (.int 32 true)) (.var "b" (.int 32 true))⟩
private def one : Fn := ⟨"one", [], [], .int 32 true, i32 1⟩
private def P0 : Prog := { fns := [f2, one] }

/-- what we look at: the integer result and everything printed, or the failure and what was
    printed before it -/
private def obs : Res Val → Option Int × String × String
  | .ok (.int _ _ v) w => (some v, w.out, "ok")
  | .ok _ w => (none, w.out, "ok")
  | .fail f w => (none, w.out, failStr f)

/-- `f2({print "a"; 1}, {print "b"; 2} + 3)`: printing calls in two argument positions -/
private def e1 : Expr :=
  .call (.int 32 true) (.var "f2" (.func [] .unit))
    [.letE "x/1" (pr "a") (i32 1), .bin .add (.int 32 true) (.letE "y/2" (pr "b") (i32 2)) (i32 3)]

example : InAnfFragment e1 0 := by decide +kernel
example : isLift e1 = true := by decide +kernel
example : (anf e1 0 ret).2 = 3 := by decide +kernel
example : obs (eval 50 P0 [] {} e1) = (some (-4), "a\nb\n", "ok") := by decide +kernel
example : obs (eval 50 P0 [] {} (anf e1 0 ret).1) = (some (-4), "a\nb\n", "ok") := by decide +kernel

/-- `{print "l"; false} && {print "r"; true}`: the lowering to `if` keeps the right operand silent -/
private def e2 : Expr :=
  .bin .and .bool (.letE "p/1" (pr "l") (.prim (.bool false))) (.letE "q/2" (pr "r") (.prim (.bool true)))

example : InAnfFragment e2 0 := by decide +kernel
example : obs (eval 50 P0 [] {} e2) = (none, "l\n", "ok") := by decide +kernel
example : obs (eval 50 P0 [] {} (anf e2 0 ret).1) = (none, "l\n", "ok") := by decide +kernel

/-- a failing operation between two prints: `{print "a"; 1} + (1 / 0) + {print "never"; 2}` fails
    after "a" and before "never", before and after ANF -/
private def e3 : Expr :=
  .bin .add (.int 32 true)
    (.bin .add (.int 32 true) (.letE "x/1" (pr "a") (i32 1)) (.bin .div (.int 32 true) (i32 1) (i32 0)))
    (.letE "y/2" (pr "never") (i32 2))

example : InAnfFragment e3 0 := by decide +kernel
example : obs (eval 50 P0 [] {} e3) = (none, "a\n", "panic:integer divide by zero") := by decide +kernel
example : obs (eval 50 P0 [] {} (anf e3 0 ret).1) = (none, "a\n", "panic:integer divide by zero") := by
  decide +kernel

/-- the freshness hypothesis is needed: a source variable spelled like the temporary `t0` is
    captured (`one() + t0` becomes `let t0 = one() in t0 + t0`) -/
private def eBad : Expr :=
  .bin .add (.int 32 true) (.call (.int 32 true) (.var "one" (.func [] (.int 32 true))) []) (.var "t0" (.int 32 true))

example : ¬InAnfFragment eBad 0 := by decide +kernel
example : obs (eval 50 P0 [("t0", .int 32 true 5)] {} eBad) = (some 6, "", "ok") := by decide +kernel
example : obs (eval 50 P0 [("t0", .int 32 true 5)] {} (anf eBad 0 ret).1) = (some 2, "", "ok") := by
  decide +kernel

/-- the scoping hypothesis is needed: `x + (let x = 5 in x)` becomes
    `let x = 5 in let t0 = x in x + t0`, capturing the outer `x` -/
private def eCap : Expr :=
  .bin .add (.int 32 true) (.var "x" (.int 32 true)) (.letE "x" (i32 5) (.var "x" (.int 32 true)))

example : ¬InAnfFragment eCap 0 := by decide +kernel
example : obs (eval 50 P0 [("x", .int 32 true 1)] {} eCap) = (some 6, "", "ok") := by decide +kernel
example : obs (eval 50 P0 [("x", .int 32 true 1)] {} (anf eCap 0 ret).1) = (some 10, "", "ok") := by
  decide +kernel

/-- a whole file: `main` calls `loud` twice in argument position and prints the result -/
private def loud : Fn := ⟨"loud", [], [("s", .string), ("v", .int 32 true)], .int 32 true,
  .letE "u/1" (.call .unit (.var "string_println" (.func [.string] .unit)) [.var "s" .string]) (.var "v" (.int 32 true))⟩
private def mainFn : Fn := ⟨"main", [], [], .unit,
  .letE "r/1" (.call (.int 32 true) (.var "f2" (.func [] .unit))
      [.call (.int 32 true) (.var "loud" (.func [] .unit)) [.prim (.str "first"), i32 7],
       .call (.int 32 true) (.var "loud" (.func [] .unit)) [.prim (.str "second"), i32 2]])
    (.call .unit (.var "string_println" (.func [.string] .unit))
      [.call .string (.var "int32_to_string" (.func [] .string)) [.var "r/1" (.int 32 true)]])⟩
private def P1 : Prog := { fns := [f2, loud, mainFn] }

example : FileInAnfFragment P1 0 := by decide +kernel
example : (run 60 P1).out = "first\nsecond\n5\n" ∧ (run 60 P1).status = "ok" := by decide +kernel
example : (run 60 (anfProg P1 0)).out = "first\nsecond\n5\n" ∧ (run 60 (anfProg P1 0)).status = "ok" := by
  decide +kernel

end Examples

end Goml.C09
