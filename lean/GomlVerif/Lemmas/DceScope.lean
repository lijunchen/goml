import GomlVerif.Lemmas.DceSyntax
/-!
Soundness of the `live` / `needs_decl` sets of the backward scan `dce_block_with_live` with respect to Go's scope rules
(`scope_main`, behind `dce_no_unused` and `dce_decl_before_use`).
-/
namespace Goml.Dce
open Goml.Go

theorem dce_id :
    (∀ e, noBlockExpr e = true → dceExpr e = e) ∧ (∀ es, noBlockList es = true → dceExprs es = es) ∧
    (∀ fs, noBlockFields fs = true → dceFields fs = fs) := by
  apply noBlockExpr.mutual_induct
  all_goals intros
  all_goals simp_all only [noBlockExpr, noBlockList, noBlockFields, dceExpr, dceExprs, dceFields, Bool.and_eq_true,
    Bool.false_eq_true]

theorem dceExpr_id : ∀ e : GExpr, noBlockExpr e = true → dceExpr e = e := dce_id.1
theorem dceExprs_id : ∀ es : List GExpr, noBlockList es = true → dceExprs es = es := dce_id.2.1
theorem dceFields_id : ∀ fs : List GField, noBlockFields fs = true → dceFields fs = fs := dce_id.2.2

theorem reads_keepEffect (e : GExpr) : readsStmt (keepEffect e) = varsUsed e := by
  unfold keepEffect
  split
  · split <;> simp [readsStmt]
  · simp [readsStmt]
  · simp [readsStmt]

theorem assigned_keepEffect (e : GExpr) (x : String) (h : x ∈ assignedStmt (keepEffect e)) : x = "_" := by
  unfold keepEffect at h
  split at h
  · split at h <;> simp [assignedStmt] at h
    exact h
  · simp [assignedStmt] at h
  · simpa [assignedStmt] using h

/-! ### declarations and assignments: what the scan does when the variable is live, needed, or dead -/
def varsUsedOpt : Option GExpr → Names
  | some e => varsUsed e
  | none => []

/-- What the scan leaves of an initialiser or stored value whose variable is dead: the statement
    that keeps its effects when it has any (`deadOut`), and the live set in front of it. -/
def deadOut : Option GExpr → List GStmt
  | some e => if exprEffects e then [keepEffect e] else []
  | none => []

def deadLive (live : Names) : Option GExpr → Names
  | some e => if exprEffects e then uni live (varsUsed e) else live
  | none => live

theorem dceStmt_varDecl (x : String) (ty : GTy) (v : Option GExpr) (live needs : Names) :
    dceStmt (.varDecl x ty v) live needs =
      if x ∈ live then
        ⟨[.varDecl x ty (v.map dceExpr)], rem (uni live (varsUsedOpt (v.map dceExpr))) x, needs⟩
      else
        ⟨(if x ∈ needs then [.varDecl x ty none] else []) ++ deadOut (v.map dceExpr),
          deadLive live (v.map dceExpr), if x ∈ needs then rem needs x else needs⟩ := by
  cases v with
  | none =>
    by_cases hl : x ∈ live <;> by_cases hn : x ∈ needs <;>
      simp [dceStmt, hl, hn, deadOut, deadLive, varsUsedOpt, uni]
  | some e =>
    by_cases hl : x ∈ live <;> by_cases hn : x ∈ needs <;> by_cases he : exprEffects (dceExpr e) = true <;>
      simp [dceStmt, hl, hn, he, deadOut, deadLive, varsUsedOpt]

theorem dceStmt_assign (x : String) (v : GExpr) (live needs : Names) :
    dceStmt (.assign x v) live needs =
      if x ∈ live then ⟨[.assign x (dceExpr v)], rem (uni live (varsUsed (dceExpr v))) x, uni needs [x]⟩
      else ⟨deadOut (some (dceExpr v)), deadLive live (some (dceExpr v)), needs⟩ := by
  by_cases hl : x ∈ live <;> by_cases he : exprEffects (dceExpr v) = true <;>
    simp [dceStmt, hl, he, deadOut, deadLive]

/-! ### the optional last block of `if` / `switch` / type switch

The scan has one row with and one without the block: one equation per kind covers both.  The specification side
(`scopeErrsStmt`, `shapeOKStmt`, `semOKStmt`, `unusedNested`) reads the block by an inner `match`; its rows are stated here
with `d` a variable and used as rewrite rules (unfolding such a row by `simp only [scopeErrsStmt]` while `d` is a variable
yields a term the kernel rejects). -/
def outOpt (d : Option (List GStmt)) (L : Names) : Option (List GStmt) :=
  d.map fun b => (dceStmts b L).out

def liveOpt : Option (List GStmt) → Names → Names
  | some b, L => (dceStmts b L).live
  | none, _ => []

def needsOpt : Option (List GStmt) → Names → Names
  | some b, L => assignedStmts (dceStmts b L).out
  | none, _ => []

def OptOK (D : Names) (P : GExpr → Bool) (sc : Names) (d : Option (List GStmt)) (L : Names) : Prop :=
  ∀ b, d = some b → scopeErrs D sc b = [] ∧ shapeOK b = true ∧ semOK P b L = true

def freeOpt : Option (List GStmt) → Names → Names
  | some b, L => freeVars (dceStmts b L).out
  | none, _ => []

theorem dceStmt_ite_eq (c : GExpr) (t : List GStmt) (d : Option (List GStmt)) (live needs : Names) :
    dceStmt (.ite c t d) live needs =
      ⟨[.ite (dceExpr c) (dceStmts t live).out (outOpt d live)],
       uni (uni (uni live (varsUsed (dceExpr c))) (dceStmts t live).live) (liveOpt d live),
       uni (uni needs (assignedStmts (dceStmts t live).out)) (needsOpt d live)⟩ := by
  cases d <;> simp [dceStmt, outOpt, liveOpt, needsOpt, uni_nil]

theorem dceStmt_switch_eq (e : GExpr) (cs : List GCase) (d : Option (List GStmt)) (live needs : Names) :
    dceStmt (.switch e cs d) live needs =
      ⟨[.switch (dceExpr e) (dceCases cs live).cases (outOpt d (dceCases cs live).live)],
       uni (uni (uni (dceCases cs live).live (varsUsed (dceExpr e))) (dceCases cs live).liveIn)
         (liveOpt d (dceCases cs live).live),
       uni (uni needs (dceCases cs live).needs) (needsOpt d (dceCases cs live).live)⟩ := by
  cases d <;> simp [dceStmt, outOpt, liveOpt, needsOpt, uni_nil]

theorem dceStmt_tswitch_eq (bind : Option String) (e : GExpr) (cs : List GTCase) (d : Option (List GStmt))
    (live needs : Names) :
    dceStmt (.tswitch bind e cs d) live needs =
      ⟨[.tswitch (keepBind bind (uni (dceTCases cs live).free (freeOpt d live))) (dceExpr e) (dceTCases cs live).cases
          (outOpt d live)],
       uni (uni (uni live (varsUsed (dceExpr e))) (dceTCases cs live).liveIn) (liveOpt d live),
       uni (uni needs (dceTCases cs live).needs) (needsOpt d live)⟩ := by
  cases d <;> simp [dceStmt, outOpt, liveOpt, needsOpt, freeOpt, uni_nil]

theorem scopeErrsStmt_ite (D sc : Names) (c : GExpr) (t : List GStmt) (d : Option (List GStmt)) :
    scopeErrsStmt D sc (.ite c t d) = undecl D sc (varsUsed c) ++ scopeErrs D sc t ++
      (match d with | some b => scopeErrs D sc b | none => []) := by
  cases d <;> simp only [scopeErrsStmt]

theorem shapeOKStmt_ite (c : GExpr) (t : List GStmt) (d : Option (List GStmt)) :
    shapeOKStmt (.ite c t d) = (noBlockExpr c && !(varsUsed c).contains "_" && shapeOK t &&
      (match d with | some b => shapeOK b | none => true)) := by
  cases d <;> simp only [shapeOKStmt]

theorem semOKStmt_ite (P : GExpr → Bool) (c : GExpr) (t : List GStmt) (d : Option (List GStmt)) (live : Names) :
    semOKStmt P (.ite c t d) live = (semOK P t live && (match d with | some b => semOK P b live | none => true)) := by
  cases d <;> simp [semOKStmt]

theorem unusedNested_ite (c : GExpr) (t : List GStmt) (d : Option (List GStmt)) :
    unusedNested (.ite c t d) = unusedStmts t ++ (match d with | some b => unusedStmts b | none => []) := by
  cases d <;> simp only [unusedNested]

theorem scopeErrsStmt_switch (D sc : Names) (e : GExpr) (cs : List GCase) (d : Option (List GStmt)) :
    scopeErrsStmt D sc (.switch e cs d) = undecl D sc (varsUsed e) ++ scopeErrsCases D sc cs ++
      (match d with | some b => scopeErrs D sc b | none => []) := by
  cases d <;> simp only [scopeErrsStmt]

theorem shapeOKStmt_switch (e : GExpr) (cs : List GCase) (d : Option (List GStmt)) :
    shapeOKStmt (.switch e cs d) = (noBlockExpr e && !(varsUsed e).contains "_" && shapeOKCases cs &&
      (match d with | some b => shapeOK b | none => true)) := by
  cases d <;> simp only [shapeOKStmt]

theorem semOKStmt_switch (P : GExpr → Bool) (e : GExpr) (cs : List GCase) (d : Option (List GStmt)) (live : Names) :
    semOKStmt P (.switch e cs d) live =
      (semOKCases P cs live && (match d with | some b => semOK P b (dceCases cs live).live | none => true)) := by
  cases d <;> simp [semOKStmt]

theorem unusedNested_switch (e : GExpr) (cs : List GCase) (d : Option (List GStmt)) :
    unusedNested (.switch e cs d) = unusedCases cs ++ (match d with | some b => unusedStmts b | none => []) := by
  cases d <;> simp only [unusedNested]

theorem scopeErrsStmt_tswitch (D sc : Names) (bind : Option String) (e : GExpr) (cs : List GTCase)
    (d : Option (List GStmt)) :
    scopeErrsStmt D sc (.tswitch bind e cs d) = undecl D sc (varsUsed e) ++
      (match bind with
       | some b => (match e with | .var y _ => if y == b && sc.contains b then [] else [b] | _ => [b])
       | none => []) ++ scopeErrsTCases D sc cs ++ (match d with | some b => scopeErrs D sc b | none => []) := by
  cases d <;> rfl

theorem shapeOKStmt_tswitch (bind : Option String) (e : GExpr) (cs : List GTCase) (d : Option (List GStmt)) :
    shapeOKStmt (.tswitch bind e cs d) = (noBlockExpr e && !(varsUsed e).contains "_" && shapeOKTCases cs &&
      (match d with | some b => shapeOK b | none => true) &&
      (match bind with
       | some b => b != "_" && !(writesTCases cs).contains b &&
           !(match d with | some db => writesStmts db | none => []).contains b
       | none => true)) := by
  cases d <;> rfl

theorem semOKStmt_tswitch (P : GExpr → Bool) (bind : Option String) (e : GExpr) (cs : List GTCase)
    (d : Option (List GStmt)) (live : Names) :
    semOKStmt P (.tswitch bind e cs d) live =
      (semOKTCases P cs live && (match d with | some b => semOK P b live | none => true)) := by
  cases d <;> simp [semOKStmt]

theorem unusedNested_tswitch (bind : Option String) (e : GExpr) (cs : List GTCase) (d : Option (List GStmt)) :
    unusedNested (.tswitch bind e cs d) =
      (match bind with
       | some b =>
         if b == "_" || (readsTCases cs).contains b
            || (match d with | some db => (readsStmts db).contains b | none => false) then [] else [b]
       | none => []) ++ unusedTCases cs ++ (match d with | some b => unusedStmts b | none => []) := by
  cases d <;> rfl

/-- `(generalizing := false)` keeps the earlier hypotheses about `d` out of the motive, so that each `match` is the term the
    equations above produce -/
theorem OptOK.of_rows {D : Names} {P : GExpr → Bool} {sc : Names} {d : Option (List GStmt)} {L : Names}
    (h1 : (match (generalizing := false) d with | some b => scopeErrs D sc b | none => []) = [])
    (h2 : (match (generalizing := false) d with | some b => shapeOK b | none => true) = true)
    (h3 : (match (generalizing := false) d with | some b => semOK P b L | none => true) = true) : OptOK D P sc d L := by
  intro b hb; subst hb; exact ⟨h1, h2, h3⟩

theorem mem_deadLive {live : Names} {v : Option GExpr} {y : String} (h : y ∈ deadLive live v) :
    y ∈ live ∨ y ∈ varsUsedOpt v := by
  cases v with
  | none => exact Or.inl h
  | some e =>
    simp only [deadLive] at h
    split at h
    · exact mem_uni.mp h
    · exact Or.inl h

theorem mem_deadLive_of_mem {live : Names} {v : Option GExpr} {y : String} (h : y ∈ live) :
    y ∈ deadLive live v := by
  cases v with
  | none => exact h
  | some e => simp only [deadLive]; split <;> simp [h]

/-! ### soundness of `live` and `needs_decl` with respect to the reads of the output -/
theorem mem_reads_append (x : String) : ∀ a b : List GStmt,
    x ∈ readsStmts (a ++ b) ↔ x ∈ readsStmts a ∨ x ∈ readsStmts b
  | [], b => by simp [readsStmts]
  | s :: a, b => by
    have ih := mem_reads_append x a b
    simp only [List.cons_append, readsStmts, mem_uni, ih, or_assoc]

theorem mem_reads_cons (x : String) (s : GStmt) (b : List GStmt) :
    x ∈ readsStmts (s :: b) ↔ x ∈ readsStmt s ∨ x ∈ readsStmts b := by
  simp [readsStmts]

theorem mem_writes_append (x : String) : ∀ a b : List GStmt,
    x ∈ writesStmts (a ++ b) ↔ x ∈ writesStmts a ∨ x ∈ writesStmts b
  | [], b => by simp [writesStmts]
  | s :: a, b => by
    have ih := mem_writes_append x a b
    simp only [List.cons_append, writesStmts, mem_uni, ih, or_assoc]

theorem reads_varDecl (x : String) (ty : GTy) (v : Option GExpr) :
    readsStmt (.varDecl x ty v) = varsUsedOpt v := by
  cases v <;> rfl

theorem reads_deadOut (v : Option GExpr) (live : Names) (x : String) (h : x ∈ deadLive live v) :
    x ∈ readsStmts (deadOut v) ∨ x ∈ live := by
  cases v with
  | none => exact Or.inr h
  | some e =>
    by_cases he : exprEffects e = true <;> simp [deadOut, deadLive, he, readsStmts, reads_keepEffect] at h ⊢
    · exact h.symm
    · exact h

theorem assigned_deadOut (v : Option GExpr) (x : String) (h : x ∈ assignedStmts (deadOut v)) : x = "_" := by
  cases v with
  | none => simp [deadOut, assignedStmts] at h
  | some e =>
    simp only [deadOut] at h
    split at h
    · simp only [assignedStmts, mem_uni] at h
      exact h.elim (assigned_keepEffect e x) (by simp)
    · simp [assignedStmts] at h

mutual
theorem live_sub_stmts : ∀ (ss : List GStmt) (L : Names) (x : String),
    x ∈ (dceStmts ss L).live → x ∈ readsStmts (dceStmts ss L).out ∨ x ∈ L
  | [], L, x, h => by simp [dceStmts] at h; exact Or.inr h
  | s :: rest, L, x, h => by
    simp only [dceStmts] at h ⊢
    rw [mem_reads_append]
    rcases live_sub_stmt s _ _ x h with h1 | h1
    · exact Or.inl (Or.inl h1)
    · rcases live_sub_stmts rest L x h1 with h2 | h2
      · exact Or.inl (Or.inr h2)
      · exact Or.inr h2
theorem live_sub_stmt : ∀ (s : GStmt) (live needs : Names) (x : String),
    x ∈ (dceStmt s live needs).live → x ∈ readsStmts (dceStmt s live needs).out ∨ x ∈ live
  | .expr e, live, needs, x, h | .go e, live, needs, x, h | .ret (some e), live, needs, x, h => by
    simp [dceStmt, readsStmts, readsStmt] at h ⊢; rcases h with h | h <;> simp [h]
  | .varDecl y ty v, live, needs, x, h => by
    rw [dceStmt_varDecl] at h ⊢
    by_cases hl : y ∈ live
    · simp only [hl, if_true, mem_rem, mem_uni] at h
      simp only [hl, if_true, mem_reads_cons, reads_varDecl]
      exact h.1.symm.imp_left Or.inl
    · simp only [hl, if_false] at h ⊢
      rw [mem_reads_append]
      exact (reads_deadOut _ live x h).imp_left Or.inr
  | .assign y v, live, needs, x, h => by
    rw [dceStmt_assign] at h ⊢
    by_cases hl : y ∈ live
    · simp only [hl, if_true, mem_rem, mem_uni] at h
      simp only [hl, if_true, mem_reads_cons, readsStmt]
      exact h.1.symm.imp_left Or.inl
    · simp only [hl, if_false] at h ⊢
      exact reads_deadOut _ live x h
  | .indexAssign a i v, live, needs, x, h => by
    simp [dceStmt, readsStmts, readsStmt] at h ⊢
    rcases h with ((h | h) | h) | h <;> simp [h]
  | .ptrAssign p v, live, needs, x, h | .fieldAssign p v, live, needs, x, h => by
    simp [dceStmt, readsStmts, readsStmt] at h ⊢
    rcases h with (h | h) | h <;> simp [h]
  | .ret none, live, needs, x, h | .brk, live, needs, x, h => by
    simp [dceStmt] at h; exact Or.inr h
  | .loop body, live, needs, x, h => by
    simp [dceStmt, readsStmts, readsStmt] at h ⊢
    rcases h with h | h
    · exact Or.inr h
    · rcases live_sub_stmts body live x h with h1 | h1
      · exact Or.inl h1
      · exact Or.inr h1
  | .ite c t (some b), live, needs, x, h => by
    simp [dceStmt, readsStmts, readsStmt] at h ⊢
    rcases h with ((h | h) | h) | h
    · exact Or.inr h
    · exact Or.inl (Or.inl h)
    · rcases live_sub_stmts t live x h with h1 | h1
      · exact Or.inl (Or.inr (Or.inl h1))
      · exact Or.inr h1
    · rcases live_sub_stmts b live x h with h1 | h1
      · exact Or.inl (Or.inr (Or.inr h1))
      · exact Or.inr h1
  | .ite c t none, live, needs, x, h => by
    simp [dceStmt, readsStmts, readsStmt] at h ⊢
    rcases h with (h | h) | h
    · exact Or.inr h
    · exact Or.inl (Or.inl h)
    · rcases live_sub_stmts t live x h with h1 | h1
      · exact Or.inl (Or.inr h1)
      · exact Or.inr h1
  | .switch e cs (some b), live, needs, x, h => by
    simp [dceStmt, readsStmts, readsStmt] at h ⊢
    have hc := live_sub_cases cs live x
    rcases h with ((h | h) | h) | h
    · rcases hc (Or.inl h) with h1 | h1
      · exact Or.inl (Or.inr (Or.inl h1))
      · exact Or.inr h1
    · exact Or.inl (Or.inl h)
    · rcases hc (Or.inr h) with h1 | h1
      · exact Or.inl (Or.inr (Or.inl h1))
      · exact Or.inr h1
    · rcases live_sub_stmts b _ x h with h1 | h1
      · exact Or.inl (Or.inr (Or.inr h1))
      · rcases hc (Or.inl h1) with h2 | h2
        · exact Or.inl (Or.inr (Or.inl h2))
        · exact Or.inr h2
  | .switch e cs none, live, needs, x, h => by
    simp [dceStmt, readsStmts, readsStmt] at h ⊢
    have hc := live_sub_cases cs live x
    rcases h with (h | h) | h
    · rcases hc (Or.inl h) with h1 | h1
      · exact Or.inl (Or.inr h1)
      · exact Or.inr h1
    · exact Or.inl (Or.inl h)
    · rcases hc (Or.inr h) with h1 | h1
      · exact Or.inl (Or.inr h1)
      · exact Or.inr h1
  | .tswitch bind e cs (some b), live, needs, x, h => by
    simp [dceStmt, readsStmts, readsStmt] at h ⊢
    rcases h with ((h | h) | h) | h
    · exact Or.inr h
    · exact Or.inl (Or.inl h)
    · rcases live_sub_tcases cs live x h with h1 | h1
      · exact Or.inl (Or.inr (Or.inl h1))
      · exact Or.inr h1
    · rcases live_sub_stmts b live x h with h1 | h1
      · exact Or.inl (Or.inr (Or.inr h1))
      · exact Or.inr h1
  | .tswitch bind e cs none, live, needs, x, h => by
    simp [dceStmt, readsStmts, readsStmt] at h ⊢
    rcases h with (h | h) | h
    · exact Or.inr h
    · exact Or.inl (Or.inl h)
    · rcases live_sub_tcases cs live x h with h1 | h1
      · exact Or.inl (Or.inr h1)
      · exact Or.inr h1
theorem live_sub_cases : ∀ (cs : List GCase) (live : Names) (x : String),
    (x ∈ (dceCases cs live).live ∨ x ∈ (dceCases cs live).liveIn) →
      x ∈ readsCases (dceCases cs live).cases ∨ x ∈ live
  | [], live, x, h => by simp [dceCases] at h; exact Or.inr h
  | .mk v b :: rest, live, x, h => by
    simp only [dceCases, readsCases, mem_uni] at h ⊢
    have ih := live_sub_cases rest (uni live (varsUsed (dceExpr v))) x
    have ihb := live_sub_stmts b live x
    rcases h with h | h | h
    · rcases ih (Or.inl h) with h1 | h1
      · exact Or.inl (Or.inr (Or.inr h1))
      · simp at h1; rcases h1 with h1 | h1
        · exact Or.inr h1
        · exact Or.inl (Or.inl h1)
    · rcases ihb h with h1 | h1
      · exact Or.inl (Or.inr (Or.inl h1))
      · exact Or.inr h1
    · rcases ih (Or.inr h) with h1 | h1
      · exact Or.inl (Or.inr (Or.inr h1))
      · simp at h1; rcases h1 with h1 | h1
        · exact Or.inr h1
        · exact Or.inl (Or.inl h1)
theorem live_sub_tcases : ∀ (cs : List GTCase) (live : Names) (x : String),
    x ∈ (dceTCases cs live).liveIn → x ∈ readsTCases (dceTCases cs live).cases ∨ x ∈ live
  | [], live, x, h => by simp [dceTCases] at h
  | .mk t b :: rest, live, x, h => by
    simp only [dceTCases, readsTCases, mem_uni] at h ⊢
    rcases h with h | h
    · rcases live_sub_stmts b live x h with h1 | h1
      · exact Or.inl (Or.inl h1)
      · exact Or.inr h1
    · rcases live_sub_tcases rest live x h with h1 | h1
      · exact Or.inl (Or.inr h1)
      · exact Or.inr h1
end

theorem mem_assigned_append (x : String) : ∀ a b : List GStmt,
    x ∈ assignedStmts (a ++ b) ↔ x ∈ assignedStmts a ∨ x ∈ assignedStmts b
  | [], b => by simp [assignedStmts]
  | s :: a, b => by
    have ih := mem_assigned_append x a b
    simp only [List.cons_append, assignedStmts, mem_uni, ih, or_assoc]

/-- By the induction principle of `readsStmts`, whose recursion the scan follows. -/
theorem needs_sub (x : String) :
    (∀ ss L, x ∈ (dceStmts ss L).needs → x ∈ assignedStmts (dceStmts ss L).out) ∧
    (∀ s live needs, x ∈ (dceStmt s live needs).needs → x ∈ assignedStmts (dceStmt s live needs).out ∨ x ∈ needs) ∧
    (∀ cs live, x ∈ (dceTCases cs live).needs → x ∈ assignedTCases (dceTCases cs live).cases) ∧
    (∀ cs live, x ∈ (dceCases cs live).needs → x ∈ assignedCases (dceCases cs live).cases) := by
  apply readsStmts.mutual_induct
  -- the optional block of `ite`, `switch`, `tswitch` (`case11`–`13`) is matched inside the row: open it first
  case' case11 => intro _ _ o _ h; cases o <;> simp only at h
  case' case12 => intro _ _ o _ h; cases o <;> simp only at h
  case' case13 => intro _ _ _ o _ h; cases o <;> simp only at h
  -- a declaration takes its name out of `needs`; a kept store adds the variable it assigns
  case case3 | case4 =>
    intros; rename_i h
    rw [dceStmt_varDecl] at h
    refine Or.inr ?_
    split at h
    · exact h
    · split at h
      · exact (mem_rem.mp h).1
      · exact h
  case case5 =>
    intro y v live needs h
    rw [dceStmt_assign] at h ⊢
    split at h
    · rename_i hl
      simp [hl, assignedStmts, assignedStmt] at h ⊢
      exact h.symm
    · exact Or.inr h
  all_goals intros
  all_goals simp only [dceStmts, dceStmt, dceCases, dceTCases, assignedStmts, assignedStmt, assignedCases,
    assignedTCases, mem_uni, mem_assigned_append, List.not_mem_nil, or_false, false_or] at *
  all_goals grind

theorem needs_sub_stmts : ∀ (ss : List GStmt) (L : Names) (x : String),
    x ∈ (dceStmts ss L).needs → x ∈ assignedStmts (dceStmts ss L).out := fun ss L x => (needs_sub x).1 ss L

mutual
theorem assigned_sub_stmts : ∀ (ss : List GStmt) (L : Names) (x : String),
    x ∈ assignedStmts (dceStmts ss L).out → x = "_" ∨ x ∈ readsStmts (dceStmts ss L).out ∨ x ∈ L
  | [], L, x, h => by simp [dceStmts, assignedStmts] at h
  | s :: rest, L, x, h => by
    simp only [dceStmts] at h ⊢
    rw [mem_assigned_append] at h
    rw [mem_reads_append]
    rcases h with h | h
    · rcases assigned_sub_stmt s _ _ x h with h1 | h1 | h1
      · exact Or.inl h1
      · exact Or.inr (Or.inl (Or.inl h1))
      · rcases live_sub_stmts rest L x h1 with h2 | h2
        · exact Or.inr (Or.inl (Or.inr h2))
        · exact Or.inr (Or.inr h2)
    · rcases assigned_sub_stmts rest L x h with h1 | h1 | h1
      · exact Or.inl h1
      · exact Or.inr (Or.inl (Or.inr h1))
      · exact Or.inr (Or.inr h1)
theorem assigned_sub_stmt : ∀ (s : GStmt) (live needs : Names) (x : String),
    x ∈ assignedStmts (dceStmt s live needs).out →
      x = "_" ∨ x ∈ readsStmts (dceStmt s live needs).out ∨ x ∈ live
  | .expr _, _, _, x, h | .go _, _, _, x, h | .indexAssign _ _ _, _, _, x, h | .ptrAssign _ _, _, _, x, h
  | .fieldAssign _ _, _, _, x, h | .ret (some _), _, _, x, h | .ret none, _, _, x, h | .brk, _, _, x, h => by
    simp [dceStmt, assignedStmts, assignedStmt] at h
  | .varDecl y ty v, live, needs, x, h => by
    rw [dceStmt_varDecl] at h
    split at h
    · simp [assignedStmts, assignedStmt] at h
    · rw [mem_assigned_append] at h
      rcases h with h | h
      · split at h <;> simp [assignedStmts, assignedStmt] at h
      · exact Or.inl (assigned_deadOut _ x h)
  | .assign y v, live, needs, x, h => by
    rw [dceStmt_assign] at h
    by_cases hl : y ∈ live
    · simp [hl, assignedStmts, assignedStmt] at h
      exact Or.inr (Or.inr (h ▸ hl))
    · simp only [hl, if_false] at h
      exact Or.inl (assigned_deadOut _ x h)
  | .loop body, live, needs, x, h => by
    simp [dceStmt, assignedStmts, assignedStmt, readsStmts, readsStmt] at h ⊢
    exact assigned_sub_stmts body live x h
  | .ite c t (some b), live, needs, x, h => by
    simp [dceStmt, assignedStmts, assignedStmt, readsStmts, readsStmt] at h ⊢
    rcases h with h | h
    · rcases assigned_sub_stmts t live x h with h1 | h1 | h1 <;> simp [h1]
    · rcases assigned_sub_stmts b live x h with h1 | h1 | h1 <;> simp [h1]
  | .ite c t none, live, needs, x, h => by
    simp [dceStmt, assignedStmts, assignedStmt, readsStmts, readsStmt] at h ⊢
    rcases assigned_sub_stmts t live x h with h1 | h1 | h1 <;> simp [h1]
  | .switch e cs (some b), live, needs, x, h => by
    simp [dceStmt, assignedStmts, assignedStmt, readsStmts, readsStmt] at h ⊢
    rcases h with h | h
    · rcases assigned_sub_cases cs live x h with h1 | h1 | h1 <;> simp [h1]
    · rcases assigned_sub_stmts b _ x h with h1 | h1 | h1
      · simp [h1]
      · simp [h1]
      · rcases live_sub_cases cs live x (Or.inl h1) with h2 | h2 <;> simp [h2]
  | .switch e cs none, live, needs, x, h => by
    simp [dceStmt, assignedStmts, assignedStmt, readsStmts, readsStmt] at h ⊢
    rcases assigned_sub_cases cs live x h with h1 | h1 | h1 <;> simp [h1]
  | .tswitch bind e cs (some b), live, needs, x, h => by
    simp [dceStmt, assignedStmts, assignedStmt, readsStmts, readsStmt] at h ⊢
    rcases h with h | h
    · rcases assigned_sub_tcases cs live x h with h1 | h1 | h1 <;> simp [h1]
    · rcases assigned_sub_stmts b live x h with h1 | h1 | h1 <;> simp [h1]
  | .tswitch bind e cs none, live, needs, x, h => by
    simp [dceStmt, assignedStmts, assignedStmt, readsStmts, readsStmt] at h ⊢
    rcases assigned_sub_tcases cs live x h with h1 | h1 | h1 <;> simp [h1]
theorem assigned_sub_cases : ∀ (cs : List GCase) (live : Names) (x : String),
    x ∈ assignedCases (dceCases cs live).cases →
      x = "_" ∨ x ∈ readsCases (dceCases cs live).cases ∨ x ∈ live
  | [], live, x, h => by simp [dceCases, assignedCases] at h
  | .mk v b :: rest, live, x, h => by
    simp only [dceCases, assignedCases, readsCases, mem_uni] at h ⊢
    rcases h with h | h
    · rcases assigned_sub_stmts b live x h with h1 | h1 | h1 <;> simp [h1]
    · rcases assigned_sub_cases rest _ x h with h1 | h1 | h1
      · simp [h1]
      · simp [h1]
      · simp at h1; rcases h1 with h1 | h1 <;> simp [h1]
theorem assigned_sub_tcases : ∀ (cs : List GTCase) (live : Names) (x : String),
    x ∈ assignedTCases (dceTCases cs live).cases →
      x = "_" ∨ x ∈ readsTCases (dceTCases cs live).cases ∨ x ∈ live
  | [], live, x, h => by simp [dceTCases, assignedTCases] at h
  | .mk t b :: rest, live, x, h => by
    simp only [dceTCases, assignedTCases, readsTCases, mem_uni] at h ⊢
    rcases h with h | h
    · rcases assigned_sub_stmts b live x h with h1 | h1 | h1 <;> simp [h1]
    · rcases assigned_sub_tcases rest _ x h with h1 | h1 | h1 <;> simp [h1]
end

/-! ### the scope invariant of the backward scan: `scI` / `scO` are the scopes at one point of the input / output block -/
def Cover (scI scO live needs : Names) : Prop := ∀ y ∈ scI, (y ∈ live ∨ y ∈ needs) → y ∈ scO
def Sub (scO scI : Names) : Prop := ∀ y ∈ scO, y ∈ scI
def LiveIn (D L sc : Names) : Prop := ∀ x ∈ L, x ∈ D → x ∈ sc

theorem undecl_nil {D sc us : Names} : undecl D sc us = [] ↔ ∀ x ∈ us, x ∈ D → x ∈ sc := by
  unfold undecl
  simp [List.filter_eq_nil_iff]

theorem undecl_transfer {D scI scO us live needs : Names} (h : undecl D scI us = [])
    (hl : ∀ y ∈ us, y ∈ D → y ∈ live) (hc : Cover scI scO live needs) : undecl D scO us = [] := by
  rw [undecl_nil] at h ⊢
  intro x hx hD
  exact hc x (h x hx hD) (Or.inl (hl x hx hD))

theorem scopeErrs_keepEffect (D sc : Names) (e : GExpr) :
    scopeErrsStmt D sc (keepEffect e) = undecl D sc (varsUsed e) := by
  unfold keepEffect
  split
  · split <;> simp [scopeErrsStmt]
  · simp [scopeErrsStmt]
  · simp [scopeErrsStmt]

theorem keepEffect_cases (e : GExpr) : keepEffect e = .expr e ∨ keepEffect e = .assign "_" e := by
  unfold keepEffect
  split
  · split <;> simp
  · simp
  · simp

theorem keepEffect_nodecl (e : GExpr) (sc : Names) : declScope (keepEffect e) sc = sc := by
  rcases keepEffect_cases e with h | h <;> rw [h] <;> rfl

theorem unused_keepEffect (e : GExpr) (rest : List GStmt) :
    unusedStmts (keepEffect e :: rest) = unusedStmts rest := by
  unfold keepEffect
  split
  · split <;> simp [unusedStmts, unusedNested]
  · simp [unusedStmts, unusedNested]
  · simp [unusedStmts, unusedNested]

theorem cases_live_mono : ∀ (cs : List GCase) (live : Names) (x : String),
    x ∈ live → x ∈ (dceCases cs live).live
  | [], live, x, h => by simpa [dceCases] using h
  | .mk v b :: rest, live, x, h => by
    simp only [dceCases]
    exact cases_live_mono rest _ x (by simp [h])

/-- `usedStmts` collects the names `readsStmts` does, part by part, and only removes some (`diff` by the declared names). -/
theorem used_reads (x : String) :
    (∀ ss, x ∈ usedStmts ss → x ∈ readsStmts ss) ∧ (∀ s, x ∈ usedStmt s → x ∈ readsStmt s) ∧
    (∀ cs, x ∈ usedTCases cs → x ∈ readsTCases cs) ∧ (∀ cs, x ∈ usedCases cs → x ∈ readsCases cs) := by
  apply readsStmts.mutual_induct
  -- `case11`–`13`: as in `needs_sub`
  case' case11 => intro _ _ o _ h; cases o <;> simp only at h
  case' case12 => intro _ _ o _ h; cases o <;> simp only at h
  case' case13 => intro _ _ _ o _ h; cases o <;> simp only at h
  all_goals intros
  all_goals simp_all only [usedStmts, usedStmt, usedCases, usedTCases, readsStmts, readsStmt, readsCases, readsTCases,
    mem_uni, mem_diff, List.not_mem_nil, or_false]
  all_goals grind

theorem used_sub_reads : ∀ (ss : List GStmt) (x : String), x ∈ usedStmts ss → x ∈ readsStmts ss :=
  fun ss x => (used_reads x).1 ss
theorem usedCases_sub_reads : ∀ (cs : List GCase) (x : String), x ∈ usedCases cs → x ∈ readsCases cs :=
  fun cs x => (used_reads x).2.2.2 cs
theorem usedTCases_sub_reads : ∀ (cs : List GTCase) (x : String), x ∈ usedTCases cs → x ∈ readsTCases cs :=
  fun cs x => (used_reads x).2.2.1 cs

theorem freeVars_sub_reads (b : List GStmt) (x : String) (h : x ∈ freeVars b) : x ∈ readsStmts b := by
  unfold freeVars at h
  exact used_sub_reads b x (mem_diff.mp h).1

/-- `ScopeGoal` for the case list of a `switch` -/
def ScopeGoalC (D : Names) (cs : List GCase) : Prop :=
  ∀ (scI scO live : Names),
    scopeErrsCases D scI cs = [] → shapeOKCases cs = true → LiveIn D live scI →
    Cover scI scO (uni (dceCases cs live).live (dceCases cs live).liveIn) (dceCases cs live).needs →
    Sub scO scI →
    LiveIn D (dceCases cs live).live scI ∧ LiveIn D (dceCases cs live).liveIn scI ∧
      scopeErrsCases D scO (dceCases cs live).cases = [] ∧ unusedCases (dceCases cs live).cases = []

/-- `ScopeGoal` for the clauses of a type switch; and what decides whether the binding stays (`free`) is read in the new
    clauses -/
def ScopeGoalT (D : Names) (cs : List GTCase) : Prop :=
  ∀ (scI scO live : Names),
    scopeErrsTCases D scI cs = [] → shapeOKTCases cs = true → LiveIn D live scI →
    Cover scI scO (dceTCases cs live).liveIn (dceTCases cs live).needs → Sub scO scI →
    LiveIn D (dceTCases cs live).liveIn scI ∧
      scopeErrsTCases D scO (dceTCases cs live).cases = [] ∧
      unusedTCases (dceTCases cs live).cases = [] ∧
      (∀ x ∈ (dceTCases cs live).free, x ∈ readsTCases (dceTCases cs live).cases)

theorem declScope_varDecl (x : String) (t : GTy) (v : Option GExpr) (sc : Names) :
    declScope (.varDecl x t v) sc = x :: sc := rfl

theorem unused_varDecl (x : String) (t : GTy) (v : Option GExpr) (rest : List GStmt) :
    unusedStmts (.varDecl x t v :: rest) =
      (if x == "_" || (readsStmts rest).contains x then [] else [x]) ++ unusedStmts rest := by
  simp [unusedStmts, unusedNested]

theorem notin_of_contains_false {x : String} {l : Names} (h : l.contains x = false) : ¬ x ∈ l := by
  simpa using h

/-- what the scope lemma concludes of a scanned block, given its live-in set `live` and its output `out`: the live-in set is
    in scope in the input, and the output is well scoped in `scO` and declares nothing unused -/
structure ScopeOut (D scI scO live : Names) (out : List GStmt) : Prop where
  liveIn : LiveIn D live scI
  wellScoped : scopeErrs D scO out = []
  noUnused : unusedStmts out = []

/-- The scope lemma for one block: if the input is well scoped in `scI` and `scO` covers what is live or needed in front of
    it, `ScopeOut` holds of the scan's live-in set and output. -/
def ScopeGoal (D : Names) (ss : List GStmt) : Prop :=
  ∀ (scI scO L : Names),
    scopeErrs D scI ss = [] → shapeOK ss = true → LiveIn D L scI →
    Cover scI scO (dceStmts ss L).live (dceStmts ss L).needs → Sub scO scI →
    ScopeOut D scI scO (dceStmts ss L).live (dceStmts ss L).out

theorem Cover.mono {scI scO live needs live' needs' : Names} (h : Cover scI scO live needs)
    (hl : ∀ y ∈ live', y ∈ live) (hn : ∀ y ∈ needs', y ∈ needs) : Cover scI scO live' needs' :=
  fun y hy hyl => h y hy (hyl.imp (hl y) (hn y))

/-- the declaration of `x` stays in the output: `x` enters both scopes -/
theorem Cover.keep {scI scO live needs live' needs' : Names} {x : String} (h : Cover scI scO live' needs')
    (hl : ∀ y ∈ live, y ≠ x → y ∈ live') (hn : ∀ y ∈ needs, y ≠ x → y ∈ needs') :
    Cover (x :: scI) (x :: scO) live needs := by
  intro y hy hyl
  by_cases hyx : y = x
  · exact hyx ▸ List.mem_cons_self ..
  · exact List.mem_cons_of_mem _
      (h y ((List.mem_cons.mp hy).resolve_left hyx) (hyl.imp (hl y · hyx) (hn y · hyx)))

/-- the declaration of `x` goes: nothing after it is live or needs `x` -/
theorem Cover.drop {scI scO live needs live' needs' : Names} {x : String} (h : Cover scI scO live' needs')
    (hxl : ¬ x ∈ live) (hxn : ¬ x ∈ needs)
    (hl : ∀ y ∈ live, y ∈ live') (hn : ∀ y ∈ needs, y ∈ needs') : Cover (x :: scI) scO live needs := by
  intro y hy hyl
  rcases List.mem_cons.mp hy with rfl | hy
  · exact absurd hyl (not_or.mpr ⟨hxl, hxn⟩)
  · exact h y hy (hyl.imp (hl y) (hn y))

theorem Sub.cons {scO scI : Names} (h : Sub scO scI) (x : String) : Sub (x :: scO) (x :: scI) :=
  fun y hy => (List.mem_cons.mp hy).elim (· ▸ List.mem_cons_self ..) (List.mem_cons_of_mem _ ∘ h y)

theorem LiveIn.uni {D a b sc : Names} (ha : LiveIn D a sc) (hb : LiveIn D b sc) : LiveIn D (uni a b) sc :=
  fun y hy hD => (mem_uni.mp hy).elim (ha y · hD) (hb y · hD)

theorem LiveIn.tail {D lv sc : Names} (h : LiveIn D lv sc) (x : String) : LiveIn D lv (x :: sc) :=
  fun y hy hD => List.mem_cons_of_mem _ (h y hy hD)

/-- leaving the scope of `x` -/
theorem LiveIn.pop {D lv lv' sc : Names} {x : String} (h : LiveIn D lv (x :: sc))
    (hs : ∀ y ∈ lv', y ∈ lv ∧ y ≠ x) : LiveIn D lv' sc :=
  fun y hy hD => (List.mem_cons.mp (h y (hs y hy).1 hD)).resolve_left (hs y hy).2

theorem ScopeGoal.nil (D : Names) : ScopeGoal D [] := by
  intro scI scO L hscope hshape hlive hcov hsub
  exact ⟨hlive, by simp [dceStmts, scopeErrs], by simp [dceStmts, unusedStmts]⟩

/-- a block nested in a statement: its live-in set and what its output assigns are part of the
    statement's `live` and `needs`, so a cover for the statement is one for the block -/
theorem ScopeGoal.nested {D : Names} {b : List GStmt} (hb : ScopeGoal D b) {scI scO lv live needs : Names}
    (hscope : scopeErrs D scI b = []) (hshape : shapeOK b = true) (hlive : LiveIn D lv scI)
    (hcov : Cover scI scO live needs) (hsub : Sub scO scI)
    (hl : ∀ y ∈ (dceStmts b lv).live, y ∈ live)
    (hn : ∀ y ∈ assignedStmts (dceStmts b lv).out, y ∈ needs) :
    ScopeOut D scI scO (dceStmts b lv).live (dceStmts b lv).out :=
  hb scI scO lv hscope hshape hlive (hcov.mono hl fun y hy => hn y (needs_sub_stmts b lv y hy)) hsub

theorem freeOpt_reads {d : Option (List GStmt)} {L : Names} {x : String} (h : x ∈ freeOpt d L) :
    ∃ db, outOpt d L = some db ∧ x ∈ readsStmts db := by
  cases d with
  | none => cases h
  | some b => exact ⟨_, rfl, freeVars_sub_reads _ x h⟩

theorem ScopeGoal.opt {D : Names} {d : Option (List GStmt)} (hd : ∀ b, d = some b → ScopeGoal D b)
    {scI scO lv live needs : Names}
    (hscope : (match (generalizing := false) d with | some b => scopeErrs D scI b | none => []) = [])
    (hshape : (match (generalizing := false) d with | some b => shapeOK b | none => true) = true) (hlive : LiveIn D lv scI)
    (hcov : Cover scI scO live needs) (hsub : Sub scO scI)
    (hl : ∀ y ∈ liveOpt d lv, y ∈ live) (hn : ∀ y ∈ needsOpt d lv, y ∈ needs) :
    LiveIn D (liveOpt d lv) scI ∧ (match (generalizing := false) outOpt d lv with | some b => scopeErrs D scO b | none => []) = [] ∧
      (match (generalizing := false) outOpt d lv with | some b => unusedStmts b | none => []) = [] := by
  cases d with
  | none => exact ⟨fun _ h => (nomatch h), rfl, rfl⟩
  | some b =>
    have blk := (hd b rfl).nested hscope hshape hlive hcov hsub hl hn
    exact ⟨blk.liveIn, blk.wellScoped, blk.noUnused⟩

/-- the statements that declare nothing and contain no block -/
def plain : GStmt → Bool
  | .expr _ | .go _ | .indexAssign _ _ _ | .ptrAssign _ _ | .fieldAssign _ _ | .ret _ | .brk => true
  | _ => false

theorem plain_dce : ∀ (s : GStmt) (live needs : Names), plain s = true → shapeOKStmt s = true →
    (dceStmt s live needs).out = [s] ∧ (dceStmt s live needs).needs = needs ∧
      ∀ x, x ∈ (dceStmt s live needs).live ↔ x ∈ live ∨ x ∈ readsStmt s
  | .expr e, _, _, _, hs | .go e, _, _, _, hs => by
    simp [shapeOKStmt] at hs; simp [dceStmt, readsStmt, dceExpr_id e hs.1]
  | .indexAssign a i v, _, _, _, hs => by
    simp [shapeOKStmt] at hs
    obtain ⟨⟨⟨ha, hi⟩, hv⟩, _⟩ := hs
    simp [dceStmt, readsStmt, dceExpr_id a ha, dceExpr_id i hi, dceExpr_id v hv, or_assoc]
  | .ptrAssign a v, _, _, _, hs | .fieldAssign a v, _, _, _, hs => by
    simp [shapeOKStmt] at hs
    obtain ⟨⟨ha, hv⟩, _⟩ := hs
    simp [dceStmt, readsStmt, dceExpr_id a ha, dceExpr_id v hv, or_assoc]
  | .ret (some e), _, _, _, hs => by
    simp [shapeOKStmt, noBlockOpt] at hs; simp [dceStmt, readsStmt, dceExpr_id e hs.1]
  | .ret none, _, _, _, _ | .brk, _, _, _, _ => by simp [dceStmt, readsStmt]

theorem plain_scopeErrs {s : GStmt} (hp : plain s = true) (D sc : Names) :
    scopeErrsStmt D sc s = undecl D sc (readsStmt s) := by
  cases s <;> simp [plain] at hp <;> simp [scopeErrsStmt, readsStmt, undecl]

theorem plain_declScope {s : GStmt} (hp : plain s = true) (sc : Names) : declScope s sc = sc := by
  cases s <;> simp [plain] at hp <;> rfl

theorem plain_unused {s : GStmt} (hp : plain s = true) (out : List GStmt) :
    unusedStmts (s :: out) = unusedStmts out := by
  cases s <;> simp [plain] at hp <;> simp [unusedStmts, unusedNested]

theorem scope_plain {D : Names} {s : GStmt} {rest : List GStmt} (hp : plain s = true)
    (IH : ScopeGoal D rest) : ScopeGoal D (s :: rest) := by
  intro scI scO L hscope hshape hlive hcov hsub
  simp only [scopeErrs, List.append_eq_nil_iff, plain_declScope hp, plain_scopeErrs hp] at hscope
  simp only [shapeOK, Bool.and_eq_true] at hshape
  obtain ⟨ho, hn, hl⟩ := plain_dce s (dceStmts rest L).live (dceStmts rest L).needs hp hshape.1
  simp only [dceStmts] at hcov ⊢
  rw [hn] at hcov
  rw [ho]
  have after := IH scI scO L hscope.2 hshape.2 hlive
    (hcov.mono (fun y hy => (hl y).mpr (Or.inl hy)) (fun _ hy => hy)) hsub
  refine ⟨fun x hx hD => ((hl x).mp hx).elim (after.liveIn x · hD) (undecl_nil.mp hscope.1 x · hD), ?_, ?_⟩
  · simp only [List.singleton_append, scopeErrs, plain_declScope hp, plain_scopeErrs hp,
      List.append_eq_nil_iff]
    exact ⟨undecl_transfer hscope.1 (fun y hy _ => (hl y).mpr (Or.inr hy)) hcov, after.wellScoped⟩
  · simp only [List.singleton_append, plain_unused hp]; exact after.noUnused

theorem dceOpt_id {v : Option GExpr} (h : noBlockOpt v = true) : v.map dceExpr = v := by
  cases v with
  | none => rfl
  | some e => exact congrArg some (dceExpr_id e h)

theorem scopeErrs_varDecl {D sc : Names} {x : String} {ty : GTy} {v : Option GExpr} {out : List GStmt} :
    scopeErrs D sc (.varDecl x ty v :: out) = [] ↔
      undecl D sc (varsUsedOpt v) = [] ∧ (¬ x ∈ sc ∧ x ∈ D) ∧ scopeErrs D (x :: sc) out = [] := by
  cases v <;> simp [scopeErrs, scopeErrsStmt, declScope, varsUsedOpt, and_assoc]

theorem scopeErrs_keepEffect_cons {D sc : Names} {e : GExpr} {out : List GStmt} :
    scopeErrs D sc (keepEffect e :: out) = [] ↔
      undecl D sc (varsUsed e) = [] ∧ scopeErrs D sc out = [] := by
  simp [scopeErrs, scopeErrs_keepEffect, keepEffect_nodecl]

theorem unused_varDecl_nil {x : String} {ty : GTy} {v : Option GExpr} {out : List GStmt} :
    unusedStmts (.varDecl x ty v :: out) = [] ↔
      (x ≠ "_" → x ∈ readsStmts out) ∧ unusedStmts out = [] := by
  simp [unused_varDecl]

/-- the conclusion of the scope lemma passes from a block to the block with the rest of a dead
    value in front of it -/
theorem scope_dead {D scI scO live needs : Names} {v : Option GExpr} {out : List GStmt}
    (hu : LiveIn D (varsUsedOpt v) scI) (hc : Cover scI scO (deadLive live v) needs)
    (h : Cover scI scO live needs → ScopeOut D scI scO live out) :
    ScopeOut D scI scO (deadLive live v) (deadOut v ++ out) := by
  have after := h (hc.mono (fun y hy => mem_deadLive_of_mem hy) (fun _ hy => hy))
  have front : scopeErrs D scO (deadOut v ++ out) = [] ∧ unusedStmts (deadOut v ++ out) = [] := by
    cases v with
    | none => exact ⟨after.wellScoped, after.noUnused⟩
    | some e =>
      simp only [deadOut, deadLive] at hc ⊢
      split
      · rename_i he
        simp only [he, if_true] at hc
        exact ⟨scopeErrs_keepEffect_cons.mpr
            ⟨undecl_nil.mpr fun y hy hD => hc y (hu y hy hD) (Or.inl (by simp [hy])), after.wellScoped⟩,
          by simpa [unused_keepEffect] using after.noUnused⟩
      · exact ⟨after.wellScoped, after.noUnused⟩
  exact ⟨fun y hy hD => (mem_deadLive hy).elim (after.liveIn y · hD) (hu y · hD), front.1, front.2⟩

theorem scope_varDecl {D : Names} {x : String} {ty : GTy} {v : Option GExpr} {rest : List GStmt}
    (IH : ScopeGoal D rest) : ScopeGoal D (.varDecl x ty v :: rest) := by
  intro scI scO L hscope hshape hlive hcov hsub
  obtain ⟨hu, ⟨hxI, hxD⟩, hscopeR⟩ := scopeErrs_varDecl.mp hscope
  simp only [shapeOK, shapeOKStmt, Bool.and_eq_true, bne_iff_ne, ne_eq] at hshape
  obtain ⟨⟨⟨hnb, hx_⟩, _⟩, hshapeR⟩ := hshape
  have hu : LiveIn D (varsUsedOpt v) scI := undecl_nil.mp hu
  have hxO : ¬ x ∈ scO := fun hm => hxI (hsub x hm)
  have hxL : ¬ x ∈ L := fun hm => hxI (hlive x hm hxD)
  have hxu : ¬ x ∈ varsUsedOpt v := fun hm => hxI (hu x hm hxD)
  -- `live` and `needs` hold only names the output reads: a declaration that stays is used
  have hreads : x ∈ (dceStmts rest L).live ∨ x ∈ (dceStmts rest L).needs →
      x ∈ readsStmts (dceStmts rest L).out := by
    rintro (h | h)
    · exact (live_sub_stmts rest L x h).resolve_right hxL
    · exact ((assigned_sub_stmts rest L x (needs_sub_stmts rest L x h)).resolve_left hx_).resolve_right hxL
  have hrest := fun scO' => IH (x :: scI) scO' L hscopeR hshapeR (hlive.tail x)
  simp only [dceStmts, dceStmt_varDecl, dceOpt_id hnb] at hcov ⊢
  by_cases hl : x ∈ (dceStmts rest L).live
  · simp only [hl, if_true] at hcov ⊢
    have after := hrest (x :: scO)
      (hcov.keep (fun y hy hne => by simp [hy, hne]) (fun y hy _ => hy)) (hsub.cons x)
    refine ⟨fun y hy hD => ?_, scopeErrs_varDecl.mpr ⟨?_, ⟨hxO, hxD⟩, after.wellScoped⟩,
      unused_varDecl_nil.mpr ⟨fun _ => hreads (Or.inl hl), after.noUnused⟩⟩
    · obtain ⟨hy, hne⟩ := mem_rem.mp hy
      exact (mem_uni.mp hy).elim (fun h => (List.mem_cons.mp (after.liveIn y h hD)).resolve_left hne) (hu y · hD)
    · refine undecl_nil.mpr fun y hy hD => hcov y (hu y hy hD) (Or.inl ?_)
      have hne : y ≠ x := fun h => hxu (h ▸ hy)
      simp [hy, hne]
  · simp only [hl, if_false] at hcov ⊢
    have hxd : ¬ x ∈ deadLive (dceStmts rest L).live v := fun h => (mem_deadLive h).elim hl hxu
    by_cases hn : x ∈ (dceStmts rest L).needs
    · simp only [hn, if_true] at hcov ⊢
      have after := scope_dead (hu.tail x)
        (hcov.keep (fun y hy _ => hy) (fun y hy hne => by simp [hy, hne]))
        (hrest (x :: scO) · (hsub.cons x))
      refine ⟨after.liveIn.pop fun y hy => ⟨hy, fun h => hxd (h ▸ hy)⟩,
        scopeErrs_varDecl.mpr ⟨by simp [varsUsedOpt, undecl], ⟨hxO, hxD⟩, after.wellScoped⟩,
        unused_varDecl_nil.mpr ⟨fun _ => ?_, after.noUnused⟩⟩
      exact (mem_reads_append x _ _).mpr (Or.inr (hreads (Or.inr hn)))
    · simp only [hn, if_false, List.nil_append] at hcov ⊢
      have after := scope_dead (hu.tail x) (hcov.drop hxd hn (fun _ hy => hy) (fun _ hy => hy))
        (hrest scO · fun y hy => List.mem_cons_of_mem _ (hsub y hy))
      exact ⟨after.liveIn.pop fun y hy => ⟨hy, fun h => hxd (h ▸ hy)⟩, after.wellScoped, after.noUnused⟩

theorem scope_assign {D : Names} {x : String} {v : GExpr} {rest : List GStmt}
    (IH : ScopeGoal D rest) : ScopeGoal D (.assign x v :: rest) := by
  intro scI scO L hscope hshape hlive hcov hsub
  simp only [scopeErrs, scopeErrsStmt, declScope, List.append_eq_nil_iff] at hscope
  obtain ⟨⟨hu, hx⟩, hscopeR⟩ := hscope
  simp only [shapeOK, shapeOKStmt, Bool.and_eq_true] at hshape
  obtain ⟨⟨⟨hnb, _⟩, hself⟩, hshapeR⟩ := hshape
  have hself : ¬ x ∈ varsUsed v := by simpa using hself
  simp only [dceStmts, dceStmt_assign, dceExpr_id v hnb] at hcov ⊢
  by_cases hl : x ∈ (dceStmts rest L).live
  · simp only [hl, if_true] at hcov ⊢
    have hc' : Cover scI scO (dceStmts rest L).live (dceStmts rest L).needs := by
      intro y hy hyl
      apply hcov y hy
      by_cases hyx : y = x
      · exact Or.inr (by simp [hyx])
      · exact hyl.imp (by simp +contextual [hyx]) (by simp +contextual)
    have after := IH scI scO L hscopeR hshapeR hlive hc' hsub
    refine ⟨fun y hy hD => ?_, ?_, by simp [unusedStmts, unusedNested, after.noUnused]⟩
    · exact (mem_uni.mp (mem_rem.mp hy).1).elim (after.liveIn y · hD) (undecl_nil.mp hu y · hD)
    · simp only [List.singleton_append, scopeErrs, scopeErrsStmt, declScope, List.append_eq_nil_iff]
      refine ⟨⟨undecl_transfer hu (fun y hy _ => ?_) hcov, ?_⟩, after.wellScoped⟩
      · have hne : y ≠ x := fun h => hself (h ▸ hy)
        simp [hy, hne]
      · by_cases h_ : x = "_"
        · simp [h_]
        · have hxI : x ∈ scI := Decidable.by_contra fun hm => by simp [h_, hm] at hx
          simp [hcov x hxI (Or.inr (by simp))]
  · simp only [hl, if_false] at hcov ⊢
    exact scope_dead (undecl_nil.mp hu) hcov (IH scI scO L hscopeR hshapeR hlive · hsub)

theorem scope_loop {D : Names} {b rest : List GStmt} (hb : ScopeGoal D b) (IH : ScopeGoal D rest) :
    ScopeGoal D (.loop b :: rest) := by
  intro scI scO L hscope hshape hlive hcov hsub
  simp only [scopeErrs, scopeErrsStmt, declScope, List.append_eq_nil_iff] at hscope
  simp only [shapeOK, shapeOKStmt, Bool.and_eq_true] at hshape
  simp only [dceStmts, dceStmt] at hcov ⊢
  have after := IH scI scO L hscope.2 hshape.2 hlive
    (hcov.mono (fun y hy => by simp [hy]) (fun y hy => by simp [hy])) hsub
  have body := hb.nested hscope.1 hshape.1 after.liveIn hcov hsub (fun y hy => by simp [hy]) (fun y hy => by simp [hy])
  exact ⟨after.liveIn.uni body.liveIn, by simp [scopeErrs, scopeErrsStmt, declScope, body.wellScoped, after.wellScoped],
    by simp [unusedStmts, unusedNested, body.noUnused, after.noUnused]⟩

theorem scope_ite {D : Names} {c : GExpr} {t rest : List GStmt} {d : Option (List GStmt)}
    (ht : ScopeGoal D t) (hd : ∀ b, d = some b → ScopeGoal D b) (IH : ScopeGoal D rest) :
    ScopeGoal D (.ite c t d :: rest) := by
  intro scI scO L hscope hshape hlive hcov hsub
  simp only [scopeErrs, scopeErrsStmt_ite, declScope, List.append_eq_nil_iff] at hscope
  obtain ⟨⟨⟨hu, hscopeT⟩, hscopeB⟩, hscopeR⟩ := hscope
  simp only [shapeOK, shapeOKStmt_ite, Bool.and_eq_true] at hshape
  obtain ⟨⟨⟨⟨hnb, _⟩, hshapeT⟩, hshapeB⟩, hshapeR⟩ := hshape
  simp only [dceStmts, dceStmt_ite_eq, dceExpr_id c hnb] at hcov ⊢
  have after := IH scI scO L hscopeR hshapeR hlive
    (hcov.mono (fun y hy => by simp [hy]) (fun y hy => by simp [hy])) hsub
  have thn := ht.nested hscopeT hshapeT after.liveIn hcov hsub (fun y hy => by simp [hy]) (fun y hy => by simp [hy])
  obtain ⟨optLive, optScoped, optUsed⟩ := ScopeGoal.opt hd hscopeB hshapeB after.liveIn hcov hsub
    (fun y hy => by simp [hy]) (fun y hy => by simp [hy])
  have hu' := undecl_transfer hu (fun y hy _ => by simp [hy]) hcov
  exact ⟨((after.liveIn.uni (undecl_nil.mp hu)).uni thn.liveIn).uni optLive,
    by simp [scopeErrs, scopeErrsStmt_ite, declScope, hu', thn.wellScoped, optScoped, after.wellScoped],
    by simp [unusedStmts, unusedNested_ite, thn.noUnused, optUsed, after.noUnused]⟩

theorem scope_switch {D : Names} {e : GExpr} {cs : List GCase} {rest : List GStmt}
    {d : Option (List GStmt)} (hc : ScopeGoalC D cs) (hd : ∀ b, d = some b → ScopeGoal D b)
    (IH : ScopeGoal D rest) : ScopeGoal D (.switch e cs d :: rest) := by
  intro scI scO L hscope hshape hlive hcov hsub
  simp only [scopeErrs, scopeErrsStmt_switch, declScope, List.append_eq_nil_iff] at hscope
  obtain ⟨⟨⟨hu, hscopeC⟩, hscopeB⟩, hscopeR⟩ := hscope
  simp only [shapeOK, shapeOKStmt_switch, Bool.and_eq_true] at hshape
  obtain ⟨⟨⟨⟨hnb, _⟩, hshapeC⟩, hshapeB⟩, hshapeR⟩ := hshape
  simp only [dceStmts, dceStmt_switch_eq, dceExpr_id e hnb] at hcov ⊢
  have after := IH scI scO L hscopeR hshapeR hlive
    (hcov.mono (fun y hy => by simp [cases_live_mono cs _ y hy]) (fun y hy => by simp [hy])) hsub
  obtain ⟨csLive, csLiveIn, csScoped, csUsed⟩ := hc scI scO _ hscopeC hshapeC after.liveIn
    (hcov.mono (fun y hy => by rcases mem_uni.mp hy with h | h <;> simp [h]) (fun y hy => by simp [hy])) hsub
  obtain ⟨optLive, optScoped, optUsed⟩ := ScopeGoal.opt hd hscopeB hshapeB csLive hcov hsub
    (fun y hy => by simp [hy]) (fun y hy => by simp [hy])
  have hu' := undecl_transfer hu (fun y hy _ => by simp [hy]) hcov
  exact ⟨((csLive.uni (undecl_nil.mp hu)).uni csLiveIn).uni optLive,
    by simp [scopeErrs, scopeErrsStmt_switch, declScope, hu', csScoped, optScoped, after.wellScoped],
    by simp [unusedStmts, unusedNested_switch, csUsed, optUsed, after.noUnused]⟩

theorem keepBind_free {bind : Option String} {free : Names} {b : String}
    (h : keepBind bind free = some b) : b ∈ free := by
  cases bind with
  | none => cases h
  | some x =>
    by_cases hx : x ∈ free <;> simp [keepBind, hx] at h
    exact h ▸ hx

/-- the binding of a type switch, as the new switch keeps it, may still re-bind the scrutinee
    variable: that variable is live in front of the switch, so it stays in scope -/
theorem scope_keepBind {scI scO live needs free : Names} {bind : Option String} {e : GExpr}
    (hbind : (match bind with
        | some b => (match e with | .var y _ => if y == b && scI.contains b then [] else [b] | _ => [b])
        | none => []) = ([] : Names))
    (h4 : Cover scI scO live needs) (hl : ∀ y ∈ varsUsed e, y ∈ live) :
    (match keepBind bind free with
      | some b =>
        (match (generalizing := false) e with
         | .var y _ => if y == b && scO.contains b then [] else [b]
         | _ => [b])
      | none => []) = ([] : Names) := by
  cases bind with
  | none => simp [keepBind]
  | some x =>
    by_cases hx : x ∈ free
    · simp only [keepBind, List.contains_iff_mem, hx, if_true]
      cases e <;> simp at hbind
      rename_i y ty
      obtain ⟨hyx, hxs⟩ := hbind
      simp [hyx, h4 x hxs (Or.inl (hl x (by simp [varsUsed, hyx])))]
    · simp [keepBind, hx]

theorem scope_tswitch {D : Names} {bind : Option String} {e : GExpr} {cs : List GTCase}
    {rest : List GStmt} {d : Option (List GStmt)} (hc : ScopeGoalT D cs)
    (hd : ∀ b, d = some b → ScopeGoal D b) (IH : ScopeGoal D rest) :
    ScopeGoal D (.tswitch bind e cs d :: rest) := by
  intro scI scO L hscope hshape hlive hcov hsub
  simp only [scopeErrs, scopeErrsStmt_tswitch, declScope, List.append_eq_nil_iff] at hscope
  obtain ⟨⟨⟨⟨hu, hbind⟩, hscopeC⟩, hscopeB⟩, hscopeR⟩ := hscope
  simp only [shapeOK, shapeOKStmt_tswitch, Bool.and_eq_true] at hshape
  obtain ⟨⟨⟨⟨⟨hnb, _⟩, hshapeC⟩, hshapeB⟩, _⟩, hshapeR⟩ := hshape
  simp only [dceStmts, dceStmt_tswitch_eq, dceExpr_id e hnb] at hcov ⊢
  have after := IH scI scO L hscopeR hshapeR hlive
    (hcov.mono (fun y hy => by simp [hy]) (fun y hy => by simp [hy])) hsub
  obtain ⟨tcLiveIn, tcScoped, tcUsed, tcFree⟩ := hc scI scO _ hscopeC hshapeC after.liveIn
    (hcov.mono (fun y hy => by simp [hy]) (fun y hy => by simp [hy])) hsub
  obtain ⟨optLive, optScoped, optUsed⟩ := ScopeGoal.opt hd hscopeB hshapeB after.liveIn hcov hsub
    (fun y hy => by simp [hy]) (fun y hy => by simp [hy])
  have hu' := undecl_transfer hu (fun y hy _ => by simp [hy]) hcov
  have hk := scope_keepBind (free := uni (dceTCases cs (dceStmts rest L).live).free
    (freeOpt d (dceStmts rest L).live)) hbind hcov (fun y hy => by simp [hy])
  refine ⟨((after.liveIn.uni (undecl_nil.mp hu)).uni tcLiveIn).uni optLive, ?_, ?_⟩
  · simp only [List.singleton_append, scopeErrs, scopeErrsStmt_tswitch, declScope, List.append_eq_nil_iff]
    exact ⟨⟨⟨⟨hu', hk⟩, tcScoped⟩, optScoped⟩, after.wellScoped⟩
  cases hb : keepBind bind (uni (dceTCases cs (dceStmts rest L).live).free (freeOpt d (dceStmts rest L).live)) with
  | none => simp [unusedStmts, unusedNested_tswitch, tcUsed, optUsed, after.noUnused]
  | some x =>
    rcases mem_uni.mp (keepBind_free hb) with hf | hf
    · simp [unusedStmts, unusedNested_tswitch, tcFree x hf, tcUsed, optUsed, after.noUnused]
    · obtain ⟨db, hdb, hx⟩ := freeOpt_reads hf
      rw [hdb] at optUsed
      simp [unusedStmts, unusedNested_tswitch, hdb, hx, tcUsed, optUsed, after.noUnused]

theorem scope_case {D : Names} {v : GExpr} {b : List GStmt} {rest : List GCase}
    (hb : ScopeGoal D b) (IH : ScopeGoalC D rest) : ScopeGoalC D (.mk v b :: rest) := by
  intro scI scO live hscope hshape hlive hcov hsub
  simp only [scopeErrsCases, List.append_eq_nil_iff] at hscope
  obtain ⟨⟨hu, hscopeB⟩, hscopeR⟩ := hscope
  simp only [shapeOKCases, Bool.and_eq_true] at hshape
  obtain ⟨⟨⟨hnb, _⟩, hshapeB⟩, hshapeR⟩ := hshape
  simp only [dceCases, dceExpr_id v hnb] at hcov ⊢
  have body := hb.nested hscopeB hshapeB hlive hcov hsub (fun y hy => by simp [hy]) (fun y hy => by simp [hy])
  obtain ⟨rsLive, rsLiveIn, rsScoped, rsUsed⟩ := IH scI scO _ hscopeR hshapeR (hlive.uni (undecl_nil.mp hu))
    (hcov.mono (fun y hy => by rcases mem_uni.mp hy with h | h <;> simp [h]) (fun y hy => by simp [hy])) hsub
  have hu' : undecl D scO (varsUsed v) = [] :=
    undecl_transfer hu (fun y hy _ => mem_uni.mpr (Or.inl (cases_live_mono rest _ y (by simp [hy])))) hcov
  exact ⟨rsLive, body.liveIn.uni rsLiveIn, by simp [scopeErrsCases, hu', body.wellScoped, rsScoped],
    by simp [unusedCases, body.noUnused, rsUsed]⟩

theorem scope_tcase {D : Names} {t : GTy} {b : List GStmt} {rest : List GTCase}
    (hb : ScopeGoal D b) (IH : ScopeGoalT D rest) : ScopeGoalT D (.mk t b :: rest) := by
  intro scI scO live hscope hshape hlive hcov hsub
  simp only [scopeErrsTCases, List.append_eq_nil_iff] at hscope
  simp only [shapeOKTCases, Bool.and_eq_true] at hshape
  simp only [dceTCases] at hcov ⊢
  have body := hb.nested hscope.1 hshape.1 hlive hcov hsub (fun y hy => by simp [hy]) (fun y hy => by simp [hy])
  obtain ⟨rsLiveIn, rsScoped, rsUsed, rsFree⟩ := IH scI scO live hscope.2 hshape.2 hlive
    (hcov.mono (fun y hy => by simp [hy]) (fun y hy => by simp [hy])) hsub
  refine ⟨body.liveIn.uni rsLiveIn, by simp [scopeErrsTCases, body.wellScoped, rsScoped],
    by simp [unusedTCases, body.noUnused, rsUsed], fun x hx => ?_⟩
  simp only [readsTCases, mem_uni] at hx ⊢
  exact hx.imp (freeVars_sub_reads _ x) (rsFree x)

mutual
theorem scope_main (D : Names) : ∀ ss : List GStmt, ScopeGoal D ss
  | [] => .nil D
  | s :: rest => scope_stmt D s rest (scope_main D rest)
theorem scope_stmt (D : Names) : ∀ (s : GStmt) (rest : List GStmt),
    ScopeGoal D rest → ScopeGoal D (s :: rest)
  | .varDecl _ _ _, _, IH => scope_varDecl IH
  | .assign _ _, _, IH => scope_assign IH
  | .loop b, _, IH => scope_loop (scope_main D b) IH
  | .ite _ t none, _, IH => scope_ite (scope_main D t) (fun _ h => nomatch h) IH
  | .ite _ t (some b), _, IH =>
    scope_ite (scope_main D t) (fun _ h => Option.some.inj h ▸ scope_main D b) IH
  | .switch _ cs none, _, IH => scope_switch (scope_cases D cs) (fun _ h => nomatch h) IH
  | .switch _ cs (some b), _, IH =>
    scope_switch (scope_cases D cs) (fun _ h => Option.some.inj h ▸ scope_main D b) IH
  | .tswitch _ _ cs none, _, IH => scope_tswitch (scope_tcases D cs) (fun _ h => nomatch h) IH
  | .tswitch _ _ cs (some b), _, IH =>
    scope_tswitch (scope_tcases D cs) (fun _ h => Option.some.inj h ▸ scope_main D b) IH
  | .expr _, _, IH | .go _, _, IH | .indexAssign _ _ _, _, IH | .ptrAssign _ _, _, IH
  | .fieldAssign _ _, _, IH | .ret _, _, IH | .brk, _, IH => scope_plain rfl IH
theorem scope_cases (D : Names) : ∀ cs : List GCase, ScopeGoalC D cs
  | [] => by
    intro scI scO live _ _ hlive _ _
    simp [dceCases, scopeErrsCases, unusedCases, LiveIn]; exact hlive
  | .mk _ b :: rest => scope_case (scope_main D b) (scope_cases D rest)
theorem scope_tcases (D : Names) : ∀ cs : List GTCase, ScopeGoalT D cs
  | [] => by
    intro scI scO live _ _ hlive _ _
    simp [dceTCases, scopeErrsTCases, unusedTCases, LiveIn]
  | .mk _ b :: rest => scope_tcase (scope_main D b) (scope_tcases D rest)
end

/-- top-level instance: a function body (live-out = ∅, same scope on both sides) -/
theorem scope_body (D scope : Names) (ss : List GStmt)
    (h1 : scopeErrs D scope ss = []) (h2 : shapeOK ss = true) :
    scopeErrs D scope (dceBody ss) = [] ∧ unusedStmts (dceBody ss) = [] :=
  have h := scope_main D ss scope scope [] h1 h2 (fun x hx => by cases hx) (fun y hy _ => hy) (fun y hy => hy)
  ⟨h.wellScoped, h.noUnused⟩

/-! ### the scope check sees the scope as a set (for a type-switch binding that re-binds a name in scope) -/
theorem contains_congr {sc sc' : Names} (h : ∀ x, x ∈ sc ↔ x ∈ sc') (x : String) :
    sc.contains x = sc'.contains x := by
  by_cases hx : x ∈ sc
  · simp [hx, (h x).mp hx]
  · have : ¬ x ∈ sc' := fun hh => hx ((h x).mpr hh)
    simp [hx, this]

theorem undecl_congr {D sc sc' : Names} (h : ∀ x, x ∈ sc ↔ x ∈ sc') (us : Names) :
    undecl D sc us = undecl D sc' us := by
  unfold undecl
  exact List.filter_congr fun x _ => by rw [contains_congr h]

mutual
theorem scopeErrs_congr (D : Names) : ∀ (ss : List GStmt) (sc sc' : Names), (∀ x, x ∈ sc ↔ x ∈ sc') →
    scopeErrs D sc ss = scopeErrs D sc' ss
  | [], sc, sc', h => by simp [scopeErrs]
  | s :: rest, sc, sc', h => by
    simp only [scopeErrs]
    rw [scopeErrsStmt_congr D s sc sc' h]
    rw [scopeErrs_congr D rest (declScope s sc) (declScope s sc') (by
      intro x; cases s <;> simp [declScope, h x])]
theorem scopeErrsStmt_congr (D : Names) : ∀ (s : GStmt) (sc sc' : Names), (∀ x, x ∈ sc ↔ x ∈ sc') →
    scopeErrsStmt D sc s = scopeErrsStmt D sc' s
  | .expr e, sc, sc', h | .go e, sc, sc', h | .ret e, sc, sc', h | .indexAssign a i e, sc, sc', h
  | .ptrAssign a e, sc, sc', h | .fieldAssign a e, sc, sc', h => by
    simp only [scopeErrsStmt, undecl_congr h]
  | .varDecl x ty v, sc, sc', h | .assign x v, sc, sc', h => by
    simp only [scopeErrsStmt, undecl_congr h, contains_congr h]
  | .brk, sc, sc', h => by simp only [scopeErrsStmt]
  | .loop b, sc, sc', h => by simp only [scopeErrsStmt, scopeErrs_congr D b sc sc' h]
  | .ite c t none, sc, sc', h => by
    simp only [scopeErrsStmt, undecl_congr h, scopeErrs_congr D t sc sc' h]
  | .ite c t (some b), sc, sc', h => by
    simp only [scopeErrsStmt, undecl_congr h, scopeErrs_congr D t sc sc' h, scopeErrs_congr D b sc sc' h]
  | .switch e cs none, sc, sc', h => by
    simp only [scopeErrsStmt, undecl_congr h, scopeErrsCases_congr D cs sc sc' h]
  | .switch e cs (some b), sc, sc', h => by
    simp only [scopeErrsStmt, undecl_congr h, scopeErrsCases_congr D cs sc sc' h, scopeErrs_congr D b sc sc' h]
  | .tswitch bind e cs none, sc, sc', h => by
    simp only [scopeErrsStmt, undecl_congr h, scopeErrsTCases_congr D cs sc sc' h, contains_congr h]
  | .tswitch bind e cs (some b), sc, sc', h => by
    simp only [scopeErrsStmt, undecl_congr h, scopeErrsTCases_congr D cs sc sc' h, contains_congr h,
      scopeErrs_congr D b sc sc' h]
theorem scopeErrsCases_congr (D : Names) : ∀ (cs : List GCase) (sc sc' : Names), (∀ x, x ∈ sc ↔ x ∈ sc') →
    scopeErrsCases D sc cs = scopeErrsCases D sc' cs
  | [], sc, sc', h => by simp [scopeErrsCases]
  | .mk v b :: rest, sc, sc', h => by
    simp only [scopeErrsCases, undecl_congr h, scopeErrs_congr D b sc sc' h, scopeErrsCases_congr D rest sc sc' h]
theorem scopeErrsTCases_congr (D : Names) : ∀ (cs : List GTCase) (sc sc' : Names), (∀ x, x ∈ sc ↔ x ∈ sc') →
    scopeErrsTCases D sc cs = scopeErrsTCases D sc' cs
  | [], sc, sc', h => by simp [scopeErrsTCases]
  | .mk t b :: rest, sc, sc', h => by
    simp only [scopeErrsTCases, scopeErrs_congr D b sc sc' h, scopeErrsTCases_congr D rest sc sc' h]
end

end Goml.Dce
