import GomlVerif.Lemmas.GoSemEq
import GomlVerif.Lemmas.DceSyntax
/-!
Expression-level lemmas for the preservation proof: a block-free expression depends only on the
variables it mentions (coincidence), and the syntactically inert expressions (`inertSyn b`, with and without field
projections) neither panic nor touch the world.
-/
namespace Goml.Dce
open Goml.Go Goml.Sem

def Agree (L : Names) (ρ ρ' : GEnv) : Prop := ∀ x ∈ L, lookupG ρ x = lookupG ρ' x

theorem Agree.mono {L L' : Names} {ρ ρ' : GEnv} (h : Agree L ρ ρ') (hs : ∀ x ∈ L', x ∈ L) : Agree L' ρ ρ' :=
  fun x hx => h x (hs x hx)

/-- coincidence at fuel `n` -/
structure CoinAt (n : Nat) : Prop where
  ev : ∀ {F ρ ρ' w e}, noBlockExpr e = true → Agree (varsUsed e) ρ ρ' → evalG n F ρ w e = evalG n F ρ' w e
  el : ∀ {F ρ ρ' w es}, noBlockList es = true → Agree (varsUsedList es) ρ ρ' →
        evalListG n F ρ w es = evalListG n F ρ' w es
  ef : ∀ {F ρ ρ' w fs}, noBlockFields fs = true → Agree (varsUsedFields fs) ρ ρ' →
        evalFieldsG n F ρ w fs = evalFieldsG n F ρ' w fs

theorem coin0 : CoinAt 0 := by
  constructor <;> intros <;> simp only [evalG_zero, evalListG_zero, evalFieldsG_zero]

theorem coinE (n : Nat) (ih : CoinAt n) {F ρ ρ' w e} (hb : noBlockExpr e = true)
    (ha : Agree (varsUsed e) ρ ρ') : evalG (n+1) F ρ w e = evalG (n+1) F ρ' w e := by
  -- the operands mention a part of what the node mentions
  have sub : ∀ {L : Names}, (∀ x ∈ L, x ∈ varsUsed e) → Agree L ρ ρ' := fun h => ha.mono h
  cases e with
  | var x t => rw [evalG_var, evalG_var, ha x (by simp [varsUsed])]
  | call t f args =>
    simp only [noBlockExpr, Bool.and_eq_true] at hb
    simp only [evalG_call]
    exact GRes.bind_congr (ih.ev hb.1 (sub fun x hx => by simp [varsUsed, hx])) fun _ _ =>
      GRes.bind_congr (ih.el hb.2 (sub fun x hx => by simp [varsUsed, hx])) fun _ _ => rfl
  | un op t e =>
    simp only [noBlockExpr] at hb
    simp only [evalG_un]
    exact GRes.bind_congr (ih.ev hb (sub fun x hx => by simpa [varsUsed] using hx)) fun _ _ => rfl
  | bin op t l r =>
    simp only [noBlockExpr, Bool.and_eq_true] at hb
    have hr := fun w1 => ih.ev (F := F) (w := w1) hb.2 (sub fun x hx => by simp [varsUsed, hx])
    simp only [evalG_bin]
    refine GRes.bind_congr (ih.ev hb.1 (sub fun x hx => by simp [varsUsed, hx])) fun a w1 => ?_
    split
    · rfl
    · rfl
    · exact hr w1
    · exact hr w1
    · exact GRes.bind_congr (hr w1) fun _ _ => rfl
  | field f t o =>
    simp only [noBlockExpr] at hb
    simp only [evalG_field]
    exact GRes.bind_congr (ih.ev hb (sub fun x hx => by simpa [varsUsed] using hx)) fun _ _ => rfl
  | index t a i =>
    simp only [noBlockExpr, Bool.and_eq_true] at hb
    simp only [evalG_index]
    exact GRes.bind_congr (ih.ev hb.1 (sub fun x hx => by simp [varsUsed, hx])) fun _ _ =>
      GRes.bind_congr (ih.ev hb.2 (sub fun x hx => by simp [varsUsed, hx])) fun _ _ => rfl
  | cast t e =>
    simp only [noBlockExpr] at hb
    simp only [evalG_cast]
    exact GRes.bind_congr (ih.ev hb (sub fun x hx => by simpa [varsUsed] using hx)) fun _ _ => rfl
  | slit t fs =>
    simp only [noBlockExpr] at hb
    simp only [evalG_slit]
    exact GRes.bind_congr (ih.ef hb (sub fun x hx => by simpa [varsUsed] using hx)) fun _ _ => rfl
  | alit t es =>
    simp only [noBlockExpr] at hb
    simp only [evalG_alit]
    exact GRes.bind_congr (ih.el hb (sub fun x hx => by simpa [varsUsed] using hx)) fun _ _ => rfl
  | blocke t ss e => simp [noBlockExpr] at hb
  | _ => rw [evalG.eq_def, evalG.eq_def]

theorem coinL (n : Nat) (ih : CoinAt n) {F ρ ρ' w es} (hb : noBlockList es = true)
    (ha : Agree (varsUsedList es) ρ ρ') : evalListG (n+1) F ρ w es = evalListG (n+1) F ρ' w es := by
  cases es with
  | nil => rw [evalListG_nil, evalListG_nil]
  | cons e rest =>
    simp only [noBlockList, Bool.and_eq_true] at hb
    simp only [evalListG_cons]
    exact GRes.bind_congr (ih.ev hb.1 (ha.mono fun x hx => by simp [varsUsedList, hx])) fun _ _ =>
      GRes.bind_congr (ih.el hb.2 (ha.mono fun x hx => by simp [varsUsedList, hx])) fun _ _ => rfl

theorem coinF (n : Nat) (ih : CoinAt n) {F ρ ρ' w fs} (hb : noBlockFields fs = true)
    (ha : Agree (varsUsedFields fs) ρ ρ') : evalFieldsG (n+1) F ρ w fs = evalFieldsG (n+1) F ρ' w fs := by
  cases fs with
  | nil => rw [evalFieldsG_nil, evalFieldsG_nil]
  | cons fd rest =>
    cases fd
    simp only [noBlockFields, Bool.and_eq_true] at hb
    simp only [evalFieldsG_cons]
    exact GRes.bind_congr (ih.ev hb.1 (ha.mono fun x hx => by simp [varsUsedFields, hx])) fun _ _ =>
      GRes.bind_congr (ih.ef hb.2 (ha.mono fun x hx => by simp [varsUsedFields, hx])) fun _ _ => rfl

/-- **coincidence**: a block-free expression depends only on the variables it mentions -/
theorem coin_all : ∀ n, CoinAt n
  | 0 => coin0
  | n + 1 =>
    have ih := coin_all n
    { ev := coinE n ih, el := coinL n ih, ef := coinF n ih }

/-- a result that neither changed the world nor panicked -/
def Quiet {α : Type} (w : GWorld) : GRes α → Prop
  | .ok _ w' => w' = w
  | .fail f _ => ∀ k, f ≠ .panic k

/-- evaluating `e` never panics and never changes the world (it may run out of fuel, and in an
    ill-typed program it may be stuck) -/
def Inert (F : GFile) (e : GExpr) : Prop := ∀ n ρ w, Quiet w (evalG n F ρ w e)

/-- the one panic of `gbin` is the division by zero; every other failing row is `stuck` -/
theorem gbin_nopanic (op : GBin) (a b : GVal) (f : Fail) (hop : op ≠ .div)
    (h : gbin op a b = .error f) : ∀ k, f ≠ .panic k := by
  unfold gbin at h
  split at h <;> first
    | (cases h; intro k hk; cases hk)
    | cases h
    | (exact absurd rfl hop)
    | (split at h <;> first | (cases h; intro k hk; cases hk) | cases h)

/-- what `inertSyn b` accepts is `Quiet` at fuel `n` -/
structure InertAt (b : Bool) (n : Nat) : Prop where
  ev : ∀ {F ρ w e}, inertSyn b e = true → Quiet w (evalG n F ρ w e)
  el : ∀ {F ρ w es}, inertSynList b es = true → Quiet w (evalListG n F ρ w es)
  ef : ∀ {F ρ w fs}, inertSynFields b fs = true → Quiet w (evalFieldsG n F ρ w fs)

theorem inert0 {b : Bool} : InertAt b 0 := by
  constructor <;> intros <;> simp [evalG_zero, evalListG_zero, evalFieldsG_zero, Quiet]

theorem quiet_stuck {α : Type} (w w' : GWorld) (s : String) : Quiet (α := α) w (.fail (.stuck s) w') := by
  intro k hk; cases hk

/-- a quiet first computation leaves the world as it was, so the continuation need only be quiet in that world -/
theorem Quiet.bind {α β : Type} {w : GWorld} {r : GRes α} {k : α → GWorld → GRes β} (hr : Quiet w r)
    (hk : ∀ a, Quiet w (k a w)) : Quiet w (r.bind k) := by
  cases r with
  | fail f w' => exact hr
  | ok a w' => cases hr; exact hk a

theorem quiet_lookup {fs : List (String × GVal)} {f s : String} {w : GWorld} :
    Quiet w (match lookupG fs f with | some v => GRes.ok v w | none => .fail (.stuck s) w) := by
  cases lookupG fs f <;> first | rfl | exact quiet_stuck _ _ _

theorem inertE {b : Bool} (n : Nat) (ih : InertAt b n) {F ρ w e} (hi : inertSyn b e = true) :
    Quiet w (evalG (n+1) F ρ w e) := by
  cases e with
  | un op t e =>
    simp only [evalG_un]
    have ho : op = .neg ∨ op = .not := by cases op <;> simp [inertSyn] at hi ⊢
    refine (ih.ev (e := e) (by rcases ho with rfl | rfl <;> simpa [inertSyn] using hi)).bind fun v => ?_
    rcases ho with rfl | rfl <;> cases v <;> first | rfl | exact quiet_stuck _ _ _
  | bin op t l r =>
    have hop : op ≠ .div := by
      intro h; subst h; simp [inertSyn] at hi
    have hi' : inertSyn b l = true ∧ inertSyn b r = true := by
      cases op <;> simp_all [inertSyn]
    have key : ∀ a, Quiet w ((evalG n F ρ w r).bind (gbinTail op a)) := fun a =>
      (ih.ev hi'.2).bind fun v => by
        unfold gbinTail
        cases hg : gbin op a v with
        | ok v => rfl
        | error f => exact gbin_nopanic op a v f hop hg
    simp only [evalG_bin]
    refine (ih.ev hi'.1).bind fun a => ?_
    split
    · rfl
    · rfl
    · exact ih.ev hi'.2
    · exact ih.ev hi'.2
    · exact key a
  | slit t fs =>
    simp only [inertSyn] at hi
    simp only [evalG_slit]
    exact (ih.ef hi).bind fun _ => rfl
  | alit t es =>
    simp only [inertSyn, Bool.and_eq_true] at hi
    simp only [evalG_alit]
    refine (ih.el hi.2).bind fun _ => ?_
    cases t <;> first | (exfalso; simp at hi; done) | rfl
  | field f t o =>
    simp only [inertSyn, Bool.and_eq_true, Bool.not_eq_true'] at hi
    simp only [evalG_field]
    refine (ih.ev hi.2).bind fun v => ?_
    unfold fieldTail
    split
    · exact quiet_lookup
    · split <;> first | exact quiet_lookup | exact quiet_stuck _ _ _
    · simp only [hi.1.2, Bool.false_eq_true, if_false]; exact quiet_stuck _ _ _
    · exact quiet_stuck _ _ _
  | call t f args => simp [inertSyn] at hi
  | index t a i => simp [inertSyn] at hi
  | cast t e => simp [inertSyn] at hi
  | blocke t ss e => simp [inertSyn] at hi
  | int v t =>
    rw [evalG.eq_def]; simp only
    split <;> first | rfl | exact quiet_stuck _ _ _
  | float v t => rw [evalG.eq_def]; simp only; split <;> rfl
  | var x t => rw [evalG_var]; cases lookupG ρ x <;> rfl
  | _ => rw [evalG.eq_def]; rfl

theorem inertL {b : Bool} (n : Nat) (ih : InertAt b n) {F ρ w es} (hi : inertSynList b es = true) :
    Quiet w (evalListG (n+1) F ρ w es) := by
  cases es with
  | nil => rw [evalListG_nil]; rfl
  | cons e rest =>
    simp only [inertSynList, Bool.and_eq_true] at hi
    simp only [evalListG_cons]
    exact (ih.ev hi.1).bind fun _ => (ih.el hi.2).bind fun _ => rfl

theorem inertFs {b : Bool} (n : Nat) (ih : InertAt b n) {F ρ w fs} (hi : inertSynFields b fs = true) :
    Quiet w (evalFieldsG (n+1) F ρ w fs) := by
  cases fs with
  | nil => rw [evalFieldsG_nil]; rfl
  | cons fd rest =>
    cases fd
    simp only [inertSynFields, Bool.and_eq_true] at hi
    simp only [evalFieldsG_cons]
    exact (ih.ev hi.1).bind fun _ => (ih.ef hi.2).bind fun _ => rfl

theorem inert_all (b : Bool) : ∀ n, InertAt b n
  | 0 => inert0
  | n + 1 =>
    have ih := inert_all b n
    { ev := inertE n ih, el := inertL n ih, ef := inertFs n ih }

/-- the syntactic criterion is sound: literals, variables, `-`, `!`, non-dividing binary
    operators and struct / array literals of such can neither panic nor touch the world -/
theorem inertSyn_sound (F : GFile) (e : GExpr) (h : inertSyn false e = true) : Inert F e :=
  fun n _ _ => (inert_all false n).ev h

/-- … and so are field projections `e.f` of an `e` whose static type is not a pointer: `Go.Sem` has
    no rule for a nil value of a non-pointer type, so `e.f` can be stuck but cannot panic -/
theorem inertSyn_sound_field (F : GFile) (e : GExpr) (h : inertSyn true e = true) : Inert F e :=
  fun n _ _ => (inert_all true n).ev h

end Goml.Dce
