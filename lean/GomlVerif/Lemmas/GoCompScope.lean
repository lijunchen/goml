import GomlVerif.Lemmas.GoCompWrites
import GomlVerif.Lemmas.GoCompPoint
/-!
The scope half of `compile_wellformed` (T2 of Props/GoCompile): the statements `GoCompile` emits for a function of the fragment satisfy Go's scope rules for
locals (`Dce.scopeErrs = []`: declared before use, nothing redeclared or shadowed) and the shape
contract of the DCE theorems (`Dce.shapeOK`).  The expression level first (`cexpr_fromCtx`: the variables of a
compiled expression are operands in scope and callees); the statements by induction over the rules of the
lowering (`clean_rules`), at every point where the invariant `At` holds.
-/
namespace Goml.GoComp
open Goml Goml.Go Goml.GoCompile Goml.GoFrag
open Goml.Dce (scopeErrs scopeErrsStmt scopeErrsCases scopeErrsTCases shapeOK shapeOKStmt shapeOKCases shapeOKTCases
  varsUsed varsUsedList undecl declScope noBlockExpr noBlockList mem_uni undecl_nil Names writesTCases)

attribute [local irreducible] Goml.GoCompile.vn Goml.GoCompile.gid Goml.GoCompile.rn

/-- the two properties the scope half of `compile_wellformed` is about -/
def Clean (D sc : Names) (S : List GStmt) : Prop := scopeErrs D sc S = [] ∧ shapeOK S = true

theorem clean_nil (D sc : Names) : Clean D sc [] := ⟨by simp [scopeErrs], by simp [shapeOK]⟩

theorem clean_cons {D sc : Names} {s : GStmt} {rest : List GStmt} (h1 : scopeErrsStmt D sc s = [])
    (h2 : shapeOKStmt s = true) (h3 : Clean D (declScope s sc) rest) : Clean D sc (s :: rest) := by
  refine ⟨?_, ?_⟩
  · rw [scopeErrs]; simp [h1, h3.1]
  · rw [shapeOK]; simp [h2, h3.2]

theorem clean_append {D : Names} : ∀ {a b : List GStmt} {sc : Names}, Clean D sc a → Clean D (scopeAfter a sc) b →
    Clean D sc (a ++ b)
  | [], b, sc, _, hb => by simpa [scopeAfter] using hb
  | s :: a, b, sc, ha, hb => by
    obtain ⟨ha1, ha2⟩ := ha
    rw [scopeErrs] at ha1; rw [shapeOK] at ha2
    simp only [List.append_eq_nil_iff, Bool.and_eq_true] at ha1 ha2
    exact clean_cons ha1.1 ha2.1 (clean_append ⟨ha1.2, ha2.2⟩ (by simpa [scopeAfter] using hb))

theorem varsUsed_compileImm (env : Env) (i : Imm) :
    varsUsed (compileImm env i) = (match i with | .var x _ => [vn x] | _ => []) ∧ noBlockExpr (compileImm env i) = true := by
  cases i with
  | var x ty => simp [compileImm, varsUsed, noBlockExpr]
  | prim p ty => cases p <;> simp [compileImm, lit, varsUsed, noBlockExpr]
  | tag idx ty => simp [compileImm, varsUsed, Goml.Dce.varsUsedFields, noBlockExpr, Goml.Dce.noBlockFields]

/-- where the variables of a compiled expression may come from: operands in scope, callees -/
def FromCtx (file : AFile) (G : List String) (Γ : Ctx) (cs : List String) (y : String) : Prop :=
  (∃ x t, lookupTy Γ x = some t ∧ y = vn x) ∨ y ∈ cs ∨ ∃ e, e ∈ fnSigs file G ∧ y = vn e.1

theorem imm_fromCtx (env : Env) {Γ : Ctx} {i : Imm} (h : immOK env file G Γ i = true) (cs : List String) :
    (∀ y, y ∈ varsUsed (compileImm env i) → FromCtx file G Γ cs y) ∧ noBlockExpr (compileImm env i) = true := by
  obtain ⟨h1, h2⟩ := varsUsed_compileImm env i
  refine ⟨fun y hy => ?_, h2⟩
  rw [h1] at hy
  cases i with
  | var x ty =>
    simp only [List.mem_singleton] at hy; subst hy
    simp only [immOK] at h
    cases hl : lookupTy Γ x with
    | none =>
      rw [hl] at h; simp only at h
      cases ty with
      | func ps r =>
        simp only [fnValOK, Bool.and_eq_true] at h
        cases hf : (fnSigs file G).find? (·.1 == x) with
        | none => rw [hf] at h; exact absurd h.2 (by simp)
        | some e =>
          have hx : e.1 = x := by simpa using List.find?_some hf
          exact Or.inr (Or.inr ⟨e, List.mem_of_find?_eq_some hf, by rw [hx]⟩)
      | _ => cases h  -- `fnValOK` admits a function type only
    | some t => exact Or.inl ⟨x, t, hl, rfl⟩
  | prim p ty => cases hy
  | tag idx ty => cases hy

theorem imms_fromCtx (env : Env) {Γ : Ctx} (cs : List String) : ∀ {args : List Imm} {tys : List Ty}, argsOK env file G Γ args tys = true →
    (∀ y, y ∈ varsUsedList (compileImms env args) → FromCtx file G Γ cs y) ∧ noBlockList (compileImms env args) = true
  | [], tys, _ => by simp [compileImms, varsUsedList, noBlockList]
  | a :: as, [], h => by simp [argsOK] at h
  | a :: as, t :: ts, h => by
    simp only [argsOK, Bool.and_eq_true] at h
    obtain ⟨⟨ha, _⟩, has⟩ := h
    obtain ⟨h1, h2⟩ := imm_fromCtx env ha cs
    obtain ⟨h3, h4⟩ := imms_fromCtx env cs has
    simp only [compileImms, List.map_cons, varsUsedList, noBlockList, mem_uni, Bool.and_eq_true] at *
    exact ⟨fun y hy => hy.elim (h1 y) (h3 y), h2, h4⟩

/-- the fields of a composite literal — names zipped with expressions — use and contain what the expressions do -/
theorem zipFields_sub : ∀ (names : List String) (es : List GExpr),
    (∀ y, y ∈ Goml.Dce.varsUsedFields (List.zipWith GField.mk names es) → y ∈ varsUsedList es) ∧
      (noBlockList es = true → Goml.Dce.noBlockFields (List.zipWith GField.mk names es) = true)
  | [], es => by simp [Goml.Dce.varsUsedFields, Goml.Dce.noBlockFields]
  | _ :: _, [] => by simp [Goml.Dce.varsUsedFields, Goml.Dce.noBlockFields]
  | n :: names, e :: es => by
    obtain ⟨h1, h2⟩ := zipFields_sub names es
    simp only [List.zipWith_cons_cons, Goml.Dce.varsUsedFields, Goml.Dce.noBlockFields, varsUsedList, noBlockList, mem_uni,
      Bool.and_eq_true]
    exact ⟨fun y hy => hy.imp id (h1 y), fun h => ⟨h.1, h2 h.2⟩⟩

theorem fields_fromCtx (env : Env) {Γ : Ctx} (cs : List String) {args : List Imm} {tys : List Ty} (fields : List (String × Ty))
    (h : argsOK env file G Γ args tys = true) :
    (∀ y, y ∈ Goml.Dce.varsUsedFields (structFieldsOf fields (compileImms env args)) → FromCtx file G Γ cs y) ∧
      Goml.Dce.noBlockFields (structFieldsOf fields (compileImms env args)) = true := by
  obtain ⟨h1, h2⟩ := imms_fromCtx env cs h
  obtain ⟨h3, h4⟩ := zipFields_sub (fields.map fun f => gid f.1) (compileImms env args)
  rw [structFieldsOf_eq]
  exact ⟨fun y hy => h1 y (h3 y hy), h4 h2⟩

theorem tfields_fromCtx (env : Env) {Γ : Ctx} (cs : List String) {args : List Imm} {tys : List Ty} (i : Nat)
    (h : argsOK env file G Γ args tys = true) :
    (∀ y, y ∈ Goml.Dce.varsUsedFields (tupleFields i (compileImms env args)) → FromCtx file G Γ cs y) ∧
      Goml.Dce.noBlockFields (tupleFields i (compileImms env args)) = true := by
  obtain ⟨h1, h2⟩ := imms_fromCtx env cs h
  obtain ⟨h3, h4⟩ := zipFields_sub (fieldNames i (compileImms env args).length) (compileImms env args)
  rw [tupleFields_eq]
  exact ⟨fun y hy => h1 y (h3 y hy), h4 h2⟩

theorem call_fromCtx (env : Env) {Γ : Ctx} {cs : List String} {args : List Imm} {tys : List Ty} {t hty : GTy} {h : String}
    (hargs : argsOK env file G Γ args tys = true) (hh : h ∈ cs) :
    (∀ y, y ∈ varsUsed (.call t (.var h hty) (compileImms env args)) → FromCtx file G Γ cs y) ∧
      noBlockExpr (.call t (.var h hty) (compileImms env args)) = true := by
  obtain ⟨h3, h4⟩ := imms_fromCtx env cs hargs
  simp only [varsUsed, noBlockExpr, mem_uni, Bool.and_eq_true, List.mem_singleton]
  refine ⟨fun y hy => ?_, trivial, h4⟩
  rcases hy with rfl | hy
  · exact Or.inr (Or.inl hh)
  · exact h3 y hy

theorem callView_fromCtx {env : Env} {file : AFile} {G : List String} {Γ : Ctx} {fty : Ty} {name : String} {args : List Imm} {ty : Ty}
    {ge : GExpr} {cs : List String} (hv : CallView env file G Γ fty name args ty ge cs) :
    (∀ y, y ∈ varsUsed ge → FromCtx file G Γ cs y) ∧ noBlockExpr ge = true := by
  cases hv with
  | named hty hnone ht hargs _ => exact call_fromCtx env hargs (List.mem_singleton.mpr rfl)
  | localFn hlk _ hargs _ =>
    obtain ⟨h3, h4⟩ := imms_fromCtx env [] hargs
    simp only [varsUsed, noBlockExpr, mem_uni, Bool.and_eq_true, List.mem_singleton]
    refine ⟨fun y hy => ?_, trivial, h4⟩
    rcases hy with rfl | hy
    · exact Or.inl ⟨name, _, hlk, rfl⟩
    · exact h3 y hy
  | vecNew _ _ => simp [varsUsed, noBlockExpr]
  | vecGet _ ha _ hi _ _ =>
    obtain ⟨a1, a2⟩ := imm_fromCtx env ha []
    obtain ⟨i1, i2⟩ := imm_fromCtx env hi []
    simp only [varsUsed, noBlockExpr, mem_uni, Bool.and_eq_true]
    exact ⟨fun y hy => hy.elim (a1 y) (i1 y), a2, i2⟩
  | vecLen _ ha _ _ =>
    obtain ⟨a1, a2⟩ := imm_fromCtx env ha ["int32", "len"]
    simp only [varsUsed, varsUsedList, noBlockExpr, noBlockList, mem_uni, Bool.and_eq_true, List.mem_singleton,
      List.not_mem_nil, or_false, Bool.and_true]
    refine ⟨fun y hy => ?_, trivial, trivial, a2⟩
    rcases hy with rfl | rfl | hy
    · exact Or.inr (Or.inl (by simp))
    · exact Or.inr (Or.inl (by simp))
    · exact a1 y hy

/-- the variables of the Go expression a simple form compiles to: its operands and the top-level functions the view names -/
theorem cv_fromCtx {env : Env} {file : AFile} {G : List String} {Γ : Ctx} {K : KCtx} {c : CExpr} {ge : GExpr} {cs : List String}
    (h : CV env file G Γ K c ge cs) : (∀ y, y ∈ varsUsed ge → FromCtx file G Γ cs y) ∧ noBlockExpr ge = true := by
  cases h with
  | imm hi => exact imm_fromCtx env hi _
  | neg he _ => simpa only [varsUsed, noBlockExpr] using imm_fromCtx env he []
  | not he _ => simpa only [varsUsed, noBlockExpr] using imm_fromCtx env he []
  | bin hl hr _ _ =>
    obtain ⟨h1, h2⟩ := imm_fromCtx env hl []
    obtain ⟨h3, h4⟩ := imm_fromCtx env hr []
    simp only [varsUsed, noBlockExpr, mem_uni, Bool.and_eq_true]
    exact ⟨fun y hy => hy.elim (h1 y) (h3 y), h2, h4⟩
  | call hv => exact callView_fromCtx hv
  | variant _ hargs =>
    simpa only [varsUsed, noBlockExpr] using tfields_fromCtx env [] 0 hargs
  | @struct _ d _ _ _ hargs =>
    simpa only [varsUsed, noBlockExpr] using fields_fromCtx env [] d.fields hargs
  | tuple hargs _ =>
    simpa only [varsUsed, noBlockExpr] using tfields_fromCtx env [] 0 hargs
  | array hargs _ =>
    simpa only [varsUsed, noBlockExpr] using imms_fromCtx env [] hargs
  | cgetVariant _ he _ _ _ => simpa only [varsUsed, noBlockExpr] using imm_fromCtx env he []
  | cgetStruct he _ _ _ => simpa only [varsUsed, noBlockExpr] using imm_fromCtx env he []
  | proj he _ _ _ _ _ => simpa only [varsUsed, noBlockExpr] using imm_fromCtx env he []
  | @toDyn tr forTy e he _ _ =>
    obtain ⟨h1', h2'⟩ := imm_fromCtx env he (dynVtableCtorName tr forTy :: dynDataCallee e)
    have hd : (∀ y, y ∈ varsUsed (dynDataExpr env e) → FromCtx file G Γ (dynVtableCtorName tr forTy :: dynDataCallee e) y) ∧
        noBlockExpr (dynDataExpr env e) = true := by
      cases e with
      | var x t => exact ⟨h1', h2'⟩
      | tag idx t => exact ⟨h1', h2'⟩
      | prim p t =>
        simp only [dynDataExpr]
        cases hc : convName t with
        | none => exact ⟨h1', h2'⟩
        | some n =>
          simp only [varsUsed, varsUsedList, noBlockExpr, noBlockList, mem_uni, List.mem_singleton, List.not_mem_nil, or_false,
            Bool.and_true, h2']
          refine ⟨fun y hy => ?_, trivial⟩
          rcases hy with rfl | hy
          · exact Or.inr (Or.inl (by simp [dynDataCallee, hc]))
          · exact h1' y hy
    obtain ⟨h1, h2⟩ := hd
    simp only [varsUsed, varsUsedList, Goml.Dce.varsUsedFields, noBlockExpr, noBlockList, Goml.Dce.noBlockFields,
      mem_uni, List.mem_singleton, List.not_mem_nil, or_false, Bool.and_true]
    refine ⟨fun y hy => ?_, h2⟩
    rcases hy with hy | rfl
    · exact h1 y hy
    · exact Or.inr (Or.inl (by simp))
  | dynCall hr _ _ hargs _ =>
    obtain ⟨r1, r2⟩ := imm_fromCtx env hr []
    obtain ⟨a1, a2⟩ := imms_fromCtx env [] hargs
    simp only [varsUsed, varsUsedList, noBlockExpr, noBlockList, mem_uni, Bool.and_eq_true]
    exact ⟨fun y hy => by
      rcases hy with hy | hy | hy
      · exact r1 y hy
      · exact r1 y hy
      · exact a1 y hy, r2, r2, a2⟩

theorem cexpr_fromCtx {env : Env} {file : AFile} {G : List String} {Γ : Ctx} {K : KCtx} {c : CExpr} (hctl : isCtl c = false)
    (hgoc : isGoC c = false) (h : fragC env file G Γ K c = true) :
    (∀ y, y ∈ varsUsed (compileCExpr env c) → FromCtx file G Γ (calleesC (Γ.map (·.1)) c) y) ∧ noBlockExpr (compileCExpr env c) = true :=
  cv_fromCtx (fragC_cv hctl hgoc h)

mutual
/-- nothing declared anywhere inside is a name of the enclosing scope -/
theorem sokB_nd {ok : String → Bool} : ∀ (S : List GStmt) (K : Names), sokB ok K S = true → ∀ y, y ∈ ndDecls S → ¬ y ∈ K
  | [], _, _, y, hy => by simp [ndDecls] at hy
  | s :: rest, K, h, y, hy => by
    simp only [sokB, Bool.and_eq_true] at h
    rw [ndDecls_cons, List.mem_append] at hy
    rcases hy with hy | hy
    · exact sokStmtB_nd s K h.1 y hy
    · have := sokB_nd rest _ h.2 y hy
      intro hk
      apply this
      cases s with
      | varDecl _ _ _ => exact List.mem_cons_of_mem _ hk
      | _ => exact hk
theorem sokStmtB_nd {ok : String → Bool} : ∀ (s : GStmt) (K : Names), sokStmtB ok K s = true → ∀ y, y ∈ ndDeclsOf s → ¬ y ∈ K
  | .varDecl x _ _, K, h, y, hy => by
    simp only [sokStmtB, Bool.and_eq_true, Bool.not_eq_true', List.contains_eq_mem, decide_eq_false_iff_not] at h
    simp only [ndDeclsOf, List.mem_singleton] at hy; subst hy; exact h.1
  | .ite _ t none, K, h, y, hy => by
    simp only [sokStmtB, Bool.and_true] at h
    simp only [ndDeclsOf, List.append_nil] at hy; exact sokB_nd t K h y hy
  | .ite _ t (some e), K, h, y, hy => by
    simp only [sokStmtB, Bool.and_eq_true] at h
    simp only [ndDeclsOf, List.mem_append] at hy
    exact hy.elim (sokB_nd t K h.1 y) (sokB_nd e K h.2 y)
  | .loop b, K, h, y, hy => by
    simp only [sokStmtB] at h; simp only [ndDeclsOf] at hy; exact sokB_nd b K h y hy
  | .switch _ cs none, K, h, y, hy => by
    simp only [sokStmtB, Bool.and_true] at h
    simp only [ndDeclsOf, List.append_nil] at hy; exact sokCasesB_nd cs K h y hy
  | .switch _ cs (some d), K, h, y, hy => by
    simp only [sokStmtB, Bool.and_eq_true] at h
    simp only [ndDeclsOf, List.mem_append] at hy
    exact hy.elim (sokCasesB_nd cs K h.1 y) (sokB_nd d K h.2 y)
  | .tswitch _ _ cs none, K, h, y, hy => by
    simp only [sokStmtB, Bool.and_true] at h
    simp only [ndDeclsOf, List.append_nil] at hy; exact sokTCasesB_nd cs K h y hy
  | .tswitch _ _ cs (some d), K, h, y, hy => by
    simp only [sokStmtB, Bool.and_eq_true] at h
    simp only [ndDeclsOf, List.mem_append] at hy
    exact hy.elim (sokTCasesB_nd cs K h.1 y) (sokB_nd d K h.2 y)
  | .expr _, _, _, y, hy | .go _, _, _, y, hy | .assign _ _, _, _, y, hy | .fieldAssign _ _, _, _, y, hy
  | .ptrAssign _ _, _, _, y, hy | .indexAssign _ _ _, _, _, y, hy | .ret _, _, _, y, hy | .brk, _, _, y, hy => by
    simp [ndDeclsOf] at hy
theorem sokCasesB_nd {ok : String → Bool} : ∀ (cs : List GCase) (K : Names), sokCasesB ok K cs = true → ∀ y, y ∈ ndDeclsCases cs → ¬ y ∈ K
  | [], _, _, y, hy => by simp [ndDeclsCases] at hy
  | .mk _ b :: rest, K, h, y, hy => by
    simp only [sokCasesB, Bool.and_eq_true] at h
    simp only [ndDeclsCases, List.mem_append] at hy
    exact hy.elim (sokB_nd b K h.1 y) (sokCasesB_nd rest K h.2 y)
theorem sokTCasesB_nd {ok : String → Bool} : ∀ (cs : List GTCase) (K : Names), sokTCasesB ok K cs = true → ∀ y, y ∈ ndDeclsTCases cs → ¬ y ∈ K
  | [], _, _, y, hy => by simp [ndDeclsTCases] at hy
  | .mk _ b :: rest, K, h, y, hy => by
    simp only [sokTCasesB, Bool.and_eq_true] at h
    simp only [ndDeclsTCases, List.mem_append] at hy
    exact hy.elim (sokB_nd b K h.1 y) (sokTCasesB_nd rest K h.2 y)
end

/-- nothing the clauses declare (nested included) is a name of the enclosing scope -/
theorem DeclOKA.nd {D sc : Names} {ra : List (Imm × List GStmt)} {rd : Option (List GStmt)} (h : DeclOKA D sc ra rd) :
    (∀ y, y ∈ armDecls ra → ¬ y ∈ sc) ∧ (∀ y, y ∈ optDecls rd → ¬ y ∈ sc) := by
  refine ⟨?_, ?_⟩
  · induction ra with
    | nil => intro y hy; simp [armDecls] at hy
    | cons p rest ih =>
      intro y hy
      simp only [armDecls, List.mem_append] at hy
      rcases hy with hy | hy
      · exact sokB_nd p.2 sc (h.1 p List.mem_cons_self) y hy
      · exact ih ⟨fun q hq => h.1 q (List.mem_cons_of_mem _ hq), h.2⟩ y hy
  · cases rd with
    | none => intro y hy; simp [optDecls] at hy
    | some d => intro y hy; exact sokB_nd d sc (h.2 d rfl) y hy

/-- an expression whose variables come from the context is clean at this point -/
theorem expr_ok {D sc : Names} {Γ : Ctx} {cs : List String} (hctx : SCtx file G D sc Γ cs) {e : GExpr}
    (hfrom : ∀ y, y ∈ varsUsed e → FromCtx file G Γ cs y) :
    undecl D sc (varsUsed e) = [] ∧ (varsUsed e).contains "_" = false ∧
      (∀ t, t ∈ sc → (∀ x ty, lookupTy Γ x = some ty → vn x ≠ t) → (varsUsed e).contains t = false) := by
  refine ⟨undecl_nil.mpr (fun y hy hD => ?_), ?_, fun t ht hne => ?_⟩
  · rcases hfrom y hy with ⟨x, t, hx, rfl⟩ | hf | ⟨e, he, rfl⟩
    · exact hctx.vars x t hx
    · exact absurd hD (hctx.cal y hf).1
    · exact absurd hD (hctx.fns e he).1
  · rw [List.contains_eq_mem]; simp only [decide_eq_false_iff_not]
    intro hy
    rcases hfrom _ hy with ⟨x, t, hx, he⟩ | hf | ⟨e, he, heq⟩
    · exact hctx.nob (he ▸ hctx.vars x t hx)
    · exact (hctx.cal _ hf).2 rfl
    · exact (hctx.fns e he).2 heq.symm
  · rw [List.contains_eq_mem]; simp only [decide_eq_false_iff_not]
    intro hy
    rcases hfrom _ hy with ⟨x, tx, hx, he⟩ | hf | ⟨e, he, heq⟩
    · exact hne x tx hx he.symm
    · exact (hctx.cal _ hf).1 (hctx.scD t ht)
    · exact (hctx.fns e he).1 (heq ▸ hctx.scD t ht)

theorem go_clean {env : Env} {file : AFile} {G : List String} {D : Names} (e : Imm) (ty : Ty) (Γ : Ctx) (K : KCtx) (sc : Names)
    (hfrag : fragC env file G Γ K (.go e ty) = true) (hctx : SCtx file G D sc Γ (calleesC (Γ.map (·.1)) (.go e ty))) :
    scopeErrsStmt D sc (compileGo env e) = [] ∧ shapeOKStmt (compileGo env e) = true := by
  obtain ⟨sn, g, fty, rty, ⟨hety, he, _, _, _, _, _, _, _, hshape⟩⟩ := fragC_goView hfrag
  obtain ⟨a1, a2⟩ := imm_fromCtx env he (calleesC (Γ.map (·.1)) (.go e ty))
  have hfrom : ∀ y, y ∈ varsUsed (GExpr.call (goTy rty) (.var (vn (applyFnName sn)) (goTy fty)) (compileImms env [e])) →
      FromCtx file G Γ (calleesC (Γ.map (·.1)) (.go e ty)) y := by
    intro y hy
    simp only [varsUsed, varsUsedList, compileImms, List.map_cons, List.map_nil, mem_uni, List.mem_singleton, List.not_mem_nil,
      or_false] at hy
    rcases hy with rfl | hy
    · exact Or.inr (Or.inl (by simp [calleesC, hety]))
    · exact a1 y hy
  obtain ⟨h1, h2, _⟩ := expr_ok hctx hfrom
  rw [hshape]
  refine ⟨by simp only [scopeErrsStmt]; exact h1, ?_⟩
  simp only [shapeOKStmt, h2, Bool.not_false, Bool.and_true]
  simp [noBlockExpr, noBlockList, compileImms, a2]

theorem assign_unit_ok {D sc : Names} {t : String} (ht : gid t ∈ sc) :
    scopeErrsStmt D sc (.assign (gid t) unitE) = [] ∧ shapeOKStmt (.assign (gid t) unitE) = true := by
  refine ⟨?_, by simp [shapeOKStmt, unitE, noBlockExpr, varsUsed]⟩
  simp only [scopeErrsStmt, unitE, varsUsed, undecl, List.filter_nil, List.nil_append, List.contains_iff_mem.mpr ht]
  simp

theorem scopeC_simple {env : Env} {file : AFile} {G : List String} {D : Names} (m : Mode) (c : CExpr) (Γ : Ctx) (K : KCtx) (sc : Names)
    (hctl : isCtl c = false) (hfrag : fragC env file G Γ K c = true) (hctx : SCtx file G D sc Γ (calleesC (Γ.map (·.1)) c))
    (htgt : TgtSc m Γ sc) : Clean D sc (compileSimple env m c) := by
  have hv := compileSimple_view env m c
  generalize compileSimple env m c = S at hv
  cases hv with
  | go e ty => obtain ⟨hg1, hg2⟩ := go_clean e ty Γ K sc hfrag hctx; exact clean_cons hg1 hg2 (clean_nil _ _)
  | goUnit t e ty =>
    obtain ⟨hg1, hg2⟩ := go_clean e ty Γ K sc hfrag hctx
    obtain ⟨X, hX⟩ := compileGo_isGo env e
    refine clean_cons hg1 hg2 ?_
    rw [hX]; simp only [declScope]
    have ha := assign_unit_ok (D := D) htgt.1
    exact clean_cons ha.1 ha.2 (clean_nil _ _)
  | missing t f args ty hmiss => rw [not_missing hfrag] at hmiss; cases hmiss
  | assign t c hgoc =>
    obtain ⟨hfrom, hnb⟩ := cexpr_fromCtx hctl hgoc hfrag
    obtain ⟨h1, h2, h3⟩ := expr_ok hctx hfrom
    refine clean_cons ?_ (by simp only [shapeOKStmt, hnb, h2, h3 (gid t) htgt.1 htgt.2]; rfl) (clean_nil _ _)
    simp only [scopeErrsStmt, h1, List.nil_append]
    simp [htgt.1]
  | expr c hcall =>
    obtain ⟨hfrom, hnb⟩ := cexpr_fromCtx hctl hcall.not_go hfrag
    obtain ⟨h1, h2, _⟩ := expr_ok hctx hfrom
    exact clean_cons (by simp only [scopeErrsStmt, h1]) (by simp only [shapeOKStmt, hnb, h2]; rfl) (clean_nil _ _)
  | drop c _ _ => exact clean_nil _ _

theorem not_mem_contains {l : Names} {x : String} (h : ¬ x ∈ l) : l.contains x = false := by simpa using h

theorem varDecl_ok {D sc : Names} {x : String} {ty : GTy} {v : Option GExpr} (hx : ¬ x ∈ sc) (hD : x ∈ D) (hb : x ≠ "_")
    (hv : undecl D sc (match v with | some e => varsUsed e | none => []) = [])
    (hnb : Goml.Dce.noBlockOpt v = true) (hus : (match v with | some e => varsUsed e | none => []).contains "_" = false) :
    scopeErrsStmt D sc (.varDecl x ty v) = [] ∧ shapeOKStmt (.varDecl x ty v) = true := by
  have hus' : ¬ "_" ∈ (match v with | some e => varsUsed e | none => []) := by simpa using hus
  refine ⟨?_, ?_⟩
  · simp only [scopeErrsStmt, List.contains_eq_mem, Bool.or_eq_true, decide_eq_true_eq, Bool.not_eq_eq_eq_not,
      Bool.not_true, decide_eq_false_iff_not, List.append_eq_nil_iff, ite_eq_right_iff, List.cons_ne_self, imp_false,
      not_or, Decidable.not_not]
    exact ⟨hv, hx, hD⟩
  · simp only [shapeOKStmt, hnb, Bool.true_and, List.contains_eq_mem, Bool.and_eq_true, bne_iff_ne, ne_eq, hb,
      not_false_eq_true, Bool.not_eq_eq_eq_not, Bool.not_true, decide_eq_false_iff_not, true_and]
    exact hus'

def CleanOpt (D sc : Names) : Option (List GStmt) → Prop
  | some b => Clean D sc b
  | none => True

/-- the label of a value-switch case is a literal: no variables, no block expression -/
theorem caseLabel_pure (k : MatchKind) (lhs : Imm) :
    varsUsed ((caseLabel k lhs).getD unitE) = [] ∧ noBlockExpr ((caseLabel k lhs).getD unitE) = true := by
  unfold caseLabel
  split <;> (try split) <;> simp [unitE, varsUsed, noBlockExpr]

theorem tcases_clean {D sc : Names} (env : Env) : ∀ ra : List (Imm × List GStmt), (∀ p, p ∈ ra → Clean D sc p.2) →
    scopeErrsTCases D sc (typeCases env ra) = [] ∧ shapeOKTCases (typeCases env ra) = true
  | [], _ => by simp [typeCases, scopeErrsTCases, shapeOKTCases]
  | (lhs, body) :: rest, h => by
    obtain ⟨h1, h2⟩ := h (lhs, body) List.mem_cons_self
    obtain ⟨h3, h4⟩ := tcases_clean env rest (fun p hp => h p (List.mem_cons_of_mem _ hp))
    simp [typeCases, scopeErrsTCases, shapeOKTCases, h1, h2, h3, h4]

theorem vcases_clean {D sc : Names} (k : MatchKind) : ∀ ra : List (Imm × List GStmt), (∀ p, p ∈ ra → Clean D sc p.2) →
    scopeErrsCases D sc (valueCases k ra) = [] ∧ shapeOKCases (valueCases k ra) = true
  | [], _ => by simp [valueCases, scopeErrsCases, shapeOKCases]
  | (lhs, body) :: rest, h => by
    obtain ⟨h1, h2⟩ := h (lhs, body) List.mem_cons_self
    obtain ⟨h3, h4⟩ := vcases_clean k rest (fun p hp => h p (List.mem_cons_of_mem _ hp))
    obtain ⟨h5, h6⟩ := caseLabel_pure k lhs
    simp [valueCases, scopeErrsCases, shapeOKCases, h1, h2, h3, h4, h5, h6, undecl]

/-- `switch b := b.(type) { … }` with `b` in scope and never assigned inside -/
theorem tswitch_clean {D sc : Names} {b : String} {T : GTy} {cs : List GTCase} {d : Option (List GStmt)}
    (hb : b ∈ sc) (hne : b ≠ "_") (hcs : scopeErrsTCases D sc cs = [] ∧ shapeOKTCases cs = true)
    (hd : CleanOpt D sc d) (hw1 : ¬ b ∈ writesTCases cs) (hw2 : ¬ b ∈ optWrites d) :
    scopeErrsStmt D sc (.tswitch (some b) (.var b T) cs d) = [] ∧ shapeOKStmt (.tswitch (some b) (.var b T) cs d) = true := by
  have hu : undecl D sc [b] = [] := undecl_nil.mpr (fun y hy _ => by simp only [List.mem_singleton] at hy; subst hy; exact hb)
  have hbc : sc.contains b = true := by simpa using hb
  have hne'' : ¬ "_" = b := fun e => hne e.symm
  cases d with
  | none =>
    simp only [scopeErrsStmt, shapeOKStmt, varsUsed, hu, hcs.1, hcs.2, hbc, noBlockExpr]
    simp [hne'', hw1, hne]
  | some db =>
    simp only [CleanOpt, Clean] at hd
    simp only [optWrites] at hw2
    simp only [scopeErrsStmt, shapeOKStmt, varsUsed, hu, hcs.1, hcs.2, hbc, noBlockExpr, hd.1, hd.2]
    simp [hne'', hw1, hw2, hne]

theorem switch_clean {D sc : Names} {e : GExpr} {cs : List GCase} {d : Option (List GStmt)}
    (he : undecl D sc (varsUsed e) = []) (hnb : noBlockExpr e = true) (hus : (varsUsed e).contains "_" = false)
    (hcs : scopeErrsCases D sc cs = [] ∧ shapeOKCases cs = true) (hd : CleanOpt D sc d) :
    scopeErrsStmt D sc (.switch e cs d) = [] ∧ shapeOKStmt (.switch e cs d) = true := by
  have hus' : ¬ "_" ∈ varsUsed e := by simpa using hus
  cases d with
  | none => simp [scopeErrsStmt, shapeOKStmt, he, hnb, hus', hcs.1, hcs.2]
  | some db =>
    simp only [CleanOpt, Clean] at hd
    simp [scopeErrsStmt, shapeOKStmt, he, hnb, hus', hcs.1, hcs.2, hd.1, hd.2]

theorem armDecls_cons (lhs : Imm) (body : List GStmt) (rest : List (Imm × List GStmt)) :
    armDecls ((lhs, body) :: rest) = ndDecls body ++ armDecls rest := rfl

theorem varDecl_none_ok {D sc : Names} {x : String} (T : GTy) (hx : Fresh D sc x) :
    scopeErrsStmt D sc (.varDecl x T none) = [] ∧ shapeOKStmt (.varDecl x T none) = true :=
  varDecl_ok (v := none) hx.notInScope hx.isLocal hx.notBlank (by simp [undecl]) rfl rfl

/-! ### the emitted statements are clean wherever the invariant holds: one theorem per rule of the lowering -/

section
variable {env : Env} {file : AFile} {G : List String} {D : Names}

/-- `S`, emitted for `e` in mode `m`, is clean at every point where the invariant holds -/
def CleanAt (env : Env) (file : AFile) (G : List String) (D : Names) (m : Mode) (e : AExpr) (S : List GStmt) : Prop :=
  ∀ sc Γ K, At env file G D sc Γ K m e S → Clean D sc S

theorem clean_simple (m : Mode) {c : CExpr} (hctl : isCtl c = false) : CleanAt env file G D m (.ret c) (compileSimple env m c) :=
  fun sc Γ K h => scopeC_simple m c Γ K sc hctl h.fragTail h.ctxTail h.tgt

theorem clean_letC {m : Mode} {x : String} {v : CExpr} {b : AExpr} {ty : Ty} {S1 S2 : List GStmt}
    (ih1 : CleanAt env file G D (.assign (rn x)) (.ret v) S1) (ih2 : CleanAt env file G D m b S2) :
    CleanAt env file G D m (.letE x v b ty) (.varDecl (vn x) (cexprTy env v) none :: (S1 ++ S2)) := fun sc Γ K h => by
  obtain ⟨hx, h1, h2⟩ := h.letC
  have hvd := varDecl_none_ok (cexprTy env v) hx
  exact clean_cons hvd.1 hvd.2 (clean_append (ih1 _ _ _ h1) (ih2 _ _ _ h2))

/-- `var x T = e` (for `go`: the statement, then `var x struct{} = struct{}{}`), then the body with `x` in scope -/
theorem clean_letS {m : Mode} {x : String} {v : CExpr} {b : AExpr} {ty : Ty} {S2 : List GStmt} (hctl : isCtl v = false)
    (ih2 : CleanAt env file G D m b S2) : CleanAt env file G D m (.letE x v b ty) (compileBindSimple env x v ++ S2) :=
  fun sc Γ K h => by
  obtain ⟨hx, hv, h2⟩ := h.letS
  have hb := ih2 _ _ _ h2
  have hS := compileBindSimple_view env x v
  generalize compileBindSimple env x v = S at hS
  cases hS with
  | decl v hgoc =>
    obtain ⟨hfrom, hnb⟩ := cexpr_fromCtx hctl hgoc hv.fragTail
    obtain ⟨u1, u2, _⟩ := expr_ok hv.ctxTail hfrom
    have hvd := varDecl_ok (ty := cexprTy env v) (v := some (compileCExpr env v)) hx.notInScope hx.isLocal hx.notBlank u1 hnb u2
    exact clean_cons hvd.1 hvd.2 hb
  | go e ty' =>
    obtain ⟨hg1, hg2⟩ := go_clean e ty' Γ K sc hv.fragTail hv.ctxTail
    obtain ⟨X, hX⟩ := compileGo_isGo env e
    have hds : declScope (compileGo env e) sc = sc := by rw [hX]; rfl
    have hvd := varDecl_ok (D := D) (sc := sc) (x := vn x) (ty := GTy.unit) (v := some unitE) hx.notInScope hx.isLocal hx.notBlank
      (by simp [unitE, varsUsed, undecl]) (by simp [Goml.Dce.noBlockOpt, unitE, noBlockExpr]) (by simp [unitE, varsUsed])
    exact clean_cons hg1 hg2 (by rw [hds]; exact clean_cons hvd.1 hvd.2 hb)

theorem clean_ite {m : Mode} {c : Imm} {t e : AExpr} {ty : Ty} {St Se : List GStmt}
    (iht : CleanAt env file G D m t St) (ihe : CleanAt env file G D m e Se) :
    CleanAt env file G D m (.ret (.ite c t e ty)) [.ite (compileImm env c) St (some Se)] := fun sc Γ K h => by
  obtain ⟨hc, _, ht, he, _, _⟩ := h.ite
  obtain ⟨hfrom, hnb⟩ := imm_fromCtx env hc (calleesC (Γ.map (·.1)) (.ite c t e ty))
  obtain ⟨u1, u2, _⟩ := expr_ok h.ctxTail hfrom
  have hT := iht _ _ _ ht
  have hE := ihe _ _ _ he
  refine clean_cons ?_ ?_ (clean_nil _ _)
  · simp only [scopeErrsStmt, u1, hT.1, hE.1]; rfl
  · simp only [shapeOKStmt, hnb, u2, hT.2, hE.2]; rfl

theorem clean_loop {m : Mode} {cv : String} {c b : AExpr} {ty : Ty} {Sc Sb : List GStmt}
    (ihc : CleanAt env file G D (.assign cv) c Sc) (ihb : CleanAt env file G D .effect b Sb) :
    CleanAt env file G D m (.ret (.while c b ty)) (whileStmts m cv Sc Sb) := fun sc Γ K h => by
  obtain ⟨hx, hc, hb, _⟩ := h.loop
  have hcA := ihc _ _ _ hc
  have hcB := ihb _ _ _ hb
  have hvd := varDecl_none_ok GTy.bool hx
  have hcvsc : gid cv ∈ scopeAfter Sc (gid cv :: sc) := (scopeAfter_mem _ _ _).mpr (Or.inl List.mem_cons_self)
  have hite : Clean D (scopeAfter Sc (gid cv :: sc)) (brkUnless cv :: Sb) := by
    refine clean_cons ?_ ?_ (by simpa [declScope, brkUnless] using hcB)
    · simp only [brkUnless, scopeErrsStmt, varsUsed]
      rw [undecl_nil.mpr (fun y hy _ => by simp only [List.mem_singleton] at hy; subst hy; exact hcvsc)]
      simp [scopeErrs, scopeErrsStmt]
    · simp only [brkUnless, shapeOKStmt, noBlockExpr, varsUsed, shapeOK]
      simp only [List.contains_eq_mem, List.mem_cons, List.not_mem_nil, or_false, Bool.true_and, Bool.and_self,
        Bool.and_true, Bool.not_eq_eq_eq_not, Bool.not_true, decide_eq_false_iff_not]
      exact fun e => hx.notBlank e.symm
  have hbody : Clean D (gid cv :: sc) (Sc ++ [brkUnless cv] ++ Sb) := by
    rw [List.append_assoc]; exact clean_append hcA (by simpa using hite)
  have hloop : scopeErrsStmt D (gid cv :: sc) (.loop (Sc ++ [brkUnless cv] ++ Sb)) = [] ∧
      shapeOKStmt (.loop (Sc ++ [brkUnless cv] ++ Sb)) = true :=
    ⟨by simp only [scopeErrsStmt]; exact hbody.1, by simp only [shapeOKStmt]; exact hbody.2⟩
  cases m with
  | effect => exact clean_cons hvd.1 hvd.2 (clean_cons hloop.1 hloop.2 (clean_nil _ _))
  | assign t =>
    have ha := assign_unit_ok (D := D) (List.mem_cons_of_mem (gid cv) h.tgt.1)
    exact clean_cons hvd.1 hvd.2 (clean_cons hloop.1 hloop.2 (clean_cons ha.1 ha.2 (clean_nil _ _)))

/-- the clauses of a `switch` / type switch and its default, from the invariant of the `match` -/
theorem clean_clauses {H : Mode → AExpr → List GStmt → Prop} (hH : ∀ m e S, H m e S → CleanAt env file G D m e S) {m : Mode}
    {sc : Names} {Γ : Ctx} {K : KCtx} {s : Imm} {arms : List AArm} {d : ADflt} {ty : Ty} {S0 : List GStmt}
    {ras : List (Imm × List GStmt)} {rd : Option (List GStmt)} (h : At env file G D sc Γ K m (.ret (.matchE s arms d ty)) S0)
    (hk : matchKind s.ty ≠ .unit) (hdn : DeclOKA D sc ras rd) (ha : ArmsFrom H m arms ras) (hd : DfltFrom H m d rd)
    (harm : ∀ p lhs body, p ∈ ras → AArm.mk lhs body ∈ arms → p.1 = lhs → ∃ K', At env file G D sc Γ K' m body p.2) :
    (∀ p, p ∈ ras → Clean D sc p.2) ∧ CleanOpt D sc rd := by
  refine ⟨fun p hp => ?_, ?_⟩
  · obtain ⟨lhs, body, hm, hl, ih⟩ := ha p hp
    obtain ⟨K', hat⟩ := harm p lhs body hp hm hl
    exact hH _ _ _ ih _ _ _ hat
  · cases rd with
    | none => trivial
    | some S =>
      obtain ⟨e, rfl, ih⟩ := hd S rfl
      exact hH _ _ _ ih _ _ _ (h.dflt hk (hdn.2 S rfl)).1

/-- `switch x := x.(type) { … }`: `x` is in scope, and no clause assigns it — a clause assigns only the target and
    what it declares itself (`WOK`), and it declares nothing that is in scope -/
theorem clean_tswitch {m : Mode} {s : Imm} {arms : List AArm} {d : ADflt} {ty : Ty} {ras : List (Imm × List GStmt)}
    {rd : Option (List GStmt)} (hk : matchKind s.ty = .enum)
    (ha : ArmsFrom (fun m e S => WOK m S ∧ CleanAt env file G D m e S) m arms ras)
    (hd : DfltFrom (fun m e S => WOK m S ∧ CleanAt env file G D m e S) m d rd) :
    CleanAt env file G D m (.ret (.matchE s arms d ty))
      [.tswitch (tswitchBind s) (compileImm env s) (typeCases env ras) rd] := fun sc Γ K h => by
  obtain ⟨x, en, rfl, hlt, hvn, _, hdn, harm⟩ := h.tswitch hk
  obtain ⟨hA, hDf⟩ := clean_clauses (fun _ _ _ h => h.2) h (by rw [hk]; intro e; cases e) hdn ha hd
    (fun p lhs body hp hm hl => by obtain ⟨idx, _, _, hat, _⟩ := harm p lhs body hp hm hl; exact ⟨_, hat⟩)
  have hxsc : vn x ∈ sc := h.ctx.vars x _ hlt
  have htg : ¬ vn x ∈ tgtName m := by
    cases m with
    | effect => simp [tgtName]
    | assign t => simp only [tgtName, List.mem_singleton]; exact h.tgt.2 x _ hlt
  have hw1 : ¬ vn x ∈ armWrites ras := fun hw =>
    (arms_wok (ha.imp fun _ _ _ h => h.1) _ hw).elim htg (fun h' => hdn.nd.1 _ h' hxsc)
  have hw2 : ¬ vn x ∈ optWrites rd := fun hw =>
    (dflt_wok (hd.imp fun _ _ _ h => h.1) _ hw).elim htg (fun h' => hdn.nd.2 _ h' hxsc)
  have hc := tswitch_clean (D := D) (T := goTy (.enum en)) hxsc (fun e => h.ctx.nob (e ▸ hxsc)) (tcases_clean env _ hA) hDf
    (by rw [mem_writesTCases]; exact hw1) hw2
  simp only [tswitchBind, compileImm, ← hvn]
  exact clean_cons hc.1 hc.2 (clean_nil _ _)

theorem clean_switch {m : Mode} {s : Imm} {arms : List AArm} {d : ADflt} {ty : Ty} {ras : List (Imm × List GStmt)}
    {rd : Option (List GStmt)} (hk : valKind (matchKind s.ty) = true) (ha : ArmsFrom (CleanAt env file G D) m arms ras)
    (hd : DfltFrom (CleanAt env file G D) m d rd) :
    CleanAt env file G D m (.ret (.matchE s arms d ty))
      [.switch (compileImm env s) (valueCases (matchKind s.ty) ras) rd] := fun sc Γ K h => by
  obtain ⟨hs, hsw, hdn, harm⟩ := h.switch hk
  obtain ⟨hA, hDf⟩ := clean_clauses (fun _ _ _ h => h) h (fun e => by rw [e] at hk; cases hk) hdn ha hd
    (fun p lhs body hp hm hl => by obtain ⟨pr, _, _, hat, _⟩ := harm p lhs body hp hm hl; exact ⟨_, hat⟩)
  obtain ⟨hfrom, hnb⟩ := imm_fromCtx env hs (calleesC (Γ.map (·.1)) (.matchE s arms d ty))
  obtain ⟨u1, u2, _⟩ := expr_ok h.ctxTail hfrom
  have hc := switch_clean (D := D) u1 hnb u2 (vcases_clean (matchKind s.ty) _ hA) hDf
  exact clean_cons hc.1 hc.2 (clean_nil _ _)

/-- `CleanAt` is closed under the rules of the lowering, given what the parts assign -/
theorem clean_rules (env : Env) (file : AFile) (G : List String) (D : Names) :
    EmitRules env (fun m e S => WOK m S ∧ CleanAt env file G D m e S) (CleanAt env file G D) where
  simple m _ h := clean_simple m h
  letC _ _ _ _ _ _ _ _ h1 h2 := clean_letC h1.2 h2.2
  letS _ _ _ _ _ _ h h2 := clean_letS h h2.2
  ite _ _ _ _ _ _ _ ht he := clean_ite ht.2 he.2
  loop _ _ _ _ _ _ _ hc hb := clean_loop hc.2 hb.2
  unitArm _ _ _ _ _ _ _ _ hk ih := fun _ _ _ h => ih.2 _ _ _ (h.unitArm hk).1
  unitDflt _ _ _ _ _ hk ih := fun _ _ _ h => ih.2 _ _ _ (h.unitDflt hk).1
  nothing _ _ _ _ _ := fun _ _ _ _ => clean_nil _ _
  tswitch _ _ _ _ _ _ _ hk ha hd := clean_tswitch hk ha hd
  switch _ _ _ _ _ _ _ hk ha hd := clean_switch hk (ha.imp fun _ _ _ h => h.2) (hd.imp fun _ _ _ h => h.2)

theorem scope_rules (env : Env) (file : AFile) (G : List String) (D : Names) :
    EmitRules env (fun m e S => WOK m S ∧ CleanAt env file G D m e S) (fun m e S => WOK m S ∧ CleanAt env file G D m e S) :=
  (wok_rules env).and (clean_rules env file G D)

end

/-- **scope**: the statements emitted at a point where the invariant holds are clean -/
theorem scopeA {env : Env} {file : AFile} {G : List String} {D : Names} (e : AExpr) (m : Mode) (st : St) {Γ : Ctx} {K : KCtx}
    {sc : Names} (h : At env file G D sc Γ K m e (compileA env m st e).1) : Clean D sc (compileA env m st e).1 :=
  (compileA_ind (scope_rules env file G D) e m st).2 sc Γ K h

theorem scopeC {env : Env} {file : AFile} {G : List String} {D : Names} :
    ∀ (c : CExpr) (m : Mode) (st : St) (Γ : Ctx) (K : KCtx) (sc : Names), fragC env file G Γ K c = true →
      SCtx file G D sc Γ (calleesC (Γ.map (·.1)) c) → DeclOK D sc (compileTail env m st c).1 → TgtSc m Γ sc →
      Clean D sc (compileTail env m st c).1 :=
  fun c m st _ _ _ hfrag hctx hdecl htgt => scopeA (.ret c) m st ⟨hfrag, hctx, hdecl, htgt⟩

theorem scopeArms {env : Env} {file : AFile} {G : List String} {D : Names} :
    ∀ (arms : List AArm) (m : Mode) (st : St) (Γ : Ctx) (K : KCtx) (sc : Names) (ak : ArmKind) (ty : Ty),
      fragArms env file G Γ K ak ty arms = true → SCtx file G D sc Γ (calleesArms (Γ.map (·.1)) arms) →
      (∀ p, p ∈ (compileArms env m st arms).1 → DeclOK D sc p.2) → TgtSc m Γ sc →
      ∀ p, p ∈ (compileArms env m st arms).1 → Clean D sc p.2 := by
  intro arms m st Γ K sc ak ty hfrag hctx hdecl htgt p hp
  obtain ⟨lhs, body, hm, _, ih⟩ := compileArms_ind (scope_rules env file G D) arms m st p hp
  have hc := hctx.mono_cs (calleesArms_mem hm)
  obtain ⟨_, harm⟩ := fragArms_mem hfrag hm
  cases ak with
  | enumK x sty => obtain ⟨idx, _, _, hfb⟩ := harm; exact ih.2 _ _ _ ⟨hfb, hc, hdecl p hp, htgt⟩
  | valK sty => obtain ⟨pr, _, _, hfb⟩ := harm; exact ih.2 _ _ _ ⟨hfb, hc, hdecl p hp, htgt⟩

theorem scopeD {env : Env} {file : AFile} {G : List String} {D : Names} :
    ∀ (d : ADflt) (m : Mode) (st : St) (Γ : Ctx) (K : KCtx) (sc : Names) (ty : Ty),
      fragD env file G Γ K ty d = true → SCtx file G D sc Γ (calleesD (Γ.map (·.1)) d) →
      (match (compileDflt env m st d).1 with | some b => DeclOK D sc b | none => True) → TgtSc m Γ sc →
      CleanOpt D sc (compileDflt env m st d).1
  | .none, m, st, Γ, K, sc, ty, _, _, _, _ => by simp [compileDflt, CleanOpt]
  | .some e, m, st, Γ, K, sc, ty, hfrag, hctx, hdecl, htgt => by
    simp only [fragD, Bool.and_eq_true] at hfrag
    exact scopeA e m st ⟨hfrag.1, by simpa only [calleesD] using hctx, hdecl, htgt⟩

theorem scopeFirst {env : Env} {file : AFile} {G : List String} {D : Names} :
    ∀ (arms : List AArm) (m : Mode) (st : St) (Γ : Ctx) (K : KCtx) (sc : Names) (ty : Ty),
      fragFirst env file G Γ K ty arms = true → SCtx file G D sc Γ (calleesArms (Γ.map (·.1)) arms) →
      DeclOK D sc (compileFirstArm env m st arms).1 → TgtSc m Γ sc →
      Clean D sc (compileFirstArm env m st arms).1
  | [], m, st, Γ, K, sc, ty, hfrag, _, _, _ => by simp [fragFirst] at hfrag
  | .mk lhs body :: rest, m, st, Γ, K, sc, ty, hfrag, hctx, hdecl, htgt => by
    simp only [fragFirst, Bool.and_eq_true] at hfrag
    exact scopeA body m st ⟨hfrag.1.2, hctx.mono_cs (fun f hf => by simp [calleesArms, hf]), hdecl, htgt⟩

theorem scopeDU {env : Env} {file : AFile} {G : List String} {D : Names} :
    ∀ (d : ADflt) (m : Mode) (st : St) (Γ : Ctx) (K : KCtx) (sc : Names) (ty : Ty),
      fragD env file G Γ K ty d = true → SCtx file G D sc Γ (calleesD (Γ.map (·.1)) d) →
      DeclOK D sc (compileDfltUnit env m st d).1 → TgtSc m Γ sc →
      Clean D sc (compileDfltUnit env m st d).1
  | .none, m, st, Γ, K, sc, ty, _, _, _, _ => by simp only [compileDfltUnit]; exact clean_nil _ _
  | .some e, m, st, Γ, K, sc, ty, hfrag, hctx, hdecl, htgt => by
    simp only [fragD, Bool.and_eq_true] at hfrag
    exact scopeA e m st ⟨hfrag.1, by simpa only [calleesD] using hctx, hdecl, htgt⟩

/-- **scope half of `compile_wellformed`, at function level**: the body `compile_fn` builds for a function that passes the local
    checks of the fragment is scope-clean and inside the shape contract of the DCE theorems -/
theorem fn_clean {env : Env} {file : AFile} {G : List String} {st : St} {g : AFn}
    (hlocal : localOK env file G st g = true) :
    Clean (Goml.Dce.localsOf (compileFn env st g).1) ((compileFn env st g).1.params.map (·.1)) (compileFn env st g).1.body := by
  obtain ⟨rN, st1, hfn⟩ := At.fn hlocal
  rw [hfn.body, hfn.params]
  simp only [List.map_map, Function.comp_def]
  have hvd := varDecl_none_ok (goTy g.ret) hfn.fresh
  have hretsc : gid rN ∈ scopeAfter (compileA env (.assign rN) st1 g.body).1 (gid rN :: g.params.map fun p => vn p.1) :=
    (scopeAfter_mem _ _ _).mpr (Or.inl List.mem_cons_self)
  have hne : gid rN ≠ "_" := hfn.fresh.notBlank
  refine clean_cons hvd.1 hvd.2 (clean_append (scopeA _ _ _ hfn.start) (clean_cons ?_ ?_ (clean_nil _ _)))
  · simp only [scopeErrsStmt, varsUsed]
    exact undecl_nil.mpr (fun y hy _ => by simp only [List.mem_singleton] at hy; subst hy; exact hretsc)
  · simp only [shapeOKStmt, Goml.Dce.noBlockOpt, noBlockExpr, varsUsed, List.contains_eq_mem, List.mem_cons,
      List.not_mem_nil, or_false, Bool.true_and, Bool.not_eq_eq_eq_not, Bool.not_true, decide_eq_false_iff_not]
    exact fun e => hne e.symm

end Goml.GoComp
