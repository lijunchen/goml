import GomlVerif.Lemmas.LiftRel
/-! C08: the output of the lifting model contains no closure node. -/
namespace Goml.Lift
open Goml

mutual
/-- the Lift sub-language: no `closure` node anywhere -/
def noClosure : Expr → Bool
  | .closure _ _ _ => false
  | .var _ _ => true
  | .prim _ => true
  | .tag _ _ => true
  | .constr _ _ args => noClosureList args
  | .tuple _ items => noClosureList items
  | .array _ items => noClosureList items
  | .letE _ v b => noClosure v && noClosure b
  | .matchE _ s arms d => noClosure s && noClosureArms arms && (match d with | some d => noClosure d | none => true)
  | .ite c t e => noClosure c && noClosure t && noClosure e
  | .while c b => noClosure c && noClosure b
  | .go e => noClosure e
  | .cget _ _ _ e => noClosure e
  | .un _ _ e => noClosure e
  | .bin _ _ l r => noClosure l && noClosure r
  | .call _ f args => noClosure f && noClosureList args
  | .toDyn _ _ _ e => noClosure e
  | .dynCall _ _ _ r args => noClosure r && noClosureList args
  | .traitCall _ _ _ r args => noClosure r && noClosureList args
  | .proj _ _ e => noClosure e
def noClosureList : List Expr → Bool
  | [] => true
  | e :: es => noClosure e && noClosureList es
def noClosureArms : List Arm → Bool
  | [] => true
  | .mk l b :: rest => noClosure l && noClosure b && noClosureArms rest
end

theorem band {a b : Bool} (ha : a = true) (hb : b = true) : (a && b) = true := by simp [ha, hb]
theorem and3 {a b c : Bool} (h : (a && b && c) = true) : a = true ∧ b = true ∧ c = true := by
  simp only [Bool.and_eq_true] at h
  exact ⟨h.1.1, h.1.2, h.2⟩

/-- all apply functions generated so far are closure-free -/
def AllOk (st : State) : Prop := ∀ f ∈ st.newFns, noClosure f.body = true

theorem AllOk_of_newFns_eq {st st' : State} (h : st'.newFns = st.newFns) (hst : AllOk st) : AllOk st' := by
  intro f hf; rw [h] at hf; exact hst f hf

theorem noClosure_rebind (n e : String) (t : Ty) (body : Expr) (h : noClosure body = true) :
    ∀ (caps : List (String × Ty)) (i : Nat), noClosure (rebind n e t body i caps) = true
  | [], _ => by simpa [rebind] using h
  | (x, ty) :: rest, i => by
    simp [rebind, noClosure, noClosure_rebind n e t body h rest (i + 1)]

theorem noClosureList_vars (caps : List (String × Ty)) :
    noClosureList (caps.map (fun p => Expr.var p.1 p.2)) = true := by
  induction caps with
  | nil => simp [noClosureList]
  | cons p ps ih => simp [noClosureList, noClosure, ih]

theorem finishClosure_ok (st : State) (sc : Scope) (params : List (String × Ty)) (ty : Ty)
    (hint : Option String) (body : Expr) (hst : AllOk st) (hb : noClosure body = true) :
    noClosure (finishClosure st sc params ty hint body).1 = true ∧ AllOk (finishClosure st sc params ty hint body).2.2 := by
  refine ⟨?_, ?_⟩
  · rw [finishClosure_fst]
    simp only [noClosure]
    exact noClosureList_vars _
  · intro f hf
    rw [finishClosure_newFns] at hf
    rcases List.mem_append.mp hf with hf | hf
    · exact hst f hf
    · rw [List.mem_singleton.mp hf]
      exact noClosure_rebind _ _ _ _ hb _ _

theorem callTail_ok (st : State) (sc : Scope) (ty : Ty) (f' : Expr) (fty : Ty) (args' : List Expr)
    (hf : noClosure f' = true) (ha : noClosureList args' = true) :
    noClosure (callTail st sc ty f' fty args').1 = true := by
  cases callTail_cases st sc ty f' fty args' with
  | direct _ _ he =>
    rw [he]
    exact band hf ha
  | apply _ _ _ _ _ _ _ _ he =>
    rw [he]
    exact band rfl (band rfl ha)

/-- closure-free output and closure-free apply functions, for each sort of `Out` -/
def OkOut : Out → Prop
  | .e r => noClosure r.1 = true ∧ AllOk r.2.2
  | .l r => noClosureList r.1 = true ∧ AllOk r.2.2
  | .a r => noClosureArms r.1 = true ∧ AllOk r.2

/-- from any state whose apply functions are closure-free: the output is closure-free and so are the apply functions
    of the output state -/
theorem Lifted.ok {st sc s o} (h : Lifted st sc s o) : AllOk st → OkOut o := by
  induction h with
  | var | prim | tag | nil | anil => exact fun h => ⟨rfl, h⟩
  | constr _ ih => exact fun h => ⟨(ih h).1, AllOk_of_newFns_eq (constrSt_newFns ..) (ih h).2⟩
  | closure hint _ ih =>
    intro h
    have h1 := ih (AllOk_of_newFns_eq (pushCtx_newFns _ hint) h)
    -- `rfl`: the state handed on is `{ … with ctx := … }`, whose `newFns` is the same field
    exact finishClosure_ok _ _ _ _ hint _ (AllOk_of_newFns_eq rfl h1.2) h1.1
  | call _ _ ihf iha =>
    intro h
    have h2 := iha (ihf h).2
    rw [OkOut, callTail_state]
    exact ⟨callTail_ok _ _ _ _ _ _ (ihf h).1 h2.1, h2.2⟩
  -- the other nodes rebuild their constructor over the transformed parts and hand the state through
  | _ => intro h; simp_all [OkOut, noClosure, noClosureList, noClosureArms]

theorem transformList_ok : ∀ (es : List Expr) (st : State) (sc : Scope), AllOk st →
    noClosureList (transformList st sc es).1 = true ∧ AllOk (transformList st sc es).2.2 :=
  fun es st sc => (liftedList es st sc).ok
theorem transformArms_ok : ∀ (arms : List Arm) (st : State) (sc : Scope), AllOk st →
    noClosureArms (transformArms st sc arms).1 = true ∧ AllOk (transformArms st sc arms).2 :=
  fun arms st sc => (liftedArms arms st sc).ok

theorem liftFn_ok (st : State) (f : Fn) (h : AllOk st) :
    noClosure (liftFn st f).1.body = true ∧ AllOk (liftFn st f).2 := by
  have h1 := (lifted f.body (pushCtx st (sanitizeEnvName f.name)) (fnScope st f)).ok
    (AllOk_of_newFns_eq (pushCtx_newFns st _) h)
  rw [liftFn_eq]
  exact ⟨h1.1, AllOk_of_newFns_eq rfl h1.2⟩

theorem liftFile_noClosure (env : Env) (fns : List Fn) :
    ∀ f ∈ (liftFile env fns).1, noClosure f.body = true :=
  (liftFile_inv (I := AllOk) (N := fun _ => True) (H := fun _ => True) (C := fun f => noClosure f.body = true)
    (fun _ _ h => h) (fun st f h _ _ => liftFn_ok st f h) env fns (fun f hf => by simp [initState] at hf)
    (fun _ _ => trivial) trivial (fun _ h => h)).1

end Goml.Lift
