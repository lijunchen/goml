import GomlVerif.Lemmas.MonoTy
/-! Phase 2 of mono (`TypeMono::collapse_type_apps`): what it preserves and that its result is application-free -/
namespace Goml.Mono
open Goml Goml.Closed

/-- what every step of phase 2 leaves alone: the tables of generic definitions, and an error once set -/
structure Pres (m m' : TM) : Prop where
  enums : m'.enumBase = m.enumBase
  structs : m'.structBase = m.structBase
  err : m.err.isSome = true → m'.err.isSome = true

theorem Pres.refl (m : TM) : Pres m m := ⟨rfl, rfl, id⟩
theorem Pres.trans {a b c : TM} (h1 : Pres a b) (h2 : Pres b c) : Pres a c :=
  ⟨h2.enums.trans h1.enums, h2.structs.trans h1.structs, fun h => h2.err (h1.err h)⟩

theorem fail_pres (m : TM) (msg : String) : Pres m (m.fail msg) := by
  unfold TM.fail
  cases h : m.err with
  | some e => simp only; exact Pres.refl m
  | none => exact ⟨rfl, rfl, by simp [h]⟩

theorem fail_isSome (m : TM) (msg : String) : (m.fail msg).err.isSome = true := by
  unfold TM.fail
  cases h : m.err <;> simp [h]

theorem pres_all : ∀ fuel,
    (∀ t m, Pres m (collapse fuel t m).2) ∧ (∀ ts m, Pres m (collapseList fuel ts m).2) ∧
    (∀ σ ts m, Pres m (collapseFields fuel σ ts m).2) ∧ (∀ σ vs m, Pres m (collapseVariants fuel σ vs m).2) ∧
    (∀ σ fs m, Pres m (collapseNamed fuel σ fs m).2) ∧ (∀ n args m, Pres m (ensureTy fuel n args m).2) := by
  intro fuel
  induction fuel with
  | zero =>
    refine ⟨?_, ?_, ?_, ?_, ?_, ?_⟩ <;> intros <;>
      simp only [collapse, collapseList, collapseFields, collapseVariants, collapseNamed, ensureTy] <;>
      exact fail_pres _ _
  | succ n ih =>
    obtain ⟨hC, hL, hF, hV, hN, hE⟩ := ih
    refine ⟨?_, ?_, ?_, ?_, ?_, ?_⟩
    · intro t m
      cases t <;> simp only [collapse] <;> try exact Pres.refl m
      · -- tuple
        exact hL _ m
      · -- app
        rename_i base args
        split
        · exact hC _ m
        · split
          · exact fail_pres _ _
          · split
            · exact hE _ _ m
            · split
              · exact hE _ _ m
              · exact (hC _ m).trans (hL _ _)
      · exact hC _ m  -- array
      · exact hC _ m  -- vec
      · exact hC _ m  -- ref
      · exact (hL _ m).trans (hC _ _)  -- func
    · intro ts m
      cases ts with
      | nil => simp only [collapseList]; exact Pres.refl m
      | cons t rest => simp only [collapseList]; exact (hC t m).trans (hL _ _)
    · intro σ ts m
      cases ts with
      | nil => simp only [collapseFields]; exact Pres.refl m
      | cons t rest => simp only [collapseFields]; exact (hC _ m).trans (hF _ _ _)
    · intro σ vs m
      cases vs with
      | nil => simp only [collapseVariants]; exact Pres.refl m
      | cons v rest => obtain ⟨vn, fs⟩ := v; simp only [collapseVariants]; exact (hF _ _ m).trans (hV _ _ _)
    · intro σ fs m
      cases fs with
      | nil => simp only [collapseNamed]; exact Pres.refl m
      | cons f rest => obtain ⟨fnm, t⟩ := f; simp only [collapseNamed]; exact (hC _ m).trans (hN _ _ _)
    · intro name args m
      simp only [ensureTy]
      split
      · exact Pres.refl m
      · -- registering the name, a possible arity failure, the collapse of the definition's parts, and storing
        -- the monomorphic definition: each step preserves
        have h0 : Pres m { m with map := m.map ++ [((name, args), monoTypeName name args)] } := ⟨rfl, rfl, id⟩
        have hif : ∀ (b : Bool) (m' : TM) (msg : String), Pres m' (if b = true then m'.fail msg else m') := by
          intro b m' msg
          cases b
          · exact Pres.refl m'
          · exact fail_pres m' msg
        split
        · rename_i d hd
          have := h0.trans ((hif (d.generics.length != args.length) _
            ("enum generic argument length mismatch for " ++ name)).trans (hV (zipSubst d.generics args []) d.variants _))
          -- the goal's record differs from `this`'s in `monoEnums` only
          exact ⟨this.enums, this.structs, this.err⟩
        · split
          · rename_i d hd
            have := h0.trans ((hif (d.generics.length != args.length) _
              ("struct generic argument length mismatch for " ++ name)).trans (hN (zipSubst d.generics args []) d.fields _))
            exact ⟨this.enums, this.structs, this.err⟩
          · exact h0

mutual
/-- every type application has arguments and a head that is a known generic enum or struct -/
def appsKnown (enums : List EnumDef) (structs : List StructDef) : Ty → Bool
  | .app base args =>
    !args.isEmpty && (match constrName base with
      | some bn => (findEnum enums bn).isSome || (findStruct structs bn).isSome
      | none => false)
  | .tuple ts => appsKnowns enums structs ts
  | .func ps r => appsKnowns enums structs ps && appsKnown enums structs r
  | .array _ e => appsKnown enums structs e
  | .ref e => appsKnown enums structs e
  | .vec e => appsKnown enums structs e
  | _ => true
def appsKnowns (enums : List EnumDef) (structs : List StructDef) : List Ty → Bool
  | [] => true
  | t :: ts => appsKnown enums structs t && appsKnowns enums structs ts
end

theorem err_none_of_pres {m m' : TM} (h : Pres m m') (hn : m'.err = none) : m.err = none := by
  cases he : m.err with
  | none => rfl
  | some e =>
    have := h.err (by simp [he])
    simp [hn] at this

/-- if phase 2 finishes without error (in particular: without running out of fuel), the type it returns
contains no type application, provided every application in the input is one of a known generic type -/
theorem collapse_noApp_aux : ∀ fuel,
    (∀ t m, appsKnown m.enumBase m.structBase t = true → (collapse fuel t m).2.err = none → noApp (collapse fuel t m).1 = true) ∧
    (∀ ts m, appsKnowns m.enumBase m.structBase ts = true → (collapseList fuel ts m).2.err = none →
      noApps (collapseList fuel ts m).1 = true) := by
  intro fuel
  induction fuel with
  | zero =>
    constructor
    · intro t m _ he
      simp only [collapse] at he
      have := fail_isSome m "fuel"
      simp [he] at this
    · intro ts m _ he
      simp only [collapseList] at he
      have := fail_isSome m "fuel"
      simp [he] at this
  | succ n ih =>
    obtain ⟨hC, hL⟩ := ih
    obtain ⟨pC, pL, -, -, -, -⟩ := pres_all n
    constructor
    · intro t m hk he
      cases t <;> simp only [collapse] at he ⊢ <;> try (simp [noApp]; done)
      · -- tuple
        simp only [appsKnown] at hk
        simpa [noApp] using hL _ m hk he
      · -- app
        rename_i base args
        simp only [appsKnown, Bool.and_eq_true, Bool.not_eq_true'] at hk
        obtain ⟨hne, hhead⟩ := hk
        cases hc : constrName base with
        | none => simp [hc] at hhead
        | some bn =>
          simp only [hc, Bool.or_eq_true] at hhead
          simp only [hne, Bool.false_eq_true, if_false]
          by_cases h1 : (findEnum m.enumBase bn).isSome = true
          · simp [h1, noApp]
          · by_cases h2 : (findStruct m.structBase bn).isSome = true
            · simp [h1, h2, noApp]
            · rcases hhead with h | h
              · exact absurd h h1
              · exact absurd h h2
      · -- array
        simp only [appsKnown] at hk
        simpa [noApp] using hC _ m hk he
      · -- vec
        simp only [appsKnown] at hk
        simpa [noApp] using hC _ m hk he
      · -- ref
        simp only [appsKnown] at hk
        simpa [noApp] using hC _ m hk he
      · -- func
        rename_i ps r
        simp only [appsKnown, Bool.and_eq_true] at hk
        have p1 := pL ps m
        have e1 : (collapseList n ps m).2.err = none := err_none_of_pres (pC r _) he
        have k2 : appsKnown (collapseList n ps m).2.enumBase (collapseList n ps m).2.structBase r = true := by
          rw [p1.enums, p1.structs]; exact hk.2
        simp [noApp, hL ps m hk.1 e1, hC r _ k2 he]
    · intro ts m hk he
      cases ts with
      | nil => simp [collapseList, noApps]
      | cons t rest =>
        simp only [collapseList] at he ⊢
        simp only [appsKnowns, Bool.and_eq_true] at hk
        have p1 := pC t m
        have e1 : (collapse n t m).2.err = none := err_none_of_pres (pL rest _) he
        have k2 : appsKnowns (collapse n t m).2.enumBase (collapse n t m).2.structBase rest = true := by
          rw [p1.enums, p1.structs]; exact hk.2
        simp [noApps, hC t m hk.1 e1, hL rest _ k2 he]

end Goml.Mono
