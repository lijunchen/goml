import GomlVerif.Lemmas.GoCompVal
import GomlVerif.Lemmas.MonoTy
/-!
The fragment checks and the compile function, read once: a call (`CallView`) or a simple form (`CV`) that passes its check, together
with what it compiles to.  A walk over compiled expressions goes by `cases` on the view.
-/
namespace Goml.GoComp
open Goml Goml.Go Goml.GoCompile Goml.GoFrag

attribute [local irreducible] Goml.GoCompile.vn Goml.GoCompile.gid Goml.GoCompile.rn

theorem Imm.ty_var (x : String) (t : Ty) : (Imm.var x t).ty = t := rfl

/-- `VecCallView env file G Γ fty name args ty`: what `vecCallOK` accepts of a call `name(args) : ty`, one constructor per `Vec`
    builtin: what the check found of the arguments, the Go expression of the call (`shape`) and, where that expression names
    top-level Go functions, which (`callees`). -/
inductive VecCallView (env : Env) (file : AFile) (G : List String) (Γ : Ctx) (fty : Ty) : String → List Imm → Ty → Prop
  | new {e : Ty} (elem : valTy env (.vec e) = true)
      (shape : compileCExpr env (.call (.var "vec_new" fty) [] (.vec e)) = .nil (goTy (.vec e))) :
      VecCallView env file G Γ fty "vec_new" [] (.vec e)
  | push {e : Ty} {args : List Imm} (argsOk : argsOK env file G Γ args [.vec e, e] = true) (elem : valTy env (.vec e) = true)
      (shape : compileCExpr env (.call (.var "vec_push" fty) args (.vec e)) =
        .call (goTy (.vec e)) (.var "append" (goTy fty)) (compileImms env args))
      (callees : calleesC (Γ.map (·.1)) (.call (.var "vec_push" fty) args (.vec e)) = ["append"]) :
      VecCallView env file G Γ fty "vec_push" args (.vec e)
  | get {a i : Imm} {ty : Ty} (idxInt : intTy i.ty = true) (vec : immOK env file G Γ a = true) (vecTy : a.ty = .vec ty)
      (idx : immOK env file G Γ i = true) (elem : valTy env (.vec ty) = true)
      (shape : compileCExpr env (.call (.var "vec_get" fty) [a, i] ty) = .index (goTy ty) (compileImm env a) (compileImm env i)) :
      VecCallView env file G Γ fty "vec_get" [a, i] ty
  | len {a : Imm} {e : Ty} (vec : immOK env file G Γ a = true) (vecTy : a.ty = .vec e) (elem : valTy env (.vec e) = true)
      (shape : compileCExpr env (.call (.var "vec_len" fty) [a] (.int 32 true)) =
        .call (goTy (.int 32 true)) (.var "int32" (.func [.int 32 true] (.int 32 true)))
          [.call (.int 32 true) (.var "len" (.func [goTy a.ty] (.int 32 true))) [compileImm env a]])
      (callees : calleesC (Γ.map (·.1)) (.call (.var "vec_len" fty) [a] (.int 32 true)) = ["int32", "len"]) :
      VecCallView env file G Γ fty "vec_len" [a] (.int 32 true)

theorem VecCallView.mem_vecNames {env : Env} {file : AFile} {G : List String} {Γ : Ctx} {fty : Ty} {name : String} {args : List Imm}
    {ty : Ty} (h : VecCallView env file G Γ fty name args ty) : name ∈ vecNames := by
  cases h <;> simp [vecNames]

theorem vecCallOK_inv {env : Env} {file : AFile} {G : List String} {Γ : Ctx} {name : String} {fty : Ty} {args : List Imm} {ty : Ty}
    (h : vecCallOK env file G Γ (.var name fty) args ty = true) :
    lookupTy Γ name = none ∧ rn name = name ∧ VecCallView env file G Γ fty name args ty := by
  simp only [vecCallOK, Bool.and_eq_true, beq_iff_eq] at h
  obtain ⟨⟨hloc, hrn⟩, hcase⟩ := h
  have hnone := Option.isNone_iff_eq_none.mp hloc
  have hnb := lookupTy_none_not_mem hnone
  refine ⟨hnone, hrn, ?_⟩
  by_cases h1 : name = "vec_new"
  · subst h1
    rw [if_pos rfl] at hcase
    cases args with
    | cons a rest => simp at hcase
    | nil =>
      cases ty <;> simp only at hcase <;> try (cases hcase; done)
      exact .new hcase (by simp [compileCExpr, compileCall, callee, hrn])
  · rw [if_neg h1] at hcase
    by_cases h2 : name = "vec_push"
    · subst h2
      rw [if_pos rfl] at hcase
      cases ty <;> simp only at hcase <;> try (cases hcase; done)
      simp only [Bool.and_eq_true] at hcase
      exact .push hcase.1 hcase.2 (by simp [compileCExpr, compileCall, callee, hrn, Imm.ty])
        (by simp [calleesC, goCallee, hrn, hnb])
    · rw [if_neg h2] at hcase
      by_cases h3 : name = "vec_get"
      · subst h3
        rw [if_pos rfl] at hcase
        cases args with
        | nil => cases hcase
        | cons a rest =>
          cases rest with
          | nil => cases hcase
          | cons i rest =>
            simp only [Bool.and_eq_true] at hcase
            obtain ⟨⟨hint, hargs⟩, hvt⟩ := hcase
            simp only [argsOK, Bool.and_eq_true] at hargs
            obtain ⟨⟨ha, hta⟩, ⟨hi, _⟩, hrest⟩ := hargs
            cases rest with
            | cons r rs => simp [argsOK] at hrest
            | nil =>
              exact .get hint ha (scalarEq_eq hta) hi hvt (by simp [compileCExpr, compileCall, callee, hrn, compileImms])
      · rw [if_neg h3] at hcase
        by_cases h4 : name = "vec_len"
        · subst h4
          rw [if_pos rfl] at hcase
          cases args with
          | nil => cases hcase
          | cons a rest =>
            simp only at hcase
            cases haty : a.ty with
            | vec e =>
              rw [haty] at hcase; simp only [Bool.and_eq_true] at hcase
              obtain ⟨⟨hargs, hty⟩, hvt⟩ := hcase
              simp only [argsOK, Bool.and_eq_true] at hargs
              obtain ⟨⟨ha, _⟩, hrest⟩ := hargs
              cases rest with
              | cons r rs => simp [argsOK] at hrest
              | nil =>
                obtain rfl := scalarEq_eq hty
                exact .len ha haty hvt (by simp [compileCExpr, compileCall, callee, hrn, compileImms, haty])
                  (by simp [calleesC, goCallee, hrn, hnb])
            | _ => rw [haty] at hcase; cases hcase
        · rw [if_neg h4] at hcase; cases hcase

theorem localCallOK_inv {env : Env} {file : AFile} {G : List String} {Γ : Ctx} {x : String} {fty : Ty} {args : List Imm} {ty : Ty}
    (h : localCallOK env file G Γ (.var x fty) args ty = true) :
    ∃ ps, lookupTy Γ x = some (.func ps ty) ∧ fty = .func ps ty ∧ specialCallees.contains (rn x) = false ∧
      env.getExternFn (rn x) = none ∧ argsOK env file G Γ args ps = true ∧ flatTy ty = true := by
  simp only [localCallOK] at h
  cases hlk : lookupTy Γ x with
  | none => rw [hlk] at h; cases h
  | some t =>
    rw [hlk] at h
    cases t <;> simp only at h <;> try (cases h; done)
    simp only [Bool.and_eq_true, Bool.not_eq_true', Option.isNone_iff_eq_none] at h
    obtain ⟨⟨⟨⟨hft, hsp⟩, hext⟩, hargs⟩, hty⟩ := h
    have hfl := scalarEq_flat hty
    have hty' := scalarEq_eq hty; subst hty'
    exact ⟨_, rfl, (scalarEq_eq hft).symm, hsp, hext, hargs, hfl⟩

theorem fnSigs_spec {file : AFile} {G : List String} {name : String} {ps : List Ty} {r : Ty}
    (h : (name, ps, r) ∈ fnSigs file G) :
    (∃ g, g ∈ file ∧ g.name = name ∧ g.name ∈ G ∧ isEntry name = false ∧ rn name = name ∧ ps = g.params.map (·.2) ∧ r = g.ret) ∨
    (name ∈ builtinNames ∧ builtinSig name = some (ps, r)) := by
  simp only [fnSigs, List.mem_append, List.mem_map, List.mem_filter, List.mem_filterMap] at h
  rcases h with ⟨g, ⟨hg, hc⟩, he⟩ | ⟨b, hb, he⟩
  · simp only [Bool.and_eq_true, Bool.not_eq_true', beq_iff_eq, List.contains_eq_mem, decide_eq_true_eq] at hc
    obtain ⟨⟨hG, hent⟩, hrn⟩ := hc
    injection he with h1 h2; injection h2 with h2 h3
    subst h1
    exact Or.inl ⟨g, hg, rfl, hG, hent, hrn, h2.symm, h3.symm⟩
  · cases hs : builtinSig b with
    | none => rw [hs] at he; cases he
    | some sg =>
      rw [hs] at he; simp only [Option.map_some, Option.some.injEq, Prod.mk.injEq] at he
      obtain ⟨h1, h2, h3⟩ := he
      subst h1
      exact Or.inr ⟨hb, by rw [hs, ← h2, ← h3]⟩

theorem compileCall_local {env : Env} {x : String} {fty : Ty} {args : List Imm} {ty : Ty}
    (hsp : specialCallees.contains (rn x) = false) (hext : env.getExternFn (rn x) = none) :
    compileCall env (.var x fty) args ty = .call (goTy ty) (.var (vn x) (goTy fty)) (compileImms env args) := by
  simp only [specialCallees, List.contains_cons, List.contains_nil, Bool.or_false, Bool.or_eq_false_iff, beq_eq_false_iff_ne] at hsp
  obtain ⟨h1, h2, h3, h4, h5, h6, h7, h8, h9, _⟩ := hsp
  simp only [compileCall, callee]
  simp [h1, h2, h3, h4, h5, h6, h7, h8, h9, hext, compileImm]

/-- a `go e` of the fragment: `e` is the environment of the closure struct `sn`, whose `apply` function `g` is a one-parameter
    function of the file in `G`; the statement is `go apply(e)` -/
structure GoView (env : Env) (file : AFile) (G : List String) (Γ : Ctx) (e : Imm) (ty : Ty) (sn : String) (g : AFn)
    (fty rty : Ty) : Prop where
  ety : e.ty = .struct sn
  imm : immOK env file G Γ e = true
  unit : ty = .unit
  mem : g ∈ file
  name : g.name = applyFnName sn
  inG : g.name ∈ G
  entry : isEntry g.name = false
  rn : rn g.name = g.name
  params : g.params.map (·.2) = [.struct sn]
  shape : compileGo env e = .go (.call (goTy rty) (.var (vn (applyFnName sn)) (goTy fty)) (compileImms env [e]))

theorem fragC_goView {env : Env} {file : AFile} {G : List String} {Γ : Ctx} {K : KCtx} {e : Imm} {ty : Ty}
    (h : fragC env file G Γ K (.go e ty) = true) : ∃ sn g fty rty, GoView env file G Γ e ty sn g fty rty := by
  simp only [fragC, goOK] at h
  cases hety : e.ty with
  | struct sn =>
    rw [hety] at h; simp only [Bool.and_eq_true] at h
    obtain ⟨⟨he, hty⟩, hcase⟩ := h
    cases hfc : findClosureApplyFn env (.struct sn) with
    | none => rw [hfc] at hcase; cases hcase
    | some tr =>
      obtain ⟨name, fty, rty⟩ := tr
      rw [hfc] at hcase; simp only [Bool.and_eq_true, Bool.not_eq_true', beq_iff_eq] at hcase
      obtain ⟨⟨⟨⟨⟨⟨hname, _⟩, hrn⟩, hsp⟩, hext⟩, hentry⟩, hfile⟩ := hcase
      cases hfind : file.find? (·.name == name) with
      | none => rw [hfind] at hfile; cases hfile
      | some g =>
        rw [hfind] at hfile; simp only [Bool.and_eq_true] at hfile
        have hgname : g.name = name := by have := List.find?_some hfind; simpa using this
        have hext' : env.getExternFn (rn name) = none := by rw [hrn]; exact Option.isNone_iff_eq_none.mp hext
        refine ⟨sn, g, fty, rty, hety, he, scalarEq_eq hty, List.mem_of_find?_eq_some hfind, hgname.trans hname,
          by rw [hgname]; simpa using hfile.1, by rw [hgname]; simpa using hentry, by rw [hgname]; exact hrn,
          scalarEqs_eq hfile.2, ?_⟩
        simp only [compileGo, hety, hfc]
        rw [compileCall_local (by rw [hrn]; exact hsp) hext', hname]
  | _ => rw [hety] at h; cases h

/-- the builtins that the back end turns into calls of a runtime helper: source name, the type the helper is named after,
    parameter types, result type -/
inductive Helper (env : Env) (file : AFile) : String → Ty → List Ty → Ty → Prop
  | ref {e : Ty} : refTyOK env file (.ref e) = true → Helper env file "ref" (.ref e) [e] (.ref e)
  | refGet {e : Ty} : refTyOK env file (.ref e) = true → Helper env file "ref_get" (.ref e) [.ref e] e
  | refSet {e : Ty} : refTyOK env file (.ref e) = true → Helper env file "ref_set" (.ref e) [.ref e, e] .unit
  | arrGet {len : Nat} {e it : Ty} : arrTyOK env file (.array len e) = true → intTy it = true →
      Helper env file "array_get" (.array len e) [.array len e, it] e
  | arrSet {len : Nat} {e it : Ty} : arrTyOK env file (.array len e) = true → intTy it = true →
      Helper env file "array_set" (.array len e) [.array len e, it, e] (.array len e)

/-- `Target name h tys ty`: a call of the source name `name` (no local) at parameter types `tys` and result type `ty` is a call
    of the top-level Go function `h` -/
inductive Target (env : Env) (file : AFile) (G : List String) : String → String → List Ty → Ty → Prop
  | fn {name : String} {ps : List Ty} {r : Ty} : (name, ps, r) ∈ fnSigs file G → Target env file G name (vn name) ps r
  | helper {name : String} {key : Ty} {tys : List Ty} {ty : Ty} : Helper env file name key tys ty →
      Target env file G name (helperFnName name key) tys ty
  | push {e : Ty} : valTy env (.vec e) = true → Target env file G "vec_push" "append" [.vec e, e] (.vec e)

/-- a call `name(args) : ty` of the fragment, its Go expression and the top-level Go functions that expression names -/
inductive CallView (env : Env) (file : AFile) (G : List String) (Γ : Ctx) (fty : Ty) :
    String → List Imm → Ty → GExpr → List String → Prop
  | named {name h : String} {args : List Imm} {tys : List Ty} {ty : Ty} (hty : GTy) : lookupTy Γ name = none →
      Target env file G name h tys ty → argsOK env file G Γ args tys = true → flatTy ty = true →
      CallView env file G Γ fty name args ty (.call (goTy ty) (.var h hty) (compileImms env args)) [h]
  | localFn {x : String} {args : List Imm} {ps : List Ty} {ty : Ty} : lookupTy Γ x = some (.func ps ty) → fty = .func ps ty →
      argsOK env file G Γ args ps = true → flatTy ty = true →
      CallView env file G Γ fty x args ty (.call (goTy ty) (.var (vn x) (goTy fty)) (compileImms env args)) []
  | vecNew {e : Ty} : lookupTy Γ "vec_new" = none → valTy env (.vec e) = true →
      CallView env file G Γ fty "vec_new" [] (.vec e) (.nil (goTy (.vec e))) []
  | vecGet {a i : Imm} {ty : Ty} : lookupTy Γ "vec_get" = none → immOK env file G Γ a = true → a.ty = .vec ty →
      immOK env file G Γ i = true → intTy i.ty = true → valTy env (.vec ty) = true →
      CallView env file G Γ fty "vec_get" [a, i] ty (.index (goTy ty) (compileImm env a) (compileImm env i)) []
  | vecLen {a : Imm} {e : Ty} : lookupTy Γ "vec_len" = none → immOK env file G Γ a = true → a.ty = .vec e →
      valTy env (.vec e) = true →
      CallView env file G Γ fty "vec_len" [a] (.int 32 true)
        (.call (goTy (.int 32 true)) (.var "int32" (.func [.int 32 true] (.int 32 true)))
          [.call (.int 32 true) (.var "len" (.func [goTy a.ty] (.int 32 true))) [compileImm env a]]) ["int32", "len"]

theorem callOK_fnSigs {env : Env} {file : AFile} {G : List String} {Γ : Ctx} {name : String} {fty : Ty} {args : List Imm} {ty : Ty}
    (h : callOK env file G Γ (.var name fty) args ty = true) :
    ∃ ps, (name, ps, ty) ∈ fnSigs file G ∧ argsOK env file G Γ args ps = true ∧ flatTy ty = true := by
  simp only [callOK, Bool.and_eq_true, Bool.not_eq_true', beq_iff_eq] at h
  obtain ⟨⟨⟨⟨⟨_, hrn⟩, _⟩, _⟩, hent⟩, hcase⟩ := h
  cases hs : builtinSig name with
  | some pr =>
    obtain ⟨ps, r⟩ := pr
    rw [hs] at hcase; simp only [Bool.and_eq_true] at hcase
    obtain ⟨⟨hbn, hargs⟩, hty⟩ := hcase
    refine ⟨ps, ?_, hargs, scalarEq_flat hty⟩
    simp only [fnSigs, List.mem_append, List.mem_filterMap]
    exact Or.inr ⟨name, by simpa using hbn, by rw [hs, scalarEq_eq hty]; rfl⟩
  | none =>
    rw [hs] at hcase; simp only at hcase
    cases hf : file.find? (·.name == name) with
    | none => rw [hf] at hcase; cases hcase
    | some g =>
      rw [hf] at hcase; simp only [Bool.and_eq_true] at hcase
      obtain ⟨⟨hG, hargs⟩, hty⟩ := hcase
      have hgname : g.name = name := by have := List.find?_some hf; simpa using this
      refine ⟨_, ?_, hargs, scalarEq_flat hty⟩
      simp only [fnSigs, List.mem_append, List.mem_map, List.mem_filter]
      refine Or.inl ⟨g, ⟨List.mem_of_find?_eq_some hf, ?_⟩, by rw [hgname, scalarEq_eq hty]⟩
      simp only [Bool.and_eq_true, Bool.not_eq_true', beq_iff_eq, hgname]
      exact ⟨⟨hG, hent⟩, hrn⟩

theorem callOK_view {env : Env} {file : AFile} {G : List String} {Γ : Ctx} {name : String} {fty : Ty} {args : List Imm} {ty : Ty}
    (h : callOK env file G Γ (.var name fty) args ty = true) :
    CallView env file G Γ fty name args ty (compileCExpr env (.call (.var name fty) args ty))
      (calleesC (Γ.map (·.1)) (.call (.var name fty) args ty)) ∧ specialCallees.contains (rn name) = false := by
  obtain ⟨ps, hmem, hargs, hfl⟩ := callOK_fnSigs h
  simp only [callOK, Bool.and_eq_true, Bool.not_eq_true', beq_iff_eq, Option.isNone_iff_eq_none] at h
  obtain ⟨⟨⟨⟨⟨hnone, hrn⟩, hsp⟩, hext⟩, _⟩, _⟩ := h
  refine ⟨?_, by rw [hrn]; exact hsp⟩
  have hnb : ¬ name ∈ Γ.map (·.1) := by simpa using lookupTy_none_contains hnone
  simp only [specialCallees, List.contains_cons, List.contains_nil, Bool.or_false, Bool.or_eq_false_iff, beq_eq_false_iff_ne] at hsp
  obtain ⟨h1, h2, h3, h4, h5, h6, h7, h8, h9, _⟩ := hsp
  have := CallView.named (fty := fty) (goTy fty) hnone (.fn hmem) hargs hfl
  simpa [compileCExpr, compileCall, callee, calleesC, goCallee, hnb, hrn, h1, h2, h3, h4, h5, h6, h7, h8, h9, hext, compileImm]
    using this

theorem refCallOK_view {env : Env} {file : AFile} {G : List String} {Γ : Ctx} {name : String} {fty : Ty} {args : List Imm} {ty : Ty}
    (h : refCallOK env file G Γ (.var name fty) args ty = true) :
    CallView env file G Γ fty name args ty (compileCExpr env (.call (.var name fty) args ty))
      (calleesC (Γ.map (·.1)) (.call (.var name fty) args ty)) ∧ rn name = name ∧ name ∈ refNames := by
  simp only [refCallOK, Bool.and_eq_true, beq_iff_eq] at h
  obtain ⟨⟨hloc, hrn⟩, hcase⟩ := h
  have hnone := Option.isNone_iff_eq_none.mp hloc
  have hnb := lookupTy_none_not_mem hnone
  have hfl : ∀ {e : Ty}, refTyOK env file (.ref e) = true → flatTy (.ref e) = true := fun hrt => by
    simp only [refTyOK, Bool.and_eq_true] at hrt; exact valTy_flat hrt.1
  by_cases h1 : name = "ref"
  · subst h1
    rw [if_pos rfl] at hcase
    cases ty with
    | ref e =>
      simp only [Bool.and_eq_true] at hcase
      refine ⟨?_, hrn, by simp [refNames]⟩
      have := CallView.named (fty := fty) (.func [goTy e] (goTy (.ref e))) hnone (.helper (.ref hcase.2)) hcase.1 (hfl hcase.2)
      simpa [compileCExpr, compileCall, callee, hrn, refElem, calleesC, goCallee, hnb] using this
    | _ => exact absurd hcase (by simp)
  · rw [if_neg h1] at hcase
    by_cases h2 : name = "ref_get"
    · subst h2
      rw [if_pos rfl] at hcase; simp only [Bool.and_eq_true] at hcase
      obtain ⟨r, rest, rfl, hrty⟩ : ∃ r rest, args = r :: rest ∧ r.ty = .ref ty := by
        cases args with
        | nil => simp [argsOK] at hcase
        | cons a rest => simp only [argsOK, Bool.and_eq_true] at hcase; exact ⟨a, rest, rfl, scalarEq_eq hcase.1.1.2⟩
      refine ⟨?_, hrn, by simp [refNames]⟩
      have := CallView.named (fty := fty) (.func [goTy (.ref ty)] (goTy ty)) hnone (.helper (.refGet hcase.2)) hcase.1
        (by simpa [flatTy] using hfl hcase.2)
      simpa [compileCExpr, compileCall, callee, hrn, hrty, refElem, calleesC, goCallee, hnb] using this
    · rw [if_neg h2] at hcase
      by_cases h3 : name = "ref_set"
      · subst h3
        rw [if_pos rfl] at hcase
        cases args with
        | nil => cases hcase
        | cons r rest =>
          simp only at hcase
          cases hrty : r.ty with
          | ref e =>
            rw [hrty] at hcase; simp only [Bool.and_eq_true] at hcase
            have hty := scalarEq_eq hcase.1.2; subst hty
            refine ⟨?_, hrn, by simp [refNames]⟩
            have := CallView.named (fty := fty) (.func [goTy (.ref e), goTy e] .unit) hnone (.helper (.refSet hcase.2)) hcase.1.1 rfl
            simpa [compileCExpr, compileCall, callee, hrn, hrty, refElem, goTy, calleesC, goCallee, hnb] using this
          | _ => rw [hrty] at hcase; cases hcase
      · rw [if_neg h3] at hcase; cases hcase

theorem arrCallOK_view {env : Env} {file : AFile} {G : List String} {Γ : Ctx} {name : String} {fty : Ty} {args : List Imm} {ty : Ty}
    (h : arrCallOK env file G Γ (.var name fty) args ty = true) :
    CallView env file G Γ fty name args ty (compileCExpr env (.call (.var name fty) args ty))
      (calleesC (Γ.map (·.1)) (.call (.var name fty) args ty)) ∧ rn name = name ∧ name ∈ arrNames := by
  simp only [arrCallOK, Bool.and_eq_true, beq_iff_eq] at h
  obtain ⟨⟨hloc, hrn⟩, hcase⟩ := h
  have hnone := Option.isNone_iff_eq_none.mp hloc
  have hnb := lookupTy_none_not_mem hnone
  cases args with
  | nil => cases hcase
  | cons a rest =>
    cases rest with
    | nil => cases hcase
    | cons i rest =>
      simp only at hcase
      cases haty : a.ty with
      | array len e =>
        rw [haty] at hcase; simp only [Bool.and_eq_true] at hcase
        obtain ⟨⟨hint, hat⟩, hif⟩ := hcase
        have hfl : flatTy (.array len e) = true := by simp only [arrTyOK, Bool.and_eq_true] at hat; exact valTy_flat hat.1
        by_cases h1 : name = "array_get"
        · subst h1
          rw [if_pos rfl] at hif; simp only [Bool.and_eq_true] at hif
          have hty := scalarEq_eq hif.2; subst hty
          refine ⟨?_, hrn, by simp [arrNames]⟩
          have := CallView.named (fty := fty) (goTy fty) hnone (.helper (.arrGet hat hint)) hif.1
            (by simp only [flatTy, Bool.and_eq_true] at hfl; exact hfl.2)
          simpa [compileCExpr, compileCall, callee, hrn, haty, Imm.ty_var, calleesC, goCallee, hnb] using this
        · rw [if_neg h1] at hif
          by_cases h2 : name = "array_set"
          · subst h2
            rw [if_pos rfl] at hif; simp only [Bool.and_eq_true] at hif
            have hty := scalarEq_eq hif.2; subst hty
            refine ⟨?_, hrn, by simp [arrNames]⟩
            have := CallView.named (fty := fty) (goTy fty) hnone (.helper (.arrSet hat hint)) hif.1 hfl
            simpa [compileCExpr, compileCall, callee, hrn, haty, Imm.ty_var, calleesC, goCallee, hnb] using this
          · rw [if_neg h2] at hif; cases hif
      | _ => rw [haty] at hcase; cases hcase

theorem fragCall_view {env : Env} {file : AFile} {G : List String} {Γ : Ctx} {name : String} {fty : Ty} {args : List Imm} {ty : Ty}
    (h : (callOK env file G Γ (.var name fty) args ty || refCallOK env file G Γ (.var name fty) args ty ||
      arrCallOK env file G Γ (.var name fty) args ty || localCallOK env file G Γ (.var name fty) args ty ||
      vecCallOK env file G Γ (.var name fty) args ty) = true) :
    CallView env file G Γ fty name args ty (compileCExpr env (.call (.var name fty) args ty))
      (calleesC (Γ.map (·.1)) (.call (.var name fty) args ty)) := by
  simp only [Bool.or_eq_true] at h
  rcases h with (((h | h) | h) | h) | h
  · exact (callOK_view h).1
  · exact (refCallOK_view h).1
  · exact (arrCallOK_view h).1
  · obtain ⟨ps, hlk, rfl, hsp, hext, hargs, hfl⟩ := localCallOK_inv h
    have hcs : calleesC (Γ.map (·.1)) (.call (.var name (.func ps ty)) args ty) = [] := by
      simp only [calleesC, goCallee, lookupTy_some_mem hlk, if_true]
    rw [hcs]
    simp only [compileCExpr, compileCall_local hsp hext]
    exact .localFn hlk rfl hargs hfl
  · obtain ⟨hnone, hrn, hrow⟩ := vecCallOK_inv h
    cases hrow with
    | @new e hvt hshape =>
      rw [hshape]
      have hcs : calleesC (Γ.map (·.1)) (.call (.var "vec_new" fty) [] (.vec e)) = [] := by
        simp [calleesC, goCallee, hrn]
      rw [hcs]; exact .vecNew hnone hvt
    | push hargs hvt hshape hcs => rw [hshape, hcs]; exact .named _ hnone (.push hvt) hargs (valTy_flat hvt)
    | @get a i _ hint ha hta hi hvt hshape =>
      rw [hshape]
      have hcs : calleesC (Γ.map (·.1)) (.call (.var "vec_get" fty) [a, i] ty) = [] := by
        simp [calleesC, goCallee, hrn]
      rw [hcs]; exact .vecGet hnone ha hta hi hint hvt
    | len ha haty hvt hshape hcs => rw [hshape, hcs]; exact .vecLen hnone ha haty hvt

theorem fragCall_callee {env : Env} {file : AFile} {G : List String} {Γ : Ctx} {name : String} {fty : Ty} {args : List Imm} {ty : Ty}
    (h : (callOK env file G Γ (.var name fty) args ty || refCallOK env file G Γ (.var name fty) args ty ||
      arrCallOK env file G Γ (.var name fty) args ty || localCallOK env file G Γ (.var name fty) args ty ||
      vecCallOK env file G Γ (.var name fty) args ty) = true) :
    rn name = name ∧ name ∈ refNames ++ arrNames ++ vecNames ∨ specialCallees.contains (rn name) = false := by
  simp only [Bool.or_eq_true] at h
  rcases h with (((h | h) | h) | h) | h
  · exact Or.inr (callOK_view h).2
  · obtain ⟨_, hrn, hmem⟩ := refCallOK_view h
    exact Or.inl ⟨hrn, by simp [hmem]⟩
  · obtain ⟨_, hrn, hmem⟩ := arrCallOK_view h
    exact Or.inl ⟨hrn, by simp [hmem]⟩
  · obtain ⟨ps, _, _, hsp, _⟩ := localCallOK_inv h
    exact Or.inr hsp
  · obtain ⟨_, hrn, hrow⟩ := vecCallOK_inv h
    exact Or.inl ⟨hrn, by simp [hrow.mem_vecNames]⟩

theorem cgetField_enum {env : Env} {e : Imm} {tn vname : String} {vi idx : Nat} {n vn' : String} {tys : List Ty} {t : Ty}
    (hv : variantOf env (.enum tn) vi = some (n, vn', tys)) (ht : tys[idx]? = some t) :
    cgetField env e (.enum tn vname vi) idx = some (fieldN idx, t) := by
  obtain ⟨hE, _, d, hd, hvar⟩ := variantOf_spec hv
  injection hE with hE; subst hE
  simp [cgetField, hd, hvar, ht]

/-- `CV c ge cs`: the simple form `c` of the fragment compiles to the Go expression `ge`, which names the top-level Go functions
    `cs`.  One constructor per accepted node: `scalarEq` read as `=`, the lookups resolved. -/
inductive CV (env : Env) (file : AFile) (G : List String) (Γ : Ctx) (K : KCtx) : CExpr → GExpr → List String → Prop
  | imm {i : Imm} : immOK env file G Γ i = true → CV env file G Γ K (.imm i) (compileImm env i) []
  | neg {e : Imm} {b : Nat} {s : Bool} : immOK env file G Γ e = true → e.ty = .int b s →
      CV env file G Γ K (.un .neg e (.int b s)) (.un .neg (goTy (.int b s)) (compileImm env e)) []
  | not {e : Imm} : immOK env file G Γ e = true → e.ty = .bool →
      CV env file G Γ K (.un .not e .bool) (.un .not (goTy .bool) (compileImm env e)) []
  | bin {op : BinOp} {l r : Imm} : immOK env file G Γ l = true → immOK env file G Γ r = true → l.ty = r.ty →
      binOK op l.ty l.ty (binResTy op l.ty) = true →
      CV env file G Γ K (.bin op l r (binResTy op l.ty))
        (.bin (gBin op) (goTy (binResTy op l.ty)) (compileImm env l) (compileImm env r)) []
  | call {name : String} {fty : Ty} {args : List Imm} {ty : Ty} {ge : GExpr} {cs : List String} :
      CallView env file G Γ fty name args ty ge cs → CV env file G Γ K (.call (.var name fty) args ty) ge cs
  | variant {tn vn' vname : String} {vi : Nat} {tys : List Ty} {args : List Imm} :
      variantOf env (.enum tn) vi = some (tn, vname, tys) → argsOK env file G Γ args tys = true →
      CV env file G Γ K (.constr (.enum tn vn' vi) args (.enum tn))
        (.slit (.name (variantGoName env tn vname)) (tupleFields 0 (compileImms env args))) []
  | struct {sn : String} {d : StructDef} {args : List Imm} : sn ∈ goodStructs env → env.getStruct sn = some d →
      argsOK env file G Γ args (d.fields.map (·.2)) = true →
      CV env file G Γ K (.constr (.struct sn) args (.struct sn))
        (.slit (.name (gid sn)) (structFieldsOf d.fields (compileImms env args))) []
  | tuple {items : List Imm} {ts : List Ty} : argsOK env file G Γ items ts = true → tupleTyOK env file (.tuple ts) = true →
      CV env file G Γ K (.tuple items (.tuple ts))
        (.slit (.struct (goTypeNameFor (.tuple ts)) (goTyFields 0 ts)) (tupleFields 0 (compileImms env items))) []
  | array {items : List Imm} {len : Nat} {e : Ty} : argsOK env file G Γ items (List.replicate len e) = true →
      valTy env (.array len e) = true →
      CV env file G Γ K (.array items (.array len e)) (.alit (.array len (goTy e)) (compileImms env items)) []
  /-- a payload field of the variant the enclosing arm fixed -/
  | cgetVariant {x tn vn' vname : String} {vi idx : Nat} {tys : List Ty} {t : Ty} : lookupK K x = some vi →
      immOK env file G Γ (.var x (.enum tn)) = true → variantOf env (.enum tn) vi = some (tn, vname, tys) → tys[idx]? = some t →
      flatTy t = true →
      CV env file G Γ K (.cget (.var x (.enum tn)) (.enum tn vn' vi) idx t)
        (.field (fieldN idx) (goTy t) (compileImm env (.var x (.enum tn)))) []
  | cgetStruct {e : Imm} {sn f : String} {idx : Nat} {t : Ty} : immOK env file G Γ e = true → e.ty = .struct sn →
      cgetField env e (.struct sn) idx = some (f, t) → flatTy t = true →
      CV env file G Γ K (.cget e (.struct sn) idx t) (.field f (goTy t) (compileImm env e)) []
  | proj {e : Imm} {ts : List Ty} {idx : Nat} {t : Ty} : immOK env file G Γ e = true → e.ty = .tuple ts →
      valTy env (.tuple ts) = true → (fieldNames 0 ts.length).Nodup → ts[idx]? = some t → flatTy t = true →
      CV env file G Γ K (.proj e idx t) (.field (fieldN idx) (goTy t) (compileImm env e)) []
  | toDyn {tr : String} {forTy : Ty} {e : Imm} : immOK env file G Γ e = true → e.ty = forTy → (tr, forTy) ∈ dynTable env file G →
      CV env file G Γ K (.toDyn tr forTy e (.dyn tr))
        (.slit (.name (dynStructName tr))
          [.mk "data" (dynDataExpr env e),
           .mk "vtable" (.call (vtablePtrTy tr) (.var (dynVtableCtorName tr forTy) (.func [] (vtablePtrTy tr))) [])])
        (dynVtableCtorName tr forTy :: dynDataCallee e)
  | dynCall {tr m : String} {recv : Imm} {args : List Imm} {s : String × List Ty × Ty} : immOK env file G Γ recv = true →
      recv.ty = .dyn tr → dynSig env tr m = some s → argsOK env file G Γ args s.2.1 = true → flatTy s.2.2 = true →
      CV env file G Γ K (.dynCall tr m recv args s.2.2)
        (.call (goTy s.2.2) (.field (gid m) (slotTy s.2.1 s.2.2) (.field "vtable" (vtablePtrTy tr) (compileImm env recv)))
          (.field "data" anyTy (compileImm env recv) :: compileImms env args)) []

theorem toDynOK_inv {env : Env} {file : AFile} {G : List String} {Γ : Ctx} {tr : String} {forTy : Ty} {e : Imm} {ty : Ty}
    (h : toDynOK env file G Γ tr forTy e ty = true) :
    immOK env file G Γ e = true ∧ e.ty = forTy ∧ ty = .dyn tr ∧ (tr, forTy) ∈ dynTable env file G := by
  simp only [toDynOK, Bool.and_eq_true, List.any_eq_true] at h
  obtain ⟨⟨⟨he, hety⟩, hty⟩, ⟨p1, p2⟩, hp, hpq⟩ := h
  simp only [beq_iff_eq] at hpq
  have h2 := (Goml.Mono.tyBeq_iff _ _).mp hpq.2
  exact ⟨he, scalarEq_eq hety, scalarEq_eq hty, by rw [← hpq.1, ← h2]; exact hp⟩

theorem dynCallOK_inv {env : Env} {file : AFile} {G : List String} {Γ : Ctx} {tr m : String} {recv : Imm} {args : List Imm} {ty : Ty}
    (h : dynCallOK env file G Γ tr m recv args ty = true) :
    ∃ s, immOK env file G Γ recv = true ∧ recv.ty = .dyn tr ∧ dynSig env tr m = some s ∧
      argsOK env file G Γ args s.2.1 = true ∧ ty = s.2.2 ∧ flatTy s.2.2 = true := by
  simp only [dynCallOK, Bool.and_eq_true] at h
  obtain ⟨⟨hr, hrty⟩, hcase⟩ := h
  cases hsg : dynSig env tr m with
  | none => rw [hsg] at hcase; cases hcase
  | some s =>
    rw [hsg] at hcase; simp only [Bool.and_eq_true] at hcase
    exact ⟨s, hr, scalarEq_eq hrty, rfl, hcase.1, scalarEq_eq hcase.2, scalarEq_eq hcase.2 ▸ scalarEq_flat hcase.2⟩

theorem fragC_cv {env : Env} {file : AFile} {G : List String} {Γ : Ctx} {K : KCtx} {c : CExpr} (hctl : isCtl c = false)
    (hgoc : isGoC c = false) (h : fragC env file G Γ K c = true) :
    CV env file G Γ K c (compileCExpr env c) (calleesC (Γ.map (·.1)) c) := by
  cases c with
  | imm i => exact .imm h
  | un op e ty =>
    simp only [fragC, Bool.and_eq_true] at h
    obtain ⟨he, hop⟩ := h
    cases op with
    | neg =>
      simp only [unOK, Bool.and_eq_true] at hop
      cases hty : e.ty <;> rw [hty] at hop <;> simp [intTy] at hop
      have := scalarEq_eq hop; subst this
      exact .neg he hty
    | not =>
      simp only [unOK, Bool.and_eq_true] at hop
      have e2 := scalarEq_eq hop.2; subst e2
      exact .not he (scalarEq_eq hop.1)
  | bin op l r ty =>
    simp only [fragC, Bool.and_eq_true] at h
    obtain ⟨⟨hl, hr⟩, hop⟩ := h
    have hop' := hop
    simp only [binOK, Bool.and_eq_true] at hop'
    have htl : l.ty = r.ty := scalarEq_eq hop'.1.1
    have hty : ty = binResTy op l.ty := scalarEq_eq hop'.2
    subst hty
    rw [← htl] at hop
    exact .bin hl hr htl hop
  | call f args ty =>
    simp only [fragC] at h
    cases f with
    | var name fty => exact .call (fragCall_view h)
    | prim p t => simp [callOK, refCallOK, arrCallOK, localCallOK, vecCallOK] at h
    | tag i t => simp [callOK, refCallOK, arrCallOK, localCallOK, vecCallOK] at h
  | ite c t e ty => simp [isCtl] at hctl
  | «while» c b ty => simp [isCtl] at hctl
  | matchE s arms d ty => simp [isCtl] at hctl
  | go e ty => simp [isGoC] at hgoc
  | constr c args ty =>
    cases c with
    | enum tn vn' vi =>
      simp only [fragC, Bool.and_eq_true] at h
      obtain ⟨hty, hcase⟩ := h
      have hty' := scalarEq_eq hty; subst hty'
      cases hv : variantOf env (.enum tn) vi with
      | none => rw [hv] at hcase; simp at hcase
      | some v =>
        obtain ⟨n, vname, tys⟩ := v
        rw [hv] at hcase; simp only at hcase
        obtain ⟨hE, _⟩ := variantOf_spec hv
        injection hE with hE; subst hE
        simp only [compileCExpr, calleesC, variantTy_variantOf hv]
        exact .variant hv hcase
    | struct sn =>
      simp only [fragC, Bool.and_eq_true] at h
      obtain ⟨⟨hty, hgood⟩, hcase⟩ := h
      have hty' := scalarEq_eq hty; subst hty'
      cases hd : env.getStruct sn with
      | none => rw [hd] at hcase; simp at hcase
      | some d =>
        rw [hd] at hcase; simp only at hcase
        simp only [compileCExpr, calleesC, hd, Option.map_some, Option.getD_some, goTy]
        exact .struct (by simpa using hgood) hd hcase
  | tuple items ty =>
    simp only [fragC] at h
    cases ty with
    | tuple ts =>
      simp only [Bool.and_eq_true] at h
      simp only [compileCExpr, calleesC, tupleStructTy, goTy]
      exact .tuple h.1 h.2
    | _ => exact absurd h (by simp)
  | array items ty =>
    simp only [fragC] at h
    cases ty with
    | array len e =>
      simp only [Bool.and_eq_true] at h
      simp only [compileCExpr, calleesC, goTy]
      exact .array h.1 h.2
    | _ => exact absurd h (by simp)
  | cget e c idx ty =>
    cases c with
    | enum tn vn' vi =>
      simp only [fragC, Bool.and_eq_true] at h
      obtain ⟨⟨⟨hK, he⟩, hety⟩, hcase⟩ := h
      cases e with
      | prim p t => simp at hK
      | tag i t => simp at hK
      | var x xty =>
        simp only [beq_iff_eq] at hK
        have hety' : xty = .enum tn := scalarEq_eq hety
        subst hety'
        cases hv : variantOf env (.enum tn) vi with
        | none => rw [hv] at hcase; simp at hcase
        | some vv =>
          obtain ⟨n, vname, tys⟩ := vv
          rw [hv] at hcase; simp only at hcase
          obtain ⟨hE, _⟩ := variantOf_spec hv
          injection hE with hE; subst hE
          cases hti : tys[idx]? with
          | none => rw [hti] at hcase; simp at hcase
          | some t =>
            rw [hti] at hcase; simp only at hcase
            have hfl := scalarEq_flat hcase
            have hty' := scalarEq_eq hcase; subst hty'
            simp only [compileCExpr, calleesC, cgetField_enum hv hti, Option.getD_some]
            exact .cgetVariant hK he hv hti hfl
    | struct sn =>
      simp only [fragC, Bool.and_eq_true] at h
      obtain ⟨⟨he, hety⟩, hcase⟩ := h
      cases hf : cgetField env e (.struct sn) idx with
      | none => rw [hf] at hcase; simp at hcase
      | some ft =>
        rw [hf] at hcase; simp only at hcase
        have hfl := scalarEq_flat hcase
        have hty' := scalarEq_eq hcase; subst hty'
        simp only [compileCExpr, calleesC, hf, Option.getD_some]
        exact .cgetStruct he (scalarEq_eq hety) hf hfl
  | proj e idx ty =>
    simp only [fragC, Bool.and_eq_true] at h
    obtain ⟨he, hcase⟩ := h
    cases hety : e.ty with
    | tuple ts =>
      rw [hety] at hcase; simp only [Bool.and_eq_true] at hcase
      obtain ⟨⟨hvt, hnd0⟩, hidx⟩ := hcase
      cases hti : ts[idx]? with
      | none => rw [hti] at hidx; cases hidx
      | some t =>
        rw [hti] at hidx; simp only at hidx
        have hfl := scalarEq_flat hidx
        have hty' := scalarEq_eq hidx; subst hty'
        simp only [compileCExpr, calleesC]
        exact .proj he hety hvt (of_decide_eq_true hnd0) hti hfl
    | _ => rw [hety] at hcase; exact absurd hcase (by simp)
  | toDyn tr forTy e ty =>
    obtain ⟨he, hety, rfl, hmem⟩ := toDynOK_inv (by simpa only [fragC] using h)
    simp only [compileCExpr, calleesC, goTy]
    exact .toDyn he hety hmem
  | dynCall tr m recv args ty =>
    obtain ⟨s, hr, hrty, hsg, hargs, rfl, hfl⟩ := dynCallOK_inv (by simpa only [fragC] using h)
    have : (((traitMethodSigs env tr).getD []).find? (·.1 == m)) = some s := hsg
    simp only [compileCExpr, calleesC, this, Option.getD_some]
    exact .dynCall hr hrty hsg hargs hfl

theorem scalar_flat {t : Ty} (h : scalarTy t = true) : flatTy t = true := by
  cases t <;> simp [scalarTy] at h <;> rfl

theorem okPrim_flat {p : Prim} {ty : Ty} (h : okPrim p ty = true) : flatTy ty = true := by
  cases p <;> cases ty <;> simp [okPrim] at h <;> rfl

theorem immOK_flat {env : Env} {Γ : Ctx} {i : Imm} (h : immOK env file G Γ i = true) : flatTy i.ty = true := by
  cases i with
  | var x ty =>
    rcases immOK_var_inv h with ⟨_, hfl⟩ | ⟨_, ps, r, rfl, _, hps, hr⟩
    · exact hfl
    · simp only [Imm.ty, flatTy, Bool.and_eq_true]; exact ⟨hps, hr⟩
  | prim p ty => exact okPrim_flat h
  | tag i t =>
    simp only [immOK] at h
    cases hv : variantOf env t i with
    | none => rw [hv] at h; simp at h
    | some vv =>
      obtain ⟨n, vname, tys⟩ := vv
      obtain ⟨hE, _⟩ := variantOf_spec hv
      simp [Imm.ty, hE, flatTy]

theorem cv_flat {env : Env} {file : AFile} {G : List String} {Γ : Ctx} {K : KCtx} {c : CExpr} {ge : GExpr} {cs : List String}
    (h : CV env file G Γ K c ge cs) : flatTy c.annTy = true := by
  cases h with
  | imm hi => exact immOK_flat hi
  | neg _ _ => rfl
  | not _ _ => rfl
  | bin _ _ _ hop => simp only [binOK, Bool.and_eq_true] at hop; exact scalarEq_flat hop.2
  | call hv =>
    cases hv with
    | named _ _ _ _ hfl => exact hfl
    | localFn _ _ _ hfl => exact hfl
    | vecNew _ hvt => exact valTy_flat hvt
    | vecGet _ _ _ _ _ hvt => simpa [flatTy, CExpr.annTy] using valTy_flat hvt
    | vecLen _ _ _ _ => rfl
  | variant _ _ => rfl
  | struct _ _ _ => rfl
  | tuple _ htt => simp only [tupleTyOK, Bool.and_eq_true] at htt; exact valTy_flat htt.1
  | array _ hvt => exact valTy_flat hvt
  | cgetVariant _ _ _ _ hfl => exact hfl
  | cgetStruct _ _ _ hfl => exact hfl
  | proj _ _ _ _ _ hfl => exact hfl
  | toDyn _ _ _ => rfl
  | dynCall _ _ _ _ hfl => exact hfl

theorem cv_tastTy {env : Env} {file : AFile} {G : List String} {Γ : Ctx} {K : KCtx} {c : CExpr} {ge : GExpr} {cs : List String}
    (h : CV env file G Γ K c ge cs) : cexprTastTy env c = c.annTy := by
  cases h with
  | cgetVariant _ _ hv hti _ => simp [cexprTastTy, CExpr.annTy, cgetField_enum hv hti]
  | cgetStruct _ _ hf _ => simp [cexprTastTy, CExpr.annTy, hf]
  | _ => rfl

end Goml.GoComp
