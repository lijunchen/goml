import GomlVerif.Lemmas.SemEv
import GomlVerif.Lemmas.AnfDec
import Std.Data.String.ToNat  -- `Nat.repr_injective`, for `tmpName_inj`
/-!
Semantic toolkit for the ANF proof: `tmpName` is injective, environments that agree outside a set of names, atoms,
evaluation of a chain of bindings (`EvB`), and the "no rule" failures (`Stuck`).
-/
namespace Goml.Anf
open Goml Goml.Sem

theorem tmpName_inj {a b : Nat} (h : tmpName a = tmpName b) : a = b := by
  unfold tmpName at h
  have h2 : ("t" ++ toString a).toList = ("t" ++ toString b).toList := by rw [h]
  simp only [String.toList_append] at h2
  have h3 := List.append_cancel_left h2
  have h4 : toString a = toString b := String.toList_inj.1 h3
  exact Nat.repr_injective h4

def Agree (D : List String) (ρ ρ' : Env) : Prop := ∀ x, x ∉ D → lookupEnv ρ x = lookupEnv ρ' x

theorem Agree.mono {D D' : List String} {ρ ρ' : Env} (h : Agree D ρ ρ') (hD : ∀ x, x ∈ D → x ∈ D') :
    Agree D' ρ ρ' := fun x hx => h x (fun hx' => hx (hD x hx'))

theorem Agree.cons {D : List String} {ρ ρ' : Env} (h : Agree D ρ ρ') (y : String) (v : Val) :
    Agree D ((y, v) :: ρ) ((y, v) :: ρ') := by
  intro x hx
  rw [lookupEnv_cons, lookupEnv_cons]
  split
  · rfl
  · exact h x hx

theorem Agree.refl (D : List String) (ρ : Env) : Agree D ρ ρ := fun _ _ => rfl

/-- the value of an atom (`isAtom`); the last row is never read -/
def atomVal (ρ : Env) : Expr → Val
  | .var x _ => lookupVal ρ x
  | .prim p => primVal p
  | _ => .unit

theorem ev_atom {P : Prog} {i : Expr} {ρ : Env} {w : World} {r : Res Val} (h : isAtom i = true) :
    Ev P i ρ w r ↔ r = .ok (atomVal ρ i) w := by
  cases i <;> simp [isAtom] at h
  · exact ev_var
  · exact ev_prim

theorem evL_atoms {P : Prog} : ∀ {is : List Expr} {ρ : Env} {w : World} {r : Res (List Val)},
    (∀ i ∈ is, isAtom i = true) → (EvL P is ρ w r ↔ r = .ok (is.map (atomVal ρ)) w)
  | [], ρ, w, r, _ => by rw [evL_nil]; rfl
  | i :: is, ρ, w, r, h => by
    have hi : isAtom i = true := h i (by simp)
    have his : ∀ j ∈ is, isAtom j = true := fun j hj => h j (by simp [hj])
    rw [evL_cons]
    constructor
    · rintro (⟨f, w', h1, _⟩ | ⟨a, w', h1, h2⟩)
      · rw [ev_atom hi] at h1; cases h1
      · rw [ev_atom hi] at h1; cases h1
        rcases h2 with ⟨f, w'', h3, _⟩ | ⟨vs, w'', h3, h4⟩
        · rw [evL_atoms his] at h3; cases h3
        · rw [evL_atoms his] at h3; cases h3
          simpa using h4
    · intro hr
      refine Or.inr ⟨atomVal ρ i, w, (ev_atom hi).2 rfl, Or.inr ⟨is.map (atomVal ρ), w, (evL_atoms his).2 rfl, ?_⟩⟩
      simpa using hr

theorem atomVal_congr {ρ ρ' : Env} {i : Expr} (h : ∀ x ∈ names i, lookupEnv ρ x = lookupEnv ρ' x) :
    atomVal ρ i = atomVal ρ' i := by
  cases i <;> simp only [atomVal]
  exact lookupVal_congr (h _ (by simp [names]))

/-- run the bindings in order; the result is the extended environment -/
def EvB (P : Prog) : Binds → Env → World → Res Env → Prop
  | [], ρ, w, out => out = .ok ρ w
  | (x, c) :: L, ρ, w, out => RB (Ev P c ρ w) (fun v w' => EvB P L ((x, v) :: ρ) w') out

theorem evB_nil {P ρ w out} : EvB P [] ρ w out ↔ out = .ok ρ w := Iff.rfl

theorem evB_cons {P x c L ρ w out} :
    EvB P ((x, c) :: L) ρ w out ↔ RB (Ev P c ρ w) (fun v w' => EvB P L ((x, v) :: ρ) w') out := Iff.rfl

theorem evB_append {P : Prog} : ∀ {L1 L2 : Binds} {ρ : Env} {w : World} {out : Res Env},
    EvB P (L1 ++ L2) ρ w out ↔ RB (EvB P L1 ρ w) (fun ρ1 w1 => EvB P L2 ρ1 w1) out
  | [], _, _, _, _ => rb_pure.symm
  | (_, _) :: L1, _, _, _, _ => (rb_congr fun _ _ _ => evB_append (L1 := L1)).trans rb_assoc.symm

theorem ev_wrap {P : Prog} : ∀ {L : Binds} {c : Expr} {ρ : Env} {w : World} {r : Res Val},
    Ev P (wrap L c) ρ w r ↔ RB (EvB P L ρ w) (fun ρ1 w1 => Ev P c ρ1 w1) r
  | [], _, _, _, _ => rb_pure.symm
  | (_, _) :: L, _, _, _, _ => ev_letE.trans ((rb_congr fun _ _ _ => ev_wrap (L := L)).trans rb_assoc.symm)

/-- the bindings only touch their own names -/
theorem evB_lookup {P : Prog} : ∀ {L : Binds} {ρ ρ1 : Env} {w w1 : World},
    EvB P L ρ w (.ok ρ1 w1) → ∀ x, x ∉ keys L → lookupEnv ρ1 x = lookupEnv ρ x
  | [], ρ, ρ1, w, w1, h, x, _ => by cases h; rfl
  | (y, c) :: L, ρ, ρ1, w, w1, h, x, hx => by
    simp only [keys_cons, List.mem_cons, not_or] at hx
    rcases h with ⟨f, w', _, h2⟩ | ⟨v, w', _, h2⟩
    · cases h2
    · rw [evB_lookup h2 x hx.2, lookupEnv_cons_ne _ _ (fun h => hx.1 h.symm)]

theorem evB_agree {P : Prog} {L : Binds} {D : List String} {ρ ρ' ρ1 : Env} {w w1 : World}
    (h : EvB P L ρ' w (.ok ρ1 w1)) (ha : Agree D ρ ρ') : Agree (D ++ keys L) ρ ρ1 := by
  intro x hx
  simp only [List.mem_append, not_or] at hx
  rw [evB_lookup h x hx.2]
  exact ha x hx.1

def Stuck {α} : Res α → Prop
  | .fail (.stuck _) _ => True
  | _ => False

@[simp] theorem Stuck_ok {α} (a : α) (w : World) : Stuck (Res.ok a w) = False := rfl
@[simp] theorem Stuck_stuck {α} (s : String) (w : World) : Stuck (Res.fail (α := α) (.stuck s) w) = True := rfl
theorem Stuck_fail_iff {α β} (f : Fail) (w w' : World) :
    Stuck (Res.fail (α := α) f w) ↔ Stuck (Res.fail (α := β) f w') := by
  cases f <;> simp [Stuck]

end Goml.Anf
