import GomlVerif.Lemmas.GrammarStep
/-! Termination of the grammar model: the call budget `budget len` never runs out.

Potential `mu s = (len − pos)·(FUEL+1) + fuel` (0 at the end). Every look with fuel left lowers it, every `advance`
inside the input lowers it, nothing raises it. In a *dead* state (`fuel = 0` or at the end) every look answers `eof`.
An abstract interpreter `abs` over `Stmt` tracks, relative to the state a function was entered in, facts of the form
"`mu` dropped, or …": `pk` (dead), `ne` (not at the end), `nr` (`ret = false`), `cv` (`cur = eof`), `pr` (`mu` dropped).
A call made before `mu` dropped must go to a function of lower rank; a function entered dead and not at the end has a
summary (`summ`). The checks are decided per function; soundness is one induction over `Stmt`. -/
namespace Goml.Grammar
open Goml.Gen.Gram

-- `257` is `FUEL + 1` (`FUEL = Gen.parserFuel = 256`): `bump` refills the fuel to `FUEL`, which must cost less than a token
def mu (s : PS) : Nat := if s.toks.length ≤ s.pos then 0 else (s.toks.length - s.pos) * 257 + s.fuel

def Dead (s : PS) : Prop := s.fuel = 0 ∨ s.isEof = true

theorem isEof_iff (s : PS) : s.isEof = true ↔ s.toks.length ≤ s.pos := by simp [PS.isEof]
theorem isEof_false_iff (s : PS) : s.isEof = false ↔ s.pos < s.toks.length := by simp [PS.isEof]


theorem look_snd (s : PS) (n : Nat) : (look s n).2 = if s.fuel = 0 then s else { s with fuel := s.fuel - 1 } := by
  unfold look; split <;> rfl

theorem look_isEof (s : PS) (n : Nat) : (look s n).2.isEof = s.isEof := by rw [look_snd]; split <;> rfl
theorem look_ret (s : PS) (n : Nat) : (look s n).2.ret = s.ret := by rw [look_snd]; split <;> rfl
theorem look_cur (s : PS) (n : Nat) : (look s n).2.cur = s.cur := by rw [look_snd]; split <;> rfl
theorem look_oof (s : PS) (n : Nat) : (look s n).2.oof = s.oof := by rw [look_snd]; split <;> rfl

theorem mu_look_le (s : PS) (n : Nat) : mu (look s n).2 ≤ mu s := by
  rw [look_snd]; split
  · exact Nat.le_refl _
  · unfold mu
    by_cases h : s.toks.length ≤ s.pos
    · simp [h]
    · simp only [h, if_false]; omega
theorem mu_look_le_of {s s2 : PS} {n c : Nat} (h : look s n = (c, s2)) : mu s2 ≤ mu s := by
  have := mu_look_le s n; rwa [h] at this

theorem look_dead (s : PS) (n : Nat) (h : Dead s) : (look s n).1 = T_Eof ∧ Dead (look s n).2 := by
  by_cases hf : s.fuel = 0
  · unfold look; rw [if_pos hf]; exact ⟨rfl, Or.inl hf⟩
  · rcases h with h | h
    · exact absurd h hf
    · have hle : s.toks.length ≤ s.pos := (isEof_iff s).1 h
      refine ⟨?_, Or.inr (by rw [look_isEof]; exact h)⟩
      unfold look; simp only [hf, if_false, List.getD_eq_getElem?_getD]
      rw [List.getElem?_eq_none (Nat.le_trans hle (Nat.le_add_right _ _))]; rfl

theorem look_live (s : PS) (n : Nat) (h : ¬ Dead s) : mu (look s n).2 < mu s := by
  have h1 : s.fuel ≠ 0 := fun h' => h (Or.inl h')
  have h2 : ¬ s.toks.length ≤ s.pos := fun h' => h (Or.inr ((isEof_iff s).2 h'))
  rw [look_snd, if_neg h1]
  unfold mu
  simp only [h2, if_false]; omega

theorem look_ne_eof (s : PS) (n : Nat) (h : (look s n).1 ≠ T_Eof) : mu (look s n).2 < mu s := by
  by_cases hd : Dead s
  · exact absurd (look_dead s n hd).1 h
  · exact look_live s n hd

theorem mu_bump_le (s : PS) : mu (bump s) ≤ mu s := by
  unfold mu bump
  by_cases h : s.toks.length ≤ s.pos
  · have : ¬ s.pos < s.toks.length := by omega
    simp [h, this]
  · have h' : s.pos < s.toks.length := by omega
    simp only [h, h', if_true, if_false, FUEL, Gen.parserFuel]
    split <;> omega

theorem mu_bump_lt (s : PS) (h : s.isEof = false) : mu (bump s) < mu s := by
  have h' : s.pos < s.toks.length := (isEof_false_iff s).1 h
  have h2 : ¬ s.toks.length ≤ s.pos := by omega
  unfold mu bump
  simp only [h2, h', if_true, if_false, FUEL, Gen.parserFuel]
  split <;> omega

theorem mu_emit (s : PS) (i : Item) : mu (emit s i) = mu s := rfl

theorem dead_of_emit (s : PS) (i : Item) : Dead (emit s i) ↔ Dead s := Iff.rfl

theorem emit_isEof (s : PS) (i : Item) : (emit s i).isEof = s.isEof := rfl

theorem mu_doAdvance_le (s : PS) : mu (doAdvance s) ≤ mu s := mu_bump_le s
theorem mu_doAdvErr_le (s : PS) (m : String) : mu (doAdvErr s m) ≤ mu s := mu_bump_le s

/-- all `expect` does comes after its first look -/
theorem mu_expectK_le_look (s : PS) (k : Nat) : mu (expectK s k) ≤ mu (look s 0).2 :=
  expectK_cases (mu · ≤ mu (look s 0).2) s k (fun _ => mu_doAdvance_le _)
    (fun _ => Nat.le_trans (Nat.le_of_eq (mu_emit _ _)) (mu_look_le _ 0))
    (fun _ _ => Nat.le_trans (mu_doAdvErr_le _ _) (mu_look_le _ 0))

theorem mu_expectK_le (s : PS) (k : Nat) : mu (expectK s k) ≤ mu s :=
  Nat.le_trans (mu_expectK_le_look s k) (mu_look_le s 0)

theorem mu_eat_le_look (callF : Fn → PS → PS) (s : PS) (k : Nat) : mu (execS callF (.eat k) s) ≤ mu (look s 0).2 := by
  simp only [execS]; split
  · exact mu_doAdvance_le (look s 0).2
  · exact Nat.le_refl _

/-- By the induction principle of `execS`; its rows are listed at `execS_inv` (`Lemmas/GrammarStep.lean`). -/
theorem execS_mu_le (callF : Fn → PS → PS) (hm : ∀ g s, mu (callF g s) ≤ mu s) :
    ∀ (st : Stmt) (s : PS), mu (execS callF st s) ≤ mu s := by
  intro st s
  induction st, s using execS.induct_unfolding callF
  case case2 iha ihb => exact Nat.le_trans ihb iha
  case case3 s => exact mu_doAdvance_le s
  case case5 s | case6 s => exact mu_doAdvErr_le s _
  case case7 k s => exact mu_expectK_le s k
  -- `eat`, hit
  case case8 s2 h _ => exact Nat.le_trans (mu_doAdvance_le s2) (mu_look_le_of h)
  -- `ifAt`, `ifAtAny`
  case case10 h ih | case11 h _ ih | case12 h _ ih | case13 h _ ih => exact Nat.le_trans ih (mu_look_le_of h)
  -- `eat` missing, `peek`, `nth`, `nthIdx`
  case case9 h _ | case16 h | case17 h | case18 h => exact (mu_look_le_of h :)
  case case35 f s _ => exact hm f s
  -- `ifEof`, `ifCur`, `ifRet`, `ifIdxZero`, `node`, `nodeReg`, `wrap`
  case case14 ih | case15 ih | case19 ih | case20 ih | case21 ih | case22 ih | case27 ih | case28 ih
    | case29 ih | case30 ih | case33 ih => exact ih
  -- `err` and the statements that only set registers keep `toks`, `pos`, `fuel`
  all_goals exact Nat.le_refl _

theorem run_mu_le : ∀ (n : Nat) (f : Fn) (s : PS), mu (run n f s) ≤ mu s := by
  intro n
  induction n with
  | zero => intro f s; exact Nat.le_refl _
  | succ n ih => intro f s; exact execS_mu_le (run n) ih (body f) _


structure A where
  pk : Bool   -- `mu` dropped, or the state is dead
  ne : Bool   -- …, or not at the end
  pr : Bool   -- `mu` dropped
  nr : Bool   -- …, or `ret = false`
  cv : Bool   -- …, or `cur = eof`
  ok : Bool   -- every call so far was allowed
deriving DecidableEq, Repr

def A.top (a : A) : A := ⟨true, true, true, true, true, a.ok⟩
def A.meet (a b : A) : A := ⟨a.pk && b.pk, a.ne && b.ne, a.pr && b.pr, a.nr && b.nr, a.cv && b.cv, a.ok && b.ok⟩
def A.bad (a : A) : A := { a with ok := false }
def A.looked (a : A) : A := { a with pk := true }
def A.advd (a : A) : A := if a.ne then a.top else { a with pk := false, ne := false }
def A.le (b a : A) : Bool := (!b.pk || a.pk) && (!b.ne || a.ne) && (!b.pr || a.pr) && (!b.nr || a.nr) && (!b.cv || a.cv)

structure Cfg where
  rk : Fn → Nat
  summ : Fn → A
  /-- the universe of functions the check covers -/
  inU : Fn → Bool

def abs (c : Cfg) (r : Nat) : Stmt → A → A
  | .skip, a => a
  | .seq x y, a => abs c r y (abs c r x a)
  | .adv, a => a.advd
  | .advErr _, a => a.advd
  | .advErrDbg _, a => a.advd
  | .err _, a => a
  | .expect k, a => if k = T_Eof then a.bad else a.looked
  | .eat k, a => if k = T_Eof then a.bad else { a with pk := true, nr := true }
  | .ifAt k t e, a => if k = T_Eof then a.bad else (abs c r t a.top).meet (abs c r e a.looked)
  | .ifAtAny ks t e, a => if ks.contains T_Eof then a.bad else (abs c r t a.top).meet (abs c r e a.looked)
  | .ifEof t e, a => (abs c r t (if a.ne then a.top else a)).meet (abs c r e { a with ne := true })
  | .peek, a => { a with pk := true, cv := true }
  | .nth _, a => { a with pk := true, cv := true }
  | .nthIdx, a => { a with pk := true, cv := true }
  | .ifCur ks t e, a => (abs c r t (if a.cv && !ks.contains T_Eof then a.top else a)).meet (abs c r e a)
  | .ifRet t e, a => (abs c r t (if a.nr then a.top else a)).meet (abs c r e a)
  | .setRet b, a => if a.pr then a else { a with nr := !b }
  | .setIdx _, a => a
  | .incIdx, a => a
  | .decIdx, a => a
  | .ifIdxZero t e, a => (abs c r t a).meet (abs c r e a)
  | .node _ b, a => abs c r b a
  | .nodeReg b, a => abs c r b a
  | .setKind _, a => a
  | .markLast, a => a
  | .wrap _ b, a => abs c r b a
  | .call g, a =>
      let a' : A := if a.pr then a.top else if a.pk && a.ne then c.summ g else ⟨false, false, false, false, false, true⟩
      { a' with ok := a.ok && (c.inU g && (a.pr || decide (c.rk g < r))) }

def Facts (a : A) (s : PS) : Prop :=
  (a.pk = true → Dead s) ∧ (a.ne = true → s.isEof = false) ∧ (a.nr = true → s.ret = false) ∧ (a.cv = true → s.cur = T_Eof)

theorem Facts.dead {a : A} {s : PS} (h : Facts a s) : a.pk = true → Dead s := h.1
theorem Facts.notEnd {a : A} {s : PS} (h : Facts a s) : a.ne = true → s.isEof = false := h.2.1
theorem Facts.noRet {a : A} {s : PS} (h : Facts a s) : a.nr = true → s.ret = false := h.2.2.1
theorem Facts.curEof {a : A} {s : PS} (h : Facts a s) : a.cv = true → s.cur = T_Eof := h.2.2.2
theorem Facts.bot (p o : Bool) (s : PS) : Facts ⟨false, false, p, false, false, o⟩ s := ⟨nofun, nofun, nofun, nofun⟩

/-- relative to the state `s0` the function was entered in: `mu` has not risen, and it has dropped or the facts `a` hold -/
def G (a : A) (s0 s : PS) : Prop := mu s ≤ mu s0 ∧ (mu s < mu s0 ∨ (a.pr = false ∧ Facts a s))

theorem G_of_lt (a : A) {s0 s : PS} (h : mu s < mu s0) : G a s0 s := ⟨Nat.le_of_lt h, Or.inl h⟩

theorem G_step {a a' : A} {s0 s s' : PS} (hG : G a s0 s) (hle : mu s' ≤ mu s)
    (h : mu s ≤ mu s0 → a.pr = false → Facts a s → G a' s0 s') : G a' s0 s' := by
  rcases hG.2 with hl | ⟨hp, hf⟩
  · exact G_of_lt _ (Nat.lt_of_le_of_lt hle hl)
  · exact h hG.1 hp hf

/-- the refinement `abs` makes in the branch of a test that a known fact decides the other way -/
theorem G_refine {a : A} {s0 s : PS} {b : Bool} (hG : G a s0 s) (hb : a.pr = false → Facts a s → b = false) :
    G (if b = true then a.top else a) s0 s := by
  rcases hG.2 with hl | ⟨hp, hf⟩
  · exact G_of_lt _ hl
  · rw [hb hp hf]; exact hG

theorem imp_of {x y : Bool} (h : (!x || y) = true) : x = true → y = true := by
  rintro rfl; simpa using h

theorem G_weaken {a b : A} {s0 s : PS} (h : G a s0 s) (hle : A.le b a = true) : G b s0 s := by
  refine ⟨h.1, ?_⟩
  rcases h.2 with h | ⟨hp, hf⟩
  · exact Or.inl h
  · simp only [A.le, Bool.and_eq_true] at hle
    obtain ⟨⟨⟨⟨l1, l2⟩, l3⟩, l4⟩, l5⟩ := hle
    refine Or.inr ⟨?_, fun hb => hf.dead (imp_of l1 hb), fun hb => hf.notEnd (imp_of l2 hb),
      fun hb => hf.noRet (imp_of l4 hb), fun hb => hf.curEof (imp_of l5 hb)⟩
    cases hb : b.pr
    · rfl
    · rw [imp_of l3 hb] at hp; cases hp

theorem imp_and_l (x y : Bool) : (!(x && y) || x) = true := by cases x <;> cases y <;> rfl
theorem imp_and_r (x y : Bool) : (!(x && y) || y) = true := by cases x <;> cases y <;> rfl

theorem le_meet_left (a b : A) : A.le (a.meet b) a = true := by simp only [A.le, A.meet, imp_and_l, Bool.and_self]
theorem le_meet_right (a b : A) : A.le (a.meet b) b = true := by simp only [A.le, A.meet, imp_and_r, Bool.and_self]

/-- what one branch of a conditional establishes holds of the meet of both -/
theorem G_meet_left {a b : A} {s0 s : PS} {p : Prop} (h : G a s0 s ∧ p) : G (a.meet b) s0 s ∧ p :=
  ⟨G_weaken h.1 (le_meet_left a b), h.2⟩

theorem G_meet_right {a b : A} {s0 s : PS} {p : Prop} (h : G b s0 s ∧ p) : G (a.meet b) s0 s ∧ p :=
  ⟨G_weaken h.1 (le_meet_right a b), h.2⟩

theorem meet_ok {a b : A} (h : (a.meet b).ok = true) : a.ok = true ∧ b.ok = true := by
  simpa [A.meet] using h

theorem abs_ok_mono (c : Cfg) (r : Nat) : ∀ (st : Stmt) (a : A), (abs c r st a).ok = true → a.ok = true := by
  intro st
  induction st with
  | seq x y ihx ihy => intro a h; exact ihx _ (ihy _ h)
  | expect k => intro a h; simp only [abs] at h; split at h <;> simpa [A.bad, A.looked] using h
  | eat k => intro a h; simp only [abs] at h; split at h <;> simpa [A.bad] using h
  | ifAt _ t e iht ihe | ifAtAny _ t e iht ihe =>
    intro a h; simp only [abs] at h; split at h
    · simp [A.bad] at h
    · have := iht a.top (meet_ok h).1; simpa [A.top] using this
  | ifEof t e iht ihe => intro a h; have := ihe _ (meet_ok h).2; simpa using this
  | ifCur _ t e iht ihe | ifRet t e iht ihe | ifIdxZero t e iht ihe => intro a h; exact ihe _ (meet_ok h).2
  | node _ b ih | nodeReg b ih | wrap _ b ih => intro a h; exact ih _ h
  | call g => intro a h; simp only [abs, Bool.and_eq_true] at h; exact h.1
  | adv | advErr _ | advErrDbg _ => intro a h; simp only [abs, A.advd] at h; split at h <;> simpa [A.top] using h
  | setRet b => intro a h; simp only [abs] at h; split at h <;> simpa using h
  | _ => intro a h; simpa [abs] using h


/-- `expect` touches neither the budget flag nor the registers `ret` and `cur` -/
theorem expectK_regs (s : PS) (k : Nat) :
    (expectK s k).oof = s.oof ∧ (expectK s k).ret = s.ret ∧ (expectK s k).cur = s.cur := by
  refine expectK_cases (fun s' => s'.oof = s.oof ∧ s'.ret = s.ret ∧ s'.cur = s.cur) s k ?_ ?_ ?_ <;> intros <;>
    simp only [doAdvance, doAdvErr, emit, bump, look_oof, look_ret, look_cur, and_self]

theorem expectK_live (s : PS) (k : Nat) (h : ¬ Dead s) : mu (expectK s k) < mu s :=
  Nat.lt_of_le_of_lt (mu_expectK_le_look s k) (look_live s 0 h)

/-- in a dead state both looks of `expect` answer `eof`: nothing is consumed -/
theorem expectK_dead (s : PS) (k : Nat) (h : Dead s) (hk : k ≠ T_Eof) :
    Dead (expectK s k) ∧ (expectK s k).isEof = s.isEof :=
  have h1 := look_dead s 0 h
  have h2 := look_dead _ 0 h1.2
  expectK_cases (fun s' => Dead s' ∧ s'.isEof = s.isEof) s k (fun e => absurd (e.symm.trans h1.1) hk)
    (fun _ => ⟨(dead_of_emit _ _).2 h2.2, (emit_isEof _ _).trans ((look_isEof _ 0).trans (look_isEof s 0))⟩)
    (fun e _ => absurd h2.1 e)

section sound
variable (c : Cfg) (r : Nat) (s0 : PS) (callF : Fn → PS → PS)

/-- what the soundness proof needs from calls -/
def HC : Prop := ∀ g s, c.inU g = true → s.oof = false → mu s ≤ mu s0 → (mu s < mu s0 ∨ c.rk g < r) →
  (callF g s).oof = false ∧ (Dead s → s.isEof = false → G (c.summ g) s (callF g s))

/-- `advance` and `advance_with_error` -/
theorem sound_bump (a : A) (s : PS) (i : Item) (hle : mu s ≤ mu s0) (hp : a.pr = false) (hf : Facts a s) :
    G a.advd s0 (emit (bump s) i) := by
  unfold A.advd
  split
  · rename_i hne
    exact G_of_lt _ (Nat.lt_of_lt_of_le (mu_bump_lt s (hf.notEnd hne)) hle)
  · exact ⟨Nat.le_trans (mu_bump_le s) hle, Or.inr ⟨hp, Bool.noConfusion, Bool.noConfusion, hf.noRet, hf.curEof⟩⟩

/-- a look whose answer is only stored or compared -/
theorem sound_look (a : A) (s : PS) (n : Nat) (hle : mu s ≤ mu s0) (hf : Facts a s) :
    mu (look s n).2 < mu s0 ∨ ((look s n).1 = T_Eof ∧ mu (look s n).2 ≤ mu s0 ∧ Facts a.looked (look s n).2) := by
  by_cases hd : Dead s
  · have h := look_dead s n hd
    refine Or.inr ⟨h.1, Nat.le_trans (mu_look_le s n) hle, fun _ => h.2, ?_, ?_, ?_⟩
    · intro hh; rw [look_isEof]; exact hf.notEnd hh
    · intro hh; rw [look_ret]; exact hf.noRet hh
    · intro hh; rw [look_cur]; exact hf.curEof hh
  · exact Or.inl (Nat.lt_of_lt_of_le (look_live s n hd) hle)

/-- `cur = p.nth(n)` -/
theorem sound_nth (a : A) (s : PS) (n : Nat) (hle : mu s ≤ mu s0) (hp : a.pr = false) (hf : Facts a s) :
    G { a with pk := true, cv := true } s0 { (look s n).2 with cur := (look s n).1 } := by
  rcases sound_look s0 a s n hle hf with hl | ⟨he, hle', hf'⟩
  · exact G_of_lt _ hl
  · exact ⟨hle', Or.inr ⟨hp, fun _ => hf'.dead rfl, hf'.notEnd, hf'.noRet, fun _ => he⟩⟩

/-- the claim of the soundness induction for one statement.  Once `mu` has dropped nothing is known of the state, and
`abs` allows every call. -/
def Sound (st : Stmt) : Prop :=
  ∀ (a : A) (s : PS), G a s0 s → s.oof = false → (abs c r st a).ok = true →
    G (abs c r st a) s0 (execS callF st s) ∧ (execS callF st s).oof = false

/-- Every conditional: `abs` runs the branches from `a1`, `a2` and meets the results, so it is enough that `a1` describes
the state when the test holds and `a2` when it fails. -/
theorem sound_test {t e : Stmt} (iht : Sound c r s0 callF t) (ihe : Sound c r s0 callF e) {a1 a2 : A} {s : PS}
    (p : Prop) [Decidable p] (ho : s.oof = false) (h1 : p → G a1 s0 s) (h2 : ¬ p → G a2 s0 s)
    (hk : ((abs c r t a1).meet (abs c r e a2)).ok = true) :
    G ((abs c r t a1).meet (abs c r e a2)) s0 (if p then execS callF t s else execS callF e s) ∧
      (if p then execS callF t s else execS callF e s).oof = false := by
  split
  · exact G_meet_left (iht a1 s (h1 ‹_›) ho (meet_ok hk).1)
  · exact G_meet_right (ihe a2 s (h2 ‹_›) ho (meet_ok hk).2)

/-- `if p.at(..) {t} else {e}` with a guard `p` that rejects `eof`: a look that made no progress answered `eof`, so `e`
runs, from the facts known after a look; otherwise `mu` dropped and either branch may run -/
theorem sound_guard (t e : Stmt) (iht : Sound c r s0 callF t) (ihe : Sound c r s0 callF e)
    (a : A) (s : PS) (p : Prop) [Decidable p] (hpe : (look s 0).1 = T_Eof → ¬ p)
    (hG : G a s0 s) (ho : s.oof = false) (hk : ((abs c r t a.top).meet (abs c r e a.looked)).ok = true) :
    G ((abs c r t a.top).meet (abs c r e a.looked)) s0
        (if p then execS callF t (look s 0).2 else execS callF e (look s 0).2) ∧
      (if p then execS callF t (look s 0).2 else execS callF e (look s 0).2).oof = false := by
  have key : mu (look s 0).2 < mu s0 ∨ ((look s 0).1 = T_Eof ∧ G a.looked s0 (look s 0).2) := by
    rcases hG.2 with hl | ⟨hp, hf⟩
    · exact .inl (Nat.lt_of_le_of_lt (mu_look_le s 0) hl)
    · rcases sound_look s0 a s 0 hG.1 hf with hl | ⟨he, hle', hf'⟩
      · exact .inl hl
      · exact .inr ⟨he, hle', .inr ⟨hp, hf'⟩⟩
  refine sound_test c r s0 callF iht ihe p ((look_oof s 0).trans ho) (fun hp => ?_) (fun _ => ?_) hk
  · exact key.elim (G_of_lt _) fun h => absurd hp (hpe h.1)
  · exact key.elim (G_of_lt _) (·.2)

theorem sound (hm : ∀ g s, mu (callF g s) ≤ mu s) (hc : HC c r s0 callF) : ∀ (st : Stmt), Sound c r s0 callF st := by
  intro st
  induction st with
  | seq x y ihx ihy =>
    intro a s hG ho hk
    have h1 := ihx a s hG ho (abs_ok_mono c r y _ hk)
    exact ihy _ _ h1.1 h1.2 hk
  | adv | advErr _ | advErrDbg _ =>
    intro a s hG ho _; exact ⟨G_step hG (mu_bump_le s) fun hle hp hf => sound_bump s0 a s _ hle hp hf, ho⟩
  | expect k =>
    intro a s hG ho hk
    simp only [abs] at hk ⊢
    split at hk
    · simp [A.bad] at hk
    · rename_i hne
      have hr := expectK_regs s k
      rw [if_neg hne, execS]
      refine ⟨G_step hG (mu_expectK_le s k) fun hle hp hf => ?_, hr.1.trans ho⟩
      by_cases hd : Dead s
      · have h := expectK_dead s k hd hne
        exact ⟨Nat.le_trans (mu_expectK_le s k) hle, Or.inr ⟨hp, fun _ => h.1, fun hh => h.2.trans (hf.notEnd hh),
          fun hh => hr.2.1.trans (hf.noRet hh), fun hh => hr.2.2.trans (hf.curEof hh)⟩⟩
      · exact G_of_lt _ (Nat.lt_of_lt_of_le (expectK_live s k hd) hle)
  | eat k =>
    intro a s hG ho hk
    simp only [abs] at hk ⊢
    split at hk
    · simp [A.bad] at hk
    · rename_i hne
      rw [if_neg hne]
      have ho' : (look s 0).2.oof = false := (look_oof s 0).trans ho
      refine ⟨G_step hG (Nat.le_trans (mu_eat_le_look callF s k) (mu_look_le s 0)) fun hle hp hf => ?_, ?_⟩
      · rcases sound_look s0 a s 0 hle hf with hl | ⟨he, hle', hf'⟩
        · exact G_of_lt _ (Nat.lt_of_le_of_lt (mu_eat_le_look callF s k) hl)
        · simp only [execS]
          rw [if_neg (by rw [he]; exact fun e => hne e.symm)]
          exact ⟨hle', Or.inr ⟨hp, fun _ => hf'.dead rfl, hf'.notEnd, fun _ => rfl, hf'.curEof⟩⟩
      · simp only [execS]; split <;> exact ho'
  | ifAt k t e iht ihe =>
    intro a s hG ho hk
    simp only [abs] at hk ⊢
    split at hk
    · simp [A.bad] at hk
    · rename_i hne
      rw [if_neg hne]
      exact sound_guard c r s0 callF t e iht ihe a s _ (fun he e' => hne (e'.symm.trans he)) hG ho hk
  | ifAtAny ks t e iht ihe =>
    intro a s hG ho hk
    simp only [abs] at hk ⊢
    split at hk
    · simp [A.bad] at hk
    · rename_i hne
      rw [if_neg hne]
      exact sound_guard c r s0 callF t e iht ihe a s _ (fun he e' => hne (he ▸ e')) hG ho hk
  | ifEof t e iht ihe =>
    intro a s hG ho hk
    refine sound_test c r s0 callF iht ihe (s.isEof = true) ho (fun he => G_refine hG fun _ hf => ?_) (fun he => ?_) hk
    · cases h : a.ne; rfl; have := hf.notEnd h; rw [he] at this; cases this
    · exact ⟨hG.1, hG.2.imp id fun ⟨hp, hf⟩ => ⟨hp, hf.dead, fun _ => Bool.eq_false_iff.2 he, hf.noRet, hf.curEof⟩⟩
  | peek | nth _ | nthIdx =>
    intro a s hG ho _
    exact ⟨G_step hG (mu_look_le s _) fun hle hp hf => sound_nth s0 a s _ hle hp hf, (look_oof s _).trans ho⟩
  | ifCur ks t e iht ihe =>
    intro a s hG ho hk
    refine sound_test c r s0 callF iht ihe (ks.contains s.cur = true) ho (fun hin => G_refine hG fun _ hf => ?_)
      (fun _ => hG) hk
    cases hcv : a.cv
    · rfl
    · have := hf.curEof hcv; rw [this] at hin; rw [hin]; rfl
  | ifRet t e iht ihe =>
    intro a s hG ho hk
    refine sound_test c r s0 callF iht ihe (s.ret = true) ho (fun hr => G_refine hG fun _ hf => ?_) (fun _ => hG) hk
    cases h : a.nr; rfl; have := hf.noRet h; rw [hr] at this; cases this
  | setRet b =>
    intro a s hG ho _
    refine ⟨G_step hG (Nat.le_refl _) fun hle hp hf => ?_, ho⟩
    simp only [abs, hp, Bool.false_eq_true, if_false]
    refine ⟨hle, Or.inr ⟨rfl, hf.dead, hf.notEnd, ?_, hf.curEof⟩⟩
    intro h; cases b
    · rfl
    · simp at h
  | ifIdxZero t e iht ihe =>
    exact fun _ s hG ho hk => sound_test c r s0 callF iht ihe (s.idx = 0) ho (fun _ => hG) (fun _ => hG) hk
  | node _ b ih | nodeReg b ih | wrap _ b ih => intro a s hG ho hk; exact ih a { s with out := [] } hG ho hk
  | call g =>
    intro a s hG ho hk
    simp only [abs, Bool.and_eq_true, Bool.or_eq_true, decide_eq_true_eq] at hk ⊢
    simp only [execS, ho, Bool.false_eq_true, if_false]
    have hcase : mu s < mu s0 ∨ c.rk g < r := by
      rcases hG.2 with hl | ⟨hp, _⟩
      · exact .inl hl
      · rcases hk.2.2 with h | h
        · rw [hp] at h; cases h
        · exact .inr h
    have h := hc g s hk.2.1 ho hG.1 hcase
    refine ⟨G_step hG (hm g s) fun hle hp hf => ?_, h.1⟩
    have hle' : mu (callF g s) ≤ mu s0 := Nat.le_trans (hm g s) hle
    simp only [hp, Bool.false_eq_true, if_false]
    by_cases hpn : a.pk = true ∧ a.ne = true
    · simp only [hpn, and_self, if_true]
      have hg := h.2 (hf.dead hpn.1) (hf.notEnd hpn.2)
      exact ⟨hle', hg.2.imp (fun hl => Nat.lt_of_lt_of_le hl hle) id⟩
    · simp only [hpn, if_false]
      exact ⟨hle', Or.inr ⟨rfl, Facts.bot _ _ _⟩⟩
  -- `skip`, `err` and the statements that set a register no fact speaks of: state and facts are kept
  | _ => intro a s hG ho _; exact ⟨hG, ho⟩

end sound

end Goml.Grammar
