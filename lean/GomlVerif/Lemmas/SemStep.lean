import GomlVerif.Lemmas.LiftSemUnfold
/-!
The body of `Sem.eval` once, as a functional of the interpreters it calls and of the way results are sequenced, and its
parametricity: a relation between two ways of reading results that `pure` and `bind` respect is respected by the body.
The model is the reading at `Res`.
-/
namespace Goml.Sem
open Goml

/-- not fuel exhaustion -/
def NF {α} : Res α → Prop
  | .fail .fuel _ => False
  | _ => True

@[simp] theorem NF_ok {α} (a : α) (w : World) : NF (Res.ok a w) = True := rfl
@[simp] theorem NF_fuel {α} (w : World) : NF (Res.fail (α := α) .fuel w) = False := rfl
@[simp] theorem NF_panic {α} (k : String) (w : World) : NF (Res.fail (α := α) (.panic k) w) = True := rfl
@[simp] theorem NF_stuck {α} (k : String) (w : World) : NF (Res.fail (α := α) (.stuck k) w) = True := rfl

theorem NF_fail {α} (f : Fail) (w : World) : NF (Res.fail (α := α) f w) = (f ≠ .fuel) := by
  cases f <;> simp

def exceptRes (x : Except Fail Val) (w : World) : Res Val :=
  match x with
  | .ok v => .ok v w
  | .error f => .fail f w

def mkCtor (c : Ctor) (vs : List Val) : Val :=
  match c with
  | .enum ty _ idx => .enumV ty idx vs
  | .struct ty => .structV ty vs

def cgetRes (idx : Nat) (v : Val) (w : World) : Res Val :=
  match v with
  | .enumV _ _ args =>
    match args[idx]? with
    | some v => .ok v w
    | none => .fail (.stuck "constructor field out of range") w
  | .structV _ fs =>
    match fs[idx]? with
    | some v => .ok v w
    | none => .fail (.stuck "struct field out of range") w
  | _ => .fail (.stuck "field access on a non-constructor value") w

def projRes (idx : Nat) (v : Val) (w : World) : Res Val :=
  match v with
  | .tuple vs =>
    match vs[idx]? with
    | some v => .ok v w
    | none => .fail (.stuck "tuple index out of range") w
  | _ => .fail (.stuck "projection from a non-tuple") w

theorem NF_exceptRes_unop (op : UnOp) (v : Val) (w : World) : NF (exceptRes (unop op v) w) := by
  unfold unop; split <;> simp [exceptRes]

theorem NF_exceptRes_binop (op : BinOp) (a b : Val) (w : World) : NF (exceptRes (binop op a b) w) := by
  unfold binop; split <;> (try split) <;> simp [exceptRes]

theorem NF_cgetRes (i : Nat) (v : Val) (w : World) : NF (cgetRes i v w) := by
  unfold cgetRes; split <;> (try split) <;> simp

theorem NF_projRes (i : Nat) (v : Val) (w : World) : NF (projRes i v w) := by
  unfold projRes; split <;> (try split) <;> simp

/-- `m α` is a way of reading a computation that returns an `α`: its result (`Res α`), its result for every amount of
fuel (`Nat → Res α`), the set of results it may have (`Res α → Prop`). -/
structure Seq (m : Type → Type) where
  pure : {α : Type} → Res α → m α
  bind : {α β : Type} → m α → (α → World → m β) → m β

structure Interp (m : Type → Type) where
  expr : Env → World → Expr → m Val
  list : Env → World → List Expr → m (List Val)
  arms : Env → World → Val → List Arm → Option Expr → m Val
  app : World → Val → List Val → m Val

section
variable {m : Type → Type} (S : Seq m) (impls : List (String × String × String × String)) (I : Interp m)

def dispatch (tr mth key : String) (v : Val) (vs : List Val) (w : World) : m Val :=
  match impls.find? (fun i => i.1 == tr && i.2.1 == key && i.2.2.1 == mth) with
  | some i => I.app w (.fn i.2.2.2) (v :: vs)
  | none => S.pure (.fail (.stuck ("no impl of " ++ tr ++ " for " ++ key)) w)

/-- row for row the text of `Sem.eval` in the form of `Lemmas/LiftSemUnfold.lean` -/
def stepE (ρ : Env) (w : World) : Expr → m Val
  | .var x _ => S.pure (.ok ((lookupEnv ρ x).getD (.fn x)) w)
  | .prim p => S.pure (.ok (primVal p) w)
  | .tag i t => S.pure (.ok (.enumV (tagTyName t) i []) w)
  | .constr c _ args => S.bind (I.list ρ w args) fun vs w => S.pure (.ok (mkCtor c vs) w)
  | .tuple _ items => S.bind (I.list ρ w items) fun vs w => S.pure (.ok (.tuple vs) w)
  | .array _ items => S.bind (I.list ρ w items) fun vs w => S.pure (.ok (.array vs) w)
  | .closure _ ps body => S.pure (.ok (.closure (ps.map (·.1)) body ρ) w)
  | .letE x v b => S.bind (I.expr ρ w v) fun vv w => I.expr ((x, vv) :: ρ) w b
  | .matchE _ s arms d => S.bind (I.expr ρ w s) fun v w => I.arms ρ w v arms d
  | .ite c t e => S.bind (I.expr ρ w c) fun v w =>
      match v with
      | .bool true => I.expr ρ w t
      | .bool false => I.expr ρ w e
      | _ => S.pure (.fail (.stuck "if on a non-boolean") w)
  | .while c b => S.bind (I.expr ρ w c) fun v w =>
      match v with
      | .bool true => S.bind (I.expr ρ w b) fun _ w => I.expr ρ w (.while c b)
      | .bool false => S.pure (.ok .unit w)
      | _ => S.pure (.fail (.stuck "while on a non-boolean") w)
  | .go e => S.bind (I.expr ρ w e) fun v w =>
      if w.eager then S.bind (I.app w v []) fun _ w => S.pure (.ok .unit w)
      else S.pure (.ok .unit { w with spawned := w.spawned ++ [v] })
  | .cget _ i _ e => S.bind (I.expr ρ w e) fun v w => S.pure (cgetRes i v w)
  | .proj i _ e => S.bind (I.expr ρ w e) fun v w => S.pure (projRes i v w)
  | .un op _ e => S.bind (I.expr ρ w e) fun v w => S.pure (exceptRes (unop op v) w)
  | .bin op _ l r => S.bind (I.expr ρ w l) fun a w =>
      if scAnd op a then S.pure (.ok (.bool false) w)
      else if scOr op a then S.pure (.ok (.bool true) w)
      else if logicalNonBool op a then S.pure (.fail (.stuck "logical operator on a non-boolean") w)
      else S.bind (I.expr ρ w r) fun b w => S.pure (exceptRes (binop op a b) w)
  | .call _ f args => S.bind (I.expr ρ w f) fun fv w => S.bind (I.list ρ w args) fun vs w => I.app w fv vs
  | .toDyn tr forTy _ e => S.bind (I.expr ρ w e) fun v w => S.pure (.ok (.dyn tr (tyKey forTy) v) w)
  | .dynCall tr mth _ recv args => S.bind (I.expr ρ w recv) fun rv w =>
      match rv with
      | .dyn _ key v => S.bind (I.list ρ w args) fun vs w => dispatch S impls I tr mth key v vs w
      | _ => S.pure (.fail (.stuck "dyn call on a non-dyn value") w)
  | .traitCall tr mth _ recv args => S.bind (I.expr ρ w recv) fun v w =>
      S.bind (I.list ρ w args) fun vs w => dispatch S impls I tr mth (ValTy.valKey v) v vs w

/-- the body of `evalList` -/
def stepL (ρ : Env) (w : World) : List Expr → m (List Val)
  | [] => S.pure (.ok [] w)
  | e :: es => S.bind (I.expr ρ w e) fun v w => S.bind (I.list ρ w es) fun vs w => S.pure (.ok (v :: vs) w)

/-- the body of `evalArms` -/
def stepA (ρ : Env) (w : World) (v : Val) : List Arm → Option Expr → m Val
  | [], some d => I.expr ρ w d
  | [], none => S.pure (.fail (.stuck "no arm selected and no default") w)
  | .mk lhs body :: rest, d => if armMatches lhs v then I.expr ρ w body else I.arms ρ w v rest d

end

def resSeq : Seq Res := ⟨fun r => r, Res.andThen⟩

def runI (n : Nat) (P : Prog) : Interp Res := ⟨eval n P, evalList n P, evalArms n P, apply n P⟩

theorem eval_eq_step (n : Nat) (P : Prog) (ρ : Env) (w : World) (e : Expr) :
    eval (n + 1) P ρ w e = stepE resSeq P.impls (runI n P) ρ w e := by
  cases e with
  | var x t => exact eval_var ..
  | prim p => rfl
  | tag i t => rfl
  | closure t ps b => rfl
  | constr c t args => rw [eval_constr]; cases c <;> rfl
  | tuple t items => exact eval_tuple ..
  | array t items => exact eval_array ..
  | letE x v b => exact eval_letE ..
  | matchE t s arms d => exact eval_matchE ..
  | ite c t e => exact eval_ite ..
  | «while» c b => exact eval_while ..
  | go e => exact eval_go ..
  | cget c i t e => exact eval_cget ..
  | proj i t e => exact eval_proj ..
  | un op t e => exact eval_un ..
  | toDyn tr f t e => exact eval_toDyn ..
  | bin op t l r => exact eval_bin ..
  | call t f args => exact eval_call ..
  | dynCall tr mth t recv args => exact eval_dynCall ..
  | traitCall tr mth t recv args => exact eval_traitCall_at ..

theorem evalList_eq_step (n : Nat) (P : Prog) (ρ : Env) (w : World) (es : List Expr) :
    evalList (n + 1) P ρ w es = stepL resSeq (runI n P) ρ w es := by
  cases es with
  | nil => rfl
  | cons e es => exact evalList_cons_at ..

theorem evalArms_eq_step (n : Nat) (P : Prog) (ρ : Env) (w : World) (v : Val) (arms : List Arm) (d : Option Expr) :
    evalArms (n + 1) P ρ w v arms d = stepA resSeq (runI n P) ρ w v arms d := by
  cases arms with
  | nil => cases d <;> rfl
  | cons a rest => cases a; rfl

/-- `pure` is asked only off fuel exhaustion: the body never finishes with `.fail .fuel`, and `reads` fails of it (`Ev`
converges to no such result). -/
structure SeqRel {m₁ m₂ : Type → Type} (S₁ : Seq m₁) (S₂ : Seq m₂) (T : ∀ {α : Type}, m₁ α → m₂ α → Prop) : Prop where
  pure : ∀ {α} (r : Res α), NF r → T (S₁.pure r) (S₂.pure r)
  bind : ∀ {α β} {x : m₁ α} {y : m₂ α} {k : α → World → m₁ β} {k' : α → World → m₂ β},
    T x y → (∀ a w, T (k a w) (k' a w)) → T (S₁.bind x k) (S₂.bind y k')

structure IRel {m₁ m₂ : Type → Type} (T : ∀ {α : Type}, m₁ α → m₂ α → Prop) (I₁ : Interp m₁) (I₂ : Interp m₂) : Prop where
  expr : ∀ ρ w e, T (I₁.expr ρ w e) (I₂.expr ρ w e)
  list : ∀ ρ w es, T (I₁.list ρ w es) (I₂.list ρ w es)
  arms : ∀ ρ w v arms d, T (I₁.arms ρ w v arms d) (I₂.arms ρ w v arms d)
  app : ∀ w f args, T (I₁.app w f args) (I₂.app w f args)

section
variable {m₁ m₂ : Type → Type} {S₁ : Seq m₁} {S₂ : Seq m₂} {T : ∀ {α : Type}, m₁ α → m₂ α → Prop}
  (hT : SeqRel S₁ S₂ @T) {I₁ : Interp m₁} {I₂ : Interp m₂} (hI : IRel @T I₁ I₂)
  (impls : List (String × String × String × String))
include hT

theorem SeqRel.ok {α} (a : α) (w : World) : T (S₁.pure (.ok a w)) (S₂.pure (.ok a w)) := hT.pure _ trivial

theorem SeqRel.stuck {α} (s : String) (w : World) :
    T (S₁.pure (.fail (α := α) (.stuck s) w)) (S₂.pure (.fail (.stuck s) w)) := hT.pure _ trivial

include hI

theorem dispatch_rel (tr mth key : String) (v : Val) (vs : List Val) (w : World) :
    T (dispatch S₁ impls I₁ tr mth key v vs w) (dispatch S₂ impls I₂ tr mth key v vs w) := by
  unfold dispatch; split
  · exact hI.app ..
  · exact hT.stuck ..

/-- Both sides are the same node on the same values, so each case is the shape of the node.  Instances: one more unit of
fuel (`step_all`), a run for every fuel against the fuel-free relation (`ev_step`), a run against a program whose function
bodies simulate the original ones (`Anf.prog_sim`).  Not the simulations of C08, C14 and the mono link (two different
expressions on related, not equal, values), nor type soundness (`ValTyG.step_expr`: what it asks of a part depends on the
typing of that part, and `IRel` is uniform in the expression). -/
theorem stepE_rel (ρ : Env) (w : World) (e : Expr) : T (stepE S₁ impls I₁ ρ w e) (stepE S₂ impls I₂ ρ w e) := by
  cases e with
  | var x t => exact hT.ok ..
  | prim p => exact hT.ok ..
  | tag i t => exact hT.ok ..
  | closure t ps b => exact hT.ok ..
  | constr c t args => exact hT.bind (hI.list ..) fun _ _ => hT.ok ..
  | tuple t items => exact hT.bind (hI.list ..) fun _ _ => hT.ok ..
  | array t items => exact hT.bind (hI.list ..) fun _ _ => hT.ok ..
  | letE x v b => exact hT.bind (hI.expr ..) fun _ _ => hI.expr ..
  | matchE t s arms d => exact hT.bind (hI.expr ..) fun _ _ => hI.arms ..
  | ite c t e =>
    refine hT.bind (hI.expr ..) fun v w => ?_
    split
    · exact hI.expr ..
    · exact hI.expr ..
    · exact hT.stuck ..
  | «while» c b =>
    refine hT.bind (hI.expr ..) fun v w => ?_
    split
    · exact hT.bind (hI.expr ..) fun _ _ => hI.expr ..
    · exact hT.ok ..
    · exact hT.stuck ..
  | go e =>
    refine hT.bind (hI.expr ..) fun v w => ?_
    split
    · exact hT.bind (hI.app ..) fun _ _ => hT.ok ..
    · exact hT.ok ..
  | cget c i t e => exact hT.bind (hI.expr ..) fun v w => hT.pure _ (NF_cgetRes i v w)
  | proj i t e => exact hT.bind (hI.expr ..) fun v w => hT.pure _ (NF_projRes i v w)
  | un op t e => exact hT.bind (hI.expr ..) fun v w => hT.pure _ (NF_exceptRes_unop op v w)
  | toDyn tr f t e => exact hT.bind (hI.expr ..) fun _ _ => hT.ok ..
  | bin op t l r =>
    refine hT.bind (hI.expr ..) fun a w => ?_
    split
    · exact hT.ok ..
    split
    · exact hT.ok ..
    split
    · exact hT.stuck ..
    exact hT.bind (hI.expr ..) fun b w => hT.pure _ (NF_exceptRes_binop op a b w)
  | call t f args => exact hT.bind (hI.expr ..) fun _ _ => hT.bind (hI.list ..) fun _ _ => hI.app ..
  | dynCall tr mth t recv args =>
    refine hT.bind (hI.expr ..) fun rv w => ?_
    split
    · exact hT.bind (hI.list ..) fun _ _ => dispatch_rel hT hI ..
    · exact hT.stuck ..
  | traitCall tr mth t recv args =>
    exact hT.bind (hI.expr ..) fun _ _ => hT.bind (hI.list ..) fun _ _ => dispatch_rel hT hI ..

theorem stepL_rel (ρ : Env) (w : World) (es : List Expr) : T (stepL S₁ I₁ ρ w es) (stepL S₂ I₂ ρ w es) := by
  cases es with
  | nil => exact hT.ok ..
  | cons e es => exact hT.bind (hI.expr ..) fun _ _ => hT.bind (hI.list ..) fun _ _ => hT.ok ..

theorem stepA_rel (ρ : Env) (w : World) (v : Val) (arms : List Arm) (d : Option Expr) :
    T (stepA S₁ I₁ ρ w v arms d) (stepA S₂ I₂ ρ w v arms d) := by
  cases arms with
  | nil => cases d with
    | some d => exact hI.expr ..
    | none => exact hT.stuck ..
  | cons a rest =>
    cases a
    show T (if _ then _ else _) (if _ then _ else _)
    split
    · exact hI.expr ..
    · exact hI.arms ..

end

end Goml.Sem
