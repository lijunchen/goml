import GomlVerif.Lemmas.MonoPure
import GomlVerif.Lemmas.MonoInv
/-! Termination of the work list under a finite instance universe: `U` is closed under the requests of its members' bodies
and has its keys in a finite list `S`.  What is queued stays in `U`, so the duplicate-free instance table lies in `S`, and
each instance is emitted once: at most `S.length` iterations. -/
namespace Goml.Mono
open Goml

def reqsOf : List Eff → List (String × Subst)
  | [] => []
  | .req n s :: rest => (n, s) :: reqsOf rest
  | .fail _ :: rest => reqsOf rest

/-- the instances that transforming the body of `f` at `σ` asks for, in order -/
def requests (F : List Fn) (f : Fn) (σ : Subst) : List (String × Subst) := reqsOf (monoE F σ f.body).2

section
variable (F : List Fn) (U : String → Subst → Prop) (S : List (String × List (String × Ty)))
variable (hclosed : ∀ f ∈ F, ∀ σ, U f.name σ → ∀ r ∈ requests F f σ, U r.1 r.2)
variable (hfin : ∀ n σ, U n σ → (n, key σ) ∈ S)

/-- everything queued lies in the universe, every instance key in its finite bound -/
structure InU (c : Ctx) : Prop where
  work : ∀ w ∈ c.work, U w.name w.subst
  insts : ∀ i ∈ c.instances, instKey i ∈ S
  named : InstNamed c

include hfin in
theorem ensureInstance_inU {c : Ctx} (n : String) (s : Subst) (hu : U n s) (h : InU U S c) :
    InU U S (ensureInstance c n s).2 := by
  refine ⟨fun w hw => ?_, fun i hi => ?_, ensureInstance_named h.named n s⟩
  · rcases ensureInstance_work hw with hw | rfl
    · exact h.work w hw
    · exact hu
  · rcases ensureInstance_instances hi with hi | rfl
    · exact h.insts i hi
    · exact hfin n s hu

theorem fail_inU {c : Ctx} (m : String) (h : InU U S c) : InU U S (c.fail m) :=
  fail_keeps (fun _ _ h => ⟨h.work, h.insts, h.named⟩) m h

include hfin in
theorem applyEffs_inU {c : Ctx} (es : List Eff) (hu : ∀ r ∈ reqsOf es, U r.1 r.2) (h : InU U S c) :
    InU U S (applyEffs c es) := by
  induction es generalizing c with
  | nil => exact h
  | cons e es ih =>
    simp only [applyEffs, List.foldl_cons]
    cases e with
    | req n s =>
      apply ih (fun r hr => hu r (by simp [reqsOf, hr]))
      exact ensureInstance_inU U S hfin n s (hu (n, s) (by simp [reqsOf])) h
    | fail m =>
      apply ih (fun r hr => hu r (by simpa [reqsOf] using hr))
      exact fail_inU U S m h

include hclosed hfin in
theorem step_inU {c c' : Ctx} (h : InU U S c) (hs : step F c = some c') : InU U S c' := by
  obtain ⟨w, rest, hw, hc'⟩ := step_some hs
  have h0 : InU U S { c with work := rest } :=
    ⟨fun w' hw' => h.work w' (by rw [hw]; exact List.mem_cons_of_mem _ hw'), h.insts, h.named⟩
  rcases hc' with ⟨_, rfl⟩ | ⟨f, hf, rfl⟩
  · exact fail_inU U S _ h0
  · have hwu : U f.name w.subst := by
      rw [(findFn_mem hf).2]; exact h.work w (by rw [hw]; exact List.mem_cons_self)
    have hp := monoExpr_pure F w.subst f.body _ h0.named
    have h1 := applyEffs_inU U S hfin (monoE F w.subst f.body).2
      (hclosed f (findFn_mem hf).1 w.subst hwu) h0
    rw [hp]
    exact ⟨h1.work, h1.insts, h1.named⟩

include hclosed hfin in
/-- with `fuel` at least the number of instances of the universe still to be emitted, the loop ends -/
theorem loop_terminates : ∀ (fuel : Nat) (c : Ctx), LoopInv F c → InU U S c → S.length ≤ c.out.length + fuel →
    (loop F fuel c).isSome = true := by
  intro fuel
  induction fuel with
  | zero =>
    intro c hl hu hlen
    have h1 : c.instances.length ≤ S.length := by
      have := List.Nodup.length_le_of_subset (l₂ := S) hl.inv.nodup
        (by intro a ha; simp only [List.mem_map] at ha; obtain ⟨i, hi, rfl⟩ := ha; exact hu.insts i hi)
      simpa using this
    have h2 := congrArg List.length hl.inv.specs
    simp at h2
    have : c.work.length = 0 := by omega
    have : c.work = [] := List.eq_nil_of_length_eq_zero this
    simp [loop, this]
  | succ n ih =>
    intro c hl hu hlen
    simp only [loop]
    cases hs : step F c with
    | none => simp
    | some c1 =>
      simp only []
      apply ih c1 (step_inv hl hs) (step_inU F U S hclosed hfin hu hs)
      have : c1.out.length = c.out.length + 1 := by
        obtain ⟨w, rest, hw, ⟨hn, _⟩ | ⟨f, _, rfl⟩⟩ := step_some hs
        · have := hl.known w (by rw [hw]; exact List.mem_cons_self)
          simp [hn] at this
        · simp [monoExpr_out]
      omega

end

theorem seed_inU (F : List Fn) (U : String → Subst → Prop) (S : List (String × List (String × Ty)))
    (hseed : ∀ f ∈ F, fnIsGeneric f = false → U f.name [])
    (hfin : ∀ n σ, U n σ → (n, key σ) ∈ S) : InU U S (seed F) :=
  seed_induct F ⟨by intro w hw; simp at hw, by intro i hi; simp at hi, by intro i hi; simp at hi⟩
    fun _ f hf hg h => ensureInstance_inU U S hfin _ _ (hseed f hf hg) h

/-! ### a decidable sufficient condition: an explicit finite list of instances closed under requests -/

def inL (L : List (String × Subst)) (r : String × Subst) : Bool := L.any fun p => p.1 == r.1 && entriesBeq p.2 r.2

theorem inL_iff (L : List (String × Subst)) (r : String × Subst) : inL L r = true ↔ r ∈ L := by
  simp only [inL, List.any_eq_true, Bool.and_eq_true, beq_iff_eq]
  constructor
  · rintro ⟨p, hp, h1, h2⟩
    have := (entriesBeq_iff _ _).1 h2
    obtain ⟨a, b⟩ := p; obtain ⟨c, d⟩ := r
    simp only at h1 this
    subst h1 this
    exact hp
  · intro h
    exact ⟨r, h, rfl, (entriesBeq_iff _ _).2 rfl⟩

/-- every request of an instance of `L` is in `L` -/
def closedCheck (F : List Fn) (L : List (String × Subst)) : Bool :=
  L.all fun p => F.all fun f => !(f.name == p.1) || (requests F f p.2).all (inL L)

/-- every non-generic function at `[]` is in `L` -/
def seedCheck (F : List Fn) (L : List (String × Subst)) : Bool :=
  F.all fun f => fnIsGeneric f || inL L (f.name, [])

theorem closedCheck_sound {F : List Fn} {L : List (String × Subst)} (h : closedCheck F L = true) :
    ∀ f ∈ F, ∀ σ, (f.name, σ) ∈ L → ∀ r ∈ requests F f σ, r ∈ L := by
  intro f hf σ hσ r hr
  simp only [closedCheck, List.all_eq_true] at h
  have := h (f.name, σ) hσ f hf
  simp only [beq_self_eq_true, Bool.not_true, Bool.false_or, List.all_eq_true] at this
  exact (inL_iff L r).1 (this r hr)

theorem seedCheck_sound {F : List Fn} {L : List (String × Subst)} (h : seedCheck F L = true) :
    ∀ f ∈ F, fnIsGeneric f = false → (f.name, []) ∈ L := by
  intro f hf hg
  simp only [seedCheck, List.all_eq_true] at h
  have := h f hf
  simp only [hg, Bool.false_or] at this
  exact (inL_iff L _).1 this

end Goml.Mono
