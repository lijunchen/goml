import GomlVerif.Lemmas.C06Total
import GomlVerif.Lemmas.C06Sem
/-!
Properties of the output tree that follow from the input.  `TreeClosed`: a property of trees, in a context that grows
under a `let`, kept by every constructor `build` uses; `compileRows_scoped`: such a property holds of every tree
`compile_rows` returns, given an invariant of the matrix that every branch of a plan hands to its sub-matrix.  For
`leavesOK` the invariant is the separation of names (`RowSep`): pattern variables are never spelled like column variables.
-/
namespace Goml.Match
open Goml Goml.Sem

variable {β : Type}

mutual
/-- variables a pattern binds -/
def Pat.names : Pat → List String
  | .wild _ => []
  | .var x _ => [x]
  | .prim _ _ => []
  | .tuple ps _ => Pat.namesL ps
  | .constr _ ps _ => Pat.namesL ps
def Pat.namesL : List Pat → List String
  | [] => []
  | p :: ps => p.names ++ Pat.namesL ps
end

/-- `CV` holds of every column variable and of no pattern variable -/
def RowSep (CV : String → Prop) (r : Row β) : Prop :=
  (∀ c ∈ r.cols, CV c.1 ∧ ∀ a ∈ c.2.names, ¬ CV a) ∧ (∀ b ∈ r.binds, CV b.var ∧ ¬ CV b.name)

theorem mem_namesL {ps : List Pat} {p : Pat} {a : String} (hp : p ∈ ps) (ha : a ∈ p.names) :
    a ∈ Pat.namesL ps := by
  induction ps with
  | nil => cases hp
  | cons q qs ih =>
    simp only [Pat.namesL, List.mem_append]
    rcases List.mem_cons.mp hp with rfl | hp
    · exact Or.inl ha
    · exact Or.inr (ih hp)

theorem bindsOK_of_sep {CV : String → Prop} : ∀ (bs : List Bind), (∀ b ∈ bs, CV b.var ∧ ¬ CV b.name) →
    bindsOK bs = true := by
  intro bs
  induction bs with
  | nil => intro _; rfl
  | cons b bs ih =>
    intro h
    simp only [bindsOK, Bool.and_eq_true, List.all_eq_true]
    refine ⟨?_, ih (fun c hc => h c (by simp [hc]))⟩
    intro c hc
    have h1 := (h c (by simp [hc])).1
    have h2 := (h b (by simp)).2
    have : c.var ≠ b.name := fun e => h2 (e ▸ h1)
    simpa using this

theorem varBinds_sep {CV : String → Prop} : ∀ (cols : List (String × Pat)),
    (∀ c ∈ cols, CV c.1 ∧ ∀ a ∈ c.2.names, ¬ CV a) → ∀ b ∈ varBinds cols, CV b.var ∧ ¬ CV b.name := by
  intro cols
  induction cols with
  | nil => intro _ b hb; cases hb
  | cons c cs ih =>
    intro h b hb
    have ih' := ih (fun d hd => h d (by simp [hd]))
    simp only [varBinds] at hb
    split at hb
    · rename_i a ty hpat
      rcases List.mem_append.mp hb with hb | hb
      · exact ih' b hb
      · simp only [List.mem_singleton] at hb
        subst hb
        have := h c (by simp)
        refine ⟨this.1, this.2 a ?_⟩
        rw [hpat]; simp [Pat.names]
    · exact ih' b hb

theorem moveVars_sep {CV : String → Prop} {r : Row β} (h : RowSep CV r) : RowSep CV (moveVars r) := by
  refine ⟨fun c hc => h.1 c (List.mem_filter.mp hc).1, ?_⟩
  intro b hb
  rcases List.mem_append.mp hb with hb | hb
  · exact varBinds_sep r.cols h.1 b hb
  · exact h.2 b hb

theorem zip_sep {CV : String → Prop} {names : List String} {args : List Pat}
    (hn : ∀ x ∈ names, CV x) (ha : ∀ a ∈ Pat.namesL args, ¬ CV a) :
    ∀ c ∈ names.zip args, CV c.1 ∧ ∀ a ∈ c.2.names, ¬ CV a := by
  intro c hc
  obtain ⟨x, p⟩ := c
  have := List.of_mem_zip hc
  exact ⟨hn x this.1, fun a haa => ha a (mem_namesL this.2 haa)⟩

theorem Expands.sep {CV : String → Prop} {all : Bool} {sub : Pat → Option (List Pat)} {bv : String}
    {names : List String} (hn : ∀ x ∈ names, CV x) (hsub : ∀ q ps, sub q = some ps → q.names = Pat.namesL ps)
    {cols cols' : List (String × Pat)} (h : Expands all sub bv names cols cols') :
    (∀ c ∈ cols, CV c.1 ∧ ∀ a ∈ c.2.names, ¬ CV a) → ∀ c ∈ cols', CV c.1 ∧ ∀ a ∈ c.2.names, ¬ CV a := by
  induction h with
  | nil => intro _ c hc; cases hc
  | keep _ _ ih =>
    intro hs d hd
    rcases List.mem_cons.mp hd with rfl | hd
    · exact hs d (by simp)
    · exact ih (fun d hd => hs d (by simp [hd])) d hd
  | @expand c ps _ _ _ hps _ ih =>
    intro hs d hd
    rcases List.mem_append.mp hd with hd | hd
    · exact zip_sep hn (fun a ha => (hs c (by simp)).2 a (by rw [hsub _ ps hps]; exact ha)) d hd
    · exact ih (fun d hd => hs d (by simp [hd])) d hd
  | @first c ps _ _ _ hps =>
    intro hs d hd
    rcases List.mem_append.mp hd with hd | hd
    · exact hs d (by simp [hd])
    · exact zip_sep hn (fun a ha => (hs c (by simp)).2 a (by rw [hsub _ ps hps]; exact ha)) d hd

theorem RowExp.sep {CV : String → Prop} {all : Bool} {sub : Pat → Option (List Pat)} {drop : Pat → Prop}
    {bv : String} {names : List String} (hn : ∀ x ∈ names, CV x)
    (hsub : ∀ q ps, sub q = some ps → q.names = Pat.namesL ps)
    {r r' : Row β} (h : RowExp all sub drop bv names r (some r')) (hs : RowSep CV r) : RowSep CV r' := by
  obtain ⟨cs, rfl, hcs⟩ := h
  exact ⟨hcs.sep hn hsub hs.1, hs.2⟩

theorem tupleItems_names (q : Pat) (ps : List Pat) (h : tupleItems q = some ps) : q.names = Pat.namesL ps := by
  obtain ⟨_, rfl⟩ := tupleItems_some h; rw [Pat.names]

theorem structArgs_names (q : Pat) (ps : List Pat) (h : structArgs q = some ps) : q.names = Pat.namesL ps := by
  obtain ⟨_, _, rfl⟩ := structArgs_some h; rw [Pat.names]

theorem enumSub_names (idx : Nat) (q : Pat) (ps : List Pat) (h : enumSub idx q = some ps) :
    q.names = Pat.namesL ps := by
  obtain ⟨_, _, _, rfl⟩ := enumSub_some h; rw [Pat.names]

theorem litSub_names (okP : Prim → Bool) (k : Prim) (q : Pat) (ps : List Pat) (h : litSub okP k q = some ps) :
    q.names = Pat.namesL ps := by
  obtain ⟨_, rfl, _, rfl⟩ := litSub_some h; rfl

theorem Branch.sep {CV : String → Prop} {S : Sig} (hgen : ∀ j, CV (S.gen j)) {bv : String} {bty : Ty} {n n1 : Nat}
    {vars : List (String × Ty)} {f : Row β → M (Option (Row β))} (h : Branch S bv bty n n1 vars f) :
    ∀ r r', f r = .ok (some r') → RowSep CV r → RowSep CV r' := by
  have hcv : ∀ {m k : Nat}, ∀ x ∈ genNames S.gen m k, CV x :=
    fun x hx => (mem_genNames.mp hx).elim fun j e => e.2.2 ▸ hgen j
  intro r r' hf
  cases h with
  | lit okP k => exact (specLit_exp hf).sep (fun _ hx => nomatch hx) (litSub_names okP k)
  | dflt okP => exact (specDflt_exp hf).sep (fun _ hx => nomatch hx) (fun _ _ h => by cases h)
  | enum idx m => exact (specEnum_exp hf).sep hcv (enumSub_names idx)
  | struct => exact (specStruct_exp hf).sep hcv structArgs_names
  | tuple => exact (specTuple_exp hf).sep hcv tupleItems_names

/-- `P g t`: tree `t` has the property in context `g`; `bind x g`: the context under `let x = …`; `reads g v`: in context
    `g` a tree may look at the variable `v`; `ok x`: `x` may be bound by a `let` -/
structure TreeClosed {G : Type} (ok : String → Prop) (bind : String → G → G) (reads : G → String → Prop)
    (P : G → DT β → Prop) (PC : G → Cases β → Prop) : Prop where
  reads_bind : ∀ {g v} x, reads g v → reads (bind x g) v
  missing : ∀ g ty, P g (.missing ty)
  letProj : ∀ {g x i ty v vty rest}, ok x → reads g v → P (bind x g) rest → P g (.letProj x i ty v vty rest)
  letGet : ∀ {g x c i ty v vty rest}, ok x → reads g v → P (bind x g) rest → P g (.letGet x c i ty v vty rest)
  switch : ∀ {g ty v vty cs}, reads g v → PC g cs → P g (.switch ty v vty cs)
  nil : ∀ g, PC g .nil
  dflt : ∀ {g t}, P g t → PC g (.dflt t)
  cons : ∀ {g h t rest}, P g t → PC g rest → PC g (.cons h t rest)

def bindAll {G : Type} (bind : String → G → G) (vars : List (String × Ty)) (g : G) : G :=
  vars.foldl (fun g x => bind x.1 g) g

namespace TreeClosed
variable {G : Type} {ok : String → Prop} {bind : String → G → G} {reads : G → String → Prop}
  {P : G → DT β → Prop} {PC : G → Cases β → Prop} (hP : TreeClosed ok bind reads P PC)
include hP

theorem wrapProj (bv : String) (bty : Ty) {t : DT β} : ∀ (vars : List (String × Ty)) (i : Nat) (g : G),
    reads g bv → (∀ x ∈ vars, ok x.1) → P (bindAll bind vars g) t → P g (wrapProj bv bty i vars t) := by
  intro vars
  induction vars with
  | nil => intro i g _ _ ht; exact ht
  | cons x xs ih =>
    intro i g hbv hok ht
    exact hP.letProj (hok x (by simp)) hbv
      (ih _ _ (hP.reads_bind _ hbv) (fun z hz => hok z (by simp [hz])) ht)

theorem wrapGet (c : Ctor) (bv : String) (bty : Ty) {t : DT β} : ∀ (vars : List (String × Ty)) (i : Nat) (g : G),
    reads g bv → (∀ x ∈ vars, ok x.1) → P (bindAll bind vars g) t → P g (wrapGet c bv bty i vars t) := by
  intro vars
  induction vars with
  | nil => intro i g _ _ ht; exact ht
  | cons x xs ih =>
    intro i g hbv hok ht
    exact hP.letGet (hok x (by simp)) hbv
      (ih _ _ (hP.reads_bind _ hbv) (fun z hz => hok z (by simp [hz])) ht)

theorem litCases (g : G) (d : Bool) : ∀ (keys : List Prim) (ts : List (DT β)),
    (∀ t ∈ ts, P g t) → PC g (litCases keys ts d) := by
  intro keys
  induction keys with
  | nil =>
    intro ts h
    simp only [Match.litCases]
    split
    · rename_i t; exact hP.dflt (h t (by simp))
    · exact hP.nil g
  | cons k ks ih =>
    intro ts h
    simp only [Match.litCases]
    split
    · rename_i t ts'
      exact hP.cons (h t (by simp)) (ih ts' (fun u hu => h u (by simp [hu])))
    · exact hP.nil g

theorem enumCases (g : G) (bv : String) (bty : Ty) (hbv : reads g bv) :
    ∀ (hs : List (Ctor × List (String × Ty))) (ts : List (DT β)),
      (∀ h ∈ hs, ∀ x ∈ h.2, ok x.1) → All2 (fun vars t => P (bindAll bind vars g) t) (hs.map (·.2)) ts →
      PC g (enumCases bv bty hs ts) := by
  intro hs
  induction hs with
  | nil => intro ts _ _; exact hP.nil g
  | cons h hs ih =>
    intro ts hok hall
    cases hall with
    | cons hab hrest =>
      exact hP.cons (hP.wrapGet _ bv bty _ 0 g hbv (hok h (by simp)) hab)
        (ih _ (fun h' hh' => hok h' (by simp [hh'])) hrest)

theorem build (g : G) (bodyTy : Ty) (bv : String) (bty : Ty) (hbv : reads g bv) (sh : Shape) (k : Nat)
    (ts : List (DT β)) (hok : ∀ vars ∈ shapeVars sh k, ∀ x ∈ vars, ok x.1)
    (h : All2 (fun vars t => P (bindAll bind vars g) t) (shapeVars sh k) ts) :
    P g (build bodyTy bv bty sh ts) := by
  cases sh with
  | lits keys d =>
    exact hP.switch hbv (hP.litCases g d keys ts
      (all2_replicate_elim (R := fun vars t => P (bindAll bind vars g) t) k ts h))
  | enumS hs =>
    exact hP.switch hbv (hP.enumCases g bv bty hbv hs ts
      (fun h' hh' => hok _ (List.mem_map_of_mem (f := (·.2)) hh')) h)
  | tupleS vars =>
    obtain ⟨t, rfl, ht⟩ := all2_singleton h
    exact hP.wrapProj bv bty vars 0 g hbv (hok vars (by simp [shapeVars])) ht
  | structS c vars =>
    obtain ⟨t, rfl, ht⟩ := all2_singleton h
    exact hP.wrapGet c bv bty vars 0 g hbv (hok vars (by simp [shapeVars])) ht

end TreeClosed

/-- `I n g rows`: the invariant of the matrix, at counter `n` in context `g`.  It is kept by `moveVars` (`hmove`) and handed by
    every branch of a plan to its sub-matrix, in the context extended by the branch's binders (`hstep`); it lets the tree read
    the column variables of the first row (`hreads`) and gives the property of the leaf of a first row without columns (`hleaf`). -/
theorem compileRows_scoped (S : Sig) {G : Type} {ok : String → Prop} {bind : String → G → G}
    {reads : G → String → Prop} {P : G → DT β → Prop} {PC : G → Cases β → Prop}
    (hP : TreeClosed ok bind reads P PC) (hgen : ∀ j, ok (S.gen j)) {I : Nat → G → List (Row β) → Prop}
    (hmono : ∀ {n m g rows}, I n g rows → n ≤ m → I m g rows)
    (hmove : ∀ {n g rows}, I n g rows → I n g (rows.map moveVars))
    (hreads : ∀ {n g r0 rest bv p}, I n g (r0 :: rest) → (bv, p) ∈ r0.cols → reads g bv)
    (hleaf : ∀ {n g r0 rest}, I n g (r0 :: rest) → r0.cols = [] → P g (.leaf r0.binds r0.body))
    (hstep : ∀ {n n1 g rows bv bty vars sub}, I n g rows →
      (∀ r ∈ rows, ∀ c ∈ r.cols, isVarOrWild c.2 = false) → (∃ r ∈ rows, ∃ p, (bv, p) ∈ r.cols ∧ p.ty = bty) →
      n ≤ n1 → BranchOf S bv bty n n1 rows vars sub → I n1 (bindAll bind vars g) sub)
    (fuel : Nat) (ty : Ty) (n : Nat) (rows : List (Row β)) (t : DT β) (n' : Nat)
    (h : compileRows S fuel ty n rows = some (.ok (t, n'))) : ∀ g, I n g rows → P g t := by
  refine (compileRows_induct S (motive := fun _ n rows t _ => ∀ g, I n g rows → P g t) ?_ ?_ ?_
    fuel ty n rows t n' h).2
  · intro ty _ _ _ g _; exact hP.missing g ty
  · intro _ _ rows r0 rest heq hc g hI; exact hleaf (heq ▸ hmove hI) hc
  · intro _ n rows r0 rest bv bty pl ts _ heq ⟨p0, hp0⟩ hb2 hpl _ hsub g hI
    have hI1 := heq ▸ hmove hI
    have hbr := plan_branches S hpl
    refine hP.build g _ bv bty (hreads hI1 hp0) pl.shape pl.subs.length ts ?_ (All2.imp ?_ (hbr.comp hsub))
    · intro vars hvars x hx
      obtain ⟨_, _, f, hf, _⟩ := hbr.forall_left vars hvars
      obtain ⟨j, e⟩ := hf.gen x hx
      exact e ▸ hgen j
    · intro vars t' ⟨sub, hb, m, _, hm, _, hmot⟩
      exact hmot _ (hmono (hstep hI1 (heq ▸ map_moveVars_nv) hb2 (plan_counter S hpl) hb) hm)

/-- a row-wise invariant that does not look at the context or the counter -/
theorem compileRows_all (S : Sig) {ok : String → Prop} {P : Unit → DT β → Prop} {PC : Unit → Cases β → Prop}
    (hP : TreeClosed ok (fun _ g => g) (fun _ _ => True) P PC) (hgen : ∀ j, ok (S.gen j)) {R : Row β → Prop}
    (hmove : ∀ r, R r → R (moveVars r))
    (hstep : ∀ {bv bty n n1 vars f}, Branch S bv bty n n1 vars f → ∀ r r', f r = .ok (some r') → R r → R r')
    (hleaf : ∀ r, R r → P () (.leaf r.binds r.body))
    (fuel : Nat) (ty : Ty) (n : Nat) (rows : List (Row β)) (t : DT β) (n' : Nat)
    (h : compileRows S fuel ty n rows = some (.ok (t, n'))) (hs : ∀ r ∈ rows, R r) : P () t := by
  refine compileRows_scoped S hP hgen (I := fun _ _ rows => ∀ r ∈ rows, R r) (fun h _ => h) ?_ (fun _ _ => trivial)
    (fun h _ => hleaf _ (h _ (by simp))) ?_ fuel ty n rows t n' h () hs
  · intro _ _ rows hs r1 hr1
    obtain ⟨r, hr, rfl⟩ := List.mem_map.mp hr1
    exact hmove r (hs r hr)
  · rintro _ _ _ rows bv bty vars sub hs _ _ _ ⟨f, hf, hfs⟩ r' hr'
    obtain ⟨r, hr, hfr⟩ := filterMapE_out hfs r' hr'
    exact hstep hf r r' hfr (hs r hr)

theorem leavesOK_closed : TreeClosed (β := β) (G := Unit) (fun _ => True) (fun _ g => g) (fun _ _ => True)
    (fun _ t => leavesOK t = true) (fun _ cs => casesOK cs = true) where
  reads_bind _ _ := trivial
  missing _ _ := rfl
  letProj _ _ h := by simpa only [leavesOK] using h
  letGet _ _ h := by simpa only [leavesOK] using h
  switch _ h := by simpa only [leavesOK] using h
  nil _ := rfl
  dflt h := by simpa only [casesOK] using h
  cons h h' := by simp only [casesOK, h, h', Bool.and_self]

theorem noBind_closed (y : String) : TreeClosed (G := Unit) (· ≠ y) (fun _ g => g) (fun _ _ => True)
    (fun _ (t : DT Expr) => t.noBind y = true) (fun _ cs => cs.noBind y = true) where
  reads_bind _ _ := trivial
  missing _ _ := rfl
  letProj hx _ h := by simp only [DT.noBind, Bool.and_eq_true, bne_iff_ne, ne_eq]; exact ⟨hx, h⟩
  letGet hx _ h := by simp only [DT.noBind, Bool.and_eq_true, bne_iff_ne, ne_eq]; exact ⟨hx, h⟩
  switch _ h := by simpa only [DT.noBind] using h
  nil _ := rfl
  dflt h := by simpa only [Cases.noBind] using h
  cons h h' := by simp only [Cases.noBind, h, h', Bool.and_self]

theorem compileRows_noBind (S : Sig) (y : String) (hy : ∀ j, S.gen j ≠ y)
    (fuel : Nat) (ty : Ty) (n : Nat) (rows : List (Row Expr)) (t : DT Expr) (n' : Nat)
    (hc : compileRows S fuel ty n rows = some (.ok (t, n'))) : t.noBind y = true :=
  compileRows_all S (R := fun _ => True) (noBind_closed y) hy (fun _ _ => trivial)
    (fun _ _ _ _ _ => trivial) (fun _ _ => rfl) fuel ty n rows t n' hc (fun _ _ => trivial)

end Goml.Match
