import GomlVerif.Model.Match
import GomlVerif.Lemmas.LiftSemUnfold
import GomlVerif.Lemmas.ListFacts
/-!
Option/list algebra of pattern bindings (`oapp`, compared as sets: `OEq`), environments, what `removeCol` and `moveVars` do to
the meaning of a row, and `firstMatch` under row-wise transformations (`firstMatch_filterMapE`).
-/
namespace Goml.Match
open Goml Goml.Sem

variable {β : Type}

def SetEq {α : Type} (a b : List α) : Prop := ∀ x, x ∈ a ↔ x ∈ b

theorem SetEq.refl {α : Type} (a : List α) : SetEq a a := fun _ => Iff.rfl
theorem SetEq.symm {α : Type} {a b : List α} (h : SetEq a b) : SetEq b a := fun x => (h x).symm
theorem SetEq.trans {α : Type} {a b c : List α} (h : SetEq a b) (h' : SetEq b c) : SetEq a c :=
  fun x => (h x).trans (h' x)

/-- both fail, or both succeed with the same bindings up to order: `moveVars`, `removeCol` and the expansion of a column
    permute the bindings of a row -/
def OEq {α : Type} (a b : Option (List α)) : Prop :=
  match a, b with
  | none, none => True
  | some x, some y => SetEq x y
  | _, _ => False

theorem OEq.refl {α : Type} (a : Option (List α)) : OEq a a := by
  cases a <;> simp [OEq, SetEq]

theorem OEq.cases {α : Type} {a b : Option (List α)} (h : OEq a b) :
    (a = none ∧ b = none) ∨ ∃ x y, a = some x ∧ b = some y ∧ SetEq x y := by
  cases a <;> cases b <;> simp_all [OEq]

theorem OEq.of_eq {α : Type} {a b : Option (List α)} (h : a = b) : OEq a b := h ▸ OEq.refl a

theorem OEq.trans {α : Type} {a b c : Option (List α)} (h : OEq a b) (h' : OEq b c) : OEq a c := by
  cases a <;> cases b <;> cases c <;> simp_all [OEq, SetEq]

theorem OEq.none_iff {α : Type} {a b : Option (List α)} (h : OEq a b) : a = none ↔ b = none := by
  cases a <;> cases b <;> simp_all [OEq]

theorem oapp_congr {α : Type} {a a' b b' : Option (List α)} (h : OEq a a') (h' : OEq b b') :
    OEq (oapp a b) (oapp a' b') := by
  cases a <;> cases a' <;> cases b <;> cases b' <;> simp_all [OEq, oapp, SetEq]

theorem oapp_comm {α : Type} (a b : Option (List α)) : OEq (oapp a b) (oapp b a) := by
  cases a <;> cases b <;> simp [OEq, oapp, SetEq, or_comm]

theorem oapp_assoc {α : Type} (a b c : Option (List α)) : oapp (oapp a b) c = oapp a (oapp b c) := by
  cases a <;> cases b <;> cases c <;> simp [oapp]

@[simp] theorem oapp_nil_left {α : Type} (a : Option (List α)) : oapp (some []) a = a := by
  cases a <;> simp [oapp]

@[simp] theorem oapp_nil_right {α : Type} (a : Option (List α)) : oapp a (some []) = a := by
  cases a <;> simp [oapp]

@[simp] theorem oapp_none_left {α : Type} (a : Option (List α)) : oapp none a = none := by
  cases a <;> simp [oapp]

@[simp] theorem oapp_none_right {α : Type} (a : Option (List α)) : oapp a none = none := by
  cases a <;> simp [oapp]

@[simp] theorem oapp_some_some {α : Type} (a b : List α) : oapp (some a) (some b) = some (a ++ b) := rfl

theorem oapp_left_comm {α : Type} (a b c : Option (List α)) : OEq (oapp a (oapp b c)) (oapp b (oapp a c)) := by
  cases a <;> cases b <;> cases c <;> simp [OEq, oapp, SetEq, or_left_comm]

theorem oapp_snoc_left {α : Type} (B x : List α) (F : Option (List α)) :
    OEq (oapp (some (B ++ x)) F) (oapp (some x) (oapp (some B) F)) := by
  cases F <;> simp [OEq, oapp, SetEq, or_left_comm]

theorem lookupVar_cons_ne (ρ : Env) (x y : String) (v : Val) (h : x ≠ y) :
    lookupVar ((x, v) :: ρ) y = lookupVar ρ y := by
  simp [lookupVar, lookupEnv_cons, h]

theorem lookupVar_cons_eq (ρ : Env) (x : String) (v : Val) :
    lookupVar ((x, v) :: ρ) x = v := by
  simp [lookupVar, lookupEnv_cons]

theorem lookupEnv_append_of_mem (l r : Env) (a : String) (h : ∃ v, (a, v) ∈ l) :
    ∃ v', (a, v') ∈ l ∧ lookupEnv (l ++ r) a = some v' := by
  induction l with
  | nil => obtain ⟨v, hv⟩ := h; cases hv
  | cons p l ih =>
    obtain ⟨x, u⟩ := p
    by_cases hx : x = a
    · subst hx
      exact ⟨u, by simp, lookupEnv_cons_self _ _ _⟩
    · obtain ⟨v, hv⟩ := h
      rcases List.mem_cons.mp hv with hv | hv
      · cases hv; exact absurd rfl hx
      · obtain ⟨v', h1, h2⟩ := ih ⟨v, hv⟩
        exact ⟨v', by simp [h1], by rw [List.cons_append, lookupEnv_cons_ne _ _ hx, h2]⟩

theorem lookupEnv_append_notin (l r : Env) (y : String) (h : ∀ p ∈ l, p.1 ≠ y) :
    lookupEnv (l ++ r) y = lookupEnv r y := by
  have hk : y ∉ l.map (·.1) := fun hm => by
    obtain ⟨p, hp, e⟩ := List.mem_map.mp hm
    exact h p hp e
  unfold lookupEnv
  rw [find?_key_append_of_not_mem (key := fun p : String × Val => p.1) hk]

theorem lookupVar_append_notin (τ ρ : Env) (y : String) (h : ∀ p ∈ τ, p.1 ≠ y) :
    lookupVar (τ ++ ρ) y = lookupVar ρ y := by
  unfold lookupVar
  rw [lookupEnv_append_notin τ ρ y h]

theorem bindParams_eq (xs : List String) (vs : List Val) (ρ : Env) :
    bindParams xs vs ρ = (xs.zip vs).reverse ++ ρ := by
  induction xs generalizing vs ρ with
  | nil => simp [bindParams]
  | cons x xs ih =>
    cases vs with
    | nil => simp [bindParams]
    | cons v vs => simp [bindParams, ih]

theorem colsMatch_append (ρ : Env) (a b : List (String × Pat)) :
    colsMatch ρ (a ++ b) = oapp (colsMatch ρ a) (colsMatch ρ b) := by
  induction a with
  | nil => simp [colsMatch]
  | cons c a ih => simp [colsMatch, ih, oapp_assoc]

theorem colsMatch_congr (ρ ρ' : Env) (cols : List (String × Pat))
    (h : ∀ c ∈ cols, lookupVar ρ' c.1 = lookupVar ρ c.1) : colsMatch ρ' cols = colsMatch ρ cols := by
  induction cols with
  | nil => rfl
  | cons c cs ih =>
    simp only [colsMatch]
    rw [h c (by simp), ih (fun d hd => h d (by simp [hd]))]

theorem bindVals_congr (ρ ρ' : Env) (bs : List Bind)
    (h : ∀ b ∈ bs, lookupVar ρ' b.var = lookupVar ρ b.var) : bindVals ρ' bs = bindVals ρ bs := by
  induction bs with
  | nil => rfl
  | cons b bs ih =>
    simp only [bindVals, List.map_cons] at *
    rw [h b (by simp)]
    congr 1
    exact ih (fun c hc => h c (by simp [hc]))

theorem removeCol_none {x : String} {cols : List (String × Pat)} (h : removeCol x cols = none) :
    ∀ c ∈ cols, c.1 ≠ x := by
  induction cols with
  | nil => simp
  | cons c cs ih =>
    simp only [removeCol] at h
    split at h
    · cases h
    · rename_i hne
      split at h
      · cases h
      · rename_i hr
        intro d hd
        rcases List.mem_cons.mp hd with rfl | hd
        · exact hne
        · exact ih hr d hd

/-- `removeCol x cols = some (p, cs)` took the column `(x, p)` out of `cols` and left `cs`, with the same meaning -/
structure RemovedCol (x : String) (cols : List (String × Pat)) (p : Pat) (cs : List (String × Pat)) : Prop where
  mem : (x, p) ∈ cols
  rest : ∀ c ∈ cs, c ∈ cols
  meaning : ∀ ρ, OEq (colsMatch ρ cols) (oapp (matchPat p (lookupVar ρ x)) (colsMatch ρ cs))

theorem removeCol_some {x : String} {cols cs : List (String × Pat)} {p : Pat}
    (h : removeCol x cols = some (p, cs)) : RemovedCol x cols p cs := by
  induction cols generalizing cs with
  | nil => simp [removeCol] at h
  | cons c cols ih =>
    simp only [removeCol] at h
    split at h
    · rename_i heq
      cases h
      refine ⟨by rw [← heq]; simp, fun d hd => by simp [hd], fun ρ => ?_⟩
      simp only [colsMatch]
      rw [heq]
      exact OEq.refl _
    · split at h
      · rename_i q cs' hr
        cases h
        have ih := ih hr
        refine ⟨by simp [ih.mem], ?_, fun ρ => ?_⟩
        · intro d hd
          rcases List.mem_cons.mp hd with rfl | hd
          · simp
          · simp [ih.rest d hd]
        · simp only [colsMatch]
          exact (oapp_congr (OEq.refl _) (ih.meaning ρ)).trans (oapp_left_comm _ _ _)
      · cases h

theorem rowMatch_removeCol (ρ : Env) (r : Row β) (x : String) (p : Pat) (cs : List (String × Pat))
    (h : removeCol x r.cols = some (p, cs)) :
    OEq (rowMatch ρ r)
      (oapp (matchPat p (lookupVar ρ x)) (rowMatch ρ { r with cols := cs })) := by
  simp only [rowMatch]
  exact (oapp_congr (OEq.refl _) ((removeCol_some h).meaning ρ)).trans (oapp_left_comm _ _ _)

/-! ### `move_variable_patterns` keeps the meaning of a row -/

theorem bindVals_append (ρ : Env) (a b : List Bind) : bindVals ρ (a ++ b) = bindVals ρ a ++ bindVals ρ b := by
  simp [bindVals]

theorem moveVars_cols (ρ : Env) (cols : List (String × Pat)) :
    OEq (oapp (some (bindVals ρ (varBinds cols))) (colsMatch ρ (cols.filter (fun c => !isVarOrWild c.2))))
      (colsMatch ρ cols) := by
  induction cols with
  | nil => simp [varBinds, colsMatch, bindVals, OEq, SetEq]
  | cons c cs ih =>
    obtain ⟨x, p⟩ := c
    cases p with
    | wild t =>
      simp only [varBinds, List.filter, isVarOrWild, Bool.not_true, colsMatch, matchPat, oapp_nil_left]
      exact ih
    | var a t =>
      simp only [varBinds, List.filter, isVarOrWild, Bool.not_true, colsMatch, matchPat, bindVals_append]
      have : bindVals ρ [⟨a, x, t⟩] = [(a, lookupVar ρ x)] := rfl
      rw [this]
      exact (oapp_snoc_left _ _ _).trans (oapp_congr (OEq.refl _) ih)
    | prim _ _ | tuple _ _ | constr _ _ _ =>
      simp only [varBinds, List.filter, isVarOrWild, Bool.not_false, colsMatch]
      exact (oapp_left_comm _ _ _).trans (oapp_congr (OEq.refl _) ih)

theorem moveVars_rowMatch (ρ : Env) (r : Row β) : OEq (rowMatch ρ (moveVars r)) (rowMatch ρ r) := by
  simp only [rowMatch, moveVars, bindVals_append]
  have h := moveVars_cols ρ r.cols
  have e : oapp (some (bindVals ρ (varBinds r.cols) ++ bindVals ρ r.binds))
        (colsMatch ρ (r.cols.filter (fun c => !isVarOrWild c.2)))
      = oapp (oapp (some (bindVals ρ (varBinds r.cols))) (some (bindVals ρ r.binds)))
        (colsMatch ρ (r.cols.filter (fun c => !isVarOrWild c.2))) := rfl
  rw [e, oapp_assoc]
  exact (oapp_left_comm _ _ _).trans (oapp_congr (OEq.refl _) h)

/-! ### `firstMatch` under row-wise transformations -/

def SpecEq (a b : Option (β × List (String × Val))) : Prop :=
  match a, b with
  | none, none => True
  | some x, some y => x.1 = y.1 ∧ SetEq x.2 y.2
  | _, _ => False

theorem SpecEq.refl (a : Option (β × List (String × Val))) : SpecEq a a := by
  cases a <;> simp [SpecEq, SetEq]

theorem SpecEq.trans {a b c : Option (β × List (String × Val))} (h : SpecEq a b) (h' : SpecEq b c) :
    SpecEq a c := by
  cases a <;> cases b <;> cases c <;> simp_all [SpecEq, SetEq]

/-- what a row-wise step may do: drop a row that does not match, or replace it by one with the
    same body and the same meaning (in the extended environment `ρ'`) -/
def RowStep (ρ ρ' : Env) (r : Row β) : Option (Row β) → Prop
  | none => rowMatch ρ r = none
  | some r' => r'.body = r.body ∧ OEq (rowMatch ρ' r') (rowMatch ρ r)

theorem filterMapE_cons_ok {α γ : Type} {f : α → M (Option γ)} {a : α} {as : List α} {l' : List γ}
    (h : filterMapE f (a :: as) = .ok l') :
    ∃ o rest, f a = .ok o ∧ filterMapE f as = .ok rest ∧ l' = (match o with | some b => b :: rest | none => rest) := by
  simp only [filterMapE] at h
  split at h
  · cases h
  · rename_i o ho
    split at h
    · cases h
    · rename_i rest hrest
      cases h
      exact ⟨o, rest, ho, hrest, rfl⟩

/-- a row-wise filter/rewrite that drops only rows that do not match and keeps the meaning of the
    others keeps the first match -/
theorem firstMatch_filterMapE (ρ ρ' : Env) (f : Row β → M (Option (Row β))) :
    ∀ (rows rows' : List (Row β)), filterMapE f rows = .ok rows' →
    (∀ r ∈ rows, ∀ o, f r = .ok o → RowStep ρ ρ' r o) →
    SpecEq (firstMatch ρ' rows') (firstMatch ρ rows) := by
  intro rows
  induction rows with
  | nil =>
    intro rows' h _
    simp only [filterMapE] at h
    cases h
    simp [firstMatch, SpecEq]
  | cons r rs ih =>
    intro rows' h hr
    obtain ⟨o, rest, ho, hrest, rfl⟩ := filterMapE_cons_ok h
    have ih' := ih rest hrest (fun q hq => hr q (by simp [hq]))
    have h0 := hr r (by simp) o ho
    cases o with
    | none =>
      simp only [RowStep] at h0
      simp only [firstMatch, h0]
      exact ih'
    | some r' =>
      simp only [RowStep] at h0
      obtain ⟨hb, hm⟩ := h0
      simp only [firstMatch]
      rcases hm.cases with ⟨h1, h2⟩ | ⟨x, y, h1, h2, hxy⟩ <;> rw [h1, h2]
      · exact ih'
      · exact ⟨hb, hxy⟩

theorem filterMapE_map {α γ : Type} (g : α → γ) (l : List α) :
    filterMapE (fun a => .ok (some (g a))) l = .ok (l.map g) := by
  induction l with
  | nil => rfl
  | cons a as ih => simp only [filterMapE, ih, List.map_cons]

theorem firstMatch_map (ρ : Env) (f : Row β → Row β) (rows : List (Row β))
    (h : ∀ r ∈ rows, (f r).body = r.body ∧ OEq (rowMatch ρ (f r)) (rowMatch ρ r)) :
    SpecEq (firstMatch ρ (rows.map f)) (firstMatch ρ rows) :=
  firstMatch_filterMapE ρ ρ _ rows _ (filterMapE_map f rows) (fun r hr o ho => by cases ho; exact h r hr)

theorem firstMatch_none {ρ : Env} {rows : List (Row β)} (h : ∀ r ∈ rows, rowMatch ρ r = none) :
    firstMatch ρ rows = none := by
  induction rows with
  | nil => rfl
  | cons r rs ih =>
    simp only [firstMatch, h r (by simp)]
    exact ih (fun q hq => h q (by simp [hq]))

theorem filterMapE_mem {α γ : Type} (f : α → M (Option γ)) :
    ∀ (l : List α) (l' : List γ), filterMapE f l = .ok l' →
      (∀ b ∈ l', ∃ a ∈ l, f a = .ok (some b)) ∧ (∀ a ∈ l, ∃ o, f a = .ok o) := by
  intro l
  induction l with
  | nil =>
    intro l' h
    simp only [filterMapE] at h
    cases h
    simp
  | cons a as ih =>
    intro l' h
    obtain ⟨o, rest, ho, hrest, rfl⟩ := filterMapE_cons_ok h
    obtain ⟨i1, i2⟩ := ih rest hrest
    constructor
    · intro b hb
      cases o with
      | none =>
        obtain ⟨a', ha', hf⟩ := i1 b hb
        exact ⟨a', by simp [ha'], hf⟩
      | some b0 =>
        rcases List.mem_cons.mp hb with rfl | hb
        · exact ⟨a, by simp, ho⟩
        · obtain ⟨a', ha', hf⟩ := i1 b hb
          exact ⟨a', by simp [ha'], hf⟩
    · intro a' ha'
      rcases List.mem_cons.mp ha' with rfl | ha'
      · exact ⟨o, ho⟩
      · exact i2 a' ha'

theorem filterMapE_out {α γ : Type} {f : α → M (Option γ)} {l : List α} {l' : List γ} (h : filterMapE f l = .ok l') :
    ∀ b ∈ l', ∃ a ∈ l, f a = .ok (some b) := (filterMapE_mem f l l' h).1

theorem filterMapE_ok {α γ : Type} {f : α → M (Option γ)} {l : List α} {l' : List γ} (h : filterMapE f l = .ok l') :
    ∀ a ∈ l, ∃ o, f a = .ok o := (filterMapE_mem f l l' h).2

end Goml.Match
