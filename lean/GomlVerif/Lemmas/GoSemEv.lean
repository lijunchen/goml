import GomlVerif.Lemmas.GoSemMono
/-!
The fuel-free reading of `Go.Sem`: `Ev1 T r` says that the computation `T`, a function of the fuel, returns `r`
for every sufficiently large fuel.  It composes along the equations of `Lemmas/GoSemEq.lean` without naming a
fuel, and a run that did not stop for lack of fuel is the eventual one.
-/
namespace Goml.Go
open Goml.Sem (Fail)

def Ev1 {α : Type} (T : Nat → GRes α) (r : GRes α) : Prop := ∃ m, ∀ k, m ≤ k → T k = r

theorem Ev1.const {α : Type} (r : GRes α) : Ev1 (fun _ => r) r := ⟨0, fun _ _ => rfl⟩

theorem Ev1.succ {α : Type} {T : Nat → GRes α} {r : GRes α} (h : Ev1 (fun j => T (j+1)) r) : Ev1 T r := by
  obtain ⟨m, e⟩ := h
  exact ⟨m + 1, fun k hk => by obtain ⟨j, rfl⟩ : ∃ j, k = j + 1 := ⟨k - 1, by omega⟩; exact e j (by omega)⟩

theorem Ev1.bind {α β : Type} {T : Nat → GRes α} {K : Nat → α → GWorld → GRes β} {r : GRes α}
    {k : α → GWorld → GRes β} (h1 : Ev1 T r) (h2 : ∀ a w, r = .ok a w → Ev1 (fun j => K j a w) (k a w)) :
    Ev1 (fun j => (T j).bind (K j)) (r.bind k) := by
  obtain ⟨m1, e1⟩ := h1
  cases r with
  | fail f w => exact ⟨m1, fun j hj => by simp only [e1 j hj]; rfl⟩
  | ok a w =>
    obtain ⟨m2, e2⟩ := h2 a w rfl
    exact ⟨m1 + m2, fun j hj => by simp only [e1 j (by omega)]; exact e2 j (by omega)⟩

theorem Ev1.bind_ok {α β : Type} {T : Nat → GRes α} {K : Nat → α → GWorld → GRes β} {a : α} {w : GWorld} {r : GRes β}
    (h1 : Ev1 T (.ok a w)) (h2 : Ev1 (fun j => K j a w) r) : Ev1 (fun j => (T j).bind (K j)) r :=
  Ev1.bind (k := fun _ _ => r) h1 fun _ _ e => by cases e; exact h2

theorem Ev1.bind_fail {α β : Type} {T : Nat → GRes α} {K : Nat → α → GWorld → GRes β} {f : Fail} {w : GWorld}
    (h1 : Ev1 T (.fail f w)) : Ev1 (fun j => (T j).bind (K j)) (.fail f w) :=
  Ev1.bind (k := fun _ _ => .fail f w) h1 fun _ _ e => by cases e

theorem Ev1.of_run {α : Type} {T : Nat → GRes α} (h : ∀ n, (T n).nf → T (n+1) = T n) {n : Nat} {r : GRes α}
    (hr : T n = r) (hnf : r.nf) : Ev1 T r :=
  ⟨n, fun k hk => by rw [mono_of_step h hk (hr ▸ hnf), hr]⟩

theorem Ev1.run {α : Type} {T : Nat → GRes α} {r : GRes α} (h : Ev1 T r) : ∃ m, T m = r :=
  h.imp fun m e => e m (Nat.le_refl m)

abbrev EvalE (F : GFile) (ρ : GEnv) (w : GWorld) (e : GExpr) (r : GRes GVal) : Prop :=
  Ev1 (fun k => evalG k F ρ w e) r
abbrev BlockE (F : GFile) (ρ : GEnv) (w : GWorld) (ss : List GStmt) (r : GRes (GEnv × Sig)) : Prop :=
  Ev1 (fun k => execBlockG k F ρ w ss) r
abbrev StmtE (F : GFile) (ρ : GEnv) (w : GWorld) (s : GStmt) (r : GRes (GEnv × Sig)) : Prop :=
  Ev1 (fun k => execG k F ρ w s) r
abbrev NestE (F : GFile) (ρ : GEnv) (w : GWorld) (ss : List GStmt) (r : GRes (GEnv × Sig)) : Prop :=
  Ev1 (fun k => nestedG k F ρ w ss) r

theorem EvalE.of_run {n F ρ w e r} (h : evalG n F ρ w e = r) (hnf : r.nf) : EvalE F ρ w e r :=
  Ev1.of_run (fun k => (mono_all k).ev) h hnf
theorem BlockE.of_run {n F ρ w ss r} (h : execBlockG n F ρ w ss = r) (hnf : r.nf) : BlockE F ρ w ss r :=
  Ev1.of_run (fun k => (mono_all k).bl) h hnf
theorem StmtE.of_run {n F ρ w s r} (h : execG n F ρ w s = r) (hnf : r.nf) : StmtE F ρ w s r :=
  Ev1.of_run (fun k => (mono_all k).ex) h hnf

variable {F : GFile} {ρ : GEnv} {w : GWorld}

theorem BlockE.nil : BlockE F ρ w [] (.ok (ρ, .normal) w) :=
  Ev1.succ (by simp only [execBlockG_nil]; exact Ev1.const _)

theorem BlockE.nil_inv {r} (h : BlockE F ρ w [] r) : r = .ok (ρ, .normal) w := by
  obtain ⟨m, e⟩ := h
  have := e (m+1) (by omega)
  dsimp only at this
  rw [execBlockG_nil] at this
  exact this.symm

theorem BlockE.cons {s rest r1 r} (h1 : StmtE F ρ w s r1)
    (h2 : ∀ ρ1 w1, r1 = .ok (ρ1, .normal) w1 → BlockE F ρ1 w1 rest r)
    (h3 : (∀ ρ1 w1, r1 ≠ .ok (ρ1, .normal) w1) → r = r1) : BlockE F ρ w (s :: rest) r := by
  refine Ev1.succ ?_
  simp only [execBlockG_cons]
  cases r1 with
  | fail f w1 =>
    rw [h3 (fun _ _ e => by cases e)]
    exact Ev1.bind_fail h1
  | ok p w1 =>
    obtain ⟨ρ1, sig⟩ := p
    cases sig with
    | normal => exact Ev1.bind_ok h1 (h2 _ _ rfl)
    | brk =>
      rw [h3 (fun _ _ e => by cases e)]
      exact Ev1.bind_ok h1 (Ev1.const _)
    | ret v =>
      rw [h3 (fun _ _ e => by cases e)]
      exact Ev1.bind_ok h1 (Ev1.const _)

theorem BlockE.single {s r} (h : StmtE F ρ w s r) : BlockE F ρ w [s] r :=
  BlockE.cons h (fun _ _ e => e ▸ BlockE.nil) (fun _ => rfl)

theorem BlockE.cons_inv {s rest r} (h : BlockE F ρ w (s :: rest) r) (hnf : r.nf) :
    ∃ r1, StmtE F ρ w s r1 ∧ (∀ ρ1 w1, r1 = .ok (ρ1, .normal) w1 → BlockE F ρ1 w1 rest r) ∧
      ((∀ ρ1 w1, r1 ≠ .ok (ρ1, .normal) w1) → r = r1) := by
  obtain ⟨m, e⟩ := h
  have e1 := e (m+1) (by omega)
  dsimp only at e1
  rw [execBlockG_cons] at e1
  have hs : (execG m F ρ w s).nf := by
    cases hx : execG m F ρ w s with
    | ok p w1 => trivial
    | fail f w1 => rw [hx] at e1; subst e1; exact hnf
  refine ⟨_, .of_run rfl hs, fun ρ1 w1 e2 => ?_, fun hn => ?_⟩
  · rw [e2] at e1; exact .of_run e1 hnf
  · cases hx : execG m F ρ w s with
    | fail f w1 => rw [hx] at e1; exact e1.symm
    | ok p w1 =>
      obtain ⟨ρ1, sig⟩ := p
      rw [hx] at e1
      cases sig with
      | normal => exact absurd hx (hn _ _)
      | brk => exact e1.symm
      | ret v => exact e1.symm

theorem BlockE.single_inv {s r} (h : BlockE F ρ w [s] r) (hnf : r.nf) : StmtE F ρ w s r := by
  obtain ⟨r1, hs, h2, h3⟩ := BlockE.cons_inv h hnf
  cases r1 with
  | fail f w1 => rw [h3 (fun _ _ e => by cases e)]; exact hs
  | ok p w1 =>
    obtain ⟨ρ1, sig⟩ := p
    cases sig with
    | normal => rw [(h2 _ _ rfl).nil_inv]; exact hs
    | brk => rw [h3 (fun _ _ e => by cases e)]; exact hs
    | ret v => rw [h3 (fun _ _ e => by cases e)]; exact hs

theorem BlockE.append {b r} : ∀ {a ρ w ρ1 w1}, BlockE F ρ w a (.ok (ρ1, .normal) w1) → BlockE F ρ1 w1 b r →
    BlockE F ρ w (a ++ b) r
  | [], ρ, w, ρ1, w1, h1, h2 => by cases h1.nil_inv; exact h2
  | s :: a, ρ, w, ρ1, w1, h1, h2 => by
    obtain ⟨r1, hs, ha, h3⟩ := BlockE.cons_inv h1 trivial
    refine BlockE.cons hs (fun _ _ e => BlockE.append (ha _ _ e) h2) (fun hne => ?_)
    exact absurd (h3 hne).symm (hne _ _)

theorem BlockE.append_stop {b r} (hnf : r.nf) (hne : ∀ ρ1 w1, r ≠ .ok (ρ1, .normal) w1) :
    ∀ {a ρ w}, BlockE F ρ w a r → BlockE F ρ w (a ++ b) r
  | [], ρ, w, h => absurd h.nil_inv (hne _ _)
  | s :: a, ρ, w, h => by
    obtain ⟨r1, hs, ha, h3⟩ := BlockE.cons_inv h hnf
    exact BlockE.cons hs (fun _ _ e => BlockE.append_stop hnf hne (ha _ _ e)) h3

theorem NestE.of_block {ss r} (h : BlockE F ρ w ss r) : NestE F ρ w ss (r.bind (popG ρ.length)) :=
  Ev1.succ (by simp only [nestedG_eq]; exact Ev1.bind h fun _ _ _ => Ev1.const _)

theorem StmtE.loop_next {body ρ1 w1 r} (h1 : NestE F ρ w body (.ok (ρ1, .normal) w1))
    (h2 : StmtE F ρ1 w1 (.loop body) r) : StmtE F ρ w (.loop body) r :=
  Ev1.succ (by simp only [execG_loop]; exact Ev1.bind_ok h1 h2)

theorem StmtE.loop_fail {body f w1} (h1 : NestE F ρ w body (.fail f w1)) : StmtE F ρ w (.loop body) (.fail f w1) :=
  Ev1.succ (by simp only [execG_loop]; exact Ev1.bind_fail h1)

theorem StmtE.loop_brk {body ρ1 w1} (h1 : NestE F ρ w body (.ok (ρ1, .brk) w1)) :
    StmtE F ρ w (.loop body) (.ok (ρ1, .normal) w1) :=
  Ev1.succ (by simp only [execG_loop]; exact Ev1.bind_ok h1 (Ev1.const _))

theorem StmtE.loop_ret {body ρ1 v w1} (h1 : NestE F ρ w body (.ok (ρ1, .ret v) w1)) :
    StmtE F ρ w (.loop body) (.ok (ρ1, .ret v) w1) :=
  Ev1.succ (by simp only [execG_loop]; exact Ev1.bind_ok h1 (Ev1.const _))

end Goml.Go
