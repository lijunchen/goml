import GomlVerif.Lemmas.GoSemEv
/-!
Big-step rules of `Go.Sem` in fuel-free ("stable") form: each of `EvS`, `EvLS`, `EvFS`, `BlockS`, `StmtS`, `NestS`, `CallS`, `SwS`,
`TSwS` says of one interpreter function that it returns `r` for every sufficiently large fuel.  The rules here are those that more than
one later file uses (array, `go` and loop rules stand with their one user: `GoCompArr`, `GoCompStepC`, `GoSemEv`).  Most are one
equation of `Lemmas/GoSemEq.lean`, lifted to the stable form by `stable_succ` / `stable_step` / `stable_step₂` / `stable_step₃` (no,
one, two, three premises).  Used by the simulation proof of `Props/GoCompile.lean` and by the runs of the runtime helpers.
-/
namespace Goml.GoComp
open Goml Goml.Go

def EvS (F : GFile) (ρ : GEnv) (w : GWorld) (e : GExpr) (r : GRes GVal) : Prop :=
  ∃ m, ∀ k, m ≤ k → evalG k F ρ w e = r
def EvLS (F : GFile) (ρ : GEnv) (w : GWorld) (es : List GExpr) (r : GRes (List GVal)) : Prop :=
  ∃ m, ∀ k, m ≤ k → evalListG k F ρ w es = r
def BlockS (F : GFile) (ρ : GEnv) (w : GWorld) (ss : List GStmt) (r : GRes (GEnv × Sig)) : Prop :=
  ∃ m, ∀ k, m ≤ k → execBlockG k F ρ w ss = r
def StmtS (F : GFile) (ρ : GEnv) (w : GWorld) (s : GStmt) (r : GRes (GEnv × Sig)) : Prop :=
  ∃ m, ∀ k, m ≤ k → execG k F ρ w s = r
def NestS (F : GFile) (ρ : GEnv) (w : GWorld) (ss : List GStmt) (r : GRes (GEnv × Sig)) : Prop :=
  ∃ m, ∀ k, m ≤ k → nestedG k F ρ w ss = r
def CallS (F : GFile) (w : GWorld) (f : GVal) (args : List GVal) (r : GRes GVal) : Prop :=
  ∃ m, ∀ k, m ≤ k → callG k F w f args = r
def EvFS (F : GFile) (ρ : GEnv) (w : GWorld) (fs : List GField) (r : GRes (List (String × GVal))) : Prop :=
  ∃ m, ∀ k, m ≤ k → evalFieldsG k F ρ w fs = r
def SwS (F : GFile) (ρ : GEnv) (w : GWorld) (v : GVal) (cs : List GCase) (d : Option (List GStmt)) (r : GRes (GEnv × Sig)) : Prop :=
  ∃ m, ∀ k, m ≤ k → switchG k F ρ w v cs d = r
def TSwS (F : GFile) (ρ : GEnv) (w : GWorld) (v : GVal) (cs : List GTCase) (d : Option (List GStmt)) (r : GRes (GEnv × Sig)) : Prop :=
  ∃ m, ∀ k, m ≤ k → tswitchG k F ρ w v cs d = r

/-! A computation that is a fixed function of the fuel-`k` values of other computations once it has
fuel `k + 1` is stable as soon as they are: the shape of every rule below.  `EvS … TSwS` are `Go.Ev1` of the interpreter
function at hand (`Iff.rfl`), so these are `Ev1.succ` with the premises instantiated. -/

theorem stable_succ {β : Type} {g : Nat → GRes β} {b : GRes β} (h : ∀ k, g (k + 1) = b) : ∃ m, ∀ k, m ≤ k → g k = b :=
  Ev1.succ ⟨0, fun k _ => h k⟩

theorem stable_step {α β : Type} {f : Nat → α} {a : α} {g : Nat → GRes β} {b : GRes β} (hf : ∃ m, ∀ k, m ≤ k → f k = a)
    (h : ∀ k, f k = a → g (k + 1) = b) : ∃ m, ∀ k, m ≤ k → g k = b :=
  let ⟨m, hm⟩ := hf; Ev1.succ ⟨m, fun k hk => h k (hm k hk)⟩

theorem stable_step₂ {α₁ α₂ β : Type} {f₁ : Nat → α₁} {a₁ : α₁} {f₂ : Nat → α₂} {a₂ : α₂} {g : Nat → GRes β} {b : GRes β}
    (hf₁ : ∃ m, ∀ k, m ≤ k → f₁ k = a₁) (hf₂ : ∃ m, ∀ k, m ≤ k → f₂ k = a₂)
    (h : ∀ k, f₁ k = a₁ → f₂ k = a₂ → g (k + 1) = b) : ∃ m, ∀ k, m ≤ k → g k = b :=
  let ⟨m₁, hm₁⟩ := hf₁; let ⟨m₂, hm₂⟩ := hf₂
  Ev1.succ ⟨max m₁ m₂, fun k hk => h k (hm₁ k (by omega)) (hm₂ k (by omega))⟩

theorem stable_step₃ {α₁ α₂ α₃ β : Type} {f₁ : Nat → α₁} {a₁ : α₁} {f₂ : Nat → α₂} {a₂ : α₂} {f₃ : Nat → α₃} {a₃ : α₃}
    {g : Nat → GRes β} {b : GRes β} (hf₁ : ∃ m, ∀ k, m ≤ k → f₁ k = a₁) (hf₂ : ∃ m, ∀ k, m ≤ k → f₂ k = a₂)
    (hf₃ : ∃ m, ∀ k, m ≤ k → f₃ k = a₃) (h : ∀ k, f₁ k = a₁ → f₂ k = a₂ → f₃ k = a₃ → g (k + 1) = b) :
    ∃ m, ∀ k, m ≤ k → g k = b :=
  let ⟨m₁, hm₁⟩ := hf₁; let ⟨m₂, hm₂⟩ := hf₂; let ⟨m₃, hm₃⟩ := hf₃
  Ev1.succ ⟨max m₁ (max m₂ m₃), fun k hk => h k (hm₁ k (by omega)) (hm₂ k (by omega)) (hm₃ k (by omega))⟩

theorem ev_var_some {F ρ w x ty v} (h : lookupG ρ x = some v) : EvS F ρ w (.var x ty) (.ok v w) :=
  stable_succ fun k => by rw [evalG_var, h]

theorem ev_var_none {F ρ w x ty} (h : lookupG ρ x = none) : EvS F ρ w (.var x ty) (.ok (.func x) w) :=
  stable_succ fun k => by rw [evalG_var, h]

theorem ev_unitv {F ρ w ty} : EvS F ρ w (.unitv ty) (.ok .unit w) :=
  stable_succ fun k => by rw [evalG.eq_def]

theorem ev_bool {F ρ w b} : EvS F ρ w (.bool b) (.ok (.bool b) w) :=
  stable_succ fun k => by rw [evalG.eq_def]

theorem ev_str {F ρ w s} : EvS F ρ w (.str s) (.ok (.str s) w) :=
  stable_succ fun k => by rw [evalG.eq_def]

theorem ev_int {F ρ w text b s v} (h : text.toInt? = some v) :
    EvS F ρ w (.int text (.int b s)) (.ok (.int b s (Goml.Sem.wrap b s v)) w) :=
  stable_succ fun k => by rw [evalG.eq_def]; simp only [h]

theorem ev_not {F ρ w ty e b w'} (h : EvS F ρ w e (.ok (.bool b) w')) :
    EvS F ρ w (.un .not ty e) (.ok (.bool !b) w') :=
  stable_step h fun k hm => by rw [evalG_un, hm]; rfl

theorem ev_neg_int {F ρ w ty e n s x w'} (h : EvS F ρ w e (.ok (.int n s x) w')) :
    EvS F ρ w (.un .neg ty e) (.ok (.int n s (Goml.Sem.wrap n s (-x))) w') :=
  stable_step h fun k hm => by rw [evalG_un, hm]; rfl

theorem ev_fail_of {F ρ w e f w'} (h : ∀ k, evalG (k + 1) F ρ w e = .fail f w') : EvS F ρ w e (.fail f w') :=
  stable_succ h

/-- `&&` and `||`: the two operators `evalG` short-circuits, which have their own rules below -/
def isLogicG : GBin → Bool
  | .and => true
  | .or => true
  | _ => false

theorem ev_bin {F ρ w op ty l r a b w1 w2 v} (hop : isLogicG op = false)
    (hl : EvS F ρ w l (.ok a w1)) (hr : EvS F ρ w1 r (.ok b w2)) (hv : gbin op a b = .ok v) :
    EvS F ρ w (.bin op ty l r) (.ok v w2) :=
  stable_step₂ hl hr fun k h1 h2 => by
    rw [evalG_bin]
    cases op <;> simp [isLogicG] at hop <;> simp only [h1, h2, hv, GRes.bind_ok, gbinTail]

theorem ev_bin_err {F ρ w op ty l r a b w1 w2 f} (hop : isLogicG op = false)
    (hl : EvS F ρ w l (.ok a w1)) (hr : EvS F ρ w1 r (.ok b w2)) (hv : gbin op a b = .error f) :
    EvS F ρ w (.bin op ty l r) (.fail f w2) :=
  stable_step₂ hl hr fun k h1 h2 => by
    rw [evalG_bin]
    cases op <;> simp [isLogicG] at hop <;> simp only [h1, h2, hv, GRes.bind_ok, gbinTail]

theorem ev_and_false {F ρ w ty l r w1} (hl : EvS F ρ w l (.ok (.bool false) w1)) :
    EvS F ρ w (.bin .and ty l r) (.ok (.bool false) w1) :=
  stable_step hl fun k h1 => by rw [evalG_bin, h1]; rfl

theorem ev_and_true {F ρ w ty l r w1 b w2} (hl : EvS F ρ w l (.ok (.bool true) w1))
    (hr : EvS F ρ w1 r (.ok b w2)) : EvS F ρ w (.bin .and ty l r) (.ok b w2) :=
  stable_step₂ hl hr fun k h1 h2 => by rw [evalG_bin, h1]; exact h2

theorem ev_or_true {F ρ w ty l r w1} (hl : EvS F ρ w l (.ok (.bool true) w1)) :
    EvS F ρ w (.bin .or ty l r) (.ok (.bool true) w1) :=
  stable_step hl fun k h1 => by rw [evalG_bin, h1]; rfl

theorem ev_or_false {F ρ w ty l r w1 b w2} (hl : EvS F ρ w l (.ok (.bool false) w1))
    (hr : EvS F ρ w1 r (.ok b w2)) : EvS F ρ w (.bin .or ty l r) (.ok b w2) :=
  stable_step₂ hl hr fun k h1 h2 => by rw [evalG_bin, h1]; exact h2

theorem evl_nil {F ρ w} : EvLS F ρ w [] (.ok [] w) :=
  stable_succ fun k => evalListG_nil k _ _ _

theorem evl_cons {F ρ w e es v w1 vs w2} (h1 : EvS F ρ w e (.ok v w1)) (h2 : EvLS F ρ w1 es (.ok vs w2)) :
    EvLS F ρ w (e :: es) (.ok (v :: vs) w2) :=
  stable_step₂ h1 h2 fun k h1 h2 => by rw [evalListG_cons, h1, GRes.bind_ok, h2]; rfl

theorem ev_call {F ρ w ty f args fv w1 vs w2 r} (hf : EvS F ρ w f (.ok fv w1))
    (ha : EvLS F ρ w1 args (.ok vs w2)) (hc : CallS F w2 fv vs r) : EvS F ρ w (.call ty f args) r :=
  stable_step₃ hf ha hc fun k h1 h2 h3 => by rw [evalG_call, h1, GRes.bind_ok, h2, GRes.bind_ok, h3]

theorem evf_nil {F ρ w} : EvFS F ρ w [] (.ok [] w) :=
  stable_succ fun k => evalFieldsG_nil k _ _ _

theorem evf_cons {F ρ w n e rest v w1 vs w2} (h1 : EvS F ρ w e (.ok v w1)) (h2 : EvFS F ρ w1 rest (.ok vs w2)) :
    EvFS F ρ w (.mk n e :: rest) (.ok ((n, v) :: vs) w2) :=
  stable_step₂ h1 h2 fun k h1 h2 => by rw [evalFieldsG_cons, h1, GRes.bind_ok, h2]; rfl

/-- what a composite literal of a named type evaluates to, given its evaluated fields -/
def slitValue (F : GFile) (name : String) (fs : List (String × GVal)) : GVal :=
  .struct name (match F.structFields name with
    | some decl => decl.map fun (f, t) => (f, (lookupG fs f).getD (zero F t))
    | none => fs)

theorem ev_slit_name {F ρ w name fields fs w'} (hf : EvFS F ρ w fields (.ok fs w')) :
    EvS F ρ w (.slit (.name name) fields) (.ok (slitValue F name fs) w') :=
  stable_step hf fun k hm => by
    rw [evalG_slit, hm]; rfl

theorem ev_slit_struct {F ρ w name tfs fields fs w'} (hf : EvFS F ρ w fields (.ok fs w')) :
    EvS F ρ w (.slit (.struct name tfs) fields) (.ok (slitValue F name fs) w') :=
  stable_step hf fun k hm => by
    rw [evalG_slit, hm]; rfl

theorem ev_field_struct {F ρ w f ty obj n fs v w'} (h : EvS F ρ w obj (.ok (.struct n fs) w'))
    (hl : lookupG fs f = some v) : EvS F ρ w (.field f ty obj) (.ok v w') :=
  stable_step h fun k hm => by rw [evalG_field, hm]; simp only [GRes.bind_ok, fieldTail, hl]

/- `hlen` is an auto-param: the callers pass a concrete helper `fn` and literal argument lists, so `rfl` closes it. -/
theorem call_func_env {F w name args fn ρ r0 r} (hf : F.findFunc name = some fn)
    (hρ : (fn.params.zip args).map (fun ((x, _), v) => (x, v)) = ρ)
    (hb : BlockS F ρ w fn.body r0) (hr : retOfB r0 = r)
    (hlen : fn.params.length = args.length := by first | rfl | decide | simp) : CallS F w (.func name) args r := by
  subst hρ; subst hr
  exact stable_step hb fun k hm => by rw [callG_some hf hlen]; exact congrArg retOfB hm

/- `BlockS … NestS` unfold to `Go.BlockE … NestE`: the block rules are those of `Lemmas/GoSemEv`, under the names and in the
   special cases the simulation uses. -/

theorem block_nil {F ρ w} : BlockS F ρ w [] (.ok (ρ, .normal) w) := BlockE.nil

theorem block_cons {F ρ w s rest ρ1 w1 r} (h1 : StmtS F ρ w s (.ok (ρ1, .normal) w1))
    (h2 : BlockS F ρ1 w1 rest r) : BlockS F ρ w (s :: rest) r :=
  BlockE.cons h1 (fun _ _ e => by cases e; exact h2) (fun hn => absurd rfl (hn _ _))

theorem block_cons_fail {F ρ w s rest f w1} (h1 : StmtS F ρ w s (.fail f w1)) :
    BlockS F ρ w (s :: rest) (.fail f w1) :=
  BlockE.cons h1 (fun _ _ e => by cases e) (fun _ => rfl)

theorem block_cons_sig {F ρ w s rest ρ1 sig w1} (hs : sig ≠ .normal)
    (h1 : StmtS F ρ w s (.ok (ρ1, sig) w1)) : BlockS F ρ w (s :: rest) (.ok (ρ1, sig) w1) :=
  BlockE.cons h1 (fun _ _ e => by cases e; exact absurd rfl hs) (fun _ => rfl)

theorem block_append {F a b r ρ w ρ1 w1} (h1 : BlockS F ρ w a (.ok (ρ1, .normal) w1)) (h2 : BlockS F ρ1 w1 b r) :
    BlockS F ρ w (a ++ b) r := BlockE.append h1 h2

theorem block_append_panic {F a b k w1 ρ w} (h : BlockS F ρ w a (.fail (.panic k) w1)) :
    BlockS F ρ w (a ++ b) (.fail (.panic k) w1) :=
  BlockE.append_stop ((nf_fail _ _).mpr (by simp)) (fun _ _ e => by cases e) h

/-! A statement that runs one expression and then acts on its value: one rule for every result `r` of the expression (a failure is
passed on: `GRes.bind`). -/

theorem stmt_varDecl_some {F ρ w x ty e r} (hab : absurdTy ty = false) (h : EvS F ρ w e r) :
    StmtS F ρ w (.varDecl x ty (some e)) (r.bind fun v w => .ok ((x, v) :: ρ, .normal) w) :=
  stable_step h fun k hm => by rw [execG_varDecl]; simp [hab, hm]

theorem stmt_varDecl_none {F ρ w x ty} (hab : absurdTy ty = false) :
    StmtS F ρ w (.varDecl x ty none) (.ok ((x, zero F ty) :: ρ, .normal) w) :=
  stable_succ fun k => by rw [execG_varDecl]; simp [hab]

theorem stmt_assign {F ρ w x e r} (hx : x ≠ "_") (h : EvS F ρ w e r) :
    StmtS F ρ w (.assign x e) (r.bind fun v w => .ok (updateG ρ x v, .normal) w) :=
  stable_step h fun k hm => by rw [execG_assign, hm]; simp [hx]

theorem stmt_expr {F ρ w e r} (h : EvS F ρ w e r) : StmtS F ρ w (.expr e) (r.bind fun _ w => .ok (ρ, .normal) w) :=
  stable_step h fun k hm => by rw [execG_expr, hm]

theorem stmt_ret {F ρ w e r} (h : EvS F ρ w e r) : StmtS F ρ w (.ret (some e)) (r.bind fun v w => .ok (ρ, .ret v) w) :=
  stable_step h fun k hm => by rw [execG_ret]; simp only [hm]

theorem stmt_brk {F ρ w} : StmtS F ρ w .brk (.ok (ρ, .brk) w) :=
  stable_succ fun k => execG_brk k _ _ _

theorem nest_of_block {F ρ w ss r} (h : BlockS F ρ w ss r) : NestS F ρ w ss (r.bind (popG ρ.length)) := NestE.of_block h

theorem stmt_ite_true {F ρ w c t e w' r} (hc : EvS F ρ w c (.ok (.bool true) w')) (ht : NestS F ρ w' t r) :
    StmtS F ρ w (.ite c t e) r :=
  stable_step₂ hc ht fun k h1 h2 => by rw [execG_ite, h1]; exact h2

theorem stmt_ite_false {F ρ w c t e w' r} (hc : EvS F ρ w c (.ok (.bool false) w')) (he : NestS F ρ w' e r) :
    StmtS F ρ w (.ite c t (some e)) r :=
  stable_step₂ hc he fun k h1 h2 => by rw [execG_ite, h1]; exact h2

theorem stmt_ite_false_none {F ρ w c t w'} (hc : EvS F ρ w c (.ok (.bool false) w')) :
    StmtS F ρ w (.ite c t none) (.ok (ρ, .normal) w') :=
  stable_step hc fun k h1 => by rw [execG_ite, h1]; rfl

theorem sw_nil_some {F ρ w v d r} (h : NestS F ρ w d r) : SwS F ρ w v [] (some d) r :=
  stable_step h fun k hm => by rw [switchG_nil]; exact hm

theorem sw_nil_none {F ρ w v} : SwS F ρ w v [] none (.ok (ρ, .normal) w) :=
  stable_succ fun k => switchG_nil k _ _ _ _ _

theorem sw_cons_hit {F ρ w v ce body rest d cv r} (hc : EvS F ρ w ce (.ok cv w)) (hq : (gvalEq cv v).getD false = true)
    (hb : NestS F ρ w body r) : SwS F ρ w v (.mk ce body :: rest) d r :=
  stable_step₂ hc hb fun k h1 h2 => by rw [switchG_cons, h1]; simp only [GRes.bind_ok, hq, if_true, h2]

theorem sw_cons_miss {F ρ w v ce body rest d cv r} (hc : EvS F ρ w ce (.ok cv w)) (hq : (gvalEq cv v).getD false = false)
    (hb : SwS F ρ w v rest d r) : SwS F ρ w v (.mk ce body :: rest) d r :=
  stable_step₂ hc hb fun k h1 h2 => by
    rw [switchG_cons, h1]; simp only [GRes.bind_ok, hq, Bool.false_eq_true, if_false, h2]

theorem stmt_switch {F ρ w e cs d v w' r} (he : EvS F ρ w e (.ok v w')) (hs : SwS F ρ w' v cs d r) :
    StmtS F ρ w (.switch e cs d) r :=
  stable_step₂ he hs fun k h1 h2 => by rw [execG_switch, h1]; exact h2

theorem tsw_nil_some {F ρ w v d r} (h : NestS F ρ w d r) : TSwS F ρ w v [] (some d) r :=
  stable_step h fun k hm => by rw [tswitchG_nil]; exact hm

theorem tsw_nil_none {F ρ w v} : TSwS F ρ w v [] none (.ok (ρ, .normal) w) :=
  stable_succ fun k => tswitchG_nil k _ _ _ _ _

theorem tsw_cons_hit {F ρ w v ty body rest d r} (hq : tsHitG ty v = true)
    (hb : NestS F ρ w body r) : TSwS F ρ w v (.mk ty body :: rest) d r :=
  stable_step hb fun k h2 => by rw [tswitchG_cons, hq, if_pos rfl]; exact h2

theorem tsw_cons_miss {F ρ w v ty body rest d r} (hq : tsHitG ty v = false)
    (hb : TSwS F ρ w v rest d r) : TSwS F ρ w v (.mk ty body :: rest) d r :=
  stable_step hb fun k h2 => by rw [tswitchG_cons, hq, if_neg (by simp)]; exact h2

/-- a type switch `switch b := e.(type)`: the clauses run with `b` bound, the binding is popped -/
theorem stmt_tswitch {F ρ w b e cs d v w' r} (hb : b ≠ "_") (he : EvS F ρ w e (.ok v w'))
    (hs : TSwS F ((b, v) :: ρ) w' v cs d r) : StmtS F ρ w (.tswitch (some b) e cs d) (r.bind (popG ρ.length)) :=
  stable_step₂ he hs fun k h1 h2 => by
    have hb' : (b == "_") = false := by simpa using hb
    rw [execG_tswitch, h1]; simp only [GRes.bind_ok, bindEnvG, hb', Bool.false_eq_true, if_false, h2]

theorem EvS.unique {F ρ w e r1 r2} (h1 : EvS F ρ w e r1) (h2 : EvS F ρ w e r2) : r1 = r2 := by
  obtain ⟨m1, h1⟩ := h1
  obtain ⟨m2, h2⟩ := h2
  rw [← h1 (max m1 m2) (by omega), ← h2 (max m1 m2) (by omega)]

theorem BlockS.unique {F ρ w ss r1 r2} (h1 : BlockS F ρ w ss r1) (h2 : BlockS F ρ w ss r2) : r1 = r2 := by
  obtain ⟨m1, h1⟩ := h1
  obtain ⟨m2, h2⟩ := h2
  rw [← h1 (max m1 m2) (by omega), ← h2 (max m1 m2) (by omega)]

theorem CallS.exists {F w f args r} (h : CallS F w f args r) : ∃ m, callG m F w f args = r :=
  Ev1.run h

end Goml.GoComp
