import GomlVerif.Lemmas.GoSemEnv
import GomlVerif.Lemmas.DceSyntax
import GomlVerif.Lemmas.ListFacts
/-!
Frame lemma for the statements of `Go.Sem`: running statements leaves the entries of the environment it started
from in place (same keys, position by position) and changes only the values of the names the statements assign.
A nested block (`nestedG`, the branches of `switchG` / `tswitchG`) returns exactly that environment; a statement or
a statement list run in the current scope (`execG`, `execBlockG`) returns it with the entries it declared in front.
-/
namespace Goml.Dce
open Goml.Go Goml.Sem

/-- same keys position by position; values equal except for keys in `W` -/
inductive FrameEq (W : Names) : GEnv → GEnv → Prop
  | nil : FrameEq W [] []
  | cons {x : String} {v v' : GVal} {ρ ρ' : GEnv} :
      (¬ x ∈ W → v = v') → FrameEq W ρ ρ' → FrameEq W ((x, v) :: ρ) ((x, v') :: ρ')

theorem FrameEq.refl (W : Names) : ∀ ρ : GEnv, FrameEq W ρ ρ
  | [] => .nil
  | (_, _) :: ρ => .cons (fun _ => rfl) (FrameEq.refl W ρ)

theorem FrameEq.mono {W W' : Names} (hs : ∀ x ∈ W, x ∈ W') : ∀ {ρ ρ' : GEnv}, FrameEq W ρ ρ' → FrameEq W' ρ ρ'
  | _, _, .nil => .nil
  | _, _, .cons h t => .cons (fun hx => h (fun hw => hx (hs _ hw))) (FrameEq.mono hs t)

theorem FrameEq.trans {W : Names} : ∀ {ρ1 ρ2 ρ3 : GEnv}, FrameEq W ρ1 ρ2 → FrameEq W ρ2 ρ3 → FrameEq W ρ1 ρ3
  | _, _, _, .nil, .nil => .nil
  | _, _, _, .cons h1 t1, .cons h2 t2 => .cons (fun hx => (h1 hx).trans (h2 hx)) (FrameEq.trans t1 t2)

theorem FrameEq.length {W : Names} : ∀ {ρ ρ' : GEnv}, FrameEq W ρ ρ' → ρ.length = ρ'.length
  | _, _, .nil => rfl
  | _, _, .cons _ t => by simp [FrameEq.length t]

theorem FrameEq.keys {W : Names} : ∀ {ρ ρ' : GEnv}, FrameEq W ρ ρ' → keys ρ' = keys ρ
  | _, _, .nil => rfl
  | _, _, .cons _ t => by simp [FrameEq.keys t]

theorem FrameEq.lookup {W : Names} {y : String} (hy : ¬ y ∈ W) : ∀ {ρ ρ' : GEnv}, FrameEq W ρ ρ' →
    lookupG ρ y = lookupG ρ' y
  | _, _, .nil => rfl
  | _, _, .cons (x := x) h t => by
    unfold lookupG
    simp only [List.find?_cons]
    by_cases hxy : x = y
    · subst hxy; simp [h hy]
    · have : (x == y) = false := by simp [hxy]
      simp only [this]
      have := FrameEq.lookup hy t
      unfold lookupG at this
      exact this

theorem frame_update (x : String) (v : GVal) : ∀ ρ : GEnv, FrameEq [x] ρ (updateG ρ x v)
  | [] => .nil
  | (y, w) :: rest => by
    unfold updateG
    by_cases h : y = x
    · subst h
      simp
      exact .cons (fun hx => absurd (List.mem_singleton.mpr rfl) hx) (FrameEq.refl _ _)
    · have : (y == x) = false := by simp [h]
      simp only [this]
      exact .cons (fun _ => rfl) (frame_update x v rest)

set_option hygiene false in
/-- in the hypothesis named `h` (the macro is unhygienic on purpose: it refers to that name) of the form `… = .ok …`,
    case on the result of a sub-call: failure is impossible.  No proof uses it: the proofs below take such a hypothesis
    apart with `GRes.bind_eq_ok`. -/
macro "ocall " hx:ident v:ident w:ident " : " t0:term : tactic => `(tactic|
  (cases $hx:ident : $t0
   rotate_left
   next => (rw [$hx:ident] at h; simp only at h; first | cases h | skip)
   rename_i $v:ident $w:ident
   rw [$hx:ident] at h; try simp only at h))

def writesOpt : Option (List GStmt) → Names
  | some b => writesStmts b
  | none => []

theorem writes_ite (c : GExpr) (t : List GStmt) (d : Option (List GStmt)) :
    writesStmt (.ite c t d) = uni (writesStmts t) (writesOpt d) := by
  cases d <;> simp [writesStmt, writesOpt]

theorem writes_switch (e : GExpr) (cs : List GCase) (d : Option (List GStmt)) :
    writesStmt (.switch e cs d) = uni (writesCases cs) (writesOpt d) := by
  cases d <;> simp [writesStmt, writesOpt]

theorem writes_tswitch (bind : Option String) (e : GExpr) (cs : List GTCase) (d : Option (List GStmt)) :
    writesStmt (.tswitch bind e cs d) = uni (writesTCases cs) (writesOpt d) := by
  cases d <;> simp [writesStmt, writesOpt]

/-- the frame property at fuel `n` of the five functions that run statements -/
structure FrameAt (n : Nat) : Prop where
  bl : ∀ {F ρ w ss ρ' sig w'}, execBlockG n F ρ w ss = .ok (ρ', sig) w' →
        ∃ pre ρ'', ρ' = pre ++ ρ'' ∧ FrameEq (writesStmts ss) ρ ρ'' ∧ ∀ x ∈ pre.map (·.1), x ∈ declTop ss
  ne : ∀ {F ρ w ss ρ' sig w'}, nestedG n F ρ w ss = .ok (ρ', sig) w' → FrameEq (writesStmts ss) ρ ρ'
  ex : ∀ {F ρ w s ρ' sig w'}, execG n F ρ w s = .ok (ρ', sig) w' →
        ∃ pre ρ'', ρ' = pre ++ ρ'' ∧ FrameEq (writesStmt s) ρ ρ'' ∧ pre.map (·.1) = declScope s []
  sw : ∀ {F ρ w v cs d ρ' sig w'}, switchG n F ρ w v cs d = .ok (ρ', sig) w' →
        FrameEq (uni (writesCases cs) (writesOpt d)) ρ ρ'
  ts : ∀ {F ρ w v cs d ρ' sig w'}, tswitchG n F ρ w v cs d = .ok (ρ', sig) w' →
        FrameEq (uni (writesTCases cs) (writesOpt d)) ρ ρ'

theorem frame_opt {n : Nat} (ih : FrameAt n) {F ρ w d ρ' sig w'}
    (h : runOptG n F ρ w d = .ok (ρ', sig) w') : FrameEq (writesOpt d) ρ ρ' := by
  cases d with
  | none => cases h; exact FrameEq.refl _ _
  | some b => exact ih.ne h

theorem frame0 : FrameAt 0 := by
  constructor <;> intros <;> simp_all [execBlockG_zero, nestedG_zero, execG_zero, switchG_zero, tswitchG_zero]

theorem FrameEq.split_prefix {W : Names} : ∀ (a b c : GEnv), FrameEq W (a ++ b) c →
    ∃ c1 c2, c = c1 ++ c2 ∧ FrameEq W b c2 ∧ c1.map (·.1) = a.map (·.1)
  | [], b, c, hf => ⟨[], c, rfl, hf, rfl⟩
  | hd :: tl, b, c, hf => by
    cases hf with
    | cons hv ht =>
      obtain ⟨c1, c2, ec, fc, hk⟩ := FrameEq.split_prefix tl b _ ht
      exact ⟨(_, _) :: c1, c2, by rw [ec]; rfl, fc, by simp [hk]⟩

theorem frameB (n : Nat) (ih : FrameAt n) {F ρ w ss ρ' sig w'}
    (h : execBlockG (n+1) F ρ w ss = .ok (ρ', sig) w') :
    ∃ pre ρ'', ρ' = pre ++ ρ'' ∧ FrameEq (writesStmts ss) ρ ρ'' ∧ ∀ x ∈ pre.map (·.1), x ∈ declTop ss := by
  cases ss with
  | nil =>
    rw [execBlockG_nil] at h
    cases h
    exact ⟨[], ρ, rfl, FrameEq.refl _ _, by simp⟩
  | cons s rest =>
    rw [execBlockG_cons] at h
    obtain ⟨⟨ρ1, sig1⟩, w1, h1, h⟩ := GRes.bind_eq_ok h
    obtain ⟨pre1, ρ1'', e1, f1, hk1⟩ := ih.ex h1
    have f1' : FrameEq (writesStmts (s :: rest)) ρ ρ1'' :=
      f1.mono (fun x hx => by simp [writesStmts, hx])
    have hpre1 : ∀ x ∈ pre1.map (·.1), x ∈ declTop (s :: rest) := by
      intro x hx; rw [hk1] at hx; exact (declTop_cons s rest x).mpr (Or.inl hx)
    cases sig1 <;> simp only at h
    · obtain ⟨pre2, ρ2'', e2, f2, hk2⟩ := ih.bl h
      subst e1
      have f2' : FrameEq (writesStmts (s :: rest)) (pre1 ++ ρ1'') ρ2'' :=
        f2.mono (fun x hx => by simp [writesStmts, hx])
      obtain ⟨c1, c2, ec, fc, hc⟩ := FrameEq.split_prefix pre1 ρ1'' ρ2'' f2'
      refine ⟨pre2 ++ c1, c2, by rw [e2, ec, List.append_assoc], f1'.trans fc, ?_⟩
      intro x hx
      simp only [List.map_append, List.mem_append] at hx
      rcases hx with hx | hx
      · exact (declTop_cons s rest x).mpr (Or.inr (hk2 x hx))
      · rw [hc] at hx; exact hpre1 x hx
    · cases h; exact ⟨pre1, ρ1'', e1, f1', hpre1⟩
    · cases h; exact ⟨pre1, ρ1'', e1, f1', hpre1⟩

theorem frameN (n : Nat) (ih : FrameAt n) {F ρ w ss ρ' sig w'}
    (h : nestedG (n+1) F ρ w ss = .ok (ρ', sig) w') : FrameEq (writesStmts ss) ρ ρ' := by
  rw [nestedG_eq] at h
  obtain ⟨⟨ρ1, sig1⟩, w1, h1, h⟩ := GRes.bind_eq_ok h
  obtain ⟨pre, ρ'', e1, f1, _⟩ := ih.bl h1
  cases h
  subst e1
  show FrameEq _ ρ ((pre ++ ρ'').drop _)
  rw [drop_append_len pre ρ'' ρ.length f1.length.symm]
  exact f1

theorem frameS (n : Nat) (ih : FrameAt n) {F ρ w v cs d ρ' sig w'}
    (h : switchG (n+1) F ρ w v cs d = .ok (ρ', sig) w') :
    FrameEq (uni (writesCases cs) (writesOpt d)) ρ ρ' := by
  cases cs with
  | nil =>
    rw [switchG_nil] at h
    exact (frame_opt ih h).mono (fun x hx => by simp [hx])
  | cons c rest =>
    cases c with
    | mk ce body =>
      rw [switchG_cons] at h
      obtain ⟨cv, w1, _, h⟩ := GRes.bind_eq_ok h
      split at h
      · exact (ih.ne h).mono (fun x hx => by simp [writesCases, hx])
      · exact (ih.sw h).mono (fun x hx => by
          simp only [mem_uni, writesCases] at hx ⊢
          rcases hx with hx | hx
          · exact Or.inl (Or.inr hx)
          · exact Or.inr hx)

theorem frameT (n : Nat) (ih : FrameAt n) {F ρ w v cs d ρ' sig w'}
    (h : tswitchG (n+1) F ρ w v cs d = .ok (ρ', sig) w') :
    FrameEq (uni (writesTCases cs) (writesOpt d)) ρ ρ' := by
  cases cs with
  | nil =>
    rw [tswitchG_nil] at h
    exact (frame_opt ih h).mono (fun x hx => by simp [hx])
  | cons c rest =>
    cases c with
    | mk ty body =>
      rw [tswitchG_cons] at h
      split at h
      · exact (ih.ne h).mono (fun x hx => by simp [writesTCases, hx])
      · exact (ih.ts h).mono (fun x hx => by
          simp only [mem_uni, writesTCases] at hx ⊢
          rcases hx with hx | hx
          · exact Or.inl (Or.inr hx)
          · exact Or.inr hx)

theorem frameX (n : Nat) (ih : FrameAt n) {F ρ w s ρ' sig w'}
    (h : execG (n+1) F ρ w s = .ok (ρ', sig) w') :
    ∃ pre ρ'', ρ' = pre ++ ρ'' ∧ FrameEq (writesStmt s) ρ ρ'' ∧ pre.map (·.1) = declScope s [] := by
  have same : ∀ {W}, ρ' = ρ → ∃ pre ρ'', ρ' = pre ++ ρ'' ∧ FrameEq W ρ ρ'' ∧ pre.map (·.1) = ([] : Names) :=
    fun e => ⟨[], ρ, by simp [e], FrameEq.refl _ _, rfl⟩
  have upd : ∀ {W}, FrameEq W ρ ρ' → ∃ pre ρ'', ρ' = pre ++ ρ'' ∧ FrameEq W ρ ρ'' ∧ pre.map (·.1) = ([] : Names) :=
    fun f => ⟨[], ρ', by simp, f, rfl⟩
  cases s with
  | expr e =>
    rw [execG_expr] at h
    obtain ⟨_, _, _, h⟩ := GRes.bind_eq_ok h
    cases h; exact same rfl
  | go c =>
    rw [execG_go] at h
    cases c <;> first | cases h | skip
    obtain ⟨fv, w1, _, h⟩ := GRes.bind_eq_ok h
    obtain ⟨vs, w2, _, h⟩ := GRes.bind_eq_ok h
    split at h
    · obtain ⟨_, _, _, h⟩ := GRes.bind_eq_ok h
      cases h; exact same rfl
    · cases h; exact same rfl
  | varDecl x ty v =>
    rw [execG_varDecl] at h
    split at h
    · cases h
    · cases v with
      | none => cases h; exact ⟨[(x, zero F ty)], ρ, rfl, FrameEq.refl _ _, rfl⟩
      | some e =>
        obtain ⟨v1, _, _, h⟩ := GRes.bind_eq_ok h
        cases h
        exact ⟨[(x, v1)], ρ, rfl, FrameEq.refl _ _, rfl⟩
  | assign x e =>
    rw [execG_assign] at h
    obtain ⟨v1, _, _, h⟩ := GRes.bind_eq_ok h
    by_cases hx : (x == "_") = true
    · simp only [hx, if_true] at h; cases h; exact same rfl
    · simp only [hx, if_false, Bool.false_eq_true] at h; cases h
      exact upd (by simpa [writesStmt] using frame_update x v1 ρ)
  | fieldAssign t e =>
    rw [execG_fieldAssign] at h
    cases t <;> first | cases h | skip
    obtain ⟨ov, w1, h1, h⟩ := GRes.bind_eq_ok h
    obtain ⟨v2, w2, h2, h⟩ := GRes.bind_eq_ok h
    unfold fieldStore at h
    split at h
    · split at h
      · cases h; exact same rfl
      · cases h
    · cases h
      exact upd ((frame_update _ _ ρ).mono (by simp [writesStmt, varsUsed]))
    · cases h
    · cases h
  | ptrAssign p e =>
    rw [execG_ptrAssign] at h
    obtain ⟨pv, w1, _, h⟩ := GRes.bind_eq_ok h
    split at h
    · obtain ⟨_, _, _, h⟩ := GRes.bind_eq_ok h
      cases h; exact same rfl
    · cases h
    · cases h
  | indexAssign a idx e =>
    rw [execG_indexAssign] at h
    cases a <;> first | cases h | skip
    rename_i x t
    obtain ⟨iv, w1, _, h⟩ := GRes.bind_eq_ok h
    split at h
    · obtain ⟨v2, w2, _, h⟩ := GRes.bind_eq_ok h
      split at h
      · cases h
      · cases h
        exact upd ((frame_update x _ ρ).mono (by simp [writesStmt, varsUsed]))
    · cases h
  | ret e =>
    rw [execG_ret] at h
    cases e with
    | none => cases h; exact same rfl
    | some e =>
      obtain ⟨_, _, _, h⟩ := GRes.bind_eq_ok h
      cases h; exact same rfl
  | ite c t e =>
    rw [execG_ite] at h
    obtain ⟨cv, w1, _, h⟩ := GRes.bind_eq_ok h
    split at h
    · exact upd ((ih.ne h).mono (fun y hy => by simp [writes_ite, hy]))
    · exact upd ((frame_opt ih h).mono (fun y hy => by simp [writes_ite, hy]))
    · cases h
  | loop body =>
    rw [execG_loop] at h
    obtain ⟨⟨ρ1, sig1⟩, w1, h1, h⟩ := GRes.bind_eq_ok h
    have f1 := ih.ne h1
    cases sig1 <;> simp only at h
    · obtain ⟨pre, ρ'', e2, f2, hp⟩ := ih.ex h
      simp only [declScope] at hp
      have : pre = [] := by simpa using hp
      subst this
      simp only [List.nil_append] at e2
      subst e2
      exact upd ((f1.mono (fun y hy => by simp [writesStmt, hy])).trans f2)
    · cases h; exact upd (f1.mono (fun y hy => by simp [writesStmt, hy]))
    · cases h; exact upd (f1.mono (fun y hy => by simp [writesStmt, hy]))
  | brk => rw [execG_brk] at h; cases h; exact same rfl
  | «switch» e cs d =>
    rw [execG_switch] at h
    obtain ⟨v1, w1, _, h⟩ := GRes.bind_eq_ok h
    exact upd (by rw [writes_switch]; exact ih.sw h)
  | tswitch bind e cs d =>
    rw [execG_tswitch] at h
    obtain ⟨v1, w1, _, h⟩ := GRes.bind_eq_ok h
    obtain ⟨⟨ρ2, sig2⟩, w2, h2, h⟩ := GRes.bind_eq_ok h
    have f2 := ih.ts h2
    have hW : ∀ y, y ∈ uni (writesTCases cs) (writesOpt d) → y ∈ writesStmt (.tswitch bind e cs d) := by
      intro y hy; rw [writes_tswitch]; exact hy
    simp only [popG] at h
    cases h
    -- the clauses ran in `ρ` with at most the binding in front; popping to `ρ.length` entries removes it
    have plain : FrameEq (uni (writesTCases cs) (writesOpt d)) ρ ρ2 →
        ∃ pre ρ'', List.drop (ρ2.length - ρ.length) ρ2 = pre ++ ρ'' ∧
          FrameEq (writesStmt (.tswitch bind e cs d)) ρ ρ'' ∧ pre.map (·.1) = declScope (.tswitch bind e cs d) [] :=
      fun f => by
        rw [show ρ2.length - ρ.length = 0 by rw [f.length]; simp]
        exact ⟨[], ρ2, by simp, f.mono hW, rfl⟩
    cases bind with
    | none => exact plain f2
    | some b =>
      by_cases hb : (b == "_") = true
      · exact plain (by simpa only [bindEnvG, hb, if_true] using f2)
      · simp only [bindEnvG, hb, if_false, Bool.false_eq_true] at f2
        cases f2 with
        | cons hv ht =>
          rename_i v2 ρ3 _
          rw [show ((b, v2) :: ρ3).length - ρ.length = 1 by rw [List.length_cons, ht.length]; omega]
          exact ⟨[], ρ3, by simp, ht.mono hW, rfl⟩

theorem frame_all : ∀ n, FrameAt n
  | 0 => frame0
  | n + 1 =>
    have ih := frame_all n
    { bl := frameB n ih, ne := frameN n ih, ex := frameX n ih, sw := frameS n ih, ts := frameT n ih }

end Goml.Dce
