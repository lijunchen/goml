import GomlVerif.Lemmas.ValTyBasic
/-!
The dispatch key of a well-typed value determines its type among the keyable types (C03 / C07: static dispatch
for receivers of parametric type): `key_determines`.
-/
namespace Goml.ValTy
open Goml Goml.Sem Goml.Wt Goml.Mono

variable {S : Sig} {P : Prog}

theorem scalar_table : (scalarTys.all fun a => scalarTys.all fun b => !(tyKey a == tyKey b) || tyBeq a b) = true := by
  decide +kernel

theorem scalar_noQ : (scalarTys.all fun a => !(tyKey a == "?")) = true := by decide +kernel

theorem scalar_inj {a b : Ty} (ha : a ∈ scalarTys) (hb : b ∈ scalarTys) (h : tyKey a = tyKey b) : a = b := by
  have := scalar_table
  simp only [List.all_eq_true] at this
  have := this a ha b hb
  simp only [h, beq_self_eq_true, Bool.not_true, Bool.false_or] at this
  exact (tyBeq_iff a b).1 this

theorem isScalar_mem {t : Ty} (h : isScalarTy t = true) : t ∈ scalarTys := by
  unfold isScalarTy at h
  simp only [List.any_eq_true] at h
  obtain ⟨u, hu, htu⟩ := h
  have := (tyBeq_iff t u).1 htu
  subst this; exact hu

theorem scalar_key_reserved {t : Ty} (h : t ∈ scalarTys) : tyKey t ∈ reservedKeys := by
  unfold reservedKeys
  exact List.mem_cons_of_mem _ (List.mem_map_of_mem h)

theorem scalar_key_noQ {t : Ty} (h : t ∈ scalarTys) : tyKey t ≠ "?" := by
  have := scalar_noQ
  simp only [List.all_eq_true] at this
  have := this t h
  simpa using this

theorem int_scalar {b : Nat} (s : Bool) (h : okWidth b = true) : Ty.int b s ∈ scalarTys := by
  simp only [okWidth, Bool.or_eq_true, beq_iff_eq] at h
  rcases h with ((rfl | rfl) | rfl) | rfl <;> cases s <;> simp [scalarTys]

theorem float_scalar {b : Nat} (h : okFWidth b = true) : Ty.float b ∈ scalarTys := by
  simp only [okFWidth, Bool.or_eq_true, beq_iff_eq] at h
  rcases h with rfl | rfl <;> simp [scalarTys]

theorem namesOk_enum (hn : namesOk S = true) {n : String} {d : EnumDef} (h : findEnum S.enums n = some d) :
    n ∉ reservedKeys ∧ findStruct S.structs n = none := by
  unfold namesOk at hn
  simp only [Bool.and_eq_true, List.all_eq_true] at hn
  have hm := findEnum_mem h
  have := hn.1 d hm
  rw [findEnum_name h] at this
  simp only [Bool.not_eq_true', Option.isNone_iff_eq_none] at this
  refine ⟨?_, this.2⟩
  intro hc
  have hc' : reservedKeys.contains n = true := by simpa using hc
  rw [this.1] at hc'
  cases hc'

theorem namesOk_struct (hn : namesOk S = true) {n : String} {d : StructDef} (h : findStruct S.structs n = some d) :
    n ∉ reservedKeys := by
  unfold namesOk at hn
  simp only [Bool.and_eq_true, List.all_eq_true] at hn
  have hm := findStruct_mem h
  have := hn.2 d hm
  rw [findStruct_name h] at this
  intro hc
  have hc' : reservedKeys.contains n = true := by simpa using hc
  simp only [hc', Bool.not_true] at this
  cases this

theorem enumFieldTys_find {n : String} {idx : Nat} {t : Ty} {fts : List Ty} (h : enumFieldTys S n idx t = some fts) :
    ∃ d targs, findEnum S.enums n = some d ∧ nominalArgs n t = some targs ∧ d.generics.length = targs.length :=
  let ⟨_, h⟩ := enumFieldTys_iff.1 h
  let ⟨d, targs, _, hd, hn, hl, _⟩ := fieldTys_enum.1 h
  ⟨d, targs, hd, hn, hl⟩

theorem structFieldTys_find {n : String} {t : Ty} {fts : List Ty} (h : fieldTys S (.struct n) t = some fts) :
    ∃ d targs, findStruct S.structs n = some d ∧ nominalArgs n t = some targs ∧ d.generics.length = targs.length :=
  let ⟨d, targs, hd, hn, hl, _⟩ := fieldTys_struct.1 h
  ⟨d, targs, hd, hn, hl⟩

/-- `isEnumTy` / `isStructTy` refuse `.app _ []` -/
theorem nominal_nongeneric {n : String} {t : Ty} {targs : List Ty} (hna : nominalArgs n t = some targs)
    (hl : targs.length = 0) : (isEnumTy t = true → t = .enum n) ∧ (isStructTy t = true → t = .struct n) := by
  obtain rfl : targs = [] := List.eq_nil_of_length_eq_zero hl
  unfold nominalArgs at hna
  split at hna <;> simp_all [isEnumTy, isStructTy]

theorem keyable_cases {t : Ty} (h : keyable S t = true) :
    t ∈ scalarTys ∨ (∃ n d, t = .enum n ∧ findEnum S.enums n = some d ∧ d.generics = []) ∨
      (∃ n d, t = .struct n ∧ findStruct S.structs n = some d ∧ d.generics = []) := by
  unfold keyable at h
  simp only [Bool.or_eq_true] at h
  rcases h with h | h
  · exact Or.inl (isScalar_mem h)
  · cases t <;> simp at h
    · rename_i n
      cases hd : findEnum S.enums n with
      | none => simp [hd] at h
      | some d => simp [hd] at h; exact Or.inr (Or.inl ⟨n, d, rfl, hd, h⟩)
    · rename_i n
      cases hd : findStruct S.structs n with
      | none => simp [hd] at h
      | some d => simp [hd] at h; exact Or.inr (Or.inr ⟨n, d, rfl, hd, h⟩)

theorem keyable_key {τ : Ty} (hn : namesOk S = true) (hk : keyable S τ = true) :
    τ ∈ scalarTys ∨ tyKey τ ∉ reservedKeys := by
  rcases keyable_cases hk with hs | ⟨n, d, rfl, hd, _⟩ | ⟨n, d, rfl, hd, _⟩
  · exact .inl hs
  · exact .inr (namesOk_enum hn hd).1
  · exact .inr (namesOk_struct hn hd)

theorem key_scalar_eq {τθ τs : Ty} (hn : namesOk S = true) (hθ : τθ ∈ scalarTys)
    (hk : keyable S τs = true) (heq : tyKey τs = tyKey τθ) : τθ = τs := by
  rcases keyable_key hn hk with hs | hr
  · exact (scalar_inj hs hθ heq).symm
  · exact (hr (heq ▸ scalar_key_reserved hθ)).elim

theorem key_scalar_aux {τθ τs : Ty} {k : String} (hn : namesOk S = true) (hθ : τθ ∈ scalarTys) (hkθ : k = tyKey τθ)
    (hk : keyable S τs = true) (heq : tyKey τs = k) : τθ = τs :=
  key_scalar_eq hn hθ hk (heq.trans hkθ)

theorem key_noQ_aux {τs : Ty} (hn : namesOk S = true) (hk : keyable S τs = true) (heq : tyKey τs = "?") : False := by
  rcases keyable_key hn hk with hs | hr
  · exact scalar_key_noQ hs heq
  · exact hr (heq ▸ by simp [reservedKeys])

end Goml.ValTy

namespace Goml.ValTyG
open Goml Goml.Sem Goml.Wt Goml.Mono Goml.ValTy

variable {S : Sig} {P : Prog}

theorem key_determines {rf : Bool} {Ψ : List Ty} {v : Val} {τθ τs : Ty} (hn : namesOk S = true) (hv : VT S P rf Ψ v τθ)
    (hk : keyable S τs = true) (heq : tyKey τs = valKey v) : τθ = τs := by
  cases hv with
  | unit => exact key_scalar_eq hn (by simp [scalarTys]) hk heq
  | bool => exact key_scalar_eq hn (by simp [scalarTys]) hk heq
  | str => exact key_scalar_eq hn (by simp [scalarTys]) hk heq
  | int b s x hw => exact key_scalar_eq hn (int_scalar s hw) hk heq
  | float b x hw => exact key_scalar_eq hn (float_scalar hw) hk heq
  | @enumV n idx args _ fts h1 h2 _ =>
    obtain ⟨d, targs, hd, hna, hlen⟩ := enumFieldTys_find h2
    have hres := namesOk_enum hn hd
    simp only [valKey] at heq
    rcases keyable_cases hk with hs | ⟨m, d', rfl, hd', hg'⟩ | ⟨m, d', rfl, hd', _⟩
    · exact (hres.1 (heq ▸ scalar_key_reserved hs)).elim
    · have : m = n := by simpa [tyKey] using heq
      subst this
      rw [hd] at hd'; injection hd' with hd'; subst hd'
      exact (nominal_nongeneric hna (by rw [← hlen, hg']; rfl)).1 h1
    · have : m = n := by simpa [tyKey] using heq
      subst this
      rw [hres.2] at hd'; cases hd'
  | @structV n fs _ fts h1 h2 _ =>
    obtain ⟨d, targs, hd, hna, hlen⟩ := structFieldTys_find h2
    have hres := namesOk_struct hn hd
    simp only [valKey] at heq
    rcases keyable_cases hk with hs | ⟨m, d', rfl, hd', _⟩ | ⟨m, d', rfl, hd', hg'⟩
    · exact (hres (heq ▸ scalar_key_reserved hs)).elim
    · have : m = n := by simpa [tyKey] using heq
      subst this
      have := (namesOk_enum hn hd').2
      rw [this] at hd; cases hd
    · have : m = n := by simpa [tyKey] using heq
      subst this
      rw [hd] at hd'; injection hd' with hd'; subst hd'
      exact (nominal_nongeneric hna (by rw [← hlen, hg']; rfl)).2 h1
  -- tuple, array, vec, ref, dyn, closure, fn: the key is `"?"`
  | _ => exact (key_noQ_aux hn hk heq).elim

end Goml.ValTyG

namespace Goml.ValTy
open Goml Goml.Sem Goml.Wt Goml.Mono

variable {S : Sig} {P : Prog}

theorem key_determines {v : Val} {τθ τs : Ty} (hn : namesOk S = true) (hv : VT S P v τθ)
    (hk : keyable S τs = true) (heq : tyKey τs = valKey v) : τθ = τs :=
  ValTyG.key_determines hn (hv.toG []) hk heq

end Goml.ValTy

namespace Goml.ValTyR
open Goml Goml.Sem Goml.Wt Goml.Mono Goml.ValTy

variable {S : Sig}

theorem scalar_concrete : (scalarTys.all concreteTy) = true := by decide +kernel

theorem keyable_concrete {t : Ty} (h : keyable S t = true) : concreteTy t = true := by
  rcases keyable_cases h with hs | ⟨n, d, rfl, _, _⟩ | ⟨n, d, rfl, _, _⟩
  · have := scalar_concrete
    simp only [List.all_eq_true] at this
    exact this t hs
  · rfl
  · rfl

end Goml.ValTyR
