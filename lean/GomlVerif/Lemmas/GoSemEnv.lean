import GomlVerif.Model.Dce
import GomlVerif.Lemmas.GoSemMono
import GomlVerif.Lemmas.ListFacts
/-!
Environments and results of `Go.Sem` (`Model/GoSem.lean`).  The names are in `Goml.Dce` because the statements of
`Props/Dce.lean` speak of `keys` and `Definite`.
-/
namespace Goml.Dce
open Goml.Go Goml.Sem

def keys (ρ : GEnv) : Names := ρ.map (·.1)

@[simp] theorem keys_cons (x : String) (v : GVal) (ρ : GEnv) : keys ((x, v) :: ρ) = x :: keys ρ := rfl
@[simp] theorem keys_nil : keys [] = [] := rfl

theorem lookup_cons_self (x : String) (v : GVal) (ρ : GEnv) : lookupG ((x, v) :: ρ) x = some v := by
  simp [lookupG]

theorem lookup_cons_ne {x y : String} (v : GVal) (ρ : GEnv) (h : x ≠ y) :
    lookupG ((x, v) :: ρ) y = lookupG ρ y := by
  have : (x == y) = false := by simp [h]
  simp [lookupG, this]

theorem lookup_none_of_not_key {ρ : GEnv} {y : String} (h : ¬ y ∈ keys ρ) : lookupG ρ y = none := by
  unfold lookupG
  rw [find?_key_eq_none (key := fun p : String × GVal => p.1) |>.mpr h]

theorem lookup_some_of_key {ρ : GEnv} {y : String} (h : y ∈ keys ρ) : ∃ v, lookupG ρ y = some v := by
  unfold lookupG
  cases e : ρ.find? (·.1 == y) with
  | none => exact absurd h (find?_key_eq_none (key := fun p : String × GVal => p.1) |>.mp e)
  | some p => exact ⟨p.2, rfl⟩

theorem lookup_append_not_key {pre : GEnv} {y : String} (h : ¬ y ∈ keys pre) (t : GEnv) :
    lookupG (pre ++ t) y = lookupG t y := by
  unfold lookupG
  rw [find?_key_append_of_not_mem (key := fun p : String × GVal => p.1) h]

theorem key_of_lookup_some {ρ : GEnv} {y : String} {v : GVal} (h : lookupG ρ y = some v) : y ∈ keys ρ := by
  by_cases hk : y ∈ keys ρ
  · exact hk
  · rw [lookup_none_of_not_key hk] at h; cases h

theorem lookup_append_cons_ne {x y : String} (g : GVal) (h : x ≠ y) (ρ : GEnv) : ∀ D : GEnv,
    lookupG (D ++ (x, g) :: ρ) y = lookupG (D ++ ρ) y
  | [] => lookup_cons_ne _ _ h
  | (z, u) :: D => by
    by_cases hz : z = y
    · subst hz; rw [List.cons_append, List.cons_append, lookup_cons_self, lookup_cons_self]
    · rw [List.cons_append, List.cons_append, lookup_cons_ne _ _ hz, lookup_cons_ne _ _ hz]
      exact lookup_append_cons_ne g h ρ D

theorem lookup_swap {x : String} (g : GVal) {D : GEnv} (hx : ¬ x ∈ keys D) (ρ : GEnv) (y : String) :
    lookupG ((x, g) :: (D ++ ρ)) y = lookupG (D ++ (x, g) :: ρ) y := by
  by_cases h : x = y
  · subst h; rw [lookup_cons_self, lookup_append_not_key hx, lookup_cons_self]
  · rw [lookup_cons_ne _ _ h, lookup_append_cons_ne g h ρ D]

theorem keys_update (x : String) (v : GVal) : ∀ ρ : GEnv, keys (updateG ρ x v) = keys ρ
  | [] => rfl
  | (y, w) :: ρ => by
    unfold updateG
    split
    · rfl
    · simp [keys_update x v ρ]

theorem lookup_update_ne {x y : String} (v : GVal) (h : x ≠ y) : ∀ ρ : GEnv,
    lookupG (updateG ρ x v) y = lookupG ρ y
  | [] => rfl
  | (z, w) :: ρ => by
    unfold updateG
    split
    · rename_i hz
      have hz : z = x := by simpa using hz
      subst hz
      rw [lookup_cons_ne _ _ h, lookup_cons_ne _ _ h]
    · by_cases hzy : z = y
      · subst hzy; rw [lookup_cons_self, lookup_cons_self]
      · rw [lookup_cons_ne _ _ hzy, lookup_cons_ne _ _ hzy]; exact lookup_update_ne v h ρ

theorem lookup_update_self (x : String) (v : GVal) : ∀ ρ : GEnv, x ∈ keys ρ →
    lookupG (updateG ρ x v) x = some v
  | [], h => by cases h
  | (z, w) :: ρ, h => by
    unfold updateG
    split
    · rename_i hz
      have hz : z = x := by simpa using hz
      subst hz; exact lookup_cons_self _ _ _
    · rename_i hz
      have hz : z ≠ x := by simpa using hz
      rw [lookup_cons_ne _ _ hz]
      simp only [keys_cons, List.mem_cons] at h
      rcases h with h | h
      · exact absurd h.symm hz
      · exact lookup_update_self x v ρ h

theorem update_not_key (x : String) (v : GVal) : ∀ ρ : GEnv, ¬ x ∈ keys ρ → updateG ρ x v = ρ
  | [], _ => rfl
  | (z, w) :: ρ, h => by
    simp only [keys_cons, List.mem_cons, not_or] at h
    unfold updateG
    have : (z == x) = false := by
      have : ¬ z = x := fun e => h.1 e.symm
      simp [this]
    simp only [this]
    rw [update_not_key x v ρ h.2]
    rfl

theorem update_append_left {D : GEnv} {t : String} (h : ¬ t ∈ keys D) (ρ : GEnv) (v : GVal) :
    updateG (D ++ ρ) t v = D ++ updateG ρ t v := by
  induction D with
  | nil => rfl
  | cons p D ih =>
    simp only [keys, List.map_cons, List.mem_cons, not_or] at h
    have hx : (p.1 == t) = false := by simp [Ne.symm h.1]
    simp only [List.cons_append, updateG, hx, Bool.false_eq_true, if_false, ih h.2]

theorem update_cons_self (t : String) (z v : GVal) (ρ : GEnv) : updateG ((t, z) :: ρ) t v = (t, v) :: ρ := by
  simp [updateG]

theorem update_update (t : String) (a b : GVal) (ρ : GEnv) : updateG (updateG ρ t a) t b = updateG ρ t b := by
  induction ρ with
  | nil => rfl
  | cons p ρ ih => by_cases h : (p.1 == t) = true <;> simp [updateG, h, ih]

theorem length_update (t : String) (v : GVal) (ρ : GEnv) : (updateG ρ t v).length = ρ.length := by
  induction ρ with
  | nil => rfl
  | cons p ρ ih => simp only [updateG]; split <;> simp [ih]

theorem evalG_var_nonfunc {n : Nat} {F : GFile} {ρ : GEnv} {w w1 : GWorld} {x : String} {t : GTy} {v : GVal}
    (h : evalG n F ρ w (.var x t) = .ok v w1) (hv : ∀ y, v ≠ .func y) : lookupG ρ x = some v := by
  cases n with
  | zero => rw [evalG_zero] at h; cases h
  | succ n =>
    rw [evalG_var] at h
    cases hl : lookupG ρ x with
    | none => rw [hl] at h; cases h; exact absurd rfl (hv x)
    | some v' => rw [hl] at h; cases h; rfl

theorem evalG_var_key {n : Nat} {F : GFile} {ρ : GEnv} {w w1 : GWorld} {x : String} {t : GTy} {v : GVal}
    (h : evalG n F ρ w (.var x t) = .ok v w1) (hk : x ∈ keys ρ) : lookupG ρ x = some v := by
  cases n with
  | zero => rw [evalG_zero] at h; cases h
  | succ n =>
    obtain ⟨v', hv'⟩ := lookup_some_of_key hk
    rw [evalG_var, hv'] at h; cases h; exact hv'

theorem keys_append (a b : GEnv) : keys (a ++ b) = keys a ++ keys b := by simp [keys]


/-- the results a simulation has to reproduce: ended normally or with a panic (not out of fuel, not stuck) -/
def Definite {α : Type} : GRes α → Prop
  | .ok _ _ => True
  | .fail (.panic _) _ => True
  | .fail _ _ => False

theorem Definite.nf {α : Type} {r : GRes α} (h : Definite r) : r.nf := by
  cases r with
  | ok a w => trivial
  | fail f w => cases f <;> simp_all [Definite, GRes.nf]

theorem Definite.of_bind {α β : Type} {r : GRes α} {k : α → GWorld → GRes β} (h : Definite (r.bind k)) :
    Definite r := by
  cases r with
  | ok a w => trivial
  | fail f w => cases f <;> exact h

theorem definite_fail_panic {α : Type} {f : Fail} {w : GWorld} (hd : Definite (GRes.fail (α := α) f w))
    (hq : ∀ k, f ≠ .panic k) : False := by
  cases f with
  | panic k => exact hq k rfl
  | fuel => exact hd
  | stuck s => exact hd

theorem not_definite_fuel {α : Type} {w : GWorld} : ¬ Definite (GRes.fail (α := α) .fuel w) := fun h => h

end Goml.Dce
