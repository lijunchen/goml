import GomlVerif.Model.Pratt
/-!
What a successful call of the Pratt model has consumed: a prefix of its input (the rest it returns is a suffix) that
ends with an identifier, an integer or `)`. Hence `parseCst` accepts no token list that ends otherwise, and none
that starts with a token no expression starts with.
-/
namespace Goml.Pratt
open Goml.Gen.BindingPower

def endOK : Tok → Bool
  | .ident _ => true | .int _ => true | .rparen => true | _ => false

def Ends (pre : List Tok) : Prop := ∃ init t, pre = init ++ [t] ∧ endOK t = true

theorem Ends.pre {q : List Tok} (p : List Tok) (h : Ends q) : Ends (p ++ q) := by
  obtain ⟨i, t, rfl, ht⟩ := h
  exact ⟨p ++ i, t, by simp, ht⟩
theorem Ends.cons {q : List Tok} (x : Tok) (h : Ends q) : Ends (x :: q) := Ends.pre [x] h
theorem Ends.snoc (p : List Tok) {t : Tok} (ht : endOK t = true) : Ends (p ++ [t]) := ⟨p, t, rfl, ht⟩
theorem Ends.or {p q : List Tok} (hp : Ends p) (hq : q = [] ∨ Ends q) : Ends (p ++ q) := by
  rcases hq with rfl | hq
  · simpa using hp
  · exact hq.pre p

theorem consumed : ∀ f : Nat,
    (∀ m ts c R, exprBp f m ts = some (c, R) → ∃ pre, ts = pre ++ R ∧ Ends pre) ∧
    (∀ m c0 ts c R, loopBp f m c0 ts = some (c, R) → ∃ pre, ts = pre ++ R ∧ (pre = [] ∨ Ends pre)) ∧
    (∀ ts cs R, argList f ts = some (cs, R) → ∃ pre, ts = pre ++ R ∧ Ends pre)
  | 0 => ⟨fun _ _ _ _ h => by simp [exprBp] at h, fun _ _ _ _ _ h => by simp [loopBp] at h,
          fun _ _ _ h => by simp [argList] at h⟩
  | f + 1 => by
    obtain ⟨ihE, ihL, ihA⟩ := consumed f
    refine ⟨?_, ?_, ?_⟩
    · intro m ts c R h
      match ts with
      | [] => simp [exprBp] at h
      | .rparen :: rest => simp [exprBp] at h
      | .comma :: rest => simp [exprBp] at h
      | .ident s :: rest =>
        simp only [exprBp] at h
        obtain ⟨p2, rfl, h2⟩ := ihL _ _ _ _ _ h
        exact ⟨.ident s :: p2, by simp, Ends.or (p := [.ident s]) (Ends.snoc [] rfl) h2⟩
      | .int s :: rest =>
        simp only [exprBp] at h
        obtain ⟨p2, rfl, h2⟩ := ihL _ _ _ _ _ h
        exact ⟨.int s :: p2, by simp, Ends.or (p := [.int s]) (Ends.snoc [] rfl) h2⟩
      | .op k :: rest =>
        simp only [exprBp] at h
        split at h
        · -- a prefix operator
          split at h
          · rename_i he
            obtain ⟨p1, rfl, h1⟩ := ihE _ _ _ _ he
            obtain ⟨p2, rfl, h2⟩ := ihL _ _ _ _ _ h
            exact ⟨.op k :: (p1 ++ p2), by simp, (h1.or h2).cons _⟩
          · cases h
        · -- `(`
          split at h
          · split at h
            · rename_i he
              obtain ⟨p1, rfl, h1⟩ := ihE _ _ _ _ he
              obtain ⟨p2, rfl, h2⟩ := ihL _ _ _ _ _ h
              refine ⟨.op .LParen :: (p1 ++ .rparen :: p2), by simp, Ends.cons _ ?_⟩
              have := Ends.or (p := p1 ++ [.rparen]) (Ends.snoc p1 rfl) h2
              simpa using this
            · cases h
          · cases h
    · intro m c0 ts c R h
      match ts with
      | [] => simp only [loopBp] at h; cases h; exact ⟨[], rfl, Or.inl rfl⟩
      | .rparen :: rest => simp only [loopBp] at h; cases h; exact ⟨[], rfl, Or.inl rfl⟩
      | .comma :: rest => simp only [loopBp] at h; cases h; exact ⟨[], rfl, Or.inl rfl⟩
      | .ident s :: rest => simp only [loopBp] at h; cases h; exact ⟨[], rfl, Or.inl rfl⟩
      | .int s :: rest => simp only [loopBp] at h; cases h; exact ⟨[], rfl, Or.inl rfl⟩
      | .op k :: rest =>
        simp only [loopBp] at h
        split at h
        · -- a postfix operator: the call `(`
          split at h
          · cases h; exact ⟨[], rfl, Or.inl rfl⟩
          · split at h
            · split at h
              · rename_i ha
                obtain ⟨p1, rfl, h1⟩ := ihA _ _ _ ha
                obtain ⟨p2, rfl, h2⟩ := ihL _ _ _ _ _ h
                exact ⟨.op .LParen :: (p1 ++ p2), by simp, Or.inr ((h1.or h2).cons _)⟩
              · cases h
            · cases h
        · -- an infix operator, or none
          split at h
          · split at h
            · cases h; exact ⟨[], rfl, Or.inl rfl⟩
            · split at h
              · rename_i he
                obtain ⟨p1, rfl, h1⟩ := ihE _ _ _ _ he
                obtain ⟨p2, rfl, h2⟩ := ihL _ _ _ _ _ h
                exact ⟨.op k :: (p1 ++ p2), by simp, Or.inr ((h1.or h2).cons _)⟩
              · cases h
          · cases h; exact ⟨[], rfl, Or.inl rfl⟩
    · intro ts cs R h
      -- every input that does not start with `)`: one argument, then `)` or `,` and the rest
      have key : (match exprBp f 0 ts with
            | some (e, .rparen :: rest) => some ([e], rest)
            | some (e, .comma :: rest) =>
              match argList f rest with
              | some (es, rest') => some (e :: es, rest')
              | none => none
            | _ => none) = some (cs, R) → ∃ pre, ts = pre ++ R ∧ Ends pre := by
        intro h
        split at h
        · rename_i he
          cases h
          obtain ⟨p1, rfl, _⟩ := ihE _ _ _ _ he
          exact ⟨p1 ++ [.rparen], by simp, Ends.snoc p1 rfl⟩
        · rename_i he
          split at h
          · rename_i ha
            cases h
            obtain ⟨p1, rfl, _⟩ := ihE _ _ _ _ he
            obtain ⟨p2, rfl, h2⟩ := ihA _ _ _ ha
            exact ⟨p1 ++ .comma :: p2, by simp, by simpa using (h2.cons .comma).pre p1⟩
          · cases h
        · cases h
      match ts with
      | .rparen :: rest =>
        simp only [argList, Option.some.injEq, Prod.mk.injEq] at h
        obtain ⟨_, rfl⟩ := h
        exact ⟨[.rparen], rfl, Ends.snoc [] rfl⟩
      | [] => simp only [argList] at h; exact key h
      | .comma :: _ => simp only [argList] at h; exact key h
      | .ident _ :: _ => simp only [argList] at h; exact key h
      | .int _ :: _ => simp only [argList] at h; exact key h
      | .op _ :: _ => simp only [argList] at h; exact key h

def startOK : Tok → Bool
  | .ident _ => true | .int _ => true | .op .LParen => true | .op .Minus => true | .op .Bang => true | _ => false

def starts : List Tok → Bool
  | t :: _ => startOK t
  | [] => false

theorem parseCst_ends {ts : List Tok} {c : Cst} (h : parseCst ts = some c) : Ends ts := by
  unfold parseCst at h
  split at h
  · rename_i he
    obtain ⟨pre, rfl, hp⟩ := (consumed _).1 _ _ _ _ he
    simpa using hp
  · cases h

theorem parseCst_starts {ts : List Tok} {c : Cst} (h : parseCst ts = some c) : starts ts = true := by
  unfold parseCst fuelFor at h
  match ts with
  | [] => simp [exprBp] at h
  | .rparen :: _ => simp [exprBp] at h
  | .comma :: _ => simp [exprBp] at h
  | .ident _ :: _ => rfl
  | .int _ :: _ => rfl
  | .op k :: _ => cases k <;> first | rfl | simp [exprBp, prefixBp] at h

end Goml.Pratt
