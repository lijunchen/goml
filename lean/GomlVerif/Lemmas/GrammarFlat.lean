import GomlVerif.Lemmas.GrammarStep
/-! What the flattened item tree resolves to (`Tree.resolve`: forward-parent chains with tombstoning): `rf it ups`, the
resolved view of an item, balanced around its nodes when no node kind is the tombstone.  Only for a tree under one root node,
`flatL [.node k ch]`, is the resolved list as a whole balanced from depth 0 (`flat_root_wellformed`). -/
namespace Goml.Grammar
open Goml.Tree

/-! ## `chain` only looks ahead -/

theorem getElem?_append_add {α} (X post : List α) (j : Nat) : (X ++ post)[X.length + j]? = post[j]? := by
  rw [List.getElem?_append_right (by omega)]; congr 1; omega

theorem set_append_add {α} (X post : List α) (j : Nat) (x : α) : (X ++ post).set (X.length + j) x = X ++ post.set j x := by
  rw [List.set_append_right _ _ (by omega)]; congr 2; omega

theorem chain_none (f : Nat) (evs : List Ev) (i : Nat) (ks : List Nat) : chain f evs i none ks = some (ks, evs) := by
  cases f <;> simp [chain]

theorem chain_local : ∀ (f : Nat) (X post : List Ev) (j : Nat) (fp : Option Nat) (kinds : List Nat),
    chain f (X ++ post) (X.length + j) fp kinds = (chain f post j fp kinds).map (fun r => (r.1, X ++ r.2)) := by
  intro f
  induction f with
  | zero => intro X post j fp kinds; cases fp <;> simp [chain]
  | succ f ih =>
    intro X post j fp kinds
    cases fp with
    | none => simp [chain]
    | some fwd =>
      simp only [chain]
      rw [Nat.add_assoc, getElem?_append_add]
      cases hp : post[j + fwd]? with
      | none => simp
      | some ev =>
        cases ev with
        | op k fp' =>
          simp only
          rw [set_append_add, ih]
        | close => simp
        | advance => simp
        | error m => simp

theorem chain_length : ∀ (f : Nat) (evs : List Ev) (i : Nat) (fp : Option Nat) (ks : List Nat) (r : List Nat × List Ev),
    chain f evs i fp ks = some r → r.2.length = evs.length := by
  intro f
  induction f with
  | zero => intro evs i fp ks r h; cases fp <;> simp [chain] at h; subst h; rfl
  | succ f ih =>
    intro evs i fp ks r h
    cases fp with
    | none => simp [chain] at h; subst h; rfl
    | some fwd =>
      simp only [chain] at h
      cases hp : evs[i + fwd]? with
      | none => simp [hp] at h
      | some ev =>
        cases ev with
        | op k fp' => simp only [hp] at h; have := ih _ _ _ _ _ h; simpa using this
        | close => simp [hp] at h
        | advance => simp [hp] at h
        | error m => simp [hp] at h

/-! ## `resolveLoop` on the suffix it still has to read -/

def filt (ks : List Nat) : List Nat := ks.filter (· != Goml.Gen.Tokens.tombStoneKind)

/-- `N` is the fuel of the chains -/
def resolveS (N : Nat) : Nat → List Ev → Option (List REv)
  | 0, _ => some []
  | _ + 1, [] => some []
  | fuel + 1, ev :: rest =>
      match ev with
      | .op k fp => do
          let (kinds, evs) ← chain N (tombstone :: rest) 0 fp [k]
          let r ← resolveS N fuel (evs.drop 1)
          pure (.starts (filt kinds.reverse) :: r)
      | .close => (resolveS N fuel rest).map (.finish :: ·)
      | .advance => (resolveS N fuel rest).map (.advance :: ·)
      | .error m => (resolveS N fuel rest).map (.error m :: ·)

theorem resolveLoop_eq : ∀ (fuel i : Nat) (evs : List Ev),
    resolveLoop fuel i evs = resolveS (evs.length + 1) fuel (evs.drop i) := by
  intro fuel
  induction fuel with
  | zero => intro i evs; simp [resolveLoop, resolveS]
  | succ fuel ih =>
    intro i evs
    rw [resolveLoop]
    by_cases hi : i < evs.length
    · have hd : evs.drop i = evs[i] :: evs.drop (i + 1) := List.drop_eq_getElem_cons hi
      rw [hd, List.getElem?_eq_getElem hi]
      have hset : evs.set i tombstone = evs.take i ++ tombstone :: evs.drop (i + 1) := by
        rw [List.set_eq_take_append_cons_drop]; simp [hi]
      have hlen : (evs.take i).length = i := by simp; omega
      cases hev : evs[i] with
      | op k fp =>
        simp only [resolveS]
        rw [hset]
        have := chain_local ((evs.take i ++ tombstone :: evs.drop (i + 1)).length + 1) (evs.take i)
          (tombstone :: evs.drop (i + 1)) 0 fp [k]
        simp only [Nat.add_zero, hlen] at this
        rw [this]
        have hl2 : (evs.take i ++ tombstone :: evs.drop (i + 1)).length = evs.length := by
          rw [← hset]; simp
        rw [hl2]
        cases hc : chain (evs.length + 1) (tombstone :: evs.drop (i + 1)) 0 fp [k] with
        | none => simp
        | some r =>
          have hr := chain_length _ _ _ _ _ _ hc
          simp only [Option.map_some, Option.bind_eq_bind, Option.bind_some]
          rw [ih]
          have e1 : (evs.take i ++ r.2).length = evs.length := by
            simp only [List.length_append, hlen, hr, List.length_cons, List.length_drop]; omega
          have e2 : (evs.take i ++ r.2).drop (i + 1) = r.2.drop 1 := by
            have hh : i + 1 = (evs.take i).length + 1 := by omega
            rw [hh, List.drop_append, List.drop_eq_nil_of_le (by omega), Nat.add_sub_cancel_left, List.nil_append]
          rw [e1, e2]
          rfl
      | close => simp only [resolveS]; rw [ih, List.drop_set_of_lt (Nat.lt_succ_self _), List.length_set]
      | advance => simp only [resolveS]; rw [ih, List.drop_set_of_lt (Nat.lt_succ_self _), List.length_set]
      | error m => simp only [resolveS]; rw [ih, List.drop_set_of_lt (Nat.lt_succ_self _), List.length_set]
    · have : evs.drop i = [] := List.drop_eq_nil_of_le (by omega)
      rw [this, List.getElem?_eq_none (by omega)]
      simp [resolveS]

/-- resolution of a suffix with exactly the fuel it needs -/
def R (N : Nat) (l : List Ev) : Option (List REv) := resolveS N l.length l

theorem resolve_eq_R (evs : List Ev) : resolve evs = R (evs.length + 1) evs := by
  simp [resolve, resolveLoop_eq, R]

theorem R_nil (N : Nat) : R N [] = some [] := by simp [R, resolveS]
theorem R_close (N : Nat) (rest : List Ev) : R N (.close :: rest) = (R N rest).map (.finish :: ·) := by simp [R, resolveS]
theorem R_advance (N : Nat) (rest : List Ev) : R N (.advance :: rest) = (R N rest).map (.advance :: ·) := by simp [R, resolveS]
theorem R_error (N : Nat) (m : String) (rest : List Ev) : R N (.error m :: rest) = (R N rest).map (.error m :: ·) := by simp [R, resolveS]

theorem R_op (N k : Nat) (fp : Option Nat) (rest : List Ev) (kinds : List Nat) (evs' : List Ev)
    (h : chain N (tombstone :: rest) 0 fp [k] = some (kinds, evs')) :
    R N (.op k fp :: rest) = (R N (evs'.drop 1)).map (.starts (filt kinds.reverse) :: ·) := by
  have hl := chain_length _ _ _ _ _ _ h
  simp only [List.length_cons] at hl
  have hl' : (evs'.drop 1).length = rest.length := by simp [hl]
  simp only [R, resolveS, List.length_cons, h, Option.bind_eq_bind, Option.bind_some, hl']
  cases resolveS N rest.length (List.drop 1 evs') <;> rfl

/-! ## forward-parent chains, relationally -/

/-- `Ch evs i fp ups evs'`: from position `i` with forward parent `fp`, the chain visits the `Open`s of kinds `ups`
(innermost first) and leaves `evs'`, which is `evs` with the visited `Open`s tombstoned -/
inductive Ch : List Ev → Nat → Option Nat → List Nat → List Ev → Prop
  | done (evs : List Ev) (i : Nat) : Ch evs i none [] evs
  | step (evs : List Ev) (i fwd k : Nat) (fp : Option Nat) (ups : List Nat) (evs' : List Ev) :
      evs[i + fwd]? = some (.op k fp) → Ch (evs.set (i + fwd) tombstone) (i + fwd) fp ups evs' →
      Ch evs i (some fwd) (k :: ups) evs'

theorem ch_chain {evs : List Ev} {i : Nat} {fp : Option Nat} {ups : List Nat} {evs' : List Ev} (h : Ch evs i fp ups evs') :
    ∀ (f : Nat) (ks : List Nat), ups.length ≤ f → chain f evs i fp ks = some (ks ++ ups, evs') := by
  induction h with
  | done evs i => intro f ks _; simp [chain_none]
  | step evs i fwd k fp ups evs' hget _ ih =>
    intro f ks hf
    cases f with
    | zero => simp at hf
    | succ f =>
      simp only [chain, hget]
      rw [ih f (ks ++ [k]) (by simpa using hf)]
      simp

theorem ch_local {post : List Ev} {j : Nat} {fp : Option Nat} {ups : List Nat} {post' : List Ev} (h : Ch post j fp ups post')
    (X : List Ev) : Ch (X ++ post) (X.length + j) fp ups (X ++ post') := by
  induction h with
  | done evs i => exact Ch.done _ _
  | step evs i fwd k fp ups evs' hget _ ih =>
    refine Ch.step _ _ fwd k fp ups _ ?_ ?_
    · rw [Nat.add_assoc, getElem?_append_add]; exact hget
    · rw [Nat.add_assoc, set_append_add]; exact ih

/-- a chain that starts inside a prefix `X` (at index `i`) and whose first jump leaves `X` -/
theorem ch_lift {post : List Ev} {fw : Option Nat} {ups : List Nat} {postT : List Ev} (h : Ch post 0 fw ups postT)
    (X : List Ev) (i : Nat) (hi : i ≤ X.length) :
    Ch (X ++ post) i (fw.map (· + (X.length - i))) ups (X ++ postT) := by
  cases h with
  | done => exact Ch.done _ _
  | step _ _ fwd k fp ups evs' hget hrest =>
    simp only [Option.map_some]
    have e : i + (fwd + (X.length - i)) = X.length + fwd := by omega
    refine Ch.step _ _ _ k fp ups _ ?_ ?_
    · rw [e, getElem?_append_add]; simpa using hget
    · rw [e, set_append_add]
      have := ch_local hrest X
      simpa using this

/-! ## the resolved view of an item tree -/

/-- the flat form starts with an `Open`, which can carry a forward parent -/
def hasHead : Item → Bool
  | .adv => false
  | .err _ => false
  | _ => true

mutual
/-- the resolved events of an item whose head `Open` also starts the pending parents `ups` (innermost first) -/
def rf : Item → List Nat → List REv
  | .adv, _ => [.advance]
  | .err m, _ => [.error m]
  | .node k ch, ups => .starts (filt (k :: ups).reverse) :: (rfL ch ++ [.finish])
  | .wrap k first mid rest, ups =>
      rf first (k :: ups) ++ (rfL mid ++
        (.starts (if hasHead first then [] else filt (k :: ups).reverse) :: (rfL rest ++ [.finish])))
def rfL : List Item → List REv
  | [] => []
  | i :: is => rf i [] ++ rfL is
end

theorem flat_length_fwd (it : Item) (a b : Option Nat) : (flat it a).length = (flat it b).length := by
  cases it with
  | adv => simp [flat]
  | err m => simp [flat]
  | node k ch => simp [flat]
  | wrap k first mid rest => simp [flat]

theorem filt_tomb : filt [Goml.Gen.Tokens.tombStoneKind] = [] := rfl

/-- **Resolution of `flat`.** With the chain from the head of `it` continuing through `post` (`Ch`), resolving
`flat it fw ++ post` gives the resolved view of `it` followed by the resolution of what the chain left of `post`. -/
theorem rf_spec (N : Nat) :
    (∀ (it : Item) (fw : Option Nat) (post : List Ev) (ups : List Nat) (postT : List Ev),
      Ch post 0 fw ups postT → ups.length + (flat it fw).length ≤ N →
      R N (flat it fw ++ post) = (R N (if hasHead it then postT else post)).map (rf it ups ++ ·)) := by
  intro it
  apply Item.rec
    (motive_1 := fun it => ∀ (fw : Option Nat) (post : List Ev) (ups : List Nat) (postT : List Ev),
      Ch post 0 fw ups postT → ups.length + (flat it fw).length ≤ N →
      R N (flat it fw ++ post) = (R N (if hasHead it then postT else post)).map (rf it ups ++ ·))
    (motive_2 := fun items => ∀ (post : List Ev), (flatL items).length ≤ N →
      R N (flatL items ++ post) = (R N post).map (rfL items ++ ·))
  · -- adv
    intro fw post ups postT _ _
    simp only [flat, rf, hasHead, List.cons_append, List.nil_append, R_advance, Bool.false_eq_true, ite_false]
  · -- err
    intro m fw post ups postT _ _
    simp only [flat, rf, hasHead, List.cons_append, List.nil_append, R_error, Bool.false_eq_true, ite_false]
  · -- node
    intro k ch ihch fw post ups postT hch hN
    simp only [flat, List.length_cons, List.length_append, List.length_nil] at hN
    have hX := ch_lift hch (tombstone :: (flatL ch ++ [.close])) 0 (Nat.zero_le _)
    have hc := ch_chain hX N [k] (by omega)
    have e1 : (flat (.node k ch) fw ++ post) =
        .op k (fw.map (· + ((tombstone :: (flatL ch ++ [Ev.close])).length - 0))) :: (flatL ch ++ (.close :: post)) := by
      simp only [flat, List.cons_append, List.append_assoc, List.length_cons, List.length_append, List.length_nil,
        List.nil_append, Nat.sub_zero]
      congr 2
    rw [e1]
    have e2 : tombstone :: (flatL ch ++ (Ev.close :: post)) = (tombstone :: (flatL ch ++ [Ev.close])) ++ post := by simp
    rw [R_op N k _ _ ([k] ++ ups) ((tombstone :: (flatL ch ++ [Ev.close])) ++ postT) (by rw [e2]; exact hc)]
    have e3 : List.drop 1 ((tombstone :: (flatL ch ++ [Ev.close])) ++ postT) = flatL ch ++ (.close :: postT) := by simp
    rw [e3, ihch _ (by omega), R_close]
    simp only [hasHead, rf, ite_true]
    cases R N postT <;> simp
  · -- wrap
    intro k first mid rest ihf ihm ihr fw post ups postT hch hN
    simp only [flat, List.length_cons, List.length_append, List.length_nil] at hN
    -- the list after `first`
    let fw2 : Option Nat := fw.map (· + (flatL rest).length + 2)
    have e1 : flat (.wrap k first mid rest) fw ++ post =
        flat first (some (flatL mid).length) ++ (flatL mid ++ (.op k fw2 :: (flatL rest ++ (.close :: post)))) := by
      simp [flat, fw2]
    -- the chain from the head of `first`: lands on `op k`, then goes on as the chain of the whole item
    have hX := ch_lift hch (tombstone :: (flatL rest ++ [.close])) 0 (Nat.zero_le _)
    have hfw2 : fw2 = fw.map (· + ((tombstone :: (flatL rest ++ [Ev.close])).length - 0)) := by
      cases fw <;> simp [fw2] <;> omega
    have e2 : ∀ (p : List Ev), tombstone :: (flatL rest ++ (Ev.close :: p)) = (tombstone :: (flatL rest ++ [Ev.close])) ++ p := by
      intro p; simp
    have hch1 : Ch (flatL mid ++ (.op k fw2 :: (flatL rest ++ (.close :: post)))) 0 (some (flatL mid).length) (k :: ups)
        (flatL mid ++ (tombstone :: (flatL rest ++ (.close :: postT)))) := by
      refine Ch.step _ _ _ k fw2 ups _ ?_ ?_
      · rw [Nat.zero_add, List.getElem?_append_right (Nat.le_refl _)]; simp
      · have : (flatL mid ++ (Ev.op k fw2 :: (flatL rest ++ (Ev.close :: post)))).set (0 + (flatL mid).length) tombstone =
            flatL mid ++ (tombstone :: (flatL rest ++ (Ev.close :: post))) := by
          rw [Nat.zero_add, List.set_append_right _ _ (Nat.le_refl _)]; simp
        rw [this, e2, e2, hfw2]
        have := ch_local hX (flatL mid)
        simpa using this
    rw [e1, ihf _ _ _ _ hch1 (by simp only [List.length_cons]; omega)]
    have hw : hasHead (Item.wrap k first mid rest) = true := rfl
    simp only [hw, ite_true]
    cases hh : hasHead first with
    | true =>
      simp only [ite_true, rf, hh]
      rw [ihm _ (by omega)]
      have hR : R N (tombstone :: (flatL rest ++ (.close :: postT))) =
          (R N (flatL rest ++ (.close :: postT))).map (.starts [] :: ·) := by
        have := R_op N Goml.Gen.Tokens.tombStoneKind none (flatL rest ++ (.close :: postT))
          [Goml.Gen.Tokens.tombStoneKind] (tombstone :: (flatL rest ++ (.close :: postT))) (by rw [chain_none])
        show R N (Ev.op Goml.Gen.Tokens.tombStoneKind none :: _) = _
        rw [this]
        simp [filt_tomb]
      rw [hR, ihr _ (by omega), R_close]
      cases R N postT <;> simp
    | false =>
      simp only [Bool.false_eq_true, ite_false, rf, hh]
      rw [ihm _ (by omega)]
      have hc := ch_chain hX N [k] (by omega)
      rw [← hfw2, ← e2] at hc
      rw [R_op N k fw2 _ ([k] ++ ups) _ hc]
      have : List.drop 1 ((tombstone :: (flatL rest ++ [Ev.close])) ++ postT) = flatL rest ++ (.close :: postT) := by simp
      rw [this, ihr _ (by omega), R_close]
      cases R N postT <;> simp
  · -- nil
    intro post _
    simp only [flatL, rfL, List.nil_append]
    cases R N post <;> rfl
  · -- cons
    intro i is ihi ihis post hN
    simp only [flatL, List.length_append] at hN
    simp only [flatL, rfL, List.append_assoc]
    rw [ihi none _ [] _ (Ch.done _ _) (by simp; omega)]
    simp only [ite_self]
    rw [ihis _ (by omega)]
    cases R N post <;> simp

/-! ## the resolved view is balanced -/

abbrev tombK : Nat := Goml.Gen.Tokens.tombStoneKind

mutual
/-- no node of the item tree has the kind `TombStone` (such a node would be dropped by `build_tree`) -/
def kindsOK : Item → Bool
  | .adv => true
  | .err _ => true
  | .node k ch => k != tombK && kindsOKL ch
  | .wrap k first mid rest => k != tombK && kindsOK first && kindsOKL mid && kindsOKL rest
def kindsOKL : List Item → Bool
  | [] => true
  | i :: is => kindsOK i && kindsOKL is
end

theorem filt_id (l : List Nat) (h : ∀ u ∈ l, u ≠ tombK) : filt l = l := by
  unfold filt
  rw [List.filter_eq_self]
  intro a ha
  simpa using h a ha

theorem bal_cons (d : Nat) (ev : REv) (evs : List REv) (h : evs ≠ []) :
    balancedFrom d (ev :: evs) = (match depthAfter d ev with
      | some (d' + 1) => balancedFrom (d' + 1) evs
      | _ => false) := by
  cases evs with
  | nil => exact absurd rfl h
  | cons x xs => rfl

theorem bal_advance (d : Nat) (evs : List REv) (h : evs ≠ []) (hd : 1 ≤ d) :
    balancedFrom d (.advance :: evs) = balancedFrom d evs := by
  rw [bal_cons _ _ _ h]; obtain ⟨d', rfl⟩ : ∃ d', d = d' + 1 := ⟨d - 1, by omega⟩; simp [depthAfter]

theorem bal_error (d : Nat) (m : String) (evs : List REv) (h : evs ≠ []) (hd : 1 ≤ d) :
    balancedFrom d (.error m :: evs) = balancedFrom d evs := by
  rw [bal_cons _ _ _ h]; obtain ⟨d', rfl⟩ : ∃ d', d = d' + 1 := ⟨d - 1, by omega⟩; simp [depthAfter]

theorem bal_starts (d : Nat) (ks : List Nat) (evs : List REv) (h : evs ≠ []) (hd : 1 ≤ d + ks.length) :
    balancedFrom d (.starts ks :: evs) = balancedFrom (d + ks.length) evs := by
  rw [bal_cons _ _ _ h]; obtain ⟨d', hd'⟩ : ∃ d', d + ks.length = d' + 1 := ⟨d + ks.length - 1, by omega⟩
  simp [depthAfter, hd']

theorem bal_finish (d : Nat) (evs : List REv) (h : evs ≠ []) (hd : 2 ≤ d) :
    balancedFrom d (.finish :: evs) = balancedFrom (d - 1) evs := by
  rw [bal_cons _ _ _ h]; obtain ⟨d', rfl⟩ : ∃ d', d = d' + 2 := ⟨d - 2, by omega⟩
  simp [depthAfter]

mutual
theorem rf_balanced :
    ∀ (it : Item), kindsOK it = true → ∀ (ups : List Nat) (d : Nat) (tail : List REv), (∀ u ∈ ups, u ≠ tombK) → 1 ≤ d →
      tail ≠ [] → balancedFrom d (rf it ups ++ tail) = balancedFrom (d + if hasHead it then ups.length else 0) tail
  | .adv, _, ups, d, tail, _, hd, ht => by
    simp only [rf, hasHead, List.cons_append, List.nil_append, Bool.false_eq_true, ite_false, Nat.add_zero]
    exact bal_advance d tail ht hd
  | .err m, _, ups, d, tail, _, hd, ht => by
    simp only [rf, hasHead, List.cons_append, List.nil_append, Bool.false_eq_true, ite_false, Nat.add_zero]
    exact bal_error d m tail ht hd
  | .node k ch, hk, ups, d, tail, hu, hd, ht => by
    simp only [kindsOK, Bool.and_eq_true, bne_iff_ne, ne_eq] at hk
    have hf : filt (k :: ups).reverse = (k :: ups).reverse := filt_id _ (by
      intro u hu'; simp only [List.mem_reverse, List.mem_cons] at hu'; rcases hu' with rfl | h; exact hk.1; exact hu u h)
    simp only [rf, hasHead, ite_true, List.cons_append, List.append_assoc, hf]
    rw [bal_starts _ _ _ (by simp) (by omega)]
    simp only [List.length_reverse, List.length_cons]
    rw [rfL_balanced ch hk.2 _ _ (by omega) (by simp)]
    simp only [List.nil_append]
    rw [bal_finish _ _ ht (by omega)]
    congr 1
  | .wrap k first mid rest, hk, ups, d, tail, hu, hd, ht => by
    simp only [kindsOK, Bool.and_eq_true, bne_iff_ne, ne_eq] at hk
    obtain ⟨⟨⟨hk1, hk2⟩, hk3⟩, hk4⟩ := hk
    have hu' : ∀ u ∈ k :: ups, u ≠ tombK := by
      intro u h; simp only [List.mem_cons] at h; rcases h with rfl | h; exact hk1; exact hu u h
    have hf : filt (k :: ups).reverse = (k :: ups).reverse := filt_id _ (by
      intro u h; apply hu' u; simp only [List.mem_reverse] at h; exact h)
    have hw : hasHead (Item.wrap k first mid rest) = true := rfl
    simp only [rf, hw, ite_true, List.append_assoc, List.cons_append]
    rw [rf_balanced first hk2 _ _ _ hu' hd (by simp)]
    cases hh : hasHead first with
    | true =>
      simp only [ite_true, List.length_cons]
      rw [rfL_balanced mid hk3 _ _ (by omega) (by simp), bal_starts _ _ _ (by simp) (by simp; omega)]
      simp only [List.length_nil, Nat.add_zero]
      rw [rfL_balanced rest hk4 _ _ (by omega) (by simp)]
      simp only [List.nil_append]
      rw [bal_finish _ _ ht (by omega)]
      congr 1
    | false =>
      simp only [Bool.false_eq_true, ite_false, Nat.add_zero, hf]
      rw [rfL_balanced mid hk3 _ _ hd (by simp), bal_starts _ _ _ (by simp) (by omega)]
      simp only [List.length_reverse, List.length_cons]
      rw [rfL_balanced rest hk4 _ _ (by omega) (by simp)]
      simp only [List.nil_append]
      rw [bal_finish _ _ ht (by omega)]
      congr 1
theorem rfL_balanced : ∀ (items : List Item), kindsOKL items = true → ∀ (d : Nat) (tail : List REv), 1 ≤ d → tail ≠ [] →
    balancedFrom d (rfL items ++ tail) = balancedFrom d tail
  | [], _, d, tail, _, _ => by simp [rfL]
  | i :: is, hk, d, tail, hd, ht => by
    simp only [kindsOKL, Bool.and_eq_true] at hk
    simp only [rfL, List.append_assoc]
    rw [rf_balanced i hk.1 [] _ _ (by simp) hd (by
      intro h; simp only [List.append_eq_nil_iff] at h; exact ht h.2)]
    simp only [List.length_nil, ite_self, Nat.add_zero]
    exact rfL_balanced is hk.2 d tail hd ht
end

theorem advances_append (a b : List REv) : advances (a ++ b) = advances a + advances b := by
  induction a with
  | nil => simp [advances]
  | cons x xs ih => cases x <;> simp [advances, ih] <;> omega

theorem rf_advances : ∀ (it : Item) (ups : List Nat), advances (rf it ups) = advs it := by
  intro it
  apply Item.rec
    (motive_1 := fun it => ∀ (ups : List Nat), advances (rf it ups) = advs it)
    (motive_2 := fun items => advances (rfL items) = advsL items)
  · intro ups; simp [rf, advances, advs]
  · intro m ups; simp [rf, advances, advs]
  · intro k ch ih ups; simp [rf, advances, advs, advances_append, ih]
  · intro k first mid rest ihf ihm ihr ups
    simp [rf, advances, advs, advances_append, ihf, ihm, ihr]; omega
  · simp [rfL, advances, advsL]
  · intro i is ihi ihis; simp [rfL, advsL, advances_append, ihi, ihis]

/-- **The event list of a rooted item tree is well-formed**: it resolves, is balanced (root opened by the first
event and closed by the last), and has exactly `advsL` advances. -/
theorem flat_root_wellformed (k : Nat) (ch : List Item) (hk : kindsOK (.node k ch) = true) :
    ∃ revs, resolve (flatL [.node k ch]) = some revs ∧ balancedFrom 0 revs = true ∧ advances revs = advsL ch := by
  have hspec := rf_spec ((flatL [Item.node k ch]).length + 1) (.node k ch) none [] [] [] (Ch.done _ _)
    (by simp [flatL])
  have e : flatL [Item.node k ch] = flat (.node k ch) none ++ [] := by simp [flatL]
  refine ⟨rf (.node k ch) [] ++ [], ?_, ?_, ?_⟩
  · rw [resolve_eq_R, e]
    rw [e] at hspec
    rw [hspec]; simp [R_nil]
  · have hk' := hk
    simp only [kindsOK, Bool.and_eq_true, bne_iff_ne, ne_eq] at hk'
    have hf : filt [k] = [k] := filt_id _ (by intro u hu; simp at hu; subst hu; exact hk'.1)
    simp only [rf, List.reverse_cons, List.reverse_nil, List.nil_append, List.append_nil, hf]
    rw [bal_starts _ _ _ (by simp) (by simp)]
    rw [rfL_balanced ch hk'.2 _ _ (by simp) (by simp)]
    rfl
  · simpa [rf, advances, advances_append, advs] using rf_advances (.node k ch) []

end Goml.Grammar
