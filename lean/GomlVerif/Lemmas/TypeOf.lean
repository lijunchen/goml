import GomlVerif.Model.Mono
import GomlVerif.Model.Lift
import GomlVerif.Model.Anf
import GomlVerif.Model.Closed
/-!
Each stage model mirrors one Rust file and so has its own copy of `get_ty` (`Mono.getTy`, `Lift.monoTy`, `Anf.tyOf`, with their
`primTy`), row for row the same function: they are equated here, so that what is proved of `getTy` holds of all three.
`Lift.tyBeq` is a copy of the same kind.
-/
namespace Goml.Anf
open Goml

theorem primTy_eq (p : Prim) : Anf.primTy p = Mono.primTy p := by cases p <;> rfl

theorem tyOf_eq_getTy : ∀ (e : Expr), tyOf e = Mono.getTy e
  | .prim p => primTy_eq p
  | .letE _ _ b => by simp only [tyOf, Mono.getTy]; exact tyOf_eq_getTy b
  | .ite _ t _ => by simp only [tyOf, Mono.getTy]; exact tyOf_eq_getTy t
  | .var _ _ | .tag _ _ | .constr _ _ _ | .tuple _ _ | .array _ _ | .closure _ _ _ | .matchE _ _ _ _ | .while _ _
  | .go _ | .cget _ _ _ _ | .un _ _ _ | .bin _ _ _ _ | .call _ _ _ | .toDyn _ _ _ _ | .dynCall _ _ _ _ _
  | .traitCall _ _ _ _ _ | .proj _ _ _ => rfl

end Goml.Anf

namespace Goml.Lift
open Goml

theorem primTy_eq (p : Prim) : Lift.primTy p = Mono.primTy p := by cases p <;> rfl

theorem monoTy_eq_getTy : ∀ (e : Expr), monoTy e = Mono.getTy e
  | .prim p => primTy_eq p
  | .letE _ _ b => by simp only [monoTy, Mono.getTy]; exact monoTy_eq_getTy b
  | .ite _ t _ => by simp only [monoTy, Mono.getTy]; exact monoTy_eq_getTy t
  | .var _ _ | .tag _ _ | .constr _ _ _ | .tuple _ _ | .array _ _ | .closure _ _ _ | .matchE _ _ _ _ | .while _ _
  | .go _ | .cget _ _ _ _ | .un _ _ _ | .bin _ _ _ _ | .call _ _ _ | .toDyn _ _ _ _ | .dynCall _ _ _ _ _
  | .traitCall _ _ _ _ _ | .proj _ _ _ => rfl

/-- rows 17 and 20 are the catch-alls (unlike types, unlike lists), where the result is `false` -/
theorem tyBeq_eq_all : (∀ a b, tyBeq a b = true → a = b) ∧ (∀ as bs, tyListBeq as bs = true → as = bs) := by
  apply tyBeq.mutual_induct_unfolding (motive_1 := fun a b r => r = true → a = b)
    (motive_2 := fun as bs r => r = true → as = bs)
  case case17 | case20 => intros; contradiction
  all_goals intros
  all_goals simp_all only [Bool.and_eq_true, beq_iff_eq, forall_const]

theorem tyBeq_eq : ∀ (a b : Ty), tyBeq a b = true → a = b := tyBeq_eq_all.1

end Goml.Lift

namespace Goml.Closed
open Goml

/-- `getTy` returns the node's own annotation, descends into a `let` body / `if` branch, or answers `unit` or a literal type -/
theorem allTys_getTy {p : Ty → Bool} (hu : p .unit = true) (hl : ∀ q, p (Mono.primTy q) = true) :
    ∀ (e : Expr), allTys p e = true → p (Mono.getTy e) = true
  | .var _ _, h | .tag _ _, h => by simpa [allTys, Mono.getTy] using h
  | .prim q, _ => hl q
  | .constr _ _ _, h | .tuple _ _, h | .array _ _, h | .cget _ _ _ _, h | .un _ _ _, h | .proj _ _ _, h => by
    simp only [allTys, Bool.and_eq_true] at h; exact h.1
  | .closure _ _ _, h | .matchE _ _ _ none, h | .bin _ _ _ _, h | .call _ _ _, h | .dynCall _ _ _ _ _, h
  | .traitCall _ _ _ _ _, h => by simp only [allTys, Bool.and_eq_true] at h; exact h.1.1
  | .letE _ _ b, h => by
    simp only [allTys, Bool.and_eq_true] at h; simp only [Mono.getTy]; exact allTys_getTy hu hl b h.2
  | .matchE _ _ _ (some _), h => by simp only [allTys, Bool.and_eq_true] at h; exact h.1.1.1
  | .ite _ t _, h => by
    simp only [allTys, Bool.and_eq_true] at h; simp only [Mono.getTy]; exact allTys_getTy hu hl t h.1.2
  | .while _ _, _ | .go _, _ => hu
  | .toDyn _ _ _ _, h => by simp only [allTys, Bool.and_eq_true] at h; exact h.1.2

end Goml.Closed
