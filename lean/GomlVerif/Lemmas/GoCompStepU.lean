import GomlVerif.Lemmas.GoCompStepA
/-! calls of functions of the file: parameter binding, the `var ret; …; return ret` wrapper of `compile_fn` -/
namespace Goml.GoComp
open Goml Goml.Go Goml.GoCompile Goml.GoFrag
open Goml.Sem (Val)
open Goml.Dce (keys lookup_cons_self lookup_cons_ne lookup_append_not_key key_of_lookup_some lookup_swap update_cons_self)

attribute [local irreducible] Goml.GoCompile.vn Goml.GoCompile.gid Goml.GoCompile.rn

/-- the Go parameter environment `callG` builds -/
def goBind (ps : List (String × Ty)) (gvs : List GVal) : GEnv :=
  ((ps.map fun p => (vn p.1, goTy p.2)).zip gvs).map fun ((x, _), v) => (x, v)

theorem goBind_nil (gvs : List GVal) : goBind [] gvs = [] := rfl
theorem goBind_cons (x : String) (t : Ty) (ps : List (String × Ty)) (g : GVal) (gvs : List GVal) :
    goBind ((x, t) :: ps) (g :: gvs) = (vn x, g) :: goBind ps gvs := rfl

theorem keys_goBind_sub : ∀ (ps : List (String × Ty)) (gvs : List GVal) (y : String),
    y ∈ keys (goBind ps gvs) → y ∈ ps.map (fun p => vn p.1)
  | [], gvs, y, h => by simp [goBind, keys] at h
  | (x, t) :: ps, [], y, h => by simp [goBind, keys] at h
  | (x, t) :: ps, g :: gvs, y, h => by
    rw [goBind_cons] at h
    simp only [Goml.Dce.keys_cons, List.mem_cons] at h
    rcases h with rfl | h
    · simp
    · exact List.mem_cons_of_mem _ (keys_goBind_sub ps gvs y h)

/-- binding the parameters: `Sem.bindParams` pushes them in order, `callG` zips them -/
theorem params_rel {env : Env} {η : Hp} : ∀ (ps : List (String × Ty)) (vs : List Val) (gvs : List GVal),
    ArgsRel env η vs gvs (ps.map (·.2)) → (ps.map fun p => vn p.1).Nodup →
    ∀ (Γ : Ctx) (ρ : Sem.Env) (gρ : GEnv), EnvRel env η Γ ρ gρ → (∀ p, p ∈ ps → ¬ vn p.1 ∈ keys gρ) →
    EnvRel env η (ps.reverse ++ Γ) (Sem.bindParams (ps.map (·.1)) vs ρ) (goBind ps gvs ++ gρ)
  | [], vs, gvs, hargs, _, Γ, ρ, gρ, hrel, _ => by
    cases vs <;> cases gvs <;> simp [ArgsRel] at hargs
    simpa [Sem.bindParams, goBind] using hrel
  | (x, t) :: ps, vs, gvs, hargs, hnd, Γ, ρ, gρ, hrel, hfresh => by
    rcases vs with _ | ⟨v, vs⟩ <;> rcases gvs with _ | ⟨g, gvs⟩ <;> simp [ArgsRel] at hargs
    obtain ⟨hval, hty, hrest⟩ := hargs
    simp only [List.map_cons, List.nodup_cons] at hnd
    obtain ⟨hxnot, hnd'⟩ := hnd
    have hx : ¬ vn x ∈ keys gρ := hfresh (x, t) List.mem_cons_self
    have ih := params_rel ps vs gvs hrest hnd' ((x, t) :: Γ) ((x, v) :: ρ) ((vn x, g) :: gρ) (hrel.cons hx hval hty)
      (fun p hp hk => by
        simp only [Goml.Dce.keys_cons, List.mem_cons] at hk
        rcases hk with hk | hk
        · exact hxnot (hk ▸ List.mem_map_of_mem (f := fun p => vn p.1) hp)
        · exact hfresh p (List.mem_cons_of_mem _ hp) hk)
    have hxD : ¬ vn x ∈ keys (goBind ps gvs) := fun h => hxnot (keys_goBind_sub ps gvs _ h)
    have hΓ : ((x, t) :: ps).reverse ++ Γ = ps.reverse ++ (x, t) :: Γ := by simp
    rw [hΓ, goBind_cons]
    simp only [List.map_cons, Sem.bindParams]
    exact ih.go_agree (fun y ty hy => lookup_swap g hxD gρ (vn y))

theorem stepU {env : Env} {file : AFile} {G : List String} {P : Prog} {F : GFile} (hl : Link env file G P F) {n : Nat}
    (ha : SimA env file G P F n) : SimU env file G P F (n + 1) := by
  intro g hg hgG η vs gvs w gw hfeq hdeq hargs hw
  rw [Sem.apply_fn]; simp only [hl.fnSrc g hg hgG, AFn.toFn]
  obtain ⟨st, hfind, hlocal⟩ := hl.fnGo g hg hgG
  obtain ⟨hrs, hfrag, hret', hndP, hsok0, hblank, hcallees, hfnames⟩ := localOK_view hlocal
  have hlocals := localsOf_compileFn env st g
  generalize Goml.Dce.localsOf (compileFn env st g).1 = L at *
  rw [compileFn_shape] at hfind hsok0
  generalize hrn : "ret" ++ toString st.n = retName at *
  generalize hst1 : (st.next.check (okTy g.ret)).check (g.params.all fun p => okTy p.2) = st1 at *
  generalize hS : (compileA env (.assign retName) st1 g.body).1 = S at *
  simp only [sokB, sokStmtB, Goml.Dce.declScope, Bool.and_eq_true, Bool.not_eq_true', List.contains_eq_mem,
    decide_eq_false_iff_not, sokB_append] at hsok0
  obtain ⟨⟨hretPn, _⟩, hsokS, _⟩ := hsok0
  have hlen := hargs.length
  have hrel0 : EnvRel env η (paramCtx g) (Sem.bindParams (g.params.map (·.1)) vs []) (goBind g.params gvs) := by
    have := params_rel g.params vs gvs hargs hndP [] [] [] ⟨fun x t h => by simp [lookupTy] at h, fun x _ => rfl⟩
      (fun p _ h => by simp [keys] at h)
    simpa [paramCtx] using this
  have hkeys0 : ∀ y, y ∈ keys (goBind g.params gvs) → y ∈ g.params.map (fun p => vn p.1) := keys_goBind_sub _ _
  have hretP : ¬ gid retName ∈ keys (goBind g.params gvs) := fun h => hretPn (hkeys0 _ h)
  let Bad : List String := "_" :: (calleesA ((paramCtx g).map (·.1)) g.body ++ (fnSigs file G).map (fun e => vn e.1))
  let env1 : GEnv := (gid retName, zero F (goTy g.ret)) :: goBind g.params gvs
  have hrel1 : EnvRel env η (paramCtx g) (Sem.bindParams (g.params.map (·.1)) vs []) env1 :=
    hrel0.go_agree (fun y ty hy => by
      obtain ⟨_, _, _, h2, _, _⟩ := hrel0.typed hy
      exact lookup_cons_ne _ _ (fun e => hretP (e ▸ key_of_lookup_some h2)))
  have hlocalsBad : ∀ y, y ∈ (g.params.map fun p => vn p.1) ++ (gid retName :: Goml.Dce.allDecls S) → ¬ y ∈ Bad := by
    intro y hy hb
    rw [← hlocals] at hy
    simp only [Bad, List.mem_cons, List.mem_append] at hb
    rcases hb with rfl | hc | hc
    · exact hblank hy
    · exact (hcallees y hc).1 hy
    · obtain ⟨e, he, rfl⟩ := List.mem_map.mp hc
      exact (hfnames e he).1 hy
  have hinv1 : GInv Bad S env1 := by
    refine ⟨sokB_anti S (fun y hk => ?_) (sokB_weaken S (fun y hy => ?_) hsokS), fun y hk => ?_⟩
    · simp only [env1, Goml.Dce.keys_cons, List.mem_cons] at hk ⊢
      exact hk.imp id (hkeys0 y)
    · have := hlocalsBad y (List.mem_append_right _ (List.mem_cons_of_mem _ hy))
      simpa [notBad] using this
    · simp only [env1, Goml.Dce.keys_cons, List.mem_cons] at hk
      rcases hk with rfl | hk
      · exact hlocalsBad _ (List.mem_append_right _ List.mem_cons_self)
      · exact hlocalsBad _ (List.mem_append_left _ (hkeys0 _ hk))
  have htgt1 : TgtOK (.assign retName) (paramCtx g) env1 (aTy g.body) :=
    ⟨by simp [env1], fun y ty hy e => by
      obtain ⟨_, _, _, h2, _, _⟩ := hrel0.typed hy
      exact hretP (e ▸ key_of_lookup_some h2)⟩
  have hsim := ha (.assign retName) st1 g.body η (paramCtx g) [] _ w env1 gw Bad hfrag hrel1 (KRel.nil _) hw (hS ▸ hinv1) htgt1
    (by simp [Bad]) ⟨hfeq, fun e he => by
      simp only [Bad, List.mem_cons, List.mem_append]
      exact Or.inr (Or.inr (List.mem_map_of_mem (f := fun e => vn e.1) (hfeq ▸ he))), hdeq⟩
    (fun c hc => by simp only [Bad, List.mem_cons, List.mem_append]; exact Or.inr (Or.inl hc))
  rw [hS, hret'] at hsim
  have hvd : StmtS F (goBind g.params gvs) gw (.varDecl (gid retName) (goTy g.ret) none) (.ok (env1, .normal) gw) :=
    stmt_varDecl_none (flat_not_absurd (valTy_flat hrs))
  rw [concl_eq] at hsim
  rw [conclCall_eq]
  refine hsim.imp ?_ (fun k w' ⟨η1, hle1, gw', hb, hw1⟩ =>
    ⟨η1, hle1, gw', call_func_env hfind rfl (block_cons hvd (block_append_panic hb)) rfl (by simp [hlen.2]), hw1⟩)
  rintro v w' ⟨η1, hle1, D, gv, gw', hb, hval, hty, hw1, hD⟩
  simp only [post, env1, update_cons_self] at hb
  have hlk : lookupG (D ++ (gid retName, gv) :: goBind g.params gvs) (gid retName) = some gv := by
    rw [lookup_append_not_key (fun h => (sokB_top S _ hsokS _ (hD _ h)).2 List.mem_cons_self)]; exact lookup_cons_self _ _ _
  have hr : StmtS F (D ++ (gid retName, gv) :: goBind g.params gvs) gw'
      (.ret (some (.var (gid retName) (goTy g.ret)))) (.ok (D ++ (gid retName, gv) :: goBind g.params gvs, .ret gv) gw') :=
    stmt_ret (ev_var_some hlk)
  have hblock := block_cons hvd (block_append hb (block_cons_sig (rest := []) (by simp) hr))
  exact ⟨η1, hle1, gv, gw', call_func_env hfind rfl hblock rfl (by simp [hlen.2]), hval, hty, hw1⟩

end Goml.GoComp
