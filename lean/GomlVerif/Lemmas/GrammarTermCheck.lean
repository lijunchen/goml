import GomlVerif.Lemmas.GrammarTerm
/-! `parseItems_no_oof` (stated as `grammar_terminates` in Props/C04): the static check of the abstract interpreter, decided for every
grammar function the parser can reach, and the resulting theorem that the call budget of `parseItems` never runs out. The three tables below were
computed as fixpoints (universe = closure of `file` under calls; summaries = greatest fixpoint from ⊤; ranks = least
ranks that make every call before progress go downward) and are only *checked* here: a changed grammar or generated
table that invalidates them makes `all_checked` fail to build. -/
namespace Goml.Grammar

def rkTbl : List Nat := [1, 0, 0, 0, 0, 0, 1, 0, 0, 1, 0, 1, 0, 1, 0, 4, 0, 0, 3, 0, 1, 0, 1, 0, 0, 1, 0, 1, 0, 1, 0, 1, 0, 3, 0, 1, 0, 0, 0, 0, 1, 0, 1, 0, 3, 2, 1, 0, 0, 1, 0, 1, 0, 3, 2, 0, 0, 0, 0, 3, 2, 1, 0, 0, 6, 5, 4, 1, 0, 0, 0, 2, 1, 0, 1, 0, 3, 1, 0, 0, 0, 1, 0, 0, 0, 0, 1, 0, 0, 0, 0, 0, 0, 0, 0, 0, 0, 0, 0, 0]
def summTbl : List A := [⟨true, true, true, true, true, true⟩, ⟨true, true, false, false, false, true⟩, ⟨true, true, true, true, true, true⟩, ⟨true, true, true, true, true, true⟩, ⟨true, true, true, true, true, true⟩, ⟨true, true, true, true, true, true⟩, ⟨true, true, false, false, false, true⟩, ⟨true, true, false, false, false, true⟩, ⟨true, true, false, true, false, true⟩, ⟨true, true, false, false, false, true⟩, ⟨true, true, false, false, false, true⟩, ⟨true, true, true, true, true, true⟩, ⟨true, true, true, true, true, true⟩, ⟨true, true, false, true, false, true⟩, ⟨true, true, false, true, false, true⟩, ⟨true, true, true, true, true, true⟩, ⟨true, true, false, true, true, true⟩, ⟨true, true, false, true, true, true⟩, ⟨true, true, true, true, true, true⟩, ⟨true, true, true, true, true, true⟩, ⟨true, true, false, false, false, true⟩, ⟨true, true, false, false, false, true⟩, ⟨true, true, true, true, true, true⟩, ⟨true, true, true, true, true, true⟩, ⟨true, true, false, true, false, true⟩, ⟨true, true, false, false, false, true⟩, ⟨true, true, false, false, false, true⟩, ⟨true, true, false, false, false, true⟩, ⟨true, true, false, false, false, true⟩, ⟨true, true, true, true, true, true⟩, ⟨true, true, true, true, true, true⟩, ⟨true, true, true, true, true, true⟩, ⟨true, true, true, true, true, true⟩, ⟨true, true, true, true, true, true⟩, ⟨true, true, false, false, false, true⟩, ⟨true, true, true, true, true, true⟩, ⟨true, true, true, true, true, true⟩, ⟨true, true, false, false, false, true⟩, ⟨true, true, true, true, true, true⟩, ⟨true, true, false, true, false, true⟩, ⟨true, true, true, true, true, true⟩, ⟨true, true, true, true, true, true⟩, ⟨true, true, true, true, true, true⟩, ⟨true, true, true, true, true, true⟩, ⟨true, true, true, true, true, true⟩, ⟨true, true, true, true, true, true⟩, ⟨true, true, false, true, true, true⟩, ⟨true, true, false, false, true, true⟩, ⟨true, true, false, true, true, true⟩, ⟨true, true, true, true, true, true⟩, ⟨true, true, true, true, true, true⟩, ⟨true, true, true, true, true, true⟩, ⟨true, true, true, true, true, true⟩, ⟨true, true, true, true, true, true⟩, ⟨true, true, true, true, true, true⟩, ⟨true, true, false, true, true, true⟩, ⟨true, true, false, false, false, true⟩, ⟨true, true, false, false, false, true⟩, ⟨true, true, true, true, true, true⟩, ⟨true, true, true, true, true, true⟩, ⟨true, true, true, true, true, true⟩, ⟨true, true, true, true, true, true⟩, ⟨true, true, true, true, true, true⟩, ⟨true, true, true, true, true, true⟩, ⟨true, true, true, true, true, true⟩, ⟨true, true, true, true, true, true⟩, ⟨true, true, true, true, true, true⟩, ⟨true, true, true, true, true, true⟩, ⟨true, true, true, true, true, true⟩, ⟨true, true, false, true, false, true⟩, ⟨true, true, false, true, false, true⟩, ⟨true, true, false, true, true, true⟩, ⟨true, true, false, true, true, true⟩, ⟨true, true, false, false, true, true⟩, ⟨true, true, false, false, false, true⟩, ⟨true, true, false, false, false, true⟩, ⟨true, true, true, true, true, true⟩, ⟨true, true, false, true, true, true⟩, ⟨true, true, false, true, true, true⟩, ⟨true, true, false, false, false, true⟩, ⟨true, true, false, false, false, true⟩, ⟨true, true, true, true, true, true⟩, ⟨true, true, true, true, true, true⟩, ⟨true, true, false, false, false, true⟩, ⟨true, true, true, true, true, true⟩, ⟨true, true, false, false, false, true⟩, ⟨true, true, true, true, true, true⟩, ⟨true, true, false, true, false, true⟩, ⟨true, true, false, false, false, true⟩, ⟨true, true, true, true, true, true⟩, ⟨true, true, true, true, true, true⟩, ⟨true, true, true, true, true, true⟩, ⟨true, true, true, true, true, true⟩, ⟨true, true, true, true, true, true⟩, ⟨true, true, true, true, true, true⟩, ⟨true, true, true, true, true, true⟩, ⟨true, true, true, true, true, true⟩, ⟨true, true, true, true, true, true⟩, ⟨true, true, true, true, true, true⟩, ⟨true, true, true, true, true, true⟩]
def allFns : List Fn := [(Goml.Grammar.Fn.file),
  (Goml.Grammar.Fn.packageDecl),
  (Goml.Grammar.Fn.fileImports),
  (Goml.Grammar.Fn.fileItems),
  (Goml.Grammar.Fn.importDecl),
  (Goml.Grammar.Fn.attributeList),
  (Goml.Grammar.Fn.itemWithAttrs),
  (Goml.Grammar.Fn.externDecl),
  (Goml.Grammar.Fn.func),
  (Goml.Grammar.Fn.enumDef),
  (Goml.Grammar.Fn.structDef),
  (Goml.Grammar.Fn.traitDef),
  (Goml.Grammar.Fn.implBlock),
  (Goml.Grammar.Fn.expr),
  (Goml.Grammar.Fn.attributeListLoop),
  (Goml.Grammar.Fn.externDeclWithMarker),
  (Goml.Grammar.Fn.funcWithMarker),
  (Goml.Grammar.Fn.enumDefWithMarker),
  (Goml.Grammar.Fn.structDefWithMarker),
  (Goml.Grammar.Fn.traitDefWithMarker),
  (Goml.Grammar.Fn.implBlockWithMarker),
  (Goml.Grammar.Fn.exprBp 0),
  (Goml.Grammar.Fn.attribute),
  (Goml.Grammar.Fn.paramList),
  (Goml.Grammar.Fn.typeExpr),
  (Goml.Grammar.Fn.genericList true),
  (Goml.Grammar.Fn.block),
  (Goml.Grammar.Fn.genericList false),
  (Goml.Grammar.Fn.variantList),
  (Goml.Grammar.Fn.structFieldList),
  (Goml.Grammar.Fn.traitMethodList),
  (Goml.Grammar.Fn.implHasTrait),
  (Goml.Grammar.Fn.pathAlways),
  (Goml.Grammar.Fn.implItems),
  (Goml.Grammar.Fn.expectExprBp 23 "expected an operand for prefix operator"),
  (Goml.Grammar.Fn.exprBpLoop 0),
  (Goml.Grammar.Fn.atom),
  (Goml.Grammar.Fn.attributeBody),
  (Goml.Grammar.Fn.paramListLoop),
  (Goml.Grammar.Fn.typeExprBp 0),
  (Goml.Grammar.Fn.genericListLoop true),
  (Goml.Grammar.Fn.blockLoop false),
  (Goml.Grammar.Fn.genericListLoop false),
  (Goml.Grammar.Fn.variantListLoop),
  (Goml.Grammar.Fn.structFieldListLoop),
  (Goml.Grammar.Fn.traitMethodListLoop),
  (Goml.Grammar.Fn.implHasTraitLoop),
  (Goml.Grammar.Fn.pathInner true),
  (Goml.Grammar.Fn.exprBp 23),
  (Goml.Grammar.Fn.argList),
  (Goml.Grammar.Fn.expectExprBp 2 "expected a right-hand side for binary operator"),
  (Goml.Grammar.Fn.expectExprBp 4 "expected a right-hand side for binary operator"),
  (Goml.Grammar.Fn.expectExprBp 10 "expected a right-hand side for binary operator"),
  (Goml.Grammar.Fn.expectExprBp 12 "expected a right-hand side for binary operator"),
  (Goml.Grammar.Fn.expectExprBp 14 "expected a right-hand side for binary operator"),
  (Goml.Grammar.Fn.expectExprBp 16 "expected a right-hand side for binary operator"),
  (Goml.Grammar.Fn.expectExprBp 24 "expected a right-hand side for binary operator"),
  (Goml.Grammar.Fn.expectExpr "expected an expression in array literal"),
  (Goml.Grammar.Fn.arrayLoop),
  (Goml.Grammar.Fn.looksLikeStructLiteral),
  (Goml.Grammar.Fn.structLitFieldList),
  (Goml.Grammar.Fn.expectExpr "expected an expression in paren or tuple literal"),
  (Goml.Grammar.Fn.tupleLoop),
  (Goml.Grammar.Fn.expectExpr "expected an expression after `if`"),
  (Goml.Grammar.Fn.expectExpr "expected a then-branch expression for `if`"),
  (Goml.Grammar.Fn.expectExpr "expected an else-branch expression for `if`"),
  (Goml.Grammar.Fn.expectExpr "expected a scrutinee expression for `match`"),
  (Goml.Grammar.Fn.matchArmList),
  (Goml.Grammar.Fn.expectExpr "expected an expression after `while`"),
  (Goml.Grammar.Fn.expectExpr "expected a body expression for `while`"),
  (Goml.Grammar.Fn.expectExpr "expected an expression after `go`"),
  (Goml.Grammar.Fn.goLoop),
  (Goml.Grammar.Fn.closureExpr),
  (Goml.Grammar.Fn.attributeBodyLoop),
  (Goml.Grammar.Fn.param),
  (Goml.Grammar.Fn.typeAtom),
  (Goml.Grammar.Fn.typeExprBpLoop 0),
  (Goml.Grammar.Fn.generic true),
  (Goml.Grammar.Fn.letStmt),
  (Goml.Grammar.Fn.wrapExprStmt),
  (Goml.Grammar.Fn.blockLoop true),
  (Goml.Grammar.Fn.generic false),
  (Goml.Grammar.Fn.variant),
  (Goml.Grammar.Fn.structField),
  (Goml.Grammar.Fn.traitMethod),
  (Goml.Grammar.Fn.pathLoop),
  (Goml.Grammar.Fn.exprBpLoop 23),
  (Goml.Grammar.Fn.argListLoop),
  (Goml.Grammar.Fn.exprBp 2),
  (Goml.Grammar.Fn.exprBp 4),
  (Goml.Grammar.Fn.exprBp 10),
  (Goml.Grammar.Fn.exprBp 12),
  (Goml.Grammar.Fn.exprBp 14),
  (Goml.Grammar.Fn.exprBp 16),
  (Goml.Grammar.Fn.exprBp 24),
  (Goml.Grammar.Fn.structLitFieldListLoop),
  (Goml.Grammar.Fn.expectExpr "expected an expression in tuple literal"),
  (Goml.Grammar.Fn.matchArmListLoop),
  (Goml.Grammar.Fn.closureParamList),
  (Goml.Grammar.Fn.closureBody),
  (Goml.Grammar.Fn.typeList),
  (Goml.Grammar.Fn.typeParamList),
  (Goml.Grammar.Fn.typeExprBp 4),
  (Goml.Grammar.Fn.traitSet),
  (Goml.Grammar.Fn.pattern),
  (Goml.Grammar.Fn.arg),
  (Goml.Grammar.Fn.exprBpLoop 2),
  (Goml.Grammar.Fn.exprBpLoop 4),
  (Goml.Grammar.Fn.exprBpLoop 10),
  (Goml.Grammar.Fn.exprBpLoop 12),
  (Goml.Grammar.Fn.exprBpLoop 14),
  (Goml.Grammar.Fn.exprBpLoop 16),
  (Goml.Grammar.Fn.exprBpLoop 24),
  (Goml.Grammar.Fn.structLitField),
  (Goml.Grammar.Fn.matchArm),
  (Goml.Grammar.Fn.closureParamListLoop),
  (Goml.Grammar.Fn.expectExpr "expected a closure body"),
  (Goml.Grammar.Fn.typeListLoop),
  (Goml.Grammar.Fn.typeParamListLoop),
  (Goml.Grammar.Fn.typeExprBpLoop 4),
  (Goml.Grammar.Fn.traitSetLoop),
  (Goml.Grammar.Fn.simplePattern),
  (Goml.Grammar.Fn.expectExpr "expected an expression"),
  (Goml.Grammar.Fn.expectExpr "expected an expression in match arm"),
  (Goml.Grammar.Fn.closureParam),
  (Goml.Grammar.Fn.patTupleLoop),
  (Goml.Grammar.Fn.patCtorLoop),
  (Goml.Grammar.Fn.structPatFieldList),
  (Goml.Grammar.Fn.structPatFieldListLoop),
  (Goml.Grammar.Fn.structPatField)]

def a0 : A := ⟨false, false, false, false, false, true⟩
def aDead : A := ⟨true, true, false, false, false, true⟩

def theCfg : Cfg :=
  { rk := fun f => rkTbl.getD f.id 0
    summ := fun f => summTbl.getD f.id ⟨false, false, false, false, false, true⟩
    inU := fun f => allFns.contains f }

/-- per function: every call is allowed from a fresh entry and from a dead entry, the claimed summary is what the
body yields from a dead entry, and the rank is below `ranks` -/
def checkFn (c : Cfg) (f : Fn) : Bool :=
  (abs c (c.rk f) (body f) a0).ok && (abs c (c.rk f) (body f) aDead).ok &&
    A.le (c.summ f) (abs c (c.rk f) (body f) aDead) && decide (c.rk f < ranks)

theorem all_checked : allFns.all (checkFn theCfg) = true := by decide +kernel

theorem file_in_universe : theCfg.inU .file = true := by decide +kernel

theorem run_terminates (c : Cfg) (hchk : ∀ f, c.inU f = true → checkFn c f = true) :
    ∀ (n : Nat) (f : Fn) (s : PS), c.inU f = true → s.oof = false → ranks * mu s + c.rk f + 1 ≤ n →
      (run n f s).oof = false ∧ (Dead s → s.isEof = false → G (c.summ f) s (run n f s)) := by
  intro n
  induction n with
  | zero => intro f s _ _ h; omega
  | succ n ih =>
    intro f s hU ho hb
    have hck := hchk f hU
    simp only [checkFn, Bool.and_eq_true, decide_eq_true_eq] at hck
    obtain ⟨⟨⟨hk0, hkd⟩, hle⟩, hr⟩ := hck
    let s1 : PS := { s with trace := s.trace ||| (1 <<< f.id) }
    have hm : ∀ g s, mu (run n g s) ≤ mu s := run_mu_le n
    have hc : HC c (c.rk f) s1 (run n) := by
      intro g s' hUg ho' hle' hcase
      have hckg := hchk g hUg
      simp only [checkFn, Bool.and_eq_true, decide_eq_true_eq] at hckg
      have hrg := hckg.2
      have hmu : mu s1 = mu s := rfl
      rw [hmu] at hle' hcase
      refine ih g s' hUg ho' ?_
      simp only [ranks] at hb hrg hr ⊢
      rcases hcase with h | h <;> omega
    have hG0 : G a0 s1 s1 := ⟨Nat.le_refl _, Or.inr ⟨rfl, Facts.bot _ _ _⟩⟩
    have r0 := sound c (c.rk f) s1 (run n) hm hc (body f) a0 s1 hG0 ho hk0
    refine ⟨r0.2, ?_⟩
    intro hd he
    have hGd : G aDead s1 s1 := ⟨Nat.le_refl _, Or.inr ⟨rfl, fun _ => hd, fun _ => he,
      fun x => Bool.noConfusion x, fun x => Bool.noConfusion x⟩⟩
    have rd := sound c (c.rk f) s1 (run n) hm hc (body f) aDead s1 hGd ho hkd
    exact G_weaken rd.1 hle

theorem theCfg_checked (f : Fn) (h : theCfg.inU f = true) : checkFn theCfg f = true :=
  List.all_eq_true.1 all_checked f (by simpa [theCfg] using h)

theorem mu_init_le (toks : List Nat) : mu (initPS toks) ≤ (toks.length + 1) * (FUEL + 1) := by
  unfold mu initPS
  simp only [FUEL, Gen.parserFuel]
  split <;> omega

/-- **the call budget of the grammar model never runs out**, for every token list. Each call or
loop iteration made before the potential `(len − pos)·257 + fuel` dropped goes to a function of lower rank (the ranks of `rkTbl` are at most 6; `ranks = 40` is the bound `checkFn` compares them with);
every other one follows a look that spent parser fuel or an `advance` inside the input; at fuel 0 every look answers
`eof` and the default path of each loop reaches an `advance` or leaves the loop. Hence the depth of calls and loop
iterations is at most `ranks · ((len+1)·257) + ranks` < `budget len` = `40·257·(len+1) + 41`. -/
theorem parseItems_no_oof (toks : List Nat) : (parseItems toks).oof = false := by
  unfold parseItems
  refine (run_terminates theCfg theCfg_checked _ .file (initPS toks) file_in_universe rfl ?_).1
  have h1 := mu_init_le toks
  have h2 : theCfg.rk .file < ranks := by decide +kernel
  unfold budget
  have : ranks * mu (initPS toks) ≤ ranks * ((toks.length + 1) * (FUEL + 1)) := Nat.mul_le_mul_left _ h1
  omega

end Goml.Grammar
