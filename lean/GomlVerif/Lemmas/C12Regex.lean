import GomlVerif.Model.Lex
/-! declarative meaning of the regex AST and correctness of the derivative matcher -/
namespace Goml.Lex
namespace Re

/-- `Matches r w`: the word `w` (scalar values) is in the language of `r` -/
inductive Matches : Re → List Nat → Prop
  | eps : Matches .eps []
  | chr (c : Nat) : Matches (.chr c) [c]
  | cls (neg : Bool) (rs : List (Nat × Nat)) (c : Nat) : (inRanges c rs != neg) = true → Matches (.cls neg rs) [c]
  | seq {a b : Re} {u v : List Nat} : Matches a u → Matches b v → Matches (.seq a b) (u ++ v)
  | altL {a b : Re} {u : List Nat} : Matches a u → Matches (.alt a b) u
  | altR {a b : Re} {u : List Nat} : Matches b u → Matches (.alt a b) u
  | starNil {a : Re} : Matches (.star a) []
  | starCons {a : Re} {u v : List Nat} : Matches a u → Matches (.star a) v → Matches (.star a) (u ++ v)

theorem not_matches_none (w : List Nat) : ¬ Matches .none w := by
  intro h; cases h

theorem matches_nil_of_nullable : ∀ (r : Re), nullable r = true → Matches r []
  | .none, h => by simp [nullable] at h
  | .eps, _ => .eps
  | .chr _, h => by simp [nullable] at h
  | .cls _ _, h => by simp [nullable] at h
  | .seq a b, h => by
      simp only [nullable, Bool.and_eq_true] at h
      have := Matches.seq (matches_nil_of_nullable a h.1) (matches_nil_of_nullable b h.2)
      simpa using this
  | .alt a b, h => by
      simp only [nullable, Bool.or_eq_true] at h
      rcases h with h | h
      · exact .altL (matches_nil_of_nullable a h)
      · exact .altR (matches_nil_of_nullable b h)
  | .star _, _ => .starNil

theorem nullable_of_matches_nil {r : Re} {w : List Nat} (h : Matches r w) (hw : w = []) : nullable r = true := by
  induction h with
  | eps => rfl
  | chr c => simp at hw
  | cls neg rs c _ => simp at hw
  | seq _ _ iha ihb =>
    simp only [List.append_eq_nil_iff] at hw
    simp [nullable, iha hw.1, ihb hw.2]
  | altL _ ih => simp [nullable, ih hw]
  | altR _ ih => simp [nullable, ih hw]
  | starNil => rfl
  | starCons _ _ _ _ => rfl

theorem nullable_iff (r : Re) : nullable r = true ↔ Matches r [] :=
  ⟨matches_nil_of_nullable r, fun h => nullable_of_matches_nil h rfl⟩

theorem mkSeq_matches (a b : Re) (w : List Nat) : Matches (mkSeq a b) w ↔ Matches (.seq a b) w := by
  unfold mkSeq
  split
  · constructor
    · intro h; cases h
    · intro h; cases h with | seq ha _ => cases ha
  · constructor
    · intro h; have := Matches.seq .eps h; simpa using this
    · intro h
      cases h with
      | seq ha hb => cases ha; simpa using hb
  · split
    · rename_i hb
      subst hb
      constructor
      · intro h; cases h
      · intro h; cases h with | seq _ hb => cases hb
    · exact Iff.rfl

theorem mkAlt_matches (a b : Re) (w : List Nat) : Matches (mkAlt a b) w ↔ Matches (.alt a b) w := by
  unfold mkAlt
  split
  · constructor
    · intro h; exact .altR h
    · intro h
      cases h with
      | altL h => cases h
      | altR h => exact h
  · split
    · rename_i hb
      subst hb
      constructor
      · intro h; exact .altL h
      · intro h
        cases h with
        | altL h => exact h
        | altR h => cases h
    · exact Iff.rfl

theorem star_cons_inv {a : Re} {x : List Nat} (h : Matches (.star a) x) :
    ∀ (c : Nat) (w : List Nat), x = c :: w →
      ∃ u v, w = u ++ v ∧ Matches a (c :: u) ∧ Matches (.star a) v := by
  generalize hr : Re.star a = r at h
  induction h with
  | eps => cases hr
  | chr _ => cases hr
  | cls _ _ _ _ => cases hr
  | seq _ _ _ _ => cases hr
  | altL _ _ => cases hr
  | altR _ _ => cases hr
  | starNil => intro c w hx; simp at hx
  | @starCons a' u v hu hv _ ihv =>
    cases hr
    intro c w hx
    cases u with
    | nil => simp only [List.nil_append] at hx; exact ihv rfl c w hx
    | cons d u' =>
      simp only [List.cons_append, List.cons.injEq] at hx
      obtain ⟨rfl, rfl⟩ := hx
      exact ⟨u', v, rfl, hu, hv⟩

/-- a word of `a · b` that starts with `c`: `a` reads the `c`, or `a` matches the empty word and `b` reads it -/
theorem seq_cons_inv {a b : Re} {c : Nat} {w : List Nat} (h : Matches (.seq a b) (c :: w)) :
    (∃ u v, w = u ++ v ∧ Matches a (c :: u) ∧ Matches b v) ∨ (Matches a [] ∧ Matches b (c :: w)) := by
  generalize hx : c :: w = x at h
  cases h with
  | @seq _ _ u v h1 h2 =>
    cases u with
    | nil =>
      simp only [List.nil_append] at hx; subst hx
      exact .inr ⟨h1, h2⟩
    | cons d u' =>
      simp only [List.cons_append, List.cons.injEq] at hx
      obtain ⟨rfl, rfl⟩ := hx
      exact .inl ⟨u', v, rfl, h1, h2⟩

theorem deriv_matches : ∀ (r : Re) (c : Nat) (w : List Nat), Matches (deriv c r) w ↔ Matches r (c :: w)
  | .none, c, w => by simp only [deriv]; constructor <;> (intro h; cases h)
  | .eps, c, w => by simp only [deriv]; constructor <;> (intro h; cases h)
  | .chr d, c, w => by
      simp only [deriv]
      split
      · rename_i h; subst h
        constructor
        · intro h; cases h; exact .chr c
        · intro h; cases h; exact .eps
      · rename_i hne
        constructor
        · intro h; cases h
        · intro h; cases h; exact absurd rfl hne
  | .cls neg rs, c, w => by
      simp only [deriv]
      split
      · rename_i hc
        constructor
        · intro h; cases h; exact .cls neg rs c hc
        · intro h; cases h; exact .eps
      · rename_i hc
        constructor
        · intro h; cases h
        · intro h; cases h with | cls _ _ _ h' => exact absurd h' hc
  | .seq a b, c, w => by
      have iha := deriv_matches a c
      have ihb := deriv_matches b c
      simp only [deriv]
      split
      · rename_i hn
        rw [mkAlt_matches]
        constructor
        · intro h
          cases h with
          | altL h =>
            rw [mkSeq_matches] at h
            cases h with
            | seq h1 h2 => have := Matches.seq ((iha _).1 h1) h2; simpa using this
          | altR h =>
            have := Matches.seq ((nullable_iff a).1 hn) ((ihb _).1 h); simpa using this
        · intro h
          rcases seq_cons_inv h with ⟨u, v, rfl, h1, h2⟩ | ⟨_, h2⟩
          · exact .altL ((mkSeq_matches _ _ _).2 (.seq ((iha _).2 h1) h2))
          · exact .altR ((ihb _).2 h2)
      · rename_i hn
        rw [mkSeq_matches]
        constructor
        · intro h
          cases h with
          | seq h1 h2 => have := Matches.seq ((iha _).1 h1) h2; simpa using this
        · intro h
          rcases seq_cons_inv h with ⟨u, v, rfl, h1, h2⟩ | ⟨h1, _⟩
          · exact .seq ((iha _).2 h1) h2
          · exact absurd ((nullable_iff a).2 h1) hn
  | .alt a b, c, w => by
      have iha := deriv_matches a c
      have ihb := deriv_matches b c
      simp only [deriv]
      rw [mkAlt_matches]
      constructor
      · intro h
        cases h with
        | altL h => exact .altL ((iha _).1 h)
        | altR h => exact .altR ((ihb _).1 h)
      · intro h
        cases h with
        | altL h => exact .altL ((iha _).2 h)
        | altR h => exact .altR ((ihb _).2 h)
  | .star a, c, w => by
      have iha := deriv_matches a c
      simp only [deriv]
      rw [mkSeq_matches]
      constructor
      · intro h
        cases h with
        | seq h1 h2 => have := Matches.starCons ((iha _).1 h1) h2; simpa using this
      · intro h
        obtain ⟨u, v, rfl, h1, h2⟩ := star_cons_inv h c w rfl
        exact .seq ((iha _).2 h1) h2

def word (s : List Char) : List Nat := s.map Char.toNat

/-- the best match known once `r` has been asked whether it accepts the `n` scalars read so far: it is sound (the old best
or `n`, and then `r` accepts), no worse than the old best, and complete (it is `n` if `r` accepts) -/
theorem upd_spec (r : Re) (n : Nat) (best : Option Nat) (hb : ∀ b, best = some b → b ≤ n) :
    (∀ m, (if nullable r = true then some n else best) = some m → m ≤ n ∧ (best = some m ∨ (m = n ∧ Matches r []))) ∧
    (∀ b, best = some b → ∃ b', (if nullable r = true then some n else best) = some b' ∧ b ≤ b') ∧
    (Matches r [] → (if nullable r = true then some n else best) = some n) := by
  by_cases hn : nullable r = true
  · simp only [hn, if_true, Option.some.injEq]
    exact ⟨fun m e => ⟨by omega, .inr ⟨e.symm, (nullable_iff r).1 hn⟩⟩, fun b h => ⟨n, rfl, hb b h⟩, fun _ => trivial⟩
  · simp only [hn, Bool.false_eq_true, if_false]
    exact ⟨fun m e => ⟨hb m e, .inl e⟩, fun b h => ⟨b, h, Nat.le_refl _⟩, fun h => absurd ((nullable_iff r).2 h) hn⟩

/-- `longestGo r s n best` is the greatest of `best` and the `n + k` with `r` matching the first `k` scalars of `s` -/
theorem longestGo_spec (r : Re) (s : List Char) (n : Nat) (best : Option Nat) (hb : ∀ b, best = some b → b ≤ n) :
    (∀ m, longestGo r s n best = some m →
      best = some m ∨ ∃ k, k ≤ s.length ∧ m = n + k ∧ Matches r (word (s.take k))) ∧
    (∀ b, best = some b → ∃ m, longestGo r s n best = some m ∧ b ≤ m) ∧
    (∀ k, k ≤ s.length → Matches r (word (s.take k)) → ∃ m, longestGo r s n best = some m ∧ n + k ≤ m) := by
  induction s generalizing r n best with
  | nil =>
    obtain ⟨u1, u2, u3⟩ := upd_spec r n best hb
    simp only [longestGo]
    refine ⟨fun m h => (u1 m h).2.imp id fun ⟨e, hm⟩ => ⟨0, Nat.le_refl _, e, hm⟩, u2, fun k hk hm => ?_⟩
    obtain rfl : k = 0 := by simpa using hk
    exact ⟨n, u3 hm, Nat.le_refl _⟩
  | cons c cs ih =>
    obtain ⟨u1, u2, u3⟩ := upd_spec r n best hb
    simp only [longestGo]
    -- the empty prefix is judged by `upd_spec`, a longer one by the derivative
    have h0 : ∀ m, (if nullable r = true then some n else best) = some m →
        best = some m ∨ ∃ k, k ≤ (c :: cs).length ∧ m = n + k ∧ Matches r (word ((c :: cs).take k)) :=
      fun m h => (u1 m h).2.imp id fun ⟨e, hm⟩ => ⟨0, Nat.zero_le _, e, hm⟩
    have hd : ∀ k, Matches r (word ((c :: cs).take (k + 1))) → Matches (deriv c.toNat r) (word (cs.take k)) :=
      fun k hm => (deriv_matches r c.toNat _).2 hm
    split
    · rename_i hnone
      refine ⟨h0, u2, fun k hk hm => ?_⟩
      cases k with
      | zero => exact ⟨n, u3 hm, Nat.le_refl _⟩
      | succ k => exact absurd (hnone ▸ hd k hm) (not_matches_none _)
    · obtain ⟨ihs, ihm, ihx⟩ := ih (deriv c.toNat r) (n + 1) _ fun b h => Nat.le_succ_of_le (u1 b h).1
      refine ⟨fun m h => ?_, fun b h => ?_, fun k hk hm => ?_⟩
      · rcases ihs m h with h1 | ⟨k, hk, e, hm⟩
        · exact h0 m h1
        · exact .inr ⟨k + 1, Nat.succ_le_succ hk, by omega, (deriv_matches r c.toNat _).1 hm⟩
      · obtain ⟨b', e, hle⟩ := u2 b h
        obtain ⟨m, e', hle'⟩ := ihm b' e
        exact ⟨m, e', Nat.le_trans hle hle'⟩
      · cases k with
        | zero => exact ihm n (u3 hm)
        | succ k =>
          obtain ⟨m, e, hle⟩ := ihx k (Nat.le_of_succ_le_succ hk) (hd k hm)
          exact ⟨m, e, by omega⟩

theorem longestGo_max (r : Re) (s : List Char) (n : Nat) (best : Option Nat)
    (hb : ∀ b, best = some b → b ≤ n) (k : Nat) (hk : k ≤ s.length)
    (hm : Matches r (word (s.take k))) : ∃ m, longestGo r s n best = some m ∧ n + k ≤ m :=
  (longestGo_spec r s n best hb).2.2 k hk hm

theorem longest_max (r : Re) (s : List Char) (k : Nat) (hk : k ≤ s.length)
    (hm : Matches r (word (s.take k))) : ∃ m, longest r s = some m ∧ k ≤ m := by
  obtain ⟨m, h1, h2⟩ := longestGo_max r s 0 Option.none (by simp) k hk hm
  exact ⟨m, h1, by omega⟩

theorem longest_sound (r : Re) (s : List Char) (m : Nat) (h : longest r s = some m) :
    m ≤ s.length ∧ Matches r (word (s.take m)) := by
  rcases (longestGo_spec r s 0 Option.none (by simp)).1 m h with h1 | ⟨k, hk, hm, hmat⟩
  · cases h1
  · obtain rfl : m = k := by omega
    exact ⟨hk, hmat⟩

end Re

end Goml.Lex
