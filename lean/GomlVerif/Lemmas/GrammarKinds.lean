import GomlVerif.Lemmas.GrammarFlat
/-! No node the grammar model emits has the kind `TombStone` (which `build_tree` would silently drop): a static
check of every `node`/`wrap`/`setKind` of every grammar function, and the invariant it gives for every output. -/
namespace Goml.Grammar
open Goml.Gen.Gram

def stmtKindsOK : Stmt → Bool
  | .seq a b => stmtKindsOK a && stmtKindsOK b
  | .ifAt _ t e => stmtKindsOK t && stmtKindsOK e
  | .ifAtAny _ t e => stmtKindsOK t && stmtKindsOK e
  | .ifEof t e => stmtKindsOK t && stmtKindsOK e
  | .ifCur _ t e => stmtKindsOK t && stmtKindsOK e
  | .ifRet t e => stmtKindsOK t && stmtKindsOK e
  | .ifIdxZero t e => stmtKindsOK t && stmtKindsOK e
  | .node k b => k != tombK && stmtKindsOK b
  | .nodeReg b => stmtKindsOK b
  | .wrap k b => k != tombK && stmtKindsOK b
  | .setKind k => k != tombK
  | _ => true

theorem opArm_ok (op l bp : Nat) (act : Stmt) (self : Fn) (rest : Stmt) (h1 : stmtKindsOK act = true)
    (h2 : stmtKindsOK rest = true) : stmtKindsOK (opArm op l bp act self rest) = true := by
  unfold opArm
  simp only [stmtKindsOK, Bool.and_eq_true, h2, and_true]
  split <;> simp [stmtKindsOK, h1]

theorem foldr_opArm_ok {α : Type} (tbl : List α) (op l : α → Nat) (bp : Nat) (act : α → Stmt) (self : Fn) (base : Stmt)
    (h1 : ∀ o, stmtKindsOK (act o) = true) (h2 : stmtKindsOK base = true) :
    stmtKindsOK (tbl.foldr (fun o acc => opArm (op o) (l o) bp (act o) self acc) base) = true := by
  induction tbl with
  | nil => exact h2
  | cons x xs ih => exact opArm_ok _ _ _ _ _ _ (h1 x) ih

theorem body_kindsOK (f : Fn) : stmtKindsOK (body f) = true := by
  cases f with
  | generic b => cases b <;> rfl
  | blockLoop b => cases b <;> rfl
  | pathInner b => cases b <;> rfl
  | typeExprBpLoop bp =>
    simp only [body, stmtKindsOK, Bool.true_and]
    exact foldr_opArm_ok typeInfixBp (·.1) (·.2.1) bp _ _ _ (fun o => rfl) rfl
  | exprBpLoop bp =>
    simp only [body, stmtKindsOK, Bool.true_and]
    exact foldr_opArm_ok postfixBp (·.1) (·.2) bp _ _ _ (fun o => rfl)
      (foldr_opArm_ok infixBp (·.1) (·.2.1) bp _ _ _ (fun o => rfl) rfl)
  | _ => rfl

theorem kindsOKL_append (a b : List Item) : kindsOKL (a ++ b) = (kindsOKL a && kindsOKL b) := by
  induction a with
  | nil => simp [kindsOKL]
  | cons x xs ih => simp [kindsOKL, ih, Bool.and_assoc]

theorem kindsOKL_wrapAt (out : List Item) (j k : Nat) (rest : List Item) (h1 : kindsOKL out = true)
    (hk : k ≠ tombK) (h2 : kindsOKL rest = true) : kindsOKL (wrapAt out j k rest) = true := by
  unfold wrapAt
  have h := h1
  rw [← List.take_append_drop j out, kindsOKL_append] at h
  simp only [Bool.and_eq_true] at h
  split
  · rename_i first mid hd
    rw [hd] at h
    simp only [kindsOKL, Bool.and_eq_true] at h
    simp only [kindsOKL_append, kindsOKL, kindsOK, Bool.and_eq_true, bne_iff_ne, ne_eq, and_true]
    exact ⟨h.1, ⟨⟨hk, h.2.1⟩, h.2.2⟩, h2⟩
  · simp only [kindsOKL_append, kindsOKL, kindsOK, Bool.and_eq_true, bne_iff_ne, ne_eq, and_true]
    exact ⟨h1, hk, h2⟩

/-- every node so far has a real kind, and so has the pending `close` -/
def KInv (s : PS) : Prop := kindsOKL s.out = true ∧ s.kd ≠ tombK

theorem kinv_init (toks : List Nat) : KInv (initPS toks) := ⟨rfl, by show (0 : Nat) ≠ tombK; decide⟩

theorem kinv_emit (s : PS) (i : Item) (h : KInv s) (hi : kindsOK i = true) : KInv (emit s i) := by
  refine ⟨?_, h.2⟩
  simp [emit, kindsOKL_append, kindsOKL, h.1, hi]

theorem kinv_look (s : PS) (n : Nat) (h : KInv s) : KInv (look s n).2 := by
  unfold look; split <;> exact h
theorem kinv_look_of {s s2 : PS} {n c : Nat} (h : look s n = (c, s2)) (hs : KInv s) : KInv s2 := by
  have := kinv_look s n hs; rwa [h] at this

theorem kinv_bump (s : PS) (h : KInv s) : KInv (bump s) := h

theorem errTree_ok (m : String) : kindsOK (.node K_ErrorTree [.err m, .adv]) = true := by
  simp [kindsOK, kindsOKL, tombK]; decide

theorem kinv_expectK (s : PS) (k : Nat) (h : KInv s) : KInv (expectK s k) :=
  have h2 := kinv_look _ 0 (kinv_look s 0 h)
  expectK_cases KInv s k (fun _ => kinv_emit _ _ (kinv_bump _ (kinv_look _ _ h)) rfl)
    (fun _ => kinv_emit _ _ h2 rfl) (fun _ _ => kinv_emit _ _ (kinv_bump _ h2) (errTree_ok _))

theorem execS_kinv (callF : Fn → PS → PS) (hc : ∀ f s, KInv s → KInv (callF f s)) :
    ∀ (st : Stmt), stmtKindsOK st = true → ∀ (s : PS), KInv s → KInv (execS callF st s) := by
  intro st hk s h
  induction st, s using execS.induct_unfolding callF
  all_goals simp only [stmtKindsOK, Bool.and_eq_true, bne_iff_ne, ne_eq] at hk
  case case2 iha ihb => exact ihb hk.2 (iha hk.1 h)
  case case3 s => exact kinv_emit _ _ (kinv_bump _ h) rfl
  case case4 m s => exact kinv_emit _ _ h rfl
  case case5 s | case6 s => exact kinv_emit _ _ (kinv_bump _ h) (errTree_ok _)
  case case7 k s => exact kinv_expectK s k h
  -- `eat`, hit
  case case8 h' _ => exact kinv_emit _ _ (kinv_bump _ (kinv_look_of h' h)) rfl
  -- `ifAt`, `ifAtAny`: a look, then the branch taken
  case case10 h' ih | case12 h' _ ih => exact ih hk.1 (kinv_look_of h' h)
  case case11 h' _ ih | case13 h' _ ih => exact ih hk.2 (kinv_look_of h' h)
  -- `eat` missing, `peek`, `nth`, `nthIdx`: a look whose answer goes to a register
  case case9 h' _ | case16 h' | case17 h' | case18 h' => exact (kinv_look_of h' h :)
  -- `ifEof`, `ifCur`, `ifRet`, `ifIdxZero`: the branch taken
  case case14 ih | case19 ih | case21 ih | case27 ih => exact ih hk.1 h
  case case15 ih | case20 ih | case22 ih | case28 ih => exact ih hk.2 h
  -- `node`, `nodeReg`: the body runs in a fresh `out`; its items go under a node of a kind that is not the tombstone
  case case29 k b s s1 ih =>
    have h1 : KInv s1 := ih hk.2 ⟨rfl, h.2⟩
    exact ⟨by simp [kindsOKL_append, kindsOKL, kindsOK, h.1, h1.1, hk.1], h1.2⟩
  case case30 b s s1 ih =>
    have h1 : KInv s1 := ih hk ⟨rfl, h.2⟩
    exact ⟨by simp [kindsOKL_append, kindsOKL, kindsOK, h.1, h1.1, h1.2], h1.2⟩
  -- `setKind`
  case case31 k s => exact ⟨h.1, hk⟩
  -- `wrap`
  case case33 k b s _ ih =>
    have h1 := ih hk.2 ⟨rfl, h.2⟩
    exact ⟨kindsOKL_wrapAt _ _ _ _ h.1 hk.1 h1.1, h1.2⟩
  case case35 f s _ => exact hc f s h
  -- the other statements touch neither `out` nor `kd`
  all_goals exact h

theorem run_kinv : ∀ (n : Nat) (f : Fn) (s : PS), KInv s → KInv (run n f s) := by
  intro n
  induction n with
  | zero => intro f s h; exact h
  | succ n ih => intro f s h; exact execS_kinv (run n) ih (body f) (body_kindsOK f) _ h

end Goml.Grammar
