import GomlVerif.Lemmas.ValTySound
import GomlVerif.Lemmas.ValTy2Basic
/-!
Type soundness of `Sem` w.r.t. `Wt` WITH references (C03): the instance `rf = true` of `ValTyG.sound_all` and of its
steps (`Lemmas/ValTySound.lean`), in terms of the store-typed value typing `ValTyR.VT S P Ψ`.
Before it, operators and builtins at the store-typed judgement `ValTyR.VT`: each the instance
`rf = true` of its statement in `Lemmas/ValTyOps.lean`, through `toG` / `ofG`.
-/
namespace Goml.ValTyR
open Goml Goml.Sem Goml.Wt Goml.Mono Goml.ValTy

section
variable {S : Sig} {P : Prog} {Ψ : List Ty}

theorem tyEq {a b : Ty} (h : tyBeq a b = true) : a = b := ValTy.tyEq h

theorem unop_sound {op : UnOp} {ty ta : Ty} {a v : Val} (hok : unopOk op ty ta = true)
    (ha : VT S P Ψ a ta) (hr : unop op a = .ok v) : VT S P Ψ v ty :=
  VT.ofG (ValTyG.unop_sound hok ha.toG hr)

theorem binop_sound {op : BinOp} {ty ta tb : Ty} {a b v : Val} (hok : binopOk op ty ta tb = true)
    (ha : VT S P Ψ a ta) (hb : VT S P Ψ b tb) (hr : binop op a b = .ok v) : VT S P Ψ v ty :=
  VT.ofG (ValTyG.binop_sound hok ha.toG hb.toG hr)

theorem builtin_sound {f : String} {ps : List Ty} {r : Ty} {args : List Val} {w w' : World} {v : Val}
    (hb : builtinTy f = some (.func ps r)) (ha : VTs S P Ψ args ps)
    (hr : (match builtin f args w with
           | some r => r
           | none => .ok .unit { w with externs := w.externs ++ [f] }) = .ok v w') :
    VT S P Ψ v r ∧ w'.store = w.store :=
  let ⟨h1, h2⟩ := ValTyG.builtin_sound hb ha.toG hr
  ⟨VT.ofG h1, h2⟩

theorem poly_sound {f : String} {argTys : List Ty} {ty : Ty} {θ : Subst} {args : List Val} {w w' : World} {v : Val}
    (hp : polyOk f argTys ty = true) (ha : VTs S P Ψ args (substTys θ argTys))
    (hr : (match builtin f args w with
           | some r => r
           | none => .ok .unit { w with externs := w.externs ++ [f] }) = .ok v w') :
    VT S P Ψ v (substTy θ ty) ∧ w'.store = w.store :=
  let ⟨h1, h2⟩ := ValTyG.poly_sound hp ha.toG hr
  ⟨VT.ofG h1, h2⟩

theorem ref_sound {f : String} {argTys : List Ty} {ty : Ty} {θ : Subst} {args : List Val} {w w' : World} {v : Val}
    (hp : refOk f argTys ty = true) (hw : WT S P Ψ w) (ha : VTs S P Ψ args (substTys θ argTys))
    (hr : (match builtin f args w with
           | some r => r
           | none => .ok .unit { w with externs := w.externs ++ [f] }) = .ok v w') :
    ∃ Ψ', Ext Ψ Ψ' ∧ WT S P Ψ' w' ∧ VT S P Ψ' v (substTy θ ty) :=
  let ⟨Ψ', hx, hw', hv⟩ := ValTyG.ref_sound rfl hp hw.toG ha.toG hr
  ⟨Ψ', hx, WT.ofG hw', VT.ofG hv⟩

theorem key_determines {v : Val} {τθ τs : Ty} (hn : namesOk S = true) (hv : VT S P Ψ v τθ)
    (hk : keyable S τs = true) (heq : tyKey τs = valKey v) : τθ = τs :=
  ValTyG.key_determines hn hv.toG hk heq

theorem isEnumTy_subst (θ : Subst) (t : Ty) (h : isEnumTy t = true) : isEnumTy (substTy θ t) = true :=
  ValTy.isEnumTy_subst θ t h

theorem isStructTy_subst (θ : Subst) (t : Ty) (h : isStructTy t = true) : isStructTy (substTy θ t) = true :=
  ValTy.isStructTy_subst θ t h

theorem not_enum_and_struct {t : Ty} (h1 : isEnumTy t = true) (h2 : isStructTy t = true) : False :=
  ValTy.not_enum_and_struct h1 h2

theorem nominalArgs_name {n m : String} {ty : Ty} (h1 : (nominalArgs n ty).isSome = true)
    (h2 : (nominalArgs m ty).isSome = true) : n = m :=
  ValTy.nominalArgs_name h1 h2

theorem enumFieldTys_of_fieldTys {tn vn : String} {idx : Nat} {ty : Ty} {fts : List Ty}
    (h : fieldTys S (.enum tn vn idx) ty = some fts) : enumFieldTys S tn idx ty = some fts :=
  ValTy.enumFieldTys_of_fieldTys h

theorem VT_dyn {v : Val} {tr : String} (h : VT S P Ψ v (.dyn tr)) :
    ∃ key v0 τ0, v = .dyn tr key v0 ∧ keyable S τ0 = true ∧ VT S P Ψ v0 τ0 ∧ tyKey τ0 = key :=
  let ⟨key, v0, τ0, h1, h2, h3, h4⟩ := h.toG.inv
  ⟨key, v0, τ0, h1, h2, VT.ofG h3, h4⟩

end

/-- `ValTyG.SoundAt` at `rf = true`, in terms of `ValTyR.VT` and `ValTyR.WT` (`SoundAt.toG`, `SoundAt.ofG`) -/
structure SoundAt (S : Sig) (P : Prog) (n : Nat) : Prop where
  expr : ∀ {e : Expr} {ρ : Env} {w : World} {Γ : TyEnv} {K : Know} {θ : Subst} {Ψ : List Ty} {v : Val} {w' : World},
    okE S P true Γ K e = true → errs S Γ e = [] → ET S P Ψ θ ρ Γ → KOk K ρ → WT S P Ψ w →
    eval n P ρ w e = .ok v w' → ∃ Ψ', Ext Ψ Ψ' ∧ WT S P Ψ' w' ∧ VT S P Ψ' v (substTy θ (getTy e))
  list : ∀ {es : List Expr} {ρ : Env} {w : World} {Γ : TyEnv} {K : Know} {θ : Subst} {Ψ : List Ty} {vs : List Val} {w' : World},
    okL S P true Γ K es = true → errsList S Γ es = [] → ET S P Ψ θ ρ Γ → KOk K ρ → WT S P Ψ w →
    evalList n P ρ w es = .ok vs w' → ∃ Ψ', Ext Ψ Ψ' ∧ WT S P Ψ' w' ∧ VTs S P Ψ' vs (substTys θ (getTys es))
  arms : ∀ {arms : List Arm} {d : Option Expr} {ρ : Env} {w : World} {Γ : TyEnv} {K : Know} {θ : Subst} {Ψ : List Ty}
    {sv : Option String} {st rt : Ty} {sval v : Val} {w' : World},
    okA S P true Γ K sv arms = true → errsArms S Γ st rt arms = [] →
    (∀ d0, d = some d0 → okE S P true Γ K d0 = true ∧ errs S Γ d0 = [] ∧ getTy d0 = rt) →
    ET S P Ψ θ ρ Γ → KOk K ρ → WT S P Ψ w → (∀ x, sv = some x → lookupEnv ρ x = some sval) →
    evalArms n P ρ w sval arms d = .ok v w' → ∃ Ψ', Ext Ψ Ψ' ∧ WT S P Ψ' w' ∧ VT S P Ψ' v (substTy θ rt)
  app : ∀ {name : String} {g : Fn} {θ : Subst} {Ψ : List Ty} {args : List Val} {w : World} {v : Val} {w' : World},
    P.findFn name = some g → VTs S P Ψ args (substTys θ (g.params.map (·.2))) → WT S P Ψ w →
    apply n P w (.fn name) args = .ok v w' → ∃ Ψ', Ext Ψ Ψ' ∧ WT S P Ψ' w' ∧ VT S P Ψ' v (substTy θ g.ret)
  appv : ∀ {fv : Val} {as : List Ty} {r : Ty} {Ψ : List Ty} {args : List Val} {w : World} {v : Val} {w' : World},
    VT S P Ψ fv (.func as r) → VTs S P Ψ args as → WT S P Ψ w → apply n P w fv args = .ok v w' →
    ∃ Ψ', Ext Ψ Ψ' ∧ WT S P Ψ' w' ∧ VT S P Ψ' v r

section
variable {S : Sig} {P : Prog}

theorem SoundAt.toG {n : Nat} (h : SoundAt S P n) : ValTyG.SoundAt S P true n where
  expr hok herr hρ hK hw := ⟨fun hev =>
    let ⟨Ψ', hx, hw', hv⟩ := h.expr hok herr (ET.ofG hρ) hK (WT.ofG hw) hev
    ⟨Ψ', hx, hw'.toG, hv.toG⟩⟩
  list hok herr hρ hK hw := ⟨fun hev =>
    let ⟨Ψ', hx, hw', hv⟩ := h.list hok herr (ET.ofG hρ) hK (WT.ofG hw) hev
    ⟨Ψ', hx, hw'.toG, hv.toG⟩⟩
  arms hok herr hd hρ hK hw hsv := ⟨fun hev =>
    let ⟨Ψ', hx, hw', hv⟩ := h.arms hok herr hd (ET.ofG hρ) hK (WT.ofG hw) hsv hev
    ⟨Ψ', hx, hw'.toG, hv.toG⟩⟩
  app hg ha hw := ⟨fun hev =>
    let ⟨Ψ', hx, hw', hv⟩ := h.app hg (VTs.ofG ha) (WT.ofG hw) hev
    ⟨Ψ', hx, hw'.toG, hv.toG⟩⟩
  appv hf ha hw := ⟨fun hev =>
    let ⟨Ψ', hx, hw', hv⟩ := h.appv (VT.ofG hf) (VTs.ofG ha) (WT.ofG hw) hev
    ⟨Ψ', hx, hw'.toG, hv.toG⟩⟩

theorem SoundAt.ofG {n : Nat} (h : ValTyG.SoundAt S P true n) : SoundAt S P n where
  expr hok herr hρ hK hw hev :=
    let ⟨Ψ', hx, hw', hv⟩ := (h.expr hok herr hρ.toG hK hw.toG).out hev
    ⟨Ψ', hx, WT.ofG hw', VT.ofG hv⟩
  list hok herr hρ hK hw hev :=
    let ⟨Ψ', hx, hw', hv⟩ := (h.list hok herr hρ.toG hK hw.toG).out hev
    ⟨Ψ', hx, WT.ofG hw', VTs.ofG hv⟩
  arms hok herr hd hρ hK hw hsv hev :=
    let ⟨Ψ', hx, hw', hv⟩ := (h.arms hok herr hd hρ.toG hK hw.toG hsv).out hev
    ⟨Ψ', hx, WT.ofG hw', VT.ofG hv⟩
  app hg ha hw hev :=
    let ⟨Ψ', hx, hw', hv⟩ := (h.app hg ha.toG hw.toG).out hev
    ⟨Ψ', hx, WT.ofG hw', VT.ofG hv⟩
  appv hf ha hw hev :=
    let ⟨Ψ', hx, hw', hv⟩ := (h.appv hf.toG ha.toG hw.toG).out hev
    ⟨Ψ', hx, WT.ofG hw', VT.ofG hv⟩

theorem step_app (hP : okProg S P true = true) {n : Nat} (ih : SoundAt S P n)
    {name : String} {g : Fn} {θ : Subst} {Ψ : List Ty} {args : List Val} {w : World} {v : Val} {w' : World}
    (hg : P.findFn name = some g) (ha : VTs S P Ψ args (substTys θ (g.params.map (·.2)))) (hw : WT S P Ψ w)
    (hev : apply (n + 1) P w (.fn name) args = .ok v w') :
    ∃ Ψ', Ext Ψ Ψ' ∧ WT S P Ψ' w' ∧ VT S P Ψ' v (substTy θ g.ret) :=
  let ⟨Ψ', hx, hw', hv⟩ := (ValTyG.step_app hP ih.toG hg ha.toG hw.toG).out hev
  ⟨Ψ', hx, WT.ofG hw', VT.ofG hv⟩

theorem step_list {n : Nat} (ih : SoundAt S P n) {es : List Expr} {ρ : Env} {w : World} {Γ : TyEnv} {K : Know}
    {θ : Subst} {Ψ : List Ty} {vs : List Val} {w' : World} (hok : okL S P true Γ K es = true) (herr : errsList S Γ es = [])
    (hρ : ET S P Ψ θ ρ Γ) (hK : KOk K ρ) (hw : WT S P Ψ w) (hev : evalList (n + 1) P ρ w es = .ok vs w') :
    ∃ Ψ', Ext Ψ Ψ' ∧ WT S P Ψ' w' ∧ VTs S P Ψ' vs (substTys θ (getTys es)) :=
  let ⟨Ψ', hx, hw', hv⟩ := (ValTyG.step_list ih.toG hok herr hρ.toG hK hw.toG).out hev
  ⟨Ψ', hx, WT.ofG hw', VTs.ofG hv⟩

theorem step_arms {n : Nat} (ih : SoundAt S P n) {arms : List Arm} {d : Option Expr} {ρ : Env} {w : World}
    {Γ : TyEnv} {K : Know} {θ : Subst} {Ψ : List Ty} {sv : Option String} {st rt : Ty} {sval v : Val} {w' : World}
    (hok : okA S P true Γ K sv arms = true) (herr : errsArms S Γ st rt arms = [])
    (hd : ∀ d0, d = some d0 → okE S P true Γ K d0 = true ∧ errs S Γ d0 = [] ∧ getTy d0 = rt)
    (hρ : ET S P Ψ θ ρ Γ) (hK : KOk K ρ) (hw : WT S P Ψ w) (hsv : ∀ x, sv = some x → lookupEnv ρ x = some sval)
    (hev : evalArms (n + 1) P ρ w sval arms d = .ok v w') :
    ∃ Ψ', Ext Ψ Ψ' ∧ WT S P Ψ' w' ∧ VT S P Ψ' v (substTy θ rt) :=
  let ⟨Ψ', hx, hw', hv⟩ := (ValTyG.step_arms ih.toG hok herr hd hρ.toG hK hw.toG hsv).out hev
  ⟨Ψ', hx, WT.ofG hw', VT.ofG hv⟩

theorem step_appv (hP : okProg S P true = true) {n : Nat} (ih : SoundAt S P n)
    {fv : Val} {as : List Ty} {r : Ty} {Ψ : List Ty} {args : List Val} {w : World} {v : Val} {w' : World}
    (hf : VT S P Ψ fv (.func as r)) (ha : VTs S P Ψ args as) (hw : WT S P Ψ w)
    (hev : apply (n + 1) P w fv args = .ok v w') : ∃ Ψ', Ext Ψ Ψ' ∧ WT S P Ψ' w' ∧ VT S P Ψ' v r :=
  let ⟨Ψ', hx, hw', hv⟩ := (ValTyG.step_appv hP ih.toG hf.toG ha.toG hw.toG).out hev
  ⟨Ψ', hx, WT.ofG hw', VT.ofG hv⟩

theorem step_expr (hS : SigClosed S) (hP : okProg S P true = true) {n : Nat} (ih : SoundAt S P n)
    {e : Expr} {ρ : Env} {w : World} {Γ : TyEnv} {K : Know} {θ : Subst} {Ψ : List Ty} {v : Val} {w' : World}
    (hok : okE S P true Γ K e = true) (herr : errs S Γ e = []) (hρ : ET S P Ψ θ ρ Γ) (hK : KOk K ρ) (hw : WT S P Ψ w)
    (hev : eval (n + 1) P ρ w e = .ok v w') : ∃ Ψ', Ext Ψ Ψ' ∧ WT S P Ψ' w' ∧ VT S P Ψ' v (substTy θ (getTy e)) :=
  let ⟨Ψ', hx, hw', hv⟩ := (ValTyG.step_expr hS ih.toG hok herr hρ.toG hK hw.toG).out hev
  ⟨Ψ', hx, WT.ofG hw', VT.ofG hv⟩

/-- **type soundness of `Sem` with references**, for every amount of fuel -/
theorem sound_all (hS : SigClosed S) (hP : okProg S P true = true) (n : Nat) : SoundAt S P n :=
  .ofG (ValTyG.sound_all hS hP n)

end
end Goml.ValTyR
