import GomlVerif.Model.ValTyRef
import GomlVerif.Lemmas.WtSubst
import GomlVerif.Lemmas.LiftSemUnfold
/-!
Value typing for the type soundness of `Sem` (C03).  `ValTy.VT S P` (no references) and `ValTyR.VT S P Ψ` (store typing
`Ψ`) are the instances `rf = false` / `rf = true` of one judgement `ValTyG.VT S P rf Ψ`, `rf` being the fragment flag of
`ValTy.okE`: the reference and trait-object rules ask for `rf = true`, closures are judged with `okE S P rf`.  Everything
is proved for `ValTyG.VT`; the statements about the two judgements of `Model/` are read off through `toG` / `ofG`
(`ValTy.VT.toG` … at the end of this file, `ValTyR.VT.toG` … in `Lemmas/ValTy2Basic.lean`).
Also here: composition of type substitutions, variant knowledge.
-/
namespace Goml.ValTy
open Goml Goml.Sem Goml.Wt Goml.Mono

/-! ### substitutions -/

/-- the substitution that does `σ` first and `θ` afterwards -/
def compS (θ σ : Subst) : Subst := mapS θ σ ++ θ

theorem lookup_compS (θ σ : Subst) (n : String) :
    lookup (compS θ σ) n = match lookup σ n with
      | some a => some (substTy θ a)
      | none => lookup θ n := by
  unfold compS
  rw [lookup_append, lookup_mapS]
  cases lookup σ n <;> simp

theorem substTy_compS_all (θ σ : Subst) :
    (∀ t, substTy (compS θ σ) t = substTy θ (substTy σ t)) ∧
    ∀ ts, substTys (compS θ σ) ts = substTys θ (substTys σ ts) := by
  apply substTy.mutual_induct
  case case1 =>
    -- `.param n`
    intro n
    simp only [substTy, lookup_compS]
    cases lookup σ n <;> simp [substTy]
  all_goals intros
  all_goals simp only [substTy, substTys, *]

theorem substTy_compS (θ σ : Subst) (t : Ty) : substTy (compS θ σ) t = substTy θ (substTy σ t) :=
  (substTy_compS_all θ σ).1 t

theorem substTys_compS (θ σ : Subst) (ts : List Ty) :
    substTys (compS θ σ) ts = substTys θ (substTys σ ts) :=
  (substTy_compS_all θ σ).2 ts

theorem substTys_map (θ : Subst) (ts : List Ty) : substTys θ ts = ts.map (substTy θ) := by
  induction ts with
  | nil => simp [substTys]
  | cons t ts ih => simp [substTys, ih]

theorem substTy_concrete (θ : Subst) {t : Ty} (h : concreteTy t = true) : substTy θ t = t := by
  cases t <;> simp [concreteTy] at h <;> simp [substTy]

theorem substTy_nil_all : (∀ t : Ty, substTy [] t = t) ∧ ∀ ts : List Ty, substTys [] ts = ts := by
  apply substTy.mutual_induct
  all_goals intros
  all_goals simp only [substTy, substTys, lookup, Option.getD_none, *]

theorem substTy_nil : ∀ t : Ty, substTy [] t = t := substTy_nil_all.1

theorem substTys_nil : ∀ ts : List Ty, substTys [] ts = ts := substTy_nil_all.2

/-! ### types of constructors -/

variable {S : Sig} {P : Prog}

def ctorTyName : Ctor → String
  | .enum tn _ _ => tn
  | .struct tn => tn

theorem fieldTys_nominal {c : Ctor} {ty : Ty} {fts : List Ty} (h : fieldTys S c ty = some fts) :
    (nominalArgs (ctorTyName c) ty).isSome = true := by
  cases c with
  | enum tn v idx => obtain ⟨_, _, _, _, hn, _⟩ := fieldTys_enum.1 h; rw [ctorTyName, hn]; rfl
  | struct tn => obtain ⟨_, _, _, hn, _⟩ := fieldTys_struct.1 h; rw [ctorTyName, hn]; rfl

theorem enumFieldTys_iff {tn : String} {idx : Nat} {ty : Ty} {fts : List Ty} :
    enumFieldTys S tn idx ty = some fts ↔ ∃ vn, fieldTys S (.enum tn vn idx) ty = some fts := by
  unfold enumFieldTys
  constructor
  · intro h
    split at h
    · split at h
      · exact ⟨_, h⟩
      · cases h
    · cases h
  · rintro ⟨vn, h⟩
    obtain ⟨d, targs, fs, hd, _, _, hv, _⟩ := fieldTys_enum.1 h
    simp only [hd, hv]; exact h

theorem enumFieldTys_nominal {tn : String} {idx : Nat} {ty : Ty} {fts : List Ty}
    (h : enumFieldTys S tn idx ty = some fts) : (nominalArgs tn ty).isSome = true :=
  let ⟨_, h⟩ := enumFieldTys_iff.1 h
  fieldTys_nominal (c := .enum tn _ idx) h

theorem allTyEq_all {e : Ty} : ∀ {ts : List Ty}, allTyEq e ts = true → ∀ t ∈ ts, t = e := by
  intro ts
  induction ts with
  | nil => intro _ t ht; cases ht
  | cons u us ih =>
    intro h t ht
    simp only [allTyEq, Bool.and_eq_true] at h
    rcases List.mem_cons.1 ht with rfl | ht
    · exact ((tyBeq_iff e t).1 h.1).symm
    · exact ih h.2 t ht

/-! ### environments, variant knowledge -/

/-- every recorded fact is true of the environment -/
def KOk (K : Know) (ρ : Env) : Prop :=
  ∀ x i, lookupK K x = some i → ∃ n args, lookupEnv ρ x = some (.enumV n i args)

theorem KOk_nil (ρ : Env) : KOk [] ρ := by intro x i h; simp [lookupK] at h

theorem lookupK_dropK (x : String) (K : Know) (y : String) :
    lookupK (dropK x K) y = if (x == y) = true then none else lookupK K y := by
  induction K with
  | nil => simp [dropK, lookupK]
  | cons p K ih =>
    obtain ⟨k, i⟩ := p
    simp only [dropK]
    by_cases hk : (k == x) = true
    · have : k = x := by simpa using hk
      subst this
      simp only [hk, if_true, ih, lookupK]
      by_cases hy : (k == y) = true <;> simp [hy]
    · rw [if_neg hk]
      simp only [lookupK]
      by_cases hky : (k == y) = true
      · have : k = y := by simpa using hky
        subst this
        have hxk : ¬ (x == k) = true := by
          intro h; apply hk; have : x = k := by simpa using h
          subst this; simp
        simp [hxk]
      · rw [if_neg hky, if_neg hky]
        exact ih

theorem KOk_drop {K : Know} {ρ : Env} (h : KOk K ρ) (x : String) (v : Val) : KOk (dropK x K) ((x, v) :: ρ) := by
  intro y i hy
  rw [lookupK_dropK] at hy
  by_cases hxy : (x == y) = true
  · simp [hxy] at hy
  · simp only [hxy] at hy
    obtain ⟨n, args, hl⟩ := h y i hy
    exact ⟨n, args, by rw [lookupEnv_cons]; simp [hxy, hl]⟩

theorem KOk_learn {K : Know} {ρ : Env} (h : KOk K ρ) {x : String} {n : String} {i : Nat} {args : List Val}
    (hx : lookupEnv ρ x = some (.enumV n i args)) : KOk ((x, i) :: K) ρ := by
  intro y j hy
  simp only [lookupK] at hy
  by_cases hxy : (x == y) = true
  · have : x = y := by simpa using hxy
    subst this
    simp only [hxy, if_true, Option.some.injEq] at hy
    subst hy
    exact ⟨n, args, hx⟩
  · simp only [hxy] at hy
    exact h y j hy

end Goml.ValTy

/-! ### store typings -/

namespace Goml.ValTyR

theorem Ext.refl (Ψ : List Ty) : Ext Ψ Ψ := ⟨[], by simp⟩
theorem Ext.trans {a b c : List Ty} (h1 : Ext a b) (h2 : Ext b c) : Ext a c := by
  obtain ⟨d1, rfl⟩ := h1; obtain ⟨d2, rfl⟩ := h2; exact ⟨d1 ++ d2, by simp⟩

/-- a later extension also extends the earlier store typing -/
theorem Ext.lift {Ψ Ψ1 : List Ty} {A : List Ty → Prop} (hx : Ext Ψ Ψ1) :
    (∃ Ψ', Ext Ψ1 Ψ' ∧ A Ψ') → ∃ Ψ', Ext Ψ Ψ' ∧ A Ψ'
  | ⟨Ψ', hx', h⟩ => ⟨Ψ', hx.trans hx', h⟩

theorem lt_of_get {Ψ : List Ty} {l : Nat} {e : Ty} (h : Ψ[l]? = some e) : l < Ψ.length :=
  (List.getElem?_eq_some_iff.mp h).1

theorem get_ext {Ψ Ψ' : List Ty} (hx : Ext Ψ Ψ') {l : Nat} {e : Ty} (h : Ψ[l]? = some e) : Ψ'[l]? = some e := by
  obtain ⟨Δ, rfl⟩ := hx
  rw [List.getElem?_append_left (lt_of_get h)]; exact h

end Goml.ValTyR

/-! ### the general judgement -/

namespace Goml.ValTyG
open Goml Goml.Sem Goml.Wt Goml.Mono Goml.ValTy
open Goml.ValTyR (Ext get_ext lt_of_get)

mutual
/-- `ValTyR.VT` with the fragment flag as a parameter: references and trait objects are values only when `rf = true`,
    and the body of a closure lies in the fragment `okE S P rf`.
    `ValTy.VT` (`Model/ValTy.lean`) and `ValTyR.VT` (`Model/ValTyRef.lean`) have the same rules under the same names,
    less `ref` and `dyn` for the first; a rule added to one of the three goes into all three and into the five
    recursor proofs that go between them (`VT.mono`, `toG`, `ofG` here and in `Lemmas/ValTy2Basic.lean`). -/
inductive VT (S : Sig) (P : Prog) (rf : Bool) (Ψ : List Ty) : Val → Ty → Prop
  | unit : VT S P rf Ψ .unit .unit
  | bool (b : Bool) : VT S P rf Ψ (.bool b) .bool
  | int (b : Nat) (s : Bool) (x : Int) : okWidth b = true → VT S P rf Ψ (.int b s x) (.int b s)
  | float (b : Nat) (x : Float) : okFWidth b = true → VT S P rf Ψ (.float b x) (.float b)
  | str (s : String) : VT S P rf Ψ (.str s) .string
  | tuple {vs : List Val} {ts : List Ty} : VTs S P rf Ψ vs ts → VT S P rf Ψ (.tuple vs) (.tuple ts)
  | enumV {n : String} {idx : Nat} {args : List Val} {t : Ty} {fts : List Ty} :
      isEnumTy t = true → enumFieldTys S n idx t = some fts → VTs S P rf Ψ args fts → VT S P rf Ψ (.enumV n idx args) t
  | structV {n : String} {fs : List Val} {t : Ty} {fts : List Ty} :
      isStructTy t = true → fieldTys S (.struct n) t = some fts → VTs S P rf Ψ fs fts → VT S P rf Ψ (.structV n fs) t
  | array {vs : List Val} {e : Ty} {n : Nat} : VTall S P rf Ψ vs e → vs.length = n → VT S P rf Ψ (.array vs) (.array n e)
  | vec {vs : List Val} {e : Ty} : VTall S P rf Ψ vs e → VT S P rf Ψ (.vec vs) (.vec e)
  | ref {l : Nat} {e : Ty} : rf = true → Ψ[l]? = some e → VT S P rf Ψ (.ref l) (.ref e)
  | dyn {tr key : String} {v : Val} {τ : Ty} : rf = true → keyable S τ = true → VT S P rf Ψ v τ → tyKey τ = key →
      VT S P rf Ψ (.dyn tr key v) (.dyn tr)
  | closure {θ : Subst} {ρ : Env} {Γ : TyEnv} {pts : List (String × Ty)} {body : Expr} :
      ET S P rf Ψ θ ρ Γ → errs S (bindAll pts Γ) body = [] → okE S P rf (bindAll pts Γ) [] body = true →
      VT S P rf Ψ (.closure (pts.map (·.1)) body ρ) (.func (substTys θ (pts.map (·.2))) (substTy θ (getTy body)))
  | fn {name : String} {g : Fn} (θ : Subst) :
      P.findFn name = some g → VT S P rf Ψ (.fn name) (substTy θ (fnTy g))
inductive VTs (S : Sig) (P : Prog) (rf : Bool) (Ψ : List Ty) : List Val → List Ty → Prop
  | nil : VTs S P rf Ψ [] []
  | cons {v : Val} {vs : List Val} {t : Ty} {ts : List Ty} :
      VT S P rf Ψ v t → VTs S P rf Ψ vs ts → VTs S P rf Ψ (v :: vs) (t :: ts)
inductive VTall (S : Sig) (P : Prog) (rf : Bool) (Ψ : List Ty) : List Val → Ty → Prop
  | nil {e : Ty} : VTall S P rf Ψ [] e
  | cons {v : Val} {vs : List Val} {e : Ty} : VT S P rf Ψ v e → VTall S P rf Ψ vs e → VTall S P rf Ψ (v :: vs) e
inductive ET (S : Sig) (P : Prog) (rf : Bool) (Ψ : List Ty) : Subst → Env → TyEnv → Prop
  | nil {θ : Subst} : ET S P rf Ψ θ [] []
  | cons {θ : Subst} {x : String} {v : Val} {t : Ty} {ρ : Env} {Γ : TyEnv} :
      VT S P rf Ψ v (substTy θ t) → ET S P rf Ψ θ ρ Γ → ET S P rf Ψ θ ((x, v) :: ρ) ((x, t) :: Γ)
end

/-- `ValTyR.WT`; without references (`rf = false`) the store is never read and nothing is asked of it -/
def WT (S : Sig) (P : Prog) (rf : Bool) (Ψ : List Ty) (w : World) : Prop :=
  rf = true →
    w.store.size = Ψ.length ∧ ∀ (l : Nat) (v : Val), w.store[l]? = some v → ∃ e, Ψ[l]? = some e ∧ VT S P rf Ψ v e

variable {S : Sig} {P : Prog} {rf : Bool} {Ψ : List Ty}

/-! #### canonical forms -/

/-- Canonical forms, for the types whose shape fixes the shape of the value.  Nothing is said (`True`) of `.enum`,
    `.struct`, `.app`, `.func` and type variables: what a value of a nominal type looks like depends on `S`
    (`struct_fields`, `enum_fields` in `Lemmas/ValTySound.lean`). -/
theorem VT.inv {v : Val} {t : Ty} (h : VT S P rf Ψ v t) :
    match t with
    | .unit => v = .unit
    | .bool => ∃ b, v = .bool b
    | .string => ∃ s, v = .str s
    | .int b s => ∃ x, v = .int b s x ∧ okWidth b = true
    | .float b => ∃ x, v = .float b x ∧ okFWidth b = true
    | .tuple ts => ∃ vs, v = .tuple vs ∧ VTs S P rf Ψ vs ts
    | .array n e => ∃ vs, v = .array vs ∧ vs.length = n ∧ VTall S P rf Ψ vs e
    | .vec e => ∃ vs, v = .vec vs ∧ VTall S P rf Ψ vs e
    | .ref e => ∃ l, v = .ref l ∧ rf = true ∧ Ψ[l]? = some e
    | .dyn tr => ∃ key v0 τ0, v = .dyn tr key v0 ∧ keyable S τ0 = true ∧ VT S P rf Ψ v0 τ0 ∧ tyKey τ0 = key
    | _ => True := by
  cases h with
  | unit => rfl
  | bool b => exact ⟨b, rfl⟩
  | int b s x hw => exact ⟨x, rfl, hw⟩
  | float b x hw => exact ⟨x, rfl, hw⟩
  | str s => exact ⟨s, rfl⟩
  | tuple h => exact ⟨_, rfl, h⟩
  | array h1 h2 => exact ⟨_, rfl, h2, h1⟩
  | vec h => exact ⟨_, rfl, h⟩
  | ref h1 h2 => exact ⟨_, rfl, h1, h2⟩
  | dyn h0 h1 h2 h3 => exact ⟨_, _, _, rfl, h1, h2, h3⟩
  | enumV h1 _ _ => cases t <;> first | trivial | simp [isEnumTy] at h1
  | structV h1 _ _ => cases t <;> first | trivial | simp [isStructTy] at h1
  | closure _ _ _ => trivial
  | fn θ _ => simp only [fnTy, substTy]

theorem VT_prim (p : Prim) (h : primOk p = true) : VT S P rf Ψ (primVal p) (primTy p) := by
  cases p
  -- after unfolding, each goal is one of the five scalar rules; the width premise of `int` / `float` is `primOk p`
  all_goals simp only [primVal, primTy]
  all_goals constructor
  all_goals simpa [primOk] using h

theorem VTs_get : ∀ {vs : List Val} {ts : List Ty}, VTs S P rf Ψ vs ts → ∀ (i : Nat) (t : Ty), ts[i]? = some t →
    ∃ v, vs[i]? = some v ∧ VT S P rf Ψ v t := by
  intro vs
  induction vs with
  | nil => intro ts h i t ht; cases h; simp at ht
  | cons v vs ih =>
    intro ts h i t ht
    cases h with
    | cons h1 h2 =>
      cases i with
      | zero => simp at ht; subst ht; exact ⟨v, by simp, h1⟩
      | succ i => simp at ht; simpa using ih h2 i t ht

theorem VTs_single {args : List Val} {t : Ty} (h : VTs S P rf Ψ args [t]) : ∃ a, args = [a] ∧ VT S P rf Ψ a t := by
  cases h with
  | cons h1 h2 => cases h2; exact ⟨_, rfl, h1⟩

theorem VTs_two {a : List Val} {t1 t2 : Ty} (h : VTs S P rf Ψ a [t1, t2]) :
    ∃ x y, a = [x, y] ∧ VT S P rf Ψ x t1 ∧ VT S P rf Ψ y t2 := by
  cases h with
  | cons h1 h2 => obtain ⟨y, rfl, hy⟩ := VTs_single h2; exact ⟨_, _, rfl, h1, hy⟩

theorem VTs_length : ∀ {vs : List Val} {ts : List Ty}, VTs S P rf Ψ vs ts → vs.length = ts.length := by
  intro vs
  induction vs with
  | nil => intro ts h; cases h; rfl
  | cons a vs ih => intro ts h; cases h with | cons _ h2 => simp [ih h2]

/-! #### arrays, vectors -/

theorem VTall_get : ∀ {vs : List Val} {e : Ty}, VTall S P rf Ψ vs e → ∀ (i : Nat) (v : Val), vs[i]? = some v →
    VT S P rf Ψ v e := by
  intro vs
  induction vs with
  | nil => intro e _ i v h; simp at h
  | cons a vs ih =>
    intro e h i v hv
    cases h with
    | cons h1 h2 =>
      cases i with
      | zero => simp at hv; subst hv; exact h1
      | succ i => simp at hv; exact ih h2 i v hv

theorem VTall_set : ∀ {vs : List Val} {e : Ty}, VTall S P rf Ψ vs e → ∀ (i : Nat) (v : Val), VT S P rf Ψ v e →
    VTall S P rf Ψ (vs.set i v) e := by
  intro vs
  induction vs with
  | nil => intro e h i v _; simpa using h
  | cons a vs ih =>
    intro e h i v hv
    cases h with
    | cons h1 h2 =>
      cases i with
      | zero => simp only [List.set_cons_zero]; exact .cons hv h2
      | succ i => simp only [List.set_cons_succ]; exact .cons h1 (ih h2 i v hv)

theorem VTall_append : ∀ {vs : List Val} {e : Ty}, VTall S P rf Ψ vs e → ∀ (v : Val), VT S P rf Ψ v e →
    VTall S P rf Ψ (vs ++ [v]) e := by
  intro vs
  induction vs with
  | nil => intro e _ v hv; exact .cons hv .nil
  | cons a vs ih =>
    intro e h v hv
    cases h with
    | cons h1 h2 => simp only [List.cons_append]; exact .cons h1 (ih h2 v hv)

theorem VTs_all : ∀ {vs : List Val} {ts : List Ty} {e : Ty}, VTs S P rf Ψ vs ts → (∀ t ∈ ts, t = e) →
    VTall S P rf Ψ vs e := by
  intro vs
  induction vs with
  | nil => intro ts e h _; exact .nil
  | cons a vs ih =>
    intro ts e h hall
    cases h with
    | cons h1 h2 =>
      have := hall _ List.mem_cons_self
      subst this
      exact .cons h1 (ih h2 (fun t ht => hall t (List.mem_cons_of_mem _ ht)))

/-! #### environments -/

theorem ET_lookup {θ : Subst} : ∀ {ρ : Env} {Γ : TyEnv}, ET S P rf Ψ θ ρ Γ → ∀ x,
    (match lookupVar Γ x with
     | some t => ∃ v, lookupEnv ρ x = some v ∧ VT S P rf Ψ v (substTy θ t)
     | none => lookupEnv ρ x = none) := by
  intro ρ
  induction ρ with
  | nil => intro Γ h x; cases h; simp [lookupVar, lookupEnv]
  | cons b ρ ih =>
    intro Γ h x
    cases h with
    | @cons _ k v t _ Γ' hv hrest =>
      simp only [lookupVar, lookupEnv_cons]
      by_cases hk : (k == x) = true
      · simp only [hk, if_true]; exact ⟨v, rfl, hv⟩
      · simp only [hk]; exact ih hrest x

theorem ET_bind {θ : Subst} : ∀ (ps : List (String × Ty)) (vs : List Val) (ρ : Env) (Γ : TyEnv),
    VTs S P rf Ψ vs (substTys θ (ps.map (·.2))) → ET S P rf Ψ θ ρ Γ →
    ET S P rf Ψ θ (bindParams (ps.map (·.1)) vs ρ) (bindAll ps Γ) := by
  intro ps
  induction ps with
  | nil =>
    intro vs ρ Γ h hρ
    simp only [List.map_nil, substTys] at h
    cases h
    simpa [bindParams, bindAll] using hρ
  | cons p ps ih =>
    intro vs ρ Γ h hρ
    obtain ⟨x, t⟩ := p
    simp only [List.map_cons, substTys] at h
    cases h with
    | cons h1 h2 =>
      simp only [List.map_cons, bindParams, bindAll]
      exact ih _ _ _ h2 (.cons h1 hρ)

theorem valKey_of_VT {v : Val} {τ : Ty} (hc : concreteTy τ = true) (h : VT S P rf Ψ v τ) : valKey v = tyKey τ := by
  cases h with
  | unit => rfl
  | bool => rfl
  | int _ _ _ _ => rfl
  | float _ _ _ => rfl
  | str => rfl
  | @enumV n idx args _ fts h1 h2 _ =>
    have hn := enumFieldTys_nominal h2
    -- the only concrete type that `isEnumTy` accepts is `.enum _`
    cases τ
    all_goals simp [concreteTy] at hc
    all_goals simp [isEnumTy] at h1
    simp [nominalArgs] at hn
    subst hn; simp [valKey, tyKey]
  | @structV n fs _ fts h1 h2 _ =>
    have hn := fieldTys_nominal (c := .struct n) h2
    cases τ
    all_goals simp [concreteTy] at hc
    all_goals simp [isStructTy] at h1
    simp [nominalArgs, ctorTyName] at hn
    subst hn; simp [valKey, tyKey]
  | fn θ _ => simp [concreteTy, fnTy, substTy] at hc
  | _ => simp [concreteTy] at hc

/-! #### store typings -/

/-- Weakening along an extension of the store typing.  By the recursor of the four judgements, one minor premise per
    rule; only the `ref` rule looks at `Ψ`.  The versions for `VTs`, `VTall`, `ET` after it (and after every `toG` / `ofG`)
    redo `cons` by a list induction: a recursor of the mutual block returns one motive only. -/
theorem VT.mono {Ψ Ψ' : List Ty} (hx : Ext Ψ Ψ') {v : Val} {t : Ty} (h : VT S P rf Ψ v t) : VT S P rf Ψ' v t :=
  VT.rec (motive_1 := fun v t _ => VT S P rf Ψ' v t) (motive_2 := fun vs ts _ => VTs S P rf Ψ' vs ts)
    (motive_3 := fun vs e _ => VTall S P rf Ψ' vs e) (motive_4 := fun θ ρ Γ _ => ET S P rf Ψ' θ ρ Γ)
    (unit := .unit)
    (bool := .bool)
    (int := .int)
    (float := .float)
    (str := .str)
    (tuple := fun _ ih => .tuple ih)
    (enumV := fun h1 h2 _ ih => .enumV h1 h2 ih)
    (structV := fun h1 h2 _ ih => .structV h1 h2 ih)
    (array := fun _ h2 ih => .array ih h2)
    (vec := fun _ ih => .vec ih)
    (ref := fun h0 h => .ref h0 (get_ext hx h))
    (dyn := fun h0 h1 _ h3 ih => .dyn h0 h1 ih h3)
    (closure := fun _ h2 h3 ih => .closure ih h2 h3)
    (fn := fun θ h => .fn θ h)
    -- `VTs`, `VTall`, `ET`: `nil` and `cons` of each, by position
    .nil (fun _ _ ih1 ih2 => .cons ih1 ih2)
    .nil (fun _ _ ih1 ih2 => .cons ih1 ih2)
    .nil (fun _ _ ih1 ih2 => .cons ih1 ih2)
    h

theorem VTs.mono {Ψ Ψ' : List Ty} (hx : Ext Ψ Ψ') :
    ∀ {vs : List Val} {ts : List Ty}, VTs S P rf Ψ vs ts → VTs S P rf Ψ' vs ts := by
  intro vs
  induction vs with
  | nil => intro ts h; cases h; exact .nil
  | cons v vs ih => intro ts h; cases h with | cons h1 h2 => exact .cons (h1.mono hx) (ih h2)

theorem VTall.mono {Ψ Ψ' : List Ty} (hx : Ext Ψ Ψ') :
    ∀ {vs : List Val} {e : Ty}, VTall S P rf Ψ vs e → VTall S P rf Ψ' vs e := by
  intro vs
  induction vs with
  | nil => intro e h; exact .nil
  | cons v vs ih => intro e h; cases h with | cons h1 h2 => exact .cons (h1.mono hx) (ih h2)

theorem ET.mono {Ψ Ψ' : List Ty} (hx : Ext Ψ Ψ') :
    ∀ {θ : Subst} {ρ : Env} {Γ : TyEnv}, ET S P rf Ψ θ ρ Γ → ET S P rf Ψ' θ ρ Γ := by
  intro θ ρ
  induction ρ with
  | nil => intro Γ h; cases h; exact .nil
  | cons b ρ ih => intro Γ h; cases h with | cons h1 h2 => exact .cons (h1.mono hx) (ih h2)

theorem WT.of_store {w w' : World} (h : WT S P rf Ψ w) (hs : w'.store = w.store) : WT S P rf Ψ w' := by
  unfold WT at h ⊢; rw [hs]; exact h

theorem ref_get_sound {w : World} {l : Nat} {e : Ty} {v : Val} (hw : WT S P rf Ψ w)
    (hr : VT S P rf Ψ (.ref l) (.ref e)) (hv : w.store[l]? = some v) : VT S P rf Ψ v e := by
  cases hr with
  | ref h0 h =>
    obtain ⟨e', he', hv'⟩ := (hw h0).2 l v hv
    rw [h] at he'; injection he' with he'; subst he'
    exact hv'

theorem ref_live {w : World} {l : Nat} {e : Ty} (hw : WT S P rf Ψ w) (hr : VT S P rf Ψ (.ref l) (.ref e)) :
    l < w.store.size := by
  cases hr with
  | ref h0 h => rw [(hw h0).1]; exact lt_of_get h

theorem ref_new_sound {w : World} {v : Val} {e : Ty} (h0 : rf = true) (hw : WT S P rf Ψ w) (hv : VT S P rf Ψ v e) :
    WT S P rf (Ψ ++ [e]) { w with store := w.store.push v } ∧
      VT S P rf (Ψ ++ [e]) (.ref w.store.size) (.ref e) := by
  have hx : Ext Ψ (Ψ ++ [e]) := ⟨[e], rfl⟩
  have hw := hw h0
  refine ⟨fun _ => ⟨by simp [hw.1], ?_⟩, .ref h0 (by rw [hw.1]; simp)⟩
  intro l u hu
  simp only [Array.getElem?_push] at hu
  by_cases hl : l = w.store.size
  · simp only [hl, if_true] at hu
    injection hu with hu; subst hu
    exact ⟨e, by rw [hl, hw.1]; simp, hv.mono hx⟩
  · simp only [hl, if_false] at hu
    obtain ⟨e', he', hv'⟩ := hw.2 l u hu
    exact ⟨e', get_ext hx he', hv'.mono hx⟩

theorem ref_set_sound {w : World} {l : Nat} {e : Ty} {v : Val} (hw : WT S P rf Ψ w)
    (hr : VT S P rf Ψ (.ref l) (.ref e)) (hv : VT S P rf Ψ v e) :
    WT S P rf Ψ { w with store := w.store.set! l v } := by
  cases hr with
  | ref h0 h =>
    have hw := hw h0
    refine fun _ => ⟨by simp [hw.1], ?_⟩
    intro k u hu
    simp only [Array.set!_eq_setIfInBounds, Array.getElem?_setIfInBounds] at hu
    by_cases hk : l = k
    · subst hk
      by_cases hlt : l < w.store.size
      · simp only [if_true, hlt] at hu
        injection hu with hu; subst hu
        exact ⟨e, h, hv⟩
      · simp only [if_true, hlt, if_false] at hu; cases hu
    · simp only [hk, if_false] at hu
      exact hw.2 k u hu

end Goml.ValTyG

/-! ### the reference-free judgement is the instance `rf = false`, at any store typing -/

namespace Goml.ValTy
open Goml Goml.Sem Goml.Wt Goml.Mono

variable {S : Sig} {P : Prog}

/-- by the recursor, one minor premise per rule (`ValTy.VT` has no `ref` and no `dyn` rule) -/
theorem VT.toG (Ψ : List Ty) {v : Val} {t : Ty} (h : VT S P v t) : ValTyG.VT S P false Ψ v t :=
  VT.rec (motive_1 := fun v t _ => ValTyG.VT S P false Ψ v t) (motive_2 := fun vs ts _ => ValTyG.VTs S P false Ψ vs ts)
    (motive_3 := fun vs e _ => ValTyG.VTall S P false Ψ vs e) (motive_4 := fun θ ρ Γ _ => ValTyG.ET S P false Ψ θ ρ Γ)
    (unit := .unit)
    (bool := .bool)
    (int := .int)
    (float := .float)
    (str := .str)
    (tuple := fun _ ih => .tuple ih)
    (enumV := fun h1 h2 _ ih => .enumV h1 h2 ih)
    (structV := fun h1 h2 _ ih => .structV h1 h2 ih)
    (array := fun _ h2 ih => .array ih h2)
    (vec := fun _ ih => .vec ih)
    (closure := fun _ h2 h3 ih => .closure ih h2 h3)
    (fn := fun θ h => .fn θ h)
    -- `VTs`, `VTall`, `ET`: `nil` and `cons` of each, by position
    .nil (fun _ _ ih1 ih2 => .cons ih1 ih2)
    .nil (fun _ _ ih1 ih2 => .cons ih1 ih2)
    .nil (fun _ _ ih1 ih2 => .cons ih1 ih2)
    h

theorem VTs.toG (Ψ : List Ty) : ∀ {vs : List Val} {ts : List Ty}, VTs S P vs ts → ValTyG.VTs S P false Ψ vs ts := by
  intro vs
  induction vs with
  | nil => intro ts h; cases h; exact .nil
  | cons v vs ih => intro ts h; cases h with | cons h1 h2 => exact .cons (h1.toG Ψ) (ih h2)

theorem VTall.toG (Ψ : List Ty) : ∀ {vs : List Val} {e : Ty}, VTall S P vs e → ValTyG.VTall S P false Ψ vs e := by
  intro vs
  induction vs with
  | nil => intro e h; exact .nil
  | cons v vs ih => intro e h; cases h with | cons h1 h2 => exact .cons (h1.toG Ψ) (ih h2)

theorem ET.toG (Ψ : List Ty) : ∀ {θ : Subst} {ρ : Env} {Γ : TyEnv}, ET S P θ ρ Γ → ValTyG.ET S P false Ψ θ ρ Γ := by
  intro θ ρ
  induction ρ with
  | nil => intro Γ h; cases h; exact .nil
  | cons b ρ ih => intro Γ h; cases h with | cons h1 h2 => exact .cons (h1.toG Ψ) (ih h2)

theorem VT.ofG {Ψ : List Ty} {v : Val} {t : Ty} (h : ValTyG.VT S P false Ψ v t) : VT S P v t :=
  ValTyG.VT.rec (rf := false) (motive_1 := fun v t _ => VT S P v t) (motive_2 := fun vs ts _ => VTs S P vs ts)
    (motive_3 := fun vs e _ => VTall S P vs e) (motive_4 := fun θ ρ Γ _ => ET S P θ ρ Γ)
    (unit := .unit)
    (bool := .bool)
    (int := .int)
    (float := .float)
    (str := .str)
    (tuple := fun _ ih => .tuple ih)
    (enumV := fun h1 h2 _ ih => .enumV h1 h2 ih)
    (structV := fun h1 h2 _ ih => .structV h1 h2 ih)
    (array := fun _ h2 ih => .array ih h2)
    (vec := fun _ ih => .vec ih)
    (ref := fun h0 _ => nomatch h0)
    (dyn := fun h0 _ _ _ _ => nomatch h0)
    (closure := fun _ h2 h3 ih => .closure ih h2 h3)
    (fn := fun θ h => .fn θ h)
    -- `VTs`, `VTall`, `ET`: `nil` and `cons` of each, by position
    .nil (fun _ _ ih1 ih2 => .cons ih1 ih2)
    .nil (fun _ _ ih1 ih2 => .cons ih1 ih2)
    .nil (fun _ _ ih1 ih2 => .cons ih1 ih2)
    h

theorem VTs.ofG {Ψ : List Ty} : ∀ {vs : List Val} {ts : List Ty}, ValTyG.VTs S P false Ψ vs ts → VTs S P vs ts := by
  intro vs
  induction vs with
  | nil => intro ts h; cases h; exact .nil
  | cons v vs ih => intro ts h; cases h with | cons h1 h2 => exact .cons (VT.ofG h1) (ih h2)

theorem VTall.ofG {Ψ : List Ty} : ∀ {vs : List Val} {e : Ty}, ValTyG.VTall S P false Ψ vs e → VTall S P vs e := by
  intro vs
  induction vs with
  | nil => intro e h; exact .nil
  | cons v vs ih => intro e h; cases h with | cons h1 h2 => exact .cons (VT.ofG h1) (ih h2)

theorem ET.ofG {Ψ : List Ty} : ∀ {θ : Subst} {ρ : Env} {Γ : TyEnv}, ValTyG.ET S P false Ψ θ ρ Γ → ET S P θ ρ Γ := by
  intro θ ρ
  induction ρ with
  | nil => intro Γ h; cases h; exact .nil
  | cons b ρ ih => intro Γ h; cases h with | cons h1 h2 => exact .cons (VT.ofG h1) (ih h2)

theorem VT_anyint {v : Val} {b : Nat} {s : Bool} (h : VT S P v (.int b s)) : ∃ x, v = .int b s x :=
  let ⟨x, hx, _⟩ := (h.toG []).inv
  ⟨x, hx⟩

theorem VTall_get : ∀ {vs : List Val} {e : Ty}, VTall S P vs e → ∀ (i : Nat) (v : Val), vs[i]? = some v → VT S P v e :=
  fun h i v hv => VT.ofG (ValTyG.VTall_get (h.toG []) i v hv)

theorem VTall_set : ∀ {vs : List Val} {e : Ty}, VTall S P vs e → ∀ (i : Nat) (v : Val), VT S P v e → VTall S P (vs.set i v) e :=
  fun h i v hv => VTall.ofG (ValTyG.VTall_set (h.toG []) i v (hv.toG []))

theorem VTall_append : ∀ {vs : List Val} {e : Ty}, VTall S P vs e → ∀ (v : Val), VT S P v e → VTall S P (vs ++ [v]) e :=
  fun h v hv => VTall.ofG (ValTyG.VTall_append (h.toG []) v (hv.toG []))

theorem VTs_length : ∀ {vs : List Val} {ts : List Ty}, VTs S P vs ts → vs.length = ts.length :=
  fun h => ValTyG.VTs_length (h.toG [])

theorem VTs_all : ∀ {vs : List Val} {ts : List Ty} {e : Ty}, VTs S P vs ts → (∀ t ∈ ts, t = e) → VTall S P vs e :=
  fun h hall => VTall.ofG (ValTyG.VTs_all (h.toG []) hall)

theorem ET_bind {θ : Subst} : ∀ (ps : List (String × Ty)) (vs : List Val) (ρ : Env) (Γ : TyEnv),
    VTs S P vs (substTys θ (ps.map (·.2))) → ET S P θ ρ Γ →
    ET S P θ (bindParams (ps.map (·.1)) vs ρ) (bindAll ps Γ) :=
  fun ps vs ρ Γ h hρ => ET.ofG (ValTyG.ET_bind ps vs ρ Γ (h.toG []) (hρ.toG []))

theorem valKey_of_VT {v : Val} {τ : Ty} (hc : concreteTy τ = true) (h : VT S P v τ) : valKey v = tyKey τ :=
  ValTyG.valKey_of_VT hc (h.toG [])

end Goml.ValTy
