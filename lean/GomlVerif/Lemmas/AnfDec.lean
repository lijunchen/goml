import GomlVerif.Model.Anf
import GomlVerif.Model.AnfFrag
/-!
Direct-style reading of the CPS functions of `Model/Anf.lean`: `anf e n k` is a chain of
`let` bindings `(dec e n).L` around `k` applied to the final complex expression `(dec e n).c`
and the counter `(dec e n).n` (`anf_eq_dec`).  All semantic reasoning is done on `dec`.
-/
namespace Goml.Anf
open Goml

/-- the guard of the `&&` / `||` arm accepts exactly the operands that have nothing to evaluate
    (checked against the table regenerated from `anf.rs`) -/
theorem trivialRhs_eq_isAtom (e : Expr) : trivialRhs e = isAtom e := by
  cases e <;> simp only [trivialRhs, liftKind, isAtom] <;> decide

/-- the variants `anf_imm` passes on unnamed (regenerated from `anf.rs`) are the atoms -/
theorem immKinds_is_isAtom (e : Expr) : Gen.immKinds.contains (liftKind e) = isAtom e := by
  cases e <;> simp only [liftKind, isAtom] <;> decide

abbrev Binds := List (String × Expr)

def wrap : Binds → Expr → Expr
  | [], c => c
  | (x, v) :: L, c => .letE x v (wrap L c)

theorem wrap_append (L1 L2 : Binds) (c : Expr) : wrap (L1 ++ L2) c = wrap L1 (wrap L2 c) := by
  induction L1 with
  | nil => rfl
  | cons p L ih => obtain ⟨x, v⟩ := p; simp only [List.cons_append, wrap, ih]

structure Dec where
  L : Binds
  c : Expr
  n : Nat

/-- for operands: `cs` are the atoms standing for them -/
structure DecL where
  L : Binds
  cs : List Expr
  n : Nat

/-- `immK` in direct style -/
def decImmK (e : Expr) (self : Nat → Dec) (n : Nat) : Dec :=
  match e with
  | .var x ty => ⟨[], .var x ty, n⟩
  | .prim p => ⟨[], .prim p, n⟩
  | e =>
    let r := self (n + 1)
    ⟨r.L ++ [(tmpName n, r.c)], .var (tmpName n) (tyOf e), r.n⟩

mutual
/-- Operands go through `decImmK` / `decList`: their chains are part of `L`.  Branches, loop parts, arm bodies and the
    default are `anf · ret` results inside `c`: their chains are not in `L`, only their counters are threaded. -/
def dec (e : Expr) (n : Nat) : Dec :=
  match e with
  | .var x ty => ⟨[], .var x ty, n⟩
  | .prim p => ⟨[], .prim p, n⟩
  | .constr c ty args =>
    match c, args with
    | .enum _ _ idx, [] => ⟨[], .tag idx ty, n⟩
    | _, _ => let r := decList args n; ⟨r.L, .constr c ty r.cs, r.n⟩
  | .tuple ty items => let r := decList items n; ⟨r.L, .tuple ty r.cs, r.n⟩
  | .array ty items => let r := decList items n; ⟨r.L, .array ty r.cs, r.n⟩
  | .letE x v b =>
    let rv := dec v n
    let rb := dec b rv.n
    ⟨rv.L ++ (x, rv.c) :: rb.L, rb.c, rb.n⟩
  | .ite c t e =>
    let rc := decImmK c (dec c) n
    let rt := anf t rc.n ret
    let re := anf e rt.2 ret
    ⟨rc.L, .ite rc.c rt.1 re.1, re.2⟩
  | .while c b =>
    let rc := anf c n ret
    let rb := anf b rc.2 ret
    ⟨[], .while rc.1 rb.1, rb.2⟩
  | .go e => let r := decImmK e (dec e) n; ⟨r.L, .go r.c, r.n⟩
  | .matchE ty s arms dflt =>
    let rs := decImmK s (dec s) n
    let ra := anfArms arms rs.n
    let rd := anfDflt dflt ra.2
    ⟨rs.L, .matchE ty rs.c ra.1 rd.1, rd.2⟩
  | .cget c idx ty e => let r := decImmK e (dec e) n; ⟨r.L, .cget c idx ty r.c, r.n⟩
  | .un op ty e => let r := decImmK e (dec e) n; ⟨r.L, .un op ty r.c, r.n⟩
  | .bin op ty l r =>
    if (op == .and || op == .or) && !trivialRhs r then
      let rl := decImmK l (dec l) n
      if op == .and then
        let rt := anf r rl.n ret
        ⟨rl.L, .ite rl.c rt.1 (.prim (.bool false)), rt.2⟩
      else
        let re := anf r rl.n ret
        ⟨rl.L, .ite rl.c (.prim (.bool true)) re.1, re.2⟩
    else
      let rl := decImmK l (dec l) n
      let rr := decImmK r (dec r) rl.n
      ⟨rl.L ++ rr.L, .bin op ty rl.c rr.c, rr.n⟩
  | .call ty f args =>
    let rf := decImmK f (dec f) n
    let ra := decList args rf.n
    ⟨rf.L ++ ra.L, .call ty rf.c ra.cs, ra.n⟩
  | .toDyn tr forTy ty e => let r := decImmK e (dec e) n; ⟨r.L, .toDyn tr forTy ty r.c, r.n⟩
  | .dynCall tr m ty recv args =>
    let rr := decImmK recv (dec recv) n
    let ra := decList args rr.n
    ⟨rr.L ++ ra.L, .dynCall tr m ty rr.c ra.cs, ra.n⟩
  | .proj idx ty e => let r := decImmK e (dec e) n; ⟨r.L, .proj idx ty r.c, r.n⟩
  | .tag idx ty => ⟨[], .tag idx ty, n⟩
  | .closure ty ps b => ⟨[], .closure ty ps b, n⟩
  | .traitCall tr m ty recv args => ⟨[], .traitCall tr m ty recv args, n⟩

def decList (es : List Expr) (n : Nat) : DecL :=
  match es with
  | [] => ⟨[], [], n⟩
  | e :: rest =>
    let r := decImmK e (dec e) n
    let rr := decList rest r.n
    ⟨r.L ++ rr.L, r.c :: rr.cs, rr.n⟩
end

def decImm (e : Expr) (n : Nat) : Dec := decImmK e (dec e) n

/-- the shape every continuation application takes -/
def plug (L : Binds) (r : Expr × Nat) : Expr × Nat := (wrap L r.1, r.2)

theorem immK_eq (e : Expr) (n : Nat) (k : Kont Expr)
    (h : ∀ n k, anf e n k = plug (dec e n).L (k (dec e n).c (dec e n).n)) :
    immK e (anf e) n k = plug (decImm e n).L (k (decImm e n).c (decImm e n).n) := by
  unfold immK decImm decImmK
  split
  · rfl
  · rfl
  · rw [h]
    simp only [plug, wrap_append, wrap]

mutual
theorem anf_eq_dec : ∀ (e : Expr) (n : Nat) (k : Kont Expr),
    anf e n k = plug (dec e n).L (k (dec e n).c (dec e n).n)
  | .var _ _, n, k | .prim _, n, k | .tag _ _, n, k | .closure _ _ _, n, k | .traitCall _ _ _ _ _, n, k
  | .constr (.enum _ _ _) _ [], n, k => by simp [anf, dec, plug, wrap]
  | .constr (.struct sn) ty [], n, k => by
    simp only [anf, dec, anfList_eq_dec []]
  | .constr c ty (a :: as), n, k => by
    simp only [anf, dec, anfList_eq_dec (a :: as)]
  | .tuple _ items, n, k | .array _ items, n, k => by rw [anf, dec, anfList_eq_dec items]
  | .letE x v b, n, k => by
    rw [anf, dec, anf_eq_dec v]
    simp only [anf_eq_dec b, plug, wrap_append, wrap]
  | .ite c t e, n, k => by
    rw [anf, dec, immK_eq c _ _ (anf_eq_dec c)]; rfl
  | .while c b, n, k => by rw [anf, dec]; simp [plug, wrap]
  | .go e, n, k | .cget _ _ _ e, n, k | .un _ _ e, n, k | .toDyn _ _ _ e, n, k | .proj _ _ e, n, k => by
    rw [anf, dec, immK_eq e _ _ (anf_eq_dec e)]; rfl
  | .matchE ty s arms dflt, n, k => by rw [anf, dec, immK_eq s _ _ (anf_eq_dec s)]; rfl
  | .bin op ty l r, n, k => by
    rw [anf, dec]
    split
    · rw [immK_eq l _ _ (anf_eq_dec l)]
      split <;> rfl
    · rw [immK_eq l _ _ (anf_eq_dec l), immK_eq r _ _ (anf_eq_dec r)]
      simp only [plug, wrap_append, decImm]
  | .call _ f args, n, k | .dynCall _ _ _ f args, n, k => by
    rw [anf, dec, immK_eq f _ _ (anf_eq_dec f), anfList_eq_dec args]
    simp only [plug, wrap_append, decImm]

theorem anfList_eq_dec : ∀ (es : List Expr) (n : Nat) (k : Kont (List Expr)),
    anfList es n k = plug (decList es n).L (k (decList es n).cs (decList es n).n)
  | [], n, k => by simp [anfList, decList, plug, wrap]
  | e :: rest, n, k => by
    rw [anfList, decList, immK_eq e _ _ (anf_eq_dec e), anfList_eq_dec rest]
    simp only [plug, wrap_append, decImm]
end

theorem anf_ret (e : Expr) (n : Nat) : anf e n ret = (wrap (dec e n).L (dec e n).c, (dec e n).n) := by
  rw [anf_eq_dec]; rfl

theorem anf_ret_snd (e : Expr) (n : Nat) : (anf e n ret).2 = (dec e n).n := by rw [anf_ret]

def keys (L : Binds) : List String := L.map Prod.fst

@[simp] theorem keys_nil : keys [] = [] := rfl
@[simp] theorem keys_cons (x : String) (v : Expr) (L : Binds) : keys ((x, v) :: L) = x :: keys L := rfl
@[simp] theorem keys_append (L1 L2 : Binds) : keys (L1 ++ L2) = keys L1 ++ keys L2 := by
  simp [keys]

def KeyOk (bs : List String) (n n' : Nat) (x : String) : Prop :=
  x ∈ bs ∨ ∃ m, n ≤ m ∧ m < n' ∧ x = tmpName m

theorem KeyOk.weaken {bs bs' : List String} {n n' n0 n1 : Nat} {x : String} (h : KeyOk bs n n' x)
    (hbs : ∀ y, y ∈ bs → y ∈ bs') (h0 : n0 ≤ n) (h1 : n' ≤ n1) : KeyOk bs' n0 n1 x := by
  rcases h with h | ⟨m, hm1, hm2, hm3⟩
  · exact Or.inl (hbs _ h)
  · exact Or.inr ⟨m, by omega, by omega, hm3⟩

/-- `L` was produced while the counter went from `n` to `n'`: its keys are `let` names from `bs` or temporaries drawn in
    between.  Consecutive parts compose (`Span.append`), so `dec_span` is one composition per node. -/
def Span (bs : List String) (n n' : Nat) (L : Binds) : Prop := n ≤ n' ∧ ∀ x ∈ keys L, KeyOk bs n n' x

namespace Span

theorem nil (bs : List String) (n : Nat) : Span bs n n [] := ⟨Nat.le_refl _, fun _ h => by simp at h⟩

theorem mono {bs bs' : List String} {n n' n0 n1 : Nat} {L : Binds} (h : Span bs n n' L)
    (hbs : ∀ y, y ∈ bs → y ∈ bs') (h0 : n0 ≤ n) (h1 : n' ≤ n1) : Span bs' n0 n1 L :=
  ⟨by have := h.1; omega, fun x hx => (h.2 x hx).weaken hbs h0 h1⟩

theorem append {bs1 bs2 : List String} {n n1 n2 : Nat} {L1 L2 : Binds} (h1 : Span bs1 n n1 L1)
    (h2 : Span bs2 n1 n2 L2) : Span (bs1 ++ bs2) n n2 (L1 ++ L2) := by
  refine ⟨Nat.le_trans h1.1 h2.1, fun x hx => ?_⟩
  simp only [keys_append, List.mem_append] at hx
  rcases hx with hx | hx
  · exact (h1.2 x hx).weaken (fun y hy => List.mem_append_left _ hy) (Nat.le_refl _) h2.1
  · exact (h2.2 x hx).weaken (fun y hy => List.mem_append_right _ hy) h1.1 (Nat.le_refl _)

theorem let1 (x : String) (v : Expr) (n : Nat) : Span [x] n n [(x, v)] :=
  ⟨Nat.le_refl _, fun y hy => Or.inl (by simpa using hy)⟩

theorem named {bs : List String} {n n' : Nat} {L : Binds} (h : Span bs (n+1) n' L) (c : Expr) :
    Span bs n n' (L ++ [(tmpName n, c)]) := by
  refine ⟨by have := h.1; omega, fun x hx => ?_⟩
  simp only [keys_append, keys_cons, keys_nil, List.mem_append, List.mem_singleton] at hx
  rcases hx with hx | hx
  · exact (h.2 x hx).weaken (fun _ hy => hy) (by omega) (Nat.le_refl _)
  · exact Or.inr ⟨n, Nat.le_refl _, h.1, hx⟩

end Span

/-- usable inside the mutual block, before `dec_span` is closed -/
theorem decImm_span_of (e : Expr) (n : Nat) (h : ∀ n, Span (bnd e) n (dec e n).n (dec e n).L) :
    Span (bnd e) n (decImm e n).n (decImm e n).L := by
  unfold decImm decImmK
  split
  · exact Span.nil _ _
  · exact Span.nil _ _
  · exact (h (n + 1)).named _

mutual
theorem dec_span : ∀ (e : Expr) (n : Nat), Span (bnd e) n (dec e n).n (dec e n).L
  | .var _ _, n | .prim _, n | .tag _ _, n | .closure _ _ _, n | .traitCall _ _ _ _ _, n
  | .constr (.enum _ _ _) _ [], n => by simp only [dec]; exact Span.nil _ _
  | .constr (.struct sn) ty [], n => by simp only [dec, decList]; exact Span.nil _ _
  | .constr c ty (a :: as), n => by simp only [dec, bnd]; exact decList_span (a :: as) n
  | .tuple _ items, n | .array _ items, n => by simp only [dec, bnd]; exact decList_span items n
  | .letE x v b, n => by
    simp only [dec, bnd]
    refine ((dec_span v n).append ((Span.let1 x _ _).append (dec_span b _))).mono (fun y hy => ?_)
      (Nat.le_refl _) (Nat.le_refl _)
    simp only [List.mem_append, List.mem_cons, List.not_mem_nil, or_false] at hy ⊢
    rcases hy with h | h | h
    · exact Or.inr (Or.inl h)
    · exact Or.inl h
    · exact Or.inr (Or.inr h)
  | .ite c t e, n => by
    have h2 := (dec_span t (decImm c n).n).1
    have h3 := (dec_span e (dec t (decImm c n).n).n).1
    simp only [dec, bnd, anf_ret]
    exact (decImm_span_of c n (dec_span c)).mono (fun _ h => List.mem_append_left _ h) (Nat.le_refl _)
      (Nat.le_trans h2 h3)
  | .while c b, n => by
    have h1 := (dec_span c n).1
    have h2 := (dec_span b (dec c n).n).1
    simp only [dec, anf_ret]
    exact ⟨Nat.le_trans h1 h2, fun _ h => by simp at h⟩
  | .go e, n | .cget _ _ _ e, n | .un _ _ e, n | .toDyn _ _ _ e, n | .proj _ _ e, n => by
    simp only [dec, bnd]; exact decImm_span_of e n (dec_span e)
  | .matchE ty s arms dflt, n => by
    have h2 := anfArms_mono arms (decImm s n).n
    have h3 := anfDflt_mono dflt (anfArms arms (decImm s n).n).2
    simp only [dec, bnd]
    exact (decImm_span_of s n (dec_span s)).mono (fun _ h => List.mem_append_left _ h) (Nat.le_refl _)
      (Nat.le_trans h2 h3)
  | .bin op ty l r, n => by
    have hl := decImm_span_of l n (dec_span l)
    have h2 := (dec_span r (decImm l n).n).1
    simp only [dec, bnd]
    split
    · split <;> simp only [anf_ret] <;>
        exact hl.mono (fun _ h => List.mem_append_left _ h) (Nat.le_refl _) h2
    · exact hl.append (decImm_span_of r _ (dec_span r))
  | .call _ f args, n | .dynCall _ _ _ f args, n => by
    simp only [dec, bnd]
    exact (decImm_span_of f n (dec_span f)).append (decList_span args _)

theorem decList_span : ∀ (es : List Expr) (n : Nat), Span (bndList es) n (decList es n).n (decList es n).L
  | [], n => by simp only [decList]; exact Span.nil _ _
  | e :: rest, n => by
    simp only [decList, bndList]
    exact (decImm_span_of e n (dec_span e)).append (decList_span rest _)

theorem anfArms_mono : ∀ (arms : List Arm) (n : Nat), n ≤ (anfArms arms n).2
  | [], n => by simp [anfArms]
  | .mk lhs body :: rest, n => by
    have h1 := (dec_span body n).1
    have h2 := anfArms_mono rest (dec body n).n
    simp only [anfArms, anf_ret]; omega

theorem anfDflt_mono : ∀ (d : Option Expr) (n : Nat), n ≤ (anfDflt d n).2
  | none, n => by simp [anfDflt]
  | some e, n => by
    have h1 := (dec_span e n).1
    simp only [anfDflt, anf_ret]; omega
end

theorem decImm_span (e : Expr) (n : Nat) : Span (bnd e) n (decImm e n).n (decImm e n).L :=
  decImm_span_of e n (dec_span e)

theorem dec_mono (e : Expr) (n : Nat) : n ≤ (dec e n).n := (dec_span e n).1
theorem decImm_mono (e : Expr) (n : Nat) : n ≤ (decImm e n).n := (decImm_span e n).1
theorem decList_mono (es : List Expr) (n : Nat) : n ≤ (decList es n).n := (decList_span es n).1

theorem dec_keys (e : Expr) (n : Nat) (x : String) (hx : x ∈ keys (dec e n).L) : KeyOk (bnd e) n (dec e n).n x :=
  (dec_span e n).2 x hx
theorem decImm_keys (e : Expr) (n : Nat) (x : String) (hx : x ∈ keys (decImm e n).L) :
    KeyOk (bnd e) n (decImm e n).n x := (decImm_span e n).2 x hx
theorem decList_keys (es : List Expr) (n : Nat) (x : String) (hx : x ∈ keys (decList es n).L) :
    KeyOk (bndList es) n (decList es n).n x := (decList_span es n).2 x hx

theorem decImm_atom {e : Expr} (h : isAtom e = true) (n : Nat) : decImm e n = ⟨[], e, n⟩ := by
  cases e <;> simp [isAtom] at h <;> rfl

theorem decImm_nonatom {e : Expr} (h : isAtom e = false) (n : Nat) :
    decImm e n = ⟨(dec e (n+1)).L ++ [(tmpName n, (dec e (n+1)).c)], .var (tmpName n) (tyOf e), (dec e (n+1)).n⟩ := by
  cases e <;> simp [isAtom] at h <;> rfl

theorem decImm_c_atom (e : Expr) (n : Nat) : isAtom (decImm e n).c = true := by
  cases h : isAtom e
  · rw [decImm_nonatom h]; rfl
  · rw [decImm_atom h]; exact h

theorem decList_cs_atoms : ∀ (es : List Expr) (n : Nat), ∀ i ∈ (decList es n).cs, isAtom i = true
  | [], n, i, hi => by simp [decList] at hi
  | e :: rest, n, i, hi => by
    simp only [decList, List.mem_cons] at hi
    rcases hi with rfl | hi
    · exact decImm_c_atom e n
    · exact decList_cs_atoms rest _ i hi

theorem dec_letE (x : String) (v b : Expr) (n : Nat) :
    dec (.letE x v b) n = ⟨(dec v n).L ++ (x, (dec v n).c) :: (dec b (dec v n).n).L, (dec b (dec v n).n).c,
      (dec b (dec v n).n).n⟩ := rfl

theorem dec_ite (c t e : Expr) (n : Nat) :
    dec (.ite c t e) n = ⟨(decImm c n).L,
      .ite (decImm c n).c (anf t (decImm c n).n ret).1 (anf e (dec t (decImm c n).n).n ret).1,
      (dec e (dec t (decImm c n).n).n).n⟩ := by
  rw [← anf_ret_snd t, ← anf_ret_snd e]; rfl

theorem dec_while (c b : Expr) (n : Nat) :
    dec (.while c b) n = ⟨[], .while (anf c n ret).1 (anf b (dec c n).n ret).1, (dec b (dec c n).n).n⟩ := by
  rw [← anf_ret_snd c, ← anf_ret_snd b]; rfl

theorem dec_matchE (ty : Ty) (s : Expr) (arms : List Arm) (d : Option Expr) (n : Nat) :
    dec (.matchE ty s arms d) n = ⟨(decImm s n).L,
      .matchE ty (decImm s n).c (anfArms arms (decImm s n).n).1 (anfDflt d (anfArms arms (decImm s n).n).2).1,
      (anfDflt d (anfArms arms (decImm s n).n).2).2⟩ := rfl

theorem anfArms_cons (lhs body : Expr) (rest : List Arm) (n : Nat) :
    anfArms (.mk lhs body :: rest) n =
      (.mk (armHead lhs) (anf body n ret).1 :: (anfArms rest (dec body n).n).1, (anfArms rest (dec body n).n).2) := by
  rw [← anf_ret_snd body]; rfl

/-- all but the nullary enum constructor, which becomes a tag -/
theorem dec_constr_general {c : Ctor} {ty : Ty} {args : List Expr}
    (h : ∀ tn vn idx, c = .enum tn vn idx → args ≠ []) (n : Nat) :
    dec (.constr c ty args) n = ⟨(decList args n).L, .constr c ty (decList args n).cs, (decList args n).n⟩ := by
  cases c with
  | struct sn => cases args <;> rfl
  | enum tn vn idx =>
    cases args with
    | nil => exact absurd rfl (h tn vn idx rfl)
    | cons a as => rfl

/-- against `decList [l, r]`, the shape `sim_ops` takes; the `_` row is never reached -/
theorem dec_bin_plain {op : BinOp} {ty : Ty} {l r : Expr}
    (hc : ((op == .and || op == .or) && !trivialRhs r) = false) (n : Nat) :
    (dec (.bin op ty l r) n).L = (decList [l, r] n).L ∧
      (dec (.bin op ty l r) n).c = (match (decList [l, r] n).cs with | [li, ri] => .bin op ty li ri | _ => .prim .unit) ∧
      (dec (.bin op ty l r) n).n = (decList [l, r] n).n := by
  simp [dec, hc, decList]

theorem binOp_beq (a b : BinOp) : (a == b) = decide (a = b) := by
  cases a <;> cases b <;> rfl

theorem lowered_iff {op : BinOp} {r : Expr} :
    ((op == .and || op == .or) && !trivialRhs r) = true ↔ ((op = .and ∨ op = .or) ∧ isAtom r = false) := by
  simp [binOp_beq, trivialRhs_eq_isAtom]

theorem dec_and_lowered {ty : Ty} {l r : Expr} (h : isAtom r = false) (n : Nat) :
    dec (.bin .and ty l r) n =
      ⟨(decImm l n).L, .ite (decImm l n).c (anf r (decImm l n).n ret).1 (.prim (.bool false)),
        (anf r (decImm l n).n ret).2⟩ := by
  simp [dec, trivialRhs_eq_isAtom, h, binOp_beq, decImm]

theorem dec_or_lowered {ty : Ty} {l r : Expr} (h : isAtom r = false) (n : Nat) :
    dec (.bin .or ty l r) n =
      ⟨(decImm l n).L, .ite (decImm l n).c (.prim (.bool true)) (anf r (decImm l n).n ret).1,
        (anf r (decImm l n).n ret).2⟩ := by
  simp [dec, trivialRhs_eq_isAtom, h, binOp_beq, decImm]

end Goml.Anf
