import GomlVerif.Lemmas.GoCompStepM
/-! statement-level steps of the simulation: `go e` (`stepG`), builtin calls (`stepB`), fuel 0 (`sim0`), a `CExpr` in tail position (`stepC`).

`go e` (`compile_go`): the statement `go apply(env)` against `Sem`'s `go`.  Under the eager schedule both sides run the
`apply` function of the closure environment to completion at the `go` (`SimU`); under the other schedule both sides
append the activation to their `spawned` list, which neither `Sem.run` nor `runGo` looks at again. -/
namespace Goml.GoComp
open Goml Goml.Go Goml.GoCompile Goml.GoFrag
open Goml.Sem (Val World Res)
open Goml.Dce (keys lookup_cons_ne key_of_lookup_some lookup_none_of_not_key)

attribute [local irreducible] Goml.GoCompile.vn Goml.GoCompile.gid Goml.GoCompile.rn

/-! ### `Go.Sem` rules for the `go` statement -/

theorem stmt_go_eager {F ρ w ty f args fv w1 vs w2 v w3} (hf : EvS F ρ w f (.ok fv w1)) (ha : EvLS F ρ w1 args (.ok vs w2))
    (he : w2.eager = true) (hc : CallS F w2 fv vs (.ok v w3)) :
    StmtS F ρ w (.go (.call ty f args)) (.ok (ρ, .normal) w3) :=
  stable_step₃ hf ha hc fun k h1 h2 h3 => by
    rw [execG_go]; simp only [h1, GRes.bind_ok, h2, he, if_true, h3]

theorem stmt_go_eager_fail {F ρ w ty f args fv w1 vs w2 fl w3} (hf : EvS F ρ w f (.ok fv w1)) (ha : EvLS F ρ w1 args (.ok vs w2))
    (he : w2.eager = true) (hc : CallS F w2 fv vs (.fail fl w3)) :
    StmtS F ρ w (.go (.call ty f args)) (.fail fl w3) :=
  stable_step₃ hf ha hc fun k h1 h2 h3 => by
    rw [execG_go]; simp only [h1, GRes.bind_ok, h2, he, if_true, h3, GRes.bind_fail]

theorem stmt_go_lazy {F ρ w ty f args fv w1 vs w2} (hf : EvS F ρ w f (.ok fv w1)) (ha : EvLS F ρ w1 args (.ok vs w2))
    (he : w2.eager = false) :
    StmtS F ρ w (.go (.call ty f args)) (.ok (ρ, .normal) { w2 with spawned := w2.spawned ++ [(fv, vs)] }) :=
  stable_step₂ hf ha fun k h1 h2 => by
    rw [execG_go]; simp only [h1, GRes.bind_ok, h2, he, Bool.false_eq_true, if_false]

/-- `Sem.apply` of a closure environment is `Sem.apply` of its `apply` function to it -/
theorem sem_apply_struct {P : Prog} {w : World} {n : Nat} {sn : String} {vs : List Val} {fn : Fn}
    (hf : P.findFn (applyFnName sn) = some fn) :
    Sem.apply n P w (.structV sn vs) [] = Sem.apply n P w (.fn (applyFnName sn)) [.structV sn vs] := by
  cases n with
  | zero => rw [Sem.apply, Sem.apply]
  | succ n =>
    rw [Sem.apply, Sem.apply]
    -- `Sem.apply` of a struct value spells `applyFnName sn` out
    have : P.findFn ("inherent#" ++ sn ++ "#" ++ sn ++ "#apply") = some fn := hf
    simp only [this, hf]

theorem stepG {env : Env} {file : AFile} {G : List String} {P : Prog} {F : GFile} (hl : Link env file G P F) {n : Nat}
    (hu : SimU env file G P F n) : SimG env file G P F (n + 1) := by
  intro e ty η Γ K ρ w gρ gw Bad hfrag hrel hw hgood hfx hcal
  have hfr := hfx.rel hgood
  obtain ⟨sn, g, fty, rty, hv⟩ := fragC_goView hfrag
  obtain ⟨v, gv, hs, hg, hval, hty⟩ := imm_both P hl.ty hv.imm hrel hfr
  rw [hv.ety] at hval hty
  obtain ⟨_, vs, _, rfl, _⟩ := tv_inv hty hval
  rw [hv.shape]
  have hbad : vn (applyFnName sn) ∈ Bad := hcal _ (by simp [calleesC, hv.ety])
  have hgo : lookupG gρ (vn (applyFnName sn)) = none := lookup_none_of_not_key (fun hk => hgood _ hk hbad)
  have hargsE : ∀ gw, EvLS F gρ gw (compileImms env [e]) (.ok [gv] gw) := fun gw => by
    simp only [compileImms, List.map_cons, List.map_nil]; exact evl_cons (hg gw) evl_nil
  simp only [CExpr.toExpr]
  rw [Sem.eval_go, conclG_eq]
  refine (imm_outc hs n).andThen ?_ (fun _ _ h => h.elim)
  rintro _ _ ⟨rfl, rfl⟩
  by_cases hE : w.eager = true
  · rw [if_pos hE]
    have hge : gw.eager = true := by rw [hw.eager]; exact hE
    have hsrc' : P.findFn (applyFnName sn) = some g.toFn := by rw [← hv.name]; exact hl.fnSrc g hv.mem hv.inG
    rw [sem_apply_struct hsrc']
    have hfn : fnName g.name = vn (applyFnName sn) := by
      simp only [fnName, hv.entry, Bool.false_eq_true, if_false]
      rw [← hv.name]; unfold vn; rw [hv.rn]
    have hcallr := hu g hv.mem hv.inG η [.structV sn vs] [gv] w gw hfx.eq hfx.deq
      (by rw [hv.params]; exact ⟨hval, hty, trivial⟩) hw
    rw [hfn, hv.name, conclCall_eq] at hcallr
    exact hcallr.andThen
      (fun v' w' ⟨η1, hle1, gv', gw', hc, _, _, hw1⟩ =>
        ⟨rfl, η1, hle1, gw', stmt_go_eager (ev_var_none hgo) (hargsE gw) hge hc, hw1⟩)
      (fun k w' ⟨η1, hle1, gw', hc, hw1⟩ => ⟨η1, hle1, gw', stmt_go_eager_fail (ev_var_none hgo) (hargsE gw) hge hc, hw1⟩)
  · have hE' : w.eager = false := by simpa using hE
    rw [if_neg hE]
    have hge : gw.eager = false := by rw [hw.eager]; exact hE'
    exact ⟨rfl, η, η.le_refl, _, stmt_go_lazy (ev_var_none hgo) (hargsE gw) hge, hw.spawn _ _⟩

theorem stepB {env : Env} {file : AFile} {G : List String} {P : Prog} {F : GFile} (hl : Link env file G P F) (n : Nat) :
    SimB env P F (n + 1) := by
  intro b ps r hb hsig η vs gvs w gw hargs hw
  obtain ⟨v, w', gv, gw', hs, hc, hval, hty, hw1⟩ := builtin_call hl.rt hb hsig hargs hw
  rw [Sem.apply]; simp only [hl.builtinSrc b hb, hs]
  exact ⟨η, η.le_refl, gv, gw', hc, hval, hty, hw1⟩

theorem sim0 {env : Env} {file : AFile} {G : List String} {P : Prog} {F : GFile} : SimAt env file G P F 0 where
  u := by
    intro g _ _ η vs gvs w gw _ _ _ _
    rw [Sem.apply]; trivial
  b := by
    intro b ps r _ _ η vs gvs w gw _ _
    rw [Sem.apply]; trivial
  v := by
    intro c η Γ K ρ w gρ gw Bad _ _ _ _ _ _ _ _ _
    rw [Sem.eval]; trivial
  a := by
    intro m st e η Γ K ρ w gρ gw Bad _ _ _ _ _ _ _ _ _
    rw [Sem.eval]; trivial
  c := by
    intro m st c η Γ K ρ w gρ gw Bad _ _ _ _ _ _ _ _ _
    rw [Sem.eval]; trivial
  l := by
    intro cv st c b η Γ K ρ w gρ gw Bad _ _ _ _ _ _ _ _ _ _ _ _
    rw [Sem.eval]; trivial
  me := by
    intro m st arms d ty η Γ K ρ w gρ gw Bad x en i vs gv _ _ _ _ _ _ _ _ _ _ _ _ _
    rw [Sem.evalArms.eq_def]; trivial
  mv := by
    intro m st arms d ty sty η Γ K ρ w gρ gw Bad v gv _ _ _ _ _ _ _ _ _ _ _ _ _
    rw [Sem.evalArms.eq_def]; trivial
  mu := by
    intro m st arms d ty η Γ K ρ w gρ gw Bad _ _ _ _ _ _ _ _ _
    rw [Sem.evalArms.eq_def]; trivial
  g := by
    intro e ty η Γ K ρ w gρ gw Bad _ _ _ _ _ _
    simp only [CExpr.toExpr]
    rw [Sem.eval]; trivial

theorem unOK_not_unit (op : UnOp) (te : Ty) : unOK op te .unit = false := by
  cases op <;> cases te <;> simp [unOK, intTy, scalarEq]

/-- the result of an operator is its left operand's type, which `binDom` then rules out, or `bool` -/
theorem binOK_not_unit (op : BinOp) (tl tr : Ty) : binOK op tl tr .unit = false := by
  cases h : binOK op tl tr .unit
  · rfl
  · simp only [binOK, Bool.and_eq_true] at h
    have hres : Ty.unit = binResTy op tl := scalarEq_eq h.2
    cases op <;> cases hres <;> cases h.1.2

theorem key_ne_blank {Bad : List String} {gρ : GEnv} {y : String} (hk : y ∈ keys gρ)
    (hgood : ∀ y, y ∈ keys gρ → ¬ y ∈ Bad) (hus : "_" ∈ Bad) : y ≠ "_" :=
  fun e => hgood _ hk (e ▸ hus)

theorem concl_single {env : Env} {η η1 : Hp} {F : GFile} {s : GStmt} {m : Mode} {gρ : GEnv} {gw gw' : GWorld} {ty : Ty}
    {v : Val} {w' : World} {gv : GVal} (hle : η.le η1) (hs : StmtS F gρ gw s (.ok (post m gρ gv, .normal) gw'))
    (hval : VRel env η1 v ty gv) (hty : HasTy env η1 v ty) (hw : WRel env η1 w' gw') :
    Concl env η F [s] m gρ gw ty (.ok v w') :=
  ⟨η1, hle, [], gv, gw', block_cons hs block_nil, hval, hty, hw, fun y hy => by cases hy⟩

theorem concl_single_fail {env : Env} {η η1 : Hp} {F : GFile} {s : GStmt} {gρ : GEnv} {gw gw' : GWorld}
    {k : String} {w' : World} (hle : η.le η1) (hs : StmtS F gρ gw s (.fail (.panic k) gw')) (hw : WRel env η1 w' gw') :
    ∃ η', η.le η' ∧ ∃ gw', BlockS F gρ gw [s] (.fail (.panic k) gw') ∧ WRel env η' w' gw' :=
  ⟨η1, hle, gw', block_cons_fail hs, hw⟩

set_option linter.unusedVariables false in
/-- the simple forms in tail position: nothing / a call statement / an assignment -/
theorem tail_simple {env : Env} {η : Hp} {file : AFile} {G : List String} {P : Prog} {F : GFile} {n : Nat}
    (hv : SimV env file G P F (n + 1)) (m : Mode) (st : St) (c : CExpr) (Γ : Ctx) (K : KCtx) (ρ : Sem.Env) (w : World)
    (gρ : GEnv) (gw : GWorld) (Bad : List String) (hctl : isCtl c = false) (hgoc : isGoC c = false)
    (hfrag : fragC env file G Γ K c = true) (hrel : EnvRel env η Γ ρ gρ) (hkrel : KRel K ρ) (hw : WRel env η w gw)
    (hgood : ∀ y, y ∈ keys gρ → ¬ y ∈ Bad) (htgt : TgtOK m Γ gρ c.annTy) (hus : "_" ∈ Bad) (hfx : FCtx env file G Bad η)
    (hcal : ∀ x, x ∈ calleesC (Γ.map (·.1)) c → x ∈ Bad) :
    Concl env η F (compileSimple env m c) m gρ gw c.annTy (Sem.eval (n + 1) P ρ w c.toExpr) := by
  have hV := hv c η Γ K ρ w gρ gw Bad hctl hgoc hfrag hrel hkrel hw hgood hfx hcal
  rw [conclV_eq] at hV
  rw [concl_eq]
  have hS := compileSimple_view env m c
  generalize compileSimple env m c = S at hS
  cases hS with
  | go e ty | goUnit t e ty => cases hgoc
  | missing t f args ty hmiss => rw [not_missing hfrag] at hmiss; cases hmiss
  | assign t c _ =>
    have hne := key_ne_blank htgt.1 hgood hus
    exact hV.imp
      (fun v w' ⟨η1, hle1, gv, gw', he, hval, hty, hw1, _⟩ => concl_single hle1 (stmt_assign hne he) hval hty hw1)
      (fun k w' ⟨η1, hle1, gw', he, hw1, _⟩ => concl_single_fail hle1 (stmt_assign hne he) hw1)
  | expr c _ =>
    exact hV.imp
      (fun v w' ⟨η1, hle1, gv, gw', he, hval, hty, hw1, _⟩ => concl_single hle1 (stmt_expr he) hval hty hw1)
      (fun k w' ⟨η1, hle1, gw', he, hw1, _⟩ => concl_single_fail hle1 (stmt_expr he) hw1)
  | drop c _ hncall =>
    -- no statement: the form is pure (a conversion to a trait object has no unit type), so the `Sem` world does not change
    have hunit : c.annTy = .unit := htgt
    have hp : pureC c = true := by
      cases c with
      | toDyn tr forTy e ty =>
        simp only [fragC, toDynOK, Bool.and_eq_true, CExpr.annTy] at hfrag hunit
        have := scalarEq_eq hfrag.1.2
        rw [hunit] at this; cases this
      | call f args ty => exact absurd (.call _ _ _) hncall
      | dynCall tr m recv args ty => exact absurd (.dyn _ _ _ _ _) hncall
      | go e ty => cases hgoc
      | ite _ _ _ _ | «while» _ _ _ | matchE _ _ _ _ => cases hctl
      | _ => rfl
    refine hV.imp (fun v w' ⟨η1, hle1, gv, gw', he, hval, hty, _, hpw⟩ => ?_) (fun k w' ⟨η1, hle1, gw', he, _, hmp⟩ => ?_)
    · obtain ⟨hw1, hη1⟩ := hpw hp
      subst hw1; subst hη1
      exact ⟨η1, hle1, [], gv, gw, block_nil, hval, hty, hw, fun y hy => by cases hy⟩
    · -- only a binary operator is pure and can panic; none has type unit
      exfalso
      cases c with
      | bin op l r ty =>
        simp only [fragC, Bool.and_eq_true, CExpr.annTy] at hfrag hunit
        rw [hunit, binOK_not_unit] at hfrag; simp at hfrag
      | _ => simp [pureC, mayPanicC] at hp hmp

/-- a statement that runs `S` as a nested block inherits the conclusion about `S` -/
theorem concl_of_nest {env : Env} {η : Hp} {F : GFile} {S : List GStmt} {m : Mode} {gρ : GEnv} {gw : GWorld} {ty : Ty} {r : Res Val}
    {s : GStmt} (h : Concl env η F S m gρ gw ty r) (hs : ∀ r0, NestS F gρ gw S r0 → StmtS F gρ gw s r0) :
    Concl env η F [s] m gρ gw ty r := by
  rw [concl_eq] at h ⊢
  refine h.imp (fun v w' ⟨η1, hle1, D, gv, gw', hb, hval, hty, hw1, _⟩ => ?_)
    (fun k w' ⟨η1, hle1, gw', hb, hw1⟩ => concl_single_fail hle1 (hs _ (nest_of_block hb)) hw1)
  have hn := hs _ (nest_of_block hb)
  simp only [GRes.bind_ok, popG, drop_append_len D _ gρ.length (length_post m gρ gv)] at hn
  exact concl_single hle1 hn hval hty hw1

/-- `go e` in tail position: the `go` statement (and the assignment of unit to the target) -/
theorem tail_go {env : Env} {η : Hp} {file : AFile} {G : List String} {P : Prog} {F : GFile} {n : Nat}
    (hg : SimG env file G P F (n + 1)) (m : Mode) (e : Imm) (ty : Ty) (Γ : Ctx) (K : KCtx) (ρ : Sem.Env) (w : World)
    (gρ : GEnv) (gw : GWorld) (Bad : List String)
    (hfrag : fragC env file G Γ K (.go e ty) = true) (hrel : EnvRel env η Γ ρ gρ) (hw : WRel env η w gw)
    (hgood : ∀ y, y ∈ keys gρ → ¬ y ∈ Bad) (htgt : TgtOK m Γ gρ ty) (hus : "_" ∈ Bad) (hfx : FCtx env file G Bad η)
    (hcal : ∀ x, x ∈ calleesC (Γ.map (·.1)) (.go e ty) → x ∈ Bad) :
    Concl env η F (compileSimple env m (.go e ty)) m gρ gw ty (Sem.eval (n + 1) P ρ w (CExpr.go e ty).toExpr) := by
  have hG := hg e ty η Γ K ρ w gρ gw Bad hfrag hrel hw hgood hfx hcal
  have hty := fragC_go_unit hfrag
  subst hty
  rw [conclG_eq] at hG
  rw [concl_eq]
  cases m with
  | effect =>
    exact hG.imp
      (fun v w' ⟨hv, η1, hle1, gw', hs, hw1⟩ =>
        concl_single (gv := .unit) hle1 hs (by simp [hv, VRel]) (hv ▸ trivial) hw1)
      (fun k w' ⟨η1, hle1, gw', hs, hw1⟩ => concl_single_fail hle1 hs hw1)
  | assign t =>
    obtain ⟨htk, _⟩ := htgt
    have hne := key_ne_blank htk hgood hus
    exact hG.imp
      (fun v w' ⟨hv, η1, hle1, gw', hs, hw1⟩ =>
        ⟨η1, hle1, [], .unit, gw', block_cons hs (block_cons (stmt_assign hne ev_unitv) block_nil),
          by simp [hv, VRel], hv ▸ trivial, hw1, fun y hy => by cases hy⟩)
      (fun k w' ⟨η1, hle1, gw', hs, hw1⟩ => ⟨η1, hle1, gw', block_cons_fail hs, hw1⟩)

theorem tail_ite {env : Env} {η : Hp} {file : AFile} {G : List String} {P : Prog} {F : GFile} {n : Nat}
    (hl : Link env file G P F) (ha : SimA env file G P F n) (m : Mode) (st : St) (c : Imm) (t e : AExpr) (ty : Ty) (Γ : Ctx) (K : KCtx) (ρ : Sem.Env)
    (w : World) (gρ : GEnv) (gw : GWorld) (Bad : List String)
    (hfrag : fragC env file G Γ K (.ite c t e ty) = true) (hrel : EnvRel env η Γ ρ gρ) (hkrel : KRel K ρ) (hw : WRel env η w gw)
    (hinv : GInv Bad (compileTail env m st (.ite c t e ty)).1 gρ) (htgt : TgtOK m Γ gρ ty) (hus : "_" ∈ Bad) (hfx : FCtx env file G Bad η)
    (hcal : ∀ x, x ∈ calleesC (Γ.map (·.1)) (.ite c t e ty) → x ∈ Bad) :
    Concl env η F (compileTail env m st (.ite c t e ty)).1 m gρ gw ty (Sem.eval (n + 1) P ρ w (CExpr.ite c t e ty).toExpr) := by
  obtain ⟨hc, hcb', hft, hfe, htt', hte'⟩ := fragC_ite hfrag
  obtain ⟨v, gv, hs, hg, hval, hty⟩ := imm_both P hl.ty hc hrel (hfx.rel hinv.goodK)
  rw [hcb'] at hval hty
  obtain ⟨b, rfl, rfl⟩ := tv_inv hty hval
  simp only [compileTail] at hinv ⊢
  simp only [CExpr.toExpr]
  rw [Sem.eval_ite]
  refine concl_imm hs ?_
  cases b with
  | true =>
    have hinv' : GInv Bad (compileA env m (st.check (okImm env c)) t).1 gρ := hinv.ite.1
    have := ha m _ t η Γ K ρ w gρ gw Bad hft hrel hkrel hw hinv' (htt' ▸ htgt) hus hfx
      (fun x hx => hcal x (by simp [calleesC, hx]))
    rw [htt'] at this
    exact concl_of_nest this (fun r0 hn => stmt_ite_true (hg gw) hn)
  | false =>
    have hinv' : GInv Bad (compileA env m (compileA env m (st.check (okImm env c)) t).2 e).1 gρ := hinv.ite.2
    have := ha m _ e η Γ K ρ w gρ gw Bad hfe hrel hkrel hw hinv' (hte' ▸ htgt) hus hfx
      (fun x hx => hcal x (by simp [calleesC, hx]))
    rw [hte'] at this
    exact concl_of_nest this (fun r0 hn => stmt_ite_false (hg gw) hn)

/-! ### `while` in tail position (the loop itself is `SimL`) -/

theorem tail_while_shape (env : Env) (m : Mode) (st : St) (c b : AExpr) (ty : Ty) :
    (compileTail env m st (.while c b ty)).1 =
      [GStmt.varDecl (gid ("cond" ++ toString st.n)) .bool none,
       .loop (loopBody env ("cond" ++ toString st.n) (st.next.check (isBoolTy c.annTy)) c b)] ++
      (match m with
       | .effect => []
       | .assign tgt => [.assign (gid tgt) unitE]) := by
  cases m <;> simp [compileTail, loopBody]

theorem tail_while_top (x : String) (body : List GStmt) (m : Mode) :
    topDecls ([GStmt.varDecl x .bool none, .loop body] ++
      (match m with | .effect => [] | .assign tgt => [GStmt.assign (gid tgt) unitE])) = [x] := by
  cases m <;> simp [topDecls]

theorem tail_while {env : Env} {η : Hp} {file : AFile} {G : List String} {P : Prog} {F : GFile} {n : Nat}
    (hL : SimL env file G P F (n + 1)) (m : Mode) (st : St) (c b : AExpr) (ty : Ty) (Γ : Ctx) (K : KCtx) (ρ : Sem.Env)
    (w : World) (gρ : GEnv) (gw : GWorld) (Bad : List String)
    (hfrag : fragC env file G Γ K (.while c b ty) = true) (hrel : EnvRel env η Γ ρ gρ) (hkrel : KRel K ρ) (hw : WRel env η w gw)
    (hinv : GInv Bad (compileTail env m st (.while c b ty)).1 gρ) (htgt : TgtOK m Γ gρ ty) (hus : "_" ∈ Bad) (hfx : FCtx env file G Bad η)
    (hcal : ∀ x, x ∈ calleesC (Γ.map (·.1)) (.while c b ty) → x ∈ Bad) :
    Concl env η F (compileTail env m st (.while c b ty)).1 m gρ gw ty (Sem.eval (n + 1) P ρ w (CExpr.while c b ty).toExpr) := by
  obtain ⟨hfc, hcb', hfb, hbu', htu'⟩ := fragC_while hfrag
  subst htu'
  rw [tail_while_shape] at hinv ⊢
  simp only [CExpr.toExpr]
  generalize hcv : "cond" ++ toString st.n = cv at hinv ⊢
  generalize hst : st.next.check (isBoolTy c.annTy) = st' at hinv ⊢
  have hdecl := tail_while_top (gid cv) (loopBody env cv st' c b) m
  have hinvL := hinv.left (a := [GStmt.varDecl (gid cv) .bool none, .loop (loopBody env cv st' c b)])
  obtain ⟨hcvfresh, hcvgood, _⟩ := hinvL.varDecl
  have habs : absurdTy GTy.bool = false := rfl
  have hdecl1 : StmtS F gρ gw (.varDecl (gid cv) .bool none) (.ok ((gid cv, zero F .bool) :: gρ, .normal) gw) :=
    stmt_varDecl_none habs
  let env1 : GEnv := (gid cv, zero F .bool) :: gρ
  have hne : ∀ x tx, lookupTy Γ x = some tx → vn x ≠ gid cv := fun x tx hx e => by
    obtain ⟨_, _, _, h2, _, _⟩ := hrel.typed hx
    exact hcvfresh (e ▸ key_of_lookup_some h2)
  have hrel1 : EnvRel env η Γ ρ env1 := hrel.go_agree (fun x tx hx => lookup_cons_ne _ _ (fun e => hne x tx hx e.symm))
  have hinv1 : GInv Bad (loopBody env cv st' c b) env1 := (hinvL.after_varDecl (zero F .bool)).loop
  have htgt1 : TgtOK (.assign cv) Γ env1 .bool := ⟨by simp [env1], hne⟩
  have hloop := hL cv st' c b η Γ K ρ w env1 gw Bad hfc hcb' hfb hbu' hrel1 hkrel hw hinv1 htgt1 hus hfx
    (fun x hx => hcal x (by simpa [calleesC] using hx))
  rw [concl_eq]
  refine hloop.imp ?_ (fun k w' ⟨η1, hle1, gw', hlp, hw1⟩ => ⟨η1, hle1, gw', block_cons hdecl1 (block_cons_fail hlp), hw1⟩)
  rintro v w' ⟨rfl, η1, hle1, gw', hlp, hw1⟩
  rw [show updateG env1 (gid cv) (.bool false) = (gid cv, .bool false) :: gρ from Dce.update_cons_self _ _ _ _] at hlp
  have htop : ∀ S : List GStmt, topDecls S = [gid cv] → ∀ y, y ∈ keys [(gid cv, GVal.bool false)] → y ∈ topDecls S := fun S hS y hy => by
    simp only [Goml.Dce.keys_cons, Goml.Dce.keys_nil, List.mem_singleton] at hy
    subst hy; rw [hS]; exact List.mem_cons_self
  cases m with
  | effect =>
    exact ⟨η1, hle1, [(gid cv, .bool false)], .unit, gw', block_cons hdecl1 (block_cons hlp block_nil), rfl, trivial, hw1, htop _ hdecl⟩
  | assign t =>
    obtain ⟨htk, _⟩ := htgt
    have hne' : gid t ≠ "_" := key_ne_blank htk hinv.goodK hus
    have hnecv : ¬ gid t ∈ keys [(gid cv, GVal.bool false)] := by
      simp only [Goml.Dce.keys_cons, Goml.Dce.keys_nil, List.mem_singleton]
      intro e; exact hcvfresh (e ▸ htk)
    have hasg : StmtS F ((gid cv, .bool false) :: gρ) gw' (.assign (gid t) unitE)
        (.ok (updateG ((gid cv, .bool false) :: gρ) (gid t) .unit, .normal) gw') := stmt_assign hne' ev_unitv
    rw [show ((gid cv, GVal.bool false) :: gρ) = [(gid cv, GVal.bool false)] ++ gρ from rfl,
      Dce.update_append_left hnecv] at hasg
    exact ⟨η1, hle1, [(gid cv, .bool false)], .unit, gw', block_cons hdecl1 (block_cons hlp (block_cons hasg block_nil)), rfl,
      trivial, hw1, htop _ hdecl⟩

/-- a `switch` statement inherits the conclusion about its selected clause -/
theorem concl_of_sw {env : Env} {η : Hp} {F : GFile} {s : GStmt} {m : Mode} {gρ : GEnv} {gw : GWorld} {ty : Ty} {res : Res Val}
    {run : GRes (GEnv × Sig) → Prop} (h : ConclSw env η run m gρ ty res) (hs : ∀ r, run r → StmtS F gρ gw s r) :
    Concl env η F [s] m gρ gw ty res := by
  rw [concl_eq]
  exact Outc.imp h
    (fun v w' ⟨η1, hle1, gv, gw', hr, hval, hty, hw1⟩ => concl_single hle1 (hs _ hr) hval hty hw1)
    (fun k w' ⟨η1, hle1, gw', hr, hw1⟩ => concl_single_fail hle1 (hs _ hr) hw1)

/-- a type switch inherits the conclusion about its selected clause; the binding is popped -/
theorem concl_of_tsw {env : Env} {η : Hp} {F : GFile} {b : String} {e : GExpr} {cs : List GTCase} {d : Option (List GStmt)} {sv : GVal}
    {m : Mode} {gρ : GEnv} {gw : GWorld} {ty : Ty} {res : Res Val}
    (h : ConclSw env η (TSwS F ((b, sv) :: gρ) gw sv cs d) m ((b, sv) :: gρ) ty res) (hb : b ≠ "_")
    (he : EvS F gρ gw e (.ok sv gw)) (hbt : ∀ t, m = .assign t → b ≠ gid t) :
    Concl env η F [.tswitch (some b) e cs d] m gρ gw ty res := by
  rw [concl_eq]
  refine Outc.imp h (fun v w' ⟨η1, hle1, gv, gw', hr, hval, hty, hw1⟩ => ?_)
    (fun k w' ⟨η1, hle1, gw', hr, hw1⟩ => concl_single_fail hle1 (stmt_tswitch hb he hr) hw1)
  have hst := stmt_tswitch hb he hr
  rw [post_cons_ne sv gρ gv hbt] at hst
  have hdrop : ((b, sv) :: post m gρ gv).drop (((b, sv) :: post m gρ gv).length - gρ.length) = post m gρ gv := by
    have : ((b, sv) :: post m gρ gv).length - gρ.length = 1 := by simp [length_post]
    rw [this]; rfl
  simp only [GRes.bind_ok, popG, hdrop] at hst
  exact concl_single hle1 hst hval hty hw1

theorem tail_match {env : Env} {η : Hp} {file : AFile} {G : List String} {P : Prog} {F : GFile} {n : Nat}
    (hl : Link env file G P F) (hme : SimME env file G P F n) (hmv : SimMV env file G P F n) (hmu : SimMU env file G P F n)
    (m : Mode) (st : St) (s : Imm) (arms : List AArm) (d : ADflt) (ty : Ty) (Γ : Ctx) (K : KCtx) (ρ : Sem.Env)
    (w : World) (gρ : GEnv) (gw : GWorld) (Bad : List String)
    (hfrag : fragC env file G Γ K (.matchE s arms d ty) = true) (hrel : EnvRel env η Γ ρ gρ) (hkrel : KRel K ρ) (hw : WRel env η w gw)
    (hinv : GInv Bad (compileTail env m st (.matchE s arms d ty)).1 gρ) (htgt : TgtOK m Γ gρ ty) (hus : "_" ∈ Bad) (hfx : FCtx env file G Bad η)
    (hcal : ∀ x, x ∈ calleesC (Γ.map (·.1)) (.matchE s arms d ty) → x ∈ Bad) :
    Concl env η F (compileTail env m st (.matchE s arms d ty)).1 m gρ gw ty
      (Sem.eval (n + 1) P ρ w (CExpr.matchE s arms d ty).toExpr) := by
  obtain ⟨hs, hcase⟩ := fragC_match_inv hfrag
  obtain ⟨v, gv, hsv, hgs, hval, hty⟩ := imm_both P hl.ty hs hrel (hfx.rel hinv.goodK)
  have hcal' : ∀ c, c ∈ calleesArms (Γ.map (·.1)) arms ++ calleesD (Γ.map (·.1)) d → c ∈ Bad := fun c hc => hcal c (by simpa [calleesC] using hc)
  simp only [CExpr.toExpr]
  rw [Sem.eval_matchE]
  refine concl_imm hsv ?_
  cases hcase with
  | @enum x en hlt hvn hen hfa hfd => -- a type switch: the scrutinee in both environments
    rw [tail_tswitch_shape env m st x en arms d ty, ← hvn] at hinv ⊢
    obtain ⟨v', gv', hlk, hlg, _, _⟩ := hrel.typed hlt
    have h0 := hsv 0 w
    simp only [Imm.toExpr, Sem.eval_var, hlk, Option.getD_some] at h0
    injection h0 with h0; subst h0
    have hgeq : gv = gv' := by
      have h1 : EvS F gρ gw (.var (vn x) (goTy (.enum en))) (.ok gv' gw) := ev_var_some hlg
      have h2 := hgs gw
      simp only [compileImm] at h2
      have := EvS.unique h2 h1
      injection this with this
    subst hgeq
    simp only [Imm.ty] at hval hty
    obtain ⟨_, i, _, vs, _, rfl, -⟩ := tv_inv hty hval -- the enum row: the scrutinee is a variant value
    generalize hst1 : st.check (okImm env (.var x (.enum en))) = st1 at hinv ⊢
    have hxk : vn x ∈ keys gρ := key_of_lookup_some hlg
    have hxb : vn x ≠ "_" := key_ne_blank hxk hinv.goodK hus
    have hrelb : EnvRel env η Γ ρ ((vn x, gv) :: gρ) :=
      hrel.go_agree (fun y ty' hy => lookup_rebind hlg (vn y))
    have hinvb : GInvA Bad (compileArms env m st1 arms).1 (compileDflt env m (compileArms env m st1 arms).2 d).1
        ((vn x, gv) :: gρ) := (ginvA_of_tswitch hinv).rebind hxk gv
    have htgtb : TgtOK m Γ ((vn x, gv) :: gρ) ty := by
      cases m with
      | effect => exact htgt
      | assign t => exact ⟨List.mem_cons_of_mem _ htgt.1, htgt.2⟩
    have hbt : ∀ t, m = .assign t → vn x ≠ gid t := fun t ht => by
      subst ht; exact htgt.2 x _ hlt
    have hR := hme m st1 arms d ty η Γ K ρ w ((vn x, gv) :: gρ) gw Bad x en i vs gv hfa hfd hrelb hkrel hw hlk hty hval
      hinvb htgtb hus hfx hcal'
    exact concl_of_tsw hR hxb (ev_var_some hlg) hbt
  | unit hsty hfu => -- the first arm (else the default) in place
    rw [tail_unit_shape env m st arms d ty hsty] at hinv ⊢
    rw [hsty] at hty
    have := hasTy_unit hty; subst this
    exact hmu m st arms d ty η Γ K ρ w gρ gw Bad (by cases h : arms.isEmpty <;> simpa [fragUnit, h] using hfu) hrel hkrel hw hinv htgt hus hfx hcal'
  | lit hsw hfa hfd => -- a value switch
    rw [tail_switch_shape env m st arms d ty hsw] at hinv ⊢
    generalize hst1 : st.check (okImm env s) = st1 at hinv ⊢
    have hR := hmv m st1 arms d ty s.ty η Γ K ρ w gρ gw Bad v gv hsw hfa hfd hrel hkrel hw hty hval (ginvA_of_switch hinv) htgt hus hfx hcal'
    exact concl_of_sw hR (fun r hr => stmt_switch (hgs gw) hr)

/-- tail expressions: `compile_aexpr_effect` / `compile_aexpr_assign` on an `ACExpr` -/
theorem stepC {env : Env} {file : AFile} {G : List String} {P : Prog} {F : GFile} {n : Nat} (hl : Link env file G P F)
    (hv : SimV env file G P F (n + 1)) (ha : SimA env file G P F n) (hL : SimL env file G P F (n + 1))
    (hme : SimME env file G P F n) (hmv : SimMV env file G P F n) (hmu : SimMU env file G P F n)
    (hg : SimG env file G P F (n + 1)) :
    SimC env file G P F (n + 1) := by
  intro m st c η Γ K ρ w gρ gw Bad hfrag hrel hkrel hw hinv htgt hus hfx hcal
  by_cases hctl : isCtl c = false
  · rw [compileTail_simple env m st hctl] at hinv ⊢
    by_cases hgoc : isGoC c = false
    · exact tail_simple hv m st c Γ K ρ w gρ gw Bad hctl hgoc hfrag hrel hkrel hw hinv.goodK htgt hus hfx hcal
    · cases c with
      | go e ty => exact tail_go hg m e ty Γ K ρ w gρ gw Bad hfrag hrel hw hinv.goodK htgt hus hfx hcal
      | _ => simp [isGoC] at hgoc
  · cases c with
    | ite c t e ty => exact tail_ite hl ha m st c t e ty Γ K ρ w gρ gw Bad hfrag hrel hkrel hw hinv htgt hus hfx hcal
    | «while» c b ty => exact tail_while hL m st c b ty Γ K ρ w gρ gw Bad hfrag hrel hkrel hw hinv htgt hus hfx hcal
    | matchE s arms d ty => exact tail_match hl hme hmv hmu m st s arms d ty Γ K ρ w gρ gw Bad hfrag hrel hkrel hw hinv htgt hus hfx hcal
    | _ => simp [isCtl] at hctl

end Goml.GoComp
