import GomlVerif.Model.C03presLift
import GomlVerif.Model.Wt
import GomlVerif.Lemmas.LiftCaptures
import GomlVerif.Lemmas.LiftNoClosure
import GomlVerif.Lemmas.LiftExamples
import GomlVerif.Lemmas.C03presScopeLink
import GomlVerif.Lemmas.TypeOf
/-!
C03 (preservation) for the lambda-lifting model `Lift.*`:

* `lift_preserves_closed`: every function the pass emits is scope-closed;
* `lift_preserves_allTys`: every annotation the pass writes satisfies the annotation predicate of the input;
* `lift_preserves_wt_partial`: the closure-free part is returned unchanged, hence `Wt.errs` is; closures are excluded
  (known finding `closure-struct-vs-function-type`).

Scope closedness is proved in terms of free variables (`fvB`, which is `Match.fvE`): `liftFile_fnClosed` is the file
theorem, and the statements on `closedIn`, `fvB` and `Scoped.unbound` are its readings through `closedIn_iff` and
`unbound_nil_iff`.
-/
namespace Goml.Lift
open Goml Goml.Scoped

/-! ## insertion-ordered maps

A scope layer is one, like the tables of the state: `layerGet` / `layerInsert` are `assocGet` / `assocInsert` at `ScopeEntry`. -/

theorem mem_assocInsert {β : Type} (m : List (String × β)) (k : String) (v : β) (p : String × β)
    (h : p ∈ assocInsert m k v) : p ∈ m ∨ p = (k, v) := by
  unfold assocInsert at h
  split at h
  · rcases List.mem_map.mp h with ⟨q, hq, he⟩
    split at he
    · exact Or.inr he.symm
    · exact Or.inl (he ▸ hq)
  · rcases List.mem_append.mp h with h | h
    · exact Or.inl h
    · exact Or.inr (by simpa using h)

theorem mem_of_assocGet {β : Type} (m : List (String × β)) (k : String) (v : β)
    (h : assocGet m k = some v) : ∃ p ∈ m, p.2 = v := by
  unfold assocGet at h
  cases hf : m.find? (·.1 == k) with
  | none => rw [hf] at h; cases h
  | some p =>
    rw [hf] at h
    exact ⟨p, List.mem_of_find?_eq_some hf, by simpa using h⟩

theorem layerGet_eq (l : Layer) (k : String) : layerGet l k = assocGet l k := by
  unfold layerGet assocGet; cases l.find? (·.1 == k) <;> rfl
theorem layerInsert_eq (l : Layer) (k : String) (e : ScopeEntry) : layerInsert l k e = assocInsert l k e := rfl

/-! ## scope membership -/

theorem layerGet_isSome (l : Layer) (y : String) : (layerGet l y).isSome = l.any (·.1 == y) := by
  unfold layerGet
  induction l with
  | nil => rfl
  | cons p ps ih =>
    simp only [List.find?_cons, List.any_cons]
    cases h : (p.1 == y) with
    | true => rfl
    | false => simpa using ih

theorem any_map_replace (l : Layer) (k y : String) (e : ScopeEntry) :
    (l.map (fun p => if (p.1 == k) = true then (k, e) else p)).any (·.1 == y) = l.any (·.1 == y) := by
  induction l with
  | nil => rfl
  | cons p ps ih =>
    simp only [List.map_cons, List.any_cons, ih]
    congr 1
    by_cases hp : (p.1 == k) = true
    · rw [if_pos hp]
      have : p.1 = k := by simpa using hp
      rw [this]
    · rw [if_neg hp]

theorem any_layerInsert (l : Layer) (k : String) (e : ScopeEntry) (y : String) :
    (layerInsert l k e).any (·.1 == y) = (y == k || l.any (·.1 == y)) := by
  unfold layerInsert
  by_cases hk : l.any (·.1 == k) = true
  · rw [if_pos hk, any_map_replace]
    by_cases hy : y = k
    · subst hy; rw [hk]; simp
    · have : (y == k) = false := by simpa using hy
      rw [this]; rfl
  · rw [if_neg hk]
    rw [List.any_append]
    simp only [List.any_cons, List.any_nil, Bool.or_false]
    rw [Bool.or_comm]
    congr 1
    rw [Bool.beq_comm]

theorem has_mk_cons (l : Layer) (rest : List Layer) (y : String) :
    (Scope.mk (l :: rest)).has y = (l.any (·.1 == y) || (Scope.mk rest).has y) := by
  unfold Scope.has Scope.get
  simp only [List.findSome?_cons]
  rw [← layerGet_isSome]
  cases h : layerGet l y with
  | none => simp
  | some v => simp

theorem has_insert (s : Scope) (k : String) (e : ScopeEntry) (y : String) (hne : s.layers ≠ []) :
    (s.insert k e).has y = (y == k || s.has y) := by
  cases s with
  | mk layers =>
    cases layers with
    | nil => exact absurd rfl hne
    | cons l rest =>
      show (Scope.mk (layerInsert l k e :: rest)).has y = _
      rw [has_mk_cons, has_mk_cons, any_layerInsert, Bool.or_assoc]

theorem insert_layers_ne (s : Scope) (k : String) (e : ScopeEntry) (hne : s.layers ≠ []) :
    (s.insert k e).layers ≠ [] := by
  cases s with
  | mk layers =>
    cases layers with
    | nil => exact absurd rfl hne
    | cons l rest => intro h; cases h

theorem pushLayer_layers_ne (s : Scope) : s.pushLayer.layers ≠ [] := by
  intro h; cases h

theorem has_pushLayer (s : Scope) (y : String) : s.pushLayer.has y = s.has y := by
  cases s with
  | mk layers =>
    show (Scope.mk ([] :: layers)).has y = _
    rw [has_mk_cons]; rfl

/-- the scope of a `let` body, with the binder as the one-element binder list `OkN_binder` expects -/
theorem has_let (s : Scope) (x : String) (e : ScopeEntry) :
    ∀ y, (s.pushLayer.insert x e).has y = ([x].contains y || s.has y) := by
  intro y
  rw [has_insert _ _ _ _ (pushLayer_layers_ne s), has_pushLayer]
  by_cases h : y = x <;> simp [h]

theorem has_foldl_insert (F : String × Ty → ScopeEntry) : ∀ (ps : List (String × Ty)) (s : Scope) (y : String),
    s.layers ≠ [] →
    ((ps.foldl (fun s p => s.insert p.1 (F p)) s).has y = ((ps.map (·.1)).contains y || s.has y)) ∧
    (ps.foldl (fun s p => s.insert p.1 (F p)) s).layers ≠ []
  | [], s, y, h => by simp [h]
  | p :: ps, s, y, h => by
    have ih := has_foldl_insert F ps (s.insert p.1 (F p)) y (insert_layers_ne _ _ _ h)
    simp only [List.foldl_cons, List.map_cons, List.contains_cons]
    refine ⟨?_, ih.2⟩
    rw [ih.1, has_insert _ _ _ _ h]
    cases (List.map (fun x => x.fst) ps).contains y <;> cases (y == p.1) <;> simp

theorem has_new (y : String) : Scope.new.has y = false := by
  unfold Scope.new
  rw [has_mk_cons]; rfl

theorem has_closureScope (st : State) (sc : Scope) (params : List (String × Ty)) (ty : Ty) (y : String) :
    (closureScope st sc params ty).has y =
      (((loweredParams params (funcParts ty).1).map (·.1)).contains y || sc.has y) := by
  unfold closureScope
  rw [(has_foldl_insert (fun p => { ty := p.2, closureStruct := st.closureStructForTy p.2 }) _ _ y
    (pushLayer_layers_ne sc)).1, has_pushLayer]

theorem has_paramScope (F : String × Ty → ScopeEntry) (ps : List (String × Ty)) (y : String) :
    (ps.foldl (fun s p => s.insert p.1 (F p)) Scope.new.pushLayer).has y = (ps.map (·.1)).contains y := by
  rw [(has_foldl_insert F ps _ y (pushLayer_layers_ne _)).1, has_pushLayer, has_new, Bool.or_false]

/-! ## name lists that are bound or global -/

def OkN (G : String → Prop) (sc : Scope) (l : List String) : Prop := ∀ x ∈ l, sc.has x = true ∨ G x

theorem OkN_append {G sc} {l₁ l₂ : List String} : OkN G sc (l₁ ++ l₂) ↔ OkN G sc l₁ ∧ OkN G sc l₂ := by
  unfold OkN
  constructor
  · intro h; exact ⟨fun x hx => h x (List.mem_append_left _ hx), fun x hx => h x (List.mem_append_right _ hx)⟩
  · rintro ⟨h1, h2⟩ x hx
    rcases List.mem_append.mp hx with hx | hx
    · exact h1 x hx
    · exact h2 x hx

/-- `P`, `P'` are a scope before and after the binders `ns` (`OkN_binder`) or a list of bound names (`forall_mem_binder`) -/
theorem forall_filter_binder {P P' Q : String → Prop} {ns : List String} (hs : ∀ y, P' y ↔ y ∈ ns ∨ P y)
    (l : List String) :
    (∀ x ∈ l, P' x ∨ Q x) ↔ ∀ x ∈ l.filter (fun y => !ns.contains y), P x ∨ Q x := by
  simp only [List.mem_filter, Bool.not_eq_true', List.contains_eq_mem, decide_eq_false_iff_not, hs]
  constructor
  · rintro h x ⟨hx, hn⟩
    exact (h x hx).imp_left fun h => h.resolve_left hn
  · intro h x hx
    by_cases hn : x ∈ ns
    · exact Or.inl (Or.inl hn)
    · exact (h x ⟨hx, hn⟩).imp_left Or.inr

theorem OkN_binder {G} {sc sc' : Scope} {ns : List String} (hs : ∀ y, sc'.has y = (ns.contains y || sc.has y))
    (l : List String) : OkN G sc' l ↔ OkN G sc (l.filter (fun y => !ns.contains y)) :=
  forall_filter_binder (P := (sc.has · = true)) (P' := (sc'.has · = true)) (fun y => by simp [hs y]) l

/-- `fvB` removes a `let` binder by `!(y == x)` and a parameter list by `contains`; this turns the first spelling
    into the second, the one `OkN_binder` is stated for -/
theorem filter_ne_eq (x : String) (l : List String) :
    l.filter (fun y => !(y == x)) = l.filter (fun y => ![x].contains y) := by
  apply List.filter_congr
  intro y _
  by_cases h : y = x <;> simp [h]

/-! ## free variables, match-arm heads not counted -/

mutual
/-- free variables as `fv`, except that the head of a match arm (a pattern whose variables are
    placeholders re-bound in the arm body) contributes nothing -/
def fvB : Expr → List String
  | .var x _ => [x]
  | .prim _ => []
  | .tag _ _ => []
  | .constr _ _ args => fvBList args
  | .tuple _ items => fvBList items
  | .array _ items => fvBList items
  | .closure _ ps body => (fvB body).filter (fun y => !(ps.map (·.1)).contains y)
  | .letE x v b => fvB v ++ (fvB b).filter (fun y => !(y == x))
  | .matchE _ s arms d => fvB s ++ fvBArms arms ++ (match d with | some d => fvB d | none => [])
  | .ite c t e => fvB c ++ fvB t ++ fvB e
  | .while c b => fvB c ++ fvB b
  | .go e => fvB e
  | .cget _ _ _ e => fvB e
  | .un _ _ e => fvB e
  | .bin _ _ l r => fvB l ++ fvB r
  | .call _ f args => fvB f ++ fvBList args
  | .toDyn _ _ _ e => fvB e
  | .dynCall _ _ _ recv args => fvB recv ++ fvBList args
  | .traitCall _ _ _ recv args => fvB recv ++ fvBList args
  | .proj _ _ e => fvB e
def fvBList : List Expr → List String
  | [] => []
  | e :: es => fvB e ++ fvBList es
def fvBArms : List Arm → List String
  | [] => []
  | .mk _ body :: rest => fvB body ++ fvBArms rest
end

theorem sub_app {a a' b b' : List String} (h1 : a ⊆ a') (h2 : b ⊆ b') : a ++ b ⊆ a' ++ b' := by
  intro x hx
  rcases List.mem_append.mp hx with hx | hx
  · exact List.mem_append_left _ (h1 hx)
  · exact List.mem_append_right _ (h2 hx)

theorem fvB_sub_all : (∀ e, fvB e ⊆ fv e) ∧ (∀ arms, fvBArms arms ⊆ fvArms arms) ∧ (∀ es, fvBList es ⊆ fvList es) := by
  apply fvB.mutual_induct
  -- .closure, .letE
  case case7 =>
    intro _ ps b ih
    simp only [fvB, fv]
    exact List.filter_subset _ ih
  case case8 =>
    intro x v b ihv ihb
    simp only [fvB, fv]
    exact sub_app ihv (List.filter_subset _ ihb)
  -- .matchE: the default is an inner `match`
  case case9 =>
    intro _ s arms d ihs iha ihd
    cases d <;> simp only [fvB, fv]
    · exact sub_app (sub_app ihs iha) (List.Subset.refl _)
    · exact sub_app (sub_app ihs iha) ihd
  -- an arm: `fv` also counts the head
  case case24 =>
    intro lhs body rest ihb ihr
    simp only [fvBArms, fvArms, List.append_assoc]
    exact List.subset_append_of_subset_right _ (sub_app ihb ihr)
  all_goals intros
  all_goals simp only [fvB, fv, fvBList, fvList, fvBArms, fvArms, List.Subset.refl]
  all_goals repeat' apply sub_app
  all_goals assumption

theorem fvB_sub : ∀ (e : Expr), fvB e ⊆ fv e := fvB_sub_all.1
theorem fvBList_sub : ∀ (es : List Expr), fvBList es ⊆ fvList es := fvB_sub_all.2.2
theorem fvBArms_sub : ∀ (arms : List Arm), fvBArms arms ⊆ fvArms arms := fvB_sub_all.2.1

/-! ## free variables of what `finishClosure` builds -/

theorem lowered_names : ∀ (ps : List (String × Ty)) (ts : List Ty), ps.length ≤ ts.length →
    (loweredParams ps ts).map (·.1) = ps.map (·.1)
  | [], _, _ => by cases ‹List Ty› <;> rfl
  | (x, t) :: ps, [], h => by simp at h
  | (x, t) :: ps, t' :: ts, h => by
    simp only [loweredParams, List.map_cons]
    rw [lowered_names ps ts (by simpa using h)]

theorem fvBList_vars (caps : List (String × Ty)) :
    fvBList (caps.map (fun p => Expr.var p.1 p.2)) = caps.map (·.1) := by
  induction caps with
  | nil => rfl
  | cons p ps ih => simp [fvBList, fvB, ih]

/-- the free variables of the body of an apply function, exactly: the environment parameter (when
    something is captured) and the free variables of the lifted closure body that are not captured
    — every captured variable is re-bound from its environment field before use -/
theorem fvB_rebind_iff (sn ep : String) (ety : Ty) (body : Expr) (x : String) :
    ∀ (caps : List (String × Ty)) (i : Nat),
      x ∈ fvB (rebind sn ep ety body i caps) ↔
        (x = ep ∧ caps ≠ []) ∨ (x ∈ fvB body ∧ x ∉ caps.map (·.1))
  | [], i => by simp [rebind]
  | (c, t) :: rest, i => by
    simp only [rebind, fvB, List.mem_append, List.mem_filter,
      fvB_rebind_iff sn ep ety body x rest (i + 1), List.map_cons, List.mem_cons, not_or, ne_eq,
      reduceCtorEq, not_false_eq_true, and_true, Bool.not_eq_true', beq_eq_false_iff_ne,
      List.not_mem_nil, or_false]
    constructor
    · rintro (h | ⟨(⟨h, _⟩ | ⟨h1, h2⟩), h3⟩)
      · exact Or.inl h
      · exact Or.inl h
      · exact Or.inr ⟨h1, h3, h2⟩
    · rintro (h | ⟨h1, h3, h2⟩)
      · exact Or.inl h
      · exact Or.inr ⟨Or.inr ⟨h1, h2⟩, h3⟩

/-! ## the state invariant -/

def FnClosed (G : String → Prop) (f : Fn) : Prop := ∀ x ∈ fvB f.body, x ∈ f.params.map (·.1) ∨ G x

/-- every apply function generated so far is closed, and every apply function registered in
    `closure_types` (the names the call rewriting inserts) has been generated -/
def Inv (G : String → Prop) (st : State) : Prop :=
  (∀ f ∈ st.newFns, FnClosed G f) ∧ (∀ p ∈ st.closureTypes, ∃ f ∈ st.newFns, f.name = p.2)

def NamesOk (G : String → Prop) (st : State) : Prop := ∀ f ∈ st.newFns, G f.name

theorem NamesOk_of_sub {G} {st st' : State} (h : st.newFns ⊆ st'.newFns) (hn : NamesOk G st') : NamesOk G st :=
  fun f hf => hn f (h hf)

theorem Inv_of_eq {G} {st st' : State} (h1 : st'.newFns = st.newFns) (h2 : st'.closureTypes = st.closureTypes)
    (h : Inv G st) : Inv G st' := by
  unfold Inv; rw [h1, h2]; exact h

/-- **The closure site**: the environment constructor mentions only variables that are in scope
    at the site. -/
theorem closure_site_vars_in_scope (st : State) (sc : Scope) (params : List (String × Ty)) (ty : Ty)
    (hint : Option String) (body : Expr) :
    ∀ x ∈ fvB (finishClosure st sc params ty hint body).1, sc.has x = true := by
  intro x hx
  rw [finishClosure_fst] at hx
  simp only [fvB, fvBList_vars] at hx
  exact ((captured_mem sc _ body x).mp hx).2.2

/-- **The apply function**: every free variable of the generated body is the environment
    parameter, a (lowered) closure parameter, or a free variable of the lifted closure body that
    is not in scope at the site (every in-scope one is captured and re-bound by `let x = env.<i>`). -/
theorem apply_fn_fv (sc : Scope) (sn ep : String) (ety : Ty) (lowered : List String) (body : Expr) (x : String)
    (hx : x ∈ fvB (rebind sn ep ety body 0 (collectCaptured sc lowered [] body))) :
    x = ep ∨ x ∈ lowered ∨ (x ∈ fvB body ∧ x ∉ lowered ∧ sc.has x = false) := by
  rcases (fvB_rebind_iff sn ep ety body x _ 0).mp hx with ⟨h, _⟩ | ⟨h1, h2⟩
  · exact Or.inl h
  · by_cases hl : x ∈ lowered
    · exact Or.inr (Or.inl hl)
    · right; right
      refine ⟨h1, hl, ?_⟩
      cases hs : sc.has x with
      | false => rfl
      | true => exact absurd ((captured_mem sc lowered body x).mpr ⟨fvB_sub body h1, hl, hs⟩) h2

theorem finishClosure_sub (st : State) (sc : Scope) (params : List (String × Ty)) (ty : Ty)
    (hint : Option String) (body : Expr) :
    st.newFns ⊆ (finishClosure st sc params ty hint body).2.2.newFns := by
  rw [finishClosure_newFns]; exact List.subset_append_left _ _

theorem finishClosure_closed (G : String → Prop)
    (st : State) (sc : Scope) (params : List (String × Ty)) (ty : Ty) (hint : Option String) (body : Expr)
    (hst : Inv G st)
    (hb : OkN G sc ((fvB body).filter (fun y => !((loweredParams params (funcParts ty).1).map (·.1)).contains y))) :
    OkN G sc (fvB (finishClosure st sc params ty hint body).1) ∧
      Inv G (finishClosure st sc params ty hint body).2.2 := by
  refine ⟨fun x hx => Or.inl (closure_site_vars_in_scope st sc params ty hint body x hx), ?_, ?_⟩
  · intro f hf
    rw [finishClosure_newFns] at hf
    rcases List.mem_append.mp hf with hf | hf
    · exact hst.1 f hf
    · have hf' := List.mem_singleton.mp hf
      subst hf'
      intro x hx
      rcases apply_fn_fv sc _ _ _ _ body x hx with h | h | ⟨h1, hl, h2⟩
      · left; rw [h]; simp
      · left; simp only [List.map_cons, List.mem_cons]; exact Or.inr h
      · have hm : x ∈ (fvB body).filter (fun y => !((loweredParams params (funcParts ty).1).map (·.1)).contains y) :=
          List.mem_filter.mpr ⟨h1, by simpa using hl⟩
        rcases hb x hm with h | h
        · rw [h2] at h; cases h
        · exact Or.inr h
  · intro p hp
    rw [finishClosure_closureTypes] at hp
    rw [finishClosure_newFns]
    rcases mem_assocInsert _ _ _ _ hp with hp | hp
    · rcases hst.2 p hp with ⟨f, hf, he⟩
      exact ⟨f, List.mem_append_left _ hf, he⟩
    · exact ⟨_, List.mem_append_right _ (List.mem_singleton.mpr rfl), by rw [hp]⟩

/-! ## `new_functions` only grows -/

theorem Lifted.mono {st sc s o} (h : Lifted st sc s o) : st.newFns ⊆ o.st.newFns := by
  induction h with
  | var | prim | tag | nil | anil => exact List.Subset.refl _
  | constr _ ih => rw [Out.st, constrSt_newFns]; exact ih
  | closure hint _ ih =>
    rw [Out.st, pushCtx_newFns] at ih
    exact List.Subset.trans ih (finishClosure_sub _ _ _ _ hint _)
  | call _ _ ihf iha => rw [Out.st, callTail_state]; exact List.Subset.trans ihf iha
  -- the other nodes hand the state from part to part: `⊆` is transitive
  | _ => intro f hf; simp only [Out.st] at *; grind

/-! ## a pattern (match-arm head) creates no apply function -/

/- `…S`: a predicate of the model at each of the three sorts of `Src` -/
def simpleS : Src → Bool
  | .e e => simplePat e
  | .l es => simplePatList es
  | .a _ => false

theorem Lifted.pat {st sc s o} (h : Lifted st sc s o) :
    simpleS s = true → o.st.newFns = st.newFns ∧ o.st.closureTypes = st.closureTypes := by
  induction h with
  | var | prim | tag | nil => exact fun _ => ⟨rfl, rfl⟩
  | constr _ ih => intro h; rw [Out.st, constrSt_newFns, constrSt_closureTypes]; exact ih h
  | tuple _ ih | array _ ih => exact ih
  | cons _ _ ih1 ih2 =>
    intro h
    have h' := Bool.and_eq_true_iff.mp (show (simplePat _ && simplePatList _) = true from h)
    exact ⟨(ih2 h'.2).1.trans (ih1 h'.1).1, (ih2 h'.2).2.trans (ih1 h'.1).2⟩
  -- no other node is a plain pattern
  | _ => intro h; simp [simpleS, simplePat] at h

theorem simplePatList_state : ∀ (es : List Expr), simplePatList es = true → ∀ (st : State) (sc : Scope),
    (transformList st sc es).2.2.newFns = st.newFns ∧ (transformList st sc es).2.2.closureTypes = st.closureTypes :=
  fun es h st sc => (liftedList es st sc).pat h

/-! ## scope closedness -/

/-- the apply function a rewritten call names has been generated (`Inv`), so it counts as global;
    the closure variable that becomes its first argument is in scope -/
theorem callTail_closed {G : String → Prop} {sc : Scope} {st : State} (ty : Ty) {f' : Expr} (fty : Ty)
    {args' : List Expr} (hc : Inv G st) (hn : NamesOk G st) (hf : OkN G sc (fvB f'))
    (ha : OkN G sc (fvBList args')) : OkN G sc (fvB (callTail st sc ty f' fty args').1) := by
  cases callTail_cases st sc ty f' fty args' with
  | direct _ _ he =>
    rw [he]
    exact OkN_append.mpr ⟨hf, ha⟩
  | apply name _ entry sn applyFn _ hget happ he =>
    rw [he]
    show OkN G sc ([applyFn] ++ ([name] ++ fvBList args'))
    refine OkN_append.mpr ⟨?_, OkN_append.mpr ⟨?_, ha⟩⟩
    · intro x hx
      rw [List.mem_singleton.mp hx]
      rcases mem_of_assocGet _ _ _ happ with ⟨p, hp, he⟩
      rcases hc.2 p hp with ⟨f, hf, hfe⟩
      exact Or.inr (he ▸ hfe ▸ hn f hf)
    · intro x hx
      rw [List.mem_singleton.mp hx]
      left; unfold Scope.has; rw [hget]; rfl

def arityS : Src → Bool
  | .e e => presHypArity e
  | .l es => presHypArityList es
  | .a arms => presHypArityArms arms

def Src.fv : Src → List String
  | .e x => fvB x
  | .l es => fvBList es
  | .a arms => fvBArms arms

def Out.fv : Out → List String
  | .e r => fvB r.1
  | .l r => fvBList r.1
  | .a r => fvBArms r.1

/-- one part of a node, from `st` to `st'`, with free variables `l` before and `l'` after; what counts as global has to
    cover the apply functions existing AFTER the part -/
def CStep (G : String → Prop) (sc : Scope) (st : State) (l : List String) (st' : State) (l' : List String) : Prop :=
  Inv G st → OkN G sc l → NamesOk G st' → OkN G sc l' ∧ Inv G st'

theorem CStep.refl {G sc st l} : CStep G sc st l st l := fun h hv _ => ⟨hv, h⟩

/-- the second part only adds apply functions (`Lifted.mono`), so the names that count as global after it do after the
    first -/
theorem CStep.seq {G sc st st1 st2 l1 l2 l1' l2'} (h1 : CStep G sc st l1 st1 l1') (hm : st1.newFns ⊆ st2.newFns)
    (h2 : CStep G sc st1 l2 st2 l2') : CStep G sc st (l1 ++ l2) st2 (l1' ++ l2') := by
  intro h hv hn
  have hv' := OkN_append.mp hv
  have a := h1 h hv'.1 (NamesOk_of_sub hm hn)
  have b := h2 a.2 hv'.2 hn
  exact ⟨OkN_append.mpr ⟨a.1, b.1⟩, b.2⟩

theorem Lifted.closed {G : String → Prop} {st sc s o} (h : Lifted st sc s o) :
    arityS s = true → CStep G sc st s.fv o.st o.fv := by
  induction h with
  | var | prim | tag | nil | anil => exact fun _ => CStep.refl
  | tuple _ ih | array _ ih | go _ ih | cget _ ih | un _ ih | toDyn _ ih | proj _ ih => exact ih
  | constr _ ih =>
    intro ha h hv hn
    have h1 := ih ha h hv (NamesOk_of_sub (by rw [Out.st, Out.st, constrSt_newFns]; exact List.Subset.refl _) hn)
    exact ⟨h1.1, Inv_of_eq (constrSt_newFns ..) (constrSt_closureTypes ..) h1.2⟩
  | @closure st sc ty ps body r hint _ ih =>
    intro ha h hv hn
    have ha' := Bool.and_eq_true_iff.mp (show (decide (ps.length ≤ (funcParts ty).1.length) && presHypArity body) = true from ha)
    have hs := has_closureScope st sc ps ty
    have hv' : OkN G sc ((fvB body).filter (fun y => !((loweredParams ps (funcParts ty).1).map (·.1)).contains y)) := by
      rw [lowered_names ps _ (by simpa using ha'.1)]; exact hv
    have h1 := ih ha'.2 (Inv_of_eq (pushCtx_newFns st hint) (pushCtx_closureTypes st hint) h) ((OkN_binder hs _).mpr hv')
      (NamesOk_of_sub (finishClosure_sub _ sc ps ty hint _) hn)
    -- `rfl`: the state handed on is `{ … with ctx := … }`, whose `newFns` and `closureTypes` are the same fields
    exact finishClosure_closed G _ sc ps ty hint _ (Inv_of_eq rfl rfl h1.2) ((OkN_binder hs _).mp h1.1)
  | @letE st sc x v b rv rb _ hb ihv ihb =>
    intro ha h hv hn
    have ha' := Bool.and_eq_true_iff.mp (show (presHypArity v && presHypArity b) = true from ha)
    have hv' := OkN_append.mp (show OkN G sc (fvB v ++ (fvB b).filter (fun y => !(y == x))) from hv)
    have h1 := ihv ha'.1 h hv'.1 (NamesOk_of_sub hb.mono hn)
    have h2 := ihb ha'.2 h1.2 ((OkN_binder (has_let sc x _) _).mpr (filter_ne_eq x _ ▸ hv'.2)) hn
    refine ⟨?_, h2.2⟩
    show OkN G sc (fvB rv.1 ++ (fvB rb.1).filter (fun y => !(y == x)))
    rw [filter_ne_eq]
    exact OkN_append.mpr ⟨h1.1, (OkN_binder (has_let sc x _) _).mp h2.1⟩
  | matchN _ a2 ih1 ih2 =>
    intro ha
    obtain ⟨hs, harms, _⟩ := and3 (show (presHypArity _ && presHypArityArms _ && true) = true from ha)
    -- `fvB (.matchE _ s arms none)` is `fvB s ++ fvBArms arms ++ []`: the empty third part is the reflexive step
    exact ((ih1 hs).seq a2.mono (ih2 harms)).seq (List.Subset.refl _) CStep.refl
  | matchD _ a2 a3 ih1 ih2 ih3 =>
    intro ha
    obtain ⟨hs, harms, hd⟩ := and3 (show (presHypArity _ && presHypArityArms _ && presHypArity _) = true from ha)
    exact ((ih1 hs).seq a2.mono (ih2 harms)).seq a3.mono (ih3 hd)
  | ite _ a2 a3 ih1 ih2 ih3 =>
    intro ha
    obtain ⟨hc, ht, he⟩ := and3 (show (presHypArity _ && presHypArity _ && presHypArity _) = true from ha)
    exact ((ih1 hc).seq a2.mono (ih2 ht)).seq a3.mono (ih3 he)
  | «while» _ a2 ih1 ih2 | bin _ a2 ih1 ih2 =>
    intro ha
    have ha' := Bool.and_eq_true_iff.mp (show (presHypArity _ && presHypArity _) = true from ha)
    exact (ih1 ha'.1).seq a2.mono (ih2 ha'.2)
  | dynCall _ a2 ih1 ih2 | traitCall _ a2 ih1 ih2 | cons _ a2 ih1 ih2 =>
    intro ha
    have ha' := Bool.and_eq_true_iff.mp (show (presHypArity _ && presHypArityList _) = true from ha)
    exact (ih1 ha'.1).seq a2.mono (ih2 ha'.2)
  | @call st sc ty f args rf ra _ a2 ihf iha =>
    intro ha h hv hn
    have ha' := Bool.and_eq_true_iff.mp (show (presHypArity f && presHypArityList args) = true from ha)
    rw [Out.st, callTail_state] at hn ⊢
    have h12 := (ihf ha'.1).seq a2.mono (iha ha'.2) h hv hn
    have hv' := OkN_append.mp h12.1
    exact ⟨callTail_closed ty _ h12.2 hn hv'.1 hv'.2, h12.2⟩
  | acons a1 _ a3 _ ih2 ih3 =>
    -- the head is a pattern: it is not counted in `fvB`, and transforming it leaves the invariant's fields alone
    intro ha h
    obtain ⟨hpat, hbody, hrest⟩ := and3 (show (simplePat _ && presHypArity _ && presHypArityArms _) = true from ha)
    have hp := a1.pat hpat
    exact (ih2 hbody).seq a3.mono (ih3 hrest) (Inv_of_eq hp.1 hp.2 h)

theorem transformList_closed {G : String → Prop} :
    ∀ (es : List Expr), presHypArityList es = true → ∀ (st : State) (sc : Scope), Inv G st → OkN G sc (fvBList es) →
      NamesOk G (transformList st sc es).2.2 →
      OkN G sc (fvBList (transformList st sc es).1) ∧ Inv G (transformList st sc es).2.2 :=
  fun es ha st sc => (liftedList es st sc).closed ha
theorem transformArms_closed {G : String → Prop} :
    ∀ (arms : List Arm), presHypArityArms arms = true → ∀ (st : State) (sc : Scope), Inv G st → OkN G sc (fvBArms arms) →
      NamesOk G (transformArms st sc arms).2 →
      OkN G sc (fvBArms (transformArms st sc arms).1) ∧ Inv G (transformArms st sc arms).2 :=
  fun arms ha st sc => (liftedArms arms st sc).closed ha

/-! ## functions and the file -/

theorem liftFn_sub (st : State) (f : Fn) : st.newFns ⊆ (liftFn st f).2.newFns := by
  have h := (lifted f.body (pushCtx st (sanitizeEnvName f.name)) (fnScope st f)).mono
  rw [Out.st, pushCtx_newFns] at h
  rw [liftFn_eq]; exact h

theorem liftFn_closed {G : String → Prop} (st : State) (f : Fn) (h : Inv G st)
    (ha : presHypArity f.body = true) (hc : FnClosed G f) (hn : NamesOk G (liftFn st f).2) :
    FnClosed G (liftFn st f).1 ∧ Inv G (liftFn st f).2 := by
  have hs := has_paramScope (fun p => { ty := p.2, closureStruct := st.closureStructForTy p.2 }) f.params
  rw [liftFn_eq] at hn ⊢
  have h1 := (lifted f.body (pushCtx st (sanitizeEnvName f.name)) (fnScope st f)).closed (G := G) ha
    (Inv_of_eq (pushCtx_newFns st _) (pushCtx_closureTypes st _) h)
    (by
      intro x hx
      rcases hc x hx with hm | hg
      · left; rw [fnScope, hs]; simpa using hm
      · exact Or.inr hg)
    hn
  refine ⟨?_, Inv_of_eq rfl rfl h1.2⟩
  intro x hx
  rcases h1.1 x hx with hm | hg
  · left; rw [fnScope, hs] at hm; simpa using hm
  · exact Or.inr hg

/-- **The file, in terms of free variables**, for any notion `G` of global.  The set of apply functions the run ends with
    is fixed in advance: `NamesOk` then holds of the final state by definition and of every earlier state because `newFns`
    only grows (`liftFn_sub`), so the induction never enlarges its set of globals. -/
theorem liftFile_fnClosed (env : Env) (fns : List Fn) (G : String → Prop)
    (h : ∀ f ∈ fns, FnClosed G f ∧ presHypArity f.body = true) :
    ∀ g ∈ (liftFile env fns).1, FnClosed (fun x => G x ∨ ∃ a ∈ (liftFile env fns).2.newFns, a.name = x) g := by
  let GP : String → Prop := fun x => G x ∨ ∃ a ∈ (liftFile env fns).2.newFns, a.name = x
  exact (liftFile_inv (I := Inv GP) (N := NamesOk GP) (H := fun f => FnClosed GP f ∧ presHypArity f.body = true)
    (C := FnClosed GP) (fun st f => NamesOk_of_sub (liftFn_sub st f))
    (fun st f hst hf hn => liftFn_closed st f hst hf.2 hf.1 hn) env fns
    ⟨fun f hf => (by cases hf), fun p hp => (by cases hp)⟩
    (fun f hf => ⟨fun x hx => ((h f hf).1 x hx).imp id Or.inl, (h f hf).2⟩)
    (fun f hf => Or.inr ⟨f, hf, rfl⟩) (fun _ hst => hst.1)).1

/-! ## the executable checker `closedIn` says the same as `fvB` -/

theorem forall_mem_binder (ns bound l : List String) (G : String → Bool) :
    (∀ x ∈ l, x ∈ ns ++ bound ∨ G x = true) ↔
      (∀ x ∈ l.filter (fun y => !ns.contains y), x ∈ bound ∨ G x = true) :=
  forall_filter_binder (P := (· ∈ bound)) (P' := (· ∈ ns ++ bound)) (fun _ => List.mem_append) l

theorem closedIn_iff_all (G : String → Bool) :
    (∀ bound e, closedIn G bound e = true ↔ ∀ x ∈ fvB e, x ∈ bound ∨ G x = true) ∧
    (∀ bound arms, closedInArms G bound arms = true ↔ ∀ x ∈ fvBArms arms, x ∈ bound ∨ G x = true) ∧
    (∀ bound es, closedInList G bound es = true ↔ ∀ x ∈ fvBList es, x ∈ bound ∨ G x = true) := by
  apply closedIn.mutual_induct
  -- the leaves
  case case1 | case2 | case3 | case21 | case23 =>
    intros; simp [closedIn, closedInList, closedInArms, fvB, fvBList, fvBArms]
  -- .closure, .letE: `closedIn` adds the binders to `bound`, `fvB` filters them out
  case case7 =>
    intro bound _ ps b ih
    simp only [closedIn, fvB]
    rw [ih, forall_mem_binder]
  case case8 =>
    intro bound x v b ihv ihb
    simp only [closedIn, fvB, Bool.and_eq_true, List.forall_mem_append]
    rw [ihv, ihb, filter_ne_eq, ← forall_mem_binder]; rfl
  -- .matchE: the default is an inner `match`
  case case9 =>
    intro bound _ s arms d ihs iha ihd
    cases d <;> simp only [closedIn, fvB, Bool.and_eq_true, List.forall_mem_append, ihs, iha]
    · simp
    · rw [show _ ↔ _ from ihd]
  all_goals intros
  all_goals simp only [closedIn, closedInList, closedInArms, fvB, fvBList, fvBArms, Bool.and_eq_true,
    List.forall_mem_append, *]

theorem closedIn_iff (G : String → Bool) : ∀ (e : Expr) (bound : List String),
    closedIn G bound e = true ↔ ∀ x ∈ fvB e, x ∈ bound ∨ G x = true :=
  fun e bound => (closedIn_iff_all G).1 bound e
theorem closedInList_iff (G : String → Bool) : ∀ (es : List Expr) (bound : List String),
    closedInList G bound es = true ↔ ∀ x ∈ fvBList es, x ∈ bound ∨ G x = true :=
  fun es bound => (closedIn_iff_all G).2.2 bound es
theorem closedInArms_iff (G : String → Bool) : ∀ (arms : List Arm) (bound : List String),
    closedInArms G bound arms = true ↔ ∀ x ∈ fvBArms arms, x ∈ bound ∨ G x = true :=
  fun arms bound => (closedIn_iff_all G).2.1 bound arms

theorem presHypFns_closed {G : String → Bool} {fns : List Fn} (h : presHypFns G fns = true) :
    ∀ f ∈ fns, FnClosed (fun x => G x = true) f ∧ presHypArity f.body = true := fun f hf =>
  (Bool.and_eq_true_iff.mp (List.all_eq_true.mp h f hf)).imp_left (closedIn_iff G f.body _).mp

/-! ## scope closedness of the file, stated on the checker `closedIn` -/

/-- **C03 for lambda lifting, scope-closedness** (what it claims in goml's terms: `Props/C03pres.lean`).  Every
    emitted function is closed under its own parameters, `G` and the names of the generated apply functions, and
    those are among the emitted functions.  The first conjunct is `scopeClosedFns G` of the emitted functions and the
    apply functions, unfolded. -/
theorem lift_preserves_closed (env : Env) (fns : List Fn) (G : String → Bool)
    (h : presHypFns G fns = true) :
    (∀ g ∈ (liftFile env fns).1,
      presHypClosedFn (liftGlobals G (liftFile env fns).2.newFns) g = true) ∧
    (∀ a ∈ (liftFile env fns).2.newFns, a ∈ (liftFile env fns).1) := by
  refine ⟨fun g hg => (closedIn_iff _ g.body _).mpr fun x hx => ?_, liftFile_newFns_mem env fns⟩
  refine (liftFile_fnClosed env fns _ (presHypFns_closed h) g hg x hx).imp id ?_
  rintro (hg | ⟨a, ha, he⟩)
  · simp [liftGlobals, hg]
  · simp only [liftGlobals, Bool.or_eq_true]
    exact Or.inr (List.any_eq_true.mpr ⟨a, ha, by simpa using he⟩)

/-- the same, in terms of free variables: every free variable (`fvB`: `let` and closure
    parameters bind, match-arm heads are patterns) of an emitted function is one of its own
    parameters, a global of the input, or the name of an emitted apply function -/
theorem lift_preserves_closed_fv (env : Env) (fns : List Fn) (G : String → Bool)
    (h : presHypFns G fns = true) :
    ∀ g ∈ (liftFile env fns).1, ∀ x ∈ fvB g.body,
      x ∈ g.params.map (·.1) ∨ G x = true ∨ ∃ a ∈ (liftFile env fns).1, a ∈ (liftFile env fns).2.newFns ∧ a.name = x := by
  intro g hg x hx
  exact (liftFile_fnClosed env fns _ (presHypFns_closed h) g hg x hx).imp id
    (Or.imp id fun ⟨a, ha, he⟩ => ⟨a, liftFile_newFns_mem env fns a ha, ha, he⟩)

/-! ## the same on `Scoped.unbound` / `scopedFns` (`Model/Scoped.lean`) -/

/-- `fvB` is the free-variable function of the match-compiler side, `Match.fvE` -/
theorem fvB_eq_fvE_all :
    (∀ e, fvB e = Match.fvE e) ∧ (∀ arms, fvBArms arms = Match.fvEArms arms) ∧ (∀ es, fvBList es = Match.fvEL es) := by
  apply fvB.mutual_induct
  -- .matchE: the default is an inner `match`, decided before the row unfolds
  case case9 =>
    intro _ s arms d ihs iha ihd
    cases d
    · simp only [fvB, Match.fvE, ihs, iha]
    · simp only [fvB, Match.fvE, ihs, iha]; rw [ihd]
  all_goals intros
  all_goals simp only [fvB, fvBList, fvBArms, Match.fvE, Match.fvEL, Match.fvEArms, *]

theorem fvB_eq_fvE : ∀ (e : Expr), fvB e = Match.fvE e := fvB_eq_fvE_all.1
theorem fvBList_eq_fvEL : ∀ (es : List Expr), fvBList es = Match.fvEL es := fvB_eq_fvE_all.2.2
theorem fvBArms_eq_fvEArms : ∀ (arms : List Arm), fvBArms arms = Match.fvEArms arms := fvB_eq_fvE_all.2.1

theorem unbound_nil_iff (e : Expr) (B : List String) : unbound B e = [] ↔ ∀ x ∈ fvB e, x ∈ B := by
  rw [fvB_eq_fvE]; exact unbound_nil_iff_fvE e B
theorem unboundList_nil_iff : ∀ (es : List Expr) (B : List String), unboundList B es = [] ↔ ∀ x ∈ fvBList es, x ∈ B := by
  intro es B; rw [fvBList_eq_fvEL]; exact nil_iff_of_mem (mem_unboundList es B)
theorem unboundArms_nil_iff : ∀ (arms : List Arm) (B : List String), unboundArms B arms = [] ↔ ∀ x ∈ fvBArms arms, x ∈ B := by
  intro arms B; rw [fvBArms_eq_fvEArms]; exact nil_iff_of_mem (mem_unboundArms arms B)

theorem scopedFn_iff (G : List String) (f : Fn) :
    scopedFn G f = true ↔ presHypClosedFn (fun x => G.contains x) f = true := by
  unfold scopedFn presHypClosedFn
  rw [List.isEmpty_iff, unbound_nil_iff, closedIn_iff]
  simp only [List.mem_append, List.contains_eq_mem, decide_eq_true_eq]

/-- `lift_preserves_closed` for the stage predicate `Scoped.scopedFns` (`Model/Scoped.lean`; chained with ANF in
    `Props/C03pres.lean`): the lifted file is `scopedFns` for the globals of the input plus the names of the generated
    apply functions -/
theorem lift_preserves_scoped (env : Env) (fns : List Fn) (G : List String)
    (ha : fns.all (fun f => presHypArity f.body) = true) (h : scopedFns G fns = true) :
    scopedFns (G ++ (liftFile env fns).2.newFns.map (·.name)) (liftFile env fns).1 = true := by
  have hc := liftFile_fnClosed env fns (· ∈ G) fun f hf => by
    have := List.all_eq_true.mp h f hf
    rw [scopedFn, List.isEmpty_iff, unbound_nil_iff] at this
    exact ⟨fun x hx => List.mem_append.mp (this x hx), List.all_eq_true.mp ha f hf⟩
  refine List.all_eq_true.mpr fun g hg => ?_
  rw [scopedFn, List.isEmpty_iff, unbound_nil_iff]
  intro x hx
  rcases hc g hg x hx with hm | hm | ⟨a, ha, he⟩
  · exact List.mem_append_left _ hm
  · exact List.mem_append_right _ (List.mem_append_left _ hm)
  · exact List.mem_append_right _ (List.mem_append_right _ (List.mem_map.mpr ⟨a, ha, he⟩))

/-! ## non-vacuity -/
namespace NonVacuity
open Examples

/-- globals of corpus program 033_closure: its own functions and the builtins it calls -/
def G033 : String → Bool :=
  fun x => ["test", "call_int_id", "main", "string_println", "int32_to_string"].contains x

/-- the hypotheses of `lift_preserves_closed` hold of the real Mono dump of corpus 033
    (`test`: `|x| x * y * z` captures the two lets `y/0`, `z/1`; `main`: five closures, three capturing
    lets, an enum and a struct value, two capturing nothing) -/
example : presHypFns G033 p033.fns = true := by decide +kernel
/-- … and of 037 (four nested closures) and 038 (two closures sharing a `Ref` cell) -/
example : presHypFns (fun x => ["main", "string_println", "int32_to_string"].contains x) p037.fns = true := by
  decide +kernel
example : presHypFns (fun x => ["make_counter", "main", "string_println", "int32_to_string", "ref", "ref_get",
    "ref_set"].contains x) p038.fns = true := by decide +kernel

/-- What the examples below and in `AllTys` ask of the one closed run `liftFile env033 p033.fns`;
evaluated together, the run is evaluated once. -/
theorem lift033_run :
    scopeClosedFns G033 (liftFile env033 p033.fns).1 (liftFile env033 p033.fns).2.newFns = true ∧
    (liftFile env033 p033.fns).1.length = 9 ∧
    scopedFns (["test", "call_int_id", "main", "string_println", "int32_to_string"] ++
      (liftFile env033 p033.fns).2.newFns.map (·.name)) (liftFile env033 p033.fns).1 = true ∧
    (liftFile env033 p033.fns).2.newFns.head?.map (fun f => (f.name, f.params.map (·.1), fvB f.body)) =
      some ("inherent#closure_env_f_0#closure_env_f_0#apply", ["env11", "x/2"], ["env11", "env11", "x/2"]) ∧
    ((liftFile env033 p033.fns).1.head?.map (fun f => fvB f.body)) =
      some ["string_println", "int32_to_string", "inherent#closure_env_f_0#closure_env_f_0#apply", "string_println",
        "int32_to_string", "inherent#closure_env_f_0#closure_env_f_0#apply"] ∧
    (liftFile env033 p033.fns).1.all (Closed.fnAllTys Closed.closedTy) = true := by
  decide +kernel

/-- the conclusion, evaluated: all nine emitted functions are closed -/
example : scopeClosedFns G033 (liftFile env033 p033.fns).1 (liftFile env033 p033.fns).2.newFns = true :=
  lift033_run.1
example : (liftFile env033 p033.fns).1.length = 9 := lift033_run.2.1

/-- `lift_preserves_scoped`: hypotheses on the same program, and its conclusion evaluated -/
example : scopedFns ["test", "call_int_id", "main", "string_println", "int32_to_string"] p033.fns = true ∧
    p033.fns.all (fun f => presHypArity f.body) = true := by decide +kernel
example : scopedFns (["test", "call_int_id", "main", "string_println", "int32_to_string"] ++
    (liftFile env033 p033.fns).2.newFns.map (·.name)) (liftFile env033 p033.fns).1 = true := lift033_run.2.2.1

/-- the apply function of `|x| x * y * z`: parameters `env11`, `x/2`; its body's free variables
    are the environment (once per captured variable) and the parameter; the captured `y/0`, `z/1`
    are re-bound -/
example : (liftFile env033 p033.fns).2.newFns.head?.map (fun f => (f.name, f.params.map (·.1), fvB f.body)) =
    some ("inherent#closure_env_f_0#closure_env_f_0#apply", ["env11", "x/2"], ["env11", "env11", "x/2"]) :=
  lift033_run.2.2.2.1

/-- the lifted `test` mentions the new global (the apply function) where the closure was called -/
example : ((liftFile env033 p033.fns).1.head?.map (fun f => fvB f.body)) =
    some ["string_println", "int32_to_string", "inherent#closure_env_f_0#closure_env_f_0#apply", "string_println",
      "int32_to_string", "inherent#closure_env_f_0#closure_env_f_0#apply"] := lift033_run.2.2.2.2.1

/-- the checker is not trivially true: without the rebinding `let`s the same body is rejected -/
example : closedIn G033 ["env11", "x/2"]
    (.bin .mul (.int 32 true) (.bin .mul (.int 32 true) (.var "x/2" (.int 32 true)) (.var "y/0" (.int 32 true)))
      (.var "z/1" (.int 32 true))) = false := by decide +kernel

/-- `presHypArity` is needed: a closure with two parameters whose function type has one.  The
    input is closed (`b` is a closure parameter), but `loweredParams` drops `b`, which is then
    neither a parameter of the apply function nor captured. -/
def badArity : List Fn :=
  [{ name := "f", generics := [], params := [], ret := .unit,
     body := .closure (.func [.unit] .unit) [("a", .unit), ("b", .unit)] (.var "b" .unit) }]
example : badArity.all (presHypClosedFn (fun _ => false)) = true := by decide +kernel
example : presHypFns (fun _ => false) badArity = false := by decide +kernel
example : scopeClosedFns (fun _ => false) (liftFile {} badArity).1 (liftFile {} badArity).2.newFns = false := by
  decide +kernel

end NonVacuity

section AllTys
open Goml.Closed

/-! ## type-annotation closedness (`Closed.allTys`) -/

/-- what the pass needs of the annotation predicate: it holds of the types the pass writes without
    reading them from the input (`unit`, literal types, environment structs), and is compatible
    with building and taking apart tuple and function types -/
structure TyOk (p : Ty → Bool) : Prop where
  unit : p .unit = true
  prim : ∀ q, p (primTy q) = true
  struct : ∀ n, p (.struct n) = true
  tupleI : ∀ ts, (∀ t ∈ ts, p t = true) → p (.tuple ts) = true
  tupleE : ∀ ts, p (.tuple ts) = true → ∀ t ∈ ts, p t = true
  funcI : ∀ ps r, (∀ t ∈ ps, p t = true) → p r = true → p (.func ps r) = true
  funcE : ∀ ps r, p (.func ps r) = true → (∀ t ∈ ps, p t = true) ∧ p r = true

theorem noParams_iff (ts : List Ty) : noParams ts = true ↔ ∀ t ∈ ts, noParam t = true := by
  induction ts with
  | nil => simp [noParams]
  | cons t ts ih => simp [noParams, ih]
theorem noApps_iff (ts : List Ty) : noApps ts = true ↔ ∀ t ∈ ts, noApp t = true := by
  induction ts with
  | nil => simp [noApps]
  | cons t ts ih => simp [noApps, ih]
theorem noTVars_iff (ts : List Ty) : noTVars ts = true ↔ ∀ t ∈ ts, noTVar t = true := by
  induction ts with
  | nil => simp [noTVars]
  | cons t ts ih => simp [noTVars, ih]

theorem closedTy_iff (t : Ty) : closedTy t = true ↔ noParam t = true ∧ noApp t = true ∧ noTVar t = true := by
  simp [closedTy, and_assoc]

theorem closedTys_iff (ts : List Ty) :
    (∀ t ∈ ts, closedTy t = true) ↔ noParams ts = true ∧ noApps ts = true ∧ noTVars ts = true := by
  simp only [closedTy_iff, noParams_iff, noApps_iff, noTVars_iff]
  constructor
  · intro h; exact ⟨fun t ht => (h t ht).1, fun t ht => (h t ht).2.1, fun t ht => (h t ht).2.2⟩
  · rintro ⟨a, b, c⟩ t ht; exact ⟨a t ht, b t ht, c t ht⟩

/-- the C03 predicate (no type parameter, no type application, no inference variable) qualifies -/
theorem tyOk_closedTy : TyOk closedTy where
  unit := rfl
  prim := fun q => by cases q <;> rfl
  struct := fun _ => rfl
  tupleI := fun ts h => by
    have := (closedTys_iff ts).mp h
    simp [closedTy, noParam, noApp, noTVar, this]
  tupleE := fun ts h => by
    apply (closedTys_iff ts).mpr
    simpa [closedTy, noParam, noApp, noTVar, and_assoc] using h
  funcI := fun ps r h hr => by
    have := (closedTys_iff ps).mp h
    have hr' := (closedTy_iff r).mp hr
    simp [closedTy, noParam, noApp, noTVar, this, hr']
  funcE := fun ps r h => by
    obtain ⟨⟨hpps, hpr⟩, ⟨haps, har⟩, hvps, hvr⟩ : (noParams ps = true ∧ noParam r = true) ∧
        (noApps ps = true ∧ noApp r = true) ∧ (noTVars ps = true ∧ noTVar r = true) := by
      simpa [closedTy, noParam, noApp, noTVar, and_assoc] using h
    exact ⟨(closedTys_iff ps).mpr ⟨hpps, haps, hvps⟩, (closedTy_iff r).mpr ⟨hpr, har, hvr⟩⟩

variable {p : Ty → Bool}

theorem allParamTys_iff (ps : List (String × Ty)) : allParamTys p ps = true ↔ ∀ q ∈ ps, p q.2 = true := by
  induction ps with
  | nil => simp [allParamTys]
  | cons q ps ih =>
    cases q with
    | mk a b => simp [allParamTys, ih]

/-! ### scope -/

/-- every entry of every layer carries an acceptable type -/
def ScOk (p : Ty → Bool) (sc : Scope) : Prop := ∀ l ∈ sc.layers, ∀ q ∈ l, p q.2.ty = true

theorem ScOk_get {sc : Scope} {x : String} {entry : ScopeEntry} (hs : ScOk p sc) (hg : sc.get x = some entry) :
    p entry.ty = true := by
  unfold Scope.get at hg
  rcases List.exists_of_findSome?_eq_some hg with ⟨l, hl, hlg⟩
  rcases mem_of_assocGet l x entry (layerGet_eq l x ▸ hlg) with ⟨q, hq, he⟩
  rw [← he]; exact hs l hl q hq

theorem ScOk_insert {sc : Scope} (hs : ScOk p sc) (k : String) (e : ScopeEntry) (he : p e.ty = true) :
    ScOk p (sc.insert k e) := by
  cases sc with
  | mk layers =>
    cases layers with
    | nil => exact hs
    | cons l rest =>
      intro l' hl' q hq
      change l' ∈ layerInsert l k e :: rest at hl'
      rcases List.mem_cons.mp hl' with hl' | hl'
      · subst hl'
        rcases mem_assocInsert l k e q (layerInsert_eq l k e ▸ hq) with hq | hq
        · exact hs l (List.mem_cons_self ..) q hq
        · rw [hq]; exact he
      · exact hs l' (List.mem_cons_of_mem _ hl') q hq

theorem ScOk_pushLayer {sc : Scope} (hs : ScOk p sc) : ScOk p sc.pushLayer := by
  intro l hl q hq
  change l ∈ [] :: sc.layers at hl
  rcases List.mem_cons.mp hl with hl | hl
  · subst hl; cases hq
  · exact hs l hl q hq

theorem ScOk_new : ScOk p Scope.new := by
  intro l hl q hq
  change l ∈ [[]] at hl
  rw [List.mem_singleton.mp hl] at hq; cases hq

theorem ScOk_foldl_insert (F : String × Ty → Option String) : ∀ (ps : List (String × Ty)) (sc : Scope),
    ScOk p sc → (∀ q ∈ ps, p q.2 = true) →
    ScOk p (ps.foldl (fun s q => s.insert q.1 { ty := q.2, closureStruct := F q }) sc)
  | [], sc, hs, _ => hs
  | q :: ps, sc, hs, hq => by
    simp only [List.foldl_cons]
    exact ScOk_foldl_insert F ps _ (ScOk_insert hs _ _ (hq q (List.mem_cons_self ..)))
      (fun r hr => hq r (List.mem_cons_of_mem _ hr))

/-! ### state -/

/-- every type the pass state holds is acceptable: generated functions, function signatures,
    struct fields (they are rewritten to environment structs), enum fields -/
def TInv (p : Ty → Bool) (st : State) : Prop :=
  (∀ f ∈ st.newFns, fnAllTys p f = true) ∧
  (∀ q ∈ st.liftedFuncs, p q.2 = true) ∧ (∀ q ∈ st.monoFuncs, p q.2 = true) ∧
  (∀ d ∈ st.liftedStructs, ∀ q ∈ d.fields, p q.2 = true) ∧ (∀ d ∈ st.structs, ∀ q ∈ d.fields, p q.2 = true) ∧
  (∀ d ∈ st.enums, ∀ v ∈ d.variants, ∀ t ∈ v.2, p t = true)

section
variable {st : State} (h : TInv p st)
include h
theorem TInv.newFns : ∀ f ∈ st.newFns, fnAllTys p f = true := h.1
theorem TInv.liftedFuncs : ∀ q ∈ st.liftedFuncs, p q.2 = true := h.2.1
theorem TInv.monoFuncs : ∀ q ∈ st.monoFuncs, p q.2 = true := h.2.2.1
theorem TInv.liftedStructs : ∀ d ∈ st.liftedStructs, ∀ q ∈ d.fields, p q.2 = true := h.2.2.2.1
theorem TInv.structs : ∀ d ∈ st.structs, ∀ q ∈ d.fields, p q.2 = true := h.2.2.2.2.1
theorem TInv.enums : ∀ d ∈ st.enums, ∀ v ∈ d.variants, ∀ t ∈ v.2, p t = true := h.2.2.2.2.2
end

theorem getFunc_ok {st : State} {x : String} {t : Ty} (h : TInv p st) (hg : st.getFunc x = some t) : p t = true := by
  unfold State.getFunc at hg
  cases h1 : assocGet st.liftedFuncs x with
  | some t' =>
    rw [h1] at hg
    rcases mem_of_assocGet _ _ _ h1 with ⟨q, hq, he⟩
    have : t' = t := by simpa using hg
    rw [← this, ← he]; exact h.liftedFuncs q hq
  | none =>
    rw [h1] at hg
    rcases mem_of_assocGet _ _ _ hg with ⟨q, hq, he⟩
    rw [← he]; exact h.monoFuncs q hq

theorem structFieldTy_ok {st : State} {n : String} {i : Nat} {t : Ty} (h : TInv p st)
    (hg : st.structFieldTy n i = some t) : p t = true := by
  unfold State.structFieldTy at hg
  cases hs : st.getStruct n with
  | none => rw [hs] at hg; cases hg
  | some d =>
    rw [hs] at hg
    have hd : ∀ q ∈ d.fields, p q.2 = true := by
      unfold State.getStruct at hs
      cases h1 : st.liftedStructs.find? (·.name == n) with
      | some d' =>
        rw [h1] at hs
        have : d' = d := by simpa using hs
        rw [← this]; exact h.liftedStructs d' (List.mem_of_find?_eq_some h1)
      | none =>
        rw [h1] at hs
        exact h.structs d (List.mem_of_find?_eq_some hs)
    dsimp only at hg
    cases hf : d.fields[i]? with
    | none => rw [hf] at hg; cases hg
    | some q =>
      rw [hf] at hg
      cases q with
      | mk a b =>
        have : b = t := by simpa using hg
        rw [← this]; exact hd (a, b) (List.mem_of_getElem? hf)

theorem enumFieldTy_ok {st : State} {n v : String} {i : Nat} {t : Ty} (h : TInv p st)
    (hg : st.enumFieldTy n v i = some t) : p t = true := by
  unfold State.enumFieldTy at hg
  cases h1 : st.enums.find? (·.name == n) with
  | none => rw [h1] at hg; cases hg
  | some d =>
    rw [h1] at hg
    dsimp only at hg
    cases h2 : d.variants.find? (·.1 == v) with
    | none => rw [h2] at hg; cases hg
    | some q =>
      rw [h2] at hg
      cases q with
      | mk a b =>
        exact h.enums d (List.mem_of_find?_eq_some h1) (a, b) (List.mem_of_find?_eq_some h2) t
          (List.mem_of_getElem? hg)

theorem getD_ok {o : Option Ty} {d : Ty} (ho : ∀ t, o = some t → p t = true) (hd : p d = true) :
    p (o.getD d) = true := by
  cases o with
  | none => exact hd
  | some t => exact ho t rfl

theorem setField_ok (hp : TyOk p) (d : StructDef) (i : Nat) (sn : String) (hd : ∀ q ∈ d.fields, p q.2 = true) :
    ∀ q ∈ (setField d i (.struct sn)).fields, p q.2 = true := by
  unfold setField
  split
  · intro q hq
    rcases List.mem_or_eq_of_mem_set hq with hq | hq
    · exact hd q hq
    · rw [hq]; exact hp.struct sn
  · exact hd

theorem updateFields_ok (hp : TyOk p) : ∀ (cfs : List (Option String)) (d : StructDef) (i : Nat),
    (∀ q ∈ d.fields, p q.2 = true) → ∀ q ∈ (updateFields d i cfs).fields, p q.2 = true
  | [], d, i, hd => by simpa [updateFields] using hd
  | none :: rest, d, i, hd => by
    simp only [updateFields]; exact updateFields_ok hp rest d (i + 1) hd
  | some sn :: rest, d, i, hd => by
    simp only [updateFields]; exact updateFields_ok hp rest _ (i + 1) (setField_ok hp d i sn hd)

theorem updateFirst_ok (hp : TyOk p) (n : String) (cfs : List (Option String)) : ∀ (ds : List StructDef),
    (∀ d ∈ ds, ∀ q ∈ d.fields, p q.2 = true) → ∀ d ∈ updateFirst n cfs ds, ∀ q ∈ d.fields, p q.2 = true
  | [], _ => by simp [updateFirst]
  | d :: ds, h => by
    simp only [updateFirst]
    split
    · intro d' hd'
      rcases List.mem_cons.mp hd' with hd' | hd'
      · rw [hd']; exact updateFields_ok hp cfs d 0 (h d (List.mem_cons_self ..))
      · exact h d' (List.mem_cons_of_mem _ hd')
    · intro d' hd'
      rcases List.mem_cons.mp hd' with hd' | hd'
      · rw [hd']; exact h d (List.mem_cons_self ..)
      · exact updateFirst_ok hp n cfs ds (fun e he => h e (List.mem_cons_of_mem _ he)) d' hd'

theorem TInv_updateStruct (hp : TyOk p) (st : State) (n : String) (cfs : List (Option String)) (h : TInv p st) :
    TInv p (st.updateStruct n cfs) := by
  unfold State.updateStruct
  split
  · refine ⟨h.newFns, h.liftedFuncs, h.monoFuncs, ?_, h.structs, h.enums⟩
    intro d hd
    rcases List.mem_map.mp hd with ⟨d0, hd0, he⟩
    split at he
    · rw [← he]; exact updateFields_ok hp cfs d0 0 (h.liftedStructs d0 hd0)
    · rw [← he]; exact h.liftedStructs d0 hd0
  · exact ⟨h.newFns, h.liftedFuncs, h.monoFuncs, h.liftedStructs, updateFirst_ok hp n cfs _ h.structs, h.enums⟩

/-! ### what `finishClosure` builds -/

theorem funcParts_ok (hp : TyOk p) (ty : Ty) (h : p ty = true) :
    (∀ t ∈ (funcParts ty).1, p t = true) ∧ p (funcParts ty).2 = true := by
  cases ty with
  | func ps r => exact hp.funcE ps r h
  | _ => exact ⟨fun t ht => (by cases ht), h⟩

theorem lowered_ok : ∀ (ps : List (String × Ty)) (ts : List Ty), (∀ t ∈ ts, p t = true) →
    ∀ q ∈ loweredParams ps ts, p q.2 = true
  | [], ts, _ => by cases ts <;> simp [loweredParams]
  | (x, t) :: ps, [], _ => by simp [loweredParams]
  | (x, t) :: ps, t' :: ts, h => by
    intro q hq
    simp only [loweredParams, List.mem_cons] at hq
    rcases hq with hq | hq
    · rw [hq]; exact h t' (List.mem_cons_self ..)
    · exact lowered_ok ps ts (fun u hu => h u (List.mem_cons_of_mem _ hu)) q hq

theorem captured_ok {sc : Scope} (hs : ScOk p sc) (bound : List String) (body : Expr) :
    ∀ q ∈ collectCaptured sc bound [] body, p q.2 = true := by
  intro q hq
  obtain ⟨entry, hg, he⟩ := captured_types sc bound body q hq
  rw [he]; exact ScOk_get hs hg

theorem allTysList_vars (caps : List (String × Ty)) (h : ∀ q ∈ caps, p q.2 = true) :
    allTysList p (caps.map (fun q => Expr.var q.1 q.2)) = true := by
  induction caps with
  | nil => rfl
  | cons q qs ih =>
    simp only [List.map_cons, allTysList, allTys, Bool.and_eq_true]
    exact ⟨h q (List.mem_cons_self ..), ih (fun r hr => h r (List.mem_cons_of_mem _ hr))⟩

theorem allTys_rebind (sn ep : String) (ety : Ty) (body : Expr) (hety : p ety = true) (hb : allTys p body = true) :
    ∀ (caps : List (String × Ty)) (i : Nat), (∀ q ∈ caps, p q.2 = true) →
      allTys p (rebind sn ep ety body i caps) = true
  | [], i, _ => by simpa [rebind] using hb
  | (c, t) :: rest, i, h => by
    simp only [rebind, allTys, Bool.and_eq_true]
    exact ⟨⟨h (c, t) (List.mem_cons_self ..), hety⟩,
      allTys_rebind sn ep ety body hety hb rest (i + 1) (fun r hr => h r (List.mem_cons_of_mem _ hr))⟩

theorem fieldsOf_ok : ∀ (caps : List (String × Ty)) (i : Nat), (∀ q ∈ caps, p q.2 = true) →
    ∀ q ∈ fieldsOf i caps, p q.2 = true
  | [], i, _ => by simp [fieldsOf]
  | (c, t) :: rest, i, h => by
    intro q hq
    simp only [fieldsOf, List.mem_cons] at hq
    rcases hq with hq | hq
    · rw [hq]; exact h (c, t) (List.mem_cons_self ..)
    · exact fieldsOf_ok rest (i + 1) (fun r hr => h r (List.mem_cons_of_mem _ hr)) q hq

theorem finishClosure_tys (hp : TyOk p) (st : State) (sc : Scope) (params : List (String × Ty)) (ty : Ty)
    (hint : Option String) (body : Expr) (hst : TInv p st) (hs : ScOk p sc) (hty : p ty = true)
    (hb : allTys p body = true) :
    allTys p (finishClosure st sc params ty hint body).1 = true ∧
      p (finishClosure st sc params ty hint body).2.1 = true ∧
      TInv p (finishClosure st sc params ty hint body).2.2 := by
  have hcap := captured_ok hs ((loweredParams params (funcParts ty).1).map (·.1)) body
  have hfp := funcParts_ok hp ty hty
  have hlow := lowered_ok params _ hfp.1
  refine ⟨?val, ?ty, ?newFns, ?liftedFuncs, ?monoFuncs, ?liftedStructs, ?structs, ?enums⟩
  case val =>
    rw [finishClosure_fst]
    simp only [allTys, Bool.and_eq_true]
    exact ⟨hp.struct _, allTysList_vars _ hcap⟩
  case ty => rw [finishClosure_ty]; exact hp.struct _
  case newFns =>
    intro f hf
    rw [finishClosure_newFns] at hf
    rcases List.mem_append.mp hf with hf | hf
    · exact hst.newFns f hf
    · rw [List.mem_singleton.mp hf]
      simp only [fnAllTys, Bool.and_eq_true]
      refine ⟨⟨?_, hfp.2⟩, allTys_rebind _ _ _ _ (hp.struct _) hb _ 0 hcap⟩
      rw [allParamTys_iff]
      intro q hq
      rcases List.mem_cons.mp hq with hq | hq
      · rw [hq]; exact hp.struct _
      · exact hlow q hq
  case liftedFuncs =>
    intro q hq
    rw [finishClosure_liftedFuncs] at hq
    rcases mem_assocInsert _ _ _ _ hq with hq | hq
    · exact hst.liftedFuncs q hq
    · rw [hq]
      apply hp.funcI _ _ _ hfp.2
      intro t ht
      rcases List.mem_map.mp ht with ⟨q', hq', he⟩
      rw [← he]
      rcases List.mem_cons.mp hq' with hq' | hq'
      · rw [hq']; exact hp.struct _
      · exact hlow q' hq'
  case monoFuncs => rw [finishClosure_monoFuncs]; exact hst.monoFuncs
  case liftedStructs =>
    intro d hd
    rw [finishClosure_liftedStructs] at hd
    split at hd
    · rcases List.mem_map.mp hd with ⟨d0, hd0, he⟩
      split at he
      · rw [← he]; exact fieldsOf_ok _ 0 hcap
      · rw [← he]; exact hst.liftedStructs d0 hd0
    · rcases List.mem_append.mp hd with hd | hd
      · exact hst.liftedStructs d hd
      · rw [List.mem_singleton.mp hd]; exact fieldsOf_ok _ 0 hcap
  case structs => rw [finishClosure_structs]; exact hst.structs
  case enums => rw [finishClosure_enums]; exact hst.enums

/-! ### the call node -/

theorem call_ok {cty : Ty} {f' : Expr} {args' : List Expr} (h1 : p cty = true) (h2 : allTys p f' = true)
    (h3 : allTysList p args' = true) : allTys p (.call cty f' args') = true := by
  simp only [allTys, Bool.and_eq_true]; exact ⟨⟨h1, h2⟩, h3⟩

theorem callTail_tys (hp : TyOk p) (st : State) (sc : Scope) (ty : Ty) (f' : Expr) (fty : Ty) (args' : List Expr)
    (hs : ScOk p sc) (hty : p ty = true) (hf : allTys p f' = true) (hfty : p fty = true)
    (ha : allTysList p args' = true) :
    allTys p (callTail st sc ty f' fty args').1 = true ∧ p (callTail st sc ty f' fty args').2.1 = true := by
  cases callTail_cases st sc ty f' fty args' with
  | direct cty hc he =>
    rw [he]
    have hcty : p cty = true := by
      rcases hc with hc | ⟨ps, hc⟩
      · rw [hc]; exact hty
      · rw [hc] at hfty; exact (hp.funcE _ _ hfty).2
    exact ⟨call_ok hcty hf ha, hcty⟩
  | apply _ _ _ _ _ _ hget _ he =>
    rw [he]
    exact ⟨call_ok hty (ScOk_get hs hget)
      (by simp only [allTysList, allTys, Bool.and_eq_true]; exact ⟨hp.struct _, ha⟩), hty⟩

/-! ### the annotation a node recomputes -/

theorem varTy_ok (hp : TyOk p) {st : State} {sc : Scope} (h : TInv p st) (hs : ScOk p sc) (x : String) {ty : Ty}
    (hty : p ty = true) : p (varTy st sc x ty) = true := by
  unfold varTy
  split
  · rename_i entry hget
    split
    · exact hp.struct _
    · exact ScOk_get hs hget
  · split
    · rename_i fty hfn; exact getFunc_ok h hfn
    · exact hty

theorem cgetTy_ok {st : State} (h : TInv p st) (c : Ctor) (i : Nat) {ty : Ty} (hty : p ty = true) :
    p (cgetTy st c i ty) = true := by
  cases c with
  | struct n => exact getD_ok (fun t ht => structFieldTy_ok (n := n) (i := i) h ht) hty
  | «enum» n v k => exact getD_ok (fun t ht => enumFieldTy_ok (n := n) (v := v) (i := i) h ht) hty

theorem projTy_ok (hp : TyOk p) {ety ty : Ty} (idx : Nat) (he : p ety = true) (hty : p ty = true) :
    p (projTy ety idx ty) = true := by
  unfold projTy
  split
  · exact getD_ok (fun t ht => hp.tupleE _ he t (List.mem_of_getElem? ht)) hty
  · exact hty

theorem monoTy_ok (hp : TyOk p) (e : Expr) (h : allTys p e = true) : p (monoTy e) = true := by
  rw [monoTy_eq_getTy]; exact allTys_getTy hp.unit (fun q => primTy_eq q ▸ hp.prim q) e h

/-! ### the induction -/

theorem TInv_pushCtx {st : State} (h : TInv p st) (hint : Option String) : TInv p (pushCtx st hint) := by
  cases hint <;> exact h

def allTysS (p : Ty → Bool) : Src → Bool
  | .e x => allTys p x
  | .l es => allTysList p es
  | .a arms => allTysArms p arms

def TOut (p : Ty → Bool) : Out → Prop
  | .e r => allTys p r.1 = true ∧ p r.2.1 = true ∧ TInv p r.2.2
  | .l r => allTysList p r.1 = true ∧ (∀ t ∈ r.2.1, p t = true) ∧ TInv p r.2.2
  | .a r => allTysArms p r.1 = true ∧ TInv p r.2

theorem Lifted.tys (hp : TyOk p) {st sc s o} (h : Lifted st sc s o) :
    allTysS p s = true → TInv p st → ScOk p sc → TOut p o := by
  induction h with
  | nil => exact fun _ h _ => ⟨rfl, fun t ht => (by cases ht), h⟩
  | anil => exact fun _ h _ => ⟨rfl, h⟩
  | prim => exact fun _ h _ => ⟨rfl, hp.prim _, h⟩
  | tag => exact fun ha h _ => ⟨ha, ha, h⟩
  | var => exact fun ha h hs => ⟨varTy_ok hp h hs _ ha, varTy_ok hp h hs _ ha, h⟩
  | @constr st sc c ty args r _ ih =>
    intro ha h hs
    have ha' := Bool.and_eq_true_iff.mp (show (p ty && allTysList p args) = true from ha)
    obtain ⟨hr, _, hrst⟩ := ih ha'.2 h hs
    refine ⟨band ha'.1 hr, ha'.1, ?_⟩
    cases c with
    | struct n => exact TInv_updateStruct hp _ _ _ hrst
    | «enum» a b i => exact hrst
  | @tuple st sc ty items r _ ih =>
    intro ha h hs
    obtain ⟨hr, hrtys, hrst⟩ := ih (Bool.and_eq_true_iff.mp (show (p ty && allTysList p items) = true from ha)).2 h hs
    exact ⟨band (hp.tupleI _ hrtys) hr, hp.tupleI _ hrtys, hrst⟩
  | @closure st sc ty ps body r hint _ ih =>
    intro ha h hs
    obtain ⟨hty, _, hbody⟩ := and3 (show (p ty && allParamTys p ps && allTys p body) = true from ha)
    have hsc' : ScOk p (closureScope st sc ps ty) :=
      ScOk_foldl_insert (fun q => st.closureStructForTy q.2) _ _ (ScOk_pushLayer hs)
        (lowered_ok ps _ (funcParts_ok hp ty hty).1)
    obtain ⟨hr, _, hrst⟩ := ih hbody (TInv_pushCtx h hint) hsc'
    exact finishClosure_tys hp _ sc ps ty hint _ hrst hs hty hr
  | @letE st sc x v b rv rb _ _ ihv ihb =>
    intro ha h hs
    have ha' := Bool.and_eq_true_iff.mp (show (allTys p v && allTys p b) = true from ha)
    obtain ⟨hrv, hrvty, hrvst⟩ := ihv ha'.1 h hs
    obtain ⟨hrb, hrbty, hrbst⟩ := ihb ha'.2 hrvst (ScOk_insert (ScOk_pushLayer hs) x _ hrvty)
    exact ⟨band hrv hrb, hrbty, hrbst⟩
  | @ite st sc c t e r1 r2 r3 _ _ _ ih1 ih2 ih3 =>
    intro ha h hs
    obtain ⟨hc, ht, he⟩ := and3 (show (allTys p c && allTys p t && allTys p e) = true from ha)
    obtain ⟨hr1, _, hr1st⟩ := ih1 hc h hs
    obtain ⟨hr2, _, hr2st⟩ := ih2 ht hr1st hs
    obtain ⟨hr3, _, hr3st⟩ := ih3 he hr2st hs
    exact ⟨band (band hr1 hr2) hr3, monoTy_ok hp t ht, hr3st⟩
  | @cget st sc c i ty e r _ ih =>
    intro ha h hs
    have ha' := Bool.and_eq_true_iff.mp (show (p ty && allTys p e) = true from ha)
    obtain ⟨hr, _, hrst⟩ := ih ha'.2 h hs
    have hann := cgetTy_ok hrst c i ha'.1
    exact ⟨band hann hr, hann, hrst⟩
  | @proj st sc i ty e r _ ih =>
    intro ha h hs
    have ha' := Bool.and_eq_true_iff.mp (show (p ty && allTys p e) = true from ha)
    obtain ⟨hr, hrty, hrst⟩ := ih ha'.2 h hs
    have hann := projTy_ok hp i hrty ha'.1
    exact ⟨band hann hr, hann, hrst⟩
  | @call st sc ty f args rf ra _ _ ihf iha =>
    intro ha h hs
    obtain ⟨hty, hf, hargs⟩ := and3 (show (p ty && allTys p f && allTysList p args) = true from ha)
    obtain ⟨hrf, hrfty, hrfst⟩ := ihf hf h hs
    obtain ⟨hra, _, hrast⟩ := iha hargs hrfst hs
    obtain ⟨hcall, hcallty⟩ := callTail_tys hp ra.2.2 sc ty _ _ _ hs hty hrf hrfty hra
    rw [TOut, callTail_state]
    exact ⟨hcall, hcallty, hrast⟩
  -- the other nodes copy their annotation (or write `unit`) and rebuild their constructor over the transformed parts
  | _ =>
    intro ha h hs
    simp_all [allTysS, TOut, allTys, allTysList, allTysArms, hp.unit]

theorem transformList_tys (hp : TyOk p) : ∀ (es : List Expr), allTysList p es = true →
    ∀ (st : State) (sc : Scope), TInv p st → ScOk p sc →
      allTysList p (transformList st sc es).1 = true ∧ (∀ t ∈ (transformList st sc es).2.1, p t = true) ∧
        TInv p (transformList st sc es).2.2 :=
  fun es ha st sc => (liftedList es st sc).tys hp ha
theorem transformArms_tys (hp : TyOk p) : ∀ (arms : List Arm), allTysArms p arms = true →
    ∀ (st : State) (sc : Scope), TInv p st → ScOk p sc →
      allTysArms p (transformArms st sc arms).1 = true ∧ TInv p (transformArms st sc arms).2 :=
  fun arms ha st sc => (liftedArms arms st sc).tys hp ha

/-! ### functions and the file -/

theorem liftFn_tys (hp : TyOk p) (st : State) (f : Fn) (h : TInv p st) (hf : fnAllTys p f = true) :
    fnAllTys p (liftFn st f).1 = true ∧ TInv p (liftFn st f).2 := by
  obtain ⟨hfps, hfret, hfbody⟩ := and3 (show (allParamTys p f.params && p f.ret && allTys p f.body) = true from hf)
  have hps := (allParamTys_iff f.params).mp hfps
  have hsc : ScOk p (fnScope st f) :=
    ScOk_foldl_insert (fun q => st.closureStructForTy q.2) _ _ (ScOk_pushLayer ScOk_new) hps
  obtain ⟨hbody, hbodyty, hbodyst⟩ :
      allTys p (fnBody st f).1 = true ∧ p (fnBody st f).2.1 = true ∧ TInv p (fnBody st f).2.2 :=
    (lifted f.body _ (fnScope st f)).tys hp hfbody (TInv_pushCtx h _) hsc
  have hret : p (fnRet st f) = true := by
    unfold fnRet; split
    · exact hbodyty
    · exact hfret
  rw [liftFn_eq]
  refine ⟨?_, hbodyst.newFns, ?_, hbodyst.monoFuncs, hbodyst.liftedStructs, hbodyst.structs, hbodyst.enums⟩
  · simp only [fnAllTys, Bool.and_eq_true]
    exact ⟨⟨hfps, hret⟩, hbody⟩
  · intro q hq
    rcases mem_assocInsert _ _ _ _ hq with hq | hq
    · exact hbodyst.liftedFuncs q hq
    · rw [hq]
      exact hp.funcI _ _ (fun t ht => by
        rcases List.mem_map.mp ht with ⟨q', hq', he⟩
        rw [← he]; exact hps q' hq') hret

theorem TInv_init (env : Env) (h : presHypEnvTys p env = true) : TInv p (initState env) := by
  obtain ⟨hfuncs, hstructs, henums⟩ := and3 h
  refine ⟨fun f hf => (by cases hf), fun q hq => (by cases hq), ?_, fun d hd => (by cases hd), ?_, ?_⟩
  · exact fun q hq => List.all_eq_true.mp hfuncs q hq
  · exact fun d hd q hq => List.all_eq_true.mp (List.all_eq_true.mp hstructs d hd) q hq
  · exact fun d hd v hv t ht =>
      List.all_eq_true.mp (List.all_eq_true.mp (List.all_eq_true.mp henums d hd) v hv) t ht

/-- **C03 for lambda lifting, type-annotation closedness.**  Let `p` be an annotation predicate
    that holds of `unit`, literal types and struct types and is compatible with tuple and function
    types (`TyOk p`; `closedTy` — no type parameter, type application or inference variable — is
    one, `tyOk_closedTy`).  If `p` holds of every type of the lifting environment and of every
    annotation (parameters, result, body) of every input function, then it holds of every
    annotation of every function `lambda_lift` emits (lifted originals and apply functions), and of
    every field of every struct declaration of the lifted program (the generated `closure_env_*`
    structs and the user structs after their closure-holding fields are rewritten). -/
theorem lift_preserves_allTys (p : Ty → Bool) (hp : TyOk p) (env : Env) (fns : List Fn)
    (henv : presHypEnvTys p env = true) (hf : presHypFnsTys p fns = true) :
    (∀ g ∈ (liftFile env fns).1, fnAllTys p g = true) ∧
    (∀ d ∈ (liftFile env fns).2.liftedStructs ++ (liftFile env fns).2.structs, ∀ q ∈ d.fields, p q.2 = true) := by
  have res := liftFile_inv (N := fun _ => True) (fun _ _ h => h) (fun st f h hf _ => liftFn_tys hp st f h hf) env fns
    (TInv_init env henv) (fun f h => List.all_eq_true.mp hf f h) trivial (fun _ h => h.newFns)
  refine ⟨res.1, fun d hd => ?_⟩
  rcases List.mem_append.mp hd with hd | hd
  · exact res.2.liftedStructs d hd
  · exact res.2.structs d hd

/-- the instance C03 uses: the lifted file is `closedTy` in every annotation -/
theorem lift_preserves_closedTy (env : Env) (fns : List Fn)
    (henv : presHypEnvTys closedTy env = true) (hf : presHypFnsTys closedTy fns = true) :
    ∀ g ∈ (liftFile env fns).1, fnAllTys closedTy g = true :=
  (lift_preserves_allTys closedTy tyOk_closedTy env fns henv hf).1

namespace NonVacuity
open Examples
example : presHypEnvTys closedTy env033 = true := by decide +kernel
example : presHypFnsTys closedTy p033.fns = true := by decide +kernel
example : (liftFile env033 p033.fns).1.all (fnAllTys closedTy) = true := lift033_run.2.2.2.2.2
example : presHypEnvTys closedTy env038 = true ∧ presHypFnsTys closedTy p038.fns = true := by decide +kernel
/-- the predicate is not trivially true: a `TParam` annotation in the input is rejected -/
example : presHypFnsTys closedTy [{ name := "f", generics := [], params := [], ret := .unit,
                                     body := .var "x" (.param "T") }] = false := by decide +kernel
end NonVacuity

end AllTys

/-! ## typing: the closure-free part is left untouched -/

theorem tyContainsClosure_nil_all :
    (∀ t, tyContainsClosure [] t = false) ∧ (∀ ts, tyListContainsClosure [] ts = false) := by
  apply tyContainsClosure.mutual_induct
  all_goals intros
  all_goals simp [tyContainsClosure, tyListContainsClosure, *]

theorem tyContainsClosure_nil : ∀ (t : Ty), tyContainsClosure [] t = false := tyContainsClosure_nil_all.1
theorem tyListContainsClosure_nil : ∀ (ts : List Ty), tyListContainsClosure [] ts = false := tyContainsClosure_nil_all.2

theorem closureStructForTy_nil {st : State} (hct : st.closureTypes = []) (t : Ty) :
    st.closureStructForTy t = none := by
  unfold State.closureStructForTy
  cases t <;> simp [hct]

theorem updateFields_none : ∀ (cfs : List (Option String)) (d : StructDef) (i : Nat),
    (∀ c ∈ cfs, c = none) → updateFields d i cfs = d
  | [], d, i, _ => rfl
  | none :: rest, d, i, h => by
    simp only [updateFields]; exact updateFields_none rest d (i + 1) (fun c hc => h c (List.mem_cons_of_mem _ hc))
  | some sn :: rest, d, i, h => by
    have := h (some sn) (List.mem_cons_self ..); cases this

theorem updateFirst_none (n : String) (cfs : List (Option String)) (h : ∀ c ∈ cfs, c = none) :
    ∀ (ds : List StructDef), updateFirst n cfs ds = ds
  | [] => rfl
  | d :: ds => by
    simp only [updateFirst, updateFields_none cfs d 0 h, updateFirst_none n cfs h ds, ite_self]

theorem updateStruct_noop {st : State} (hct : st.closureTypes = []) (n : String) (tys : List Ty) :
    st.updateStruct n (tys.map st.closureStructForTy) = st := by
  have hn : ∀ c ∈ tys.map st.closureStructForTy, c = none := by
    intro c hc
    rcases List.mem_map.mp hc with ⟨t, _, he⟩
    rw [← he]; exact closureStructForTy_nil hct t
  unfold State.updateStruct
  split
  · have : st.liftedStructs.map (fun d => if d.name == n then updateFields d 0 (tys.map st.closureStructForTy) else d)
        = st.liftedStructs := by
      conv => rhs; rw [← List.map_id st.liftedStructs]
      apply List.map_congr_left
      intro d _
      simp only [updateFields_none _ d 0 hn, ite_self, id]
    rw [this]
  · rw [updateFirst_none n _ hn]

theorem callTail_stable {st : State} (hct : st.closureTypes = []) (sc : Scope) (ty : Ty) (f : Expr) (fty : Ty)
    (args : List Expr) (hs : presHypStable st sc f = true) :
    callTail st sc ty f fty args = (.call ty f args, ty, st) := by
  -- every branch but one ends in the direct call, whose result type `X` is `ty` unless `fty`'s result contains a
  -- closure type — and with `closureTypes = []` nothing does (`tyContainsClosure_nil`)
  have hd' : ∀ (X : Ty), X = ty → (Expr.call X f args, X, st) = (Expr.call ty f args, ty, st) := by
    intro X h; rw [h]
  unfold callTail
  dsimp only
  split
  · rename_i name vty
    simp only [presHypStable] at hs
    split
    · rename_i entry hg
      rw [hg] at hs
      simp only [Bool.and_eq_true, Option.isNone_iff_eq_none] at hs
      rw [hs.1, closureStructForTy_nil hct]
      exact hd' _ (by cases fty <;> simp [hct, tyContainsClosure_nil])
    · exact hd' _ (by cases fty <;> simp [hct, tyContainsClosure_nil])
  · exact hd' _ (by cases fty <;> simp [hct, tyContainsClosure_nil])

/-! ### the induction -/

def noClosureS : Src → Bool
  | .e e => noClosure e
  | .l es => noClosureList es
  | .a arms => noClosureArms arms

def stableS (st : State) (sc : Scope) : Src → Bool
  | .e e => presHypStable st sc e
  | .l es => presHypStableList st sc es
  | .a arms => presHypStableArms st sc arms

def sameS (st : State) : Src → Out
  | .e e => .e (e, monoTy e, st)
  | .l es => .l (es, monoTys es, st)
  | .a arms => .a (arms, st)

theorem Lifted.stable {st sc s o} (h : Lifted st sc s o) :
    noClosureS s = true → st.closureTypes = [] → stableS st sc s = true → o = sameS st s := by
  induction h with
  | prim | tag | nil | anil => intros; rfl
  | closure => intro h; simp [noClosureS, noClosure] at h
  | @var st sc x ty =>
    intro _ _ hs
    have : varTy st sc x ty = ty := by
      simp only [stableS, presHypStable] at hs
      unfold varTy
      cases hg : sc.get x with
      | some entry =>
        rw [hg] at hs
        simp only [Bool.and_eq_true, Option.isNone_iff_eq_none] at hs
        dsimp only; rw [hs.1]; exact tyBeq_eq _ _ hs.2
      | none =>
        rw [hg] at hs
        dsimp only at hs ⊢
        cases hf : st.getFunc x with
        | some fty => rw [hf] at hs; exact tyBeq_eq _ _ hs
        | none => rfl
    rw [this]; rfl
  | @constr st sc c ty args r _ ih =>
    intro hnc hct hs
    cases ih hnc hct hs
    cases c with
    | struct n => simp only [sameS, constrSt, monoTy]; rw [updateStruct_noop hct]
    | «enum» a b i => rfl
  | @tuple st sc ty items r _ ih =>
    intro hnc hct hs
    have hs' := Bool.and_eq_true_iff.mp (show (tyBeq (.tuple (monoTys items)) ty && presHypStableList st sc items) = true from hs)
    cases ih hnc hct hs'.2
    simp only [sameS, monoTy]; rw [tyBeq_eq _ _ hs'.1]
  | @letE st sc x v b rv rb _ _ ihv ihb =>
    intro hnc hct hs
    have hnc' := Bool.and_eq_true_iff.mp (show (noClosure v && noClosure b) = true from hnc)
    have hs' := Bool.and_eq_true_iff.mp (show (presHypStable st sc v &&
      presHypStable st (sc.pushLayer.insert x { ty := monoTy v, closureStruct := none }) b) = true from hs)
    cases ihv hnc'.1 hct hs'.1
    have hb := ihb hnc'.2 hct (by simp only [letScope, closureStructForTy_nil hct]; exact hs'.2)
    cases hb; rfl
  | @cget st sc c idx ty e r _ ih =>
    intro hnc hct hs
    have hs' : presHypStable st sc e = true ∧ tyBeq (cgetTy st c idx ty) ty = true := by
      cases c <;> exact Bool.and_eq_true_iff.mp hs
    cases ih hnc hct hs'.1
    simp only [sameS, monoTy]; rw [tyBeq_eq _ _ hs'.2]
  | @proj st sc idx ty e r _ ih =>
    intro hnc hct hs
    have hs' := Bool.and_eq_true_iff.mp (show (presHypStable st sc e && tyBeq (projTy (monoTy e) idx ty) ty) = true from hs)
    cases ih hnc hct hs'.1
    simp only [sameS, monoTy]; rw [tyBeq_eq _ _ hs'.2]
  | @call st sc ty f args rf ra _ _ ihf iha =>
    intro hnc hct hs
    have hnc' := Bool.and_eq_true_iff.mp (show (noClosure f && noClosureList args) = true from hnc)
    have hs' := Bool.and_eq_true_iff.mp (show (presHypStable st sc f && presHypStableList st sc args) = true from hs)
    cases ihf hnc'.1 hct hs'.1
    cases iha hnc'.2 hct hs'.2
    simp only [sameS, monoTy]; rw [callTail_stable hct sc ty f _ args hs'.1]
  -- the other nodes copy their annotation and rebuild their constructor over the (unchanged) parts
  | _ =>
    intro hnc hct hs
    simp_all [noClosureS, stableS, sameS, noClosure, noClosureList, noClosureArms, presHypStable,
      presHypStableList, presHypStableArms, monoTy, monoTys]

theorem transformList_stable : ∀ (es : List Expr), noClosureList es = true → ∀ (st : State) (sc : Scope),
    st.closureTypes = [] → presHypStableList st sc es = true → transformList st sc es = (es, monoTys es, st) :=
  fun es hnc st sc hct hs => Out.l.inj ((liftedList es st sc).stable hnc hct hs)
theorem transformArms_stable : ∀ (arms : List Arm), noClosureArms arms = true → ∀ (st : State) (sc : Scope),
    st.closureTypes = [] → presHypStableArms st sc arms = true → transformArms st sc arms = (arms, st) :=
  fun arms hnc st sc hct hs => Out.a.inj ((liftedArms arms st sc).stable hnc hct hs)

/-- **C03 for lambda lifting, typing — the closure-free part only** (why nothing is claimed for closures:
    `Props/C03pres.lean`).  On an expression without closure nodes, in a pass state where no closure type has been
    registered and whose recomputed annotations are already in place (`presHypStable`), `transform_expr` returns the
    expression itself, its own type and the unchanged state; hence `Wt.errs S Γ`, whatever `S` and `Γ`, is unchanged. -/
theorem lift_preserves_wt_partial (S : Wt.Sig) (Γ : Wt.TyEnv) (st : State) (sc : Scope) (e : Expr)
    (hct : st.closureTypes = []) (hnc : noClosure e = true) (hs : presHypStable st sc e = true) :
    transformExpr st sc e = (e, monoTy e, st) ∧
    Wt.errs S Γ (transformExpr st sc e).1 = Wt.errs S Γ e ∧
    Wt.wt S Γ (transformExpr st sc e).1 = Wt.wt S Γ e := by
  have h := Out.e.inj ((lifted e st sc).stable hnc hct hs)
  rw [h]; exact ⟨rfl, rfl, rfl⟩

/-- the same for a top-level function: a closure-free function lifted before any closure of the
    file is returned unchanged (name, parameters, result type, body), so `Wt.wtFn` is unchanged, and
    no apply function is generated -/
theorem liftFn_preserves_wt_partial (S : Wt.Sig) (st : State) (f : Fn)
    (hnc : noClosure f.body = true) (hs : presHypStableFn st f = true) :
    (liftFn st f).1 = f ∧ Wt.wtFn S (liftFn st f).1 = Wt.wtFn S f ∧
      (liftFn st f).2.newFns = st.newFns ∧ (liftFn st f).2.closureTypes = [] := by
  have hs' : st.closureTypes.isEmpty = true ∧
      presHypStable (pushCtx st (sanitizeEnvName f.name)) (fnScope st f) f.body = true := by
    unfold presHypStableFn at hs
    generalize sanitizeEnvName f.name = c at hs ⊢  -- as in `liftFn_eq`
    exact Bool.and_eq_true_iff.mp hs
  have hct : st.closureTypes = [] := by simpa using hs'.1
  have hct' : (pushCtx st (sanitizeEnvName f.name)).closureTypes = [] := by rw [pushCtx_closureTypes]; exact hct
  have h : fnBody st f = (f.body, monoTy f.body, pushCtx st (sanitizeEnvName f.name)) :=
    Out.e.inj ((lifted f.body _ (fnScope st f)).stable hnc hct' hs'.2)
  have hret : fnRet st f = f.ret := by
    rw [fnRet, h]
    dsimp only
    rw [hct', tyContainsClosure_nil, Bool.and_false]
    rfl
  have h1 : (liftFn st f).1 = f := by rw [liftFn_eq, hret, h]
  have h2 : (liftFn st f).2.newFns = st.newFns ∧ (liftFn st f).2.closureTypes = [] := by
    rw [liftFn_eq, h]
    dsimp only [State.insertFunc]
    exact ⟨pushCtx_newFns st _, hct'⟩
  rw [h1]
  exact ⟨rfl, rfl, h2⟩

namespace NonVacuity
open Examples

/-- `call_int_id` of corpus 033 (`fn call_int_id(f, v) { f(v) }`: closure-free, calls its function
    parameter) lifted first: untouched -/
def callIntId : Fn :=
  { name := "call_int_id", generics := [],
    params := [("f/4", (.func [(.int 32 true)] (.int 32 true))), ("v/5", (.int 32 true))], ret := (.int 32 true),
    body := (.call (.int 32 true) (.var "f/4" (.func [(.int 32 true)] (.int 32 true))) [(.var "v/5" (.int 32 true))]) }
example : noClosure callIntId.body = true ∧ presHypStableFn (initState env033) callIntId = true := by
  decide +kernel
example : (liftFn (initState env033) callIntId).1.body = callIntId.body := by rfl
/-- not vacuous the other way: a variable annotated differently from its binder is re-annotated,
    and `presHypStable` says so -/
example : presHypStable {} ⟨[[("x", ⟨.bool, none⟩)]]⟩ (.var "x" .unit) = false := by decide +kernel
example : (transformExpr {} ⟨[[("x", ⟨.bool, none⟩)]]⟩ (.var "x" .unit)).1 = .var "x" .bool := by rfl
/-- and in a state with a closure type the call through a closure variable IS rewritten (outside
    the theorem's hypotheses: `closureTypes ≠ []`) -/
example : (transformExpr { closureTypes := [("S", "S#apply")] } ⟨[[("g", ⟨.struct "S", some "S"⟩)]]⟩
    (.call .unit (.var "g" (.func [] .unit)) [])).1 =
    .call .unit (.var "S#apply" (.struct "S")) [.var "g" (.struct "S")] := by rfl
end NonVacuity

end Goml.Lift
