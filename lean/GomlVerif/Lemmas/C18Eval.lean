import GomlVerif.Lemmas.C18Scope
/-! Lemmas for C18: the generated bodies (as AST, `genJson` / `genString`) evaluate to `toJson` / `toString`. -/
namespace Goml.Derive

/-! ### the calls `call_to_json` / `call_to_string` emit for a field

Both pick the call by the `ast::TypeExpr` variant's name.  An integer or float type of any width has one of finitely many
names (`TOther` for every other width); what the generated tables hold for those names is checked by evaluation. -/

def intNames : List String :=
  ["TInt8", "TInt16", "TInt32", "TInt64", "TUint8", "TUint16", "TUint32", "TUint64", "TOther"]
def floatNames : List String := ["TFloat32", "TFloat64", "TOther"]
def intHelpers : List String :=
  ["int8_to_string", "int16_to_string", "int32_to_string", "int64_to_string", "uint8_to_string", "uint16_to_string",
   "uint32_to_string", "uint64_to_string"]

theorem variantName_int (b : Nat) (s : Bool) : variantName (.int b s) ∈ intNames := by
  unfold variantName; split <;> first | contradiction | decide

theorem variantName_float (b : Nat) : variantName (.float b) ∈ floatNames := by
  unfold variantName; split <;> first | contradiction | decide

/-- what the generated tables hold for the name `n` of a number type: it is not the string type, has no arm of its own in
    `call_to_json`, and its printer (if any) is one of `printers` -/
structure NumName (printers : String → Bool) (n : String) : Prop where
  notString : (n == "TString") = false
  noJsonArm : Gen.Derive.jsonArms.find? (fun r => r.1 == n) = none
  printer : (lookup2 Gen.Derive.primToString n).all printers = true

theorem intNames_tables {n : String} (hn : n ∈ intNames) : NumName intHelpers.contains n :=
  have h : ∀ n ∈ intNames, (n == "TString") = false ∧ Gen.Derive.jsonArms.find? (fun r => r.1 == n) = none ∧
      (lookup2 Gen.Derive.primToString n).all intHelpers.contains = true := by decide +kernel
  ⟨(h n hn).1, (h n hn).2.1, (h n hn).2.2⟩

theorem floatNames_tables {n : String} (hn : n ∈ floatNames) :
    NumName (fun h => h = "float32_to_string" || h = "float64_to_string") n :=
  have h : ∀ n ∈ floatNames, (n == "TString") = false ∧ Gen.Derive.jsonArms.find? (fun r => r.1 == n) = none ∧
      (lookup2 Gen.Derive.primToString n).all (fun h => h = "float32_to_string" || h = "float64_to_string") = true := by
    decide +kernel
  ⟨(h n hn).1, (h n hn).2.1, (h n hn).2.2⟩

section
variable {Δ : Defs} {ρ : List (String × Val)} {x : String} {v : Val}

theorem evalG_var {s : List Char} (hl : ρ.find? (fun p => p.1 == x) = some (x, .str s)) : evalG Δ ρ (.var x) = some s := by
  simp only [evalG, hl]

theorem evalG_callFn (hl : ρ.find? (fun p => p.1 == x) = some (x, v)) (f : String) :
    evalG Δ ρ (.callFn f (.var x)) = helperSem f v := by
  simp only [evalG, hl]

theorem evalG_callMethod (hl : ρ.find? (fun p => p.1 == x) = some (x, v)) (m : String) :
    evalG Δ ρ (.callMethod (.var x) m) =
      if m = Gen.Derive.toJsonFn then some (toJson Δ v) else if m = Gen.Derive.toStringFn then some (toString Δ v) else none := by
  simp only [evalG, hl]

/-- the printer `primitive_to_string_fn` names for a type prints the type's values as `to_string` does (for numbers that is
    also what `to_json` writes) -/
theorem helperSem_primHelper {t : FTy} {h : String} (hty : hasTy Δ t v = true) (hh : primHelper t = some h) :
    helperSem h v = some (toString Δ v) := by
  cases hasTy_view hty with
  | unit | bool => cases hh; rfl
  | int b s =>
    have := (intNames_tables (variantName_int b s)).printer
    rw [show lookup2 _ _ = some h from hh] at this
    exact if_pos this
  | float b =>
    have := (floatNames_tables (variantName_float b)).printer
    rw [show lookup2 _ _ = some h from hh] at this
    exact if_pos this
  | str | struct | enum => cases hh

/-- the call both derives fall back to: the type's printer if it has one, else the derived method `m` -/
theorem evalG_primOrMethod {t : FTy} {m : String} (hl : ρ.find? (fun p => p.1 == x) = some (x, v)) (hty : hasTy Δ t v = true)
    (hm : evalG Δ ρ (.callMethod (.var x) m) = some (toString Δ v)) :
    evalG Δ ρ (match primHelper t with
      | some h => .callFn h (.var x)
      | none => .callMethod (.var x) m) = some (toString Δ v) := by
  cases hh : primHelper t with
  | some h => exact (evalG_callFn hl h).trans (helperSem_primHelper hty hh)
  | none => exact hm

theorem evalG_callToJson {t : FTy} (hl : ρ.find? (fun p => p.1 == x) = some (x, v)) (hty : hasTy Δ t v = true) :
    evalG Δ ρ (callToJson (.var x) t) = some (toJson Δ v) := by
  have hm : evalG Δ ρ (.callMethod (.var x) Gen.Derive.toJsonFn) = some (toJson Δ v) := evalG_callMethod hl _
  have hp := fun h => evalG_primOrMethod (m := Gen.Derive.toJsonFn) hl hty h
  unfold callToJson
  cases hasTy_view hty with
  | unit => rfl
  | bool | str => exact evalG_callFn hl _
  | int b s => rw [(intNames_tables (variantName_int b s)).noJsonArm]; exact hp hm
  | float b => rw [(floatNames_tables (variantName_float b)).noJsonArm]; exact hp hm
  | struct | enum => exact hm

theorem evalG_callToString {t : FTy} (hl : ρ.find? (fun p => p.1 == x) = some (x, v)) (hty : hasTy Δ t v = true) :
    evalG Δ ρ (callToString (.var x) t) = some (toString Δ v) := by
  have hp := evalG_primOrMethod hl hty (evalG_callMethod hl Gen.Derive.toStringFn)
  unfold callToString
  cases hasTy_view hty with
  | unit | bool | struct | enum => exact hp
  | int b s => rw [(intNames_tables (variantName_int b s)).notString]; exact hp
  | float b => rw [(floatNames_tables (variantName_float b)).notString]; exact hp
  | str => exact evalG_var hl

end

/-- all parts evaluate: their concatenation -/
def joinParts : List (Option (List Char)) → Option (List Char)
  | [] => some []
  | none :: _ => none
  | some a :: rest => match joinParts rest with
    | some b => some (a ++ b)
    | none => none

theorem evalG_foldl (Δ : Defs) (ρ : List (String × Val)) : ∀ (ps : List GExpr) (acc : GExpr),
    evalG Δ ρ (ps.foldl GExpr.concat acc) =
      match evalG Δ ρ acc, joinParts (ps.map (evalG Δ ρ)) with
      | some a, some b => some (a ++ b)
      | _, _ => none
  | [], acc => by
    simp only [List.foldl_nil, List.map_nil, joinParts]
    generalize evalG Δ ρ acc = a
    cases a <;> simp
  | p :: ps, acc => by
    rw [List.foldl_cons, evalG_foldl Δ ρ ps (.concat acc p)]
    simp only [evalG, List.map_cons]
    generalize evalG Δ ρ acc = a
    generalize evalG Δ ρ p = b
    cases a <;> cases b <;> simp only [joinParts] <;> generalize joinParts (ps.map (evalG Δ ρ)) = c <;> cases c <;> simp

theorem evalG_concatParts (Δ : Defs) (ρ : List (String × Val)) (ps : List GExpr) :
    evalG Δ ρ (concatParts ps) = joinParts (ps.map (evalG Δ ρ)) := by
  cases ps with
  | nil => simp [concatParts, evalG, joinParts]
  | cons p ps =>
    simp only [concatParts, evalG_foldl, List.map_cons]
    generalize evalG Δ ρ p = b
    cases b <;> simp only [joinParts] <;> generalize joinParts (ps.map (evalG Δ ρ)) = c <;> cases c <;> simp

theorem joinParts_append (xs ys : List (Option (List Char))) :
    joinParts (xs ++ ys) = match joinParts xs, joinParts ys with
      | some a, some b => some (a ++ b)
      | _, _ => none := by
  induction xs with
  | nil => simp only [List.nil_append, joinParts]; generalize joinParts ys = c; cases c <;> simp
  | cons x xs ih =>
    cases x with
    | none => simp [joinParts]
    | some a =>
      simp only [List.cons_append, joinParts, ih]
      generalize joinParts xs = b
      generalize joinParts ys = c
      cases b <;> cases c <;> simp

def armEnv (binders : List String) (vals : List Val) : List (String × Val) := binders.zip vals

/-- the bindings of an arm: binder `k + j` holds the `j`-th value -/
def Binds (ρ : List (String × Val)) (k : Nat) (vals : List Val) : Prop :=
  ∀ j (h : j < vals.length), ρ.find? (fun p => p.1 == fieldBinder (k + j)) = some (fieldBinder (k + j), vals[j])

theorem binds_tail {ρ : List (String × Val)} {k : Nat} {v : Val} {vs : List Val} (h : Binds ρ k (v :: vs)) : Binds ρ (k + 1) vs := by
  intro j hj
  have := h (j + 1) (by simp; omega)
  simpa [Nat.add_assoc, Nat.add_comm 1 j] using this

theorem binds_zip : ∀ (vals : List Val) (k : Nat),
    Binds (armEnv ((List.range' k vals.length).map fieldBinder) vals) k vals
  | [], _ => by intro j h; simp at h
  | v :: vs, k => by
    intro j hj
    simp only [armEnv, List.length_cons, List.range'_succ, List.map_cons, List.zip_cons_cons, List.find?_cons]
    cases j with
    | zero => simp
    | succ j =>
      have hne : (fieldBinder k == fieldBinder (k + (j + 1))) = false := by
        rw [beq_eq_false_iff_ne]; intro e; have := fieldBinder_inj e; omega
      simp only [hne]
      have := binds_zip vs (k + 1) j (by simpa using hj)
      simpa [armEnv, Nat.add_assoc, Nat.add_comm 1 j] using this

section
variable {call : GExpr → FTy → GExpr} {out : Val → List Char}

theorem Parts.eval {Δ : Defs} {ρ : List (String × Val)}
    (hc : ∀ x v t, ρ.find? (fun p => p.1 == x) = some (x, v) → hasTy Δ t v = true → evalG Δ ρ (call (.var x) t) = some (out v))
    {k ts vs ps o} (h : Parts call out k ts vs ps o) :
    hasTys Δ ts vs = true → Binds ρ k vs → joinParts (ps.map (evalG Δ ρ)) = some o := by
  induction h with
  | nil => intro _ _; rfl
  | lit s _ ih => intro hty hb; simp [joinParts, evalG, ih hty hb]
  | field _ ih =>
    intro hty hb
    simp only [hasTys, Bool.and_eq_true] at hty
    have hv := hc _ _ _ (hb 0 (by simp)) hty.1
    simp only [Nat.add_zero, List.getElem_cons_zero] at hv
    simp [joinParts, hv, ih hty.2 (binds_tail hb)]

/-- an arm `open + parts + close` under the bindings of its binders `__field0 …` -/
theorem arm_eval {Δ : Defs} {ts : List FTy} {vs : List Val} {ps : List GExpr} {o : List Char} (a b : String)
    (hc : ∀ ρ x v t, ρ.find? (fun p => p.1 == x) = some (x, v) → hasTy Δ t v = true → evalG Δ ρ (call (.var x) t) = some (out v))
    (h : Parts call out 0 ts vs ps o) (hty : hasTys Δ ts vs = true) :
    evalG Δ (armEnv ((List.range' 0 ts.length).map fieldBinder) vs) (concatParts ([.lit a] ++ ps ++ [.lit b])) =
      some (a.toList ++ (o ++ b.toList)) := by
  have hb : Binds (armEnv ((List.range' 0 ts.length).map fieldBinder) vs) 0 vs := by
    rw [hasTys_length hty]; exact binds_zip vs 0
  simp [evalG_concatParts, joinParts_append, joinParts, evalG, h.eval (hc _) hty hb]

end

/-- **the generated `to_json` body computes `toJson`** (struct): under the bindings of its arm -/
theorem genJson_struct_eval {Δ : Defs} {n : String} {g : Nat} {fs : List (String × FTy)} {vals : List Val}
    (hl : lookupStruct Δ n = some fs) (hty : hasTys Δ (fs.map (·.2)) vals = true) :
    ∀ arm ∈ (genJson bindFresh (.struct n g fs)).arms,
      evalG Δ (armEnv arm.binders vals) arm.body = some (toJson Δ (.struct n vals)) := by
  intro arm harm
  simp only [genJson, List.mem_singleton] at harm
  subst harm
  by_cases he : fs.isEmpty = true
  · simp [he, evalG, toJson, hl]
  · have hlen : fs.length = vals.length := by simpa using hasTys_length hty
    have := arm_eval "{" "}" (fun _ _ _ _ => evalG_callToJson) (jsonStructParts_parts Δ fs vals 0 hlen) hty
    simpa [he, binders_fresh, toJson, hl] using this

/-- … (enum): the arm of the value's variant -/
theorem genJson_enum_eval {Δ : Defs} {n : String} {g : Nat} {vs : List (String × List FTy)} {idx : Nat} {vn : String}
    {tys : List FTy} {args : List Val}
    (hl : lookupVariant Δ n idx = some (vn, tys)) (hv : vs[idx]? = some (vn, tys)) (hty : hasTys Δ tys args = true) :
    ((genJson bindFresh (.enum n g vs)).arms[idx]?).bind (fun arm => evalG Δ (armEnv arm.binders args) arm.body)
      = some (toJson Δ (.enum n idx args)) := by
  simp only [genJson, List.getElem?_map, hv, Option.map_some, Option.bind_some]
  by_cases he : tys.isEmpty = true
  · simp [he, evalG, toJson, hl]
  · have := arm_eval ("{\"tag\":\"" ++ vn ++ "\",\"fields\":[") "]}" (fun _ _ _ _ => evalG_callToJson)
      (jsonEnumParts_parts Δ tys args 0 (hasTys_length hty)) hty
    simpa [he, enumBinders_eq, toJson, hl] using this

theorem genString_struct_eval {Δ : Defs} {n : String} {g : Nat} {fs : List (String × FTy)} {vals : List Val}
    (hl : lookupStruct Δ n = some fs) (hty : hasTys Δ (fs.map (·.2)) vals = true) :
    ∀ arm ∈ (genString bindFresh (.struct n g fs)).arms,
      evalG Δ (armEnv arm.binders vals) arm.body = some (toString Δ (.struct n vals)) := by
  intro arm harm
  simp only [genString, List.mem_singleton] at harm
  subst harm
  by_cases he : fs.isEmpty = true
  · simp [he, evalG, toString, hl]
  · have hlen : fs.length = vals.length := by simpa using hasTys_length hty
    have := arm_eval (n ++ " { ") " }" (fun _ _ _ _ => evalG_callToString) (stringStructParts_parts Δ fs vals 0 hlen) hty
    simpa [he, binders_fresh, toString, hl] using this

theorem genString_enum_eval {Δ : Defs} {n : String} {g : Nat} {vs : List (String × List FTy)} {idx : Nat} {vn : String}
    {tys : List FTy} {args : List Val}
    (hl : lookupVariant Δ n idx = some (vn, tys)) (hv : vs[idx]? = some (vn, tys)) (hty : hasTys Δ tys args = true) :
    ((genString bindFresh (.enum n g vs)).arms[idx]?).bind (fun arm => evalG Δ (armEnv arm.binders args) arm.body)
      = some (toString Δ (.enum n idx args)) := by
  simp only [genString, List.getElem?_map, hv, Option.map_some, Option.bind_some]
  by_cases he : tys.isEmpty = true
  · simp [he, evalG, toString, hl]
  · have := arm_eval (n ++ "::" ++ vn ++ "(") ")" (fun _ _ _ _ => evalG_callToString)
      (stringEnumParts_parts Δ tys args 0 (hasTys_length hty)) hty
    simpa [he, enumBinders_eq, toString, hl] using this

end Goml.Derive
