import GomlVerif.Lemmas.MonoTy
/-! The work list of `mono()` read generically: the traversal changes the context only by requests for instances of
functions of the program and by failures, the seeds are a fold of requests, one iteration pops and emits. -/
namespace Goml.Mono
open Goml

section
variable (F : List Fn) (σ : Subst) (P : Ctx → Prop)
variable (hV : ∀ x ty c, P c → P (monoVar F σ x ty c).2)
variable (hR : ∀ nty f' args' c, P c → P (resolveCall F nty f' args' c).2)
variable (hF : ∀ (c : Ctx) m, P c → P (c.fail m))

include hV hR hF in
/-- every property of the context that `monoVar`, `resolveCall` and `fail` preserve is preserved by
the whole traversal.  By induction along `monoExpr` itself (`monoExpr.mutual_induct_unfolding`: one case
per row of the definition, the result already unfolded, the parts' results as hypotheses): every row
threads the context through its parts in order; only `var` (`monoVar`), `constr` / `cget` (`fail`) and `callVar` /
`callFn` (`resolveCall`) touch it afterwards. -/
theorem monoExpr_state :
    (∀ e c, P c → P (monoExpr F σ e c).2) ∧ (∀ as c, P c → P (monoArms F σ as c).2) ∧
      ∀ es c, P c → P (monoList F σ es c).2 := by
  refine monoExpr.mutual_induct_unfolding F σ
    (fun _ c r => P c → P r.2) (fun _ c r => P c → P r.2) (fun _ c r => P c → P r.2)
    ?var ?prim ?tag ?constr ?tuple ?array ?closure ?letE ?matchNone ?matchSome ?ite ?while_ ?go ?cget ?un ?bin
    ?callVar ?callFn ?toDyn ?dynCall ?traitCall ?proj ?nil ?cons ?armsNil ?armsCons
  case var => intro x ty c h; exact hV x ty c h
  case constr | cget =>
    intros; rename_i ih h
    dsimp only
    split
    · exact hF _ _ (ih h)
    · exact ih h
  case callVar => intros; rename_i ih h; exact hR _ _ _ _ (ih h)
  case callFn => intros; rename_i ih1 ih2 h; exact hR _ _ _ _ (ih2 (ih1 h))
  case prim | tag | nil | armsNil => intros; assumption
  case tuple | array | closure | go | un | toDyn | proj => intros; rename_i ih h; exact ih h
  case letE | matchNone | while_ | bin | dynCall | traitCall | cons => intros; rename_i ih1 ih2 h; exact ih2 (ih1 h)
  case matchSome | ite | armsCons => intros; rename_i ih1 ih2 ih3 h; exact ih3 (ih2 (ih1 h))

end

theorem entriesBeq_iff : ∀ (a b : List (String × Ty)), entriesBeq a b = true ↔ a = b := by
  intro a
  induction a with
  | nil => intro b; cases b <;> simp [entriesBeq]
  | cons p a ih =>
    intro b
    obtain ⟨k, v⟩ := p
    cases b with
    | nil => simp [entriesBeq]
    | cons q b =>
      obtain ⟨k', v'⟩ := q
      simp [entriesBeq, tyBeq_iff, ih, and_assoc]

theorem ensureInstance_cases (c : Ctx) (n : String) (s : Subst) :
    (ensureInstance c n s).2 = c ∨
    (ensureInstance c n s).2 = { c with instances := c.instances ++ [Inst.mk n (key s) (specName n s)] } ∨
    (ensureInstance c n s).2 = { c with instances := c.instances ++ [Inst.mk n (key s) (specName n s)],
                                        queued := c.queued ++ [(n, key s)],
                                        work := c.work ++ [Work.mk n s (specName n s)] } := by
  simp only [ensureInstance]
  split
  · exact Or.inl rfl
  · split
    · exact Or.inr (Or.inl rfl)
    · exact Or.inr (Or.inr rfl)

theorem ensureInstance_work {c : Ctx} {n : String} {s : Subst} {w : Work} (h : w ∈ (ensureInstance c n s).2.work) :
    w ∈ c.work ∨ w = Work.mk n s (specName n s) := by
  rcases ensureInstance_cases c n s with e | e | e <;> rw [e] at h
  · exact Or.inl h
  · exact Or.inl h
  · simpa using h

theorem ensureInstance_instances {c : Ctx} {n : String} {s : Subst} {i : Inst}
    (h : i ∈ (ensureInstance c n s).2.instances) : i ∈ c.instances ∨ i = Inst.mk n (key s) (specName n s) := by
  rcases ensureInstance_cases c n s with e | e | e <;> rw [e] at h
  · exact Or.inl h
  · simpa using h
  · simpa using h

theorem findInst_some {is : List Inst} {n : String} {k : List (String × Ty)} {i : Inst}
    (h : findInst is n k = some i) : i ∈ is ∧ i.name = n ∧ i.key = k := by
  simp only [findInst] at h
  have hm := List.mem_of_find?_eq_some h
  have hp := List.find?_some h
  simp only [Bool.and_eq_true, beq_iff_eq] at hp
  exact ⟨hm, hp.1, (entriesBeq_iff _ _).1 hp.2⟩

theorem specializeValue_some {F : List Fn} {x : String} {ty : Ty} {c : Ctx} {r : String × Ctx}
    (hs : specializeValue F x ty c = some r) :
    ∃ callee cs, findFn F x = some callee ∧ (cs.any fun p => hasTParam p.2) = false ∧
      r = ensureInstance c callee.name cs := by
  -- `specializeValue` is a chain of guards that each return `none`; only the innermost branch returns `some`
  unfold specializeValue at hs
  split at hs
  · simp at hs
  · rename_i callee hc
    split at hs
    · simp at hs
    · split at hs
      · split at hs
        · simp at hs
        · split at hs
          · simp at hs
          · split at hs
            · simp at hs
            · rename_i cs _
              split at hs
              · simp at hs
              · rename_i hany
                simp only [Option.some.injEq] at hs
                exact ⟨callee, cs, hc, by simpa using hany, hs.symm⟩
      · simp at hs

theorem monoVar_cases (F : List Fn) (σ : Subst) (x : String) (ty : Ty) (c : Ctx) :
    monoVar F σ x ty c = (.var x (substTy σ ty), c) ∨
    ∃ callee cs, findFn F x = some callee ∧ (cs.any fun p => hasTParam p.2) = false ∧
      monoVar F σ x ty c = (.var (ensureInstance c callee.name cs).1 (substTy σ ty), (ensureInstance c callee.name cs).2) := by
  cases hs : specializeValue F x (substTy σ ty) c with
  | none => left; simp only [monoVar, hs]
  | some r =>
    right
    obtain ⟨callee, cs, h1, h2, h3⟩ := specializeValue_some hs
    exact ⟨callee, cs, h1, h2, by simp only [monoVar, hs, h3]⟩

theorem resolveCall_cases (F : List Fn) (nty : Ty) (f' : Expr) (args' : List Expr) (c : Ctx) :
    resolveCall F nty f' args' c = (.call nty f' args', c) ∨
    (∃ m, resolveCall F nty f' args' c = (.call nty f' args', c.fail m)) ∨
    ∃ x fty callee s1 cs, f' = .var x fty ∧ findCallee F x = some callee ∧
      unifyList (callee.params.map (·.2)) (getTys args') [] = some s1 ∧ unify callee.ret nty s1 = some cs ∧
      (cs.any fun p => hasTParam p.2) = false ∧
      resolveCall F nty f' args' c =
        (.call nty (.var (ensureInstance c callee.name cs).1 fty) args', (ensureInstance c callee.name cs).2) := by
  unfold resolveCall
  split
  · rename_i x fty
    split
    · exact Or.inl rfl
    · rename_i callee hc
      split
      · exact Or.inl rfl
      · split
        · exact Or.inr (Or.inl ⟨_, rfl⟩)
        · rename_i s1 hs1
          split
          · exact Or.inr (Or.inl ⟨_, rfl⟩)
          · rename_i cs hcs
            split
            · exact Or.inl rfl
            · rename_i hany
              exact Or.inr (Or.inr ⟨x, fty, callee, s1, cs, rfl, hc, hs1, hcs, by simpa using hany, rfl⟩)
  · exact Or.inl rfl

theorem findFn_isSome_of_mem {F : List Fn} {f : Fn} (h : f ∈ F) : (findFn F f.name).isSome = true := by
  simp only [findFn, List.find?_isSome]
  exact ⟨f, h, by simp⟩

theorem findFn_mem {F : List Fn} {n : String} {f : Fn} (h : findFn F n = some f) : f ∈ F ∧ f.name = n := by
  simp only [findFn] at h
  exact ⟨List.mem_of_find?_eq_some h, by simpa using List.find?_some h⟩

theorem inherentIndex_mem {F : List Fn} {b m : String} {f : Fn} (h : inherentIndex F b m = some f) : f ∈ F := by
  simp only [inherentIndex] at h
  have := List.mem_of_getLast? h
  exact (List.mem_filter.1 this).1

theorem lookupBy_mem {F : List Fn} {n : String} {k : Gen.CalleeLookup} {f : Fn} (h : lookupBy F n k = some f) : f ∈ F := by
  cases k with
  | asSpelled => exact (findFn_mem h).1
  | inherentIndex =>
    simp only [lookupBy] at h
    split at h
    · exact inherentIndex_mem h
    · simp at h

theorem findCallee_mem {F : List Fn} {n : String} {f : Fn} (h : findCallee F n = some f) : f ∈ F := by
  unfold findCallee at h
  obtain ⟨k, _, hk⟩ := List.exists_of_findSome?_eq_some h
  exact lookupBy_mem hk

/-- by the order `mono.rs` uses (`Gen.calleeLookupOrder`, extracted from the source on every run) -/
theorem findCallee_of_findFn {F : List Fn} {n : String} {f : Fn} (h : findFn F n = some f) : findCallee F n = some f := by
  simp [findCallee, Gen.calleeLookupOrder, lookupBy, h]

theorem monoExpr_requests (F : List Fn) (σ : Subst) (P : Ctx → Prop)
    (hE : ∀ c f cs, f ∈ F → (cs.any fun p => hasTParam p.2) = false → P c → P (ensureInstance c f.name cs).2)
    (hF : ∀ (c : Ctx) m, P c → P (c.fail m)) (e : Expr) (c : Ctx) (h : P c) : P (monoExpr F σ e c).2 := by
  refine (monoExpr_state F σ P ?_ ?_ hF).1 e c h
  · intro x ty c h
    rcases monoVar_cases F σ x ty c with e | ⟨callee, cs, hc, hany, e⟩ <;> rw [e]
    · exact h
    · exact hE c callee cs (findFn_mem hc).1 hany h
  · intro nty f' args' c h
    rcases resolveCall_cases F nty f' args' c with e | ⟨m, e⟩ | ⟨x, fty, callee, s1, cs, _, hc, _, _, hany, e⟩ <;> rw [e]
    · exact h
    · exact hF c m h
    · exact hE c callee cs (findCallee_mem hc) hany h

theorem seed_induct {P : Ctx → Prop} (F : List Fn) (h0 : P {})
    (hE : ∀ c f, f ∈ F → fnIsGeneric f = false → P c → P (ensureInstance c f.name []).2) : P (seed F) :=
  List.foldlRecOn _ _ h0 fun c hc f hf =>
    hE c f (List.mem_filter.1 hf).1 (by simpa using (List.mem_filter.1 hf).2) hc

theorem step_none {F : List Fn} {c : Ctx} (hs : step F c = none) : c.work = [] := by
  unfold step at hs
  split at hs
  · assumption
  · split at hs <;> simp at hs

theorem step_some {F : List Fn} {c c' : Ctx} (hs : step F c = some c') : ∃ w rest, c.work = w :: rest ∧
    ((findFn F w.name = none ∧ c' = { c with work := rest }.fail ("unknown function: " ++ w.name)) ∨
     ∃ f, findFn F w.name = some f ∧
       c' = { (monoExpr F w.subst f.body { c with work := rest }).2 with
              out := (monoExpr F w.subst f.body { c with work := rest }).2.out ++
                [{ name := w.spec, generics := [], params := substParams w.subst f.params, ret := substTy w.subst f.ret,
                   body := (monoExpr F w.subst f.body { c with work := rest }).1 }] }) := by
  unfold step at hs
  split at hs
  · simp at hs
  · rename_i w rest hw
    refine ⟨w, rest, hw, ?_⟩
    split at hs <;> simp only [Option.some.injEq] at hs <;> subst hs
    · exact Or.inl ⟨by assumption, rfl⟩
    · exact Or.inr ⟨_, by assumption, rfl⟩

theorem loop_induct {P : Ctx → Prop} {F : List Fn} (hP : ∀ c c', P c → step F c = some c' → P c') :
    ∀ (fuel : Nat) (c c' : Ctx), P c → loop F fuel c = some c' → P c' ∧ c'.work = [] := by
  intro fuel
  induction fuel with
  | zero =>
    intro c c' h hl
    simp only [loop] at hl
    split at hl
    · simp only [Option.some.injEq] at hl; subst hl
      rename_i he
      exact ⟨h, by simpa using he⟩
    · simp at hl
  | succ n ih =>
    intro c c' h hl
    simp only [loop] at hl
    cases hs : step F c with
    | none =>
      simp only [hs, Option.some.injEq] at hl
      subst hl
      exact ⟨h, step_none hs⟩
    | some c1 =>
      simp only [hs] at hl
      exact ih c1 c' (hP c c1 h hs) hl

theorem fail_keeps {P : Ctx → Prop} (hP : ∀ (c : Ctx) e, P c → P { c with err := e }) {c : Ctx} (m : String)
    (h : P c) : P (c.fail m) := by
  unfold Ctx.fail
  cases c.err
  · exact hP c _ h
  · exact h

theorem ensureInstance_out (c : Ctx) (n : String) (s : Subst) : (ensureInstance c n s).2.out = c.out := by
  rcases ensureInstance_cases c n s with e | e | e <;> rw [e]

theorem fail_out (c : Ctx) (m : String) : (c.fail m).out = c.out :=
  fail_keeps (P := fun c' => c'.out = c.out) (fun _ _ h => h) m rfl

theorem monoExpr_out (F : List Fn) (σ : Subst) (e : Expr) (c : Ctx) : (monoExpr F σ e c).2.out = c.out :=
  monoExpr_requests F σ (fun c' => c'.out = c.out) (fun c' f cs _ _ h => by rw [ensureInstance_out]; exact h)
    (fun c' m h => by rw [fail_out]; exact h) e c rfl

theorem seed_out (F : List Fn) : (seed F).out = [] :=
  seed_induct (P := fun c => c.out = []) F rfl fun c f _ _ h => by rw [ensureInstance_out]; exact h

end Goml.Mono
