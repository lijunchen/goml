import GomlVerif.Model.StrLit
/-! For `Model/StrLit.lean`: one `\u` escape; the round trip decode ∘ escape for the canonical and the all-`\u` encoder;
multi-line strings. -/
namespace Goml.StrLit
open Goml.Gen.StrEscapes

/-! The rows of `decodeF` and `acceptsF` overlap, so the equation of a row assumes that the rows above it do not apply; it goes
by the number of the row: `eq_3` is `\u`, `eq_4` a two-character escape, the last one a plain character. -/

theorem decodeF_nil (f : Nat) : decodeF f [] = some [] := by
  cases f <;> rfl

theorem decodeF_plain (f : Nat) (c : Char) (rest : List Char) (h : c ≠ '\\') :
    decodeF (f + 1) (c :: rest) = (decodeF f rest).map (c :: ·) := by
  rw [decodeF.eq_6] <;> simp_all

theorem decodeF_simple (f : Nat) (e : Char) (rest : List Char) (h : e ≠ 'u') :
    decodeF (f + 1) ('\\' :: e :: rest) =
      match simpleEscape e with
      | some c => (decodeF f rest).map (c :: ·)
      | none => none := by
  rw [decodeF.eq_4 _ _ _ (fun _ _ _ _ _ hh _ => h hh)]
  cases simpleEscape e <;> rfl

theorem acceptsF_nil (f : Nat) : acceptsF f [] = true := by
  cases f <;> rfl

theorem acceptsF_plain (f : Nat) (c : Char) (rest : List Char) (h : c ≠ '\\') :
    acceptsF (f + 1) (c :: rest) = (c != '"' && c != '\\' && decide (32 ≤ c.toNat) && acceptsF f rest) := by
  rw [acceptsF.eq_5] <;> simp_all

theorem acceptsF_simple (f : Nat) (e : Char) (rest : List Char) (h : e ≠ 'u') :
    acceptsF (f + 1) ('\\' :: e :: rest) = (lexEscape e && acceptsF f rest) := by
  rw [acceptsF.eq_4 _ _ _ (fun _ _ _ _ _ hh _ => h hh)]

theorem acceptsF_u (f : Nat) (a b c d : Char) (rest : List Char) :
    acceptsF (f + 1) ('\\' :: 'u' :: a :: b :: c :: d :: rest) = ((hex4 a b c d).isSome && acceptsF f rest) :=
  acceptsF.eq_3 f a b c d rest

theorem hex4_control : ∀ n, n < 32 →
    hex4 '0' '0' (hexDigit (n / 16)) (hexDigit (n % 16)) = some n := by decide +kernel

theorem isHigh_iff (n : Nat) : isHighSurrogate n = true ↔ (0xD800 ≤ n ∧ n < 0xDC00) := by
  unfold isHighSurrogate
  rw [Bool.and_eq_true, decide_eq_true_iff, decide_eq_true_iff]
  exact Iff.rfl
theorem isLow_iff (n : Nat) : isLowSurrogate n = true ↔ (0xDC00 ≤ n ∧ n < 0xE000) := by
  unfold isLowSurrogate
  rw [Bool.and_eq_true, decide_eq_true_iff, decide_eq_true_iff]
  exact Iff.rfl
theorem isHigh_false (n : Nat) (h : n < 0xD800 ∨ 0xDC00 ≤ n) : isHighSurrogate n = false := by
  cases hb : isHighSurrogate n with
  | false => rfl
  | true => have := (isHigh_iff n).mp hb; omega
theorem isLow_false (n : Nat) (h : n < 0xDC00 ∨ 0xE000 ≤ n) : isLowSurrogate n = false := by
  cases hb : isLowSurrogate n with
  | false => rfl
  | true => have := (isLow_iff n).mp hb; omega
theorem scalar_some (n : Nat) (h : n < 0xD800 ∨ (0xDFFF < n ∧ n < 0x110000)) : scalar? n = some (Char.ofNat n) := by
  unfold scalar?; rw [if_pos h]
theorem scalar_none (n : Nat) (h : ¬ (n < 0xD800 ∨ (0xDFFF < n ∧ n < 0x110000))) : scalar? n = none := by
  unfold scalar?; rw [if_neg h]

theorem control_not_surrogate (n : Nat) (h : n < 32) : isHighSurrogate n = false ∧ isLowSurrogate n = false :=
  ⟨isHigh_false n (by omega), isLow_false n (by omega)⟩


theorem decodeF_u (f : Nat) (a b c d : Char) (rest : List Char) :
    decodeF (f + 1) ('\\' :: 'u' :: a :: b :: c :: d :: rest) =
      match readU a b c d rest with
      | some (ch, rest') => (decodeF f rest').map (ch :: ·)
      | none => none := by
  rw [decodeF.eq_3]
  rcases readU a b c d rest with _ | ⟨ch, r⟩ <;> rfl

theorem char_valid (c : Char) : c.toNat < 0xD800 ∨ (0xDFFF < c.toNat ∧ c.toNat < 0x110000) := c.valid

theorem scalar_of_char (c : Char) : scalar? c.toNat = some c := by
  rw [scalar_some _ (char_valid c), Char.ofNat_toNat]

theorem char_not_surrogate (c : Char) : isHighSurrogate c.toNat = false ∧ isLowSurrogate c.toNat = false := by
  have := char_valid c
  exact ⟨isHigh_false _ (by omega), isLow_false _ (by omega)⟩

/-- the generated recombination arithmetic is the UTF-16 formula on the whole range of pairs,
and its value is a supplementary-plane scalar value -/
theorem combine_spec (hi lo : Nat) (h1 : highLo ≤ hi) (h2 : hi < highHi) (h3 : lowLo ≤ lo) (h4 : lo < lowHi) :
    combine hi lo = 0x10000 + (hi - 0xD800) * 0x400 + (lo - 0xDC00) ∧
      0x10000 ≤ combine hi lo ∧ combine hi lo ≤ 0x10FFFF := by
  simp only [highLo, highHi, lowLo, lowHi] at h1 h2 h3 h4
  unfold combine
  rw [Nat.shiftLeft_eq]
  have : (2 : Nat) ^ 10 = 1024 := by decide +kernel
  rw [this]
  refine ⟨?_, ?_, ?_⟩ <;> omega

/-- a BMP escape that is not a surrogate denotes its code point -/
theorem readU_bmp (a b c d : Char) (rest : List Char) (n : Nat) (h : hex4 a b c d = some n)
    (hs : n < 0xD800 ∨ 0xDFFF < n) (hb : n < 0x10000) :
    readU a b c d rest = some (Char.ofNat n, rest) := by
  have h1 : isHighSurrogate n = false := isHigh_false n (by omega)
  have h2 : scalar? n = some (Char.ofNat n) := scalar_some n (by omega)
  simp [readU, h, h1, h2]

/-- **surrogate pairs**: for every high surrogate `hi` and every low surrogate `lo`, however their
hexadecimal digits are spelled, the pair of escapes denotes exactly the scalar value
`0x10000 + (hi - 0xD800) * 0x400 + (lo - 0xDC00)` -/
theorem readU_pair (a b c d a' b' c' d' : Char) (rest : List Char) (hi lo : Nat)
    (hh : hex4 a b c d = some hi) (hl : hex4 a' b' c' d' = some lo)
    (h1 : 0xD800 ≤ hi) (h2 : hi < 0xDC00) (h3 : 0xDC00 ≤ lo) (h4 : lo < 0xE000) :
    readU a b c d ('\\' :: 'u' :: a' :: b' :: c' :: d' :: rest) =
      some (Char.ofNat (0x10000 + (hi - 0xD800) * 0x400 + (lo - 0xDC00)), rest) := by
  have hsp := combine_spec hi lo (by simpa [highLo] using h1) (by simpa [highHi] using h2)
    (by simpa [lowLo] using h3) (by simpa [lowHi] using h4)
  have i1 : isHighSurrogate hi = true := (isHigh_iff hi).mpr ⟨h1, h2⟩
  have i2 : isLowSurrogate lo = true := (isLow_iff lo).mpr ⟨h3, h4⟩
  have i3 : scalar? (combine hi lo) = some (Char.ofNat (combine hi lo)) := scalar_some _ (by omega)
  simp only [readU, hh, hl, i1, i2, i3, if_true, Option.map_some]
  rw [hsp.1]

/-- a high surrogate that is not followed by a low-surrogate escape denotes nothing -/
theorem readU_lone_high (a b c d : Char) (rest : List Char) (hi : Nat) (hh : hex4 a b c d = some hi)
    (h1 : 0xD800 ≤ hi) (h2 : hi < 0xDC00)
    (hrest : ∀ a' b' c' d' r lo, rest = '\\' :: 'u' :: a' :: b' :: c' :: d' :: r → hex4 a' b' c' d' = some lo →
      ¬ (0xDC00 ≤ lo ∧ lo < 0xE000)) :
    readU a b c d rest = none := by
  have i1 : isHighSurrogate hi = true := (isHigh_iff hi).mpr ⟨h1, h2⟩
  simp only [readU, hh, i1, if_true]
  split
  · rename_i a' b' c' d' r
    cases hl : hex4 a' b' c' d' with
    | none => rfl
    | some lo =>
      have := hrest a' b' c' d' r lo rfl hl
      have i2 : isLowSurrogate lo = false := isLow_false lo (by omega)
      simp [i2]
  · rfl

/-- a low surrogate that does not follow a high one denotes nothing -/
theorem readU_lone_low (a b c d : Char) (rest : List Char) (lo : Nat) (hl : hex4 a b c d = some lo)
    (h3 : 0xDC00 ≤ lo) (h4 : lo < 0xE000) : readU a b c d rest = none := by
  have i1 : isHighSurrogate lo = false := isHigh_false lo (by omega)
  have i3 : scalar? lo = none := scalar_none lo (by omega)
  simp [readU, hl, i1, i3]

/-- The three ways `escapeChar` writes a character: a two-character escape the lexer admits and the decoder maps back, a
`\u00XX` escape for the other control characters, or the character itself. -/
inductive EscapeCase (c : Char) : Prop
  | simple (e : Char) (notU : e ≠ 'u') (decodes : simpleEscape e = some c) (lexes : lexEscape e = true)
      (eq : escapeChar c = ['\\', e])
  | control (lt : c.toNat < 32)
      (eq : escapeChar c = ['\\', 'u', '0', '0', hexDigit (c.toNat / 16), hexDigit (c.toNat % 16)])
  | plain (notBackslash : c ≠ '\\') (notQuote : c ≠ '"') (ge : 32 ≤ c.toNat) (eq : escapeChar c = [c])

theorem escapeChar_cases (c : Char) : EscapeCase c := by
  by_cases h1 : c = '"'
  · subst h1; exact .simple '"' (by decide +kernel) rfl rfl rfl
  by_cases h2 : c = '\\'
  · subst h2; exact .simple '\\' (by decide +kernel) rfl rfl rfl
  by_cases h3 : c = '\n'
  · subst h3; exact .simple 'n' (by decide +kernel) rfl rfl rfl
  by_cases h4 : c = '\t'
  · subst h4; exact .simple 't' (by decide +kernel) rfl rfl rfl
  by_cases h5 : c = '\r'
  · subst h5; exact .simple 'r' (by decide +kernel) rfl rfl rfl
  have he : escapeChar c = if c.toNat < 32 then
      ['\\', 'u', '0', '0', hexDigit (c.toNat / 16), hexDigit (c.toNat % 16)] else [c] := by
    rw [escapeChar, if_neg h1, if_neg h2, if_neg h3, if_neg h4, if_neg h5]
  by_cases h6 : c.toNat < 32
  · exact .control h6 (by rw [he, if_pos h6])
  · exact .plain h2 h1 (by omega) (by rw [he, if_neg h6])

theorem decodeF_spelt {enc : Char → List Char} {all : List Char → List Char} (hnil : all [] = [])
    (hcons : ∀ c cs, all (c :: cs) = enc c ++ all cs)
    (hstep : ∀ f c rest, decodeF (f + 1) (enc c ++ rest) = (decodeF f rest).map (c :: ·))
    (hpos : ∀ c, 1 ≤ (enc c).length) : ∀ (s : List Char) (f : Nat), (all s).length ≤ f → decodeF f (all s) = some s
  | [], f, _ => by rw [hnil]; exact decodeF_nil f
  | c :: cs, f, hf => by
    rw [hcons, List.length_append] at hf
    have := hpos c
    obtain ⟨f, rfl⟩ : ∃ f', f = f' + 1 := ⟨f - 1, by omega⟩
    rw [hcons, hstep, decodeF_spelt hnil hcons hstep hpos cs f (by omega)]
    rfl

/-- `enc c` may take several steps of the lexer: a surrogate pair takes two -/
theorem acceptsF_spelt {enc : Char → List Char} {all : List Char → List Char} (hnil : all [] = [])
    (hcons : ∀ c cs, all (c :: cs) = enc c ++ all cs)
    (hstep : ∀ c, ∃ k, 1 ≤ k ∧ k ≤ (enc c).length ∧ ∀ f rest, acceptsF (f + k) (enc c ++ rest) = acceptsF f rest) :
    ∀ (s : List Char) (f : Nat), (all s).length ≤ f → acceptsF f (all s) = true
  | [], f, _ => by rw [hnil]; exact acceptsF_nil f
  | c :: cs, f, hf => by
    rw [hcons, List.length_append] at hf
    obtain ⟨k, _, _, hk⟩ := hstep c
    obtain ⟨f, rfl⟩ : ∃ f', f = f' + k := ⟨f - k, by omega⟩
    rw [hcons, hk, acceptsF_spelt hnil hcons hstep cs f (by omega)]

theorem decodeF_escapeChar (f : Nat) (c : Char) (rest : List Char) :
    decodeF (f + 1) (escapeChar c ++ rest) = (decodeF f rest).map (c :: ·) := by
  cases escapeChar_cases c with
  | simple e notU decodes _ eq =>
    rw [eq, List.cons_append, List.cons_append, List.nil_append, decodeF_simple _ _ _ notU, decodes]
  | control lt eq =>
    rw [eq]
    simp only [List.cons_append, List.nil_append]
    rw [decodeF_u, readU_bmp _ _ _ _ _ c.toNat (hex4_control c.toNat lt) (by omega) (by omega)]
    simp only [Char.ofNat_toNat]
  | plain notBackslash _ _ eq => rw [eq]; exact decodeF_plain f c rest notBackslash

theorem length_escapeChar_pos (c : Char) : 1 ≤ (escapeChar c).length := by
  cases escapeChar_cases c with
  | simple _ _ _ _ eq | control _ eq | plain _ _ _ eq => rw [eq]; simp

theorem decodeF_escape : ∀ (s : List Char) (f : Nat), (escape s).length ≤ f → decodeF f (escape s) = some s :=
  decodeF_spelt rfl (fun _ _ => rfl) decodeF_escapeChar length_escapeChar_pos

theorem acceptsF_escapeChar (f : Nat) (c : Char) (rest : List Char) :
    acceptsF (f + 1) (escapeChar c ++ rest) = acceptsF f rest := by
  cases escapeChar_cases c with
  | simple e notU _ lexes eq =>
    rw [eq, List.cons_append, List.cons_append, List.nil_append, acceptsF_simple _ _ _ notU, lexes, Bool.true_and]
  | control lt eq =>
    rw [eq]
    simp only [List.cons_append, List.nil_append]
    rw [acceptsF_u, hex4_control c.toNat lt]
    rfl
  | plain notBackslash notQuote ge eq =>
    rw [eq, List.cons_append, List.nil_append, acceptsF_plain f c rest notBackslash]
    simp [notQuote, notBackslash, ge]

theorem acceptsF_escape : ∀ (s : List Char) (f : Nat), (escape s).length ≤ f → acceptsF f (escape s) = true :=
  acceptsF_spelt rfl (fun _ _ => rfl) fun c =>
    ⟨1, Nat.le_refl _, length_escapeChar_pos c, fun f rest => acceptsF_escapeChar f c rest⟩

theorem decodeF_noBackslash : ∀ (s : List Char) (f : Nat), s.length ≤ f → (∀ c, c ∈ s → c ≠ '\\') →
    decodeF f s = some s := by
  intro s
  induction s with
  | nil => intro f _ _; exact decodeF_nil f
  | cons c cs ih =>
    intro f hf h
    obtain ⟨f, rfl⟩ : ∃ f', f = f' + 1 := ⟨f - 1, by simp at hf; omega⟩
    rw [decodeF_plain f c cs (h c (List.mem_cons_self ..)),
      ih f (by simp at hf; omega) (fun d hd => h d (List.mem_cons_of_mem _ hd))]
    rfl


theorem hexDigit_ok : ∀ k, k < 16 → isHex (hexDigit k) = true ∧ hexVal (hexDigit k) = k := by decide +kernel

theorem hexVal_lt (ch : Char) (hc : isHex ch = true) : hexVal ch < 16 := by
  simp only [isHex, Bool.or_eq_true, Bool.and_eq_true, decide_eq_true_eq] at hc
  have e1 : ('0' : Char).toNat = 48 := rfl
  have e2 : ('9' : Char).toNat = 57 := rfl
  have e3 : ('a' : Char).toNat = 97 := rfl
  have e4 : ('f' : Char).toNat = 102 := rfl
  have e5 : ('A' : Char).toNat = 65 := rfl
  have e6 : ('F' : Char).toNat = 70 := rfl
  simp only [Char.le_def, UInt32.le_iff_toNat_le] at hc
  unfold hexVal
  simp only [Bool.and_eq_true, decide_eq_true_eq, Char.le_def, UInt32.le_iff_toNat_le]
  have t : ∀ x : Char, x.val.toNat = x.toNat := fun _ => rfl
  simp only [t, e1, e2, e3, e4, e5, e6] at hc ⊢
  split
  · omega
  · split <;> omega

theorem hex4_lt {a b c d : Char} {n : Nat} (h : hex4 a b c d = some n) : n < 0x10000 := by
  unfold hex4 at h
  split at h
  · rename_i hx
    simp only [Bool.and_eq_true] at hx
    have := hexVal_lt a hx.1.1.1
    have := hexVal_lt b hx.1.1.2
    have := hexVal_lt c hx.1.2
    have := hexVal_lt d hx.2
    simp only [Option.some.injEq] at h
    omega
  · cases h

theorem hex4_hex4s (n : Nat) (h : n < 65536) :
    hex4 (hexDigit (n / 4096 % 16)) (hexDigit (n / 256 % 16)) (hexDigit (n / 16 % 16)) (hexDigit (n % 16)) = some n := by
  have h3 := hexDigit_ok (n / 4096 % 16) (by omega)
  have h2 := hexDigit_ok (n / 256 % 16) (by omega)
  have h1 := hexDigit_ok (n / 16 % 16) (by omega)
  have h0 := hexDigit_ok (n % 16) (by omega)
  unfold hex4
  rw [h3.1, h3.2, h2.1, h2.2, h1.1, h1.2, h0.1, h0.2]
  simp only [Bool.and_self, if_true, Option.some.injEq]
  omega

theorem decodeF_escapeU (f : Nat) (c : Char) (rest : List Char) :
    decodeF (f + 1) (escapeU c ++ rest) = (decodeF f rest).map (c :: ·) := by
  have hv := char_valid c
  unfold escapeU
  split
  · rename_i hb
    simp only [uesc, hex4s, List.cons_append, List.nil_append]
    rw [decodeF_u, readU_bmp _ _ _ _ _ c.toNat (hex4_hex4s _ hb) (by omega) hb]
    simp only [Char.ofNat_toNat]
  · rename_i hb
    simp only [uesc, hex4s, List.cons_append, List.nil_append]
    rw [decodeF_u, readU_pair _ _ _ _ _ _ _ _ _ _ _ (hex4_hex4s _ (by omega)) (hex4_hex4s _ (by omega))
      (by omega) (by omega) (by omega) (by omega)]
    have : 0x10000 + (0xD800 + (c.toNat - 0x10000) / 0x400 - 0xD800) * 0x400 +
        (0xDC00 + (c.toNat - 0x10000) % 0x400 - 0xDC00) = c.toNat := by omega
    simp only [this, Char.ofNat_toNat]

theorem length_escapeU_pos (c : Char) : 1 ≤ (escapeU c).length := by
  unfold escapeU; split <;> simp [uesc, hex4s]

/-- decode ∘ (encode everything as `\u` escapes, pairs above U+FFFF) = id -/
theorem decodeF_escapeAllU : ∀ (s : List Char) (f : Nat), (escapeAllU s).length ≤ f →
    decodeF f (escapeAllU s) = some s :=
  decodeF_spelt rfl (fun _ _ => rfl) decodeF_escapeU length_escapeU_pos

theorem acceptsF_uesc (f n : Nat) (rest : List Char) (h : n < 65536) :
    acceptsF (f + 1) (uesc n ++ rest) = acceptsF f rest := by
  simp only [uesc, hex4s, List.cons_append, List.nil_append]
  rw [acceptsF_u, hex4_hex4s n h]
  rfl

theorem acceptsF_escapeU (c : Char) :
    ∃ k, 1 ≤ k ∧ k ≤ (escapeU c).length ∧ ∀ f rest, acceptsF (f + k) (escapeU c ++ rest) = acceptsF f rest := by
  have hv := char_valid c
  unfold escapeU
  split
  · rename_i hb
    exact ⟨1, Nat.le_refl _, by simp [uesc, hex4s], fun f rest => acceptsF_uesc f _ rest hb⟩
  · refine ⟨2, by omega, by simp [uesc, hex4s], fun f rest => ?_⟩
    rw [List.append_assoc, acceptsF_uesc (f + 1) _ _ (by omega), acceptsF_uesc f _ _ (by omega)]

theorem acceptsF_escapeAllU : ∀ (s : List Char) (f : Nat), (escapeAllU s).length ≤ f →
    acceptsF f (escapeAllU s) = true :=
  acceptsF_spelt rfl (fun _ _ => rfl) acceptsF_escapeU


theorem splitLines_ne_nil (s : List Char) : splitLines s ≠ [] := by
  induction s with
  | nil => simp [splitLines]
  | cons c rest ih =>
    simp only [splitLines]
    split
    · simp
    · split <;> simp

theorem splitLines_noNL (a : List Char) (h : ∀ c, c ∈ a → c ≠ '\n') : splitLines a = [a] := by
  induction a with
  | nil => rfl
  | cons c rest ih =>
    have hc := h c (List.mem_cons_self ..)
    simp [splitLines, hc, ih (fun d hd => h d (List.mem_cons_of_mem _ hd))]

theorem splitLines_append (a r : List Char) (h : ∀ c, c ∈ a → c ≠ '\n') :
    splitLines (a ++ '\n' :: r) = a :: splitLines r := by
  induction a with
  | nil => simp [splitLines]
  | cons c rest ih =>
    have hc := h c (List.mem_cons_self ..)
    simp [splitLines, hc, ih (fun d hd => h d (List.mem_cons_of_mem _ hd))]

def endsCR : List Char → Bool
  | [] => false
  | ['\r'] => true
  | _ :: rest => endsCR rest

theorem dropCR_id (l : List Char) (h : endsCR l = false) : dropCR l = l := by
  induction l with
  | nil => rfl
  | cons c rest ih =>
    cases rest with
    | nil =>
      by_cases hc : c = '\r'
      · subst hc; simp [endsCR] at h
      · simp [dropCR, hc]
    | cons d rest' =>
      have : endsCR (d :: rest') = false := by
        simpa [endsCR] using h
      simp [dropCR, ih this]

theorem endsCR_append_cons (a : List Char) (c : Char) (l : List Char) :
    endsCR (a ++ c :: l) = endsCR (c :: l) := by
  induction a with
  | nil => rfl
  | cons d rest ih =>
    cases hr : rest ++ c :: l with
    | nil => simp at hr
    | cons e r' => simp [List.cons_append, hr, endsCR, ← ih]

theorem trimStart_blanks (ind rest : List Char) (h : ∀ c, c ∈ ind → c = ' ' ∨ c = '\t') :
    trimStart (ind ++ '\\' :: rest) = '\\' :: rest := by
  induction ind with
  | nil => simp [trimStart]
  | cons c r ih =>
    have hc := h c (List.mem_cons_self ..)
    have ih' := ih (fun d hd => h d (List.mem_cons_of_mem _ hd))
    rcases hc with hc | hc <;> subst hc <;> simp [trimStart, ih']

/-- conditions on one line of a multi-line literal: blanks before the marker, no line break in the
content, no carriage return at its end (a final `\r` belongs to the line terminator) -/
def LineOK (p : List Char × List Char) : Prop :=
  (∀ c, c ∈ p.1 → c = ' ' ∨ c = '\t') ∧ (∀ c, c ∈ p.2 → c ≠ '\n') ∧
    endsCR ('\\' :: p.2) = false

theorem spellLine_noNL (p : List Char × List Char) (h : LineOK p) :
    ∀ c, c ∈ spellLine p.1 p.2 → c ≠ '\n' := by
  intro c hc
  simp only [spellLine, List.mem_append, List.mem_cons] at hc
  rcases hc with hc | hc | hc | hc
  · rcases h.1 c hc with h | h <;> subst h <;> decide +kernel
  · subst hc; decide +kernel
  · subst hc; decide +kernel
  · exact h.2.1 c hc

theorem lowerLine (p : List Char × List Char) (h : LineOK p) :
    stripMarker (trimStart (dropCR (spellLine p.1 p.2))) = some p.2 := by
  have hcr : endsCR (spellLine p.1 p.2) = false := by
    rw [spellLine, endsCR_append_cons]
    have := h.2.2
    cases hp : p.2 with
    | nil => simp [endsCR]
    | cons d r => rw [hp] at this; simpa [endsCR] using this
  rw [dropCR_id _ hcr, spellLine, trimStart_blanks _ _ h.1]
  rfl

theorem splitLines_spell : ∀ (ls : List (List Char × List Char)), ls ≠ [] → (∀ p, p ∈ ls → LineOK p) →
    splitLines (spellLines ls) = ls.map (fun p => spellLine p.1 p.2) := by
  intro ls
  induction ls with
  | nil => intro h; exact absurd rfl h
  | cons p rest ih =>
    intro _ hok
    have hp := hok p (List.mem_cons_self ..)
    cases rest with
    | nil =>
      obtain ⟨i, l⟩ := p
      simp only [spellLines, List.map]
      exact splitLines_noNL _ (spellLine_noNL (i, l) hp)
    | cons q rest' =>
      obtain ⟨i, l⟩ := p
      simp only [spellLines, List.map_cons]
      rw [splitLines_append _ _ (spellLine_noNL (i, l) hp)]
      have := ih (by simp) (fun r hr => hok r (List.mem_cons_of_mem _ hr))
      simp only [List.map_cons] at this
      rw [this]

theorem dropLastEmpty_id : ∀ (ls : List (List Char)), (∀ l, l ∈ ls → l ≠ []) → dropLastEmpty ls = ls := by
  intro ls
  induction ls with
  | nil => intro _; rfl
  | cons l rest ih =>
    intro h
    have hl := h l (List.mem_cons_self ..)
    cases l with
    | nil => exact absurd rfl hl
    | cons c l' =>
      cases rest with
      | nil => rfl
      | cons m rest' =>
        simp only [dropLastEmpty]
        rw [ih (fun x hx => h x (List.mem_cons_of_mem _ hx))]

theorem mapM_lines : ∀ (ls : List (List Char × List Char)), (∀ p, p ∈ ls → LineOK p) →
    mapM? (fun l => stripMarker (trimStart (dropCR l))) (ls.map (fun p => spellLine p.1 p.2)) =
      some (ls.map (·.2)) := by
  intro ls
  induction ls with
  | nil => intro _; rfl
  | cons p rest ih =>
    intro h
    simp only [List.map_cons, mapM?, lowerLine p (h p (List.mem_cons_self ..)),
      ih (fun q hq => h q (List.mem_cons_of_mem _ hq))]

theorem lowerMultiline_spell (ls : List (List Char × List Char)) (hne : ls ≠ [])
    (hok : ∀ p, p ∈ ls → LineOK p) :
    lowerMultiline (spellLines ls) = some (joinLines (ls.map (·.2))) := by
  unfold lowerMultiline
  rw [splitLines_spell ls hne hok, dropLastEmpty_id, mapM_lines ls hok]
  · rfl
  · intro l hl
    simp only [List.mem_map] at hl
    obtain ⟨p, _, rfl⟩ := hl
    simp [spellLine]

end Goml.StrLit
