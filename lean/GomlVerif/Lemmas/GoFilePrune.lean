import GomlVerif.Lemmas.GoFileSim
import GomlVerif.Lemmas.DcePrune
/-!
`Go.Sem` is insensitive to functions that are never reached (used by the file-level lifting of
`dce_preserves` for `prune_dead_functions` and `prune_unused_imports`).

`G'` agrees with `G` on struct declarations and on the functions named in a set `R` that is closed
under "mentions a function of the file" (`PruneRel`); functions outside `R` may be missing in `G'`.
Then, with the SAME fuel, every run whose syntax only mentions functions in `R` and whose values
(environment, heap, spawned calls, arguments) contain no function value outside `R` gives the same
result in `G'` as in `G`, and its result again contains no function value outside `R`
(`prune_all`).  The invariant is needed because function values flow through the heap
(`dyn` vtables) and through variables; it is why this is no reading of the walk `read_all` (`Lemmas/GoSemMono.lean`),
whose `D` / `X` see results only, not the environment and world a run starts from.
-/
namespace Goml.Dce
open Goml.Go
open Goml.Sem (Fail)

mutual
/-- every function value inside the value has a name `ok` accepts -/
def vg (ok : String → Bool) : GVal → Bool
  | .func x => ok x
  | .struct _ fs => vgF ok fs
  | .array vs => vgL ok vs
  | _ => true
def vgF (ok : String → Bool) : List (String × GVal) → Bool
  | [] => true
  | (_, v) :: rest => vg ok v && vgF ok rest
def vgL (ok : String → Bool) : List GVal → Bool
  | [] => true
  | v :: rest => vg ok v && vgL ok rest
end

section
variable {ok : String → Bool}

theorem vgL_iff : ∀ {vs : List GVal}, vgL ok vs = true ↔ ∀ v, v ∈ vs → vg ok v = true
  | [] => by simp [vgL]
  | a :: rest => by simp [vgL, vgL_iff (vs := rest)]

theorem vgL_append {a b : List GVal} (ha : vgL ok a = true) (hb : vgL ok b = true) : vgL ok (a ++ b) = true := by
  rw [vgL_iff] at *
  intro v hv
  rcases List.mem_append.mp hv with h | h
  · exact ha v h
  · exact hb v h

theorem vgL_get {vs : List GVal} {i : Nat} {v : GVal} (h : vgL ok vs = true) (hi : vs[i]? = some v) : vg ok v = true :=
  vgL_iff.1 h _ (List.mem_of_getElem? hi)

theorem vgL_set {vs : List GVal} {v : GVal} (h : vgL ok vs = true) (hv : vg ok v = true) (i : Nat) :
    vgL ok (vs.set i v) = true := by
  rw [vgL_iff] at *
  intro u hu
  rcases List.mem_or_eq_of_mem_set hu with h1 | h1
  · exact h u h1
  · rw [h1]; exact hv

theorem vgL_take {vs : List GVal} (h : vgL ok vs = true) (n : Nat) : vgL ok (vs.take n) = true := by
  rw [vgL_iff] at *
  intro u hu; exact h u (List.mem_of_mem_take hu)

theorem vgL_replicate (n : Nat) {v : GVal} (hv : vg ok v = true) : vgL ok (List.replicate n v) = true := by
  rw [vgL_iff]
  intro u hu
  rw [(List.mem_replicate.mp hu).2]; exact hv

theorem vgF_iff : ∀ {fs : List (String × GVal)}, vgF ok fs = true ↔ ∀ p, p ∈ fs → vg ok p.2 = true
  | [] => by simp [vgF]
  | (x, a) :: rest => by simp [vgF, vgF_iff (fs := rest)]

theorem vgF_lookup {fs : List (String × GVal)} {x : String} {v : GVal} (h : vgF ok fs = true)
    (hl : lookupG fs x = some v) : vg ok v = true := by
  unfold lookupG at hl
  cases hf : fs.find? (·.1 == x) with
  | none => rw [hf] at hl; cases hl
  | some p =>
    rw [hf] at hl
    simp only [Option.some.injEq] at hl
    subst hl
    exact vgF_iff.1 h _ (List.mem_of_find?_eq_some hf)

theorem vgF_update : ∀ {ρ : GEnv} {v : GVal} (x : String), vgF ok ρ = true → vg ok v = true →
    vgF ok (updateG ρ x v) = true
  | [], v, x, _, _ => rfl
  | (y, u) :: rest, v, x, h, hv => by
    simp only [vgF, Bool.and_eq_true] at h
    unfold updateG
    split
    · simp only [vgF, Bool.and_eq_true]; exact ⟨hv, h.2⟩
    · simp only [vgF, Bool.and_eq_true]; exact ⟨h.1, vgF_update x h.2 hv⟩

theorem vgF_setField : ∀ {fs : List (String × GVal)} {v : GVal} (f : String), vgF ok fs = true → vg ok v = true →
    vgF ok (setField fs f v) = true
  | [], v, x, _, _ => rfl
  | (y, u) :: rest, v, x, h, hv => by
    simp only [vgF, Bool.and_eq_true] at h
    unfold setField
    split
    · simp only [vgF, Bool.and_eq_true]; exact ⟨hv, h.2⟩
    · simp only [vgF, Bool.and_eq_true]; exact ⟨h.1, vgF_setField x h.2 hv⟩

theorem vgF_drop {ρ : GEnv} (h : vgF ok ρ = true) (n : Nat) : vgF ok (ρ.drop n) = true := by
  rw [vgF_iff] at *
  intro p hp; exact h p (List.mem_of_mem_drop hp)

theorem vgF_bindG : ∀ (ps : List (String × GTy)) {args : List GVal}, vgL ok args = true →
    vgF ok (bindG ps args) = true
  | [], _, _ => rfl
  | _ :: _, [], _ => rfl
  | p :: ps, a :: as, h => by
    simp only [vgL, Bool.and_eq_true] at h
    have := vgF_bindG ps h.2
    simp only [bindG, List.zip_cons_cons, List.map_cons, vgF, Bool.and_eq_true] at this ⊢
    exact ⟨h.1, this⟩

theorem vg_zeroWith (sf : String → Option (List (String × GTy))) : ∀ (k : Nat) (t : GTy), vg ok (zeroWith sf k t) = true
  | 0, t => by simp [zeroWith, vg]
  | k + 1, t => by
    have hmap : ∀ fs : List (String × GTy), vgF ok (fs.map fun p => (p.1, zeroWith sf k p.2)) = true := by
      intro fs
      rw [vgF_iff]
      intro p hp
      simp only [List.mem_map] at hp
      obtain ⟨q, _, rfl⟩ := hp
      exact vg_zeroWith sf k q.2
    cases t <;> simp only [zeroWith, vg]
    · exact hmap _
    · split
      · simp only [vg]; exact hmap _
      · rfl
    · exact vgL_replicate _ (vg_zeroWith sf k _)

theorem vg_zero (F : GFile) (t : GTy) : vg ok (zero F t) = true := vg_zeroWith _ _ _

end

section
variable {ok : String → Bool}

theorem gbin_good {op : GBin} {a b v : GVal} (h : gbin op a b = .ok v) : vg ok v = true := by
  unfold gbin at h
  split at h <;> (try split at h) <;> first
    | (cases h; rfl)
    | (simp at h; done)
    | (injection h with h; subst h; rfl)

theorem convert_good {ty : GTy} {v r : GVal} (h : convert ty v = .ok r) (hv : vg ok v = true) : vg ok r = true := by
  unfold convert at h
  split at h <;> first
    | (injection h with h; subst h; first | rfl | exact hv)

end

/-- the heap and the spawned calls hold good values only -/
def WG (ok : String → Bool) (w : GWorld) : Prop :=
  vgL ok w.heap.toList = true ∧ ∀ p, p ∈ w.spawned → vg ok p.1 = true ∧ vgL ok p.2 = true

def RG {α : Type} (ok : String → Bool) (P : α → Prop) : GRes α → Prop
  | .ok a w => P a ∧ WG ok w
  | .fail _ _ => True

def sigG (ok : String → Bool) : Sig → Prop
  | .ret v => vg ok v = true
  | _ => True

/-- environment and signal of a block result -/
def PS (ok : String → Bool) (p : GEnv × Sig) : Prop := vgF ok p.1 = true ∧ sigG ok p.2

section
variable {ok : String → Bool}

theorem WG.heap_get {w : GWorld} (h : WG ok w) {l : Nat} {v : GVal} (hl : w.heap[l]? = some v) : vg ok v = true := by
  apply vgL_get h.1 (i := l)
  simpa using hl

theorem WG.push {w : GWorld} (h : WG ok w) {v : GVal} (hv : vg ok v = true) :
    WG ok { w with heap := w.heap.push v } := by
  refine ⟨?_, h.2⟩
  simp only [Array.toList_push]
  exact vgL_append h.1 (by simp [vgL, hv])

theorem WG.set {w : GWorld} (h : WG ok w) {v : GVal} (hv : vg ok v = true) (l : Nat) :
    WG ok { w with heap := w.heap.set! l v } := by
  refine ⟨?_, h.2⟩
  simp only [Array.set!_eq_setIfInBounds, Array.toList_setIfInBounds]
  exact vgL_set h.1 hv l

theorem WG.out {w : GWorld} (h : WG ok w) (s : String) : WG ok { w with out := s } := ⟨h.1, h.2⟩
theorem WG.externs {w : GWorld} (h : WG ok w) (s : List String) : WG ok { w with externs := s } := ⟨h.1, h.2⟩

theorem WG.spawn {w : GWorld} (h : WG ok w) {fv : GVal} {vs : List GVal} (hf : vg ok fv = true) (hv : vgL ok vs = true) :
    WG ok { w with spawned := w.spawned ++ [(fv, vs)] } := by
  refine ⟨h.1, ?_⟩
  intro p hp
  rcases List.mem_append.mp hp with h1 | h1
  · exact h.2 p h1
  · simp only [List.mem_singleton] at h1; subst h1; exact ⟨hf, hv⟩

end

/-- the lock-step statement, as the fields of `PAt` spell it out: the run `x` in `G` and the run `x'` in `G'` give the same
    result, and it is good.  The common result has a name so that `RG.bind` passes it on by substitution. -/
abbrev Lock {α : Type} (ok : String → Bool) (P : α → Prop) (x x' : GRes α) : Prop := ∃ r, x = r ∧ x' = r ∧ RG ok P r

theorem Lock.eq {ok : String → Bool} {α : Type} {P : α → Prop} {x x' : GRes α} (h : Lock ok P x x') : x' = x := by
  obtain ⟨r, rfl, rfl, _⟩ := h; rfl

theorem RG.bind {ok : String → Bool} {α β : Type} {P : α → Prop} {Q : β → Prop} {r1 r1' : GRes α}
    {k k' : α → GWorld → GRes β} (h1 : Lock ok P r1 r1')
    (h2 : ∀ a w, P a → WG ok w → Lock ok Q (k a w) (k' a w)) :
    Lock ok Q (r1.bind k) (r1'.bind k') := by
  obtain ⟨r, rfl, rfl, g⟩ := h1
  cases r1' with
  | fail f w => exact ⟨_, rfl, rfl, trivial⟩
  | ok a w => exact h2 a w g.1 g.2

theorem RG.same {ok : String → Bool} {α : Type} {P : α → Prop} {x : GRes α} (h : RG ok P x) :
    Lock ok P x x := ⟨_, rfl, rfl, h⟩

section
variable {ok : String → Bool}

theorem unTail_good {op : GUn} {v : GVal} {w : GWorld} (hv : vg ok v = true) (hw : WG ok w) :
    RG ok (fun v => vg ok v = true) (unTail op v w) := by
  unfold unTail
  split <;> first
    | trivial
    | exact ⟨rfl, hw⟩
    | exact ⟨rfl, hw.push hv⟩
    | (split <;> first | trivial | exact ⟨hw.heap_get ‹_›, hw⟩)

theorem gbinTail_good {op : GBin} {a b : GVal} {w : GWorld} (hw : WG ok w) :
    RG ok (fun v => vg ok v = true) (gbinTail op a b w) := by
  unfold gbinTail
  cases hg : gbin op a b with
  | ok v => exact ⟨gbin_good hg, hw⟩
  | error f => trivial

theorem lookup_good {fs : List (String × GVal)} {f : String} {w : GWorld} {e : Fail} (hfs : vgF ok fs = true)
    (hw : WG ok w) :
    RG ok (fun v => vg ok v = true) (match lookupG fs f with | some v => GRes.ok v w | none => .fail e w) := by
  cases hl : lookupG fs f with
  | none => trivial
  | some u => exact ⟨vgF_lookup hfs hl, hw⟩

theorem fieldTail_good {f : String} {obj : GExpr} {v : GVal} {w : GWorld} (hv : vg ok v = true) (hw : WG ok w) :
    RG ok (fun v => vg ok v = true) (fieldTail f obj v w) := by
  unfold fieldTail
  split
  · exact lookup_good (by simpa [vg] using hv) hw
  · split
    · rename_i hh
      exact lookup_good (by simpa [vg] using hw.heap_get hh) hw
    · trivial
  · split <;> trivial
  · trivial

theorem get_good {vs : List GVal} {i : Nat} {w : GWorld} {e : Fail} (hvs : vgL ok vs = true) (hw : WG ok w) :
    RG ok (fun v => vg ok v = true) (match vs[i]? with | some v => GRes.ok v w | none => .fail e w) := by
  cases hi : vs[i]? with
  | none => trivial
  | some u => exact ⟨vgL_get hvs hi, hw⟩

theorem indexTail_good {a iv : GVal} {w : GWorld} (ha : vg ok a = true) (hw : WG ok w) :
    RG ok (fun v => vg ok v = true) (indexTail a iv w) := by
  unfold indexTail
  split
  · split
    · trivial
    · split
      · exact get_good (by simpa [vg] using ha) hw
      · split
        · trivial
        · split
          · rename_i hh
            exact get_good (by simpa [vg] using hw.heap_get hh) hw
          · trivial
      · trivial
      · dsimp only; split <;> first | trivial | exact ⟨rfl, hw⟩
      · trivial
  · trivial

theorem castTail_good {F : GFile} {ty : GTy} {v : GVal} {w : GWorld} (hv : vg ok v = true) (hw : WG ok w) :
    RG ok (fun v => vg ok v = true) (castTail F ty v w) := by
  unfold castTail
  split
  · split <;> first | trivial | exact ⟨hv, hw⟩
  · cases hc : convert _ _ with
    | ok r => exact ⟨convert_good hc hv, hw⟩
    | error f => trivial

theorem slitTail_good {F : GFile} {ty : GTy} {fs : List (String × GVal)} {w : GWorld} (hfs : vgF ok fs = true)
    (hw : WG ok w) : RG ok (fun v => vg ok v = true) (slitTail F ty fs w) := by
  refine ⟨?_, hw⟩
  simp only [vg]
  split
  · rw [vgF_iff]
    intro p hp
    simp only [List.mem_map] at hp
    obtain ⟨q, _, rfl⟩ := hp
    simp only []
    cases hl : lookupG fs q.1 with
    | none => simpa using vg_zero F q.2
    | some u => simpa using vgF_lookup hfs hl
  · exact hfs

theorem fieldStore_good {ρ : GEnv} {f : String} {obj : GExpr} {ov v : GVal} {w : GWorld} (hρ : vgF ok ρ = true)
    (ho : vg ok ov = true) (hv : vg ok v = true) (hw : WG ok w) : RG ok (PS ok) (fieldStore ρ f obj ov v w) := by
  unfold fieldStore
  split
  · rename_i l
    split
    · rename_i sn fs hh
      have hst := hw.heap_get hh
      simp only [vg] at hst
      exact ⟨⟨hρ, trivial⟩, hw.set (by simp only [vg]; exact vgF_setField f hst hv) l⟩
    · trivial
  · rename_i sn fs x tx
    have hfs : vgF ok fs = true := by simpa [vg] using ho
    exact ⟨⟨vgF_update x hρ (by simp only [vg]; exact vgF_setField f hfs hv), trivial⟩, hw⟩
  · trivial
  · trivial

end

/-- `G'` is `G` without (some of) the functions outside `R`; `fns` = the function names of `G` -/
structure PruneRel (G G' : GFile) (fns R : Names) : Prop where
  like : FileLike G G'
  keep : ∀ x, x ∈ R → G'.findFunc x = G.findFunc x
  none : ∀ x, G.findFunc x = none → G'.findFunc x = none
  fnsSpec : ∀ x fn, G.findFunc x = some fn → x ∈ fns
  closed : ∀ x fn, x ∈ R → G.findFunc x = some fn → ∀ y, y ∈ calledStmts fns fn.body → y ∈ R

theorem PruneRel.refl {F : GFile} {fns R : Names} (hf : ∀ x fn, F.findFunc x = some fn → x ∈ fns)
    (hc : ∀ x fn, x ∈ R → F.findFunc x = some fn → ∀ y, y ∈ calledStmts fns fn.body → y ∈ R) : PruneRel F F fns R :=
  ⟨FileLike.refl F, fun _ _ => rfl, fun _ h => h, hf, hc⟩

/-- a name that is not a dropped function -/
def okName (fns R : Names) (x : String) : Bool := !fns.contains x || R.contains x

section
variable {G G' : GFile} {fns R : Names}

local notation "okN" => okName fns R

/-- the statement at one fuel: same result in both files, and the result is again free of
    function values outside `R` -/
structure PAt (G G' : GFile) (fns R : Names) (n : Nat) : Prop where
  ev : ∀ {ρ w e}, vgF (okName fns R) ρ = true → WG (okName fns R) w → (∀ y, y ∈ calledExpr fns e → y ∈ R) →
    ∃ r, evalG n G ρ w e = r ∧ evalG n G' ρ w e = r ∧ RG (okName fns R) (fun v => vg (okName fns R) v = true) r
  el : ∀ {ρ w es}, vgF (okName fns R) ρ = true → WG (okName fns R) w → (∀ y, y ∈ calledList fns es → y ∈ R) →
    ∃ r, evalListG n G ρ w es = r ∧ evalListG n G' ρ w es = r ∧ RG (okName fns R) (fun vs => vgL (okName fns R) vs = true) r
  ef : ∀ {ρ w fs}, vgF (okName fns R) ρ = true → WG (okName fns R) w → (∀ y, y ∈ calledFields fns fs → y ∈ R) →
    ∃ r, evalFieldsG n G ρ w fs = r ∧ evalFieldsG n G' ρ w fs = r ∧ RG (okName fns R) (fun vs => vgF (okName fns R) vs = true) r
  cl : ∀ {w f args}, vg (okName fns R) f = true → vgL (okName fns R) args = true → WG (okName fns R) w →
    ∃ r, callG n G w f args = r ∧ callG n G' w f args = r ∧ RG (okName fns R) (fun v => vg (okName fns R) v = true) r
  bl : ∀ {ρ w ss}, vgF (okName fns R) ρ = true → WG (okName fns R) w → (∀ y, y ∈ calledStmts fns ss → y ∈ R) →
    ∃ r, execBlockG n G ρ w ss = r ∧ execBlockG n G' ρ w ss = r ∧ RG (okName fns R) (PS (okName fns R)) r
  ne : ∀ {ρ w ss}, vgF (okName fns R) ρ = true → WG (okName fns R) w → (∀ y, y ∈ calledStmts fns ss → y ∈ R) →
    ∃ r, nestedG n G ρ w ss = r ∧ nestedG n G' ρ w ss = r ∧ RG (okName fns R) (PS (okName fns R)) r
  ex : ∀ {ρ w s}, vgF (okName fns R) ρ = true → WG (okName fns R) w → (∀ y, y ∈ calledStmt fns s → y ∈ R) →
    ∃ r, execG n G ρ w s = r ∧ execG n G' ρ w s = r ∧ RG (okName fns R) (PS (okName fns R)) r
  sw : ∀ {ρ w v cs d}, vgF (okName fns R) ρ = true → WG (okName fns R) w → vg (okName fns R) v = true →
    (∀ y, y ∈ calledCases fns cs → y ∈ R) → (∀ b, d = some b → ∀ y, y ∈ calledStmts fns b → y ∈ R) →
    ∃ r, switchG n G ρ w v cs d = r ∧ switchG n G' ρ w v cs d = r ∧ RG (okName fns R) (PS (okName fns R)) r
  ts : ∀ {ρ w v cs d}, vgF (okName fns R) ρ = true → WG (okName fns R) w → vg (okName fns R) v = true →
    (∀ y, y ∈ calledTCases fns cs → y ∈ R) → (∀ b, d = some b → ∀ y, y ∈ calledStmts fns b → y ∈ R) →
    ∃ r, tswitchG n G ρ w v cs d = r ∧ tswitchG n G' ρ w v cs d = r ∧ RG (okName fns R) (PS (okName fns R)) r

set_option hygiene false in
/-- sub-syntax mentions only what the whole mentions -/
macro "sub" : tactic => `(tactic|
  (intro y hy; apply hs; simp only [calledExpr, calledList, calledFields, calledStmts, calledStmt, calledCases,
     calledTCases, mem_uni]; simp [hy]))

theorem ok_of_var {x : String} {t : GTy} (hs : ∀ y, y ∈ calledExpr fns (.var x t) → y ∈ R) : okName fns R x = true := by
  unfold okName
  by_cases hx : fns.contains x = true
  · have : x ∈ R := hs x (by simp only [calledExpr, hx, if_true]; exact List.mem_cons_self)
    simp [this]
  · have hx' : ¬ x ∈ fns := by simpa using hx
    simp [hx']

/-- an expression without sub-expressions: a variable holds a good value or names a kept function -/
theorem leaf_good {e : GExpr} (he : isLeafG e = true) {ρ : GEnv} {w : GWorld} (n : Nat) (hρ : vgF okN ρ = true)
    (hw : WG okN w) (hs : ∀ y, y ∈ calledExpr fns e → y ∈ R) :
    RG okN (fun v => vg okN v = true) (evalG (n+1) G ρ w e) := by
  cases e <;> first | (cases he; done) | (rw [evalG.eq_def]; simp only)
  case var x t =>
    cases hl : lookupG ρ x with
    | none => exact ⟨ok_of_var hs, hw⟩
    | some v => exact ⟨vgF_lookup hρ hl, hw⟩
  case int v t => split <;> first | trivial | exact ⟨rfl, hw⟩
  case float v t => split <;> exact ⟨rfl, hw⟩
  all_goals exact ⟨rfl, hw⟩

/-- what a call of a name that is no function of the file returns (builtins, conversions, extern
    events) contains no function value that its arguments and the heap did not contain -/
theorem builtin_good {ok : String → Bool} (F : GFile) (n : Nat) (name : String) (args : List GVal) (w : GWorld)
    (hnone : F.findFunc name = none) (ha : vgL ok args = true) (hw : WG ok w) :
    RG ok (fun v => vg ok v = true) (callG (n+1) F w (.func name) args) := by
  have hconv : ∀ (ty : GTy) (v : GVal), vg ok v = true →
      RG ok (fun v => vg ok v = true) (match convert ty v with | .ok r => GRes.ok r w | .error f => GRes.fail f w) := by
    intro ty v hv
    cases hc : convert ty v with
    | ok r => exact ⟨convert_good hc hv, hw⟩
    | error f => trivial
  rw [callG.eq_def]; simp only [hnone]
  split
  all_goals try (first | trivial | exact ⟨rfl, hw⟩ | exact ⟨rfl, hw.out _⟩)
  case h_2 =>  -- strings.ReplaceAll
    split <;> first | trivial | exact ⟨rfl, hw⟩
  case h_11 loc len cap v =>  -- append to a slice
    have hv : vg ok v = true := by
      simp only [vgL, Bool.and_eq_true] at ha; exact ha.2.1
    cases hh : w.heap[loc]? with
    | none => trivial
    | some hvl =>
      have hst := hw.heap_get hh
      cases hvl <;> (try simp only []) <;> try trivial
      rename_i vs
      simp only [vg] at hst
      split
      · exact ⟨rfl, hw.set (by simp only [vg]; exact vgL_set hst hv _) _⟩
      · refine ⟨rfl, hw.push ?_⟩
        simp only [vg]
        exact vgL_append (vgL_append (vgL_take hst _) (by simp [vgL, hv])) (vgL_replicate _ rfl)
  case h_12 v =>  -- append to nil
    have hv : vg ok v = true := by
      simp only [vgL, Bool.and_eq_true] at ha; exact ha.2.1
    refine ⟨rfl, hw.push ?_⟩
    simp only [vg, vgL, Bool.and_eq_true]
    exact ⟨hv, vgL_replicate _ rfl⟩
  case h_13 =>  -- conversions `T(v)` and unknown one-argument callees
    simp only [vgL, Bool.and_eq_true] at ha
    have hv := ha.1
    split
    · exact hconv _ _ hv
    · split
      · exact hconv _ _ hv
      · split
        · exact hconv _ _ hv
        · exact ⟨rfl, hw.externs _⟩

theorem pC (hR : PruneRel G G' fns R) (n : Nat) (ih : PAt G G' fns R n) : ∀ w f args, vg okN f = true →
    vgL okN args = true → WG okN w →
    Lock okN (fun v => vg okN v = true) (callG (n+1) G w f args) (callG (n+1) G' w f args) := by
  intro w f args hf ha hw
  cases f with
  | func name =>
    cases hfind : G.findFunc name with
    | none =>
      have h' := hR.none name hfind
      refine ⟨_, rfl, ?_, builtin_good G n name args w hfind ha hw⟩
      rw [callG.eq_def (fuel := n+1) (F := G), callG.eq_def (fuel := n+1) (F := G')]
      simp only [hfind, h']
    | some fn =>
      have hmem := hR.fnsSpec name fn hfind
      have hRn : name ∈ R := by
        simp only [vg, okName, Bool.or_eq_true, Bool.not_eq_true', List.contains_eq_mem, decide_eq_false_iff_not,
          decide_eq_true_eq] at hf
        rcases hf with hf | hf
        · exact absurd hmem hf
        · exact hf
      have h' : G'.findFunc name = some fn := by rw [hR.keep name hRn]; exact hfind
      by_cases hlen : fn.params.length = args.length
      · rw [callG_some hfind hlen, callG_some h' hlen]
        obtain ⟨r0, runG, runG', good⟩ := ih.bl (ss := fn.body) (vgF_bindG fn.params ha) hw (hR.closed name fn hRn hfind)
        rw [runG, runG']
        refine RG.same ?_
        cases r0 with
        | fail f w' => trivial
        | ok p w' =>
          obtain ⟨ρ', sig⟩ := p
          cases sig
          · exact ⟨rfl, good.2⟩
          · exact ⟨rfl, good.2⟩
          · exact ⟨good.1.2, good.2⟩
      · have har : (fn.params.length != args.length) = true := by simp [hlen]
        rw [callG.eq_def (fuel := n+1) (F := G), callG.eq_def (fuel := n+1) (F := G')]
        simp only [hfind, h', har, if_true]
        exact ⟨_, rfl, rfl, trivial⟩
  | _ => rw [callG.eq_def (fuel := n+1) (F := G), callG.eq_def (fuel := n+1) (F := G')]; exact ⟨_, rfl, rfl, trivial⟩

section
variable (hR : PruneRel G G' fns R) (n : Nat) (ih : PAt G G' fns R n) {ρ : GEnv} {w : GWorld}
  (hρ : vgF (okName fns R) ρ = true) (hw : WG (okName fns R) w)
include ih hρ hw

theorem pL {es : List GExpr} (hs : ∀ y, y ∈ calledList fns es → y ∈ R) :
    Lock okN (fun vs => vgL okN vs = true) (evalListG (n+1) G ρ w es) (evalListG (n+1) G' ρ w es) := by
  cases es with
  | nil => simp only [evalListG_nil]; exact RG.same ⟨rfl, hw⟩
  | cons e rest =>
    simp only [evalListG_cons]
    exact RG.bind (ih.ev hρ hw (by sub)) fun v w1 g1 hw1 => RG.bind (ih.el hρ hw1 (by sub)) fun vs w2 g2 hw2 =>
      RG.same ⟨by simp [vgL, g1, g2], hw2⟩

theorem pF {fs : List GField} (hs : ∀ y, y ∈ calledFields fns fs → y ∈ R) :
    Lock okN (fun vs => vgF okN vs = true) (evalFieldsG (n+1) G ρ w fs) (evalFieldsG (n+1) G' ρ w fs) := by
  cases fs with
  | nil => simp only [evalFieldsG_nil]; exact RG.same ⟨rfl, hw⟩
  | cons fd rest =>
    cases fd
    simp only [evalFieldsG_cons]
    exact RG.bind (ih.ev hρ hw (by sub)) fun v w1 g1 hw1 => RG.bind (ih.ef hρ hw1 (by sub)) fun vs w2 g2 hw2 =>
      RG.same ⟨by simp [vgF, g1, g2], hw2⟩

include hR in
theorem pE {e : GExpr} (hs : ∀ y, y ∈ calledExpr fns e → y ∈ R) :
    Lock okN (fun v => vg okN v = true) (evalG (n+1) G ρ w e) (evalG (n+1) G' ρ w e) := by
  cases e with
  | call t f args =>
    simp only [evalG_call]
    exact RG.bind (ih.ev hρ hw (by sub)) fun fv w1 g1 hw1 => RG.bind (ih.el hρ hw1 (by sub)) fun vs w2 g2 hw2 =>
      ih.cl g1 g2 hw2
  | un op t e =>
    simp only [evalG_un]
    exact RG.bind (ih.ev hρ hw (by sub)) fun v w1 g1 hw1 => RG.same (unTail_good g1 hw1)
  | bin op t l r =>
    simp only [evalG_bin]
    refine RG.bind (ih.ev hρ hw (by sub)) fun a w1 g1 hw1 => ?_
    split
    · exact RG.same ⟨rfl, hw1⟩
    · exact RG.same ⟨rfl, hw1⟩
    · exact ih.ev hρ hw1 (by sub)
    · exact ih.ev hρ hw1 (by sub)
    · exact RG.bind (ih.ev hρ hw1 (by sub)) fun b w2 _ hw2 => RG.same (gbinTail_good hw2)
  | field f t o =>
    simp only [evalG_field]
    exact RG.bind (ih.ev hρ hw (by sub)) fun v w1 g1 hw1 => RG.same (fieldTail_good g1 hw1)
  | index t a i =>
    simp only [evalG_index]
    exact RG.bind (ih.ev hρ hw (by sub)) fun va w1 g1 hw1 => RG.bind (ih.ev hρ hw1 (by sub)) fun vi w2 _ hw2 =>
      RG.same (indexTail_good g1 hw2)
  | cast t e =>
    simp only [evalG_cast, hR.like.castTail]
    exact RG.bind (ih.ev hρ hw (by sub)) fun v w1 g1 hw1 => RG.same (castTail_good g1 hw1)
  | slit t fs =>
    simp only [evalG_slit, hR.like.slitTail]
    exact RG.bind (ih.ef hρ hw (by sub)) fun vs w1 g1 hw1 => RG.same (slitTail_good g1 hw1)
  | alit t es =>
    simp only [evalG_alit]
    refine RG.bind (ih.el hρ hw (by sub)) fun vs w1 g1 hw1 => RG.same ?_
    split
    · exact ⟨rfl, hw1.push (by simpa [vg] using g1)⟩
    · exact ⟨by simpa [vg] using g1, hw1⟩
  | blocke t ss e =>
    simp only [evalG_blocke]
    refine RG.bind (ih.bl hρ hw (by cases e <;> sub)) fun p w1 g1 hw1 => ?_
    obtain ⟨ρ', sig⟩ := p
    cases sig <;> cases e <;> first
      | exact RG.same ⟨rfl, hw1⟩ | exact ih.ev g1.1 hw1 (by sub) | exact RG.same trivial | exact RG.same ⟨g1.2, hw1⟩
  | _ => rw [evalG_leaf rfl n n G' G]; exact RG.same (leaf_good rfl n hρ hw hs)

theorem pB {ss : List GStmt} (hs : ∀ y, y ∈ calledStmts fns ss → y ∈ R) :
    Lock okN (PS okN) (execBlockG (n+1) G ρ w ss) (execBlockG (n+1) G' ρ w ss) := by
  cases ss with
  | nil => simp only [execBlockG_nil]; exact RG.same ⟨⟨hρ, trivial⟩, hw⟩
  | cons s rest =>
    simp only [execBlockG_cons]
    refine RG.bind (ih.ex hρ hw (by sub)) fun p w1 g1 hw1 => ?_
    split
    · exact ih.bl g1.1 hw1 (by sub)
    · exact RG.same ⟨g1, hw1⟩

theorem pN {ss : List GStmt} (hs : ∀ y, y ∈ calledStmts fns ss → y ∈ R) :
    Lock okN (PS okN) (nestedG (n+1) G ρ w ss) (nestedG (n+1) G' ρ w ss) := by
  simp only [nestedG_eq]
  exact RG.bind (ih.bl hρ hw hs) fun p w1 g1 hw1 => RG.same ⟨⟨vgF_drop g1.1 _, g1.2⟩, hw1⟩

theorem runOptG_p {d : Option (List GStmt)} (hd : ∀ b, d = some b → ∀ y, y ∈ calledStmts fns b → y ∈ R) :
    Lock okN (PS okN) (runOptG n G ρ w d) (runOptG n G' ρ w d) := by
  cases d with
  | none => exact RG.same ⟨⟨hρ, trivial⟩, hw⟩
  | some b => exact ih.ne hρ hw (hd b rfl)

theorem pS {v : GVal} {cs : List GCase} {d : Option (List GStmt)} (hv : vg okN v = true)
    (hs : ∀ y, y ∈ calledCases fns cs → y ∈ R) (hd : ∀ b, d = some b → ∀ y, y ∈ calledStmts fns b → y ∈ R) :
    Lock okN (PS okN) (switchG (n+1) G ρ w v cs d) (switchG (n+1) G' ρ w v cs d) := by
  cases cs with
  | nil => simp only [switchG_nil]; exact runOptG_p n ih hρ hw hd
  | cons c rest =>
    cases c
    simp only [switchG_cons]
    refine RG.bind (ih.ev hρ hw (by sub)) fun cv w1 _ hw1 => ?_
    split
    · exact ih.ne hρ hw1 (by sub)
    · exact ih.sw hρ hw1 hv (by sub) hd

theorem pT {v : GVal} {cs : List GTCase} {d : Option (List GStmt)} (hv : vg okN v = true)
    (hs : ∀ y, y ∈ calledTCases fns cs → y ∈ R) (hd : ∀ b, d = some b → ∀ y, y ∈ calledStmts fns b → y ∈ R) :
    Lock okN (PS okN) (tswitchG (n+1) G ρ w v cs d) (tswitchG (n+1) G' ρ w v cs d) := by
  cases cs with
  | nil => simp only [tswitchG_nil]; exact runOptG_p n ih hρ hw hd
  | cons c rest =>
    cases c
    simp only [tswitchG_cons]
    split
    · exact ih.ne hρ hw (by sub)
    · exact ih.ts hρ hw hv (by sub) hd

include hR in
theorem pX {s : GStmt} (hs : ∀ y, y ∈ calledStmt fns s → y ∈ R) :
    Lock okN (PS okN) (execG (n+1) G ρ w s) (execG (n+1) G' ρ w s) := by
  have same : ∀ {ρ' : GEnv} {w' : GWorld}, vgF okN ρ' = true → WG okN w' →
      Lock okN (PS okN) (GRes.ok (ρ', Sig.normal) w') (GRes.ok (ρ', Sig.normal) w') :=
    fun h1 h2 => RG.same ⟨⟨h1, trivial⟩, h2⟩
  have stuck : ∀ {f : Fail} {w' : GWorld},
      Lock okN (PS okN) (GRes.fail (α := GEnv × Sig) f w') (GRes.fail f w') := RG.same trivial
  cases s with
  | expr e =>
    simp only [execG_expr]
    exact RG.bind (ih.ev hρ hw (by sub)) fun _ _ _ hw1 => same hρ hw1
  | go c =>
    simp only [execG_go]
    cases c <;> first | exact stuck | skip
    refine RG.bind (ih.ev hρ hw (by sub)) fun fv w1 g1 hw1 => RG.bind (ih.el hρ hw1 (by sub)) fun vs w2 g2 hw2 => ?_
    split
    · exact RG.bind (ih.cl g1 g2 hw2) fun _ _ _ hw3 => same hρ hw3
    · exact same hρ (hw2.spawn g1 g2)
  | varDecl x ty v =>
    simp only [execG_varDecl, hR.like.zero]
    split
    · exact stuck
    · cases v with
      | none => exact same (by simp only [vgF, Bool.and_eq_true]; exact ⟨vg_zero G ty, hρ⟩) hw
      | some e =>
        exact RG.bind (ih.ev hρ hw (by sub)) fun v w1 g1 hw1 =>
          same (by simp only [vgF, Bool.and_eq_true]; exact ⟨g1, hρ⟩) hw1
  | assign x e =>
    simp only [execG_assign]
    refine RG.bind (ih.ev hρ hw (by sub)) fun v w1 g1 hw1 => same ?_ hw1
    split
    · exact hρ
    · exact vgF_update x hρ g1
  | fieldAssign t e =>
    simp only [execG_fieldAssign]
    cases t <;> first | exact stuck | skip
    exact RG.bind (ih.ev hρ hw (by sub)) fun ov w1 g1 hw1 => RG.bind (ih.ev hρ hw1 (by sub)) fun v w2 g2 hw2 =>
      RG.same (fieldStore_good hρ g1 g2 hw2)
  | ptrAssign p e =>
    simp only [execG_ptrAssign]
    refine RG.bind (ih.ev hρ hw (by sub)) fun pv w1 g1 hw1 => ?_
    split
    · exact RG.bind (ih.ev hρ hw1 (by sub)) fun v w2 g2 hw2 => same hρ (hw2.set g2 _)
    all_goals exact stuck
  | indexAssign a i e =>
    simp only [execG_indexAssign]
    cases a <;> first | exact stuck | skip
    rename_i x tx
    refine RG.bind (ih.ev hρ hw (by sub)) fun iv w1 g1 hw1 => ?_
    split
    · rename_i vs _ _ k hl
      have hav := vgF_lookup hρ hl
      refine RG.bind (ih.ev hρ hw1 (by sub)) fun v w2 g2 hw2 => RG.same ?_
      split
      · trivial
      · exact ⟨⟨vgF_update x hρ (by simp only [vg] at hav ⊢; exact vgL_set hav g2 _), trivial⟩, hw2⟩
    · exact stuck
  | ret e =>
    simp only [execG_ret]
    cases e with
    | none => exact RG.same ⟨⟨hρ, rfl⟩, hw⟩
    | some e => exact RG.bind (ih.ev hρ hw (by sub)) fun v w1 g1 hw1 => RG.same ⟨⟨hρ, g1⟩, hw1⟩
  | ite c t e =>
    have hc : ∀ y, y ∈ calledExpr fns c → y ∈ R := by cases e <;> sub
    have ht : ∀ y, y ∈ calledStmts fns t → y ∈ R := by cases e <;> sub
    simp only [execG_ite]
    refine RG.bind (ih.ev hρ hw hc) fun cv w1 g1 hw1 => ?_
    split
    · exact ih.ne hρ hw1 ht
    · exact runOptG_p n ih hρ hw1 (by intro b hb; subst hb; sub)
    · exact stuck
  | loop body =>
    rw [execG_loop n G, execG_loop n G']
    refine RG.bind (ih.ne hρ hw (by sub)) fun p w1 g1 hw1 => ?_
    split
    · exact ih.ex g1.1 hw1 hs
    · exact same g1.1 hw1
    · exact RG.same ⟨g1, hw1⟩
  | brk => simp only [execG_brk]; exact RG.same ⟨⟨hρ, trivial⟩, hw⟩
  | «switch» e cs d =>
    have hee : ∀ y, y ∈ calledExpr fns e → y ∈ R := by cases d <;> sub
    have hcs : ∀ y, y ∈ calledCases fns cs → y ∈ R := by cases d <;> sub
    simp only [execG_switch]
    exact RG.bind (ih.ev hρ hw hee) fun v w1 g1 hw1 => ih.sw hρ hw1 g1 hcs (by intro b hb; subst hb; sub)
  | tswitch bind e cs d =>
    have hcs : ∀ y, y ∈ calledTCases fns cs → y ∈ R := by cases d <;> sub
    have hdd : ∀ b, d = some b → ∀ y, y ∈ calledStmts fns b → y ∈ R := by intro b hb; subst hb; sub
    have hee : ∀ y, y ∈ calledExpr fns e → y ∈ R := by cases d <;> sub
    simp only [execG_tswitch]
    refine RG.bind (ih.ev hρ hw hee) fun v w1 g1 hw1 => ?_
    have hb : vgF okN (bindEnvG bind v ρ) = true := by
      unfold bindEnvG
      split
      · split
        · exact hρ
        · simp only [vgF, Bool.and_eq_true]; exact ⟨g1, hρ⟩
      · exact hρ
    exact RG.bind (ih.ts hb hw1 g1 hcs hdd) fun p w2 g2 hw2 => RG.same ⟨⟨vgF_drop g2.1 _, g2.2⟩, hw2⟩

end

theorem p0 : PAt G G' fns R 0 := by
  constructor <;> intros
  all_goals
    simp only [evalG_zero, evalListG_zero, evalFieldsG_zero, callG_zero, execBlockG_zero, nestedG_zero, execG_zero,
      switchG_zero, tswitchG_zero]
    exact ⟨_, rfl, rfl, trivial⟩

/-- **lock-step insensitivity to unreached functions**, for every fuel -/
theorem prune_all (hR : PruneRel G G' fns R) : ∀ n, PAt G G' fns R n
  | 0 => p0
  | n + 1 =>
    have ih := prune_all hR n
    { ev := fun hρ hw hs => pE hR n ih hρ hw hs
      el := fun hρ hw hs => pL n ih hρ hw hs
      ef := fun hρ hw hs => pF n ih hρ hw hs
      cl := fun hf ha hw => pC hR n ih _ _ _ hf ha hw
      bl := fun hρ hw hs => pB n ih hρ hw hs
      ne := fun hρ hw hs => pN n ih hρ hw hs
      ex := fun hρ hw hs => pX hR n ih hρ hw hs
      sw := fun hρ hw hv hs hd => pS n ih hρ hw hv hs hd
      ts := fun hρ hw hv hs hd => pT n ih hρ hw hv hs hd }

end

end Goml.Dce
