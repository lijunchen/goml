import GomlVerif.Lemmas.C06Main
/-!
The all-literal integer column (for `int_nonexhaustive_rejected`) and the glue used by the non-vacuity examples of
`Props/C06.lean`.
-/
namespace Goml.Match
open Goml Goml.Sem

variable {β : Type}

theorem litKeys_ok_of_all {okP : Prim → Bool} {bv : String} : ∀ (rows : List (Row β)),
    (∀ r ∈ rows, ∃ p t cs, removeCol bv r.cols = some (.prim p t, cs) ∧ okP p = true) →
    ∃ keys, litKeys okP bv rows = .ok keys := by
  intro rows
  induction rows with
  | nil => intro _; exact ⟨[], rfl⟩
  | cons r rs ih =>
    intro h
    obtain ⟨ks, hks⟩ := ih (fun q hq => h q (by simp [hq]))
    obtain ⟨p, t, cs, hr, hp⟩ := h r (by simp)
    refine ⟨p :: ks.filter (fun k => k ≠ p), ?_⟩
    simp only [litKeys, hks, hr, hp, if_true]

theorem specDflt_all_drop {okP : Prim → Bool} {bv : String} : ∀ (rows : List (Row β)),
    (∀ r ∈ rows, ∃ p t cs, removeCol bv r.cols = some (.prim p t, cs) ∧ okP p = true) →
    filterMapE (specDflt okP bv) rows = .ok [] := by
  intro rows
  induction rows with
  | nil => intro _; rfl
  | cons r rs ih =>
    intro h
    have := ih (fun q hq => h q (by simp [hq]))
    obtain ⟨p, t, cs, hr, hp⟩ := h r (by simp)
    simp only [filterMapE, specDflt, hr, hp, if_true, this]

def freshB (x : String) (rows : List (Row Nat)) : Bool :=
  rows.all (fun r => r.cols.all (fun c => c.1 = x) && r.binds.isEmpty)

theorem fresh_of_freshB {g : Nat → String} {x : String} {rows : List (Row Nat)} (h : freshB x rows = true)
    (hx : ∀ j, g j ≠ x) : ∀ r ∈ rows, RowFresh g 0 r := by
  intro r hr
  simp only [freshB, List.all_eq_true, Bool.and_eq_true, decide_eq_true_eq, List.isEmpty_iff] at h
  obtain ⟨h1, h2⟩ := h r hr
  refine ⟨fun c hc j _ => ?_, fun b hb => by rw [h2] at hb; cases hb⟩
  rw [h1 c hc]; exact hx j

def okTree : Option (M (DT Nat × Nat)) → Bool
  | some (.ok r) => leavesOK r.1
  | _ => false

theorem okTree_elim {o : Option (M (DT Nat × Nat))} (h : okTree o = true) :
    ∃ t n', o = some (.ok (t, n')) ∧ leavesOK t = true := by
  cases o with
  | none => simp [okTree] at h
  | some r =>
    cases r with
    | error e => simp [okTree] at h
    | ok r => exact ⟨r.1, r.2, rfl, h⟩

end Goml.Match
