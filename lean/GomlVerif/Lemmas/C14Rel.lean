import GomlVerif.Lemmas.C14Alpha
import GomlVerif.Lemmas.ValRel
import GomlVerif.Lemmas.SemStatus
/-! Lemmas for C14: the relation between the values of two runs whose programs differ by a per-function renaming
of bound names.  A closure value carries its body and its captured environment, so the values of the two runs are
not equal; they are related: closures whose bodies are renamings of each other (`aeE σ`) under environments that
are related name by name (`σ`) and value by value.  Everything observable (stdout, way of ending, extern events) is
equal.  Builtins take related arguments and related worlds to related results. -/
namespace Goml.Alpha
open Goml Goml.Sem

mutual
/-- `VRel v' v`: `v'` is the value the renamed run holds where the original run holds `v`.
Mind the order (transformed, original): `Lift.VRel` and `MonoSim.VRel` take (original, transformed), which is why
their `valEq_rel` need a `.symm` where the one here needs none. -/
inductive VRel : Val → Val → Prop
  | unit : VRel .unit .unit
  | bool (b : Bool) : VRel (.bool b) (.bool b)
  | int (n : Nat) (s : Bool) (v : Int) : VRel (.int n s v) (.int n s v)
  | float (n : Nat) (x : Float) : VRel (.float n x) (.float n x)
  | str (s : String) : VRel (.str s) (.str s)
  | tuple {vs' vs : List Val} : VRelL vs' vs → VRel (.tuple vs') (.tuple vs)
  | enumV (t : String) (i : Nat) {vs' vs : List Val} : VRelL vs' vs → VRel (.enumV t i vs') (.enumV t i vs)
  | structV (t : String) {vs' vs : List Val} : VRelL vs' vs → VRel (.structV t vs') (.structV t vs)
  | array {vs' vs : List Val} : VRelL vs' vs → VRel (.array vs') (.array vs)
  | vec {vs' vs : List Val} : VRelL vs' vs → VRel (.vec vs') (.vec vs)
  | ref (l : Nat) : VRel (.ref l) (.ref l)
  | fn (n : String) : VRel (.fn n) (.fn n)
  | dyn (tr k : String) {v' v : Val} : VRel v' v → VRel (.dyn tr k v') (.dyn tr k v)
  | closure (σ : String → String) (N B : List String) (ps : List String) (body body' : Expr) (ρ' ρ : Env) :
      injOn σ N = true → aeE σ body body' = true → scC (moved σ) B body = true → inE N body = true →
      (∀ p ∈ ps, N.contains p = true) → (∀ p ∈ ps, moved σ p = false) →
      (∀ x, B.contains x = true → (ρ.map (·.1)).contains x = true) → (∀ p ∈ ρ, N.contains p.1 = true) →
      ERel σ ρ' ρ → VRel (.closure (ps.map σ) body' ρ') (.closure ps body ρ)
inductive VRelL : List Val → List Val → Prop
  | nil : VRelL [] []
  | cons {v' v : Val} {vs' vs : List Val} : VRel v' v → VRelL vs' vs → VRelL (v' :: vs') (v :: vs)
/-- environments related: the same shape, names mapped by `σ`, values related -/
inductive ERel : (String → String) → Env → Env → Prop
  | nil (σ : String → String) : ERel σ [] []
  | cons (σ : String → String) (x : String) {v' v : Val} {ρ' ρ : Env} : VRel v' v → ERel σ ρ' ρ →
      ERel σ ((σ x, v') :: ρ') ((x, v) :: ρ)
end

/-- worlds related: equal in everything observable, stores and pending activations related cell by cell -/
structure WRel (w' w : World) : Prop where
  out : w'.out = w.out
  store : VRelL w'.store.toList w.store.toList
  spawned : VRelL w'.spawned w.spawned
  externs : w'.externs = w.externs
  eager : w'.eager = w.eager

/-- results related: both succeed with related values, or both fail in the same way; worlds related -/
def RRel {α : Type} (R : α → α → Prop) : Res α → Res α → Prop
  | .ok a' w', .ok a w => R a' a ∧ WRel w' w
  | .fail f' w', .fail f w => f' = f ∧ WRel w' w
  | _, _ => False

theorem RRel.outcome_eq {R : Val → Val → Prop} {r' r : Res Val} (h : RRel R r' r) : outcomeOf r' = outcomeOf r := by
  cases r' <;> cases r <;> simp only [RRel] at h
  · simp [outcomeOf, h.2.out, h.2.externs]
  · simp [outcomeOf, h.1, h.2.out, h.2.externs]

/-! ### the relation is one the operators and builtins respect (`Lemmas/ValRel.lean`)

`VRelL`, `WRel` and `RRel` are this file's own spellings of `ListRel VRel`, `WorldRel VRel` and `ResRel VRel` (`VRelL` is
a member of the mutual block above); `vrelL_iff` and `wrel_iff` carry the generic lemmas over. -/

theorem vrelL_iff {vs' vs : List Val} : VRelL vs' vs ↔ ListRel VRel vs' vs := by
  induction vs' generalizing vs with
  | nil => exact ⟨fun h => by cases h; exact .nil, fun h => by cases h; exact .nil⟩
  | cons a as ih =>
    exact ⟨fun h => by cases h with | cons h t => exact .cons h (ih.1 t),
      fun h => by cases h with | cons h t => exact .cons h (ih.2 t)⟩

theorem respects : Respects VRel where
  head_eq h := by cases h <;> rfl
  atom {a} h := by cases a <;> first | (cases h; done) | constructor
  array := ⟨fun h => by cases h with | array h => exact vrelL_iff.1 h, fun h => .array (vrelL_iff.2 h)⟩
  vec := ⟨fun h => by cases h with | vec h => exact vrelL_iff.1 h, fun h => .vec (vrelL_iff.2 h)⟩

theorem wrel_iff {w' w : World} : WRel w' w ↔ WorldRel VRel w' w :=
  ⟨fun h => ⟨h.out, vrelL_iff.1 h.store, vrelL_iff.1 h.spawned, h.externs, h.eager⟩,
    fun h => ⟨h.out, vrelL_iff.2 h.store, vrelL_iff.2 h.spawned, h.externs, h.eager⟩⟩

theorem VRelL.append {vs' vs us' us : List Val} (h : VRelL vs' vs) (g : VRelL us' us) : VRelL (vs' ++ us') (vs ++ us) :=
  vrelL_iff.2 ((vrelL_iff.1 h).append (vrelL_iff.1 g))

/-! ### operators and arm selection agree on related values -/

/-- `Val.isBase` (`base_eq_isBase`), under the name the C14 statements use -/
def base : Val → Bool
  | .unit | .bool _ | .int _ _ _ | .float _ _ | .str _ => true
  | _ => false

theorem base_eq_isBase (a : Val) : base a = a.isBase := by cases a <;> rfl

theorem VRel.base_eq {a' a : Val} (h : VRel a' a) : base a' = base a := by cases h <;> rfl

theorem VRel.of_base {a : Val} (h : base a = true) : VRel a a :=
  respects.atom (Val.isAtom_of_isBase ((base_eq_isBase a).symm.trans h))

theorem valEq_rel {a' a b' b : Val} (ha : VRel a' a) (hb : VRel b' b) : valEq a' b' = valEq a b :=
  respects.valEq ha hb

theorem binop_rel {op : BinOp} {a' a b' b : Val} (ha : VRel a' a) (hb : VRel b' b) : binop op a' b' = binop op a b :=
  respects.binop op ha hb

theorem unop_rel {op : UnOp} {a' a : Val} (ha : VRel a' a) : unop op a' = unop op a :=
  respects.unop op ha

theorem armMatches_rel (l : Expr) {v' v : Val} (h : VRel v' v) : armMatches l v' = armMatches l v :=
  respects.armMatches l h

theorem logicalNonBool_rel (op : BinOp) {a' a : Val} (h : VRel a' a) : logicalNonBool op a' = logicalNonBool op a :=
  respects.logicalNonBool op h

def BRel : Option (Res Val) → Option (Res Val) → Prop
  | some r', some r => RRel VRel r' r
  | none, none => True
  | _, _ => False

theorem RRel.of_resRel {r' r : Res Val} (h : ResRel VRel r' r) : RRel VRel r' r := by
  cases h with
  | ok hv hw => exact ⟨hv, wrel_iff.2 hw⟩
  | fail hw => exact ⟨rfl, wrel_iff.2 hw⟩

theorem builtin_rel (name : String) {args' args : List Val} {w' w : World} (ha : VRelL args' args) (hw : WRel w' w) :
    BRel (builtin name args' w') (builtin name args w) := by
  have h := respects.builtin name (vrelL_iff.1 ha) (wrel_iff.1 hw)
  generalize builtin name args' w' = o', builtin name args w = o at h ⊢
  cases h with
  | none => exact True.intro
  | some hr => exact .of_resRel hr

end Goml.Alpha
