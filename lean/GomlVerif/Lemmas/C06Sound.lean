import GomlVerif.Lemmas.C06Basic
/-!
The invariant carried through `compile_rows` (`Inv`), the soundness statement (`SoundR`, `SoundAt`), leaves, generated
names, destructuring of a value into fresh variables (`LetChain`).
-/
namespace Goml.Match
open Goml Goml.Sem

variable {β : Type}

/-- names the gensym may still hand out (`≥ n`) are not column variables of the row -/
def RowFresh (g : Nat → String) (n : Nat) (r : Row β) : Prop :=
  (∀ c ∈ r.cols, ∀ j, n ≤ j → g j ≠ c.1) ∧ (∀ b ∈ r.binds, ∀ j, n ≤ j → g j ≠ b.var)

/-- every tested variable holds a value of the shape its patterns assume -/
def RowConf (S : Sig) (ρ : Env) (r : Row β) : Prop :=
  ∀ c ∈ r.cols, conf S c.2 (lookupVar ρ c.1) = true

/-- what `compile_rows` keeps of its matrix while the counter stands at `n` and the environment is `ρ` -/
def Inv (S : Sig) (n : Nat) (ρ : Env) (rows : List (Row β)) : Prop :=
  ∀ r ∈ rows, RowFresh S.gen n r ∧ RowConf S ρ r

def TmpKeys (g : Nat → String) (n n' : Nat) (τ : Env) : Prop :=
  ∀ p ∈ τ, ∃ j, n ≤ j ∧ j < n' ∧ p.1 = g j

/-- the result `res` of running a tree in `ρ` is what `firstMatch` prescribes for `rows`:
    the body of the first matching row, in `ρ` extended by generated temporaries and then by
    exactly that row's bindings; `missing` when no row matches -/
def SoundR (g : Nat → String) (n n' : Nat) (ρ : Env) (rows : List (Row β)) (res : Leaf β) : Prop :=
  match firstMatch ρ rows with
  | none => res = .missing
  | some (b, σ) => ∃ σ' τ, res = .body b (σ' ++ τ ++ ρ) ∧ SetEq σ' σ ∧ TmpKeys g n n' τ

def SoundAt (S : Sig) (n n' : Nat) (rows : List (Row β)) (t : DT β) : Prop :=
  leavesOK t = true → ∀ ρ, Inv S n ρ rows → SoundR S.gen n n' ρ rows (t.eval ρ)

theorem TmpKeys.mono {g : Nat → String} {a b a' b' : Nat} {τ : Env} (h : TmpKeys g a b τ)
    (ha : a' ≤ a) (hb : b ≤ b') : TmpKeys g a' b' τ := by
  intro p hp
  obtain ⟨j, h1, h2, h3⟩ := h p hp
  exact ⟨j, by omega, by omega, h3⟩

theorem SoundR.mono {g : Nat → String} {a b a' b' : Nat} {ρ : Env} {rows : List (Row β)} {res : Leaf β}
    (h : SoundR g a b ρ rows res) (ha : a' ≤ a) (hb : b ≤ b') : SoundR g a' b' ρ rows res := by
  unfold SoundR at *
  split at h
  · exact h
  · obtain ⟨σ', τ, h1, h2, h3⟩ := h
    exact ⟨σ', τ, h1, h2, h3.mono ha hb⟩

theorem RowFresh.cols {g : Nat → String} {n : Nat} {r : Row β} (h : RowFresh g n r) :
    ∀ c ∈ r.cols, ∀ j, n ≤ j → g j ≠ c.1 := h.1

theorem RowFresh.binds {g : Nat → String} {n : Nat} {r : Row β} (h : RowFresh g n r) :
    ∀ b ∈ r.binds, ∀ j, n ≤ j → g j ≠ b.var := h.2

theorem RowFresh.mono {g : Nat → String} {n m : Nat} {r : Row β} (h : RowFresh g n r) (hnm : n ≤ m) :
    RowFresh g m r :=
  ⟨fun c hc j hj => h.cols c hc j (by omega), fun b hb j hj => h.binds b hb j (by omega)⟩

theorem Inv.fresh {S : Sig} {n : Nat} {ρ : Env} {rows : List (Row β)} (h : Inv S n ρ rows) {r : Row β} (hr : r ∈ rows) :
    RowFresh S.gen n r := (h r hr).1

theorem Inv.conf {S : Sig} {n : Nat} {ρ : Env} {rows : List (Row β)} (h : Inv S n ρ rows) {r : Row β} (hr : r ∈ rows) :
    RowConf S ρ r := (h r hr).2

theorem Inv.mono {S : Sig} {n m : Nat} {ρ : Env} {rows : List (Row β)} (h : Inv S n ρ rows) (hnm : n ≤ m) :
    Inv S m ρ rows := fun _ hr => ⟨(h.fresh hr).mono hnm, h.conf hr⟩

theorem SoundAt.mono {S : Sig} {a b a' b' : Nat} {rows : List (Row β)} {t : DT β}
    (h : SoundAt S a b rows t) (ha : a' ≤ a) (hb : b ≤ b') : SoundAt S a' b' rows t :=
  fun hok ρ hinv => SoundR.mono (h hok ρ (hinv.mono ha)) ha hb

/-- transport along a sub-matrix compiled in an environment extended by temporaries -/
theorem SoundR.of_sub {g : Nat → String} {n n1 n2 : Nat} {ρ τ : Env} {rows rows' : List (Row β)}
    {res : Leaf β} (hs : SoundR g n1 n2 (τ ++ ρ) rows' res) (hτ : TmpKeys g n n2 τ) (hn : n ≤ n1)
    (hspec : SpecEq (firstMatch (τ ++ ρ) rows') (firstMatch ρ rows)) : SoundR g n n2 ρ rows res := by
  unfold SoundR at *
  cases h1 : firstMatch (τ ++ ρ) rows' <;> cases h2 : firstMatch ρ rows <;> rw [h1, h2] at hspec <;>
    simp only [SpecEq] at hspec
  · rw [h1] at hs
    exact hs
  · rw [h1] at hs
    rename_i x y
    obtain ⟨b, σ⟩ := x
    obtain ⟨b', σ0⟩ := y
    obtain ⟨σ', τ', e, hσ, hk⟩ := hs
    simp only at hspec
    obtain ⟨hb, hσ0⟩ := hspec
    subst hb
    refine ⟨σ', τ' ++ τ, ?_, hσ.trans hσ0, ?_⟩
    · rw [e]; simp [List.append_assoc]
    · intro p hp
      rcases List.mem_append.mp hp with hp | hp
      · exact (hk.mono hn (Nat.le_refl _)) p hp
      · exact hτ p hp

theorem SoundR.of_spec {g : Nat → String} {n n2 : Nat} {ρ : Env} {rows rows' : List (Row β)}
    {res : Leaf β} (hs : SoundR g n n2 ρ rows' res)
    (hspec : SpecEq (firstMatch ρ rows') (firstMatch ρ rows)) : SoundR g n n2 ρ rows res :=
  SoundR.of_sub (τ := []) hs (fun _ hp => nomatch hp) (Nat.le_refl _) hspec

theorem bindSeq_eq : ∀ (bs : List Bind) (ρ : Env), bindsOK bs = true →
    bindSeq bs ρ = (bindVals ρ bs).reverse ++ ρ := by
  intro bs
  induction bs with
  | nil => intro ρ _; simp [bindSeq, bindVals]
  | cons b bs ih =>
    intro ρ h
    simp only [bindsOK, Bool.and_eq_true, List.all_eq_true] at h
    obtain ⟨h1, h2⟩ := h
    simp only [bindSeq]
    rw [ih _ h2]
    have e : bindVals ((b.name, lookupVar ρ b.var) :: ρ) bs = bindVals ρ bs := by
      apply bindVals_congr
      intro c hc
      apply lookupVar_cons_ne
      have := h1 c hc
      intro heq
      simp [heq] at this
    rw [e]
    simp [bindVals]

theorem leavesOK_wrapProj (bv : String) (bty : Ty) (t : DT β) : ∀ (vars : List (String × Ty)) (i : Nat),
    leavesOK (wrapProj bv bty i vars t) = leavesOK t := by
  intro vars
  induction vars with
  | nil => intro i; rfl
  | cons x xs ih => intro i; simp only [wrapProj, leavesOK]; exact ih _

theorem leavesOK_wrapGet (c : Ctor) (bv : String) (bty : Ty) (t : DT β) : ∀ (vars : List (String × Ty)) (i : Nat),
    leavesOK (wrapGet c bv bty i vars t) = leavesOK t := by
  intro vars
  induction vars with
  | nil => intro i; rfl
  | cons x xs ih => intro i; simp only [wrapGet, leavesOK]; exact ih _

theorem genNames_length (g : Nat → String) : ∀ (k n : Nat), (genNames g n k).length = k := by
  intro k
  induction k with
  | zero => intro n; rfl
  | succ k ih => intro n; simp [genNames, ih]

theorem mem_genNames {g : Nat → String} : ∀ {k n : Nat} {x : String},
    x ∈ genNames g n k ↔ ∃ j, n ≤ j ∧ j < n + k ∧ x = g j := by
  intro k
  induction k with
  | zero =>
    intro n x
    simp only [genNames, List.not_mem_nil, false_iff]
    rintro ⟨j, h1, h2, _⟩
    omega
  | succ k ih =>
    intro n x
    simp only [genNames, List.mem_cons, ih]
    constructor
    · rintro (rfl | ⟨j, h1, h2, h3⟩)
      · exact ⟨n, by omega, by omega, rfl⟩
      · exact ⟨j, by omega, by omega, h3⟩
    · rintro ⟨j, h1, h2, h3⟩
      by_cases hj : j = n
      · left; rw [h3, hj]
      · right; exact ⟨j, by omega, by omega, h3⟩

def RowAvoids (names : List String) (r : Row β) : Prop :=
  (∀ c ∈ r.cols, c.1 ∉ names) ∧ (∀ b ∈ r.binds, b.var ∉ names)

theorem RowFresh.avoids_genNames {g : Nat → String} {n m : Nat} {r : Row β} (h : RowFresh g n r) (hnm : n ≤ m)
    (k : Nat) : RowAvoids (genNames g m k) r := by
  constructor
  · intro c hc hmem
    obtain ⟨j, h1, _, h3⟩ := mem_genNames.mp hmem
    exact h.cols c hc j (by omega) h3.symm
  · intro b hb hmem
    obtain ⟨j, h1, _, h3⟩ := mem_genNames.mp hmem
    exact h.binds b hb j (by omega) h3.symm

theorem genNames_nodup {g : Nat → String} (hinj : ∀ i j, g i = g j → i = j) :
    ∀ (k n : Nat), (genNames g n k).Nodup := by
  intro k
  induction k with
  | zero => intro n; simp [genNames]
  | succ k ih =>
    intro n
    simp only [genNames, List.nodup_cons]
    refine ⟨?_, ih _⟩
    intro h
    obtain ⟨j, h1, _, h3⟩ := mem_genNames.mp h
    have := hinj _ _ h3
    omega

theorem tmpKeys_zip {g : Nat → String} {m k : Nat} (vs : List Val) :
    TmpKeys g m (m + k) ((genNames g m k).zip vs).reverse := by
  intro p hp
  have hp' : p ∈ (genNames g m k).zip vs := List.mem_reverse.mp hp
  obtain ⟨a, b⟩ := p
  obtain ⟨j, h1, h2, h3⟩ := mem_genNames.mp (List.of_mem_zip hp').1
  exact ⟨j, h1, h2, h3⟩

/-! ### destructuring a value into fresh variables -/

theorem lookupVar_bindParams_notin (xs : List String) (vs : List Val) (ρ : Env) (y : String)
    (h : y ∉ xs) : lookupVar (bindParams xs vs ρ) y = lookupVar ρ y := by
  rw [bindParams_eq]
  apply lookupVar_append_notin
  intro p hp heq
  apply h
  have hp' : p ∈ xs.zip vs := List.mem_reverse.mp hp
  obtain ⟨a, b⟩ := p
  have := (List.of_mem_zip hp').1
  simp only at heq
  rw [← heq]; exact this

theorem map_lookup_bindParams : ∀ (xs : List String) (vs : List Val) (ρ : Env), xs.Nodup →
    xs.length = vs.length → xs.map (lookupVar (bindParams xs vs ρ)) = vs := by
  intro xs
  induction xs with
  | nil => intro vs ρ _ h; cases vs <;> simp_all
  | cons x xs ih =>
    intro vs ρ hnd hlen
    cases vs with
    | nil => simp at hlen
    | cons v vs =>
      simp only [List.nodup_cons] at hnd
      simp only [List.length_cons, Nat.add_right_cancel_iff] at hlen
      simp only [bindParams, List.map_cons]
      rw [lookupVar_bindParams_notin _ _ _ _ hnd.1, lookupVar_cons_eq, ih vs _ hnd.2 hlen]

theorem colsMatch_zip (ρ' : Env) : ∀ (ps : List Pat) (xs : List String) (vs : List Val),
    xs.map (lookupVar ρ') = vs → ps.length = vs.length →
    colsMatch ρ' (xs.zip ps) = matchPats ps vs := by
  intro ps
  induction ps with
  | nil =>
    intro xs vs hm hl
    cases vs with
    | nil => simp [colsMatch, matchPats]
    | cons v vs => simp at hl
  | cons p ps ih =>
    intro xs vs hm hl
    cases vs with
    | nil => simp at hl
    | cons v vs =>
      cases xs with
      | nil => simp at hm
      | cons x xs =>
        simp only [List.map_cons, List.cons.injEq] at hm
        simp only [List.length_cons, Nat.add_right_cancel_iff] at hl
        simp only [List.zip_cons_cons, colsMatch, matchPats, hm.1, ih xs vs hm.2 hl]

theorem confs_zip (S : Sig) (ρ' : Env) : ∀ (ps : List Pat) (xs : List String) (vs : List Val),
    xs.map (lookupVar ρ') = vs → confs S ps vs = true →
    ∀ c ∈ xs.zip ps, conf S c.2 (lookupVar ρ' c.1) = true := by
  intro ps
  induction ps with
  | nil => intro xs vs _ _ c hc; simp at hc
  | cons p ps ih =>
    intro xs vs hm hc c hmem
    cases xs with
    | nil => simp at hmem
    | cons x xs =>
      cases vs with
      | nil => simp at hm
      | cons v vs =>
        simp only [List.map_cons, List.cons.injEq] at hm
        simp only [confs, Bool.and_eq_true] at hc
        simp only [List.zip_cons_cons, List.mem_cons] at hmem
        rcases hmem with rfl | hmem
        · simp only; rw [hm.1]; exact hc.1
        · exact ih xs vs hm.2 hc.2 c hmem

/-- `wrap i vars t` is a chain of `let`s that binds, from `vars`, one name per component `vs[i]`, `vs[i+1]`, …
    of the value `v` of `bv`, around `t` -/
structure LetChain (wrap : Nat → List (String × Ty) → DT β → DT β) (bv : String) (v : Val) (vs : List Val) : Prop where
  nil : ∀ i t, wrap i [] t = t
  cons : ∀ i x xs t ρ, lookupVar ρ bv = v → (hi : i < vs.length) →
    (wrap i (x :: xs) t).eval ρ = (wrap (i + 1) xs t).eval ((x.1, vs[i]) :: ρ)

theorem letChain_proj (bv : String) (bty : Ty) (vs : List Val) :
    LetChain (wrapProj (β := β) bv bty) bv (.tuple vs) vs :=
  ⟨fun _ _ => rfl, fun i x xs t ρ hv hi => by simp only [wrapProj, DT.eval, hv, List.getElem?_eq_getElem hi]⟩

theorem letChain_get_enum (c : Ctor) (bv : String) (bty : Ty) (tn : String) (idx : Nat) (vs : List Val) :
    LetChain (wrapGet (β := β) c bv bty) bv (.enumV tn idx vs) vs :=
  ⟨fun _ _ => rfl, fun i x xs t ρ hv hi => by simp only [wrapGet, DT.eval, hv, List.getElem?_eq_getElem hi]⟩

theorem letChain_get_struct (c : Ctor) (bv : String) (bty : Ty) (tn : String) (vs : List Val) :
    LetChain (wrapGet (β := β) c bv bty) bv (.structV tn vs) vs :=
  ⟨fun _ _ => rfl, fun i x xs t ρ hv hi => by simp only [wrapGet, DT.eval, hv, List.getElem?_eq_getElem hi]⟩

theorem LetChain.eval {wrap : Nat → List (String × Ty) → DT β → DT β} {bv : String} {v : Val} {vs : List Val}
    (hw : LetChain wrap bv v vs) (t : DT β) : ∀ (vars : List (String × Ty)) (i : Nat) (ρ : Env),
    (∀ x ∈ vars, x.1 ≠ bv) → lookupVar ρ bv = v → i + vars.length ≤ vs.length →
    (wrap i vars t).eval ρ = t.eval (bindParams (vars.map (·.1)) (vs.drop i) ρ) := by
  intro vars
  induction vars with
  | nil => intro i ρ _ _ _; simp [hw.nil, bindParams]
  | cons x xs ih =>
    intro i ρ hne hv hlen
    simp only [List.length_cons] at hlen
    have hi : i < vs.length := by omega
    rw [hw.cons i x xs t ρ hv hi, ih (i + 1) _ (fun y hy => hne y (by simp [hy]))
      (by rw [lookupVar_cons_ne _ _ _ _ (hne x (by simp))]; exact hv) (by omega),
      List.drop_eq_getElem_cons hi]
    simp only [List.map_cons, bindParams]

/-! ### lists related pointwise: the sub-matrices of a plan against the trees compiled for them -/

inductive All2 {α γ : Type} (R : α → γ → Prop) : List α → List γ → Prop where
  | nil : All2 R [] []
  | cons {a : α} {b : γ} {as : List α} {bs : List γ} : R a b → All2 R as bs → All2 R (a :: as) (b :: bs)

theorem All2.imp {α γ : Type} {R R' : α → γ → Prop} (h : ∀ a b, R a b → R' a b) :
    ∀ {l : List α} {l' : List γ}, All2 R l l' → All2 R' l l' := by
  intro l l' hl
  induction hl with
  | nil => exact .nil
  | cons hab _ ih => exact .cons (h _ _ hab) ih

theorem All2.exists_of_mem_right {α γ : Type} {R : α → γ → Prop} {l : List α} {l' : List γ} (h : All2 R l l') :
    ∀ b ∈ l', ∃ a ∈ l, R a b := by
  induction h with
  | nil => intro b hb; cases hb
  | cons hab _ ih =>
    intro b hb
    rcases List.mem_cons.mp hb with rfl | hb
    · exact ⟨_, by simp, hab⟩
    · obtain ⟨a, ha, hr⟩ := ih b hb
      exact ⟨a, by simp [ha], hr⟩

theorem All2.forall_left {α γ : Type} {R : α → γ → Prop} {l : List α} {l' : List γ} (h : All2 R l l') :
    ∀ a ∈ l, ∃ b ∈ l', R a b := by
  induction h with
  | nil => intro a ha; cases ha
  | cons hab _ ih =>
    intro a ha
    rcases List.mem_cons.mp ha with rfl | ha
    · exact ⟨_, by simp, hab⟩
    · obtain ⟨b, hb, hr⟩ := ih a ha
      exact ⟨b, by simp [hb], hr⟩

theorem All2.comp {α γ δ : Type} {P : α → γ → Prop} {Q : γ → δ → Prop} :
    ∀ {as : List α} {bs : List γ} {cs : List δ}, All2 P as bs → All2 Q bs cs →
      All2 (fun a c => ∃ b, P a b ∧ Q b c) as cs := by
  intro as bs cs h
  induction h generalizing cs with
  | nil => intro h'; cases h'; exact .nil
  | cons hab _ ih => intro h'; cases h' with | cons hbc hr => exact .cons ⟨_, hab, hbc⟩ (ih hr)

theorem All2.append_left {α γ : Type} {R : α → γ → Prop} :
    ∀ {l1 l2 : List α} {l' : List γ}, All2 R (l1 ++ l2) l' →
      ∃ a b, l' = a ++ b ∧ All2 R l1 a ∧ All2 R l2 b := by
  intro l1
  induction l1 with
  | nil => intro l2 l' h; exact ⟨[], l', rfl, .nil, h⟩
  | cons x xs ih =>
    intro l2 l' h
    cases h with
    | cons hab hrest =>
      obtain ⟨a, b, e, h1, h2⟩ := ih hrest
      exact ⟨_ :: a, b, by simp [e], .cons hab h1, h2⟩

theorem all2_singleton {α γ : Type} {R : α → γ → Prop} {a : α} {l : List γ} (h : All2 R [a] l) :
    ∃ b, l = [b] ∧ R a b := by
  cases h with
  | cons hab hrest => cases hrest; exact ⟨_, rfl, hab⟩

theorem all2_replicate_elim {α γ : Type} {R : α → γ → Prop} {a : α} : ∀ (k : Nat) (l : List γ),
    All2 R (List.replicate k a) l → ∀ b ∈ l, R a b := by
  intro k
  induction k with
  | zero => intro l h; cases h; intro b hb; cases hb
  | succ k ih =>
    intro l h
    simp only [List.replicate_succ] at h
    cases h with
    | cons hab hrest =>
      intro b hb
      rcases List.mem_cons.mp hb with rfl | hb
      · exact hab
      · exact ih _ hrest b hb

theorem all2_replicate_intro {α γ : Type} {R : α → γ → Prop} {a : α} : ∀ (l : List γ),
    (∀ b ∈ l, R a b) → All2 R (List.replicate l.length a) l := by
  intro l
  induction l with
  | nil => intro _; exact .nil
  | cons b bs ih =>
    intro h
    simp only [List.length_cons, List.replicate_succ]
    exact .cons (h b (by simp)) (ih (fun c hc => h c (by simp [hc])))

theorem mapE_all2 {α γ : Type} (f : α → M γ) : ∀ (l : List α) (l' : List γ), mapE f l = .ok l' →
    All2 (fun a b => f a = .ok b) l l' := by
  intro l
  induction l with
  | nil => intro l' h; simp only [mapE] at h; cases h; exact .nil
  | cons a as ih =>
    intro l' h
    simp only [mapE] at h
    split at h
    · cases h
    · rename_i b hb
      split at h
      · cases h
      · rename_i rest hrest
        cases h
        exact .cons hb (ih rest hrest)

end Goml.Match
