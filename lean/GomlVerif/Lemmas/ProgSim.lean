import GomlVerif.Lemmas.SemEq
import GomlVerif.Lemmas.AnfSem
/-!
Replacing the bodies of the functions of a program by bodies that simulate them: every evaluation
carries over, in the weakened sense `M` in which the bodies simulate each other (`prog_sim`).
Forward, `M` is "unless it goes wrong"; backward, "up to going wrong".
Used with `anfProg P` (`Lemmas/ProgAnf.lean`) to lift the simulation `Anf.sim` from one function body to the whole file.
-/
namespace Goml.Anf
open Goml Goml.Sem

theorem stuck_cast {α β} {r : Res β} {f : Fail} {w : World} (hr : r = .fail f w) (hs : ¬Stuck r) :
    ¬Stuck (Res.fail (α := α) f w) := by
  subst hr; exact fun h => hs ((Stuck_fail_iff f w w).1 h)

/-- A weakening `M X r` of "`X` holds of the result `r`" under which evaluations can be carried over:
    it holds when `X r` does, is kept by consequences that hold in the weakened sense, and passes
    through sequencing (the shape of `sim_bind`).
    In `bind` the failure premise is given both `F = .fail f w'` and `r = .fail f w'`: the forward instance has to
    turn "`r` is not stuck" into "`F`'s failure is not stuck", at another result type, and needs the second
    equation for that (`stuck_cast`). -/
structure Transfer (M : ∀ {α : Type}, (Res α → Prop) → Res α → Prop) : Prop where
  ret : ∀ {α} {X : Res α → Prop} {r : Res α}, X r → M X r
  ext : ∀ {α} {X Y : Res α → Prop} {r : Res α}, M X r → (∀ x, X x → M Y x) → M Y r
  bind : ∀ {α β} {F : Res α} {G : α → World → Res β} {r : Res β} {X : Res α → Prop}
    {K : α → World → Res β → Prop}, F.bind G = r →
    (∀ f w', F = .fail f w' → r = .fail f w' → M X (.fail f w')) → (∀ a w', F = .ok a w' → M X (.ok a w')) →
    (∀ a w', G a w' = r → M (K a w') r) → M (RB X K) r

theorem Transfer.map {M : ∀ {α : Type}, (Res α → Prop) → Res α → Prop} (hM : Transfer M) {α} {X Y : Res α → Prop}
    {r : Res α} (h : M X r) (hxy : ∀ x, X x → Y x) : M Y r :=
  hM.ext h fun x hx => hM.ret (hxy x hx)

/-- "A run that is not fuel exhaustion is, in the sense `M`, one of the results the relation allows" is respected by
sequencing: that is `Transfer.bind`. -/
theorem carried {M : ∀ {α : Type}, (Res α → Prop) → Res α → Prop} (hM : Transfer M) :
    SeqRel resSeq relSeq (fun r X => NF r → M X r) where
  pure r _ _ := hM.ret rfl
  bind := by
    intro α β x y k k' hx hk hn
    refine hM.bind (F := x) (G := k) rfl (fun f w' hf hr => ?_) (fun a w' hf => ?_) (fun a w' hg => ?_)
    · subst hf; exact hx (nf_cast hr hn)
    · subst hf; exact hx trivial
    · have hn' : NF (k a w') := by rw [hg]; exact hn
      exact hg ▸ hk a w' hn'

theorem while_transfer {M : ∀ {α : Type}, (Res α → Prop) → Res α → Prop} (hM : Transfer M) {P : Prog}
    {c b c' b' : Expr} {ρ ρ' : Env} (hc : ∀ w r, Ev P c ρ w r → M (Ev P c' ρ' w) r)
    (hb : ∀ w r, Ev P b ρ w r → M (Ev P b' ρ' w) r) :
    ∀ w r, Ev P (.while c b) ρ w r → M (Ev P (.while c' b') ρ' w) r := by
  intro w r ⟨n, h, hnf⟩
  simp only at h
  induction n generalizing w r with
  | zero => simp only [eval_zero] at h; subst h; simp at hnf
  | succ n ih =>
    subst h
    rw [eval_eq_step] at hnf ⊢
    refine hM.map (?_ : M (stepE relSeq P.impls (evI P) ρ' w (.while c' b')) _) fun _ => ev_step.2
    refine (carried hM).bind (fun hn => hc w _ ⟨n, rfl, hn⟩) (fun v w1 => ?_) hnf
    split
    · exact (carried hM).bind (fun hn => hb w1 _ ⟨n, rfl, hn⟩) fun _ w2 hn => ih w2 _ rfl hn
    · exact (carried hM).ok _ _
    · exact (carried hM).stuck _ _

/-- what `ProgSim` asks of one name -/
inductive FnSim (M : ∀ {α : Type}, (Res α → Prop) → Res α → Prop) (A B : Prog) (name : String) : Prop
  | absent (ha : A.findFn name = none) (hb : B.findFn name = none)
  | found (fa fb : Fn) (ha : A.findFn name = some fa) (hb : B.findFn name = some fb) (params : fb.params = fa.params)
      (body : ∀ ρ w r, Ev B fa.body ρ w r → M (Ev B fb.body ρ w) r)

/-- `A` and `B` have the same functions, and whatever the body of one of `A` does (under `B`) the body
    of its counterpart in `B` does, in the sense `M` -/
structure ProgSim (M : ∀ {α : Type}, (Res α → Prop) → Res α → Prop) (A B : Prog) : Prop where
  impls : A.impls = B.impls
  find : ∀ name, FnSim @M A B name

/-- Every run of `A` that is not fuel exhaustion is, in the sense `M`, a run of `B` — for expressions, expression lists,
    arms and applications together.  Expressions, lists and arms are the same node in both programs (`stepE_rel`); `apply`
    is where the two differ. -/
theorem prog_sim {M : ∀ {α : Type}, (Res α → Prop) → Res α → Prop} (hM : Transfer M) {A B : Prog}
    (H : ProgSim M A B) : ∀ n, IRel (fun r X => NF r → M X r) (runI n A) (evI B)
  | 0 => ⟨fun _ _ _ h => h.elim, fun _ _ _ h => h.elim, fun _ _ _ _ _ h => h.elim, fun _ _ _ h => h.elim⟩
  | n + 1 => by
    have ih := prog_sim hM H n
    refine ⟨fun ρ w e => ?_, fun ρ w es => ?_, fun ρ w v arms d => ?_, fun w f args hn => ?_⟩
    · show NF (eval (n + 1) A ρ w e) → M (Ev B e ρ w) (eval (n + 1) A ρ w e)
      rw [eval_eq_step, H.impls]
      exact fun hn => hM.map (stepE_rel (carried hM) ih B.impls ρ w e hn) fun _ => ev_step.2
    · show NF (evalList (n + 1) A ρ w es) → M (EvL B es ρ w) (evalList (n + 1) A ρ w es)
      rw [evalList_eq_step]
      exact fun hn => hM.map (stepL_rel (carried hM) ih ρ w es hn) fun _ => evL_step.2
    · show NF (evalArms (n + 1) A ρ w v arms d) → M (EvA B ρ w v arms d) (evalArms (n + 1) A ρ w v arms d)
      rw [evalArms_eq_step]
      exact fun hn => hM.map (stepA_rel (carried hM) ih ρ w v arms d hn) fun _ => evA_step.2
    · show M (App B w f args) (apply (n + 1) A w f args)
      replace hn : NF (apply (n + 1) A w f args) := hn
      have E : ∀ ρ w e, NF (eval n A ρ w e) → M (Ev B e ρ w) (eval n A ρ w e) := ih.expr
      cases f with
      | closure ps body ρc =>
        exact hM.map (E _ _ _ hn) (fun _ hx => app_of_ev_body (fun m => by simp only [apply]) hx)
      | fn name =>
        simp only [apply] at hn ⊢
        cases H.find name with
        | absent ha hb =>
          rw [ha] at hn ⊢
          exact hM.ret ⟨1, by simp only [apply, hb], hn⟩
        | found fa fb ha hb hp hbody =>
          rw [ha] at hn ⊢; simp only at hn ⊢; rw [← hp]
          exact hM.ext (E _ _ _ (hp ▸ hn)) fun x hx => hM.map (hbody _ _ _ hx)
            fun y hy => app_of_ev_body (fun m => by simp only [apply, hb]) hy
      | structV nm fs =>
        simp only [apply] at hn ⊢
        cases H.find ("inherent#" ++ nm ++ "#" ++ nm ++ "#apply") with
        | absent ha hb =>
          rw [ha] at hn ⊢
          exact hM.ret ⟨1, by simp only [apply, hb], hn⟩
        | found fa fb ha hb hp hbody =>
          rw [ha] at hn ⊢; simp only at hn ⊢; rw [← hp]
          exact hM.ext (E _ _ _ (hp ▸ hn)) fun x hx => hM.map (hbody _ _ _ hx)
            fun y hy => app_of_ev_body (fun m => by simp only [apply, hb]) hy
      | _ => exact hM.ret ⟨1, by simp only [apply], hn⟩

def UnlessStuck {α} (X : Res α → Prop) (r : Res α) : Prop := ¬Stuck r → X r

theorem UnlessStuck.fuel {α} {F : Nat → Res α} {r : Res α} (h : UnlessStuck (Conv F) r) (hs : ¬Stuck r) : ∃ m, F m = r :=
  let ⟨m, hm, _⟩ := h hs
  ⟨m, hm⟩

theorem transfer_unlessStuck : Transfer @UnlessStuck where
  ret h _ := h
  ext h hxy hs := hxy _ (h hs) hs
  bind h hF hF' hG hs :=
    sim_bind h (fun f w' hf hr => hF f w' hf hr (stuck_cast hr hs)) (fun a w' hf => hF' a w' hf (by simp))
      (fun a w' hg => hG a w' hg hs)

/-- `r`, or some "no rule" failure -/
def OrWrong {α} (X : Res α → Prop) (r : Res α) : Prop := X r ∨ ∃ s w', X (.fail (.stuck s) w')

theorem OrWrong.of_eq {α} {X : Res α → Prop} {r : Res α} (h : X r) : OrWrong X r := Or.inl h

theorem OrWrong.fuel {α} {F : Nat → Res α} {r : Res α} (h : OrWrong (Conv F) r) :
    (∃ m, F m = r) ∨ ∃ m s w', F m = .fail (.stuck s) w' :=
  h.imp (fun ⟨m, hm, _⟩ => ⟨m, hm⟩) fun ⟨s, w', m, hm, _⟩ => ⟨m, s, w', hm⟩

theorem transfer_orWrong : Transfer @OrWrong where
  ret := OrWrong.of_eq
  ext := by
    rintro α X Y r (h | ⟨s, w', h⟩) hxy
    · exact hxy _ h
    · rcases hxy _ h with h2 | ⟨s', w'', h2⟩
      · exact Or.inr ⟨s, w', h2⟩
      · exact Or.inr ⟨s', w'', h2⟩
  bind := by
    intro α β F G r X K h hF hF' hG
    cases hf : F with
    | fail f w' =>
      rw [hf] at h; simp only [Res.bind] at h
      rcases hF f w' hf h.symm with h1 | ⟨s, w'', h1⟩
      · exact Or.inl (Or.inl ⟨f, w', h1, h.symm⟩)
      · exact Or.inr ⟨s, w'', Or.inl ⟨_, w'', h1, rfl⟩⟩
    | ok a w' =>
      rw [hf] at h; simp only [Res.bind] at h
      rcases hF' a w' hf with h1 | ⟨s, w'', h1⟩
      · rcases hG a w' h with h2 | ⟨s, w'', h2⟩
        · exact Or.inl (Or.inr ⟨a, w', h1, h2⟩)
        · exact Or.inr ⟨s, w'', Or.inr ⟨a, w', h1, h2⟩⟩
      · exact Or.inr ⟨s, w'', Or.inl ⟨_, w'', h1, rfl⟩⟩

end Goml.Anf
