import GomlVerif.Lemmas.AnfHyp
import GomlVerif.Lemmas.SemOps
import GomlVerif.Lemmas.ProgSim
/-!
The simulation between an expression and its A-normal form, in both directions at once.
`Sim d X Y` relates a source computation `X` and a target computation `Y` (predicates on results): forward, every
outcome of `X` other than "no rule" is an outcome of `Y`; backward, every outcome of `Y` is an outcome of `X` unless `X`
can go wrong (ANF names all operands before the operation, so it may report an ill-typed operand at a different point).
Sequencing (`Sim.bind2`) is the semantic form of `anf_eq_dec`.
-/
namespace Goml.Anf
open Goml Goml.Sem

inductive Dir | fwd | bwd

def Sim {α} : Dir → (Res α → Prop) → (Res α → Prop) → Prop
  | .fwd, X, Y => ∀ r, X r → UnlessStuck Y r
  | .bwd, X, Y => ∀ r, Y r → OrWrong X r

section
variable {P : Prog} {β : Type} {ρ : Env} {w : World} {r : Res β}

theorem rb_evB_nil {F : Env → World → Res β → Prop} : RB (EvB P [] ρ w) F r ↔ F ρ w r := rb_pure

theorem rb_evB_cons {x : String} {c : Expr} {L : Binds} {F : Env → World → Res β → Prop} :
    RB (EvB P ((x, c) :: L) ρ w) F r ↔ RB (Ev P c ρ w) (fun v w' => RB (EvB P L ((x, v) :: ρ) w') F) r := rb_assoc

theorem rb_evB_append {L1 L2 : Binds} {F : Env → World → Res β → Prop} :
    RB (EvB P (L1 ++ L2) ρ w) F r ↔ RB (EvB P L1 ρ w) (fun ρ1 w1 => RB (EvB P L2 ρ1 w1) F) r :=
  (rb_congr_left fun _ => evB_append).trans rb_assoc

theorem rb_atom {i : Expr} (h : isAtom i = true) {K : Val → World → Res β → Prop} :
    RB (Ev P i ρ w) K r ↔ K (atomVal ρ i) w r := RB.of_pure fun _ => ev_atom h

theorem rb_atoms {is : List Expr} (h : ∀ i ∈ is, isAtom i = true) {K : List Val → World → Res β → Prop} :
    RB (EvL P is ρ w) K r ↔ K (is.map (atomVal ρ)) w r := RB.of_pure fun _ => evL_atoms h

end

namespace Sim
variable {α β γ : Type} {d : Dir}

theorem of_iff {X Y : Res α → Prop} (h : ∀ r, X r ↔ Y r) : Sim d X Y := by
  cases d
  · exact fun r hx _ => (h r).1 hx
  · exact fun r hy => Or.inl ((h r).2 hy)

theorem refl {X : Res α → Prop} : Sim d X X := of_iff fun _ => Iff.rfl

theorem trans {X Y Z : Res α → Prop} (h1 : Sim d X Y) (h2 : Sim d Y Z) : Sim d X Z := by
  cases d
  · exact fun r hx hs => h2 r (h1 r hx hs) hs
  · intro r hz
    rcases h2 r hz with hy | ⟨s, w', hy⟩
    · exact h1 r hy
    · rcases h1 _ hy with hx | hx
      · exact Or.inr ⟨s, w', hx⟩
      · exact Or.inr hx

theorem iff {X X' Y Y' : Res α → Prop} (hX : ∀ r, X r ↔ X' r) (hY : ∀ r, Y r ↔ Y' r) (h : Sim d X' Y') : Sim d X Y :=
  (of_iff hX).trans (h.trans (of_iff fun r => (hY r).symm))

/-- The target runs in two stages (a chain of bindings `Y`, then the final expression `Z`); its continuation may use
    the result `b` of the first stage, the environment the chain leaves. -/
theorem bind2 {X : Res α → Prop} {Y : Res β → Prop} {Z : β → World → Res α → Prop}
    {K : α → World → Res γ → Prop} {K' : β → α → World → Res γ → Prop} (h : Sim d X (RB Y Z))
    (hK : ∀ b w0 a w, Y (.ok b w0) → Z b w0 (.ok a w) → Sim d (K a w) (K' b a w)) :
    Sim d (RB X K) (RB Y (fun b w0 => RB (Z b w0) (K' b))) := by
  cases d
  · rintro r (⟨f, w', hx, rfl⟩ | ⟨a, w', hx, hk⟩) hs
    · rcases h _ hx (stuck_cast rfl hs) with ⟨f', w'', hy, he⟩ | ⟨b, w0, hy, hz⟩
      · cases he; exact Or.inl ⟨f, w', hy, rfl⟩
      · exact Or.inr ⟨b, w0, hy, Or.inl ⟨f, w', hz, rfl⟩⟩
    · rcases h _ hx (by simp) with ⟨_, _, _, he⟩ | ⟨b, w0, hy, hz⟩
      · cases he
      · exact Or.inr ⟨b, w0, hy, Or.inr ⟨a, w', hz, hK b w0 a w' hy hz r hk hs⟩⟩
  · have wr : (∃ s w', X (.fail (.stuck s) w')) → ∃ s w', RB X K (.fail (.stuck s) w') :=
      fun ⟨s, w', hx⟩ => ⟨s, w', Or.inl ⟨_, w', hx, rfl⟩⟩
    have fl : ∀ f w', RB Y Z (.fail f w') → RB X K (.fail f w') ∨ ∃ s w', RB X K (.fail (.stuck s) w') := by
      intro f w' hyz
      rcases h _ hyz with hx | hx
      · exact Or.inl (Or.inl ⟨f, w', hx, rfl⟩)
      · exact Or.inr (wr hx)
    rintro r (⟨f, w', hy, rfl⟩ | ⟨b, w0, hy, ⟨f, w', hz, rfl⟩ | ⟨a, w', hz, hk⟩⟩)
    · exact fl f w' (Or.inl ⟨f, w', hy, rfl⟩)
    · exact fl f w' (Or.inr ⟨b, w0, hy, hz⟩)
    · rcases h _ (Or.inr ⟨b, w0, hy, hz⟩) with hx | hx
      · rcases hK b w0 a w' hy hz r hk with hk' | ⟨s, w'', hk'⟩
        · exact Or.inl (Or.inr ⟨a, w', hx, hk'⟩)
        · exact Or.inr ⟨s, w'', Or.inr ⟨a, w', hx, hk'⟩⟩
      · exact Or.inr (wr hx)

/-- `head` is what `&&` / `||` leave (`and_true_res`) -/
theorem filter {X : Res α → Prop} {head : α → World → Res α}
    (hres : ∀ b w, head b w = .ok b w ∨ Stuck (head b w)) : Sim d (RB X (fun b w r => r = head b w)) X := by
  cases d
  · rintro r (⟨f, w', hx, rfl⟩ | ⟨b, w', hx, rfl⟩) hs
    · exact hx
    · rcases hres b w' with h | h
      · rw [h]; exact hx
      · exact absurd h hs
  · intro r hx
    cases r with
    | fail f w' => exact Or.inl (Or.inl ⟨f, w', hx, rfl⟩)
    | ok b w' =>
      rcases hres b w' with h | h
      · exact Or.inl (Or.inr ⟨b, w', hx, h.symm⟩)
      · cases hh : head b w' with
        | ok v w2 => rw [hh] at h; simp at h
        | fail f w2 =>
          cases f with
          | stuck s => exact Or.inr ⟨s, w2, Or.inr ⟨b, w', hx, hh.symm⟩⟩
          | panic k => rw [hh] at h; simp [Stuck] at h
          | fuel => rw [hh] at h; simp [Stuck] at h

theorem of_stuck {X Y : Res α → Prop} {s : String} {w : World} (hX : ∀ r, X r ↔ r = .fail (.stuck s) w) :
    Sim d X Y := by
  cases d
  · intro r hx hs; rw [(hX r).1 hx] at hs; simp at hs
  · exact fun r _ => Or.inr ⟨s, w, (hX _).2 rfl⟩

theorem bind_ret {X : Res α → Prop} {Y : Res β → Prop} {g : β → α}
    {K : α → World → Res γ → Prop} {K' : β → World → Res γ → Prop}
    (h : Sim d X (RB Y (fun b w r => r = .ok (g b) w))) (hK : ∀ b w, Y (.ok b w) → Sim d (K (g b) w) (K' b w)) :
    Sim d (RB X K) (RB Y K') :=
  Sim.iff (fun _ => Iff.rfl) (fun _ => rb_congr fun b w0 _ => (rb_pure (a := g b) (K := fun _ w => K' b w)).symm)
    (Sim.bind2 (K' := fun b _ w => K' b w) h fun b w0 a w hy hz => by cases hz; exact hK b w0 hy)

theorem bind_right {X : Res α → Prop} {K K' : α → World → Res β → Prop}
    (hK : ∀ a w, X (.ok a w) → Sim d (K a w) (K' a w)) : Sim d (RB X K) (RB X K') :=
  Sim.bind_ret (g := id) (Sim.of_iff fun _ => rb_ret.symm) hK

end Sim

variable (P : Prog)

/-- `OrWrong (Ev P e ρ w) r` unfolds to `Ev P e ρ w r ∨ Wrong P e ρ w` -/
def Wrong (e : Expr) (ρ : Env) (w : World) : Prop := ∃ s w', Ev P e ρ w (.fail (.stuck s) w')
def WrongL (es : List Expr) (ρ : Env) (w : World) : Prop := ∃ s w', EvL P es ρ w (.fail (.stuck s) w')

def WrongA (ρ : Env) (w : World) (v : Val) (arms : List Arm) (d : Option Expr) : Prop :=
  ∃ s w', EvA P ρ w v arms d (.fail (.stuck s) w')

theorem wrong_of_stuck {P : Prog} {e : Expr} {ρ : Env} {w : World} {y : Res Val} (h : Ev P e ρ w y) (hs : Stuck y) :
    Wrong P e ρ w := by
  cases y with
  | ok v w' => simp at hs
  | fail f w' =>
    cases f with
    | stuck s => exact ⟨s, w', h⟩
    | panic k => simp [Stuck] at hs
    | fuel => simp [Stuck] at hs

theorem NF_of_bind_fail {α β} {f : Fail} {w : World} (h : NF (Res.fail (α := β) f w)) :
    NF (Res.fail (α := α) f w) := nf_cast rfl h

def SimE (d : Dir) (e : Expr) : Prop :=
  ∀ (n N : Nat) (D : List String) (ρ ρ' : Env) (w : World), Hyp D e n N → Agree D ρ ρ' →
    Sim d (Ev P e ρ w) (RB (EvB P (dec e n).L ρ' w) (fun ρ1 w1 => Ev P (dec e n).c ρ1 w1))

def SimTop (d : Dir) (e : Expr) : Prop :=
  ∀ (n N : Nat) (D : List String) (ρ ρ' : Env) (w : World), Hyp D e n N → Agree D ρ ρ' →
    Sim d (Ev P e ρ w) (Ev P (anf e n ret).1 ρ' w)

def SimI (d : Dir) (e : Expr) : Prop :=
  ∀ (n N : Nat) (D : List String) (ρ ρ' : Env) (w : World), HypI D e n N → Agree D ρ ρ' →
    Sim d (Ev P e ρ w) (RB (EvB P (decImm e n).L ρ' w) (fun ρ1 w1 r => r = .ok (atomVal ρ1 (decImm e n).c) w1))

def SimL (d : Dir) (es : List Expr) : Prop :=
  ∀ (n N : Nat) (D : List String) (ρ ρ' : Env) (w : World), HypL D es n N → Agree D ρ ρ' →
    Sim d (EvL P es ρ w)
      (RB (EvB P (decList es n).L ρ' w) (fun ρ1 w1 r => r = .ok ((decList es n).cs.map (atomVal ρ1)) w1))

def SimD (d : Dir) (dflt : Option Expr) : Prop :=
  ∀ (n N : Nat) (D : List String) (ρ ρ' : Env) (w : World) (v : Val), HypD D dflt n N → Agree D ρ ρ' →
    Sim d (EvA P ρ w v [] dflt) (EvA P ρ' w v [] (anfDflt dflt n).1)

/-- The default is a parameter, with its own `SimD`, because the counter it is
    transformed from, `(anfArms arms n).2`, depends on the arms in front of it: the induction on `arms` peels arms off
    while the default stays. -/
def SimA (d : Dir) (arms : List Arm) : Prop :=
  ∀ (dflt : Option Expr), SimD P d dflt →
  ∀ (n N : Nat) (D : List String) (ρ ρ' : Env) (w : World) (v : Val), HypA D arms dflt n N → Agree D ρ ρ' →
    Sim d (EvA P ρ w v arms dflt) (EvA P ρ' w v (anfArms arms n).1 (anfDflt dflt (anfArms arms n).2).1)

/-! `FW` … `BWA`: `SimE` … `SimA` at `.fwd` / `.bwd` with `Sim` unfolded; `BWL` is stated on the outcome of the chain, which
determines the result (`listRes`). -/

def FW (e : Expr) : Prop :=
  ∀ (n N : Nat) (D : List String) (ρ ρ' : Env) (w : World) (r : Res Val),
    Hyp D e n N → Agree D ρ ρ' → Ev P e ρ w r → ¬Stuck r →
    RB (EvB P (dec e n).L ρ' w) (fun ρ1 w1 => Ev P (dec e n).c ρ1 w1) r

def FWL (es : List Expr) : Prop :=
  ∀ (n N : Nat) (D : List String) (ρ ρ' : Env) (w : World) (r : Res (List Val)),
    HypL D es n N → Agree D ρ ρ' → EvL P es ρ w r → ¬Stuck r →
    RB (EvB P (decList es n).L ρ' w) (fun ρ1 w1 r => r = .ok ((decList es n).cs.map (atomVal ρ1)) w1) r

def FWD (d : Option Expr) : Prop :=
  ∀ (n N : Nat) (D : List String) (ρ ρ' : Env) (w : World) (v : Val) (r : Res Val),
    HypD D d n N → Agree D ρ ρ' → EvA P ρ w v [] d r → ¬Stuck r → EvA P ρ' w v [] (anfDflt d n).1 r

def FWA (arms : List Arm) : Prop :=
  ∀ (d : Option Expr), FWD P d →
  ∀ (n N : Nat) (D : List String) (ρ ρ' : Env) (w : World) (v : Val) (r : Res Val),
    HypA D arms d n N → Agree D ρ ρ' → EvA P ρ w v arms d r → ¬Stuck r →
    EvA P ρ' w v (anfArms arms n).1 (anfDflt d (anfArms arms n).2).1 r

def BW (e : Expr) : Prop :=
  ∀ (n N : Nat) (D : List String) (ρ ρ' : Env) (w : World) (r : Res Val),
    Hyp D e n N → Agree D ρ ρ' →
    RB (EvB P (dec e n).L ρ' w) (fun ρ1 w1 => Ev P (dec e n).c ρ1 w1) r → Ev P e ρ w r ∨ Wrong P e ρ w

def listRes (cs : List Expr) : Res Env → Res (List Val)
  | .fail f w => .fail f w
  | .ok ρ1 w1 => .ok (cs.map (atomVal ρ1)) w1

def BWL (es : List Expr) : Prop :=
  ∀ (n N : Nat) (D : List String) (ρ ρ' : Env) (w : World) (out : Res Env),
    HypL D es n N → Agree D ρ ρ' → EvB P (decList es n).L ρ' w out →
    EvL P es ρ w (listRes (decList es n).cs out) ∨ WrongL P es ρ w

def BWD (d : Option Expr) : Prop :=
  ∀ (n N : Nat) (D : List String) (ρ ρ' : Env) (w : World) (v : Val) (r : Res Val),
    HypD D d n N → Agree D ρ ρ' → EvA P ρ' w v [] (anfDflt d n).1 r →
    EvA P ρ w v [] d r ∨ WrongA P ρ w v [] d

def BWA (arms : List Arm) : Prop :=
  ∀ (d : Option Expr), BWD P d →
  ∀ (n N : Nat) (D : List String) (ρ ρ' : Env) (w : World) (v : Val) (r : Res Val),
    HypA D arms d n N → Agree D ρ ρ' →
    EvA P ρ' w v (anfArms arms n).1 (anfDflt d (anfArms arms n).2).1 r →
    EvA P ρ w v arms d r ∨ WrongA P ρ w v arms d

theorem rb_listRes {cs : List Expr} {L : Binds} {ρ' : Env} {w : World} {out : Res Env} (h : EvB P L ρ' w out) :
    RB (EvB P L ρ' w) (fun ρ1 w1 r => r = .ok (cs.map (atomVal ρ1)) w1) (listRes cs out) := by
  cases out with
  | fail f w' => exact Or.inl ⟨f, w', h, rfl⟩
  | ok ρ1 w1 => exact Or.inr ⟨ρ1, w1, h, rfl⟩

variable {P} {d : Dir}

theorem sim_top {e : Expr} (h : SimE P d e) : SimTop P d e := fun n N D ρ ρ' w hy ha =>
  Sim.iff (fun _ => Iff.rfl) (fun _ => by rw [anf_ret]; exact ev_wrap) (h n N D ρ ρ' w hy ha)

theorem sim_imm {e : Expr} (h : SimE P d e) : SimI P d e := by
  intro n N D ρ ρ' w ⟨hf, hd, hfr, hb⟩ ha
  cases hat : isAtom e
  · -- a complex operand is named: the chain ends with that binding, and the atom reads it back
    rw [decImm_nonatom hat] at hb ⊢
    refine Sim.iff (fun _ => Iff.rfl) (fun _ => ?_)
      (h (n+1) N D ρ ρ' w ⟨hf, hd, fun m h1 h2 => hfr m (by omega) h2, hb⟩ ha)
    refine rb_evB_append.trans (rb_congr fun ρ1 w1 _ => rb_evB_cons.trans ?_)
    refine (rb_congr fun v w' _ => rb_evB_nil).trans ?_
    simp only [atomVal, lookupVal_cons_self]
    exact rb_ret
  · rw [decImm_atom hat]
    refine Sim.of_iff fun r => (ev_atom hat).trans ?_
    rw [rb_evB_nil, atomVal_congr (ρ := ρ) (ρ' := ρ') (fun x hx => ha x (hd x hx))]

theorem simL_nil : SimL P d [] := fun n N D ρ ρ' w _ _ => Sim.of_iff fun r => by
  show EvL P [] ρ w r ↔ RB (EvB P [] ρ' w) (fun ρ1 w1 r => r = .ok ([].map (atomVal ρ1)) w1) r
  rw [rb_evB_nil, evL_nil]; rfl

theorem simL_cons {e : Expr} {rest : List Expr} (he : SimI P d e) (hr : SimL P d rest) : SimL P d (e :: rest) := by
  intro n N D ρ ρ' w hy ha
  obtain ⟨hye, hyt⟩ := hypL_cons hy
  show Sim d _ (RB (EvB P ((decImm e n).L ++ (decList rest (decImm e n).n).L) ρ' w)
    (fun ρ1 w1 r => r = .ok (((decImm e n).c :: (decList rest (decImm e n).n).cs).map (atomVal ρ1)) w1))
  refine Sim.iff (fun _ => evL_cons) (fun _ => rb_evB_append) ?_
  refine Sim.bind_ret (he n N D ρ ρ' w hye ha) fun ρ1 w1 h1 => ?_
  refine Sim.bind_ret (hr _ N _ ρ ρ1 w1 hyt (evB_agree h1 ha)) fun ρ2 w2 h2 => ?_
  rw [List.map_cons, hypL_atom_stable hy h2]
  exact Sim.refl

/-- a node that evaluates its operands left to right and then applies `H` to their values -/
theorem sim_ops {e : Expr} {ops : List Expr} {H : List Val → World → Res Val → Prop} {mk : List Expr → Expr}
    (hL : SimL P d ops)
    (hdec : ∀ n, (dec e n).L = (decList ops n).L ∧ (dec e n).c = mk (decList ops n).cs ∧ (dec e n).n = (decList ops n).n)
    (hhyp : ∀ D n N, Hyp D e n N → HypL D ops n N)
    (hsrc : ∀ ρ w, Sim d (Ev P e ρ w) (RB (EvL P ops ρ w) H))
    (htgt : ∀ n ρ w, Sim d (RB (EvL P (decList ops n).cs ρ w) H) (Ev P (mk (decList ops n).cs) ρ w)) :
    SimE P d e := by
  intro n N D ρ ρ' w hy ha
  obtain ⟨hd1, hd2, _⟩ := hdec n
  rw [hd1, hd2]
  refine (hsrc ρ w).trans (Sim.bind_ret (hL n N D ρ ρ' w (hhyp D n N hy) ha) fun ρ1 w1 _ => ?_)
  exact Sim.iff (fun _ => (rb_atoms (decList_cs_atoms ops n)).symm) (fun _ => Iff.rfl) (htgt n ρ1 w1)

theorem sim_op1 {e0 e : Expr} {K : Val → World → Res Val → Prop} {mk1 : Expr → Expr}
    (he : SimE P d e)
    (hdec : ∀ n, dec e0 n = ⟨(decImm e n).L, mk1 (decImm e n).c, (decImm e n).n⟩)
    (hfrag : frag e0 = frag e) (hnames : names e0 = names e)
    (hsrc : ∀ ρ w r, Ev P e0 ρ w r ↔ RB (Ev P e ρ w) K r)
    (htgt : ∀ i ρ w r, Ev P (mk1 i) ρ w r ↔ RB (Ev P i ρ w) K r) : SimE P d e0 := by
  intro n N D ρ ρ' w ⟨hf, hd, hfr, hb⟩ ha
  rw [hdec] at hb ⊢
  rw [hfrag] at hf; rw [hnames] at hd hfr
  refine Sim.iff (hsrc ρ w) (fun _ => Iff.rfl) (Sim.bind_ret (sim_imm he n N D ρ ρ' w ⟨hf, hd, hfr, hb⟩ ha) ?_)
  exact fun ρ1 w1 _ => Sim.of_iff fun r => ((htgt _ ρ1 w1 r).trans (rb_atom (decImm_c_atom e n))).symm

theorem sim_while_congr {c b c' b' : Expr} {ρ ρ' : Env} (hc : ∀ w, Sim d (Ev P c ρ w) (Ev P c' ρ' w))
    (hb : ∀ w, Sim d (Ev P b ρ w) (Ev P b' ρ' w)) (w : World) :
    Sim d (Ev P (.while c b) ρ w) (Ev P (.while c' b') ρ' w) := by
  cases d
  · exact fun r h => while_transfer transfer_unlessStuck (fun w r => hc w r) (fun w r => hb w r) w r h
  · exact fun r h => while_transfer transfer_orWrong (fun w r => hc w r) (fun w r => hb w r) w r h

theorem sim_iteK {t e t' e' : Expr} {ρ ρ1 : Env} {v : Val} {w : World}
    (ht : Sim d (Ev P t ρ w) (Ev P t' ρ1 w)) (he : Sim d (Ev P e ρ w) (Ev P e' ρ1 w)) :
    Sim d (iteK P t e ρ v w) (iteK P t' e' ρ1 v w) := by
  unfold iteK
  split
  · exact ht
  · exact he
  · exact Sim.refl

end Goml.Anf
