import GomlVerif.Model.Tree
import GomlVerif.Lemmas.C12Lex
/-! The tree builder keeps every emitted token, in order; its offsets and ranges lie in the text. -/
namespace Goml.Tree
open Goml.Lex

def leafOf (t : Tok) : Tree := .leaf t.kind t.text

theorem leavesList_append (a b : List Tree) : leavesList (a ++ b) = leavesList a ++ leavesList b := by
  induction a with
  | nil => simp [leavesList]
  | cons t ts ih => simp [leavesList, ih]

theorem leavesList_map_leaf (ts : List Tok) : leavesList (ts.map leafOf) = ts := by
  induction ts with
  | nil => simp [leavesList]
  | cons t ts ih => simp [leavesList, leaves, leafOf, ih]

theorem leavesList_wrap (k n : Nat) (l : List Tree) :
    leavesList (l.take n ++ [.node k (l.drop n)]) = leavesList l := by
  rw [leavesList_append]
  simp only [leavesList, leaves, List.append_nil]
  rw [← leavesList_append, List.take_append_drop]

/-- the cursor is at the end or at a token the trivia loop does not consume -/
def AtStop : List Tok → Prop
  | [] => True
  | t :: _ => stops t.kind = true

theorem attachTrivia_atStop (ts : List Tok) (off : Nat) (b : Builder) (h : AtStop ts) :
    attachTrivia ts off b = (ts, off, b) := by
  cases ts with
  | nil => rfl
  | cons t ts => simp only [AtStop] at h; simp [attachTrivia, h]

/-- The trivia loop on `ts` from offset `off` and builder `b` consumes the prefix `pre`, trivia only, as leaves after the children,
and stops at a stop token. -/
structure TriviaRun (ts : List Tok) (off : Nat) (b : Builder) (pre : List Tok) : Prop where
  split : ts = pre ++ (attachTrivia ts off b).1
  stop : AtStop (attachTrivia ts off b).1
  children : (attachTrivia ts off b).2.2.children = b.children ++ pre.map leafOf
  parents : (attachTrivia ts off b).2.2.parents = b.parents
  count : nonTrivia (attachTrivia ts off b).1 = nonTrivia ts
  offset : (attachTrivia ts off b).2.1 = off + byteLen (textOf pre)

theorem attachTrivia_spec (ts : List Tok) (off : Nat) (b : Builder) : ∃ pre, TriviaRun ts off b pre := by
  induction ts generalizing off b with
  | nil => exact ⟨[], by constructor <;> simp [attachTrivia, AtStop, textOf, byteLen]⟩
  | cons t ts ih =>
    by_cases hs : stops t.kind = true
    · exact ⟨[], by constructor <;> simp [attachTrivia, hs, AtStop, textOf, byteLen]⟩
    · obtain ⟨pre, ih⟩ := ih (off + byteLen t.text) (b.token t)
      refine ⟨t :: pre, ?_⟩
      constructor <;> simp only [attachTrivia, hs, Bool.false_eq_true, if_false]
      · rw [List.cons_append, ← ih.split]
      · exact ih.stop
      · rw [ih.children]; simp [Builder.token, leafOf]
      · rw [ih.parents]; rfl
      · rw [ih.count]; simp [nonTrivia, hs]
      · rw [ih.offset]; simp only [textOf, List.flatMap_cons]; rw [byteLen_append]; omega

theorem foldl_startNode (ks : List Nat) (b : Builder) :
    (ks.foldl Builder.startNode b).children = b.children ∧
    (ks.foldl Builder.startNode b).parents = (ks.reverse.map (·, b.children.length)) ++ b.parents := by
  induction ks generalizing b with
  | nil => simp
  | cons k ks ih =>
    obtain ⟨h1, h2⟩ := ih (b.startNode k)
    simp only [List.foldl_cons]
    refine ⟨by rw [h1]; rfl, ?_⟩
    rw [h2]
    simp [Builder.startNode]

theorem atStop_nonTrivia_zero (ts : List Tok) (h : AtStop ts) (h0 : nonTrivia ts = 0) : ts = [] := by
  cases ts with
  | nil => rfl
  | cons t ts => simp only [AtStop] at h; simp [nonTrivia, h] at h0

theorem advances_cons_le (ev : REv) (evs : List REv) : advances evs ≤ advances (ev :: evs) := by
  cases ev <;> simp [advances]

/-- the builder's outermost open node started before anything was emitted -/
def BottomZero (b : Builder) : Prop := ∃ ps k0, b.parents = ps ++ [(k0, 0)]

/-- one event followed by its trivia loop, while the root stays open -/
theorem event_inv (lr : Option (Nat × Nat)) (ev : REv) (evs : List REv) (st : St) (d' : Nat)
    (hd : depthAfter st.b.parents.length ev = some (d' + 1))
    (hb : BottomZero st.b) (hs : AtStop st.rest) (hn : nonTrivia st.rest ≤ advances (ev :: evs)) :
    ∃ st1, stepEvent lr ev st = some st1 ∧
      (afterEvent st1).b.parents.length = d' + 1 ∧ BottomZero (afterEvent st1).b ∧
      AtStop (afterEvent st1).rest ∧ nonTrivia (afterEvent st1).rest ≤ advances evs ∧
      leavesList (afterEvent st1).b.children ++ (afterEvent st1).rest
        = leavesList st.b.children ++ st.rest := by
  obtain ⟨ps, k0, hps⟩ := hb
  cases ev with
  | starts ks =>
    obtain ⟨h1, h2⟩ := foldl_startNode ks st.b
    refine ⟨{ st with b := ks.foldl Builder.startNode st.b }, rfl, ?_⟩
    simp only [afterEvent, attachTrivia_atStop _ _ _ hs]
    simp only [depthAfter, Option.some.injEq] at hd
    refine ⟨by rw [h2]; simp; omega,
      ⟨(ks.reverse.map (·, st.b.children.length)) ++ ps, k0, by rw [h2, hps]; simp⟩,
      hs,
      by simpa [advances] using hn,
      by rw [h1]⟩
  | finish =>
    simp only [depthAfter] at hd
    split at hd
    · simp at hd
    · simp only [Option.some.injEq] at hd
      cases ps with
      | nil => rw [hps] at hd; simp at hd
      | cons p ps' =>
        obtain ⟨k, first⟩ := p
        have hfin : st.b.finishNode = some
            ⟨ps' ++ [(k0, 0)], st.b.children.take first ++ [.node k (st.b.children.drop first)]⟩ := by
          simp [Builder.finishNode, hps]
        refine ⟨{ st with b := ⟨ps' ++ [(k0, 0)], st.b.children.take first ++ [.node k (st.b.children.drop first)]⟩ },
          by simp only [stepEvent, hfin]; rfl, ?_⟩
        simp only [afterEvent, attachTrivia_atStop _ _ _ hs]
        refine ⟨by rw [hps] at hd; simp at hd ⊢; omega,
          ⟨ps', k0, rfl⟩,
          hs,
          by simpa [advances] using hn,
          ?_⟩
        rw [leavesList_wrap]
  | advance =>
    simp only [depthAfter, Option.some.injEq] at hd
    cases hr : st.rest with
    | nil =>
      refine ⟨st, by simp [stepEvent, hr], ?_⟩
      simp only [afterEvent, attachTrivia_atStop _ _ _ hs]
      rw [hr] at hn ⊢
      exact ⟨hd, ⟨ps, k0, hps⟩, by simp [AtStop], by simp [nonTrivia], rfl⟩
    | cons t ts =>
      refine ⟨{ st with rest := ts, off := st.off + byteLen t.text, b := st.b.token t }, by simp [stepEvent, hr], ?_⟩
      obtain ⟨pre, tr⟩ := attachTrivia_spec ts (st.off + byteLen t.text) (st.b.token t)
      simp only [afterEvent]
      rw [hr] at hs hn
      simp only [AtStop] at hs
      refine ⟨by rw [tr.parents]; simpa [Builder.token] using hd,
        ⟨ps, k0, by rw [tr.parents]; simpa [Builder.token] using hps⟩,
        tr.stop,
        ?_,
        ?_⟩
      · rw [tr.count]; simp [nonTrivia, hs, advances] at hn; omega
      · rw [tr.children, leavesList_append, leavesList_map_leaf]
        simp only [Builder.token, leavesList_append, leavesList, leaves, List.append_nil, List.append_assoc]
        congr 1
        simp only [List.singleton_append, List.cons.injEq, true_and]
        exact tr.split.symm
  | error m =>
    simp only [depthAfter, Option.some.injEq] at hd
    simp only [stepEvent]
    refine ⟨_, rfl, ?_⟩
    simp only [afterEvent, attachTrivia_atStop _ _ _ hs]
    exact ⟨hd, ⟨ps, k0, hps⟩, hs, by simpa [advances] using hn⟩

/-- all events after the first: the root is open, closes at the very end -/
theorem run_lossless (lr : Option (Nat × Nat)) : ∀ (evs : List REv) (st : St),
    balancedFrom st.b.parents.length evs = true → BottomZero st.b → AtStop st.rest →
    nonTrivia st.rest ≤ advances evs →
    ∃ st', runEvents lr evs st = some st' ∧ st'.rest = [] ∧ (∃ k ch, st'.b.children = [.node k ch]) ∧
      leavesList st'.b.children = leavesList st.b.children ++ st.rest := by
  intro evs
  induction evs with
  | nil => intro st hb; simp [balancedFrom] at hb
  | cons ev evs ih =>
    intro st hbal hb hs hn
    cases evs with
    | nil =>
      simp only [balancedFrom, Bool.and_eq_true, beq_iff_eq] at hbal
      obtain ⟨hd1, hev⟩ := hbal
      subst hev
      obtain ⟨ps, k0, hps⟩ := hb
      have hps0 : ps = [] := by
        rw [hps] at hd1; simpa using hd1
      subst hps0
      have hrest : st.rest = [] := atStop_nonTrivia_zero _ hs (by simp [advances] at hn; omega)
      refine ⟨afterEvent { st with b := { parents := [], children := [.node k0 st.b.children] } }, ?_, ?_, ?_, ?_⟩
      · simp [runEvents, stepEvent, Builder.finishNode, hps]
      · simp [afterEvent, hrest, attachTrivia]
      · exact ⟨k0, st.b.children, by simp [afterEvent, hrest, attachTrivia]⟩
      · simp [afterEvent, hrest, attachTrivia, leavesList, leaves]
    | cons ev2 evs' =>
      simp only [balancedFrom] at hbal
      split at hbal
      · rename_i d' hd
        obtain ⟨st1, hstep, hdepth, hbz, hstop, hcount, hleaves⟩ := event_inv lr ev (ev2 :: evs') st d' hd hb hs hn
        obtain ⟨st', hrun, hrest, hroot, hkept⟩ := ih (afterEvent st1) (by rw [hdepth]; exact hbal) hbz hstop hcount
        refine ⟨st', by simp only [runEvents, hstep]; exact hrun, hrest, hroot, by rw [hkept, hleaves]⟩
      · simp at hbal

/-- The first event opens the root at offset 0 (`BottomZero`) and runs its trivia loop; `run_lossless` does the rest. -/
theorem run_lossless_from_start (lr : Option (Nat × Nat)) (ks : List Nat) (d' : Nat) (evs : List REv) (toks : List Tok)
    (hd : ks.length = d' + 1) (hb : balancedFrom (d' + 1) evs = true) (hn : nonTrivia toks ≤ advances evs) :
    ∃ st', runEvents lr (.starts ks :: evs) { rest := toks, off := 0, b := {}, diags := [] } = some st' ∧
      st'.rest = [] ∧ (∃ k ch, st'.b.children = [.node k ch]) ∧ leavesList st'.b.children = toks := by
  let st0 : St := { rest := toks, off := 0, b := {}, diags := [] }
  let st1 : St := { st0 with b := ks.foldl Builder.startNode st0.b }
  obtain ⟨f1, f2⟩ := foldl_startNode ks st0.b
  obtain ⟨pre, tr⟩ := attachTrivia_spec st1.rest st1.off st1.b
  have hpar : (afterEvent st1).b.parents = ks.reverse.map (·, 0) := by
    simp only [afterEvent]; rw [tr.parents]
    show (ks.foldl Builder.startNode st0.b).parents = _
    rw [f2]; simp [st0]
  have hchild : (afterEvent st1).b.children = pre.map leafOf := by
    simp only [afterEvent]; rw [tr.children]
    show (ks.foldl Builder.startNode st0.b).children ++ _ = _
    rw [f1]; simp [st0]
  have hbz : BottomZero (afterEvent st1).b := by
    cases ks with
    | nil => simp at hd
    | cons k0 ks' => exact ⟨ks'.reverse.map (·, 0), k0, by rw [hpar]; simp⟩
  have hlen : (afterEvent st1).b.parents.length = d' + 1 := by rw [hpar]; simp [hd]
  have hnt : nonTrivia (afterEvent st1).rest ≤ advances evs := by
    simp only [afterEvent]; rw [tr.count]; simpa [st1, st0] using hn
  obtain ⟨st', hrun, hrest, hroot, hkept⟩ := run_lossless lr evs (afterEvent st1) (by rw [hlen]; exact hb) hbz tr.stop hnt
  refine ⟨st', by rw [runEvents]; exact hrun, hrest, hroot, ?_⟩
  rw [hkept, hchild, leavesList_map_leaf]
  exact tr.split.symm


theorem ranges_within (toks : List Tok) : ∀ (off : Nat) (r : Nat × Nat), r ∈ ranges off toks →
    off ≤ r.1 ∧ r.1 ≤ r.2 ∧ r.2 ≤ off + byteLen (textOf toks) := by
  induction toks with
  | nil => intro off r h; simp [ranges] at h
  | cons t ts ih =>
    intro off r h
    simp only [ranges] at h
    rw [textOf_cons, byteLen_append]
    rcases List.mem_cons.1 h with rfl | h
    · simp only; omega
    · have := ih _ r h; omega

/-- `off` is the byte offset of the cursor and every diagnostic so far lies inside the text -/
def RangeInv (total : Nat) (st : St) : Prop :=
  st.off + byteLen (textOf st.rest) = total ∧
    ∀ d ∈ st.diags, ∀ r, d.range = some r → r.1 ≤ r.2 ∧ r.2 ≤ total

theorem stepEvent_rangeInv (total : Nat) (lr : Option (Nat × Nat))
    (hlr : ∀ r, lr = some r → r.1 ≤ r.2 ∧ r.2 ≤ total) (ev : REv) (st st1 : St)
    (hi : RangeInv total st) (h : stepEvent lr ev st = some st1) : RangeInv total st1 := by
  obtain ⟨ho, hdg⟩ := hi
  cases ev with
  | starts ks => simp only [stepEvent, Option.some.injEq] at h; subst h; exact ⟨ho, hdg⟩
  | finish =>
    simp only [stepEvent] at h
    cases hf : st.b.finishNode with
    | none => simp [hf] at h
    | some b => simp only [hf, Option.map_some, Option.some.injEq] at h; subst h; exact ⟨ho, hdg⟩
  | advance =>
    simp only [stepEvent] at h
    cases hr : st.rest with
    | nil => simp only [hr, Option.some.injEq] at h; subst h; exact ⟨ho, hdg⟩
    | cons t ts =>
      simp only [hr, Option.some.injEq] at h; subst h
      rw [hr, textOf_cons, byteLen_append] at ho
      exact ⟨by simp only; omega, hdg⟩
  | error m =>
    simp only [stepEvent, Option.some.injEq] at h; subst h
    refine ⟨ho, ?_⟩
    intro d hd r hr
    rcases List.mem_append.1 hd with hd | hd
    · exact hdg d hd r hr
    · simp only [List.mem_singleton] at hd
      subst hd
      simp only at hr
      cases hrest : st.rest with
      | nil => rw [hrest] at hr; exact hlr r hr
      | cons t ts =>
        rw [hrest] at hr
        simp only [Option.some.injEq] at hr
        subst hr
        rw [hrest, textOf_cons, byteLen_append] at ho
        simp only; omega

theorem afterEvent_rangeInv (total : Nat) (st : St) (hi : RangeInv total st) :
    RangeInv total (afterEvent st) := by
  obtain ⟨ho, hdg⟩ := hi
  obtain ⟨pre, tr⟩ := attachTrivia_spec st.rest st.off st.b
  refine ⟨?_, hdg⟩
  simp only [afterEvent]
  rw [tr.offset]
  rw [tr.split, textOf_append, byteLen_append] at ho
  omega

theorem runEvents_rangeInv (total : Nat) (lr : Option (Nat × Nat))
    (hlr : ∀ r, lr = some r → r.1 ≤ r.2 ∧ r.2 ≤ total) :
    ∀ (evs : List REv) (st st' : St), RangeInv total st → runEvents lr evs st = some st' →
      RangeInv total st' := by
  intro evs
  induction evs with
  | nil => intro st st' hi h; simp only [runEvents, Option.some.injEq] at h; subst h; exact hi
  | cons ev evs ih =>
    intro st st' hi h
    simp only [runEvents] at h
    cases hs : stepEvent lr ev st with
    | none => simp [hs] at h
    | some st1 =>
      simp only [hs] at h
      exact ih _ _ (afterEvent_rangeInv total _ (stepEvent_rangeInv total lr hlr ev st st1 hi hs)) h

theorem lastRangeOf_within (toks : List Tok) :
    ∀ r, lastRangeOf toks = some r → r.1 ≤ r.2 ∧ r.2 ≤ byteLen (textOf toks) := by
  intro r h
  have := ranges_within toks 0 r (List.mem_of_getLast? h)
  omega


def treeLen (t : Tree) : Nat := byteLen (textOf (leaves t))

theorem spans_within : ∀ (t : Tree) (off : Nat) (x : Nat × Nat × Nat), x ∈ spans off t →
      off ≤ x.2.1 ∧ x.2.1 ≤ x.2.2 ∧ x.2.2 ≤ off + treeLen t := by
  apply Tree.rec
    (motive_1 := fun t => ∀ (off : Nat) (x : Nat × Nat × Nat), x ∈ spans off t →
      off ≤ x.2.1 ∧ x.2.1 ≤ x.2.2 ∧ x.2.2 ≤ off + treeLen t)
    (motive_2 := fun ts => ∀ (off : Nat) (x : Nat × Nat × Nat), x ∈ spansList off ts →
      off ≤ x.2.1 ∧ x.2.1 ≤ x.2.2 ∧ x.2.2 ≤ off + byteLen (textOf (leavesList ts)))
  · intro k ch ih off x hx
    simp only [spans] at hx
    simp only [treeLen, leaves]
    rcases List.mem_cons.1 hx with rfl | hx
    · simp only [textOf]; omega
    · exact ih off x hx
  · intro k t off x hx
    simp only [spans, List.mem_singleton] at hx
    subst hx
    simp [treeLen, leaves, textOf]
  · intro off x hx; simp [spansList] at hx
  · intro t ts iht ihts off x hx
    simp only [spansList] at hx
    simp only [leavesList, textOf_append, byteLen_append]
    rcases List.mem_append.1 hx with hx | hx
    · have := iht off x hx; simp only [treeLen] at this; omega
    · have := ihts _ x hx; simp only [textOf] at this ⊢; omega

end Goml.Tree
