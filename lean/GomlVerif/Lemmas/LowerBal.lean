import GomlVerif.Model.Lower
/-! A small Hoare logic for the lowering monad `M` of `Model/Lower.lean`.

`Bal Γ m P`: started with the binder stack `Γ`, `m` ends with the stack `Γ`, does not get stuck, and a
result satisfies `P`.  `Ext Γ m P`: `m` ends with `Γ ++ ext` (it only pushes) and a result satisfies `P · ext`.
`Run ok Γ m P` is `Bal Γ m P` together with "does not run out of fuel, provided `ok`": a function of the model is walked
once for all of balance, no panic, its postcondition and fuel sufficiency.  `Tri ok Γ m Q` is the general form, for a
computation that pushes: `Q` speaks of the outcome (`none`: it failed) and of the stack it leaves. -/
namespace Goml.Lower
open Goml.Src

def Bal {α} (Γ : List String) (m : M α) (P : α → Prop) : Prop :=
  ∀ s : St, s.locals = Γ → (m s).2.locals = Γ ∧ (m s).2.stuck = s.stuck ∧ ∀ a, (m s).1 = some a → P a

def Ext {α} (Γ : List String) (m : M α) (P : α → List String → Prop) : Prop :=
  ∀ s : St, s.locals = Γ →
    ∃ ext, (m s).2.locals = Γ ++ ext ∧ (m s).2.stuck = s.stuck ∧ ∀ a, (m s).1 = some a → P a ext

/-- `ok` is "the fuel suffices": `2 * node.size ≤ n` for a function of the model called on `node` with fuel `n` (a node
costs at most two nested calls; `Lemmas/LowerFuel.lean` has the sizes). -/
def Run {α} (ok : Prop) (Γ : List String) (m : M α) (P : α → Prop) : Prop :=
  ∀ s : St, s.locals = Γ → (m s).2.locals = Γ ∧ (m s).2.stuck = s.stuck ∧
    (ok → s.starved = false → (m s).2.starved = false) ∧ ∀ a, (m s).1 = some a → P a

variable {α β : Type} {Γ : List String}
variable {ok : Prop}

theorem run_pure {α} (a : α) (s : St) : (pure a : M α) s = (some a, s) := rfl

theorem bind_run (m : M α) (f : α → M β) (s : St) :
    (m >>= f) s = (match m s with | (some a, s') => f a s' | (none, s') => (none, s')) := rfl

theorem bind_some {m : M α} {f : α → M β} {s : St} {a : α} (h : (m s).1 = some a) : (m >>= f) s = f a (m s).2 := by
  rw [bind_run]
  revert h
  rcases m s with ⟨_ | x, s'⟩ <;> intro h
  · cases h
  · cases h; rfl

theorem opt_bind_some {m : M α} {k : Option α → M β} {s : St} {a : α} (h : (m s).1 = some a) :
    (opt m >>= k) s = k (some a) (m s).2 := by
  have : opt m s = (some (m s).1, (m s).2) := rfl
  rw [bind_run, this, h]


theorem Run.weaken {m : M α} {P Q : α → Prop} (h : Run ok Γ m P) (hpq : ∀ a, P a → Q a) : Run ok Γ m Q := by
  intro s hs
  obtain ⟨hloc, hstuck, hfuel, hpost⟩ := h s hs
  exact ⟨hloc, hstuck, hfuel, fun a ha => hpq a (hpost a ha)⟩

theorem Run.mono {ok' : Prop} {m : M α} {P : α → Prop} (h : Run ok Γ m P) (hok : ok' → ok) : Run ok' Γ m P := by
  intro s hs
  obtain ⟨hloc, hstuck, hfuel, hpost⟩ := h s hs
  exact ⟨hloc, hstuck, fun o => hfuel (hok o), hpost⟩

theorem Run.pure {a : α} {P : α → Prop} (h : P a) : Run ok Γ (pure a : M α) P := by
  intro s hs
  exact ⟨hs, rfl, fun _ h0 => h0, fun b hb => by cases hb; exact h⟩
/-- `Model/Lower.lean` spells `M.pure` / `M.bind` out in places (`mapAll`, `ofOpt` …), and `run_auto` matches rules up to
reducible unfolding only: hence both spellings. -/
theorem Run.mpure {a : α} {P : α → Prop} (h : P a) : Run ok Γ (M.pure a) P := Run.pure h

theorem Run.bind {m : M α} {f : α → M β} {P : α → Prop} {Q : β → Prop}
    (hm : Run ok Γ m P) (hf : ∀ a, P a → Run ok Γ (f a) Q) : Run ok Γ (m >>= f) Q := by
  intro s hs
  have h := hm s hs
  rw [bind_run]
  revert h
  rcases m s with ⟨_ | a, s'⟩ <;> rintro ⟨hloc, hstuck, hfuel, hpost⟩
  · exact ⟨hloc, hstuck, hfuel, fun a ha => by cases ha⟩
  · obtain ⟨gloc, gstuck, gfuel, gpost⟩ := hf a (hpost a rfl) s' hloc
    exact ⟨gloc, gstuck.trans hstuck, fun o h0 => gfuel o (hfuel o h0), gpost⟩
theorem Run.mbind {m : M α} {f : α → M β} {P : α → Prop} {Q : β → Prop}
    (hm : Run ok Γ m P) (hf : ∀ a, P a → Run ok Γ (f a) Q) : Run ok Γ (M.bind m f) Q := Run.bind hm hf

theorem Run.fail {P : α → Prop} : Run ok Γ (fail : M α) P := by
  intro s hs; exact ⟨hs, rfl, fun _ h0 => h0, fun a ha => by cases ha⟩
theorem Run.err {P : α → Prop} (msg : String) : Run ok Γ (err msg : M α) P := by
  intro s hs; exact ⟨hs, rfl, fun _ h0 => h0, fun a ha => by cases ha⟩
theorem Run.starve {P : α → Prop} (h : ¬ ok) : Run ok Γ (starve : M α) P := by
  intro s hs; exact ⟨hs, rfl, fun o => absurd o h, fun a ha => by cases ha⟩
theorem Run.note (msg : String) : Run ok Γ (note msg) (fun _ => True) := by
  intro s hs; exact ⟨hs, rfl, fun _ h0 => h0, fun _ _ => trivial⟩
/-- The postcondition keeps which value was selected: with `o = child … c` it is what the size lemmas of
`Lemmas/LowerFuel.lean` need to see that a recursive call goes to a strict sub-tree. -/
theorem Run.ofOpt (o : Option α) : Run ok Γ (ofOpt o) (fun a => o = some a) := by
  cases o with
  | none => exact Run.fail
  | some a => exact Run.mpure rfl
theorem Run.opt {m : M α} {P : α → Prop} (h : Run ok Γ m P) : Run ok Γ (opt m) (fun o => ∀ a, o = some a → P a) := by
  intro s hs
  obtain ⟨hloc, hstuck, hfuel, hpost⟩ := h s hs
  refine ⟨hloc, hstuck, hfuel, fun o ho => ?_⟩
  have e : (Goml.Lower.opt m s).1 = some (m s).1 := rfl
  rw [e] at ho
  cases ho
  exact hpost
theorem Run.getLocals : Run ok Γ getLocals (fun ls => ls = Γ) := by
  intro s hs
  refine ⟨hs, rfl, fun _ h0 => h0, fun a ha => ?_⟩
  have e : (Goml.Lower.getLocals s).1 = some s.locals := rfl
  rw [e] at ha
  cases ha
  exact hs

theorem mapSkip_cons (f : β → M α) (x : β) (xs : List β) :
    mapSkip f (x :: xs) = (opt (f x) >>= fun o => mapSkip f xs >>= fun ys =>
      (pure (match o with | some y => y :: ys | none => ys) : M (List α))) := by
  funext s
  simp only [mapSkip, bind_run, Goml.Lower.opt]
  split <;> rename_i h <;> simp only [h] <;> rfl

theorem Run.mapSkip {f : β → M α} {P : α → Prop} :
    ∀ (xs : List β), (∀ x ∈ xs, Run ok Γ (f x) P) → Run ok Γ (mapSkip f xs) (fun ys => ∀ y ∈ ys, P y)
  | [], _ => Run.mpure (by simp)
  | x :: xs, h => by
    rw [mapSkip_cons]
    refine Run.bind (Run.opt (h x (List.mem_cons_self ..))) (fun o ho => ?_)
    refine Run.bind (Run.mapSkip xs (fun y hy => h y (List.mem_cons_of_mem _ hy))) (fun ys hys => Run.pure ?_)
    cases o with
    | none => exact hys
    | some y => exact List.forall_mem_cons.2 ⟨ho y rfl, hys⟩

theorem Run.mapAll {f : β → M α} {P : α → Prop} :
    ∀ (xs : List β), (∀ x ∈ xs, Run ok Γ (f x) P) → Run ok Γ (mapAll f xs) (fun ys => ∀ y ∈ ys, P y)
  | [], _ => Run.mpure (by simp)
  | x :: xs, h => by
    have ih := Run.mapAll xs (fun y hy => h y (List.mem_cons_of_mem _ hy))
    simp only [Goml.Lower.mapAll]
    refine Run.mbind (h x (List.mem_cons_self ..)) (fun y hy => ?_)
    refine Run.mbind ih (fun ys hys => ?_)
    exact Run.mpure (fun z hz => by
      rcases List.mem_cons.mp hz with rfl | hz'
      · exact hy
      · exact hys z hz')

theorem Run.toT {m : M α} {P : α → Prop} (h : Run ok Γ m P) : Run ok Γ m (fun _ => True) :=
  h.weaken (fun _ _ => trivial)

theorem Run.bindT {m : M α} {f : α → M β} {Q : β → Prop}
    (hm : Run ok Γ m (fun _ => True)) (hf : ∀ a, Run ok Γ (f a) Q) : Run ok Γ (m >>= f) Q :=
  Run.bind hm (fun a _ => hf a)

theorem Run.optT {m : M α} (h : Run ok Γ m (fun _ => True)) : Run ok Γ (Goml.Lower.opt m) (fun _ => True) := (Run.opt h).toT
theorem Run.mapSkipT {f : β → M α} {xs : List β} (h : ∀ x ∈ xs, Run ok Γ (f x) (fun _ => True)) :
    Run ok Γ (Goml.Lower.mapSkip f xs) (fun _ => True) := (Run.mapSkip xs h).toT
theorem Run.mapAllT {f : β → M α} {xs : List β} (h : ∀ x ∈ xs, Run ok Γ (f x) (fun _ => True)) :
    Run ok Γ (Goml.Lower.mapAll f xs) (fun _ => True) := (Run.mapAll xs h).toT

theorem Run.intro {m : M α} {P : α → Prop}
    (h : ∀ s : St, s.locals = Γ → (m s).2.locals = Γ ∧ (m s).2.stuck = s.stuck ∧
      (ok → s.starved = false → (m s).2.starved = false) ∧ ∀ a, (m s).1 = some a → P a) : Run ok Γ m P := h
theorem Run.run {m : M α} {P : α → Prop} (h : Run ok Γ m P) (s : St) (hs : s.locals = Γ) :
    (m s).2.locals = Γ ∧ (m s).2.stuck = s.stuck ∧ (ok → s.starved = false → (m s).2.starved = false) ∧
      ∀ a, (m s).1 = some a → P a := h s hs

def Tri {α} (ok : Prop) (Γ : List String) (m : M α) (Q : Option α → List String → Prop) : Prop :=
  ∀ s : St, s.locals = Γ → (m s).2.stuck = s.stuck ∧ (ok → s.starved = false → (m s).2.starved = false) ∧
    Q (m s).1 (m s).2.locals

theorem Tri.weaken {m : M α} {Q R : Option α → List String → Prop} (h : Tri ok Γ m Q) (hqr : ∀ o Δ, Q o Δ → R o Δ) :
    Tri ok Γ m R := fun s hs =>
  have ⟨hstuck, hfuel, hq⟩ := h s hs
  ⟨hstuck, hfuel, hqr _ _ hq⟩

theorem Tri.mono {ok' : Prop} {m : M α} {Q : Option α → List String → Prop} (h : Tri ok Γ m Q) (hok : ok' → ok) :
    Tri ok' Γ m Q := fun s hs =>
  have ⟨hstuck, hfuel, hq⟩ := h s hs
  ⟨hstuck, fun o => hfuel (hok o), hq⟩

theorem Run.tri {m : M α} {P : α → Prop} (h : Run ok Γ m P) : Tri ok Γ m (fun o Δ => Δ = Γ ∧ ∀ a, o = some a → P a) :=
  fun s hs =>
  have ⟨hloc, hstuck, hfuel, hpost⟩ := h.run s hs
  ⟨hstuck, hfuel, hloc, hpost⟩

theorem Tri.bind {m : M α} {f : α → M β} {Q : Option α → List String → Prop} {R : Option β → List String → Prop}
    (hm : Tri ok Γ m Q) (hf : ∀ a Δ, Q (some a) Δ → Tri ok Δ (f a) R) (hn : ∀ Δ, Q none Δ → R none Δ) :
    Tri ok Γ (m >>= f) R := by
  intro s hs
  have h := hm s hs
  rw [bind_run]
  revert h
  rcases m s with ⟨_ | a, s'⟩ <;> rintro ⟨hstuck, hfuel, hq⟩
  · exact ⟨hstuck, hfuel, hn _ hq⟩
  · obtain ⟨gstuck, gfuel, gq⟩ := hf a _ hq s' rfl
    exact ⟨gstuck.trans hstuck, fun o h0 => gfuel o (hfuel o h0), gq⟩

theorem Tri.bindRun {m : M α} {f : α → M β} {P : α → Prop} {R : Option β → List String → Prop}
    (hm : Run ok Γ m P) (hf : ∀ a, P a → Tri ok Γ (f a) R) (hn : R none Γ) : Tri ok Γ (m >>= f) R :=
  Tri.bind hm.tri (fun a _ h => h.1 ▸ hf a (h.2 a rfl)) (fun _ h => h.1 ▸ hn)

theorem Tri.pure {a : α} {Q : Option α → List String → Prop} (h : Q (some a) Γ) : Tri ok Γ (pure a : M α) Q :=
  fun _ hs => ⟨rfl, fun _ h0 => h0, hs ▸ h⟩
theorem Tri.err {Q : Option α → List String → Prop} (msg : String) (h : Q none Γ) : Tri ok Γ (err msg : M α) Q :=
  fun _ hs => ⟨rfl, fun _ h0 => h0, hs ▸ h⟩
theorem Tri.starve {Q : Option α → List String → Prop} (hok : ¬ ok) (h : Q none Γ) : Tri ok Γ (starve : M α) Q :=
  fun _ hs => ⟨rfl, fun o => absurd o hok, hs ▸ h⟩
theorem Tri.pushLocals (xs : List String) : Tri ok Γ (pushLocals xs) (fun o Δ => o = some () ∧ Δ = Γ ++ xs) :=
  fun _ hs => ⟨rfl, fun _ h0 => h0, rfl, hs ▸ rfl⟩
theorem Tri.opt {m : M α} {Q : Option α → List String → Prop} (h : Tri ok Γ m Q) :
    Tri ok Γ (Goml.Lower.opt m) (fun o Δ => ∃ r, o = some r ∧ Q r Δ) := fun s hs =>
  have ⟨hstuck, hfuel, hq⟩ := h s hs
  ⟨hstuck, hfuel, _, rfl, hq⟩

/-- the truncation at the end of a block / arm / closure / function restores the stack, whatever was pushed inside -/
theorem Tri.withLocals {m : M α} {xs : List String} {P : α → Prop}
    (h : Tri ok (Γ ++ xs) m (fun o Δ => (∃ e, Δ = Γ ++ e) ∧ ∀ a, o = some a → P a)) : Run ok Γ (withLocals xs m) P :=
  Run.intro fun s hs => by
    obtain ⟨hstuck, hfuel, ⟨e, hloc⟩, hpost⟩ := h { s with locals := s.locals ++ xs } (by simp [hs])
    refine ⟨?_, hstuck, hfuel, hpost⟩
    show ((m { s with locals := s.locals ++ xs }).2.locals.take s.locals.length) = Γ
    rw [hloc, hs, List.take_left']
    rfl

theorem Run.withLocals {m : M α} {xs : List String} {P : α → Prop} (h : Run ok (Γ ++ xs) m P) :
    Run ok Γ (withLocals xs m) P :=
  Tri.withLocals (h.tri.weaken fun _ _ ⟨hΔ, hp⟩ => ⟨⟨xs, hΔ⟩, hp⟩)

/-! ### `Bal` is `Run` without the fuel flag -/

theorem Run.bal {m : M α} {P : α → Prop} (h : Run ok Γ m P) : Bal Γ m P := by
  intro s hs
  obtain ⟨hloc, hstuck, _, hpost⟩ := h s hs
  exact ⟨hloc, hstuck, hpost⟩
theorem Run.ofBal {m : M α} {P : α → Prop} (h : Bal Γ m P) : Run False Γ m P := by
  intro s hs
  obtain ⟨hloc, hstuck, hpost⟩ := h s hs
  exact ⟨hloc, hstuck, fun o => o.elim, hpost⟩

theorem Bal.weaken {m : M α} {P Q : α → Prop} (h : Bal Γ m P) (hpq : ∀ a, P a → Q a) : Bal Γ m Q :=
  ((Run.ofBal h).weaken hpq).bal
theorem Bal.pure {a : α} {P : α → Prop} (h : P a) : Bal Γ (pure a : M α) P := (Run.pure (ok := False) h).bal
theorem Bal.bind {m : M α} {f : α → M β} {P : α → Prop} {Q : β → Prop}
    (hm : Bal Γ m P) (hf : ∀ a, P a → Bal Γ (f a) Q) : Bal Γ (m >>= f) Q :=
  (Run.bind (Run.ofBal hm) (fun a pa => Run.ofBal (hf a pa))).bal
theorem Bal.err {P : α → Prop} (msg : String) : Bal Γ (err msg : M α) P := (Run.err (ok := False) msg).bal
theorem Bal.mapSkip {f : β → M α} {P : α → Prop} :
    ∀ (xs : List β), (∀ x ∈ xs, Bal Γ (f x) P) → Bal Γ (mapSkip f xs) (fun ys => ∀ y ∈ ys, P y) :=
  fun xs h => (Run.mapSkip xs (fun x hx => Run.ofBal (h x hx))).bal
theorem Bal.mapAll {f : β → M α} {P : α → Prop} :
    ∀ (xs : List β), (∀ x ∈ xs, Bal Γ (f x) P) → Bal Γ (mapAll f xs) (fun ys => ∀ y ∈ ys, P y) :=
  fun xs h => (Run.mapAll xs (fun x hx => Run.ofBal (h x hx))).bal


theorem Ext.weaken {m : M α} {P Q : α → List String → Prop} (h : Ext Γ m P) (hpq : ∀ a e, P a e → Q a e) : Ext Γ m Q := by
  intro s hs
  obtain ⟨e, hloc, hstuck, hpost⟩ := h s hs
  exact ⟨e, hloc, hstuck, fun a ha => hpq a e (hpost a ha)⟩

theorem Ext.pushLocals (xs : List String) : Ext Γ (pushLocals xs) (fun _ e => e = xs) := by
  intro s hs
  exact ⟨xs, by simp [Goml.Lower.pushLocals, hs], rfl, fun _ _ => rfl⟩

theorem Tri.ext {m : M α} {P : α → List String → Prop}
    (h : Tri ok Γ m (fun o Δ => ∃ e, Δ = Γ ++ e ∧ ∀ a, o = some a → P a e)) : Ext Γ m P := fun s hs =>
  have ⟨hstuck, _, e, hloc, hpost⟩ := h s hs
  ⟨e, hloc, hstuck, hpost⟩
theorem Ext.tri {m : M α} {P : α → List String → Prop} (h : Ext Γ m P) :
    Tri False Γ m (fun o Δ => ∃ e, Δ = Γ ++ e ∧ ∀ a, o = some a → P a e) := fun s hs =>
  have ⟨e, hloc, hstuck, hpost⟩ := h s hs
  ⟨hstuck, fun o => o.elim, e, hloc, hpost⟩

theorem Bal.withLocals {m : M α} {xs : List String} {P : α → List String → Prop} (h : Ext (Γ ++ xs) m P) :
    Bal Γ (withLocals xs m) (fun a => ∃ e, P a e) :=
  (Tri.withLocals (h.tri.weaken fun _ _ ⟨e, hΔ, hp⟩ =>
    ⟨⟨xs ++ e, by rw [hΔ, List.append_assoc]⟩, fun a ha => ⟨e, hp a ha⟩⟩)).bal

theorem Bal.run {m : M α} {P : α → Prop} (h : Bal Γ m P) (s : St) (hs : s.locals = Γ) :
    (m s).2.locals = Γ ∧ (m s).2.stuck = s.stuck ∧ ∀ a, (m s).1 = some a → P a := h s hs

theorem Bal.locals {m : M α} {P : α → Prop} (h : Bal Γ m P) (s : St) (hs : s.locals = Γ) : (m s).2.locals = Γ :=
  (h.run s hs).1
theorem Bal.stuck {m : M α} {P : α → Prop} (h : Bal Γ m P) (s : St) (hs : s.locals = Γ) : (m s).2.stuck = s.stuck :=
  (h.run s hs).2.1
theorem Bal.result {m : M α} {P : α → Prop} (h : Bal Γ m P) (s : St) (hs : s.locals = Γ) {a : α}
    (ha : (m s).1 = some a) : P a :=
  (h.run s hs).2.2 a ha

/-! From here on `Bal` and `Run` are built by the rules above and taken apart by `Bal.run` / `Run.run` only, so that no
rule application can unfold them and then the model.  `Tri` and `Ext` stay transparent: both are used by application
to a state. -/
attribute [irreducible] Bal Run

end Goml.Lower
