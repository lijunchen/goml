import GomlVerif.Model.Scoped
import GomlVerif.Model.C03presMatch
/-!
The two statements of scope closedness used by the preservation theorems agree:
`Scoped.unbound B e = []` (ANF, driver oracle) iff `Match.closedE B e` (match compiler).
-/
namespace Goml.Match

theorem subsetB_iff {l Γ : List String} : subsetB l Γ = true ↔ ∀ y ∈ l, y ∈ Γ := by
  simp [subsetB]

theorem closedE_iff {Γ : List String} {e : Expr} : closedE Γ e = true ↔ ∀ y ∈ fvE e, y ∈ Γ :=
  subsetB_iff

end Goml.Match

namespace Goml.Scoped
open Goml Goml.Match

/-- By the induction principle of `unbound` and its companions. -/
theorem mem_unbound_all (y : String) :
    (∀ B e, y ∈ unbound B e ↔ (y ∈ fvE e ∧ y ∉ B)) ∧
    (∀ B arms, y ∈ unboundArms B arms ↔ (y ∈ fvEArms arms ∧ y ∉ B)) ∧
    (∀ B es, y ∈ unboundList B es ↔ (y ∈ fvEL es ∧ y ∉ B)) := by
  apply unbound.mutual_induct
  -- .var, in `B` or not
  case case1 | case2 =>
    intro B x _ h
    simp only [unbound, fvE, h, if_true, if_false]
    grind
  -- .closure, .letE: `unbound` descends with the binders added to `B`, `fvE` filters them out afterwards; with the
  -- hypothesis at the longer list what remains is propositional in the memberships
  case case8 =>
    intro B _ ps b ih
    simp only [unbound, fvE, List.mem_filter, ih]
    grind
  case case9 =>
    intro B x v b ihv ihb
    simp only [unbound, fvE, List.mem_append, List.mem_filter, ihv, ihb]
    grind
  -- the remaining rows append the lists of their parts on both sides: `∧ y ∉ B` distributes over the `∨`
  all_goals intros
  all_goals simp only [unbound, unboundList, unboundArms, fvE, fvEL, fvEArms, List.mem_append, or_and_right,
    List.not_mem_nil, false_and, or_false, *]

theorem mem_unbound : ∀ (e : Expr) (B : List String) (y : String), y ∈ unbound B e ↔ (y ∈ fvE e ∧ y ∉ B) :=
  fun e B y => (mem_unbound_all y).1 B e
theorem mem_unboundList : ∀ (es : List Expr) (B : List String) (y : String),
    y ∈ unboundList B es ↔ (y ∈ fvEL es ∧ y ∉ B) :=
  fun es B y => (mem_unbound_all y).2.2 B es
theorem mem_unboundArms : ∀ (arms : List Arm) (B : List String) (y : String),
    y ∈ unboundArms B arms ↔ (y ∈ fvEArms arms ∧ y ∉ B) :=
  fun arms B y => (mem_unbound_all y).2.1 B arms

theorem nil_iff_of_mem {l fv B : List String} (h : ∀ y, y ∈ l ↔ (y ∈ fv ∧ y ∉ B)) : l = [] ↔ ∀ x ∈ fv, x ∈ B := by
  simp only [List.eq_nil_iff_forall_not_mem, h, not_and, Decidable.not_not]

theorem unbound_nil_iff_fvE (e : Expr) (B : List String) : unbound B e = [] ↔ ∀ x ∈ fvE e, x ∈ B :=
  nil_iff_of_mem (mem_unbound e B)

theorem unbound_nil_iff_closedE (B : List String) (e : Expr) : unbound B e = [] ↔ closedE B e = true :=
  (unbound_nil_iff_fvE e B).trans closedE_iff.symm

end Goml.Scoped

namespace Goml.Match
open Goml.Scoped

theorem closedE_letE {Γ : List String} {x : String} {v b : Expr} (hv : closedE Γ v = true)
    (hb : closedE (x :: Γ) b = true) : closedE Γ (.letE x v b) = true := by
  rw [← unbound_nil_iff_closedE] at hv hb ⊢
  simp only [unbound, hv, hb, List.append_nil]

end Goml.Match
