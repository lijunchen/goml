import GomlVerif.Lemmas.PrattRules
/-!
The concrete syntax tree that the Pratt model produces for a printed tree, described as a
*spine*: the part `head` that a call of `exprBp` with a minimum power above the call power
parses (the operand of a prefix operator stops in front of the first `(`), plus the postfix
operations `pend` that the enclosing loop attaches afterwards.
-/
namespace Goml.Pratt
open Goml.Gen.BindingPower

/-! ### numbers read from the generated table -/
def lbp (o : BinOp) : Nat := match infixBp o.tk with | some (l, _) => l | none => 0
def rbp (o : BinOp) : Nat := match infixBp o.tk with | some (_, r) => r | none => 0
def callBp : Nat := (postfixBp .LParen).getD 0
def preBp (u : UnOp) : Nat := (prefixBp u.tk).getD 0
def dotL : Nat := match infixBp .Dot with | some (l, _) => l | none => 0
def dotR : Nat := match infixBp .Dot with | some (_, r) => r | none => 0
/-- numeric context of the operand of a prefix operator -/
def unC : Nat := callBp
/-- numeric context of the receiver of a postfix operation -/
def postC : Nat := dotL

theorem infix_tk (o : BinOp) : infixBp o.tk = some (lbp o, rbp o) := by cases o <;> rfl
theorem postfix_tk (o : BinOp) : postfixBp o.tk = none := by cases o <;> rfl
theorem prefix_tk (u : UnOp) : prefixBp u.tk = some (preBp u) := by cases u <;> rfl
theorem postfix_lparen : postfixBp .LParen = some callBp := rfl
theorem infix_dot : infixBp .Dot = some (dotL, dotR) := rfl
theorem postfix_dot : postfixBp .Dot = none := rfl
theorem lbp_lt_rbp (o : BinOp) : lbp o < rbp o := by cases o <;> decide
theorem rbp_le_call (o : BinOp) : rbp o ≤ callBp := by cases o <;> decide
theorem call_lt_pre (u : UnOp) : callBp < preBp u := by cases u <;> decide
theorem pre_le_dot (u : UnOp) : preBp u ≤ dotL := by cases u <;> decide
theorem dotL_lt_dotR : dotL < dotR := by decide
theorem unC_lt_postC : unC < postC := by decide
theorem lbp_lt_unC (o : BinOp) : lbp o < unC := by cases o <;> decide
theorem unC_succ_le_pre (u : UnOp) : unC + 1 ≤ preBp u := by cases u <;> decide
theorem callBp_le_dotL : callBp ≤ dotL := by decide
theorem tk_ne_dot (o : BinOp) : o.tk ≠ .Dot := by cases o <;> decide
theorem unOpOf_tk (u : UnOp) : unOpOf u.tk = some u := by cases u <;> rfl
theorem binOpOf_tk (o : BinOp) : binOpOf o.tk = some o := by cases o <;> rfl

theorem stops_mono {m m' ts} (h : stops m ts = true) (hm : m ≤ m') : stops m' ts = true := by
  cases ts with
  | nil => rfl
  | cons t ts =>
    cases t with
    | op k =>
      simp only [stops] at h ⊢
      cases hp : postfixBp k with
      | some l => simp [hp] at h ⊢; omega
      | none =>
        simp only [hp] at h ⊢
        cases hi : infixBp k with
        | some lr => obtain ⟨l, r⟩ := lr; simp [hi] at h ⊢; omega
        | none => rfl
    | _ => rfl

/-- nothing continues an expression parsed at the right power of `.` -/
theorem stops_dotR (ts : List Tok) : stops dotR ts = true := by
  cases ts with
  | nil => rfl
  | cons t ts =>
    cases t with
    | op k => cases k <;> rfl
    | _ => rfl

theorem stops_lparen (m : Nat) (ts : List Tok) (h : callBp < m) : stops m (.op .LParen :: ts) = true := by
  simp [stops, postfix_lparen, h]


inductive CPost where
  | call (args : List Cst)
  | dot (r : Cst)

def applyCPost (h : Cst) : CPost → Cst
  | .call as => .call h as
  | .dot r => .binary .Dot h r

/-- a postfix operation waiting for the enclosing loop: CST form, tokens, lowered form -/
structure Pend where
  post : CPost
  toks : List Tok
  trail : Trail

structure Spine where
  head : Cst
  /-- the tokens of `head` alone; all the tokens are `htoks ++ pendToks pend` (`Spine.toks`) -/
  htoks : List Tok
  pend : List Pend

def applyPend (h : Cst) : List Pend → Cst
  | [] => h
  | p :: ps => applyPend (applyCPost h p.post) ps

def pendToks : List Pend → List Tok
  | [] => []
  | p :: ps => p.toks ++ pendToks ps

def pendTrails : List Pend → List Trail
  | [] => []
  | p :: ps => p.trail :: pendTrails ps

def Spine.full (s : Spine) : Cst := applyPend s.head s.pend
def Spine.toks (s : Spine) : List Tok := s.htoks ++ pendToks s.pend

def Spine.wrap (s : Spine) (b : Bool) : Spine :=
  if b then ⟨.paren s.full, .op .LParen :: (s.toks ++ [.rparen]), []⟩ else s

/-- does `printMin` parenthesise `t` in numeric context `c`? -/
def needsParen : Ast → Nat → Bool
  | .bin o _ _, c => decide (lbp o < c)
  | .un _ _, c => decide (unC < c)
  | _, _ => false

mutual
/-- the spine of `t` printed without parentheses of its own -/
def bare : Ast → Spine
  | .var x => ⟨.ident x, [.ident x], []⟩
  | .lit s => ⟨.int s, [.int s], []⟩
  | .bin o l r =>
    let sl := (bare l).wrap (needsParen l (lbp o))
    let sr := (bare r).wrap (needsParen r (rbp o))
    ⟨.binary o.tk sl.full sr.full, sl.toks ++ .op o.tk :: sr.toks, []⟩
  | .un u e =>
    let se := (bare e).wrap (needsParen e unC)
    -- the prefix node inherits the pending operations of its operand: `callBp < preBp u` (`call_lt_pre`), so the operand
    -- stops in front of the first `(` and the parser builds `(-f)(x)`
    ⟨.prefix u.tk se.head, .op u.tk :: se.htoks, se.pend⟩
  | .call f as =>
    let sf := (bare f).wrap (needsParen f postC)
    ⟨sf.head, sf.htoks, sf.pend ++ [⟨.call (bareArgs as), .op .LParen :: printArgs as, .call as⟩]⟩
  | .field e x =>
    let se := (bare e).wrap (needsParen e postC)
    if se.pend.isEmpty then ⟨.binary .Dot se.head (.ident x), se.htoks ++ [.op .Dot, .ident x], []⟩
    else ⟨se.head, se.htoks, se.pend ++ [⟨.dot (.ident x), [.op .Dot, .ident x], .field x⟩]⟩
  | .proj e n =>
    let se := (bare e).wrap (needsParen e postC)
    if se.pend.isEmpty then
      ⟨.binary .Dot se.head (.int (natDigits n)), se.htoks ++ [.op .Dot, .int (natDigits n)], []⟩
    else ⟨se.head, se.htoks, se.pend ++ [⟨.dot (.int (natDigits n)), [.op .Dot, .int (natDigits n)], .proj n⟩]⟩
/-- the CSTs of call arguments (context 0: never parenthesised) -/
def bareArgs : List Ast → List Cst
  | [] => []
  | a :: as => (bare a).full :: bareArgs as
end

def spineAt (t : Ast) (c : Nat) : Spine := (bare t).wrap (needsParen t c)

/-- `p` (documented level) and `c` (binding power) describe the same context -/
def Compat (p c : Nat) : Prop :=
  (∀ o : BinOp, decide (o.level < p) = decide (lbp o < c)) ∧ decide (prefixLevel < p) = decide (unC < c)

theorem compat_zero : Compat 0 0 := by
  refine ⟨fun o => ?_, ?_⟩ <;> simp [prefixLevel]
theorem compat_left (o : BinOp) : Compat o.level (lbp o) := by
  refine ⟨fun o' => ?_, ?_⟩
  · cases o <;> cases o' <;> decide
  · cases o <;> decide
theorem compat_right (o : BinOp) : Compat (o.level + 1) (rbp o) := by
  refine ⟨fun o' => ?_, ?_⟩
  · cases o <;> cases o' <;> decide
  · cases o <;> decide
theorem compat_prefix : Compat prefixLevel unC := by
  refine ⟨fun o => ?_, ?_⟩
  · cases o <;> decide
  · decide
theorem compat_postfix : Compat postfixLevel postC := by
  refine ⟨fun o => ?_, ?_⟩
  · cases o <;> decide
  · decide

/-- induction over trees with the arguments of calls as sub-trees -/
theorem Ast.ind {P : Ast → Prop} (var : ∀ x, P (.var x)) (lit : ∀ s, P (.lit s))
    (un : ∀ u e, P e → P (.un u e)) (bin : ∀ o l r, P l → P r → P (.bin o l r))
    (call : ∀ f as, P f → (∀ a, a ∈ as → P a) → P (.call f as))
    (field : ∀ e x, P e → P (.field e x)) (proj : ∀ e n, P e → P (.proj e n)) : ∀ t, P t := by
  intro t
  apply Ast.rec (motive_1 := P) (motive_2 := fun as => ∀ a, a ∈ as → P a)
  · exact var
  · exact lit
  · exact un
  · exact bin
  · exact call
  · exact field
  · exact proj
  · intro a h; cases h
  · intro a as ha has b hb
    cases hb with
    | head => exact ha
    | tail _ h => exact has b h

theorem spineAt_paren {t c} (h : needsParen t c = true) :
    spineAt t c = ⟨.paren (bare t).full, .op .LParen :: ((bare t).toks ++ [.rparen]), []⟩ := by
  simp [spineAt, Spine.wrap, h]

theorem spineAt_bare {t c} (h : needsParen t c = false) : spineAt t c = bare t := by
  simp [spineAt, Spine.wrap, h]

theorem spineAt_zero (t : Ast) : spineAt t 0 = bare t := spineAt_bare (by cases t <;> simp [needsParen])

theorem pendToks_append (a b : List Pend) : pendToks (a ++ b) = pendToks a ++ pendToks b := by
  induction a with
  | nil => rfl
  | cons p ps ih => simp [pendToks, ih]

theorem parens_true (ts : List Tok) : parens true ts = .op .LParen :: ts ++ [.rparen] := rfl
theorem parens_false (ts : List Tok) : parens false ts = ts := rfl

theorem wrap_toks (s : Spine) (b : Bool) : (s.wrap b).toks = parens b s.toks := by
  cases b <;> simp [Spine.wrap, Spine.toks, pendToks, parens]

theorem bare_toks_un (u : UnOp) (e : Ast) :
    (bare (.un u e)).toks = .op u.tk :: (spineAt e unC).toks := by
  simp [bare, Spine.toks, spineAt]

theorem bare_toks_bin (o : BinOp) (l r : Ast) :
    (bare (.bin o l r)).toks = (spineAt l (lbp o)).toks ++ .op o.tk :: (spineAt r (rbp o)).toks := by
  simp [bare, Spine.toks, spineAt, pendToks]

theorem bare_toks_call (f : Ast) (as : List Ast) :
    (bare (.call f as)).toks = (spineAt f postC).toks ++ .op .LParen :: printArgs as := by
  simp [bare, Spine.toks, spineAt, pendToks_append, pendToks]

/-- the tokens of a spine after a `.` access: the access joins the head if nothing is pending, else it is pending too -/
theorem dot_toks (s : Spine) (r : Cst) (rt : Tok) (tr : Trail) :
    (if s.pend.isEmpty then (⟨.binary .Dot s.head r, s.htoks ++ [.op .Dot, rt], []⟩ : Spine)
      else ⟨s.head, s.htoks, s.pend ++ [⟨.dot r, [.op .Dot, rt], tr⟩]⟩).toks = s.toks ++ [.op .Dot, rt] := by
  split
  · rename_i h
    have : s.pend = [] := by simpa using h
    simp [Spine.toks, pendToks, this]
  · simp [Spine.toks, pendToks_append, pendToks]

theorem bare_toks_field (e : Ast) (x : String) :
    (bare (.field e x)).toks = (spineAt e postC).toks ++ [.op .Dot, .ident x] := by
  simp only [bare]; exact dot_toks ..

theorem bare_toks_proj (e : Ast) (n : Nat) :
    (bare (.proj e n)).toks = (spineAt e postC).toks ++ [.op .Dot, .int (natDigits n)] := by
  simp only [bare]; exact dot_toks ..

/-- the printer with documented levels emits exactly the tokens of the spine -/
theorem printMin_toks : ∀ t p c, Compat p c → printMin t p = (spineAt t c).toks := by
  intro t
  induction t using Ast.ind with
  | var x => intro p c _; simp [printMin, spineAt, bare, needsParen, Spine.wrap, Spine.toks, pendToks]
  | lit s => intro p c _; simp [printMin, spineAt, bare, needsParen, Spine.wrap, Spine.toks, pendToks]
  | un u e ih =>
    intro p c hc
    rw [spineAt, wrap_toks, bare_toks_un, ← ih prefixLevel unC compat_prefix]
    simp only [printMin, needsParen, hc.2]
  | bin o l r ihl ihr =>
    intro p c hc
    rw [spineAt, wrap_toks, bare_toks_bin, ← ihl o.level (lbp o) (compat_left o),
      ← ihr (o.level + 1) (rbp o) (compat_right o)]
    simp only [printMin, needsParen, hc.1 o]
  | call f as ihf _ =>
    intro p c _
    rw [spineAt, wrap_toks, bare_toks_call, ← ihf postfixLevel postC compat_postfix]
    simp only [printMin, needsParen, parens_false]
  | field e x ih =>
    intro p c _
    rw [spineAt, wrap_toks, bare_toks_field, ← ih postfixLevel postC compat_postfix]
    simp only [printMin, needsParen, parens_false]
  | proj e n ih =>
    intro p c _
    rw [spineAt, wrap_toks, bare_toks_proj, ← ih postfixLevel postC compat_postfix]
    simp only [printMin, needsParen, parens_false]

end Goml.Pratt
