import GomlVerif.Model.Exports
/-! C14: `IndexMap` insertion, `apply_to`, and the irrelevance of the package order for every lookup. -/
namespace Goml.Exports

theorem lookup_insert (m : IMap) (k v k' : String) :
    IMap.lookup (IMap.insert m k v) k' = if k = k' then some v else IMap.lookup m k' := by
  induction m with
  | nil => simp [IMap.insert, IMap.lookup]
  | cons p m ih =>
    unfold IMap.insert
    split
    · -- the entry of `k` is replaced in place
      next hpk =>
      subst hpk
      simp only [IMap.lookup]
      split <;> rfl
    · next hpk =>
      simp only [IMap.lookup, ih]
      by_cases h1 : p.1 = k'
      · subst h1; rw [if_pos rfl, if_neg (Ne.symm hpk), if_pos rfl]
      · rw [if_neg h1, if_neg h1]

theorem lookup_none_of_not_mem {m : IMap} {k : String} (h : k ∉ m.map (·.1)) : IMap.lookup m k = none := by
  induction m with
  | nil => rfl
  | cons p m ih =>
    simp only [List.map_cons, List.mem_cons, not_or] at h
    have hne : ¬ p.1 = k := fun e => h.1 e.symm
    simp only [IMap.lookup]
    rw [if_neg hne]
    exact ih h.2

/-- the lookups after one loop of `apply_to`: the package's entry if it has one, else what was there -/
theorem lookup_extend (g e : IMap) (hd : (e.map (·.1)).Nodup) (k : String) :
    IMap.lookup (IMap.extend g e) k = match IMap.lookup e k with | some v => some v | none => IMap.lookup g k := by
  induction e generalizing g with
  | nil => rfl
  | cons p e ih =>
    simp only [List.map_cons, List.nodup_cons] at hd
    simp only [IMap.extend, List.foldl_cons] at ih ⊢
    rw [ih _ hd.2, lookup_insert]
    simp only [IMap.lookup]
    by_cases hpk : p.1 = k
    · have : IMap.lookup e k = none := lookup_none_of_not_mem (hpk ▸ hd.1)
      rw [this, if_pos hpk, if_pos hpk]
    · rw [if_neg hpk, if_neg hpk]

theorem insert_new (m : IMap) (k v : String) (h : k ∉ m.map (·.1)) : IMap.insert m k v = m ++ [(k, v)] := by
  induction m with
  | nil => rfl
  | cons p m ih =>
    simp only [List.map_cons, List.mem_cons, not_or] at h
    have hne : ¬ p.1 = k := fun e => h.1 e.symm
    simp only [IMap.insert]
    rw [if_neg hne, ih h.2]
    rfl

/-- entries with distinct new keys are appended in their order -/
theorem extend_append (g e : IMap) (hd : (e.map (·.1)).Nodup) (hg : ∀ k ∈ e.map (·.1), k ∉ g.map (·.1)) :
    IMap.extend g e = g ++ e := by
  induction e generalizing g with
  | nil => simp [IMap.extend]
  | cons p e ih =>
    simp only [List.map_cons, List.nodup_cons] at hd
    simp only [IMap.extend, List.foldl_cons] at ih ⊢
    rw [insert_new g p.1 p.2 (hg p.1 (by simp))]
    rw [ih _ hd.2]
    · simp
    · intro k hk
      simp only [List.map_append, List.map_cons, List.map_nil, List.mem_append, List.mem_singleton, not_or]
      exact ⟨hg k (by simp [hk]), fun e => hd.1 (e ▸ hk)⟩

theorem extend_nil_id (m : IMap) (hd : (m.map (·.1)).Nodup) : IMap.extend [] m = m := by
  rw [extend_append [] m hd (fun _ _ h => by simp at h)]; rfl

/-- no two packages bind the same key of the same map to different values -/
def Consistent (es : List Env) : Prop :=
  ∀ e1 ∈ es, ∀ e2 ∈ es, ∀ f k v1 v2, IMap.lookup (e1 f) k = some v1 → IMap.lookup (e2 f) k = some v2 → v1 = v2

/-- every export map of every package has distinct keys -/
def WF (es : List Env) : Prop := ∀ e ∈ es, ∀ f, ((e f).map (·.1)).Nodup

/-- what a lookup in the link environment returns, stated without reference to the order of the packages -/
theorem lookup_applyAll (fields : List String) (f : String) (hf : fields.contains f = true) (k v : String) :
    ∀ (es : List Env) (g : Env), WF es → Consistent es →
    (IMap.lookup ((applyAll fields es g) f) k = some v ↔
      (∃ e ∈ es, IMap.lookup (e f) k = some v) ∨ ((∀ e ∈ es, IMap.lookup (e f) k = none) ∧ IMap.lookup (g f) k = some v)) := by
  intro es
  induction es with
  | nil => intro g _ _; simp [applyAll]
  | cons e es ih =>
    intro g hwf hc
    have hwf' : WF es := fun e' he' => hwf e' (by simp [he'])
    have hc' : Consistent es := fun e1 h1 e2 h2 => hc e1 (by simp [h1]) e2 (by simp [h2])
    simp only [applyAll, List.foldl_cons] at ih ⊢
    rw [ih (applyTo fields e g) hwf' hc']
    have hg1 : IMap.lookup ((applyTo fields e g) f) k = match IMap.lookup (e f) k with | some x => some x | none => IMap.lookup (g f) k := by
      simp only [applyTo, hf, if_true]
      exact lookup_extend _ _ (hwf e (by simp) f) k
    rw [hg1]
    cases he : IMap.lookup (e f) k with
    | none =>
      simp only [List.mem_cons, exists_eq_or_imp, forall_eq_or_imp, he, true_and]
      constructor
      · rintro (h | h)
        · exact Or.inl (Or.inr h)
        · exact Or.inr h
      · rintro ((h | h) | h)
        · cases h
        · exact Or.inl h
        · exact Or.inr h
    | some v0 =>
      simp only [List.mem_cons, exists_eq_or_imp, forall_eq_or_imp, he]
      constructor
      · rintro (h | ⟨_, h⟩)
        · exact Or.inl (Or.inr h)
        · exact Or.inl (Or.inl h)
      · rintro ((h | h) | ⟨⟨h, _⟩, _⟩)
        · -- the head package binds `k`: either a later package binds it too (to the same value), or none does
          by_cases hex : ∃ e' ∈ es, IMap.lookup (e' f) k ≠ none
          · obtain ⟨e', he', hne⟩ := hex
            cases hl : IMap.lookup (e' f) k with
            | none => exact absurd hl hne
            | some v' =>
              have : v0 = v' := hc e (by simp) e' (by simp [he']) f k v0 v' he hl
              have hv : v0 = v := by injection h
              exact Or.inl ⟨e', he', by rw [hl, ← this, hv]⟩
          · refine Or.inr ⟨fun e' he' => ?_, h⟩
            cases hl : IMap.lookup (e' f) k with
            | none => rfl
            | some v' => exact absurd ⟨e', he', by rw [hl]; simp⟩ hex
        · exact Or.inl h
        · cases h

theorem Consistent.perm {es es' : List Env} (hp : es.Perm es') (h : Consistent es) : Consistent es' :=
  fun e1 h1 e2 h2 => h e1 (hp.mem_iff.mpr h1) e2 (hp.mem_iff.mpr h2)

theorem WF.perm {es es' : List Env} (hp : es.Perm es') (h : WF es) : WF es' :=
  fun e he => h e (hp.mem_iff.mpr he)

theorem applyAll_perm (fields : List String) (es es' : List Env) (g : Env) (hp : es.Perm es') (hwf : WF es) (hc : Consistent es)
    (f : String) (hf : fields.contains f = true) (k : String) :
    IMap.lookup ((applyAll fields es g) f) k = IMap.lookup ((applyAll fields es' g) f) k := by
  -- both sides are characterised by `lookup_applyAll`, which mentions the packages only through membership
  refine Option.ext fun v => ?_
  rw [lookup_applyAll fields f hf k v es g hwf hc, lookup_applyAll fields f hf k v es' g (hwf.perm hp) (hc.perm hp)]
  simp only [hp.mem_iff]

/-! ### decidable sufficient conditions for `WF` / `Consistent` (what the driver evaluates on the real exports) -/

theorem wf_ofList (l : List (String × IMap)) (h : ∀ p ∈ l, (p.2.map (·.1)).Nodup) (f : String) :
    ((ofList l f).map (·.1)).Nodup := by
  unfold ofList
  cases hf : l.find? (·.1 == f) with
  | none => exact List.nodup_nil
  | some p => exact h p (List.mem_of_find?_eq_some hf)

theorem mem_of_lookup {m : IMap} {k v : String} (h : IMap.lookup m k = some v) : (k, v) ∈ m := by
  induction m with
  | nil => cases h
  | cons p m ih =>
    simp only [IMap.lookup] at h
    by_cases hp : p.1 = k
    · rw [if_pos hp] at h
      injection h with h
      have : p = (k, v) := by rw [← hp, ← h]
      rw [this]; exact List.Mem.head _
    · rw [if_neg hp] at h
      exact List.Mem.tail _ (ih h)

theorem ofList_mem {l : List (String × IMap)} {f : String} {q : String × String} (h : q ∈ ofList l f) :
    ∃ p ∈ l, p.1 = f ∧ q ∈ p.2 := by
  unfold ofList at h
  cases hf : l.find? (·.1 == f) with
  | none => rw [hf] at h; cases h
  | some p =>
    rw [hf] at h
    exact ⟨p, List.mem_of_find?_eq_some hf, by simpa using List.find?_some hf, h⟩

/-- a decidable sufficient condition for the consistency of two export lists -/
theorem consistent_pair (l1 l2 : List (String × IMap))
    (h : ∀ p1 ∈ l1, ∀ p2 ∈ l2, p1.1 = p2.1 → ∀ q1 ∈ p1.2, ∀ q2 ∈ p2.2, q1.1 = q2.1 → q1.2 = q2.2)
    (f k v1 v2 : String) (h1 : IMap.lookup (ofList l1 f) k = some v1)
    (h2 : IMap.lookup (ofList l2 f) k = some v2) : v1 = v2 := by
  obtain ⟨p1, hp1, e1, m1⟩ := ofList_mem (mem_of_lookup h1)
  obtain ⟨p2, hp2, e2, m2⟩ := ofList_mem (mem_of_lookup h2)
  exact h p1 hp1 p2 hp2 (e1.trans e2.symm) _ m1 _ m2 rfl

end Goml.Exports
