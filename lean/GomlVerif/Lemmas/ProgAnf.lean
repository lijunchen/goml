import GomlVerif.Lemmas.AnfSimCases
/-!
`anfProg P n` against `P`: every function body is replaced by its A-normal form, so the
expression-level simulations lift to the whole file.
-/
namespace Goml.Anf
open Goml Goml.Sem

/-- every function body of the file is in the fragment, at the counter `anf_file` reaches it with -/
def allInFragment (P : Prog) (n : Nat) : Bool := (anfFragFlags P.fns n).all (fun b => b)

/-- what `anf_file` does to the function found under a name -/
theorem anfFns_find (name : String) : ∀ (fns : List Fn) (n : Nat), (anfFragFlags fns n).all (fun b => b) = true →
    (fns.find? (·.name == name) = none → (anfFns fns n).1.find? (·.name == name) = none) ∧
    (∀ f, fns.find? (·.name == name) = some f →
      ∃ m, inAnfFragment f.body m = true ∧
        (anfFns fns n).1.find? (·.name == name) = some { f with body := (anf f.body m ret).1 })
  | [], n, _ => by simp [anfFns]
  | g :: rest, n, hfl => by
    simp only [anfFragFlags, List.all_cons, Bool.and_eq_true] at hfl
    have ih := anfFns_find name rest (anf g.body n ret).2 hfl.2
    simp only [anfFns, List.find?_cons]
    cases hg : (g.name == name)
    · simp only
      exact ih
    · simp only
      constructor
      · intro h; cases h
      · intro f hf
        cases hf
        exact ⟨n, hfl.1, rfl⟩

/-- the same, in the shape of `ProgSim.find` -/
theorem anfProg_findFn {P : Prog} {n : Nat} (h : allInFragment P n = true) (name : String) :
    (P.findFn name = none ∧ (anfProg P n).findFn name = none) ∨
    ∃ f m, P.findFn name = some f ∧ Hyp [] f.body m (anf f.body m ret).2 ∧
      (anfProg P n).findFn name = some { f with body := (anf f.body m ret).1 } := by
  rcases Option.eq_none_or_eq_some (P.findFn name) with hf | ⟨f, hf⟩
  · exact Or.inl ⟨hf, (anfFns_find name P.fns n h).1 hf⟩
  · obtain ⟨m, hfr, hfind⟩ := (anfFns_find name P.fns n h).2 f hf
    exact Or.inr ⟨f, m, hf, hyp_of_inFragment hfr, hfind⟩

theorem progFw_anf {P : Prog} {n : Nat} (h : allInFragment P n = true) : ProgSim @UnlessStuck P (anfProg P n) :=
  ⟨rfl, fun name => (anfProg_findFn h name).elim (fun ⟨hf, hg⟩ => .absent hf hg) fun ⟨f, m, hf, hy, hfind⟩ =>
    .found f _ hf hfind rfl fun ρ w => sim_top (sim .fwd f.body) m _ [] ρ ρ w hy (Agree.refl _ _)⟩

theorem progBw_anf {P : Prog} {n : Nat} (h : allInFragment P n = true) : ProgSim @OrWrong (anfProg P n) P :=
  ⟨rfl, fun name => (anfProg_findFn h name).elim (fun ⟨hf, hg⟩ => .absent hg hf) fun ⟨f, m, hf, hy, hfind⟩ =>
    .found _ f hfind hf rfl fun ρ w => sim_top (sim .bwd f.body) m _ [] ρ ρ w hy (Agree.refl _ _)⟩

end Goml.Anf
