import GomlVerif.Lemmas.C18Json
/-! Lemmas for C18: the generated `to_string` is the `intercalate` rendering. -/
namespace Goml.Derive

theorem intercalate_cons (sep x : List Char) (xs : List (List Char)) :
    intercalate sep (x :: xs) = x ++ (if xs.isEmpty then [] else sep) ++ intercalate sep xs := by
  cases xs <;> simp [intercalate]

variable {Δ : Defs}

mutual
theorem toString_render : ∀ (v : Val) (t : FTy), hasTy Δ t v = true → toString Δ v = render Δ v
  | .unit, _, _ | .bool _, _, _ | .int _, _, _ | .float _, _, _ | .str _, _, _ => by rw [toString, render]
  | .struct n fs, t, h => by
    obtain ⟨-, decls, hl, htys⟩ := hasTy_struct_inv h
    simp only [toString, render, hl, membersString_render decls fs htys, List.append_assoc]
  | .enum n idx args, t, h => by
    obtain ⟨-, vn, tys, hl, htys⟩ := hasTy_enum_inv h
    simp only [toString, render, hl, itemsString_render args tys true htys, Bool.true_or, if_true, List.nil_append, List.append_assoc]
    rfl
theorem membersString_render : ∀ (decls : List (String × FTy)) (vs : List Val), hasTys Δ (decls.map (·.2)) vs = true →
    membersString Δ decls vs = intercalate ", ".toList (renderMembers Δ decls vs)
  | [], [], _ => by simp [membersString, renderMembers, intercalate]
  | [], _ :: _, h | _ :: _, [], h => by simp [hasTys] at h
  | (f, t) :: decls, v :: vs, h => by
    simp only [List.map_cons, hasTys, Bool.and_eq_true] at h
    have he : (renderMembers Δ decls vs).isEmpty = decls.isEmpty := by
      have := hasTys_length h.2
      cases decls <;> cases vs <;> simp [renderMembers] at this ⊢
    rw [membersString, renderMembers, intercalate_cons, he, toString_render v t h.1, membersString_render decls vs h.2]
theorem itemsString_render : ∀ (vs : List Val) (ts : List FTy) (first : Bool), hasTys Δ ts vs = true →
    itemsString Δ vs first = (if first || vs.isEmpty then [] else ", ".toList) ++ intercalate ", ".toList (renderItems Δ vs)
  | [], _, _, _ => by simp [itemsString, renderItems, intercalate]
  | _ :: _, [], _, h => by simp [hasTys] at h
  | v :: vs, t :: ts, first, h => by
    simp only [hasTys, Bool.and_eq_true] at h
    have he : (renderItems Δ vs).isEmpty = vs.isEmpty := by cases vs <;> rfl
    rw [itemsString, renderItems, intercalate_cons, he, toString_render v t h.1, itemsString_render vs ts false h.2]
    simp
end

end Goml.Derive
