import GomlVerif.Lemmas.InferLe
import GomlVerif.Model.InferSpec
import GomlVerif.Lemmas.ListFacts
/-!
When an obligation (`Model/InferSpec.lean::obls`) of an elaborated tree is JUSTIFIED by a state of the generator (`J`): by an
identity, a queued `TypeEqual` / `StructFieldAccess`, a binder of the binder table, an instance made by `inst_ty`, a component
of a syntactic tuple type; with the binder table against the scope stack (`EnvAll`) and the states it is claimed for (`Clean`).
-/
namespace Goml.Infer
open Goml Goml.Unify

/-- `o` is justified by the queue `cs`, the binder table `B` and the signatures -/
def J (B : Nat → Option Ty) (funs : List (String × Ty)) (cs : List Constraint) : Obl → Prop
  | .rel l r => l = r ∨ Constraint.eq l r ∈ cs
  | .same l r => l = r
  | .bound x ty => B x = some ty
  | .inst n ty => ∃ sch, lookupAssoc n funs = some sch ∧ IsInst sch ty
  | .projOk tup idx ty => ∃ tys, tup = .tuple tys ∧ tys[idx]? = some ty
  | .fld e f r => Constraint.field e f r ∈ cs
  | .bad => False

def JL (B : Nat → Option Ty) (funs : List (String × Ty)) (cs : List Constraint) (os : List Obl) : Prop :=
  ∀ o, o ∈ os → J B funs cs o

/-- the binder table agrees with a list of binders -/
def BIn (B : Nat → Option Ty) (bs : List (Nat × Ty)) : Prop := ∀ p, p ∈ bs → B p.1 = some p.2

/-- every entry of every scope agrees with the binder table -/
def EnvAll (B : Nat → Option Ty) (Γ : Scopes) : Prop := ∀ sc, sc ∈ Γ → ∀ p, p ∈ sc → B p.1 = some p.2

theorem Le.mem {s s' : St} (l : Le s s') : ∀ c, c ∈ s.cs → c ∈ s'.cs := by
  intro c hc
  obtain ⟨n, e⟩ := l.cs
  rw [e]; exact List.mem_append_left _ hc

theorem JL.nil {B funs cs} : JL B funs cs [] := fun _ h => by cases h

theorem JL.append {B funs cs a b} (ha : JL B funs cs a) (hb : JL B funs cs b) : JL B funs cs (a ++ b) := by
  intro o ho
  rcases List.mem_append.1 ho with h | h
  · exact ha o h
  · exact hb o h

theorem JL.cons {B funs cs o os} (ha : J B funs cs o) (hb : JL B funs cs os) : JL B funs cs (o :: os) := by
  intro o' ho
  rcases List.mem_cons.1 ho with h | h
  · rw [h]; exact ha
  · exact hb o' h

theorem JL.one {B funs cs o} (ha : J B funs cs o) : JL B funs cs [o] := JL.cons ha JL.nil

/-- no diagnostic, and generation stayed inside the forms the soundness theorem covers (ghost flag) -/
def Clean (s : St) : Prop := s.diags = [] ∧ s.outside = false

theorem Le.nodiag {s s' : St} (l : Le s s') (h : Clean s') : Clean s := by
  obtain ⟨m, e⟩ := l.diags
  have h1 := h.1
  rw [e] at h1
  refine ⟨(List.append_eq_nil_iff.1 h1).1, ?_⟩
  cases ho : s.outside with
  | false => rfl
  | true => have := l.out ho; rw [h.2] at this; cases this

theorem diag_absurd {s s' : St} {d} (l : Le (s.diag d) s') (h : Clean s') : False := by
  have := (l.nodiag h).1
  simp [St.diag] at this

theorem mark_absurd {s s' : St} (l : Le s.mark s') (h : Clean s') : False := by
  have := (l.nodiag h).2
  simp [St.mark] at this

theorem mem_push (s : St) (c : Constraint) : c ∈ (s.push c).cs := by simp [St.push]

theorem BIn.left {B a b} (h : BIn B (a ++ b)) : BIn B a := fun p hp => h p (List.mem_append_left _ hp)
theorem BIn.right {B a b} (h : BIn B (a ++ b)) : BIn B b := fun p hp => h p (List.mem_append_right _ hp)

theorem lookupScope_mem {x ty} : ∀ {sc : List (Nat × Ty)}, lookupScope x sc = some ty → (x, ty) ∈ sc
  | [], h => by simp [lookupScope] at h
  | (y, t) :: rest, h => by
    simp only [lookupScope] at h
    split at h
    · rename_i e; injection h with h; subst h; subst e; exact List.mem_cons_self
    · exact List.mem_cons_of_mem _ (lookupScope_mem h)

theorem EnvAll.lookup {B x ty} : ∀ {Γ : Scopes}, EnvAll B Γ → lookupVar x Γ = some ty → B x = some ty
  | [], _, h => by simp [lookupVar] at h
  | sc :: rest, hE, h => by
    simp only [lookupVar] at h
    cases hs : lookupScope x sc with
    | some t =>
      simp only [hs] at h; injection h with h; subst h
      exact hE sc List.mem_cons_self _ (lookupScope_mem hs)
    | none =>
      simp only [hs] at h
      exact EnvAll.lookup (fun sc' hm => hE sc' (List.mem_cons_of_mem _ hm)) h

theorem EnvAll.push {B Γ} (h : EnvAll B Γ) : EnvAll B (pushScope Γ) := by
  intro sc hm p hp
  rcases List.mem_cons.1 hm with e | e
  · subst e; cases hp
  · exact h sc e p hp

theorem EnvAll.insert {B Γ x ty} (h : EnvAll B Γ) (hx : B x = some ty) : EnvAll B (insertVar x ty Γ) := by
  cases Γ with
  | nil => exact h
  | cons sc rest =>
    intro sc' hm p hp
    simp only [insertVar] at hm
    rcases List.mem_cons.1 hm with e | e
    · subst e
      rcases List.mem_cons.1 hp with e2 | e2
      · subst e2; exact hx
      · exact h sc List.mem_cons_self p e2
    · exact h sc' (List.mem_cons_of_mem _ e) p hp

theorem EnvAll.pop {B Γ} {s : St} (h : EnvAll B Γ) : EnvAll B (popScope Γ s).1 := by
  unfold popScope; split
  · exact h
  · intro sc hm p hp
    exact h sc (List.mem_of_mem_tail hm) p hp

theorem envAll_params {B} : ∀ (ps : List (Nat × Ty)) Γ, BIn B ps → EnvAll B Γ → EnvAll B (insertParams ps Γ)
  | [], _, _, h => h
  | (x, t) :: ps, Γ, hB, h => by
    simp only [insertParams]
    exact envAll_params ps _ (fun p hp => hB p (List.mem_cons_of_mem _ hp)) (h.insert (hB (x, t) List.mem_cons_self))

theorem freshN_le' (n) (s : St) : Le s (freshN n s).2 := le_freshN n s

theorem finish_inv {i exp v T Γx} {sx : St} {t Γ' s'} (h : finish i exp v T Γx sx = some (t, Γ', s')) :
    t = T ∧ Γ' = Γx ∧ Le sx s' ∧ (∀ x, exp = some x → Constraint.eq T.ty x ∈ s'.cs) := by
  obtain ⟨s2, h2, l⟩ := finish_le i exp v T Γx sx
  cases h.symm.trans h2
  refine ⟨rfl, rfl, l, ?_⟩
  rintro x rfl
  simp only [finish, Option.some.injEq, Prod.mk.injEq, true_and] at h
  rw [← h]
  simp [St.push, St.record]

/-! ### a struct literal: the checked fields put back at their declared positions -/

theorem mem_zip_of_le {α} : ∀ (ks : List Nat) (ts : List α), ts.length ≤ ks.length → ∀ t, t ∈ ts → ∃ k, (k, t) ∈ ks.zip ts
  | _, [], _, t, ht => by cases ht
  | [], _ :: _, hl, _, _ => by simp at hl
  | k :: ks, t0 :: ts, hl, t, ht => by
    rcases List.mem_cons.1 ht with e | e
    · subst e; exact ⟨k, by simp⟩
    · obtain ⟨k', hk⟩ := mem_zip_of_le ks ts (by simpa using hl) t e
      exact ⟨k', by simp [hk]⟩

theorem mem_collect {α β} {f : α → List β} {fL : List α → List β} (h0 : fL [] = [])
    (h1 : ∀ a as, fL (a :: as) = f a ++ fL as) : ∀ (L : List α) b, b ∈ fL L ↔ ∃ a, a ∈ L ∧ b ∈ f a
  | [], b => by
    rw [h0]
    exact ⟨fun h => absurd h List.not_mem_nil, fun h => absurd h.choose_spec.1 List.not_mem_nil⟩
  | a :: L, b => by
    rw [h1, List.mem_append, mem_collect h0 h1 L b]
    constructor
    · rintro (h | ⟨a', ha, h⟩)
      · exact ⟨a, List.mem_cons_self, h⟩
      · exact ⟨a', List.mem_cons_of_mem _ ha, h⟩
    · rintro ⟨a', ha, h⟩
      rcases List.mem_cons.1 ha with rfl | ha
      · exact .inl h
      · exact .inr ⟨a', ha, h⟩

theorem mem_bindersL : ∀ (L : List TExpr) p, p ∈ bindersL L ↔ ∃ t, t ∈ L ∧ p ∈ binders t :=
  mem_collect (by rw [bindersL]) (fun _ _ => by rw [bindersL])

theorem mem_oblsL : ∀ (L : List TExpr) o, o ∈ oblsL L ↔ ∃ t, t ∈ L ∧ o ∈ obls t :=
  mem_collect (by rw [oblsL]) (fun _ _ => by rw [oblsL])

theorem reorder_sub {n idxs ts t} (h : t ∈ reorder n idxs ts) : t ∈ ts ∨ t = TExpr.prim .unit := by
  simp only [reorder, List.mem_map, List.mem_range] at h
  obtain ⟨k, _, rfl⟩ := h
  cases hf : (idxs.zip ts).find? (fun p => p.1 == k) with
  | none => exact Or.inr rfl
  | some p => exact Or.inl (List.of_mem_zip (List.mem_of_find?_eq_some hf)).2

theorem reorder_sup {n idxs ts} (hz : zipOk n idxs ts = true) {t} (ht : t ∈ ts) : t ∈ reorder n idxs ts := by
  simp only [zipOk, Bool.and_eq_true, decide_eq_true_eq, List.all_eq_true] at hz
  obtain ⟨⟨hnd, hle⟩, hall⟩ := hz
  obtain ⟨k, hk⟩ := mem_zip_of_le idxs ts hle t ht
  have hkn : k < n := hall k (List.of_mem_zip hk).1
  simp only [reorder, List.mem_map, List.mem_range]
  refine ⟨k, hkn, ?_⟩
  have := find?_key_of_mem (key := fun q : Nat × TExpr => q.1) hnd hk
  simp only at this
  rw [this]
  rfl

theorem reorder_binders {n idxs ts} (hz : zipOk n idxs ts = true) {b} (hb : b ∈ bindersL ts) :
    b ∈ bindersL (reorder n idxs ts) := by
  obtain ⟨t, ht, hbt⟩ := (mem_bindersL ts b).1 hb
  exact (mem_bindersL _ b).2 ⟨t, reorder_sup hz ht, hbt⟩

/-- the unit fillers of `reorder` carry no obligation -/
theorem reorder_obls {n idxs ts o} (ho : o ∈ oblsL (reorder n idxs ts)) : o ∈ oblsL ts := by
  obtain ⟨t, ht, hot⟩ := (mem_oblsL _ o).1 ho
  rcases reorder_sub ht with h | h
  · exact (mem_oblsL ts o).2 ⟨t, h, hot⟩
  · subst h; simp [obls] at hot

end Goml.Infer
