import GomlVerif.Lemmas.TyEqB
import GomlVerif.Props.C06
import GomlVerif.Lemmas.C03presScopeLink
/-!
C03 (every stage output is closed) for the match compiler: the decision tree `compileRows` builds is
well-scoped — every pattern variable used in an arm body is bound on the path that reaches the arm,
every generated temporary is bound by its `let x = get/proj` before the sub-tree that tests or copies
it.  Well-scopedness of a tree (`DT.fvOk`) is closed under the tree constructors in the context of the bound names
(`fvOk_closed`), so it follows by `compileRows_scoped` from an invariant of the matrix: `RowInv`, which every branch of
a plan hands to its sub-matrix (`Branch.rowInv`); `fvOk_unbound` carries it from the tree to the emitted expression.
-/
namespace Goml.Match
open Goml Goml.Sem

variable {β : Type}

/-! ### typing contexts -/

theorem lookupTy_append (x : String) (a b : List (String × Ty)) :
    lookupTy x (a ++ b) = match lookupTy x a with | some t => some t | none => lookupTy x b := by
  induction a with
  | nil => rfl
  | cons p ps ih =>
    by_cases h : p.1 = x
    · simp [lookupTy, h]
    · simp [lookupTy, h, ih]

theorem lookupTy_none_of_notin {x : String} : ∀ {a : List (String × Ty)}, (∀ p ∈ a, p.1 ≠ x) →
    lookupTy x a = none := by
  intro a
  induction a with
  | nil => intro _; rfl
  | cons p ps ih =>
    intro h
    simp only [lookupTy, h p (by simp), if_false]
    exact ih (fun q hq => h q (by simp [hq]))

theorem lookupTy_append_of_fresh {vs T : List (String × Ty)} {x : String} {t : Ty}
    (hfr : ∀ p ∈ vs, lookupTy p.1 T = none) (h : lookupTy x T = some t) :
    lookupTy x (vs ++ T) = some t := by
  rw [lookupTy_append]
  have : lookupTy x vs = none := by
    apply lookupTy_none_of_notin
    intro p hp e
    have := hfr p hp
    rw [e, h] at this
    cases this
  rw [this]
  exact h

theorem wfAtL_length (S : Sig) : ∀ (args : List Pat) (tys : List Ty), Pat.wfAtL S tys args = true →
    args.length ≤ tys.length := by
  intro args
  induction args with
  | nil => intro tys _; simp
  | cons p ps ih =>
    intro tys h
    cases tys with
    | nil => simp [Pat.wfAtL] at h
    | cons t ts =>
      simp only [Pat.wfAtL, Bool.and_eq_true] at h
      have := ih ts h.2
      simp only [List.length_cons]
      omega

theorem zip_cols_typed (S : Sig) (T : List (String × Ty)) :
    ∀ (names : List String) (tys : List Ty) (args : List Pat),
      names.Nodup → Pat.wfAtL S tys args = true →
      ∀ c ∈ names.zip args, ∃ t, lookupTy c.1 (names.zip tys ++ T) = some t ∧ c.2.wfAt S t = true := by
  intro names
  induction names with
  | nil => intro tys args _ _ c hc; simp at hc
  | cons x xs ih =>
    intro tys args hnd hwf c hc
    cases args with
    | nil => simp at hc
    | cons p ps =>
      cases tys with
      | nil => simp [Pat.wfAtL] at hwf
      | cons t ts =>
        simp only [Pat.wfAtL, Bool.and_eq_true] at hwf
        simp only [List.zip_cons_cons, List.mem_cons] at hc
        rcases hc with rfl | hc
        · exact ⟨t, by simp [lookupTy], hwf.1⟩
        · obtain ⟨t', h1, h2⟩ := ih ts ps (List.nodup_cons.mp hnd).2 hwf.2 c hc
          refine ⟨t', ?_, h2⟩
          have hne : ¬ x = c.1 := by
            intro e
            have := (List.of_mem_zip (show (c.1, c.2) ∈ xs.zip ps from hc)).1
            exact (List.nodup_cons.mp hnd).1 (e ▸ this)
          simp only [List.zip_cons_cons, List.cons_append, lookupTy, hne, if_false]
          exact h1

/-! ### pattern variables -/

theorem mem_colsPvars {y : String} : ∀ {cols : List (String × Pat)},
    y ∈ colsPvars cols ↔ ∃ c ∈ cols, y ∈ c.2.pvars := by
  intro cols
  induction cols with
  | nil => simp [colsPvars]
  | cons c cs ih => simp [colsPvars, ih]

theorem pvars_zip : ∀ (args : List Pat) (names : List String), args.length ≤ names.length →
    ∀ y ∈ Pat.pvarsL args, y ∈ colsPvars (names.zip args) := by
  intro args
  induction args with
  | nil => intro names _ y hy; simp [Pat.pvarsL] at hy
  | cons p ps ih =>
    intro names hlen y hy
    cases names with
    | nil => simp at hlen
    | cons x xs =>
      simp only [Pat.pvarsL, List.mem_append] at hy
      simp only [List.zip_cons_cons, colsPvars, List.mem_append]
      rcases hy with h | h
      · exact Or.inl h
      · exact Or.inr (ih xs (by simpa using hlen) y h)

/-! ### the invariant carried through `compile_rows` -/

/-- hypotheses (a), (b), (c) of `matchc_preserves_closed` on one row (`presHypRow` as a `Prop`) -/
structure RowInv (S : Sig) (bodyFv : β → List String) (Γ : List String) (T : List (String × Ty))
    (r : Row β) : Prop where
  cols : ∀ c ∈ r.cols, c.1 ∈ Γ ∧ ∃ t, lookupTy c.1 T = some t ∧ c.2.wfAt S t = true
  binds : ∀ b ∈ r.binds, b.var ∈ Γ
  body : ∀ y ∈ bodyFv r.body, y ∈ Γ ∨ (∃ b ∈ r.binds, b.name = y) ∨ y ∈ colsPvars r.cols

theorem rowInv_of_presHyp {S : Sig} {bodyFv : β → List String} {Γ : List String} {T : List (String × Ty)}
    {r : Row β} (h : presHypRow S bodyFv Γ T r = true) : RowInv S bodyFv Γ T r := by
  simp only [presHypRow, Bool.and_eq_true, List.all_eq_true, Bool.or_eq_true] at h
  obtain ⟨⟨hcols, hbinds⟩, hbody⟩ := h
  refine ⟨?_, ?_, ?_⟩
  · intro c hc
    have := hcols c hc
    refine ⟨List.contains_iff_mem.mp this.1, ?_⟩
    have h' := this.2
    split at h'
    · rename_i t ht; exact ⟨t, ht, h'⟩
    · cases h'
  · intro b hb; exact List.contains_iff_mem.mp (hbinds b hb)
  · intro y hy
    rcases hbody y hy with (h | h) | h
    · exact Or.inl (List.contains_iff_mem.mp h)
    · right; left
      obtain ⟨b, hb, e⟩ := List.mem_map.mp (List.contains_iff_mem.mp h)
      exact ⟨b, hb, e⟩
    · exact Or.inr (Or.inr (List.contains_iff_mem.mp h))

theorem RowInv.weaken {S : Sig} {bodyFv : β → List String} {Γ Γ' : List String} {T T' : List (String × Ty)}
    {r : Row β} (h : RowInv S bodyFv Γ T r) (hΓ : ∀ y ∈ Γ, y ∈ Γ')
    (hT : ∀ x t, lookupTy x T = some t → lookupTy x T' = some t) : RowInv S bodyFv Γ' T' r := by
  refine ⟨?_, fun b hb => hΓ _ (h.binds b hb), ?_⟩
  · intro c hc
    obtain ⟨hin, t, hty, hwf⟩ := h.cols c hc
    exact ⟨hΓ _ hin, t, hT _ _ hty, hwf⟩
  · intro y hy
    rcases h.body y hy with h1 | h1 | h1
    · exact Or.inl (hΓ _ h1)
    · exact Or.inr (Or.inl h1)
    · exact Or.inr (Or.inr h1)

theorem RowInv.newCols {S : Sig} {bodyFv : β → List String} {Γ : List String} {T : List (String × Ty)}
    {r : Row β} (h : RowInv S bodyFv Γ T r) (cols' : List (String × Pat))
    (h1 : ∀ c ∈ cols', c.1 ∈ Γ ∧ ∃ t, lookupTy c.1 T = some t ∧ c.2.wfAt S t = true)
    (h2 : ∀ y ∈ colsPvars r.cols, y ∈ colsPvars cols') : RowInv S bodyFv Γ T { r with cols := cols' } := by
  refine ⟨h1, h.binds, ?_⟩
  intro y hy
  rcases h.body y hy with h3 | h3 | h3
  · exact Or.inl h3
  · exact Or.inr (Or.inl h3)
  · exact Or.inr (Or.inr (h2 y h3))

/-! ### `move_variable_patterns` -/

theorem varBinds_mem {a : String} {ty : Ty} : ∀ {cols : List (String × Pat)} {c : String × Pat},
    c ∈ cols → c.2 = .var a ty → (⟨a, c.1, ty⟩ : Bind) ∈ varBinds cols := by
  intro cols
  induction cols with
  | nil => intro c hc; cases hc
  | cons d ds ih =>
    intro c hc hv
    rcases List.mem_cons.mp hc with rfl | hc
    · simp only [varBinds, hv]
      simp
    · have := ih hc hv
      simp only [varBinds]
      split
      · exact List.mem_append.mpr (Or.inl this)
      · exact this

theorem varBinds_pvars (cols : List (String × Pat)) (y : String) (hy : y ∈ colsPvars cols) :
    (∃ b ∈ varBinds cols, b.name = y) ∨ y ∈ colsPvars (cols.filter (fun c => !isVarOrWild c.2)) := by
  obtain ⟨c, hc, hyc⟩ := mem_colsPvars.mp hy
  cases hp : c.2 with
  | wild ty => rw [hp] at hyc; simp [Pat.pvars] at hyc
  | var a ty =>
    rw [hp] at hyc
    simp only [Pat.pvars, List.mem_singleton] at hyc
    exact Or.inl ⟨_, varBinds_mem hc hp, hyc.symm⟩
  | prim p ty => rw [hp] at hyc; simp [Pat.pvars] at hyc
  | tuple items ty =>
    right
    exact mem_colsPvars.mpr ⟨c, List.mem_filter.mpr ⟨hc, by simp [hp, isVarOrWild]⟩, hyc⟩
  | constr k args ty =>
    right
    exact mem_colsPvars.mpr ⟨c, List.mem_filter.mpr ⟨hc, by simp [hp, isVarOrWild]⟩, hyc⟩

theorem RowInv.moveVars {S : Sig} {bodyFv : β → List String} {Γ : List String} {T : List (String × Ty)}
    {r : Row β} (h : RowInv S bodyFv Γ T r) : RowInv S bodyFv Γ T (moveVars r) := by
  refine ⟨?_, ?_, ?_⟩
  · intro c hc; exact h.cols c (List.mem_filter.mp hc).1
  · intro b hb
    rcases List.mem_append.mp hb with hb | hb
    · obtain ⟨c, hc, e⟩ := varBinds_var r.cols b hb
      rw [e]; exact (h.cols c hc).1
    · exact h.binds b hb
  · intro y hy
    rcases h.body y hy with h1 | ⟨b, hb, e⟩ | h1
    · exact Or.inl h1
    · exact Or.inr (Or.inl ⟨b, List.mem_append.mpr (Or.inr hb), e⟩)
    · rcases varBinds_pvars r.cols y h1 with ⟨b, hb, e⟩ | h2
      · exact Or.inr (Or.inl ⟨b, List.mem_append.mpr (Or.inl hb), e⟩)
      · exact Or.inr (Or.inr h2)

theorem bindsFvOk_intro (bodyFv : β → List String) (body : β) : ∀ (bs : List Bind) (Γ : List String),
    (∀ b ∈ bs, b.var ∈ Γ) → (∀ y ∈ bodyFv body, y ∈ Γ ∨ ∃ b ∈ bs, b.name = y) →
    bindsFvOk bodyFv bs body Γ = true := by
  intro bs
  induction bs with
  | nil =>
    intro Γ _ h
    simp only [bindsFvOk, subsetB, List.all_eq_true]
    intro y hy
    rcases h y hy with h | ⟨b, hb, _⟩
    · exact List.contains_iff_mem.mpr h
    · cases hb
  | cons b bs ih =>
    intro Γ hv h
    simp only [bindsFvOk, Bool.and_eq_true]
    refine ⟨List.contains_iff_mem.mpr (hv b (by simp)), ih (b.name :: Γ) ?_ ?_⟩
    · intro c hc; exact List.mem_cons_of_mem _ (hv c (by simp [hc]))
    · intro y hy
      rcases h y hy with h1 | ⟨c, hc, e⟩
      · exact Or.inl (List.mem_cons_of_mem _ h1)
      · rcases List.mem_cons.mp hc with rfl | hc
        · left; rw [← e]; simp
        · exact Or.inr ⟨c, hc, e⟩

/-! ### the row distribution keeps the invariant -/

theorem colsPvars_append (a b : List (String × Pat)) : colsPvars (a ++ b) = colsPvars a ++ colsPvars b := by
  induction a with
  | nil => rfl
  | cons c a ih => simp [colsPvars, ih]

/-- An expansion of columns on `bv : t` into columns on fresh `names : tys` keeps the invariant;
`hsub` says what a pattern well-formed at `t` gives for its sub-patterns. -/
theorem Expands.rowInv {S : Sig} {bodyFv : β → List String} {Γ : List String} {T : List (String × Ty)} {all : Bool}
    {sub : Pat → Option (List Pat)} {bv : String} {names : List String} {t : Ty} {tys : List Ty}
    (hnd : names.Nodup) (hlen : names.length = tys.length) (hfr : ∀ x ∈ names, lookupTy x T = none)
    (hbv : lookupTy bv T = some t)
    (hsub : ∀ p ps, p.wfAt S t = true → sub p = some ps →
      Pat.wfAtL S tys ps = true ∧ ∀ y ∈ p.pvars, y ∈ Pat.pvarsL ps)
    {r : Row β} {cs : List (String × Pat)} (hex : Expands all sub bv names r.cols cs) (h : RowInv S bodyFv Γ T r) :
    RowInv S bodyFv (names ++ Γ) (names.zip tys ++ T) { r with cols := cs } := by
  have hfr' : ∀ p ∈ names.zip tys, lookupTy p.1 T = none :=
    fun p hp => hfr p.1 (List.of_mem_zip (show (p.1, p.2) ∈ _ from hp)).1
  have hw : RowInv S bodyFv (names ++ Γ) (names.zip tys ++ T) r :=
    h.weaken (fun y hy => List.mem_append.mpr (Or.inr hy)) (fun x t' hx => lookupTy_append_of_fresh hfr' hx)
  -- the columns that replace a column `c` on `bv` are typed and carry the pattern variables of `c`
  have block : ∀ (c : String × Pat) (ps : List Pat), c ∈ r.cols → c.1 = bv → sub c.2 = some ps →
      (∀ d ∈ names.zip ps, d.1 ∈ names ∧ ∃ t', lookupTy d.1 (names.zip tys ++ T) = some t' ∧ d.2.wfAt S t' = true) ∧
      (∀ y ∈ c.2.pvars, y ∈ colsPvars (names.zip ps)) := by
    intro c ps hc hcb hps
    obtain ⟨_, t0, ht0, hwf0⟩ := h.cols c hc
    rw [hcb, hbv] at ht0
    cases ht0
    obtain ⟨hwf, hpv⟩ := hsub _ _ hwf0 hps
    have hl := wfAtL_length S ps tys hwf
    exact ⟨fun d hd => ⟨(List.of_mem_zip (show (d.1, d.2) ∈ _ from hd)).1,
      zip_cols_typed S T names tys ps hnd hwf d hd⟩, fun y hy => pvars_zip ps names (hlen ▸ hl) y (hpv y hy)⟩
  suffices ∀ cols cols', Expands all sub bv names cols cols' → (∀ c ∈ cols, c ∈ r.cols) →
      (∀ c ∈ cols', c ∈ cols ∨
        (c.1 ∈ names ∧ ∃ t', lookupTy c.1 (names.zip tys ++ T) = some t' ∧ c.2.wfAt S t' = true)) ∧
      (∀ y ∈ colsPvars cols, y ∈ colsPvars cols') by
    obtain ⟨h1, h2⟩ := this _ _ hex (fun _ hc => hc)
    apply hw.newCols cs _ h2
    intro c hc
    rcases h1 c hc with h3 | ⟨h3, h4⟩
    · exact hw.cols c h3
    · exact ⟨List.mem_append.mpr (Or.inl h3), h4⟩
  intro cols cols' hex
  induction hex with
  | nil => exact fun _ => ⟨fun c hc => (by cases hc), fun y hy => hy⟩
  | keep _ _ ih =>
    intro hin
    obtain ⟨ih1, ih2⟩ := ih (fun d hd => hin d (List.mem_cons_of_mem _ hd))
    constructor
    · intro d hd
      rcases List.mem_cons.mp hd with rfl | hd
      · left; simp
      · exact (ih1 d hd).imp_left (List.mem_cons_of_mem _)
    · intro y hy
      simp only [colsPvars, List.mem_append] at hy ⊢
      exact hy.imp id (ih2 y)
  | @expand c ps _ _ hcb hps _ ih =>
    intro hin
    obtain ⟨ih1, ih2⟩ := ih (fun d hd => hin d (List.mem_cons_of_mem _ hd))
    obtain ⟨b1, b2⟩ := block c ps (hin c (by simp)) hcb hps
    constructor
    · intro d hd
      rcases List.mem_append.mp hd with hd | hd
      · exact Or.inr (b1 d hd)
      · exact (ih1 d hd).imp_left (List.mem_cons_of_mem _)
    · intro y hy
      rw [colsPvars_append]
      simp only [colsPvars, List.mem_append] at hy ⊢
      exact hy.imp (b2 y) (ih2 y)
  | @first c ps cs _ hcb hps =>
    intro hin
    obtain ⟨b1, b2⟩ := block c ps (hin c (by simp)) hcb hps
    constructor
    · intro d hd
      rcases List.mem_append.mp hd with hd | hd
      · exact Or.inl (List.mem_cons_of_mem _ hd)
      · exact Or.inr (b1 d hd)
    · intro y hy
      rw [colsPvars_append]
      simp only [colsPvars, List.mem_append] at hy ⊢
      exact hy.symm.imp id (b2 y)

theorem wfAtL_of_constr {S : Sig} {t ty : Ty} {k : Ctor} {ps : List Pat} {tys : List Ty}
    (hwf : (Pat.constr k ps ty).wfAt S t = true) (hc : compTys S t k = some tys) : Pat.wfAtL S tys ps = true := by
  simp only [Pat.wfAt, hc, Bool.and_eq_true] at hwf
  exact hwf.2

/-! ### freshness of the generated names w.r.t. the typed column variables -/

/-- names the gensym may still hand out (`≥ n`) are not typed column variables -/
def FreshT (g : Nat → String) (n : Nat) (T : List (String × Ty)) : Prop :=
  ∀ j, n ≤ j → lookupTy (g j) T = none

theorem FreshT.mono {g : Nat → String} {n m : Nat} {T : List (String × Ty)} (h : FreshT g n T)
    (hnm : n ≤ m) : FreshT g m T := fun j hj => h j (by omega)

theorem FreshT.ext {g : Nat → String} (hinj : ∀ i j, g i = g j → i = j) {n m k n1 : Nat}
    {T : List (String × Ty)} (tys : List Ty) (h : FreshT g n T) (hnm : n ≤ m) (hmk : m + k ≤ n1) :
    FreshT g n1 ((genNames g m k).zip tys ++ T) := by
  intro j hj
  rw [lookupTy_append]
  have : lookupTy (g j) ((genNames g m k).zip tys) = none := by
    apply lookupTy_none_of_notin
    intro p hp e
    obtain ⟨j', _, h2, h3⟩ := mem_genNames.mp (List.of_mem_zip (show (p.1, p.2) ∈ _ from hp)).1
    have := hinj j' j (by rw [← h3, e])
    omega
  rw [this]
  exact h j (by omega)

theorem genNames_fresh {g : Nat → String} {n m k : Nat} {T : List (String × Ty)} (h : FreshT g n T)
    (hnm : n ≤ m) : ∀ x ∈ genNames g m k, lookupTy x T = none := by
  intro x hx
  obtain ⟨j, h1, _, rfl⟩ := mem_genNames.mp hx
  exact h j (by omega)

/-! ### the induction over `compile_rows` -/

/-- the type `T` gives a column variable is the annotation of every refutable pattern on it -/
theorem RowInv.colTy {S : Sig} {bodyFv : β → List String} {Γ : List String} {T : List (String × Ty)} {r : Row β}
    (h : RowInv S bodyFv Γ T r) {x : String} {p : Pat} (hp : (x, p) ∈ r.cols) (hnv : isVarOrWild p = false) :
    lookupTy x T = some p.ty := by
  obtain ⟨_, t0, (ht0 : lookupTy x T = some t0), (hwf : p.wfAt S t0 = true)⟩ := h.cols _ hp
  rw [ht0]
  cases p with
  | wild _ => simp [isVarOrWild] at hnv
  | var _ _ => simp [isVarOrWild] at hnv
  | prim _ ty' => simp only [Pat.wfAt] at hwf; rw [tyEqB_sound _ _ hwf]; rfl
  | tuple _ ty' => simp only [Pat.wfAt, Bool.and_eq_true] at hwf; rw [tyEqB_sound _ _ hwf.1]; rfl
  | constr _ _ ty' => simp only [Pat.wfAt, Bool.and_eq_true] at hwf; rw [tyEqB_sound _ _ hwf.1]; rfl

/-- a branch of a plan hands the invariant to its sub-matrix, under its binders; the names the gensym may still
    return stay fresh.  Every row step is an `Expands` (`spec*_exp`); what is left per case is `hsub` of `Expands.rowInv`. -/
theorem Branch.rowInv {S : Sig} (hinj : ∀ i j, S.gen i = S.gen j → i = j) {bodyFv : β → List String}
    {Γ : List String} {T : List (String × Ty)} {bv : String} {bty : Ty} {n n1 : Nat} {vars : List (String × Ty)}
    {f : Row β → M (Option (Row β))} (h : Branch S bv bty n n1 vars f) (hn : n ≤ n1)
    (hfr : FreshT S.gen n T) (hbv : lookupTy bv T = some bty) :
    FreshT S.gen n1 (vars ++ T) ∧ ∀ r r', f r = .ok (some r') → RowInv S bodyFv Γ T r →
      RowInv S bodyFv (vars.map (·.1) ++ Γ) (vars ++ T) r' := by
  cases h with
  | lit okP k =>
    refine ⟨hfr.mono hn, fun r r' hf hr => ?_⟩
    obtain ⟨cs, rfl, hcs⟩ := specLit_exp hf
    refine hcs.rowInv (tys := []) .nil rfl (fun _ hx => nomatch hx) hbv ?_ hr
    -- a literal has no sub-patterns and binds nothing
    intro p ps _ hp
    obtain ⟨_, rfl, _, rfl⟩ := litSub_some hp
    exact ⟨rfl, fun y hy => by simp [Pat.pvars] at hy⟩
  | dflt okP =>
    refine ⟨hfr.mono hn, fun r r' hf hr => ?_⟩
    obtain ⟨cs, rfl, hcs⟩ := specDflt_exp hf
    exact hcs.rowInv (tys := []) .nil rfl (fun _ hx => nomatch hx) hbv (fun _ _ _ hp => by cases hp) hr
  | @enum name targs d v idx m hk hd hv hnm hn1 =>
    have hl : (genNames S.gen m v.2.length).length = (substTys (d.generics.zip targs) v.2).length := by
      rw [genNames_length, substTys_length]
    refine ⟨FreshT.ext hinj _ hfr hnm hn1, fun r r' hf hr => ?_⟩
    rw [List.map_fst_zip (Nat.le_of_eq hl)]
    obtain ⟨cs, rfl, hcs⟩ := specEnum_exp hf
    refine hcs.rowInv (genNames_nodup hinj _ _) hl (genNames_fresh hfr hnm) hbv ?_ hr
    intro p ps hwf hp
    obtain ⟨a, b, ty, rfl⟩ := enumSub_some hp
    exact ⟨wfAtL_of_constr hwf (by simp only [compTys, hk, hd, hv]), fun y hy => by simpa [Pat.pvars] using hy⟩
  | @struct name targs d hk hd hn1 =>
    have hl : (genNames S.gen n d.fields.length).length =
        (substTys (d.generics.zip targs) (d.fields.map (·.2))).length := by
      rw [genNames_length, substTys_length, List.length_map]
    refine ⟨FreshT.ext hinj _ hfr (Nat.le_refl _) hn1, fun r r' hf hr => ?_⟩
    rw [List.map_fst_zip (Nat.le_of_eq hl)]
    obtain ⟨cs, rfl, hcs⟩ := specStruct_exp hf
    refine hcs.rowInv (genNames_nodup hinj _ _) hl (genNames_fresh hfr (Nat.le_refl _)) hbv ?_ hr
    intro p ps hwf hp
    obtain ⟨sn, ty, rfl⟩ := structArgs_some hp
    exact ⟨wfAtL_of_constr hwf (by simp only [compTys, hk, hd]), fun y hy => by simpa [Pat.pvars] using hy⟩
  | @tuple typs hk hn1 =>
    have hl : (genNames S.gen n typs.length).length = typs.length := genNames_length _ _ _
    refine ⟨FreshT.ext hinj _ hfr (Nat.le_refl _) hn1, fun r r' hf hr => ?_⟩
    rw [List.map_fst_zip (Nat.le_of_eq hl)]
    obtain ⟨cs, rfl, hcs⟩ := specTuple_exp hf
    refine hcs.rowInv (genNames_nodup hinj _ _) hl (genNames_fresh hfr (Nat.le_refl _))
      (by rw [hbv, tuple_of_kind hk]) ?_ hr
    intro p ps hwf hp
    obtain ⟨ty, rfl⟩ := tupleItems_some hp
    simp only [Pat.wfAt, Bool.and_eq_true] at hwf
    exact ⟨hwf.2, fun y hy => by simpa [Pat.pvars] using hy⟩

theorem fvOk_closed (bodyFv : β → List String) : TreeClosed (fun _ => True) List.cons (fun g v => v ∈ g)
    (fun g (t : DT β) => t.fvOk bodyFv g = true) (fun g cs => cs.fvOk bodyFv g = true) where
  reads_bind _ h := List.mem_cons_of_mem _ h
  missing _ _ := rfl
  letProj _ hv h := by simp only [DT.fvOk, Bool.and_eq_true]; exact ⟨List.contains_iff_mem.mpr hv, h⟩
  letGet _ hv h := by simp only [DT.fvOk, Bool.and_eq_true]; exact ⟨List.contains_iff_mem.mpr hv, h⟩
  switch hv h := by simp only [DT.fvOk, Bool.and_eq_true]; exact ⟨List.contains_iff_mem.mpr hv, h⟩
  nil _ := rfl
  dflt h := by simpa only [Cases.fvOk] using h
  cons h h' := by simp only [Cases.fvOk, h, h', Bool.and_self]

theorem mem_bindAll_cons {y : String} : ∀ {vars : List (String × Ty)} {g : List String},
    y ∈ bindAll List.cons vars g ↔ y ∈ vars.map (·.1) ∨ y ∈ g := by
  intro vars
  induction vars with
  | nil => intro g; simp [bindAll]
  | cons x xs ih =>
    intro g
    have := ih (g := x.1 :: g)
    simp only [bindAll, List.foldl_cons] at this ⊢
    rw [this]; simp only [List.map_cons, List.mem_cons]; exact or_left_comm.trans or_assoc.symm

/-- the tree is well-scoped: `compileRows_scoped` for `fvOk_closed`.  The invariant of the matrix at counter `n` in
    context `Γ`: some typing `T` of the column variables, fresh for the gensym from `n` on, under which every row
    satisfies `RowInv`. -/
theorem compileRows_fvOk (S : Sig) (hinj : ∀ i j, S.gen i = S.gen j → i = j) (bodyFv : β → List String)
    (fuel : Nat) (ty : Ty) (n : Nat) (rows : List (Row β)) (t : DT β) (n' : Nat) (Γ : List String)
    (T : List (String × Ty)) (h : compileRows S fuel ty n rows = some (.ok (t, n')))
    (hfr : FreshT S.gen n T) (hs : ∀ r ∈ rows, RowInv S bodyFv Γ T r) : t.fvOk bodyFv Γ = true := by
  refine compileRows_scoped S (fvOk_closed bodyFv) (fun _ => trivial)
    (I := fun n g rows => ∃ T, FreshT S.gen n T ∧ ∀ r ∈ rows, RowInv S bodyFv g T r)
    ?_ ?_ ?_ ?_ ?_ fuel ty n rows t n' h Γ ⟨T, hfr, hs⟩
  · rintro n m g rows ⟨T, h1, h2⟩ hnm; exact ⟨T, h1.mono hnm, h2⟩
  · rintro n g rows ⟨T, h1, h2⟩
    refine ⟨T, h1, fun r1 hr1 => ?_⟩
    obtain ⟨r, hr, rfl⟩ := List.mem_map.mp hr1
    exact (h2 r hr).moveVars
  · rintro n g r0 rest bv p ⟨T, _, h2⟩ hp; exact ((h2 r0 (by simp)).cols _ hp).1
  · rintro n g r0 rest ⟨T, _, h2⟩ hc
    have h0 := h2 r0 (by simp)
    refine bindsFvOk_intro bodyFv r0.body r0.binds g h0.binds (fun y hy => ?_)
    rcases h0.body y hy with h1 | h1 | h1
    · exact Or.inl h1
    · exact Or.inr h1
    · simp [hc, colsPvars] at h1
  · rintro n n1 g rows bv bty vars sub ⟨T, h1, h2⟩ hnv ⟨r, hr, p, hp, hpt⟩ hn ⟨f, hf, hfs⟩
    have hb := hf.rowInv hinj (bodyFv := bodyFv) (Γ := g) hn h1 (hpt ▸ (h2 r hr).colTy hp (hnv r hr _ hp))
    refine ⟨vars ++ T, hb.1, fun r' hr' => ?_⟩
    obtain ⟨r, hr, hfr'⟩ := filterMapE_out hfs r' hr'
    exact (hb.2 r r' hfr' (h2 r hr)).weaken (fun y hy => mem_bindAll_cons.mpr (List.mem_append.mp hy))
      (fun _ _ h => h)

/-! ### from the tree to the emitted expression -/

/- `DT.fvOk` and `bindsFvOk` thread the bound set (`x :: Γ` under a binder) exactly as `Scoped.unbound` does, so the
   walk is made there: every row is the definition of `unbound`.  (`fvE` filters the binder out afterwards.) -/

open Goml.Scoped in
theorem unbound_wrapBinds (b : Expr) : ∀ (bs : List Bind) (Γ : List String), bindsFvOk fvE bs b Γ = true →
    unbound Γ (wrapBinds bs b) = []
  | [], Γ, h => (unbound_nil_iff_closedE Γ b).mpr h
  | bd :: bs, Γ, h => by
    simp only [bindsFvOk, Bool.and_eq_true] at h
    simp only [wrapBinds, unbound, List.contains_iff_mem.mp h.1, if_true, unbound_wrapBinds b bs _ h.2, List.append_nil]

open Goml.Scoped in
/-- a well-scoped tree emits a scoped expression (`missing` is the runtime function the `missing` leaf calls) -/
theorem fvOk_unbound (t : DT Expr) : ∀ (Γ : List String), "missing" ∈ Γ → t.fvOk fvE Γ = true →
    unbound Γ t.toExpr = [] := by
  apply DT.rec
    (motive_1 := fun t => ∀ (Γ : List String), "missing" ∈ Γ → t.fvOk fvE Γ = true → unbound Γ t.toExpr = [])
    (motive_2 := fun cs => ∀ (Γ : List String), "missing" ∈ Γ → cs.fvOk fvE Γ = true →
      unboundArms Γ cs.arms = [] ∧ ∀ d, cs.dfltExpr = some d → unbound Γ d = [])
  case leaf => intro binds b Γ _ h; exact unbound_wrapBinds b binds Γ h
  case missing =>
    intro ty Γ hm _
    simp only [DT.toExpr, emissing, unbound, unboundList, hm, if_true, List.append_nil]
  case letProj =>
    intro x i ty v vty rest ih Γ hm h
    simp only [DT.fvOk, Bool.and_eq_true] at h
    simp only [DT.toExpr, unbound, List.contains_iff_mem.mp h.1, if_true, ih _ (List.mem_cons_of_mem _ hm) h.2, List.append_nil]
  case letGet =>
    intro x c i ty v vty rest ih Γ hm h
    simp only [DT.fvOk, Bool.and_eq_true] at h
    simp only [DT.toExpr, unbound, List.contains_iff_mem.mp h.1, if_true, ih _ (List.mem_cons_of_mem _ hm) h.2, List.append_nil]
  case switch =>
    intro ty v vty cases ih Γ hm h
    simp only [DT.fvOk, Bool.and_eq_true] at h
    obtain ⟨ih1, ih2⟩ := ih Γ hm h.2
    simp only [DT.toExpr]
    cases hd : cases.dfltExpr with
    | none => simp only [unbound, List.contains_iff_mem.mp h.1, if_true, ih1, List.append_nil]
    | some d => simp only [unbound, List.contains_iff_mem.mp h.1, if_true, ih1, ih2 d hd, List.append_nil]
  case nil => intro Γ _ _; exact ⟨rfl, fun d hd => by simp [Cases.dfltExpr] at hd⟩
  case dflt =>
    intro t ih Γ hm h
    refine ⟨rfl, fun d hd => ?_⟩
    simp only [Cases.dfltExpr, Option.some.injEq] at hd
    subst hd
    exact ih Γ hm h
  case cons =>
    intro hd t rest ih1 ih2 Γ hm h
    simp only [Cases.fvOk, Bool.and_eq_true] at h
    obtain ⟨r1, r2⟩ := ih2 Γ hm h.2
    exact ⟨by simp only [Cases.arms, unboundArms, ih1 Γ hm h.1, r1, List.append_nil], r2⟩

theorem fvOk_toExpr (t : DT Expr) : ∀ (Γ : List String), "missing" ∈ Γ → t.fvOk fvE Γ = true →
    ∀ y ∈ fvE t.toExpr, y ∈ Γ :=
  fun Γ hm h => (Scoped.unbound_nil_iff_fvE _ Γ).mp (fvOk_unbound t Γ hm h)

theorem realGen_ne_of_presHypName {x : String} (h : presHypName x = true) (j : Nat) : realGen j ≠ x := by
  simp only [presHypName, Bool.or_eq_true] at h
  rcases h with h | h
  · exact realGen_ne_src j x (by unfold srcName; simpa using h)
  · split at h
    · rename_i c s hcs
      exact realGen_ne j x c s hcs (by simpa using h)
    · cases h

theorem freshT_of_presHypNames {T : List (String × Ty)} (h : presHypNames T = true) (n : Nat) :
    FreshT realGen n T := by
  intro j _
  apply lookupTy_none_of_notin
  intro p hp e
  simp only [presHypNames, List.all_eq_true] at h
  exact realGen_ne_of_presHypName (h p hp) j e.symm

/-- **The match compiler's tree is well-scoped** (any body type): `compileRows_fvOk` for the compiler's own gensym
    `x{n}` and the decidable hypotheses `presHypRows` (every row passes `presHypRow`, q.v.), `presHypNames`.  Every
    variable a leaf copies, a switch tests, a `get`/`proj` reads is bound on the path to it, and so is every free variable
    of every arm body. -/
theorem matchc_preserves_closed_tree (S : Sig) (hgen : S.gen = realGen) (bodyFv : β → List String)
    (fuel : Nat) (ty : Ty) (n : Nat) (rows : List (Row β)) (t : DT β) (n' : Nat) (Γ : List String)
    (T : List (String × Ty))
    (hc : compileRows S fuel ty n rows = some (.ok (t, n')))
    (hnames : presHypNames T = true)
    (hrows : presHypRows S bodyFv Γ T rows = true) : t.fvOk bodyFv Γ = true :=
  compileRows_fvOk S (hgen ▸ realGen_injective) bodyFv fuel ty n rows t n' Γ T hc
    (hgen ▸ freshT_of_presHypNames hnames n) (fun r hr => rowInv_of_presHyp (List.all_eq_true.mp hrows r hr))

/-- **C03 for the match compiler: the emitted expression is closed.**
    `rows` is a pattern matrix with arm bodies in Core, `Γ` the names bound around it (locals in scope
    and global functions, among them the runtime function `missing`), `T` the types of the column
    variables.  If (decidable, on the input only)
    * `presHypRows`: every row passes `presHypRow` (q.v.: (a) columns bound, typed and well-formed, (b) the arm body
      closed given the row, (c) the row's `let`s read bound variables);
    * `presHypNames`: no typed column variable is spelled like a generated name `x{n}`;
    * `missing ∈ Γ`;
    then every free variable of the expression `compile_rows` emits is in `Γ`: every pattern variable
    an arm body uses is bound on every path that reaches the arm, every temporary `x{n}` is bound by
    its `let x{n} = get/proj` before the sub-tree that tests or copies it. -/
theorem matchc_preserves_closed (S : Sig) (hgen : S.gen = realGen)
    (fuel : Nat) (ty : Ty) (n : Nat) (rows : List (Row Expr)) (t : DT Expr) (n' : Nat) (Γ : List String)
    (T : List (String × Ty))
    (hc : compileRows S fuel ty n rows = some (.ok (t, n')))
    (hmissing : Γ.contains "missing" = true)
    (hnames : presHypNames T = true)
    (hrows : presHypRows S fvE Γ T rows = true) : closedE Γ t.toExpr = true :=
  (Scoped.unbound_nil_iff_closedE Γ _).mp (fvOk_unbound t Γ (List.contains_iff_mem.mp hmissing)
    (matchc_preserves_closed_tree S hgen fvE fuel ty n rows t n' Γ T hc hnames hrows))

/-- a scrutinee `e` bound once to `mtmp`, the rows compiled on the column `mtmp`: the tail `compileMatch` (scrutinee not
a variable) and `compileLet` share -/
theorem letTmp_closed (S : Sig) (hgen : S.gen = realGen) {fuel : Nat} {ty sty : Ty} {mtmp : String} {n : Nat}
    {rows : List (Row Expr)} {r : DT Expr × Nat} {Γ : List String} {e : Expr}
    (hr : compileRows S fuel ty n rows = some (.ok r)) (hm : Γ.contains "missing" = true)
    (he : closedE Γ e = true) (hname : presHypName mtmp = true)
    (hrows : presHypRows S fvE (mtmp :: Γ) [(mtmp, sty)] rows = true) :
    closedE Γ (.letE mtmp e r.1.toExpr) = true :=
  closedE_letE he (matchc_preserves_closed S hgen fuel ty n _ r.1 r.2 (mtmp :: Γ) [(mtmp, sty)] hr
    (by simp [List.contains_iff_mem.mp hm]) (by simp [presHypNames, hname]) hrows)

/-- **the `EMatch` arm of `compile_expr` emits a closed expression** (hypotheses: `presHypMatch`) -/
theorem compileMatch_closed (S : Sig) (hgen : S.gen = realGen) (fuel : Nat) (ty : Ty) (mtmp : String)
    (n : Nat) (sc : Scrut) (arms : List (ArmIn Expr)) (e : Expr) (n' : Nat) (Γ : List String) (sty : Ty)
    (hc : compileMatch S fuel ty mtmp n sc arms = some (.ok (e, n')))
    (hyp : presHypMatch S Γ sty mtmp sc arms = true) : closedE Γ e = true := by
  simp only [presHypMatch, Bool.and_eq_true] at hyp
  obtain ⟨hm, hyp⟩ := hyp
  cases sc with
  | var x =>
    simp only [Bool.and_eq_true] at hyp
    obtain ⟨hname, hrows⟩ := hyp
    simp only [compileMatch] at hc
    split at hc
    · cases hc
    · cases hc
    · rename_i r hr
      cases hc
      exact matchc_preserves_closed S hgen fuel ty n _ r.1 r.2 Γ [(x, sty)] hr hm
        (by simp [presHypNames, hname]) hrows
  | other e0 =>
    simp only [Bool.and_eq_true] at hyp
    obtain ⟨⟨he, hname⟩, hrows⟩ := hyp
    simp only [compileMatch] at hc
    split at hc
    · cases hc
    · cases hc
    · rename_i r hr
      cases hc
      exact letTmp_closed S hgen hr hm he hname hrows

/-- **the destructuring `let pat = e; rest` emits a closed expression** (hypotheses: `presHypLet`) -/
theorem compileLet_closed (S : Sig) (hgen : S.gen = realGen) (fuel : Nat) (ty : Ty) (mtmp : String)
    (n : Nat) (e : Expr) (pat : Pat) (rest : Expr) (restTy : Ty) (out : Expr) (n' : Nat) (Γ : List String)
    (hc : compileLet S fuel ty mtmp n e pat rest restTy = some (.ok (out, n')))
    (hyp : presHypLet S Γ mtmp e pat rest restTy = true) : closedE Γ out = true := by
  simp only [presHypLet, Bool.and_eq_true] at hyp
  obtain ⟨⟨⟨hm, he⟩, hname⟩, hrows⟩ := hyp
  simp only [compileLet] at hc
  split at hc
  · cases hc
  · cases hc
  · rename_i r hr
    cases hc
    exact letTmp_closed S hgen hr hm he hname hrows

/-! ## non-vacuity: a match on `Option[(int32, string)]` with a tuple payload -/

section Examples

def c03mPair : Ty := .tuple [.int 32 true, .string]
def c03mOpt : Ty := .app (.enum "Option") [c03mPair]
def c03mSig : Sig :=
  { enums := [{ name := "Option", generics := ["T"], variants := [("None", []), ("Some", [.param "T"])] }],
    structs := [{ name := "P", generics := [], fields := [("a", .int 32 true), ("b", .string)] }],
    gen := realGen }
def c03mUse (xs : List String) : Expr :=
  .call .unit (.var "show" (.func [] .unit)) (xs.map (fun x => .var x .unit))

/-- `match o { Some((n, s)) => show(n, s, k), None => (), _ => show(k) }` as the compiler sees it
    (locals `hint/index`) -/
def c03mArms : List (ArmIn Expr) :=
  [⟨.constr (.enum "Option" "Some" 1) [.tuple [.var "n/1" (.int 32 true), .var "s/2" .string] c03mPair] c03mOpt,
      c03mUse ["n/1", "s/2", "k/0"], .unit⟩,
   ⟨.constr (.enum "Option" "None" 0) [] c03mOpt, .prim .unit, .unit⟩,
   ⟨.wild c03mOpt, c03mUse ["k/0"], .unit⟩]
/-- names bound around the match: the runtime function, a global, two locals -/
def c03mΓ : List String := ["missing", "show", "k/0", "o/3"]

/-- the hypotheses hold for the match on the variable `o/3` … -/
example : presHypMatch c03mSig c03mΓ c03mOpt "mtmp0" (.var "o/3") c03mArms = true := by decide +kernel

/-- … so the theorem applies: whatever `compileMatch` emits is closed under `c03mΓ` … -/
example (e : Expr) (n' : Nat)
    (hc : compileMatch c03mSig 30 .unit "mtmp0" 0 (.var "o/3") c03mArms = some (.ok (e, n'))) :
    closedE c03mΓ e = true :=
  compileMatch_closed c03mSig rfl 30 .unit "mtmp0" 0 _ _ e n' c03mΓ c03mOpt hc (by decide +kernel)

def c03mOut (r : Option (M (Expr × Nat))) (Γ : List String) : Option Bool :=
  match r with
  | some (.ok (e, _)) => some (closedE Γ e)
  | _ => none

/-- … and it does emit something (a switch with `get`/`proj` temporaries `x0`, `x1`, `x2`), closed by
    evaluation too -/
example : c03mOut (compileMatch c03mSig 30 .unit "mtmp0" 0 (.var "o/3") c03mArms) c03mΓ = some true := by
  decide +kernel

/-- the scrutinee variable must be bound around the match: without `o/3`, which the root `switch` reads, the tree is
    not well-scoped -/
example : (match compileRows c03mSig 30 .unit 0 (makeRows "o/3" c03mArms) with
    | some (.ok (t, _)) => t.fvOk fvE c03mΓ && !(t.fvOk fvE ["missing", "show", "k/0"])
    | _ => false) = true := by decide +kernel

/-- a scrutinee that is not a variable: bound once to `mtmp0`, the scrutinee expression closed -/
example : presHypMatch c03mSig c03mΓ c03mOpt "mtmp0" (.other (c03mUse ["o/3"])) c03mArms = true ∧
    c03mOut (compileMatch c03mSig 30 .unit "mtmp0" 0 (.other (c03mUse ["o/3"])) c03mArms) c03mΓ = some true := by
  decide +kernel

/-- hypothesis (b) is needed: an arm body that uses `z/9`, which is neither bound around the match
    nor a variable of the arm's pattern, is reported (`presHypMatch` fails) and the output is open -/
def c03mArmsOpen : List (ArmIn Expr) :=
  [⟨.constr (.enum "Option" "Some" 1) [.tuple [.var "n/1" (.int 32 true), .var "s/2" .string] c03mPair] c03mOpt,
      c03mUse ["n/1", "z/9"], .unit⟩,
   ⟨.wild c03mOpt, c03mUse ["k/0"], .unit⟩]
example : presHypMatch c03mSig c03mΓ c03mOpt "mtmp0" (.var "o/3") c03mArmsOpen = false ∧
    c03mOut (compileMatch c03mSig 30 .unit "mtmp0" 0 (.var "o/3") c03mArmsOpen) c03mΓ = some false := by
  decide +kernel

/-- a pattern variable of ANOTHER arm does not help: `s/2` is bound only on the path to arm 1 -/
def c03mArmsCross : List (ArmIn Expr) :=
  [⟨.constr (.enum "Option" "Some" 1) [.tuple [.var "n/1" (.int 32 true), .var "s/2" .string] c03mPair] c03mOpt,
      c03mUse ["n/1"], .unit⟩,
   ⟨.wild c03mOpt, c03mUse ["s/2"], .unit⟩]
example : presHypMatch c03mSig c03mΓ c03mOpt "mtmp0" (.var "o/3") c03mArmsCross = false ∧
    c03mOut (compileMatch c03mSig 30 .unit "mtmp0" 0 (.var "o/3") c03mArmsCross) c03mΓ = some false := by
  decide +kernel

/-- the arity part of `Pat.wfAt` is needed: `Some(a, b)` on the one-field variant — the match compiler
    `zip`s one temporary with two argument patterns, `b/2` is dropped silently and the body that uses
    it is left open; `presHypMatch` reports the arm -/
def c03mArmsArity : List (ArmIn Expr) :=
  [⟨.constr (.enum "Option" "Some" 1) [.var "a/1" c03mPair, .var "b/2" c03mPair] c03mOpt,
      c03mUse ["a/1", "b/2"], .unit⟩,
   ⟨.wild c03mOpt, .prim .unit, .unit⟩]
example : presHypMatch c03mSig c03mΓ c03mOpt "mtmp0" (.var "o/3") c03mArmsArity = false ∧
    c03mOut (compileMatch c03mSig 30 .unit "mtmp0" 0 (.var "o/3") c03mArmsArity) c03mΓ = some false := by
  decide +kernel

/-- destructuring `let P { a: x, b: _ } = mk(); show(x, k)` -/
def c03mLetPat : Pat := .constr (.struct "P") [.var "x/4" (.int 32 true), .wild .string] (.struct "P")
example : presHypLet c03mSig c03mΓ "mtmp7" (c03mUse []) c03mLetPat (c03mUse ["x/4", "k/0"]) .unit = true ∧
    c03mOut (compileLet c03mSig 30 .unit "mtmp7" 0 (c03mUse []) c03mLetPat (c03mUse ["x/4", "k/0"]) .unit)
      c03mΓ = some true := by
  decide +kernel

example (out : Expr) (n' : Nat)
    (hc : compileLet c03mSig 30 .unit "mtmp7" 0 (c03mUse []) c03mLetPat (c03mUse ["x/4", "k/0"]) .unit
      = some (.ok (out, n'))) : closedE c03mΓ out = true :=
  compileLet_closed c03mSig rfl 30 .unit "mtmp7" 0 _ _ _ _ out n' c03mΓ hc (by decide +kernel)

/-- the generic-body form on the matrix of corpus program 007 (seven arms over `Expr`, bodies are arm
    numbers, no free variables) -/
example (t : DT Nat) (n' : Nat)
    (hc : compileRows sig007 (measure rows007 + 1) .unit 0 rows007 = some (.ok (t, n'))) :
    t.fvOk (fun _ => []) ["a/0"] = true :=
  matchc_preserves_closed_tree sig007 rfl (fun _ => []) _ .unit 0 rows007 t n' ["a/0"] [("a/0", tyE)] hc
    (by decide +kernel) (by decide +kernel)

end Examples

end Goml.Match
