import GomlVerif.Model.Grammar
/-! Invariants of the grammar interpreter (`Model/Grammar.lean`) that hold for every statement and
every grammar function: the token list is never touched, the cursor never moves back and never
passes the end, and every step of the cursor is matched by an `Advance` in the output. -/
namespace Goml.Grammar

mutual
def advs : Item → Nat
  | .adv => 1
  | .err _ => 0
  | .node _ ch => advsL ch
  | .wrap _ first mid rest => advs first + advsL mid + advsL rest
def advsL : List Item → Nat
  | [] => 0
  | i :: is => advs i + advsL is
end

theorem advsL_append (a b : List Item) : advsL (a ++ b) = advsL a + advsL b := by
  induction a with
  | nil => simp [advsL]
  | cons x xs ih => simp [advsL, ih]; omega

theorem advsL_take_drop (l : List Item) (j : Nat) : advsL (l.take j) + advsL (l.drop j) = advsL l := by
  rw [← advsL_append, List.take_append_drop]

theorem advsL_wrapAt (out : List Item) (j k : Nat) (rest : List Item) :
    advsL (wrapAt out j k rest) = advsL out + advsL rest := by
  unfold wrapAt
  have h := advsL_take_drop out j
  split
  · rename_i first mid hd
    rw [hd] at h
    simp only [advsL_append, advsL, advs] at h ⊢
    omega
  · simp [advsL_append, advsL, advs]

/-- what every step preserves, relative to the state `s` it started from: tokens untouched, cursor
monotone and inside the text, and `#Advance` grows at least as much as the cursor -/
structure StepInv (s s' : PS) : Prop where
  toks : s'.toks = s.toks
  mono : s.pos ≤ s'.pos
  bound : s.pos ≤ s.toks.length → s'.pos ≤ s.toks.length
  adv : advsL s.out + (s'.pos - s.pos) ≤ advsL s'.out
  /-- as long as the cursor has not reached the end: exactly one `Advance` per token consumed -/
  exact : s'.isEof = false → advsL s'.out = advsL s.out + (s'.pos - s.pos)

theorem StepInv.refl (s : PS) : StepInv s s := ⟨rfl, Nat.le_refl _, id, by omega, fun _ => by omega⟩

theorem StepInv.trans {a b c : PS} (h1 : StepInv a b) (h2 : StepInv b c) : StepInv a c := by
  refine ⟨h2.toks.trans h1.toks, Nat.le_trans h1.mono h2.mono, ?_, ?_, ?_⟩
  · intro h; have := h1.bound h; have := h2.bound (by rw [h1.toks]; exact this); rw [h1.toks] at this; exact this
  · have := h1.adv; have := h2.adv; have := h1.mono; have := h2.mono; omega
  · intro hc
    have hb : b.isEof = false := by
      simp only [PS.isEof, decide_eq_false_iff_not, Nat.not_le] at hc ⊢
      have := h2.mono; have := congrArg List.length h2.toks; omega
    have := h1.exact hb; have := h2.exact hc; have := h1.mono; have := h2.mono; omega

/-- a step that only changes registers (`out`, `pos`, `toks` kept) -/
theorem StepInv.of_eq {s s' : PS} (ht : s'.toks = s.toks) (hp : s'.pos = s.pos) (ho : s'.out = s.out) : StepInv s s' :=
  ⟨ht, by omega, by intro h; omega, by rw [ho, hp]; omega, fun _ => by rw [ho, hp]; omega⟩

theorem look_inv (s : PS) (n : Nat) : StepInv s (look s n).2 := by
  unfold look; split <;> exact StepInv.of_eq rfl rfl rfl
theorem look_inv_of {s s2 : PS} {n c : Nat} (h : look s n = (c, s2)) : StepInv s s2 := by
  have := look_inv s n; rwa [h] at this

/-- `advance` and `advance_with_error`: the cursor moves by at most one token and the item pushed holds one `Advance` -/
theorem bump_emit_inv (s : PS) (i : Item) (hi : advs i = 1) : StepInv s (emit (bump s) i) := by
  refine ⟨rfl, ?_, ?_, ?_, ?_⟩ <;> simp only [emit, bump, advsL_append, advsL, hi]
  · split <;> omega
  · intro h; split <;> omega
  · split <;> omega
  · simp only [PS.isEof, decide_eq_false_iff_not, Nat.not_le]
    intro h; split at h <;> split <;> omega

theorem doAdvance_inv (s : PS) : StepInv s (doAdvance s) := bump_emit_inv s _ rfl

theorem doAdvErr_inv (s : PS) (m : String) : StepInv s (doAdvErr s m) := bump_emit_inv s _ rfl

theorem emit_inv (s : PS) (m : String) : StepInv s (emit s (.err m)) :=
  ⟨rfl, Nat.le_refl _, id, by simp [emit, advsL_append], fun _ => by simp [emit, advsL_append, advsL, advs]⟩

/-- `expect` ends in one of three ways: the token is there and is consumed; it is not, and what the second look
shows is kept (end of input, or a token of the recovery set); or that token is skipped inside an error node -/
theorem expectK_cases (P : PS → Prop) (s : PS) (k : Nat)
    (h1 : (look s 0).1 = k → P (doAdvance (look s 0).2))
    (h2 : ∀ m, P (emit (look (look s 0).2 0).2 (.err m)))
    (h3 : (look (look s 0).2 0).1 ≠ Gen.Gram.T_Eof → ∀ m, P (doAdvErr (look (look s 0).2 0).2 m)) :
    P (expectK s k) := by
  unfold expectK
  simp only
  split
  · exact h1 ‹_›
  · split
    · exact h2 _
    · exact h3 (fun h => ‹¬ _› (Or.inl h)) _

theorem expectK_inv (s : PS) (k : Nat) : StepInv s (expectK s k) :=
  expectK_cases (StepInv s) s k (fun _ => (look_inv s 0).trans (doAdvance_inv _))
    (fun _ => ((look_inv s 0).trans (look_inv _ 0)).trans (emit_inv _ _))
    (fun _ _ => ((look_inv s 0).trans (look_inv _ 0)).trans (doAdvErr_inv _ _))

/-- a body run inside a fresh `out`, closed by `f` which keeps the `Advance` count -/
theorem node_inv {s s1 : PS} {f : List Item → List Item} (h : StepInv { s with out := [] } s1)
    (hf : advsL (f s1.out) = advsL s.out + advsL s1.out) (s2 : PS)
    (h2t : s2.toks = s1.toks) (h2p : s2.pos = s1.pos) (h2o : s2.out = f s1.out) : StepInv s s2 := by
  refine ⟨h2t.trans h.toks, by rw [h2p]; exact h.mono, by intro hb; rw [h2p]; exact h.bound hb, ?_, ?_⟩
  · have := h.adv
    simp only [advsL] at this
    rw [h2o, hf, h2p]
    have hm := h.mono
    simp only at hm this
    omega
  · intro he
    have he1 : s1.isEof = false := by
      simp only [PS.isEof, h2t, h2p] at he ⊢; exact he
    have := h.exact he1
    simp only [advsL] at this
    rw [h2o, hf, h2p]
    omega

theorem execS_inv (callF : Fn → PS → PS) (hc : ∀ f s, StepInv s (callF f s)) :
    ∀ (st : Stmt) (s : PS), StepInv s (execS callF st s) := by
  intro st s
  induction st, s using execS.induct_unfolding callF
  case case1 s => exact .refl s
  case case2 iha ihb => exact iha.trans ihb
  case case3 s => exact doAdvance_inv s
  case case4 m s => exact emit_inv s m
  case case5 s | case6 s => exact doAdvErr_inv s _
  case case7 k s => exact expectK_inv s k
  -- `eat`, hit
  case case8 h _ => exact (look_inv_of h).trans ((doAdvance_inv _).trans (.of_eq rfl rfl rfl))
  -- `ifAt`, `ifAtAny`
  case case10 h ih | case11 h _ ih | case12 h _ ih | case13 h _ ih => exact (look_inv_of h).trans ih
  -- `eat` missing, `peek`, `nth`, `nthIdx`
  case case9 h _ | case16 h | case17 h | case18 h => exact (look_inv_of h).trans (.of_eq rfl rfl rfl)
  -- `ifEof`, `ifCur`, `ifRet`, `ifIdxZero`
  case case14 ih | case15 ih | case19 ih | case20 ih | case21 ih | case22 ih | case27 ih | case28 ih => exact ih
  -- `node`, `nodeReg`, `wrap`
  case case29 k b s _ ih =>
    exact node_inv (f := fun o => s.out ++ [.node k o]) ih (by simp [advsL_append, advsL, advs]) _ rfl rfl rfl
  case case30 b s _ ih =>
    exact node_inv (f := fun o => s.out ++ [.node (execS callF b { s with out := [] }).kd o]) ih
      (by simp [advsL_append, advsL, advs]) _ rfl rfl rfl
  case case33 k b s _ ih =>
    exact node_inv (f := fun o => wrapAt s.out s.mark k o) ih (advsL_wrapAt _ _ _ _) _ rfl rfl rfl
  case case34 s _ => exact .refl s
  case case35 f s _ => exact hc f s
  -- `setRet`, `setIdx`, `incIdx`, `decIdx`, `setKind`, `markLast`
  all_goals exact StepInv.of_eq rfl rfl rfl

theorem run_inv : ∀ (n : Nat) (f : Fn) (s : PS), StepInv s (run n f s) := by
  intro n
  induction n with
  | zero => intro f s; exact StepInv.of_eq rfl rfl rfl
  | succ n ih =>
    intro f s
    have h1 : StepInv s { s with trace := s.trace ||| (1 <<< f.id) } := StepInv.of_eq rfl rfl rfl
    exact h1.trans (execS_inv (run n) ih (body f) _)

end Goml.Grammar
