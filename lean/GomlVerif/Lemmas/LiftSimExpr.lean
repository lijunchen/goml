import GomlVerif.Lemmas.LiftSimProof
/-! C08: the simulation step for each expression form (fuel `n + 1`, given `SimAt n`) -/
namespace Goml.Lift
open Goml Goml.Sem

section
variable {P P' : Prog}

theorem sim_var (n : Nat) (x : String) (t : Ty) : ExprSim P P' (n + 1) (.var x t) := by
  intro e' Γ S T ρ ρ' w w' s hs hρ hw _
  obtain ⟨t', rfl, hx⟩ := simE_var_inv hs
  rw [eval_var]
  refine ⟨.ok (valOf ρ' x) w', ev_step.2 rfl, ?_⟩
  rcases hx with ⟨hS, hT, rfl⟩ | ⟨hS, hT, hgl, rfl⟩
  · exact ⟨(hρ.rel x hS hT).1, (hρ.rel x hS hT).2, hw⟩
  · show ResRel P P' _ (.ok (valOf ρ x) w) _
    rw [valOf_of_none (hρ.src x hS), valOf_of_none (hρ.tgt x hT)]
    exact ⟨VRel.fn_of_globalOk hgl, HasShape.any _, hw⟩

theorem sim_prim (n : Nat) (p : Prim) : ExprSim P P' (n + 1) (.prim p) := by
  intro e' Γ S T ρ ρ' w w' s hs _ hw _
  obtain ⟨q, rfl, hpq, rfl⟩ := simE_prim_inv hs
  have := primEq_eq hpq
  subst this
  rw [eval_prim]
  exact ⟨.ok (primVal p) w', ev_step.2 rfl, VRel_primVal p, HasShape.any _, hw⟩

theorem sim_tag (n : Nat) (i : Nat) (t : Ty) : ExprSim P P' (n + 1) (.tag i t) := by
  intro e' Γ S T ρ ρ' w w' s hs _ hw _
  obtain ⟨t', rfl, hk, rfl⟩ := simE_tag_inv hs
  rw [eval_tag, hk]
  exact ⟨.ok (.enumV (tagTyName t') i []) w', ev_step.2 rfl,
    VRel.enumV .nil, HasShape.any _, hw⟩

theorem fieldsOk_hasShape {n : String} : ∀ (ss : List Shape) (j : Nat) (vs' : List Val),
    fieldsOk P' n j ss = true → HasShapes ss vs' →
    ∀ i v', vs'[i]? = some v' → HasShape (fieldShape P' n (j + i)) v' := by
  intro ss
  induction ss with
  | nil =>
    intro j vs' _ hv i v' hi
    simp only [HasShapes] at hv; subst hv; simp at hi
  | cons a ss ih =>
    intro j vs' hf hv i v' hi
    simp only [fieldsOk, Bool.and_eq_true] at hf
    simp only [HasShapes] at hv
    obtain ⟨v0, rest, rfl, hhead, htail⟩ := hv
    cases i with
    | zero =>
      simp at hi; subst hi
      exact HasShape.mono _ _ _ hf.1 hhead
    | succ i =>
      have := ih (j + 1) rest hf.2 htail i v' (by simpa using hi)
      simpa [Nat.add_assoc, Nat.add_comm 1 i] using this

theorem sim_constr {n : Nat} (ih : SimAt P P' n) (c : Ctor) (t : Ty) (args : List Expr) :
    ExprSim P P' (n + 1) (.constr c t args) := by
  intro e' Γ S T ρ ρ' w w' s hs hρ hw hg
  obtain ⟨t', args', ss, rfl, hl, hc⟩ := simE_constr_inv hs
  rw [eval_constr] at hg ⊢
  refine sim_seq (fun _ => ev_constr.2) (ResRel.failClosed s) ResRelL.fail_inv ResRelL.ok_inv (ih.list hl hρ hw) ?_ hg
  intro vs vs' w1 w1' hvs hss hw1 _ _
  rcases hc with ⟨sn, rfl, hf, rfl⟩ | ⟨a, b, i, rfl, rfl⟩
  · refine ⟨.ok (.structV sn vs') w1', rfl, ?_⟩
    refine ⟨VRel.structV hvs ?_, ⟨vs', rfl⟩, hw1⟩
    intro i v' hi
    simpa using fieldsOk_hasShape ss 0 vs' hf hss i v' hi
  · exact ⟨.ok (.enumV a i vs') w1', rfl, VRel.enumV hvs, HasShape.any _, hw1⟩

theorem sim_tuple {n : Nat} (ih : SimAt P P' n) (t : Ty) (items : List Expr) :
    ExprSim P P' (n + 1) (.tuple t items) := by
  intro e' Γ S T ρ ρ' w w' s hs hρ hw hg
  obtain ⟨t', items', ss, rfl, hl, rfl⟩ := simE_tuple_inv hs
  rw [eval_tuple] at hg ⊢
  refine sim_seq (fun _ => ev_tuple.2) (ResRel.failClosed _) ResRelL.fail_inv ResRelL.ok_inv (ih.list hl hρ hw) ?_ hg
  intro vs vs' w1 w1' hvs hss hw1 _ _
  exact ⟨.ok (.tuple vs') w1', rfl, VRel.tuple hvs, ⟨vs', rfl, hss⟩, hw1⟩

theorem sim_array {n : Nat} (ih : SimAt P P' n) (t : Ty) (items : List Expr) :
    ExprSim P P' (n + 1) (.array t items) := by
  intro e' Γ S T ρ ρ' w w' s hs hρ hw hg
  obtain ⟨t', items', ss, rfl, hl, rfl⟩ := simE_array_inv hs
  rw [eval_array] at hg ⊢
  refine sim_seq (fun _ => ev_array.2) (ResRel.failClosed _) ResRelL.fail_inv ResRelL.ok_inv (ih.list hl hρ hw) ?_ hg
  intro vs vs' w1 w1' hvs _ hw1 _ _
  exact ⟨.ok (.array vs') w1', rfl, VRel.array hvs, HasShape.any _, hw1⟩

theorem sim_letE {n : Nat} (ih : SimAt P P' n) (x : String) (v b : Expr) :
    ExprSim P P' (n + 1) (.letE x v b) := by
  intro e' Γ S T ρ ρ' w w' s hs hρ hw hg
  obtain ⟨v', b', s1, rfl, hval, hbody⟩ := simE_letE_inv hs
  rw [eval_letE] at hg ⊢
  refine sim_seq (fun _ => ev_letE.2) (ResRel.failClosed _) ResRel.fail_inv ResRel.ok_inv (ih.expr hval hρ hw) ?_ hg
  intro vv vv' w1 w1' hv hsv hw1 _ hgK
  exact ih.expr hbody (hρ.cons hv hsv) hw1 hgK

theorem sim_matchE {n : Nat} (ih : SimAt P P' n) (t : Ty) (scrut : Expr) (arms : List Arm) (d : Option Expr) :
    ExprSim P P' (n + 1) (.matchE t scrut arms d) := by
  intro e' Γ S T ρ ρ' w w' s hs hρ hw hg
  obtain ⟨t', scrut', arms', d', s1, rfl, hscrut, harms, hdflt, rfl⟩ := simE_matchE_inv hs
  rw [eval_matchE] at hg ⊢
  refine sim_seq (fun _ => ev_matchE.2) (ResRel.failClosed _) ResRel.fail_inv ResRel.ok_inv (ih.expr hscrut hρ hw) ?_ hg
  intro v v' w1 w1' hv _ hw1 _ hgK
  exact ih.arms harms hdflt hρ hw1 hv hgK

theorem ResRel.mono_shape {s s2 : Shape} {r r' : Res Val} (h : ∀ v', HasShape s v' → HasShape s2 v')
    (hr : ResRel P P' s r r') : ResRel P P' s2 r r' := by
  cases r with
  | ok v w => obtain ⟨v', w', rfl, hv, hs, hw⟩ := hr.ok_inv; exact ⟨hv, h _ hs, hw⟩
  | fail f w => obtain ⟨w', rfl, hw⟩ := hr.fail_inv; exact ⟨rfl, hw⟩

theorem ResRel.weaken {s : Shape} {r r' : Res Val} (h : ResRel P P' s r r') : ResRel P P' .any r r' :=
  h.mono_shape fun _ _ => HasShape.any _

theorem sim_ite {n : Nat} (ih : SimAt P P' n) (c t e : Expr) : ExprSim P P' (n + 1) (.ite c t e) := by
  intro e' Γ S T ρ ρ' w w' s hs hρ hw hg
  obtain ⟨c', t', e2', s1, s2, s3, rfl, hcond, hthen, helse, rfl⟩ := simE_ite_inv hs
  rw [eval_ite] at hg ⊢
  refine sim_seq (fun _ => ev_ite.2) (ResRel.failClosed _) ResRel.fail_inv ResRel.ok_inv (ih.expr hcond hρ hw) ?_ hg
  intro v v' w1 w1' hv _ hw1 _ hgK
  cases hv with
  | bool b =>
    cases b with
    | true =>
      obtain ⟨r', hst, hr⟩ := ih.expr hthen hρ hw1 hgK
      exact ⟨r', hst, ResRel.weaken hr⟩
    | false =>
      obtain ⟨r', hst, hr⟩ := ih.expr helse hρ hw1 hgK
      exact ⟨r', hst, ResRel.weaken hr⟩
  | _ => exact absurd hgK not_good_stuck

theorem sim_while {n : Nat} (ih : SimAt P P' n) (c b : Expr) : ExprSim P P' (n + 1) (.while c b) := by
  intro e' Γ S T ρ ρ' w w' s hs hρ hw hg
  obtain ⟨c', b', s1, s2, rfl, hcond, hbody, rfl⟩ := simE_while_inv hs
  rw [eval_while] at hg ⊢
  refine sim_seq (fun _ => ev_while.2) (ResRel.failClosed _) ResRel.fail_inv ResRel.ok_inv (ih.expr hcond hρ hw) ?_ hg
  intro v v' w1 w1' hv _ hw1 _ hgK
  cases hv with
  | bool bb =>
    cases bb with
    | true =>
      refine sim_seq (fun _ h => h) (ResRel.failClosed _) ResRel.fail_inv ResRel.ok_inv (ih.expr hbody hρ hw1) ?_ hgK
      intro _ _ w2 w2' _ _ hw2 _ hgK2
      exact ih.expr hs hρ hw2 hgK2
    | false => exact ⟨.ok .unit w1', rfl, VRel.unit, HasShape.any _, hw1⟩
  | _ => exact absurd hgK not_good_stuck

theorem sim_un {n : Nat} (ih : SimAt P P' n) (op : UnOp) (t : Ty) (e : Expr) : ExprSim P P' (n + 1) (.un op t e) := by
  intro e' Γ S T ρ ρ' w w' s hs hρ hw hg
  obtain ⟨t', e2', s1, rfl, harg, rfl⟩ := simE_un_inv hs
  rw [eval_un] at hg ⊢
  refine sim_seq (fun _ => ev_un.2) (ResRel.failClosed _) ResRel.fail_inv ResRel.ok_inv (ih.expr harg hρ hw) ?_ hg
  intro v v' w1 w1' hv _ hw1 _ _
  exact ⟨_, rfl, .of_resRel (respects.unopRes op hv (wrel_iff.1 hw1))⟩

theorem sim_toDyn {n : Nat} (ih : SimAt P P' n) (tr : String) (forTy t : Ty) (e : Expr) :
    ExprSim P P' (n + 1) (.toDyn tr forTy t e) := by
  intro e' Γ S T ρ ρ' w w' s hs hρ hw hg
  obtain ⟨forTy', t', e2', s1, rfl, hk, harg, rfl⟩ := simE_toDyn_inv hs
  rw [eval_toDyn] at hg ⊢
  refine sim_seq (fun _ => ev_toDyn.2) (ResRel.failClosed _) ResRel.fail_inv ResRel.ok_inv (ih.expr harg hρ hw) ?_ hg
  intro v v' w1 w1' hv _ hw1 _ _
  exact ⟨_, rfl, by rw [hk]; exact VRel.dyn hv, HasShape.any _, hw1⟩

theorem sim_proj {n : Nat} (ih : SimAt P P' n) (i : Nat) (t : Ty) (e : Expr) : ExprSim P P' (n + 1) (.proj i t e) := by
  intro e' Γ S T ρ ρ' w w' s hs hρ hw hg
  obtain ⟨t', e2', s1, rfl, harg, rfl⟩ := simE_proj_inv hs
  rw [eval_proj] at hg ⊢
  refine sim_seq (fun _ => ev_proj.2) (ResRel.failClosed _) ResRel.fail_inv ResRel.ok_inv (ih.expr harg hρ hw) ?_ hg
  intro v v' w1 w1' hv hsv hw1 _ hgK
  cases hv with
  | tuple hvs =>
    rcases VRelList.get hvs i with ⟨hnone, _⟩ | ⟨x, x', hsrc, htgt, hx⟩
    · simp only [hnone] at hgK; exact absurd hgK not_good_stuck
    · refine ⟨_, rfl, ?_⟩
      simp only [hsrc, projRes, htgt]
      exact ⟨hx, HasShape.proj hsv htgt, hw1⟩
  | _ => exact absurd hgK not_good_stuck

/-- a field read from a value of shape `s`: only a struct known by name promises anything, namely
    what its own fields promise (`hfs`, from `VRel.structV`) -/
theorem HasShape.cget {c : Ctor} {i : Nat} {s : Shape} {v' x' : Val} (hsv : HasShape s v')
    (hfs : ∀ n vs', v' = .structV n vs' → HasShape (fieldShape P' n i) x') : HasShape (cgetShape P' c i s) x' := by
  unfold cgetShape
  split
  · obtain ⟨vs', rfl⟩ := hsv
    split
    · rename_i hnm
      rw [beq_iff_eq] at hnm
      subst hnm
      exact hfs _ _ rfl
    · exact HasShape.any _
  · exact HasShape.any _

theorem sim_cget {n : Nat} (ih : SimAt P P' n) (c : Ctor) (i : Nat) (t : Ty) (e : Expr) :
    ExprSim P P' (n + 1) (.cget c i t e) := by
  intro e' Γ S T ρ ρ' w w' s hs hρ hw hg
  obtain ⟨t', e2', s1, rfl, harg, rfl⟩ := simE_cget_inv hs
  rw [eval_cget] at hg ⊢
  refine sim_seq (fun _ => ev_cget.2) (ResRel.failClosed _) ResRel.fail_inv ResRel.ok_inv (ih.expr harg hρ hw) ?_ hg
  intro v v' w1 w1' hv hsv hw1 _ hgK
  cases hv with
  | enumV hvs =>
    rcases VRelList.get hvs i with ⟨hnone, _⟩ | ⟨x, x', hsrc, htgt, hx⟩
    · simp only [hnone] at hgK; exact absurd hgK not_good_stuck
    · refine ⟨_, rfl, ?_⟩
      simp only [hsrc, cgetRes, htgt]
      exact ⟨hx, HasShape.cget hsv (fun _ _ h => nomatch h), hw1⟩
  | structV hvs hfs =>
    rcases VRelList.get hvs i with ⟨hnone, _⟩ | ⟨x, x', hsrc, htgt, hx⟩
    · simp only [hnone] at hgK; exact absurd hgK not_good_stuck
    · refine ⟨_, rfl, ?_⟩
      simp only [hsrc, cgetRes, htgt]
      exact ⟨hx, HasShape.cget hsv (fun _ _ h => by cases h; exact hfs i x' htgt), hw1⟩
  | _ => exact absurd hgK not_good_stuck

theorem sim_bin {n : Nat} (ih : SimAt P P' n) (op : BinOp) (t : Ty) (l r : Expr) :
    ExprSim P P' (n + 1) (.bin op t l r) := by
  intro e' Γ S T ρ ρ' w w' s hs hρ hw hg
  obtain ⟨t', l', r', s1, s2, rfl, hlhs, hrhs, rfl⟩ := simE_bin_inv hs
  rw [eval_bin] at hg ⊢
  refine sim_seq (fun _ => (ev_step (e := .bin op t' l' r')).2) (ResRel.failClosed _) ResRel.fail_inv ResRel.ok_inv (ih.expr hlhs hρ hw) ?_ hg
  intro a a' w1 w1' ha _ hw1 _ hgK
  -- only `&&` and `||` look at the left operand, and only at whether it is a boolean and which
  simp only [← respects.scAnd op ha, ← respects.scOr op ha, ← respects.logicalNonBool op ha]
  by_cases hA : scAnd op a = true
  · simp only [hA, if_true] at hgK ⊢
    exact ⟨_, rfl, VRel.bool false, HasShape.any _, hw1⟩
  · by_cases hO : scOr op a = true
    · simp only [hA, hO, if_true] at hgK ⊢
      exact ⟨_, rfl, VRel.bool true, HasShape.any _, hw1⟩
    · simp only [hA, hO] at hgK ⊢
      by_cases hL : logicalNonBool op a = true
      · simp only [hL, if_true] at hgK; exact absurd hgK not_good_stuck
      simp only [hL] at hgK ⊢
      refine sim_seq (fun _ h => h) (ResRel.failClosed _) ResRel.fail_inv ResRel.ok_inv (ih.expr hrhs hρ hw1) ?_ hgK
      intro b b' w2 w2' hb _ hw2 _ _
      exact ⟨_, rfl, .of_resRel (respects.binopRes op ha hb (wrel_iff.1 hw2))⟩

theorem varNames_cons_inv {e : Expr} {es : List Expr} {ys : List String} (h : varNames? (e :: es) = some ys) :
    ∃ y t ys0, e = .var y t ∧ ys = y :: ys0 ∧ varNames? es = some ys0 := by
  unfold varNames? at h
  split at h
  · rename_i y ys0 h1 h2
    simp only [Option.some.injEq] at h
    cases e <;> simp only [varName?] at h1 <;> try (cases h1; done)
    rename_i x t
    simp only [Option.some.injEq] at h1
    subst h1
    exact ⟨x, t, ys0, rfl, h.symm, h2⟩
  · cases h

/-- the fields of an environment struct are variables: they evaluate to their values, whatever the fuel -/
theorem evL_vars (ρ' : Sem.Env) (w' : World) : ∀ (args' : List Expr) (ys : List String),
    varNames? args' = some ys → EvL P' args' ρ' w' (.ok (ys.map (valOf ρ')) w')
  | [], ys, h => by cases h; exact evL_step.2 rfl
  | e :: es, ys, h => by
    obtain ⟨y, t, ys0, rfl, rfl, h0⟩ := varNames_cons_inv h
    exact evL_step.2 (Or.inr ⟨_, w', ev_step.2 rfl, Or.inr ⟨_, w', evL_vars ρ' w' es ys0 h0, rfl⟩⟩)

theorem CapRel_of_envRel {Γ : SEnv} {S T : List String} {ρ ρ' : Sem.Env} (hρ : EnvRel P P' Γ S T ρ ρ') :
    ∀ (ys : List String), (∀ y, y ∈ ys → y ∈ S ∧ y ∈ T) → CapRel P P' Γ ρ ys (ys.map (valOf ρ')) := by
  intro ys
  induction ys with
  | nil => intro _; exact .nil
  | cons y ys ih =>
    intro h
    have hy := h y List.mem_cons_self
    exact .cons (hρ.rel y hy.1 hy.2).1 (hρ.rel y hy.1 hy.2).2 (ih (fun z hz => h z (List.mem_cons_of_mem _ hz)))

theorem sim_closure (n : Nat) (t : Ty) (ps : List (String × Ty)) (body : Expr) :
    ExprSim P P' (n + 1) (.closure t ps body) := by
  intro e' Γ S T ρ ρ' w w' s hs hρ hw _
  obtain ⟨n0, t', args', ys, envp, body', fn, s0, rfl, hys, hf, hp, hu, hY, hPs, henv, hb, rfl⟩ :=
    simE_closure_inv hs
  rw [eval_closure]
  refine ⟨.ok (.structV n0 (ys.map (valOf ρ'))) w', ev_step.2 (Or.inr ⟨_, w', evL_vars ρ' w' args' ys hys, rfl⟩), ?_⟩
  refine ⟨?_, ⟨_, rfl⟩, hw⟩
  exact VRel.closure hf hp hu hb (fun y hy => ⟨(hY y hy).1, (hY y hy).2.2.1, (hY y hy).2.2.2⟩) hPs henv hρ.src
    (CapRel_of_envRel hρ ys (fun y hy => ⟨(hY y hy).1, (hY y hy).2.1⟩))

theorem sim_go {n : Nat} (ih : SimAt P P' n) (e : Expr) : ExprSim P P' (n + 1) (.go e) := by
  intro e' Γ S T ρ ρ' w w' s hs hρ hw hg
  obtain ⟨e2', s1, rfl, harg, rfl⟩ := simE_go_inv hs
  rw [eval_go] at hg ⊢
  refine sim_seq (fun _ => ev_go.2) (ResRel.failClosed _) ResRel.fail_inv ResRel.ok_inv (ih.expr harg hρ hw) ?_ hg
  intro v v' w1 w1' hv _ hw1 _ hgK
  unfold goK
  by_cases he : w1.eager = true
  · have he' : w1'.eager = true := hw1.eager ▸ he
    rw [if_pos he] at hgK ⊢
    simp only [if_pos he']
    refine sim_seq (fun _ h => h) (ResRel.failClosed _) ResRel.fail_inv ResRel.ok_inv (ih.app hv .nil hw1) ?_ hgK
    intro _ _ w2 w2' _ _ hw2 _ _
    exact ⟨_, rfl, VRel.unit, HasShape.any _, hw2⟩
  · have he' : ¬ w1'.eager = true := hw1.eager ▸ he
    rw [if_neg he] at hgK ⊢
    simp only [if_neg he']
    exact ⟨_, rfl, VRel.unit, HasShape.any _, hw1.with_spawned hv⟩

theorem callShape_of_applyShape {Γ : SEnv} {S T : List String} {ρ ρ' : Sem.Env} (hρ : EnvRel P P' Γ S T ρ ρ')
    {f' : Expr} {fv' : Val} {w' w1' : World} (hev : Ev P' f' ρ' w' (.ok fv' w1'))
    {v' : Val} (h : HasShape (applyShape P P' fv') v') : HasShape (callShape P P' T f') v' := by
  cases f' with
  | var g tg =>
    simp only [callShape]
    split
    · exact HasShape.any _
    · rename_i hT
      have hT : g ∉ T := by simpa using hT
      have hfv : fv' = .fn g := by
        have := ev_var.1 hev
        simp only [Res.ok.injEq] at this
        rw [this.1, lookupVal_eq, hρ.tgt g hT]; rfl
      subst hfv
      exact h
  | _ => exact HasShape.any _

theorem applyFnName_eq (n0 : String) : applyFnName n0 = "inherent#" ++ n0 ++ "#" ++ n0 ++ "#apply" := by
  unfold applyFnName Consts.inherentPrefix Consts.inherentSep Consts.applyMethod
  simp only [String.append_assoc]
  rfl

theorem apply_applyFn {n0 : String} {fn : Fn} (hf : P'.findFn (applyFnName n0) = some fn) (m : Nat) (w : World)
    (cvs vs : List Val) :
    apply (m + 1) P' w (.fn (applyFnName n0)) (.structV n0 cvs :: vs) = apply (m + 1) P' w (.structV n0 cvs) vs := by
  rw [apply_fn, apply_structV, ← applyFnName_eq, hf]

theorem app_applyFn {n0 : String} {fn : Fn} (hf : P'.findFn (applyFnName n0) = some fn) {w : World} {cvs vs : List Val}
    {r : Res Val} (h : App P' w (.structV n0 cvs) vs r) : App P' w (.fn (applyFnName n0)) (.structV n0 cvs :: vs) r := by
  obtain ⟨m, hm, hn⟩ := h
  cases m with
  | zero => simp only [apply_zero] at hm; subst hm; exact hn.elim
  | succ m => exact ⟨m + 1, by simp only [apply_applyFn hf]; exact hm, hn⟩

theorem sim_call {n : Nat} (ih : SimAt P P' n) (t : Ty) (f : Expr) (args : List Expr) :
    ExprSim P P' (n + 1) (.call t f args) := by
  intro e' Γ S T ρ ρ' w w' s hs hρ hw hg
  obtain ⟨t', f', args', rfl, hcase⟩ := simE_call_inv hs
  rcases hcase with ⟨s1, ss, hcallee, hargs, rfl⟩ | ⟨x, tx, tg, tx', rest, n0, ss, rfl, rfl, rfl, hΓ, hS, hT, hgS, hgT, hl, rfl⟩
  · -- ordinary call
    rw [eval_call] at hg ⊢
    refine sim_seq (fun _ => ev_call.2) (ResRel.failClosed _) ResRel.fail_inv ResRel.ok_inv (ih.expr hcallee hρ hw) ?_ hg
    intro fv fv' w1 w1' hfv _ hw1 hev hgK
    refine sim_seq (fun _ h => h) (ResRel.failClosed _) ResRelL.fail_inv ResRelL.ok_inv (ih.list hargs hρ hw1) ?_ hgK
    intro vs vs' w2 w2' hvs _ hw2 _ hgK2
    obtain ⟨r', hst, hr⟩ := ih.app hfv hvs hw2 hgK2
    exact ⟨r', hst, ResRel.mono_shape (fun v' hv' => callShape_of_applyShape hρ hev hv') hr⟩
  · -- `x(args)` rewritten into a call of the apply function with `x` as first argument
    rw [eval_call] at hg ⊢
    -- the source spends one more unit on the callee `x`; with none left it is out of fuel
    cases n with
    | zero => rw [eval_zero] at hg; exact absurd hg not_good_fuel
    | succ n1 =>
      rw [eval_var, Res.andThen_ok] at hg ⊢
      obtain ⟨hvx, hsx⟩ := hρ.rel x hS hT
      rw [hΓ] at hsx
      obtain ⟨cvs, hcv⟩ := hsx
      have hg' : Ev P' (.var (applyFnName n0) tg) ρ' w' (.ok (.fn (applyFnName n0)) w') :=
        ev_var.2 (by rw [lookupVal_eq, hρ.tgt _ hgT]; rfl)
      have hx' : Ev P' (.var x tx') ρ' w' (.ok (.structV n0 cvs) w') := ev_var.2 (by rw [lookupVal_eq, ← hcv]; rfl)
      refine sim_seq (K' := fun vs' w1' => App P' w1' (.fn (applyFnName n0)) (.structV n0 cvs :: vs')) (fun r' h => ?_)
        (ResRel.failClosed _) ResRelL.fail_inv ResRelL.ok_inv (ih.list hl hρ hw) ?_ hg
      · refine ev_call.2 (Or.inr ⟨_, w', hg', ?_⟩)
        rcases h with ⟨fl, w1', he, rfl⟩ | ⟨vs', w1', he, hk⟩
        · exact Or.inl ⟨fl, w1', evL_cons.2 (Or.inr ⟨_, w', hx', Or.inl ⟨fl, w1', he, rfl⟩⟩), rfl⟩
        · exact Or.inr ⟨_, w1', evL_cons.2 (Or.inr ⟨_, w', hx', Or.inr ⟨vs', w1', he, rfl⟩⟩), hk⟩
      · intro vs vs' w1 w1' hvs _ hw1 _ hgK
        obtain ⟨r', happ, hr'⟩ := ih.app hvx hvs hw1 hgK
        rw [hcv] at happ
        cases hfind : P'.findFn (applyFnName n0) with
        | some fn => exact ⟨r', app_applyFn hfind happ, ResRel.weaken hr'⟩
        | none =>
          -- the apply function exists, else the lifted call would be stuck while the source is not
          exfalso
          obtain ⟨m, hm, hnf⟩ := happ
          cases m with
          | zero => simp only [apply_zero] at hm; subst hm; exact hnf
          | succ m =>
            simp only [apply_structV, ← applyFnName_eq, hfind] at hm
            subst hm
            replace hgK : Good (apply (n1 + 1) P w1 (valOf ρ x) vs) := hgK
            cases hq : apply (n1 + 1) P w1 (valOf ρ x) vs with
            | ok v w2 => rw [hq] at hr'; exact hr'
            | fail fl w2 =>
              rw [hq] at hr' hgK
              simp only [ResRel] at hr'
              rw [hr'.1] at hgK
              exact not_good_stuck hgK

theorem sim_dynCall (hp : ProgRel P P') {n : Nat} (ih : SimAt P P' n) (tr mth : String) (t : Ty) (recv : Expr)
    (args : List Expr) : ExprSim P P' (n + 1) (.dynCall tr mth t recv args) := by
  intro e' Γ S T ρ ρ' w w' s hs hρ hw hg
  obtain ⟨t', recv', args', s1, ss, rfl, hrecv, hargs, rfl⟩ := simE_dynCall_inv hs
  rw [eval_dynCall] at hg ⊢
  refine sim_seq (fun _ => ev_dynCall.2) (ResRel.failClosed _) ResRel.fail_inv ResRel.ok_inv (ih.expr hrecv hρ hw) ?_ hg
  intro rv rv' w1 w1' hrv _ hw1 _ hgK
  cases hrv with
  | @dyn tr0 key v v' hv =>
    simp only at hgK ⊢
    refine sim_seq (fun _ h => h) (ResRel.failClosed _) ResRelL.fail_inv ResRelL.ok_inv (ih.list hargs hρ hw1) ?_ hgK
    intro vs vs' w2 w2' hvs _ hw2 _ hgK2
    unfold dynDispatch
    rw [← hp.impls]
    cases hfind : P.impls.find? (fun i => i.1 == tr && i.2.1 == key && i.2.2.1 == mth) with
    | none => simp only [hfind] at hgK2; exact absurd hgK2 not_good_stuck
    | some i =>
      simp only [hfind] at hgK2 ⊢
      have hi : i ∈ P.impls := List.mem_of_find?_eq_some hfind
      obtain ⟨r', hst, hr⟩ := ih.app (VRel.fn_of_globalOk (hp.implsOk i hi)) (.cons hv hvs) hw2 hgK2
      exact ⟨r', hst, ResRel.weaken hr⟩
  | _ => exact absurd hgK not_good_stuck

theorem sim_expr_succ (hp : ProgRel P P') {n : Nat} (ih : SimAt P P' n) (e : Expr) : ExprSim P P' (n + 1) e := by
  cases e with
  | var x t => exact sim_var n x t
  | prim p => exact sim_prim n p
  | tag i t => exact sim_tag n i t
  | constr c t args => exact sim_constr ih c t args
  | tuple t items => exact sim_tuple ih t items
  | array t items => exact sim_array ih t items
  | closure t ps body => exact sim_closure n t ps body
  | letE x v b => exact sim_letE ih x v b
  | matchE t s arms d => exact sim_matchE ih t s arms d
  | ite c t e => exact sim_ite ih c t e
  | «while» c b => exact sim_while ih c b
  | go e => exact sim_go ih e
  | cget c i t e => exact sim_cget ih c i t e
  | un op t e => exact sim_un ih op t e
  | bin op t l r => exact sim_bin ih op t l r
  | call t f args => exact sim_call ih t f args
  | toDyn tr ft t e => exact sim_toDyn ih tr ft t e
  | dynCall tr m t r args => exact sim_dynCall hp ih tr m t r args
  | traitCall tr m t r args => intro e' Γ S T ρ ρ' w w' s hs; exact (simE_traitCall_inv hs).elim
  | proj i t e => exact sim_proj ih i t e

end
end Goml.Lift
