import GomlVerif.Model.Match
import GomlVerif.Lemmas.LiftSemUnfold
/-!
The decision-tree semantics `DT.eval` is what `Sem.eval`
does on `DT.toExpr`, with exact fuel accounting (`DT.cost` = number of nested `Sem.eval` calls on
the path to the leaf).
-/
namespace Goml.Match
open Goml Goml.Sem

def bindR {α γ : Type} (r : Res α) (k : α → World → Res γ) : Res γ :=
  match r with
  | .fail e w => .fail e w
  | .ok a w => k a w

theorem eval_letE (f : Nat) (P : Prog) (ρ : Env) (w : World) (x : String) (v b : Expr) :
    Sem.eval (f + 1) P ρ w (.letE x v b) =
      bindR (Sem.eval f P ρ w v) (fun vv w => Sem.eval f P ((x, vv) :: ρ) w b) := by
  rw [Sem.eval]; cases Sem.eval f P ρ w v <;> rfl

theorem eval_var (f : Nat) (P : Prog) (ρ : Env) (w : World) (x : String) (t : Ty) :
    Sem.eval (f + 1) P ρ w (.var x t) = .ok (lookupVar ρ x) w :=
  Sem.eval_var f P ρ w x t

theorem eval_matchE_var (f : Nat) (P : Prog) (ρ : Env) (w : World) (ty vt : Ty) (v : String)
    (arms : List Arm) (d : Option Expr) :
    Sem.eval (f + 2) P ρ w (.matchE ty (.var v vt) arms d) =
      Sem.evalArms (f + 1) P ρ w (lookupVar ρ v) arms d := by
  rw [Sem.eval, eval_var]

theorem eval_proj_var (f : Nat) (P : Prog) (ρ : Env) (w : World) (i : Nat) (t vt : Ty) (v : String) :
    Sem.eval (f + 2) P ρ w (.proj i t (.var v vt)) =
      (match lookupVar ρ v with
       | .tuple vs =>
         (match vs[i]? with
          | some u => .ok u w
          | none => .fail (.stuck "tuple index out of range") w)
       | _ => .fail (.stuck "projection from a non-tuple") w) := by
  rw [Sem.eval, eval_var]
  cases lookupVar ρ v <;> rfl

theorem eval_cget_var (f : Nat) (P : Prog) (ρ : Env) (w : World) (c : Ctor) (i : Nat) (t vt : Ty) (v : String) :
    Sem.eval (f + 2) P ρ w (.cget c i t (.var v vt)) =
      (match lookupVar ρ v with
       | .enumV _ _ args =>
         (match args[i]? with
          | some u => .ok u w
          | none => .fail (.stuck "constructor field out of range") w)
       | .structV _ fs =>
         (match fs[i]? with
          | some u => .ok u w
          | none => .fail (.stuck "struct field out of range") w)
       | _ => .fail (.stuck "field access on a non-constructor value") w) := by
  rw [Sem.eval, eval_var]
  cases lookupVar ρ v <;> rfl

theorem eval_missing (f : Nat) (P : Prog) (ρ : Env) (w : World) (ty : Ty) (hP : P.findFn "missing" = none)
    (hρ : lookupEnv ρ "missing" = none) :
    Sem.eval (f + 3) P ρ w (emissing ty) = .fail (.panic "missing") w := by
  simp only [emissing]
  rw [Sem.eval, eval_var]
  simp only [lookupVar, hρ, Option.getD]
  have e1 : Sem.evalList (f + 2) P ρ w [.prim (.str "")] = .ok [.str ""] w := by
    rw [Sem.evalList.eq_def]
    simp only
    rw [Sem.eval]
    simp only [primVal]
    rw [Sem.evalList.eq_def]
  rw [e1]
  simp only
  rw [Sem.apply, hP]
  rfl

mutual
def DT.cost : DT Expr → Env → Nat
  | .leaf binds _, _ => binds.length
  | .missing _, _ => 1
  | .letProj x i _ v _ rest, ρ =>
    match lookupVar ρ v with
    | .tuple vs =>
      match vs[i]? with
      | some u => 1 + rest.cost ((x, u) :: ρ)
      | none => 1
    | _ => 1
  | .letGet x _ i _ v _ rest, ρ =>
    match lookupVar ρ v with
    | .enumV _ _ args =>
      match args[i]? with
      | some u => 1 + rest.cost ((x, u) :: ρ)
      | none => 1
    | .structV _ fs =>
      match fs[i]? with
      | some u => 1 + rest.cost ((x, u) :: ρ)
      | none => 1
    | _ => 1
  | .switch _ v _ cases, ρ => 1 + cases.cost (lookupVar ρ v) ρ
def Cases.cost : Cases Expr → Val → Env → Nat
  | .nil, _, _ => 0
  | .dflt t, _, ρ => 1 + t.cost ρ
  | .cons h t rest, v, ρ => 1 + (if armMatches h.toExpr v then t.cost ρ else rest.cost v ρ)
end

/- `noBind y t`: no `letProj`/`letGet` of the tree binds `y` -/
mutual
def DT.noBind (y : String) : DT Expr → Bool
  | .leaf _ _ => true
  | .missing _ => true
  | .letProj x _ _ _ _ rest => x != y && rest.noBind y
  | .letGet x _ _ _ _ _ rest => x != y && rest.noBind y
  | .switch _ _ _ cases => cases.noBind y
def Cases.noBind (y : String) : Cases Expr → Bool
  | .nil => true
  | .dflt t => t.noBind y
  | .cons _ t rest => t.noBind y && rest.noBind y
end

/-- what happens after the tree: the selected body runs with the fuel that is left -/
def cont (P : Prog) (w : World) (f : Nat) : Leaf Expr → Res Val
  | .body b ρ' => Sem.eval f P ρ' w b
  | .missing => .fail (.panic "missing") w
  | .stuck why => .fail (.stuck why) w

theorem wrapBinds_sem (P : Prog) (w : World) (b : Expr) : ∀ (binds : List Bind) (ρ : Env) (f : Nat), 1 ≤ f →
    Sem.eval (f + binds.length) P ρ w (wrapBinds binds b) = Sem.eval f P (bindSeq binds ρ) w b := by
  intro binds
  induction binds with
  | nil => intro ρ f _; rfl
  | cons x xs ih =>
    intro ρ f hf
    simp only [wrapBinds, bindSeq, List.length_cons]
    have e : f + (xs.length + 1) = (f + xs.length) + 1 := by omega
    rw [e, eval_letE]
    obtain ⟨g, hg⟩ : ∃ g, f + xs.length = g + 1 := ⟨f + xs.length - 1, by omega⟩
    rw [hg, eval_var, ← hg]
    simp only [bindR]
    exact ih _ f hf

/-- `let x = e in b` where `e` (a field read of a variable) yields `u` without touching the world: one unit of
    fuel is spent and `b` runs with `x` bound -/
theorem eval_let_ok {P : Prog} {ρ : Env} {w : World} {x : String} {e b : Expr} {u : Val} {f : Nat} (hf : 2 ≤ f)
    (he : ∀ g, Sem.eval (g + 2) P ρ w e = .ok u w) (c : Nat) :
    Sem.eval (f + (1 + c)) P ρ w (.letE x e b) = Sem.eval (f + c) P ((x, u) :: ρ) w b := by
  obtain ⟨g, hg⟩ : ∃ g, f + c = g + 2 := ⟨f + c - 2, by omega⟩
  have e1 : f + (1 + c) = (g + 2) + 1 := by omega
  rw [e1, eval_letE, he, hg]
  rfl

theorem eval_let_fail {P : Prog} {ρ : Env} {w : World} {x : String} {e b : Expr} {err : Fail} {f : Nat} (hf : 2 ≤ f)
    (he : ∀ g, Sem.eval (g + 2) P ρ w e = .fail err w) :
    Sem.eval (f + 1) P ρ w (.letE x e b) = .fail err w := by
  obtain ⟨g, rfl⟩ : ∃ g, f = g + 2 := ⟨f - 2, by omega⟩
  rw [eval_letE, he]
  rfl

/-- `2 ≤ f`: a field read of a variable and the call of `missing` nest two `eval`s under the node that `cost` counts -/
theorem toExpr_sem (P : Prog) (hP : P.findFn "missing" = none) (w : World) (t : DT Expr) :
    ∀ (ρ : Env) (f : Nat), 2 ≤ f → t.noBind "missing" = true → lookupEnv ρ "missing" = none →
      Sem.eval (f + t.cost ρ) P ρ w t.toExpr = cont P w f (t.eval ρ) := by
  apply DT.rec
    (motive_1 := fun t => ∀ (ρ : Env) (f : Nat), 2 ≤ f → t.noBind "missing" = true →
      lookupEnv ρ "missing" = none →
      Sem.eval (f + t.cost ρ) P ρ w t.toExpr = cont P w f (t.eval ρ))
    (motive_2 := fun cs => ∀ (v : Val) (ρ : Env) (f : Nat), 2 ≤ f → cs.noBind "missing" = true →
      lookupEnv ρ "missing" = none →
      Sem.evalArms (f + cs.cost v ρ) P ρ w v cs.arms cs.dfltExpr = cont P w f (cs.eval v ρ))
  · -- leaf
    intro binds b ρ f hf _ _
    simp only [DT.cost, DT.toExpr, DT.eval, cont]
    exact wrapBinds_sem P w b binds ρ f (by omega)
  · -- missing
    intro ty ρ f hf _ hρ
    simp only [DT.cost, DT.toExpr, DT.eval, cont]
    obtain ⟨g, rfl⟩ : ∃ g, f = g + 2 := ⟨f - 2, by omega⟩
    exact eval_missing g P ρ w ty hP hρ
  · -- letProj
    intro x i ty v vty rest ih ρ f hf hnb hρ
    simp only [DT.noBind, Bool.and_eq_true] at hnb
    simp only [DT.cost, DT.toExpr, DT.eval]
    cases hv : lookupVar ρ v with
    | tuple vs =>
      simp only
      cases hu : vs[i]? with
      | some u =>
        simp only
        rw [eval_let_ok (u := u) hf (fun g => by rw [eval_proj_var, hv]; simp only [hu])]
        exact ih _ f hf hnb.2 (by rw [lookupEnv_cons_ne _ _ (by simpa using hnb.1)]; exact hρ)
      | none => exact eval_let_fail hf (fun g => by rw [eval_proj_var, hv]; simp only [hu])
    | _ => exact eval_let_fail hf (fun g => by rw [eval_proj_var, hv])
  · -- letGet
    intro x c i ty v vty rest ih ρ f hf hnb hρ
    simp only [DT.noBind, Bool.and_eq_true] at hnb
    simp only [DT.cost, DT.toExpr, DT.eval]
    cases hv : lookupVar ρ v with
    | enumV tn idx args =>
      simp only
      cases hu : args[i]? with
      | some u =>
        simp only
        rw [eval_let_ok (u := u) hf (fun g => by rw [eval_cget_var, hv]; simp only [hu])]
        exact ih _ f hf hnb.2 (by rw [lookupEnv_cons_ne _ _ (by simpa using hnb.1)]; exact hρ)
      | none => exact eval_let_fail hf (fun g => by rw [eval_cget_var, hv]; simp only [hu])
    | structV tn fs =>
      simp only
      cases hu : fs[i]? with
      | some u =>
        simp only
        rw [eval_let_ok (u := u) hf (fun g => by rw [eval_cget_var, hv]; simp only [hu])]
        exact ih _ f hf hnb.2 (by rw [lookupEnv_cons_ne _ _ (by simpa using hnb.1)]; exact hρ)
      | none => exact eval_let_fail hf (fun g => by rw [eval_cget_var, hv]; simp only [hu])
    | _ => exact eval_let_fail hf (fun g => by rw [eval_cget_var, hv])
  · -- switch
    intro ty v vty cases ih ρ f hf hnb hρ
    simp only [DT.noBind] at hnb
    simp only [DT.cost, DT.toExpr, DT.eval]
    obtain ⟨g, hg⟩ : ∃ g, f + cases.cost (lookupVar ρ v) ρ = g + 1 :=
      ⟨f + cases.cost (lookupVar ρ v) ρ - 1, by omega⟩
    have e : f + (1 + cases.cost (lookupVar ρ v) ρ) = g + 2 := by omega
    rw [e, eval_matchE_var, ← hg]
    exact ih _ ρ f hf hnb hρ
  · -- nil
    intro v ρ f hf _ _
    simp only [Cases.cost, Cases.arms, Cases.dfltExpr, Cases.eval, cont]
    obtain ⟨g, rfl⟩ : ∃ g, f = g + 1 := ⟨f - 1, by omega⟩
    exact evalArms_nil_at g P ρ w v none
  · -- dflt
    intro t ih v ρ f hf hnb hρ
    simp only [Cases.noBind] at hnb
    simp only [Cases.cost, Cases.arms, Cases.dfltExpr, Cases.eval]
    have e : f + (1 + t.cost ρ) = (f + t.cost ρ) + 1 := by omega
    rw [e, evalArms_nil_at]
    exact ih ρ f hf hnb hρ
  · -- cons
    intro h t rest iht ihr v ρ f hf hnb hρ
    simp only [Cases.noBind, Bool.and_eq_true] at hnb
    simp only [Cases.cost, Cases.arms, Cases.dfltExpr, Cases.eval]
    by_cases hm : armMatches h.toExpr v = true
    · simp only [hm, if_true]
      have e : f + (1 + t.cost ρ) = (f + t.cost ρ) + 1 := by omega
      rw [e, evalArms_cons_at]
      simp only [hm, if_true]
      exact iht ρ f hf hnb.1 hρ
    · have hm' : armMatches h.toExpr v = false := by simpa using hm
      simp only [hm', Bool.false_eq_true, if_false]
      have e : f + (1 + rest.cost v ρ) = (f + rest.cost v ρ) + 1 := by omega
      rw [e, evalArms_cons_at]
      simp only [hm', Bool.false_eq_true, if_false]
      exact ihr v ρ f hf hnb.2 hρ

end Goml.Match
