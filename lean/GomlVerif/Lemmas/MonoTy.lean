import GomlVerif.Model.Mono
import GomlVerif.Model.Closed
/-! Lemmas about types, substitutions and `unify` of `Model/Mono.lean` -/
namespace Goml.Mono
open Goml Goml.Closed

theorem tyBeq_iff : ∀ (a b : Ty), tyBeq a b = true ↔ a = b := by
  intro a
  apply Ty.rec
    (motive_1 := fun a => ∀ b, tyBeq a b = true ↔ a = b)
    (motive_2 := fun as => ∀ bs, tysBeq as bs = true ↔ as = bs)
  all_goals intros
  all_goals first | simp only [tyBeq] | simp only [tysBeq]
  -- `tyBeq a b` matches `b` against the constructor of `a`: the same constructor, or `false`
  all_goals split
  all_goals first
    | -- the branch for another constructor: `hne` says `b` is not of `a`'s form, which `a = b` contradicts
      (rename_i hne
       simp only [Bool.false_eq_true, false_iff]
       intro h
       subst h
       simp at hne
       done)
    | -- the same constructor: componentwise, by the induction hypotheses
      simp_all

theorem tysBeq_iff (as bs : List Ty) : tysBeq as bs = true ↔ as = bs := by
  induction as generalizing bs with
  | nil => cases bs <;> simp [tysBeq]
  | cons a as ih => cases bs <;> simp [tysBeq, tyBeq_iff, ih]

theorem tyBeq_refl (a : Ty) : tyBeq a a = true := (tyBeq_iff a a).2 rfl

/-- `σ'` agrees with `σ` wherever `σ` is defined -/
def Extends (σ σ' : Subst) : Prop := ∀ n v, lookup σ n = some v → lookup σ' n = some v

theorem Extends.refl (σ : Subst) : Extends σ σ := fun _ _ h => h
theorem Extends.trans {a b c : Subst} (h1 : Extends a b) (h2 : Extends b c) : Extends a c :=
  fun n v h => h2 n v (h1 n v h)

theorem lookup_append (a b : Subst) (n : String) :
    lookup (a ++ b) n = (lookup a n).orElse (fun _ => lookup b n) := by
  induction a with
  | nil => simp [lookup]
  | cons p a ih =>
    obtain ⟨k, v⟩ := p
    simp only [List.cons_append, lookup]
    by_cases h : (k == n) = true
    · simp [h]
    · simp [h, ih]

theorem lookup_mem {σ : Subst} {n : String} {v : Ty} (h : lookup σ n = some v) : (n, v) ∈ σ := by
  induction σ with
  | nil => simp [lookup] at h
  | cons p rest ih =>
    obtain ⟨k, w⟩ := p
    simp only [lookup] at h
    by_cases hk : (k == n) = true
    · simp only [hk, if_true, Option.some.injEq] at h
      have : k = n := by simpa using hk
      subst h this
      exact List.mem_cons_self
    · simp only [hk] at h
      exact List.mem_cons_of_mem _ (ih h)

/-- appending a binding never changes an existing one (`lookup` returns the first entry for a name) -/
theorem extends_append (σ : Subst) (n : String) (a : Ty) : Extends σ (σ ++ [(n, a)]) := by
  intro m v hm
  rw [lookup_append, hm]; rfl

/-! ### substitution with a closed, covering substitution leaves no type parameter -/

mutual
/-- type parameters occurring in a type -/
def fvT : Ty → List String
  | .param n => [n]
  | .tuple ts => fvTs ts
  | .app t args => fvT t ++ fvTs args
  | .array _ e => fvT e
  | .vec e => fvT e
  | .ref e => fvT e
  | .func ps r => fvTs ps ++ fvT r
  | _ => []
def fvTs : List Ty → List String
  | [] => []
  | t :: ts => fvT t ++ fvTs ts
end

/-- every value of the substitution is free of type parameters -/
def ClosedSubst (σ : Subst) : Prop := ∀ n v, lookup σ n = some v → noParam v = true

/-- `σ` binds every type parameter of `t` -/
def coversTy (σ : Subst) (t : Ty) : Bool := (fvT t).all fun x => (lookup σ x).isSome

theorem subst_closed_aux (σ : Subst) (hc : ClosedSubst σ) (t : Ty) :
    (∀ x ∈ fvT t, (lookup σ x).isSome = true) → noParam (substTy σ t) = true := by
  apply Ty.rec
    (motive_1 := fun t => (∀ x ∈ fvT t, (lookup σ x).isSome = true) → noParam (substTy σ t) = true)
    (motive_2 := fun ts => (∀ x ∈ fvTs ts, (lookup σ x).isSome = true) → noParams (substTys σ ts) = true)
  case param =>
    intro n h
    have := h n (by simp [fvT])
    cases hl : lookup σ n with
    | none => simp [hl] at this
    | some v => simp [substTy, hl, hc n v hl]
  case tuple => intro ts ih h; simpa [substTy, noParam] using ih (by simpa [fvT] using h)
  case app =>
    intro t ts ih1 ih2 h
    simp only [fvT, List.mem_append] at h
    simp [substTy, noParam, ih1 (fun x hx => h x (Or.inl hx)), ih2 (fun x hx => h x (Or.inr hx))]
  case array => intro n e ih h; simpa [substTy, noParam] using ih (by simpa [fvT] using h)
  case vec | ref => intro e ih h; simpa [substTy, noParam] using ih (by simpa [fvT] using h)
  case func =>
    intro ps r ih1 ih2 h
    simp only [fvT, List.mem_append] at h
    simp [substTy, noParam, ih1 (fun x hx => h x (Or.inl hx)), ih2 (fun x hx => h x (Or.inr hx))]
  case nil => intro _; simp [substTys, noParams]
  case cons =>
    intro t ts ih1 ih2 h
    simp only [fvTs, List.mem_append] at h
    simp [substTys, noParams, ih1 (fun x hx => h x (Or.inl hx)), ih2 (fun x hx => h x (Or.inr hx))]
  all_goals intros; simp [substTy, noParam]

theorem closedSubst_nil : ClosedSubst [] := by intro n v h; simp [lookup] at h

theorem isSome_of_extends {σ σ' : Subst} (h : Extends σ σ') {x : String} (hx : (lookup σ x).isSome = true) :
    (lookup σ' x).isSome = true := by
  cases hl : lookup σ x with
  | none => simp [hl] at hx
  | some v => simp [h x v hl]

/-- two unifications in a row: what the first bound stays bound after the second -/
theorem binds_append {σ1 σ' : Subst} {xs ys : List String} (e : Extends σ1 σ')
    (h1 : ∀ x ∈ xs, (lookup σ1 x).isSome = true) (h2 : ∀ x ∈ ys, (lookup σ' x).isSome = true) :
    ∀ x ∈ xs ++ ys, (lookup σ' x).isSome = true := by
  intro x hx
  rcases List.mem_append.1 hx with hx | hx
  · exact isSome_of_extends e (h1 x hx)
  · exact h2 x hx

/-- What a successful `unify t a σ = some σ'` gives: `σ'` only adds bindings to `σ` (`ext`), binds every parameter of the
template (`binds`), and, like every extension of it, instantiates the template to the actual type (`inst`).
`inst` speaks of every extension `σ''` because of sequencing: unifying a list threads the substitution on,
and the instance of an earlier component has to survive the bindings later components add. -/
structure UnifyOk (t a : Ty) (σ σ' : Subst) : Prop where
  ext : Extends σ σ'
  binds : ∀ x ∈ fvT t, (lookup σ' x).isSome = true
  inst : ∀ σ'', Extends σ' σ'' → substTy σ'' t = a

/-- `unifyList` stops at the shorter list, so what it binds and what it instantiates depends on the lengths -/
structure UnifyListOk (ts as : List Ty) (σ σ' : Subst) : Prop where
  ext : Extends σ σ'
  binds : ts.length ≤ as.length → ∀ x ∈ fvTs ts, (lookup σ' x).isSome = true
  inst : ∀ σ'', Extends σ' σ'' → ts.length = as.length → substTys σ'' ts = as

mutual
theorem unify_spec : ∀ (t a : Ty) (σ σ' : Subst), unify t a σ = some σ' → UnifyOk t a σ σ'
  | .param n, a, σ, σ', h => by
    simp only [unify] at h
    have key : Extends σ σ' ∧ lookup σ' n = some a := by
      cases hl : lookup σ n with
      | some prev =>
        simp only [hl] at h
        split at h
        · rename_i hb
          cases h
          exact ⟨Extends.refl _, (tyBeq_iff prev a).1 hb ▸ hl⟩
        · cases h
      | none =>
        simp only [hl, Option.some.injEq] at h
        subst h
        exact ⟨extends_append σ n a, by rw [lookup_append, hl]; simp [lookup]⟩
    exact ⟨key.1, by simp [fvT, key.2], fun σ'' hx => by simp [substTy, hx n a key.2]⟩
  | .unit, a, σ, σ', h | .bool, a, σ, σ', h | .string, a, σ, σ', h | .int .., a, σ, σ', h
  | .float _, a, σ, σ', h | .enum _, a, σ, σ', h | .struct _, a, σ, σ', h | .dyn _, a, σ, σ', h => by
    -- a leaf matches only itself and leaves the substitution as it is
    simp only [unify] at h; split at h <;> simp at h
    exact ⟨by simp [h, Extends.refl], by simp [fvT], fun σ'' _ => by simp [substTy, h]⟩
  | .tuple ts, a, σ, σ', h => by
    simp only [unify] at h; split at h <;> simp at h
    rename_i us
    have hts := unifyList_spec ts us σ σ' h.2
    exact ⟨hts.ext, by simpa only [fvT] using hts.binds (Nat.le_of_eq h.1),
      fun σ'' hx => by simp [substTy, hts.inst σ'' hx h.1]⟩
  | .app t ts, a, σ, σ', h => by
    simp only [unify] at h; split at h <;> simp at h
    rename_i u us
    obtain ⟨hl, h⟩ := h
    cases h1 : unify t u σ with
    | none => simp [h1] at h
    | some σ1 =>
      simp [h1] at h
      have ht := unify_spec t u σ σ1 h1
      have hts := unifyList_spec ts us σ1 σ' h
      refine ⟨ht.ext.trans hts.ext, ?_, fun σ'' hx => ?_⟩
      · simpa only [fvT] using binds_append hts.ext ht.binds (hts.binds (Nat.le_of_eq hl))
      · simp [substTy, ht.inst σ'' (hts.ext.trans hx), hts.inst σ'' hx hl]
  | .array n e, a, σ, σ', h => by
    simp only [unify] at h; split at h <;> simp at h
    have he := unify_spec e _ σ σ' h.2
    exact ⟨he.ext, by simpa only [fvT] using he.binds, fun σ'' hx => by simp [substTy, he.inst σ'' hx, h.1]⟩
  | .vec e, a, σ, σ', h | .ref e, a, σ, σ', h => by
    simp only [unify] at h; split at h; rotate_left; cases h
    have he := unify_spec e _ σ σ' h
    exact ⟨he.ext, by simpa only [fvT] using he.binds, fun σ'' hx => by simp [substTy, he.inst σ'' hx]⟩
  | .func ps r, a, σ, σ', h => by
    simp only [unify] at h; split at h <;> simp at h
    rename_i qs r'
    obtain ⟨hl, h⟩ := h
    cases h1 : unifyList ps qs σ with
    | none => simp [h1] at h
    | some σ1 =>
      simp [h1] at h
      have hps := unifyList_spec ps qs σ σ1 h1
      have hr := unify_spec r r' σ1 σ' h
      refine ⟨hps.ext.trans hr.ext, ?_, fun σ'' hx => ?_⟩
      · simpa only [fvT] using binds_append hr.ext (hps.binds (Nat.le_of_eq hl)) hr.binds
      · simp [substTy, hps.inst σ'' (hr.ext.trans hx) hl, hr.inst σ'' hx]
  | .tvar _, a, σ, σ', h => by simp [unify] at h
termination_by structural t => t
theorem unifyList_spec : ∀ (ts as : List Ty) (σ σ' : Subst), unifyList ts as σ = some σ' → UnifyListOk ts as σ σ'
  | [], as, σ, σ', h => by
    simp [unifyList] at h
    subst h
    refine ⟨Extends.refl _, fun _ x hx => by simp [fvTs] at hx, fun σ'' _ hl => ?_⟩
    cases as <;> simp_all [substTys]
  | t :: ts, [], σ, σ', h => by
    simp [unifyList] at h
    subst h
    exact ⟨Extends.refl _, fun hl => by simp at hl, fun σ'' _ hl => by simp at hl⟩
  | t :: ts, a :: as, σ, σ', h => by
    simp only [unifyList] at h
    cases h1 : unify t a σ with
    | none => simp [h1] at h
    | some σ1 =>
      simp [h1] at h
      have ht := unify_spec t a σ σ1 h1
      have hts := unifyList_spec ts as σ1 σ' h
      refine ⟨ht.ext.trans hts.ext, fun hl => ?_, fun σ'' hx hl => ?_⟩
      · simpa only [fvTs] using binds_append hts.ext ht.binds (hts.binds (Nat.le_of_succ_le_succ hl))
      · simp at hl
        simp [substTys, ht.inst σ'' (hts.ext.trans hx), hts.inst σ'' hx hl]
termination_by structural ts => ts
end

end Goml.Mono
