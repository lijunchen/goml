import GomlVerif.Model.Alpha
import GomlVerif.Lemmas.ListFacts
/-! Lemmas for C14: `Sem.run` does not depend on the order of the functions; names, scopes and environments
under a renaming of bound variables. -/
namespace Goml.Alpha
open Goml Goml.Sem

/-- `eval` sees the program only through `findFn` and `impls` -/
theorem eval_congr (P P' : Prog) (hf : ∀ n, P.findFn n = P'.findFn n) (hi : P.impls = P'.impls) :
    ∀ fuel, (∀ ρ w e, eval fuel P ρ w e = eval fuel P' ρ w e) ∧
      (∀ ρ w es, evalList fuel P ρ w es = evalList fuel P' ρ w es) ∧
      (∀ ρ w v arms d, evalArms fuel P ρ w v arms d = evalArms fuel P' ρ w v arms d) ∧
      (∀ w f args, apply fuel P w f args = apply fuel P' w f args) := by
  intro fuel
  induction fuel with
  | zero => simp [eval, evalList, evalArms, apply]
  | succ n ih =>
    obtain ⟨ih1, ih2, ih3, ih4⟩ := ih
    refine ⟨?_, ?_, ?_, ?_⟩
    · intro ρ w e
      cases e <;> simp only [eval, ih1, ih2, ih3, ih4, hi]
    · intro ρ w es
      cases es <;> simp only [evalList, ih1, ih2]
    · intro ρ w v arms d
      cases arms with
      | nil => simp only [evalArms, ih1]
      | cons a as => cases a; simp only [evalArms, ih1, ih3]
    · intro w f args
      cases f <;> simp only [apply, ih1, hf]

theorem run_perm (P : Prog) (fns' : List Fn) (hp : P.fns.Perm fns') (hd : (P.fns.map (·.name)).Nodup)
    (fuel : Nat) (entry : String) (eager : Bool) :
    run fuel { P with fns := fns' } entry eager = run fuel P entry eager := by
  have hf : ∀ n, ({ P with fns := fns' } : Prog).findFn n = P.findFn n := by
    intro n; simp only [Prog.findFn]; exact (find?_key_perm hp hd n).symm
  have := (eval_congr { P with fns := fns' } P hf rfl fuel).2.2.2 { eager := eager } (.fn entry) []
  simp only [run, this]

/-- every name bound in `ρ` is in `N` -/
def EnvIn (N : List String) (ρ : Env) : Prop := ∀ p ∈ ρ, N.contains p.1 = true

theorem envIn_cons {N : List String} {ρ : Env} {x : String} {v : Val} (hx : N.contains x = true) (h : EnvIn N ρ) :
    EnvIn N ((x, v) :: ρ) := by
  intro p hp
  rcases List.mem_cons.1 hp with rfl | hp
  · exact hx
  · exact h p hp

theorem injOn_apply {σ : String → String} {N : List String} (h : injOn σ N = true) {a b : String}
    (ha : N.contains a = true) (hb : N.contains b = true) (e : σ a = σ b) : a = b := by
  simp only [injOn, List.all_eq_true, Bool.or_eq_true, bne_iff_ne, beq_iff_eq] at h
  rcases h a (List.contains_iff_mem.mp ha) b (List.contains_iff_mem.mp hb) with h | h
  · exact absurd e h
  · exact h

/-- `σ` renames `x` -/
def moved (σ : String → String) (x : String) : Bool := σ x != x

theorem lookup_none_dom {ρ : Env} {x : String} (h : lookupEnv ρ x = none) : (ρ.map (·.1)).contains x = false := by
  unfold lookupEnv at h
  have hf : ρ.find? (fun p => p.1 == x) = none := by
    split at h
    · cases h
    · assumption
  simpa using find?_key_eq_none.mp hf

theorem findFn_renP (σs : String → String → String) (P : Prog) (n : String) :
    (renP σs P).findFn n = (P.findFn n).map fun f => renFn (σs f.name) f := by
  simp only [Prog.findFn, renP, List.find?_map]
  congr

/-- the hypotheses of the renaming theorem; `Ns f` = the names function `f` mentions. All decidable. -/
structure Hyp (σs : String → String → String) (Ns : String → List String) (P : Prog) : Prop where
  inj : ∀ f ∈ P.fns, injOn (σs f.name) (Ns f.name) = true
  names : ∀ f ∈ P.fns, inE (Ns f.name) f.body = true ∧ (f.params.all fun p => (Ns f.name).contains p.1) = true
  cf : cfP P = true
  sc : ∀ f ∈ P.fns, scE (moved (σs f.name)) [] f.body = true

theorem dom_renParams (σ : String → String) (ps : List (String × Ty)) :
    (ps.map fun p => (σ p.1, p.2)).map (·.1) = (ps.map (·.1)).map σ := by
  simp [List.map_map, Function.comp]

theorem dom_bind : ∀ (ps : List String) (args : List Val) (ρ : Env), ps.length ≤ args.length →
    ∀ x, (ps ++ ρ.map (·.1)).contains x = true → ((bindParams ps args ρ).map (·.1)).contains x = true
  | [], _, _, _, x, h => by simpa [bindParams] using h
  | p :: ps, [], _, hl, _, _ => by simp at hl
  | p :: ps, a :: as, ρ, hl, x, h => by
    simp only [bindParams]
    apply dom_bind ps as ((p, a) :: ρ) (by simpa using hl) x
    simp only [List.cons_append, List.contains_cons, List.map_cons, List.contains_append, Bool.or_eq_true] at h ⊢
    rcases h with h | h | h
    · exact Or.inr (Or.inl h)
    · exact Or.inl h
    · exact Or.inr (Or.inr h)

/-- every binder in scope `B` is bound in `ρ` -/
def DomOk (B : List String) (ρ : Env) : Prop := ∀ x, B.contains x = true → (ρ.map (·.1)).contains x = true

theorem domOk_cons {B : List String} {ρ : Env} (h : DomOk B ρ) (x : String) (v : Val) : DomOk (x :: B) ((x, v) :: ρ) := by
  intro y hy
  simp only [List.contains_cons, Bool.or_eq_true, List.map_cons] at hy ⊢
  rcases hy with hy | hy
  · exact Or.inl hy
  · exact Or.inr (h y hy)

theorem envIn_bind (N : List String) : ∀ (ps : List String) (args : List Val) (ρ : Env),
    (∀ q ∈ ps, N.contains q = true) → EnvIn N ρ → EnvIn N (bindParams ps args ρ)
  | [], _, _, _, h => by simpa [bindParams] using h
  | _ :: _, [], _, _, h => by simpa [bindParams] using h
  | p :: ps, a :: as, ρ, hps, h => by
    simp only [bindParams]
    exact envIn_bind N ps as ((p, a) :: ρ) (fun q hq => hps q (List.mem_cons_of_mem _ hq))
      (envIn_cons (hps p List.mem_cons_self) h)

end Goml.Alpha
