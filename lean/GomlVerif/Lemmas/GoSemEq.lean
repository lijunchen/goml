import GomlVerif.Model.GoSem
/-!
`Go.Sem` (`Model/GoSem.lean`) one node at a time, in sequencing form.  The nine interpreter functions consume the result
of a recursive call in one way only: a failure is passed on, a success continues (`GRes.bind`).  For every kind of node
one equation gives the function at fuel `n + 1` as `bind` over the calls at fuel `n`; where the rest of a row inspects
the values it got, that rest has a name.  A property of the interpreter is proved from these equations and one lemma
about `bind`; only the leaf expressions and what `callG` does with a builtin or an arity mismatch are read off the
definitions.
-/
namespace Goml.Go
open Goml.Sem (Fail wrap)

def GRes.bind {α β : Type} (r : GRes α) (k : α → GWorld → GRes β) : GRes β :=
  match r with
  | .fail f w => .fail f w
  | .ok a w => k a w

@[simp] theorem GRes.bind_ok {α β : Type} (a : α) (w : GWorld) (k : α → GWorld → GRes β) :
    (GRes.ok a w).bind k = k a w := rfl
@[simp] theorem GRes.bind_fail {α β : Type} (f : Fail) (w : GWorld) (k : α → GWorld → GRes β) :
    (GRes.fail (α := α) f w).bind k = .fail f w := rfl

theorem GRes.bind_eq_ok {α β : Type} {r : GRes α} {k : α → GWorld → GRes β} {b : β} {w' : GWorld}
    (h : r.bind k = .ok b w') : ∃ a w1, r = .ok a w1 ∧ k a w1 = .ok b w' := by
  cases r with
  | fail f w => cases h
  | ok a w => exact ⟨a, w, rfl, h⟩

theorem GRes.bind_congr {α β : Type} {r r' : GRes α} {k k' : α → GWorld → GRes β} (hr : r = r')
    (hk : ∀ a w, k a w = k' a w) : r.bind k = r'.bind k' := by
  subst hr; cases r <;> first | rfl | exact hk _ _

def isLeafG : GExpr → Bool
  | .nil _ | .voidv _ | .unitv _ | .var _ _ | .bool _ | .int _ _ | .float _ _ | .str _ => true
  | _ => false

theorem evalG_leaf {e : GExpr} (h : isLeafG e = true) (n m : Nat) (F F' : GFile) (ρ : GEnv) (w : GWorld) :
    evalG (n+1) F ρ w e = evalG (m+1) F' ρ w e := by
  cases e <;> first
    | (cases h; done)
    | (rw [evalG.eq_def, evalG.eq_def])

variable (n : Nat) (F : GFile) (ρ : GEnv) (w : GWorld)

theorem evalG_zero (e : GExpr) : evalG 0 F ρ w e = .fail .fuel w := by rw [evalG.eq_def]
theorem evalListG_zero (es : List GExpr) : evalListG 0 F ρ w es = .fail .fuel w := by rw [evalListG.eq_def]
theorem evalFieldsG_zero (fs : List GField) : evalFieldsG 0 F ρ w fs = .fail .fuel w := by rw [evalFieldsG.eq_def]
theorem callG_zero (f : GVal) (args : List GVal) : callG 0 F w f args = .fail .fuel w := by rw [callG.eq_def]
theorem execBlockG_zero (ss : List GStmt) : execBlockG 0 F ρ w ss = .fail .fuel w := by rw [execBlockG.eq_def]
theorem nestedG_zero (ss : List GStmt) : nestedG 0 F ρ w ss = .fail .fuel w := by rw [nestedG.eq_def]
theorem execG_zero (s : GStmt) : execG 0 F ρ w s = .fail .fuel w := by rw [execG.eq_def]
theorem switchG_zero (v : GVal) (cs : List GCase) (d : Option (List GStmt)) :
    switchG 0 F ρ w v cs d = .fail .fuel w := by rw [switchG.eq_def]
theorem tswitchG_zero (v : GVal) (cs : List GTCase) (d : Option (List GStmt)) :
    tswitchG 0 F ρ w v cs d = .fail .fuel w := by rw [tswitchG.eq_def]

theorem evalG_var (x : String) (t : GTy) :
    evalG (n+1) F ρ w (.var x t) = match lookupG ρ x with | some v => .ok v w | none => .ok (.func x) w := by
  rw [evalG.eq_def]; simp only; cases lookupG ρ x <;> rfl

theorem evalG_call (t : GTy) (f : GExpr) (args : List GExpr) :
    evalG (n+1) F ρ w (.call t f args) =
      (evalG n F ρ w f).bind fun fv w => (evalListG n F ρ w args).bind fun vs w => callG n F w fv vs := by
  rw [evalG.eq_def]; simp only
  cases evalG n F ρ w f with
  | fail f w1 => rfl
  | ok v w1 => simp only [GRes.bind_ok]; cases evalListG n F ρ w1 args <;> rfl

def unTail (op : GUn) (v : GVal) (w : GWorld) : GRes GVal :=
  match op, v with
  | .addr, v => .ok (.ptr w.heap.size) { w with heap := w.heap.push v }
  | .neg, .int n s x => .ok (.int n s (wrap n s (-x))) w
  | .neg, .float n x => .ok (.float n (-x)) w
  | .not, .bool b => .ok (.bool !b) w
  | .deref, .ptr l =>
    match w.heap[l]? with
    | some v => .ok v w
    | none => .fail (.stuck "go: dangling pointer") w
  | .deref, .nilv => .fail (.panic "nil pointer dereference") w
  | _, _ => .fail (.stuck "go: unary operator on unsupported operand") w

theorem evalG_un (op : GUn) (t : GTy) (e : GExpr) :
    evalG (n+1) F ρ w (.un op t e) = (evalG n F ρ w e).bind (unTail op) := by
  -- `.addr, v` is the first row of the interpreter's match, so the equations of the other rows ask for `op ≠ .addr`
  by_cases h : op = .addr
  · subst h; rw [evalG.eq_def]; simp only
    cases evalG n F ρ w e <;> rfl
  · rw [evalG.eq_def]; simp only
    cases evalG n F ρ w e with
    | fail f w1 => rfl
    | ok v w1 => cases op <;> first | exact absurd rfl h | (cases v <;> rfl)

def gbinTail (op : GBin) (a b : GVal) (w : GWorld) : GRes GVal :=
  match gbin op a b with
  | .ok v => .ok v w
  | .error f => .fail f w

theorem evalG_bin (op : GBin) (t : GTy) (l r : GExpr) :
    evalG (n+1) F ρ w (.bin op t l r) =
      (evalG n F ρ w l).bind fun a w =>
        match op, a with
        | .and, .bool false => .ok (.bool false) w
        | .or, .bool true => .ok (.bool true) w
        | .and, .bool true => evalG n F ρ w r
        | .or, .bool false => evalG n F ρ w r
        | _, _ => (evalG n F ρ w r).bind (gbinTail op a) := by
  rw [evalG.eq_def]; simp only
  cases evalG n F ρ w l with
  | fail f w1 => rfl
  | ok a w1 =>
    simp only [GRes.bind_ok]
    split
    · rfl
    · rfl
    · cases evalG n F ρ w1 r <;> rfl
    · cases evalG n F ρ w1 r <;> rfl
    · -- the catch-all row of the match on the right asks for the four negated patterns `split` has left here
      simp only
      cases evalG n F ρ w1 r <;> rfl

def fieldTail (f : String) (obj : GExpr) (v : GVal) (w : GWorld) : GRes GVal :=
  match v with
  | .struct _ fs =>
    match lookupG fs f with
    | some v => .ok v w
    | none => .fail (.stuck ("go: no field " ++ f)) w
  | .ptr l =>
    match w.heap[l]? with
    | some (.struct _ fs) =>
      match lookupG fs f with
      | some v => .ok v w
      | none => .fail (.stuck ("go: no field " ++ f)) w
    | _ => .fail (.stuck "go: field of a non-struct pointer") w
  | .nilv =>
    if isPtrTy (staticTy obj) then .fail (.panic "nil pointer dereference") w
    else .fail (.stuck "go: nil value of a non-pointer type") w
  | _ => .fail (.stuck "go: field of a non-struct") w

theorem evalG_field (f : String) (t : GTy) (o : GExpr) :
    evalG (n+1) F ρ w (.field f t o) = (evalG n F ρ w o).bind (fieldTail f o) := by
  rw [evalG.eq_def]; simp only
  cases evalG n F ρ w o with
  | fail f w1 => rfl
  | ok v w1 => cases v <;> rfl

def indexTail (a iv : GVal) (w : GWorld) : GRes GVal :=
  match iv with
  | .int _ _ i =>
    if i < 0 then .fail (.panic "index out of range") w else
    match a with
    | .array vs =>
      match vs[i.toNat]? with
      | some v => .ok v w
      | none => .fail (.panic "index out of range") w
    | .slice loc len _ =>
      if i.toNat ≥ len then .fail (.panic "index out of range") w else
      match w.heap[loc]? with
      | some (.array vs) =>
        match vs[i.toNat]? with
        | some v => .ok v w
        | none => .fail (.stuck "go: slice backing array too short") w
      | _ => .fail (.stuck "go: slice without backing array") w
    | .nilv => .fail (.panic "index out of range") w
    | .str s =>
      let bs := s.toUTF8
      if h : i.toNat < bs.size then .ok (.int 8 false (bs[i.toNat]).toNat) w
      else .fail (.panic "index out of range") w
    | _ => .fail (.stuck "go: index of a non-indexable value") w
  | _ => .fail (.stuck "go: non-integer index") w

theorem evalG_index (t : GTy) (a i : GExpr) :
    evalG (n+1) F ρ w (.index t a i) =
      (evalG n F ρ w a).bind fun av w => (evalG n F ρ w i).bind fun iv w => indexTail av iv w := by
  rw [evalG.eq_def]; simp only
  cases evalG n F ρ w a with
  | fail f w1 => rfl
  | ok av w1 =>
    simp only [GRes.bind_ok]
    cases evalG n F ρ w1 i with
    | fail f w2 => rfl
    | ok iv w2 => cases iv <;> rfl

def castTail (F : GFile) (ty : GTy) (v : GVal) (w : GWorld) : GRes GVal :=
  match ty, v with
  | .name n, .struct m _ =>
    if n == m || n == "any" || F.structImplements m n then .ok v w
    else .fail (.panic "interface conversion") w
  | ty, v =>
    match convert ty v with
    | .ok r => .ok r w
    | .error f => .fail f w

theorem evalG_cast (t : GTy) (e : GExpr) :
    evalG (n+1) F ρ w (.cast t e) = (evalG n F ρ w e).bind (castTail F t) := by
  rw [evalG.eq_def]; simp only
  cases evalG n F ρ w e <;> rfl

def slitTail (F : GFile) (ty : GTy) (fs : List (String × GVal)) (w : GWorld) : GRes GVal :=
  let name := match ty with | .name n => n | .struct n _ => n | _ => "?"
  let all := match F.structFields name with
    | some decl => decl.map fun (f, t) => (f, (lookupG fs f).getD (zero F t))
    | none => fs
  .ok (.struct name all) w

theorem evalG_slit (t : GTy) (fs : List GField) :
    evalG (n+1) F ρ w (.slit t fs) = (evalFieldsG n F ρ w fs).bind (slitTail F t) := by
  rw [evalG.eq_def]; simp only
  cases evalFieldsG n F ρ w fs <;> rfl

theorem evalG_alit (t : GTy) (es : List GExpr) :
    evalG (n+1) F ρ w (.alit t es) =
      (evalListG n F ρ w es).bind fun vs w =>
        match t with
        | .slice _ => .ok (.slice w.heap.size vs.length vs.length) { w with heap := w.heap.push (.array vs) }
        | _ => .ok (.array vs) w := by
  rw [evalG.eq_def]; simp only
  cases evalListG n F ρ w es with
  | fail f w1 => rfl
  | ok vs w1 => cases t <;> rfl

theorem evalG_blocke (t : GTy) (ss : List GStmt) (e : Option GExpr) :
    evalG (n+1) F ρ w (.blocke t ss e) =
      (execBlockG n F ρ w ss).bind fun p w =>
        match p.2, e with
        | .normal, some e => evalG n F p.1 w e
        | .normal, none => .ok .unit w
        | .ret v, _ => .ok v w
        | .brk, _ => .fail (.stuck "go: break out of a block expression") w := by
  rw [evalG.eq_def]; simp only
  cases execBlockG n F ρ w ss with
  | fail f w1 => rfl
  | ok p w1 => obtain ⟨ρ', sig⟩ := p; cases sig <;> cases e <;> rfl

theorem evalListG_nil : evalListG (n+1) F ρ w [] = .ok [] w := by rw [evalListG.eq_def]

theorem evalListG_cons (e : GExpr) (rest : List GExpr) :
    evalListG (n+1) F ρ w (e :: rest) =
      (evalG n F ρ w e).bind fun v w => (evalListG n F ρ w rest).bind fun vs w => .ok (v :: vs) w := by
  rw [evalListG.eq_def]; simp only
  cases evalG n F ρ w e with
  | fail f w1 => rfl
  | ok v w1 => simp only [GRes.bind_ok]; cases evalListG n F ρ w1 rest <;> rfl

theorem evalFieldsG_nil : evalFieldsG (n+1) F ρ w [] = .ok [] w := by rw [evalFieldsG.eq_def]

theorem evalFieldsG_cons (nm : String) (e : GExpr) (rest : List GField) :
    evalFieldsG (n+1) F ρ w (.mk nm e :: rest) =
      (evalG n F ρ w e).bind fun v w => (evalFieldsG n F ρ w rest).bind fun vs w => .ok ((nm, v) :: vs) w := by
  rw [evalFieldsG.eq_def]; simp only
  cases evalG n F ρ w e with
  | fail f w1 => rfl
  | ok v w1 => simp only [GRes.bind_ok]; cases evalFieldsG n F ρ w1 rest <;> rfl

def retOfB : GRes (GEnv × Sig) → GRes GVal
  | .fail f w => .fail f w
  | .ok (_, .ret v) w => .ok v w
  | .ok (_, _) w => .ok .void w

def bindG (ps : List (String × GTy)) (args : List GVal) : GEnv := (ps.zip args).map fun x => (x.1.1, x.2)

theorem callG_some {G : GFile} {name : String} {fn : GFunc} (hf : G.findFunc name = some fn) {args : List GVal}
    (hlen : fn.params.length = args.length) (k : Nat) (w : GWorld) :
    callG (k + 1) G w (.func name) args = retOfB (execBlockG k G (bindG fn.params args) w fn.body) := by
  have har : (fn.params.length != args.length) = false := by simp [hlen]
  rw [callG.eq_def]; simp only [hf, har, Bool.false_eq_true, if_false]
  unfold bindG
  cases execBlockG k G (List.map (fun x => (x.1.1, x.2)) (fn.params.zip args)) w fn.body with
  | fail f w => rfl
  | ok p w => obtain ⟨ρ', sig⟩ := p; cases sig <;> rfl

/-- `h` covers a builtin, a conversion, an extern, a non-function and an arity mismatch -/
theorem callG_other (f : GVal) (args : List GVal)
    (h : ∀ name fn, f = .func name → F.findFunc name = some fn → fn.params.length ≠ args.length) :
    callG (n+1) F w f args = callG 1 F w f args := by
  rw [callG.eq_def, callG.eq_def]
  cases f <;> try rfl
  rename_i name
  simp only
  cases hf : F.findFunc name with
  | none => rfl
  | some fn =>
    have : (fn.params.length != args.length) = true := by simpa using h name fn rfl hf
    simp only [this, if_true]

def runOptG (n : Nat) (F : GFile) (ρ : GEnv) (w : GWorld) : Option (List GStmt) → GRes (GEnv × Sig)
  | some b => nestedG n F ρ w b
  | none => .ok (ρ, .normal) w

/-- back to `k` entries -/
def popG (k : Nat) (p : GEnv × Sig) (w : GWorld) : GRes (GEnv × Sig) :=
  .ok (p.1.drop (p.1.length - k), p.2) w

theorem execBlockG_nil : execBlockG (n+1) F ρ w [] = .ok (ρ, .normal) w := by rw [execBlockG.eq_def]

theorem execBlockG_cons (s : GStmt) (rest : List GStmt) :
    execBlockG (n+1) F ρ w (s :: rest) =
      (execG n F ρ w s).bind fun p w =>
        match p.2 with
        | .normal => execBlockG n F p.1 w rest
        | sig => .ok (p.1, sig) w := by
  rw [execBlockG.eq_def]; simp only
  cases execG n F ρ w s with
  | fail f w1 => rfl
  | ok p w1 => obtain ⟨ρ', sig⟩ := p; cases sig <;> rfl

theorem nestedG_eq (ss : List GStmt) :
    nestedG (n+1) F ρ w ss = (execBlockG n F ρ w ss).bind (popG ρ.length) := by
  rw [nestedG.eq_def]; simp only
  cases execBlockG n F ρ w ss <;> rfl

theorem switchG_nil (v : GVal) (d : Option (List GStmt)) : switchG (n+1) F ρ w v [] d = runOptG n F ρ w d := by
  rw [switchG.eq_def]; cases d <;> rfl

theorem switchG_cons (v : GVal) (ce : GExpr) (body : List GStmt) (rest : List GCase) (d : Option (List GStmt)) :
    switchG (n+1) F ρ w v (.mk ce body :: rest) d =
      (evalG n F ρ w ce).bind fun cv w =>
        if (gvalEq cv v).getD false then nestedG n F ρ w body else switchG n F ρ w v rest d := by
  rw [switchG.eq_def]; simp only
  cases evalG n F ρ w ce <;> rfl

def tsHitG (ty : GTy) (v : GVal) : Bool :=
  match ty, v with
  | .name n, .struct m _ => n == m
  | .struct n _, .struct m _ => n == m
  | _, _ => false

theorem tswitchG_nil (v : GVal) (d : Option (List GStmt)) : tswitchG (n+1) F ρ w v [] d = runOptG n F ρ w d := by
  rw [tswitchG.eq_def]; cases d <;> rfl

theorem tswitchG_cons (v : GVal) (ty : GTy) (body : List GStmt) (rest : List GTCase) (d : Option (List GStmt)) :
    tswitchG (n+1) F ρ w v (.mk ty body :: rest) d =
      if tsHitG ty v then nestedG n F ρ w body else tswitchG n F ρ w v rest d := by
  rw [tswitchG.eq_def]; rfl

theorem execG_expr (e : GExpr) :
    execG (n+1) F ρ w (.expr e) = (evalG n F ρ w e).bind fun _ w => .ok (ρ, .normal) w := by
  rw [execG.eq_def]; simp only
  cases evalG n F ρ w e <;> rfl

theorem execG_go (c : GExpr) :
    execG (n+1) F ρ w (.go c) =
      match c with
      | .call _ f args =>
        (evalG n F ρ w f).bind fun fv w => (evalListG n F ρ w args).bind fun vs w =>
          if w.eager then (callG n F w fv vs).bind fun _ w => .ok (ρ, .normal) w
          else .ok (ρ, .normal) { w with spawned := w.spawned ++ [(fv, vs)] }
      | _ => .fail (.stuck "go: `go` needs a call") w := by
  rw [execG.eq_def]; simp only
  cases c <;> try rfl
  rename_i t f args
  simp only
  cases evalG n F ρ w f with
  | fail f' w1 => rfl
  | ok fv w1 =>
    simp only [GRes.bind_ok]
    cases evalListG n F ρ w1 args with
    | fail f' w2 => rfl
    | ok vs w2 =>
      simp only [GRes.bind_ok]
      split
      · cases callG n F w2 fv vs <;> rfl
      · rfl

theorem execG_varDecl (x : String) (ty : GTy) (v : Option GExpr) :
    execG (n+1) F ρ w (.varDecl x ty v) =
      if absurdTy ty then .fail (.stuck "go: variable of an array type longer than the address space") w else
      match v with
      | none => .ok ((x, zero F ty) :: ρ, .normal) w
      | some e => (evalG n F ρ w e).bind fun v w => .ok ((x, v) :: ρ, .normal) w := by
  rw [execG.eq_def]; simp only
  split
  · rfl
  · cases v with
    | none => rfl
    | some e => simp only; cases evalG n F ρ w e <;> rfl

theorem execG_assign (x : String) (e : GExpr) :
    execG (n+1) F ρ w (.assign x e) =
      (evalG n F ρ w e).bind fun v w => .ok (if x == "_" then ρ else updateG ρ x v, .normal) w := by
  rw [execG.eq_def]; simp only
  cases evalG n F ρ w e <;> rfl

def fieldStore (ρ : GEnv) (f : String) (obj : GExpr) (ov v : GVal) (w : GWorld) : GRes (GEnv × Sig) :=
  match ov, obj with
  | .ptr l, _ =>
    match w.heap[l]? with
    | some (.struct n fs) =>
      .ok (ρ, .normal) { w with heap := w.heap.set! l (.struct n (setField fs f v)) }
    | _ => .fail (.stuck "go: field assignment through a non-struct pointer") w
  | .struct n fs, .var x _ => .ok (updateG ρ x (.struct n (setField fs f v)), .normal) w
  | .nilv, _ => .fail (.panic "nil pointer dereference") w
  | _, _ => .fail (.stuck "go: unsupported field assignment target") w

theorem execG_fieldAssign (t e : GExpr) :
    execG (n+1) F ρ w (.fieldAssign t e) =
      match t with
      | .field f _ obj =>
        (evalG n F ρ w obj).bind fun ov w => (evalG n F ρ w e).bind fun v w => fieldStore ρ f obj ov v w
      | _ => .fail (.stuck "go: field assignment to a non-field") w := by
  rw [execG.eq_def]; simp only
  cases t <;> try rfl
  rename_i f ty obj
  simp only
  cases evalG n F ρ w obj with
  | fail f' w1 => rfl
  | ok ov w1 => simp only [GRes.bind_ok]; cases evalG n F ρ w1 e <;> rfl

theorem execG_ptrAssign (p e : GExpr) :
    execG (n+1) F ρ w (.ptrAssign p e) =
      (evalG n F ρ w p).bind fun pv w =>
        match pv with
        | .ptr l => (evalG n F ρ w e).bind fun v w => .ok (ρ, .normal) { w with heap := w.heap.set! l v }
        | .nilv => .fail (.panic "nil pointer dereference") w
        | _ => .fail (.stuck "go: pointer assignment to a non-pointer") w := by
  rw [execG.eq_def]; simp only
  cases evalG n F ρ w p with
  | fail f' w1 => rfl
  | ok pv w1 =>
    cases pv <;> simp only [GRes.bind_ok]
    case ptr l => cases evalG n F ρ w1 e <;> rfl

theorem execG_indexAssign (a idx e : GExpr) :
    execG (n+1) F ρ w (.indexAssign a idx e) =
      match a with
      | .var x _ =>
        (evalG n F ρ w idx).bind fun iv w =>
          match lookupG ρ x, iv with
          | some (.array vs), .int _ _ i =>
            (evalG n F ρ w e).bind fun v w =>
              if i < 0 || i.toNat ≥ vs.length then .fail (.panic "index out of range") w
              else .ok (updateG ρ x (.array (vs.set i.toNat v)), .normal) w
          | _, _ => .fail (.stuck "go: unsupported index assignment") w
      | _ => .fail (.stuck "go: index assignment to a non-variable") w := by
  rw [execG.eq_def]; simp only
  cases a <;> try rfl
  rename_i x t
  simp only
  cases evalG n F ρ w idx with
  | fail f' w1 => cases lookupG ρ x <;> rfl
  | ok iv w1 =>
    simp only [GRes.bind_ok]
    cases lookupG ρ x with
    | none => cases iv <;> rfl
    | some av =>
      cases av <;> cases iv <;> try rfl
      simp only
      cases evalG n F ρ w1 e <;> rfl

theorem execG_ret (e : Option GExpr) :
    execG (n+1) F ρ w (.ret e) =
      match e with
      | none => .ok (ρ, .ret .void) w
      | some e => (evalG n F ρ w e).bind fun v w => .ok (ρ, .ret v) w := by
  rw [execG.eq_def]; simp only
  cases e with
  | none => rfl
  | some e => simp only; cases evalG n F ρ w e <;> rfl

theorem execG_ite (c : GExpr) (t : List GStmt) (e : Option (List GStmt)) :
    execG (n+1) F ρ w (.ite c t e) =
      (evalG n F ρ w c).bind fun cv w =>
        match cv with
        | .bool true => nestedG n F ρ w t
        | .bool false => runOptG n F ρ w e
        | _ => .fail (.stuck "go: if on a non-boolean") w := by
  rw [execG.eq_def]; simp only
  cases evalG n F ρ w c with
  | fail f' w1 => rfl
  | ok cv w1 =>
    cases cv <;> simp only [GRes.bind_ok]
    case bool b => cases b <;> simp only <;> cases e <;> rfl

theorem execG_loop (body : List GStmt) :
    execG (n+1) F ρ w (.loop body) =
      (nestedG n F ρ w body).bind fun p w =>
        match p.2 with
        | .normal => execG n F p.1 w (.loop body)
        | .brk => .ok (p.1, .normal) w
        | sig => .ok (p.1, sig) w := by
  rw [execG.eq_def]; simp only
  cases nestedG n F ρ w body with
  | fail f' w1 => rfl
  | ok p w1 => obtain ⟨ρ', sig⟩ := p; cases sig <;> rfl

theorem execG_brk : execG (n+1) F ρ w .brk = .ok (ρ, .brk) w := by rw [execG.eq_def]

theorem execG_switch (e : GExpr) (cs : List GCase) (d : Option (List GStmt)) :
    execG (n+1) F ρ w (.switch e cs d) = (evalG n F ρ w e).bind fun v w => switchG n F ρ w v cs d := by
  rw [execG.eq_def]; simp only
  cases evalG n F ρ w e <;> rfl

def bindEnvG : Option String → GVal → GEnv → GEnv
  | some b, v, ρ => if b == "_" then ρ else (b, v) :: ρ
  | none, _, ρ => ρ

theorem execG_tswitch (b : Option String) (e : GExpr) (cs : List GTCase) (d : Option (List GStmt)) :
    execG (n+1) F ρ w (.tswitch b e cs d) =
      (evalG n F ρ w e).bind fun v w => (tswitchG n F (bindEnvG b v ρ) w v cs d).bind (popG ρ.length) := by
  rw [execG.eq_def]; simp only
  cases evalG n F ρ w e with
  | fail f' w1 => rfl
  | ok v w1 =>
    simp only [GRes.bind_ok]
    cases b with
    | none => simp only [bindEnvG]; cases tswitchG n F ρ w1 v cs d <;> rfl
    | some b =>
      simp only [bindEnvG]
      split <;> rename_i hb <;> simp only [hb]
      · cases tswitchG n F ρ w1 v cs d <;> rfl
      · cases tswitchG n F ((b, v) :: ρ) w1 v cs d <;> rfl

end Goml.Go
