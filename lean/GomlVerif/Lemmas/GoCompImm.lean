import GomlVerif.Lemmas.GoCompVal
import GomlVerif.Lemmas.LiftSemUnfold
/-!
Immediates (`ImmExpr`) evaluate to related, typed values on both sides, without effects; the operators of the
fragment are defined on both sides, with the same result of the right type.
-/
namespace Goml.GoComp
open Goml Goml.Go Goml.GoCompile Goml.GoFrag
open Goml.Sem (Val World Res)

attribute [local irreducible] Goml.GoCompile.vn Goml.GoCompile.gid Goml.GoCompile.rn

theorem goTy_int (b : Nat) (s : Bool) : goTy (.int b s) = .int b s := by simp [goTy]

/-- the function table of the heap context is the one of the fragment (`fnSigs`), and no Go variable in sight is
    spelled like one of its functions (a function used as a value is not captured by a local) -/
structure FnRel (file : AFile) (G : List String) (η : Hp) (gρ : GEnv) : Prop where
  eq : η.fns = fnSigs file G
  free : ∀ e, e ∈ η.fns → lookupG gρ (vn e.1) = none

/-- an immediate of the fragment: its value at any positive fuel on the `Sem` side, its stable value
    on the Go side, related and of the annotated type -/
theorem imm_both {env : Env} {η : Hp} {file : AFile} {G : List String} (P : Prog) {F : GFile} (ht : TyLink env F) {Γ : Ctx}
    {ρ : Sem.Env} {gρ : GEnv} {i : Imm}
    (hi : immOK env file G Γ i = true) (hr : EnvRel env η Γ ρ gρ) (hfr : FnRel file G η gρ) :
    ∃ v gv, (∀ n w, Sem.eval (n + 1) P ρ w i.toExpr = .ok v w) ∧
      (∀ gw, EvS F gρ gw (compileImm env i) (.ok gv gw)) ∧ VRel env η v i.ty gv ∧ HasTy env η v i.ty := by
  cases i with
  | var x ty =>
    rcases immOK_var_inv hi with ⟨hl, _⟩ | ⟨hl, ps, r, rfl, hf, _, _⟩
    · obtain ⟨v, gv, hsv, hgo, hval, hty⟩ := hr.typed hl
      refine ⟨v, gv, fun n w => ?_, fun gw => ev_var_some hgo, hval, hty⟩
      simp only [Imm.toExpr]; rw [Sem.eval]; simp only [hsv]
    · -- a top-level function used as a value
      have hmem : (x, ps, r) ∈ η.fns := by rw [hfr.eq]; exact List.mem_of_find?_eq_some hf
      have hsrc : Sem.lookupEnv ρ x = none := hr.untyped hl
      refine ⟨.fn x, .func (vn x), fun k w => ?_, fun gw => ev_var_none (hfr.free _ hmem), by simp [VRel], ?_⟩
      · simp only [Imm.toExpr]; rw [Sem.eval]; simp only [hsrc]
      · simp only [HasTy, Imm.ty, hfr.eq]; exact hf
  | prim p ty =>
    simp only [immOK] at hi
    cases p with
    | unit =>
      cases ty <;> simp [okPrim] at hi
      exact ⟨.unit, .unit, fun n w => by simp only [Imm.toExpr]; rw [Sem.eval]; rfl,
        fun gw => by simp only [compileImm, lit]; exact ev_unitv, by simp [VRel], trivial⟩
    | bool b =>
      cases ty <;> simp [okPrim] at hi
      exact ⟨.bool b, .bool b, fun n w => by simp only [Imm.toExpr]; rw [Sem.eval]; rfl,
        fun gw => by simp only [compileImm, lit]; exact ev_bool, by simp [VRel], trivial⟩
    | str s =>
      cases ty <;> simp [okPrim] at hi
      exact ⟨.str s, .str s, fun n w => by simp only [Imm.toExpr]; rw [Sem.eval]; rfl,
        fun gw => by simp only [compileImm, lit]; exact ev_str, by simp [VRel], trivial⟩
    | int b s v =>
      cases ty <;> simp [okPrim] at hi
      obtain ⟨⟨hb, hs⟩, hw⟩ := hi
      subst hb; subst hs
      refine ⟨.int b s v, .int b s v, fun n w => by simp only [Imm.toExpr]; rw [Sem.eval]; rfl, fun gw => ?_, by simp [VRel], ⟨rfl, rfl, hw⟩⟩
      simp only [compileImm, lit, goTy_int]
      have := ev_int (F := F) (ρ := gρ) (w := gw) (b := b) (s := s) (Int.toInt?_repr v)
      rw [hw] at this; exact this
    | float b r => cases ty <;> simp [okPrim] at hi
  | tag idx ty =>
    simp only [immOK] at hi
    cases hv : variantOf env ty idx with
    | none => rw [hv] at hi; simp at hi
    | some v =>
      obtain ⟨n, vname, tys⟩ := v
      rw [hv] at hi; simp only [List.isEmpty_iff] at hi; subst hi
      obtain ⟨rfl, hn, d, hd, hvar⟩ := variantOf_spec hv
      refine ⟨.enumV n idx [], .struct (variantGoName env n vname) [], fun k w => ?_, fun gw => ?_, ?_, ?_⟩
      · simp only [Imm.toExpr]; rw [Sem.eval]; rfl
      · simp only [compileImm, variantTy_variantOf hv]
        have := ev_slit_name (F := F) (ρ := gρ) (w := gw) (name := variantGoName env n vname) evf_nil
        have hs := slit_variant ht hn hd hvar (gvs := []) rfl
        simp only [List.length_nil, fieldNames, List.zip_nil_left] at hs
        rw [hs] at this; exact this
      · simp [VRel, hd, hvar]
        exact ⟨[], by simp [VRels], by simp [fieldNames]⟩
      · simp only [HasTy, hd, hvar, Imm.ty]
        exact ⟨trivial, hn, trivial⟩

/-- the shape of every statement of the simulation about a `Sem` result: `A` of the value and world of a successful run,
    `B` of the message and world of a panic; a run that is out of fuel or stuck is not spoken of -/
def Outc {α : Type} (A : α → World → Prop) (B : String → World → Prop) : Res α → Prop
  | .ok v w => A v w
  | .fail (.panic k) w => B k w
  | _ => True

theorem Outc.imp {α : Type} {A A' : α → World → Prop} {B B' : String → World → Prop} {r : Res α} (h : Outc A B r)
    (ha : ∀ v w, A v w → A' v w) (hb : ∀ k w, B k w → B' k w) : Outc A' B' r := by
  cases r with
  | ok v w => exact ha v w h
  | fail f w =>
    cases f with
    | panic k => exact hb k w h
    | fuel => trivial
    | stuck s => trivial

theorem Outc.andThen {α β : Type} {A : α → World → Prop} {A' : β → World → Prop} {B B' : String → World → Prop} {r : Res α}
    {K : α → World → Res β} (h : Outc A B r) (ha : ∀ v w, A v w → Outc A' B' (K v w)) (hb : ∀ k w, B k w → B' k w) :
    Outc A' B' (r.andThen K) := by
  cases r with
  | ok v w => exact ha v w h
  | fail f w =>
    cases f with
    | panic k => exact hb k w h
    | fuel => trivial
    | stuck s => trivial

theorem Outc.of_pure {α β : Type} {A : β → World → Prop} {B : String → World → Prop} {r : Res α} {K : α → World → Res β}
    {v : α} {w : World} (hr : Outc (fun v' w' => v = v' ∧ w = w') (fun _ _ => False) r) (h : Outc A B (K v w)) :
    Outc A B (r.andThen K) :=
  hr.andThen (fun _ _ ⟨h1, h2⟩ => h1 ▸ h2 ▸ h) (fun _ _ h => h.elim)

theorem imm_outc {P : Prog} {ρ : Sem.Env} {w : World} {e : Expr} {v : Val}
    (h : ∀ n w, Sem.eval (n + 1) P ρ w e = .ok v w) (n : Nat) :
    Outc (fun v' w' => v = v' ∧ w = w') (fun _ _ => False) (Sem.eval n P ρ w e) := by
  cases n with
  | zero => rw [Sem.eval]; trivial
  | succ n => rw [h n w]; exact ⟨rfl, rfl⟩

theorem evalList_nil_outc {P : Prog} {ρ : Sem.Env} (n : Nat) (w : World) :
    Outc (fun vs' w' => [] = vs' ∧ w = w') (fun _ _ => False) (Sem.evalList n P ρ w []) := by
  cases n with
  | zero => trivial
  | succ n => exact ⟨rfl, rfl⟩

theorem evalList_cons_outc {P : Prog} {ρ : Sem.Env} {e : Expr} {v : Val} {es : List Expr} {vs : List Val}
    (h : ∀ n w, Sem.eval (n + 1) P ρ w e = .ok v w)
    (ht : ∀ n w, Outc (fun vs' w' => vs = vs' ∧ w = w') (fun _ _ => False) (Sem.evalList n P ρ w es)) (n : Nat) (w : World) :
    Outc (fun vs' w' => v :: vs = vs' ∧ w = w') (fun _ _ => False) (Sem.evalList n P ρ w (e :: es)) := by
  cases n with
  | zero => trivial
  | succ n =>
    rw [Sem.evalList_cons_at]
    refine (imm_outc h n).andThen ?_ (fun _ _ h => h.elim)
    rintro _ _ ⟨rfl, rfl⟩
    refine (ht n w).andThen ?_ (fun _ _ h => h.elim)
    rintro _ _ ⟨rfl, rfl⟩
    exact ⟨rfl, rfl⟩

/-- argument lists: related and typed position by position -/
def ArgsRel (env : Env) (η : Hp) : List Val → List GVal → List Ty → Prop
  | [], [], [] => True
  | v :: vs, g :: gs, t :: ts => VRel env η v t g ∧ HasTy env η v t ∧ ArgsRel env η vs gs ts
  | _, _, _ => False

/-- a list of immediates of the fragment, as arguments and as the fields `names` of a composite literal (evaluating an immediate
    leaves the world as it is, so a shorter list of names is harmless) -/
theorem imms_fields_both {env : Env} {η : Hp} {file : AFile} {G : List String} (P : Prog) {F : GFile} (ht : TyLink env F) {Γ : Ctx}
    {ρ : Sem.Env} {gρ : GEnv} (hr : EnvRel env η Γ ρ gρ) (hfr : FnRel file G η gρ) :
    ∀ {args : List Imm} {tys : List Ty}, argsOK env file G Γ args tys = true →
    ∃ vs gvs, ArgsRel env η vs gvs tys ∧ args.length = tys.length ∧
      (∀ gw, EvLS F gρ gw (compileImms env args) (.ok gvs gw)) ∧
      (∀ names gw, EvFS F gρ gw (List.zipWith GField.mk names (compileImms env args)) (.ok (names.zip gvs) gw)) ∧
      (∀ n w, Outc (fun vs' w' => vs = vs' ∧ w = w') (fun _ _ => False) (Sem.evalList n P ρ w (args.map Imm.toExpr)))
  | [], [], _ => ⟨[], [], trivial, rfl, fun gw => evl_nil, fun names gw => by simpa [compileImms] using evf_nil, evalList_nil_outc⟩
  | [], _ :: _, h | _ :: _, [], h => by simp [argsOK] at h
  | a :: as, t :: ts, h => by
    simp only [argsOK, Bool.and_eq_true] at h
    obtain ⟨⟨ha, hta⟩, has⟩ := h
    obtain ⟨v, gv, hs, hg, hrel, hty⟩ := imm_both P ht ha hr hfr
    obtain ⟨vs, gvs, hrs, hlen, hgs, hfs, hss⟩ := imms_fields_both P ht hr hfr has
    cases scalarEq_eq hta
    refine ⟨v :: vs, gv :: gvs, ⟨hrel, hty, hrs⟩, by simp [hlen], fun gw => ?_, fun names gw => ?_, fun n w => ?_⟩
    · exact evl_cons (hg gw) (hgs gw)
    · cases names with
      | nil => exact evf_nil
      | cons x names => exact evf_cons (hg gw) (hfs names gw)
    · exact evalList_cons_outc hs hss n w
theorem imms_both {env : Env} {η : Hp} {file : AFile} {G : List String} (P : Prog) {F : GFile} (ht : TyLink env F) {Γ : Ctx}
    {ρ : Sem.Env} {gρ : GEnv} (hr : EnvRel env η Γ ρ gρ) (hfr : FnRel file G η gρ) {args : List Imm} {tys : List Ty}
    (h : argsOK env file G Γ args tys = true) :
    ∃ vs gvs, ArgsRel env η vs gvs tys ∧ (∀ gw, EvLS F gρ gw (compileImms env args) (.ok gvs gw)) ∧
      (∀ n w, Outc (fun vs' w' => vs = vs' ∧ w = w') (fun _ _ => False) (Sem.evalList n P ρ w (args.map Imm.toExpr))) := by
  obtain ⟨vs, gvs, h1, _, h2, _, h3⟩ := imms_fields_both P ht hr hfr h
  exact ⟨vs, gvs, h1, h2, h3⟩

theorem VRels_of_args {env : Env} {η : Hp} : ∀ {vs : List Val} {gvs : List GVal} {tys : List Ty}, ArgsRel env η vs gvs tys →
    VRels env η vs tys gvs ∧ HasTys env η vs tys ∧ vs.length = tys.length ∧ gvs.length = tys.length
  | [], [], [], _ => by simp [VRels, HasTys]
  | [], [], _ :: _, h => by simp [ArgsRel] at h
  | [], _ :: _, _, h => by simp [ArgsRel] at h
  | _ :: _, [], _, h => by simp [ArgsRel] at h
  | _ :: _, _ :: _, [], h => by simp [ArgsRel] at h
  | v :: vs, g :: gvs, t :: tys, h => by
    simp only [ArgsRel] at h
    obtain ⟨h1, h2, h3⟩ := h
    obtain ⟨i1, i2, i3, i4⟩ := VRels_of_args h3
    simp [VRels, HasTys, h1, h2, i1, i2, i3, i4]

theorem args_of_VRels {env : Env} {η : Hp} : ∀ {vs : List Val} {tys : List Ty} {gvs : List GVal}, VRels env η vs tys gvs →
    HasTys env η vs tys → ArgsRel env η vs gvs tys
  | [], [], [], _, _ => trivial
  | [], [], _ :: _, h, _ | [], _ :: _, _, h, _ | _ :: _, [], _, h, _ | _ :: _, _ :: _, [], h, _ => by simp [VRels] at h
  | v :: vs, t :: tys, g :: gvs, h, ht => by
    simp only [VRels] at h; simp only [HasTys] at ht
    exact ⟨h.1, ht.1, args_of_VRels h.2 ht.2⟩

theorem ArgsRel.length {env : Env} {η : Hp} {vs gvs tys} (h : ArgsRel env η vs gvs tys) : vs.length = tys.length ∧ gvs.length = tys.length :=
  (VRels_of_args h).2.2

theorem gBin_eq_gop (op : BinOp) : gBin op = Goml.C01.gop op := by cases op <;> rfl

theorem isLogicG_gBin (op : BinOp) : isLogicG (gBin op) = Goml.C01.isLogic op := by cases op <;> rfl

/-- a non-logical operator of the fragment on typed operands: a typed value or a panic -/
theorem binop_frag {env : Env} {η : Hp} {op : BinOp} {tl ty : Ty} {a b : Val} (hok : binOK op tl tl ty = true)
    (hop : Goml.C01.isLogic op = false) (ha : HasTy env η a tl) (hb : HasTy env η b tl) :
    (∃ v, Sem.binop op a b = .ok v ∧ HasTy env η v ty) ∨ (∃ k, Sem.binop op a b = .error (.panic k)) := by
  simp only [binOK, Bool.and_eq_true] at hok
  obtain ⟨⟨_, hdom⟩, hres⟩ := hok
  have hty := scalarEq_eq hres; subst hty
  -- per operator and operand type that `binDom` admits: the result type is the operand type or `bool`; an integer result is wrapped
  -- again (`wrap_wrap`); the only panic is `/` and `%` by 0
  cases op <;> simp [Goml.C01.isLogic] at hop <;> cases tl <;> simp [binDom, scalarTy] at hdom <;>
    (first
      | (obtain ⟨x, rfl⟩ := hasTy_int ha; obtain ⟨y, rfl⟩ := hasTy_int hb)
      | (obtain ⟨x, rfl⟩ := hasTy_str ha; obtain ⟨y, rfl⟩ := hasTy_str hb)
      | (obtain ⟨x, rfl⟩ := hasTy_bool ha; obtain ⟨y, rfl⟩ := hasTy_bool hb)
      | (have ha' := hasTy_unit ha; have hb' := hasTy_unit hb; subst ha'; subst hb')) <;>
    (first
      | (left; exact ⟨_, rfl, by simp [HasTy, binResTy, wrap_wrap]⟩)
      | (by_cases hy : y = 0
         · right; exact ⟨"integer divide by zero", by simp [Sem.binop, hy]⟩
         · left; simp [Sem.binop, hy, HasTy, binResTy, wrap_wrap]))

theorem unop_frag {env : Env} {η : Hp} {op : UnOp} {te ty : Ty} {a : Val} (hok : unOK op te ty = true) (ha : HasTy env η a te) :
    ∃ v, Sem.unop op a = .ok v ∧ HasTy env η v ty := by
  cases op with
  | neg =>
    simp only [unOK, Bool.and_eq_true] at hok
    cases te <;> simp [intTy] at hok
    rename_i n s
    have := scalarEq_eq hok; subst this
    obtain ⟨x, rfl⟩ := hasTy_int ha
    exact ⟨_, rfl, ⟨rfl, rfl, wrap_wrap _ _ _⟩⟩
  | not =>
    simp only [unOK, Bool.and_eq_true] at hok
    have h1 := scalarEq_eq hok.1; have h2 := scalarEq_eq hok.2; subst h1; subst h2
    obtain ⟨b, rfl⟩ := hasTy_bool ha
    exact ⟨_, rfl, trivial⟩

end Goml.GoComp
