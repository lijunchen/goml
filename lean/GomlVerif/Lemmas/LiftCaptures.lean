import GomlVerif.Model.Lift
/-! C08: `collectCaptured` computes exactly the free variables of the body that are in scope -/
namespace Goml.Lift
open Goml

mutual
/-- free variables, every occurrence, in traversal order (`let` and closure parameters bind) -/
def fv : Expr → List String
  | .var x _ => [x]
  | .prim _ => []
  | .tag _ _ => []
  | .constr _ _ args => fvList args
  | .tuple _ items => fvList items
  | .array _ items => fvList items
  | .closure _ ps body => (fv body).filter (fun y => !(ps.map (·.1)).contains y)
  | .letE x v b => fv v ++ (fv b).filter (fun y => !(y == x))
  | .matchE _ s arms d => fv s ++ fvArms arms ++ (match d with | some d => fv d | none => [])
  | .ite c t e => fv c ++ fv t ++ fv e
  | .while c b => fv c ++ fv b
  | .go e => fv e
  | .cget _ _ _ e => fv e
  | .un _ _ e => fv e
  | .bin _ _ l r => fv l ++ fv r
  | .call _ f args => fv f ++ fvList args
  | .toDyn _ _ _ e => fv e
  | .dynCall _ _ _ recv args => fv recv ++ fvList args
  | .traitCall _ _ _ recv args => fv recv ++ fvList args
  | .proj _ _ e => fv e
def fvList : List Expr → List String
  | [] => []
  | e :: es => fv e ++ fvList es
/-- the head of an arm is traversed like an expression (as `collect_captured` does) -/
def fvArms : List Arm → List String
  | [] => []
  | .mk lhs body :: rest => fv lhs ++ fv body ++ fvArms rest
end

/-- what `collect_captured` does at one variable occurrence -/
def captureStep (sc : Scope) (acc : List (String × Ty)) (x : String) : List (String × Ty) :=
  match sc.get x with
  | some entry => if acc.any (·.1 == x) then acc else acc ++ [(x, entry.ty)]
  | none => acc

def notIn (bound : List String) (l : List String) : List String := l.filter (fun y => !bound.contains y)

theorem notIn_append (bound l₁ l₂) : notIn bound (l₁ ++ l₂) = notIn bound l₁ ++ notIn bound l₂ := by
  simp [notIn]

theorem notIn_snoc (bound : List String) (x : String) (l : List String) :
    notIn (bound ++ [x]) l = notIn bound (l.filter (fun y => !(y == x))) := by
  simp only [notIn, List.filter_filter]
  apply List.filter_congr
  intro y _
  simp [List.contains_eq_mem]
  by_cases h : y = x <;> simp [h]

theorem notIn_app (bound ps : List String) (l : List String) :
    notIn (bound ++ ps) l = notIn bound (l.filter (fun y => !ps.contains y)) := by
  simp only [notIn, List.filter_filter]
  apply List.filter_congr
  intro y _
  simp [List.contains_eq_mem]

/-- a traversal of two parts in sequence folds over the free variables of the first, then of the second -/
theorem foldl_notIn_append (sc : Scope) (bound l₁ l₂ : List String) (acc : List (String × Ty)) :
    (notIn bound (l₁ ++ l₂)).foldl (captureStep sc) acc =
      (notIn bound l₂).foldl (captureStep sc) ((notIn bound l₁).foldl (captureStep sc) acc) := by
  rw [notIn_append, List.foldl_append]

theorem collect_eq_all (sc : Scope) :
    (∀ bound acc e, collectCaptured sc bound acc e = (notIn bound (fv e)).foldl (captureStep sc) acc) ∧
    (∀ bound acc arms, collectCapturedArms sc bound acc arms = (notIn bound (fvArms arms)).foldl (captureStep sc) acc) ∧
    (∀ bound acc es, collectCapturedList sc bound acc es = (notIn bound (fvList es)).foldl (captureStep sc) acc) := by
  apply collectCaptured.mutual_induct sc
  -- .var: bound, captured already, captured now, or not in scope
  case case1 | case2 | case3 | case4 => intros; simp_all [collectCaptured, fv, notIn, captureStep, List.filter]
  -- the leaves
  case case5 | case6 | case25 | case27 => intros; rfl
  -- .closure, .letE: the binders join `bound`
  case case10 =>
    intro bound acc _ ps b ih
    rw [collectCaptured, fv, ih, notIn_app]
  case case11 =>
    intro bound acc x v b ihv ihb
    rw [collectCaptured, fv, ihb, ihv, foldl_notIn_append, notIn_snoc]
  -- .matchE with a default: the accumulator after the arms is a `have` of the row
  case case12 =>
    intro bound acc _ s arms acc' d ihs iha ihd
    simp only [collectCaptured, fv]
    rw [ihd, show acc' = _ from iha, ihs, foldl_notIn_append, foldl_notIn_append]
  all_goals intros
  all_goals simp_all only [collectCaptured, collectCapturedList, collectCapturedArms, fv, fvList, fvArms,
    foldl_notIn_append, List.append_nil]

theorem collect_eq (sc : Scope) : ∀ (e : Expr) (bound : List String) (acc : List (String × Ty)),
    collectCaptured sc bound acc e = (notIn bound (fv e)).foldl (captureStep sc) acc :=
  fun e bound acc => (collect_eq_all sc).1 bound acc e
theorem collectList_eq (sc : Scope) : ∀ (es : List Expr) (bound : List String) (acc : List (String × Ty)),
    collectCapturedList sc bound acc es = (notIn bound (fvList es)).foldl (captureStep sc) acc :=
  fun es bound acc => (collect_eq_all sc).2.2 bound acc es
theorem collectArms_eq (sc : Scope) : ∀ (arms : List Arm) (bound : List String) (acc : List (String × Ty)),
    collectCapturedArms sc bound acc arms = (notIn bound (fvArms arms)).foldl (captureStep sc) acc :=
  fun arms bound acc => (collect_eq_all sc).2.1 bound acc arms

/-- keep the first occurrence of every name -/
def dedupStep (a : List String) (x : String) : List String := if a.contains x then a else a ++ [x]
def dedup (xs : List String) : List String := xs.foldl dedupStep []

theorem captureStep_names (sc : Scope) (acc : List (String × Ty)) (x : String) :
    (captureStep sc acc x).map (·.1) =
      if sc.has x then dedupStep (acc.map (·.1)) x else acc.map (·.1) := by
  unfold captureStep Scope.has dedupStep
  cases h : sc.get x with
  | none => simp
  | some entry =>
    have hc : (acc.any (·.1 == x)) = (acc.map (·.1)).contains x := by
      induction acc with
      | nil => simp
      | cons p ps ih =>
        simp only [List.any_cons, List.map_cons, List.contains_cons, ih]
        rw [Bool.beq_comm]
    simp only [Option.isSome_some, if_true, hc]
    split <;> simp

theorem foldl_captureStep_names (sc : Scope) (xs : List String) : ∀ (acc : List (String × Ty)),
    (xs.foldl (captureStep sc) acc).map (·.1) = (xs.filter sc.has).foldl dedupStep (acc.map (·.1)) := by
  induction xs with
  | nil => intro acc; simp
  | cons x xs ih =>
    intro acc
    simp only [List.foldl_cons, ih, captureStep_names, List.filter_cons]
    cases sc.has x <;> simp

theorem dedupStep_of_mem {a : List String} {x : String} (h : x ∈ a) : dedupStep a x = a := by
  simp [dedupStep, h]
theorem dedupStep_of_not_mem {a : List String} {x : String} (h : x ∉ a) : dedupStep a x = a ++ [x] := by
  simp [dedupStep, h]

theorem mem_foldl_dedupStep (xs : List String) : ∀ (a : List String) (y : String),
    y ∈ xs.foldl dedupStep a ↔ y ∈ a ∨ y ∈ xs := by
  induction xs with
  | nil => intro a y; simp
  | cons x xs ih =>
    intro a y
    simp only [List.foldl_cons, ih, List.mem_cons]
    by_cases hx : x ∈ a
    · rw [dedupStep_of_mem hx]
      constructor
      · exact Or.imp_right Or.inr
      · rintro (h | h | h)
        · exact Or.inl h
        · exact Or.inl (h ▸ hx)
        · exact Or.inr h
    · rw [dedupStep_of_not_mem hx]
      simp only [List.mem_append, List.mem_singleton, or_assoc]

theorem nodup_foldl_dedupStep (xs : List String) : ∀ (a : List String), a.Nodup → (xs.foldl dedupStep a).Nodup := by
  induction xs with
  | nil => intro a h; simpa using h
  | cons x xs ih =>
    intro a h
    simp only [List.foldl_cons]
    apply ih
    by_cases hx : x ∈ a
    · rw [dedupStep_of_mem hx]; exact h
    · rw [dedupStep_of_not_mem hx]
      rw [List.nodup_append]
      refine ⟨h, by simp, ?_⟩
      intro y hy z hz
      simp only [List.mem_singleton] at hz
      subst hz
      intro e
      exact hx (e ▸ hy)

theorem foldl_captureStep_types (sc : Scope) (xs : List String) : ∀ (acc : List (String × Ty)) (p : String × Ty),
    p ∈ xs.foldl (captureStep sc) acc → p ∈ acc ∨ ∃ entry, sc.get p.1 = some entry ∧ p.2 = entry.ty := by
  induction xs with
  | nil => intro acc p h; exact Or.inl (by simpa using h)
  | cons x xs ih =>
    intro acc p h
    simp only [List.foldl_cons] at h
    rcases ih _ p h with h | h
    · unfold captureStep at h
      cases hg : sc.get x with
      | none => simp only [hg] at h; exact Or.inl h
      | some entry =>
        simp only [hg] at h
        split at h
        · exact Or.inl h
        · simp only [List.mem_append, List.mem_singleton] at h
          rcases h with h | h
          · exact Or.inl h
          · subst h; exact Or.inr ⟨entry, hg, rfl⟩
    · exact Or.inr h

/-- `collect_captured` misses nothing and invents nothing -/
theorem captured_mem (sc : Scope) (params : List String) (body : Expr) (x : String) :
    x ∈ (collectCaptured sc params [] body).map (·.1) ↔ x ∈ fv body ∧ x ∉ params ∧ sc.has x = true := by
  rw [collect_eq, foldl_captureStep_names]
  show x ∈ List.foldl dedupStep [] _ ↔ _
  rw [mem_foldl_dedupStep]
  simp only [notIn, List.not_mem_nil, false_or, List.mem_filter, Bool.not_eq_true', List.contains_eq_mem,
    decide_eq_false_iff_not]
  constructor
  · rintro ⟨⟨a, b⟩, c⟩; exact ⟨a, b, c⟩
  · rintro ⟨a, b, c⟩; exact ⟨⟨a, b⟩, c⟩

/-- every captured entry has the type recorded in the scope entry of the captured variable -/
theorem captured_types (sc : Scope) (params : List String) (body : Expr) (p : String × Ty)
    (h : p ∈ collectCaptured sc params [] body) : ∃ entry, sc.get p.1 = some entry ∧ p.2 = entry.ty := by
  rw [collect_eq] at h
  rcases foldl_captureStep_types sc _ [] p h with h | h
  · cases h
  · exact h

end Goml.Lift
