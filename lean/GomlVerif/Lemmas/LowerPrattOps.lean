import GomlVerif.Lemmas.LowerPrattFull
/-! `Model/Lower.lean` on the image of operator trees (identifiers, integers, parentheses, prefix and binary
operators) answers what `Pratt.lower` answers: the case of `lower_full` without calls, `.` and pending operations,
with the side condition stated on the tree that comes out. -/
namespace Goml.Lower
open Goml.Src Goml.Gen.BindingPower

mutual
/-- the side conditions, decidable: no variable is spelled like a constructor of the file (it would be an `EConstr`),
and every tuple index fits `usize` (beyond that `parse::<usize>` fails and the real code reports
"Invalid tuple index", which `Pratt.digitsNat` does not model) -/
def fits (C : List String) : Pratt.Ast → Bool
  | .var x => !isCtor C x
  | .lit _ => true
  | .un _ e => fits C e
  | .bin _ l r => fits C l && fits C r
  | .call f args => fits C f && fitsList C args
  | .field e _ => fits C e
  | .proj e i => fits C e && decide (i < 2 ^ 64)
def fitsList (C : List String) : List Pratt.Ast → Bool
  | [] => true
  | a :: as => fits C a && fitsList C as
end

/-- operator trees: no call, no `.` -/
def plain : Pratt.Cst → Bool
  | .ident _ => true
  | .int _ => true
  | .paren e => plain e
  | .prefix _ e => plain e
  | .binary k l r => k != .Dot && plain l && plain r
  | .call _ _ => false

/-- the nesting depth; it is `dep` on operator trees (`dep_of_plain`), where there are no argument lists to measure -/
def depth : Pratt.Cst → Nat
  | .ident _ => 1
  | .int _ => 1
  | .paren e => depth e + 1
  | .prefix _ e => depth e + 1
  | .binary _ l r => max (depth l) (depth r) + 1
  | .call _ _ => 1

theorem dep_of_plain : ∀ c : Pratt.Cst, plain c = true → dep c = depth c
  | .ident _, _ => rfl
  | .int _, _ => rfl
  | .paren e, hp => by rw [dep, depth, dep_of_plain e (by simpa [plain] using hp)]
  | .prefix _ e, hp => by rw [dep, depth, dep_of_plain e (by simpa [plain] using hp)]
  | .binary _ l r, hp => by
    simp only [plain, Bool.and_eq_true] at hp
    rw [dep, depth, dep_of_plain l hp.1.2, dep_of_plain r hp.2]
  | .call _ _, hp => by simp [plain] at hp

/-- on an operator tree the condition on the lowered tree gives the condition on the tree itself -/
theorem okC_of_plain (C : List String) : ∀ (c : Pratt.Cst) (a : Pratt.Ast),
    plain c = true → Pratt.lower c [] = some a → fits C a = true → okC C c = true
  | .ident x, a, _, h, hf => by
    simp [Pratt.lower, Pratt.applyTrail] at h
    subst h
    simpa [fits, okC] using hf
  | .int _, _, _, _, _ => rfl
  | .paren e, a, hp, h, hf => by
    simp only [Pratt.lower] at h
    cases he : Pratt.lower e [] with
    | none => simp [he] at h
    | some a' =>
      simp [he, Pratt.applyTrail] at h
      subst h
      simpa [okC] using okC_of_plain C e a' (by simpa [plain] using hp) he hf
  | .prefix k e, a, hp, h, hf => by
    simp only [Pratt.lower] at h
    cases he : Pratt.lower e [] with
    | none => simp [he] at h
    | some a' =>
      cases ho : Pratt.unOpOf k with
      | none => simp [he, ho] at h
      | some o =>
        simp [he, ho] at h
        subst h
        simpa [okC] using okC_of_plain C e a' (by simpa [plain] using hp) he (by simpa [fits] using hf)
  | .binary k l r, a, hp, h, hf => by
    simp [plain] at hp
    obtain ⟨⟨hk, hpl⟩, hpr⟩ := hp
    simp only [Pratt.lower, hk, if_false] at h
    cases hl : Pratt.lower l [] with
    | none => simp [hl] at h
    | some la =>
      cases ho : Pratt.binOpOf k with
      | none => simp [hl, ho] at h
      | some o =>
        cases hr : Pratt.lower r [] with
        | none => simp [hl, ho, hr] at h
        | some ra =>
          simp [hl, ho, hr] at h
          subst h
          simp [fits] at hf
          simp [okC, hk, okC_of_plain C l la hpl hl hf.1, okC_of_plain C r ra hpr hr hf.2]
  | .call _ _, _, hp, _, _ => by simp [plain] at hp

theorem lower_plain (C : List String) : ∀ (c : Pratt.Cst) (a : Pratt.Ast) (n : Nat) (s : St),
    plain c = true → Pratt.lower c [] = some a → fits C a = true → depth c ≤ n →
    (lowerExprW C n (embed c) [] s).1 = some (toExpr a) := fun c a n s hp h hf hn =>
  lower_full C c [] a n s (okC_of_plain C c a hp h hf) h (by rw [dep_of_plain c hp]; exact hn)

end Goml.Lower
