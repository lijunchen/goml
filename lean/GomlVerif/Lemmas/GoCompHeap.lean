import GomlVerif.Lemmas.GoCompStruct
/-!
`Ref`: the `Sem` store against the Go heap.  `ref(v)` allocates a cell on both sides (`WRel.alloc`: the
heap context grows by one), `ref_get` / `ref_set` read and write related cells (`WRel.get`, `WRel.set`);
the three runtime helpers `ref__T`, `ref_get__T`, `ref_set__T` of `go/runtime.rs` under `Go.Sem`.
-/
namespace Goml.GoComp
open Goml Goml.Go Goml.GoCompile Goml.GoFrag
open Goml.Sem (Val World)
open Goml.Dce (lookup_cons_self lookup_cons_ne)

theorem ev_addr {F ρ w ty e v w1} (h : EvS F ρ w e (.ok v w1)) :
    EvS F ρ w (.un .addr ty e) (.ok (.ptr w1.heap.size) { w1 with heap := w1.heap.push v }) :=
  stable_step h fun k hk => by rw [evalG_un, hk]; rfl

theorem ev_field_ptr {F ρ w f ty obj l n fs v w'} (h : EvS F ρ w obj (.ok (.ptr l) w'))
    (hc : w'.heap[l]? = some (.struct n fs)) (hl : lookupG fs f = some v) : EvS F ρ w (.field f ty obj) (.ok v w') :=
  stable_step h fun k hk => by rw [evalG_field, hk]; simp only [GRes.bind_ok, fieldTail, hc, hl]

theorem stmt_fieldAssign_ptr {F ρ w f ty obj e l n fs v w1 w2} (ho : EvS F ρ w obj (.ok (.ptr l) w1))
    (he : EvS F ρ w1 e (.ok v w2)) (hc : w2.heap[l]? = some (.struct n fs)) :
    StmtS F ρ w (.fieldAssign (.field f ty obj) e)
      (.ok (ρ, .normal) { w2 with heap := w2.heap.set! l (.struct n (setField fs f v)) }) :=
  stable_step₂ ho he fun k h1 h2 => by rw [execG_fieldAssign]; simp only [h1, h2, GRes.bind_ok, fieldStore, hc]

/-- a cell that is there stays where it is when the heap grows -/
theorem getElem?_push_of_some {xs : Array GVal} {c x : GVal} {l : Nat} (h : xs[l]? = some x) : (xs.push c)[l]? = some x := by
  have hlt := (Array.getElem?_eq_some_iff.mp h).1
  rw [Array.getElem?_push, if_neg (by omega)]; exact h

/-- a new cell on both sides -/
theorem WRel.alloc {env : Env} {η : Hp} {w : World} {gw : GWorld} (hw : WRel env η w gw) {v : Val} {gv : GVal} {e : Ty}
    (hv : HasTy env η v e) (hg : VRel env η v e gv) :
    η.le ⟨η.tys ++ [e], η.locs ++ [gw.heap.size], η.fns, η.imm, η.dyns⟩ ∧
    WRel env ⟨η.tys ++ [e], η.locs ++ [gw.heap.size], η.fns, η.imm, η.dyns⟩ { w with store := w.store.push v }
      { gw with heap := gw.heap.push (refCell e gv) } ∧
    VRel env ⟨η.tys ++ [e], η.locs ++ [gw.heap.size], η.fns, η.imm, η.dyns⟩ (.ref w.store.size) (.ref e) (.ptr gw.heap.size) ∧
    HasTy env ⟨η.tys ++ [e], η.locs ++ [gw.heap.size], η.fns, η.imm, η.dyns⟩ (.ref w.store.size) (.ref e) := by
  have hle : η.le ⟨η.tys ++ [e], η.locs ++ [gw.heap.size], η.fns, η.imm, η.dyns⟩ :=
    ⟨List.prefix_append _ _, List.prefix_append _ _, rfl, fun _ h => h, rfl⟩
  have hT : (η.tys ++ [e])[w.store.size]? = some e := by
    rw [← hw.lenT]; simp
  have hL : (η.locs ++ [gw.heap.size])[w.store.size]? = some gw.heap.size := by
    rw [← hw.lenL]; simp
  refine ⟨hle, ⟨hw.out, hw.externs, by simp [hw.lenT], by simp [hw.lenL], ?_, ?_, ?_, ?_, hw.cap, hw.eager⟩, by simp [VRel, hL], by simp [HasTy, hT]⟩
  · rw [List.nodup_append]
    refine ⟨hw.inj, by simp, fun a ha b hb => ?_⟩
    simp only [List.mem_singleton] at hb; subst hb
    exact fun e' => by have := hw.bound a ha; omega
  · intro gl hgl
    simp only [List.mem_append, List.mem_singleton] at hgl
    simp only [Array.size_push]
    rcases hgl with hgl | rfl
    · have := hw.bound gl hgl; omega
    · omega
  · intro l v' hl
    simp only [Array.getElem?_push] at hl
    by_cases hls : l = w.store.size
    · subst hls
      simp only [if_true, Option.some.injEq] at hl; subst hl
      refine ⟨e, gw.heap.size, gv, hT, hL, HasTy_mono hle _ _ hv, VRel_mono hle _ _ _ hg, ?_⟩
      simp
    · simp only [hls, if_false] at hl
      obtain ⟨e', gl, gv', cty, cloc, cvt, cvg, cheap⟩ := hw.cells l v' hl
      exact ⟨e', gl, gv', prefix_get hle.tys cty, prefix_get hle.locs cloc, HasTy_mono hle _ _ cvt, VRel_mono hle _ _ _ cvg,
        getElem?_push_of_some cheap⟩
  · intro loc c hm
    obtain ⟨h1, h2⟩ := hw.imm loc c hm
    have hlt : loc < gw.heap.size := (Array.getElem?_eq_some_iff.mp h1).1
    refine ⟨getElem?_push_of_some h1, fun hmem => ?_⟩
    simp only [List.mem_append, List.mem_singleton] at hmem
    rcases hmem with hmem | hmem
    · exact h2 hmem
    · omega

/-- a new immutable cell on the Go side only (the backing array of a slice, the vtable of a trait object) -/
theorem WRel.allocImm {env : Env} {η : Hp} {w : World} {gw : GWorld} (hw : WRel env η w gw) (c : GVal) :
    η.le ⟨η.tys, η.locs, η.fns, η.imm ++ [(gw.heap.size, c)], η.dyns⟩ ∧
    WRel env ⟨η.tys, η.locs, η.fns, η.imm ++ [(gw.heap.size, c)], η.dyns⟩ w { gw with heap := gw.heap.push c } := by
  have hle : η.le ⟨η.tys, η.locs, η.fns, η.imm ++ [(gw.heap.size, c)], η.dyns⟩ :=
    ⟨List.prefix_refl _, List.prefix_refl _, rfl, fun _ h => List.mem_append_left _ h, rfl⟩
  refine ⟨hle, ⟨hw.out, hw.externs, hw.lenT, hw.lenL, hw.inj, ?_, ?_, ?_, hw.cap, hw.eager⟩⟩
  · intro gl hgl
    simp only [Array.size_push]
    have := hw.bound gl hgl; omega
  · intro l v' hl
    obtain ⟨e', gl, gv', cty, cloc, cvt, cvg, cheap⟩ := hw.cells l v' hl
    exact ⟨e', gl, gv', cty, cloc, HasTy_mono hle _ _ cvt, VRel_mono hle _ _ _ cvg, getElem?_push_of_some cheap⟩
  · intro loc c' hm
    simp only [List.mem_append, List.mem_singleton, Prod.mk.injEq] at hm
    rcases hm with hm | ⟨rfl, rfl⟩
    · obtain ⟨h1, h2⟩ := hw.imm loc c' hm
      exact ⟨getElem?_push_of_some h1, h2⟩
    · refine ⟨by simp, fun hmem => ?_⟩
      have := hw.bound _ hmem; omega

theorem WRel.get {env : Env} {η : Hp} {w : World} {gw : GWorld} (hw : WRel env η w gw) {l : Nat} {e : Ty}
    (hl : HasTy env η (.ref l) (.ref e)) :
    ∃ v gl gv, w.store[l]? = some v ∧ η.locs[l]? = some gl ∧ HasTy env η v e ∧ VRel env η v e gv ∧
      gw.heap[gl]? = some (refCell e gv) := by
  simp only [HasTy] at hl
  have hlt : l < w.store.size := hw.lenT ▸ (List.getElem?_eq_some_iff.mp hl).1
  have hsome : w.store[l]? = some w.store[l] := Array.getElem?_eq_getElem hlt
  obtain ⟨e', gl, gv, cty, cloc, cvt, cvg, cheap⟩ := hw.cells l _ hsome
  rw [hl] at cty; injection cty with cty; subst cty
  exact ⟨_, gl, gv, hsome, cloc, cvt, cvg, cheap⟩

/-- `ref_set`: the Go location of the cell, `l < store.size` (for `sem_ref_set`), the old cell (premise of `ref_set_call`), and
    `WRel` after both writes -/
theorem WRel.set {env : Env} {η : Hp} {w : World} {gw : GWorld} (hw : WRel env η w gw) {l : Nat} {e : Ty}
    (hl : HasTy env η (.ref l) (.ref e)) {v : Val} {gv : GVal} (hv : HasTy env η v e) (hg : VRel env η v e gv) :
    ∃ gl, η.locs[l]? = some gl ∧ l < w.store.size ∧ (∃ old, gw.heap[gl]? = some (refCell e old)) ∧
      WRel env η { w with store := w.store.set! l v } { gw with heap := gw.heap.set! gl (refCell e gv) } := by
  obtain ⟨v0, gl, gv0, hs0, hloc, _, _, hc0⟩ := hw.get hl
  have hlt : l < w.store.size := (Array.getElem?_eq_some_iff.mp hs0).1
  have hT : η.tys[l]? = some e := by simpa [HasTy] using hl
  have hglb : gl < gw.heap.size := hw.bound gl (List.mem_of_getElem? hloc)
  refine ⟨gl, hloc, hlt, ⟨gv0, hc0⟩, ⟨hw.out, hw.externs, by simp [hw.lenT], by simp [hw.lenL], hw.inj, ?_, ?_, ?_, hw.cap, hw.eager⟩⟩
  · intro g hgm; simp only [Array.set!_eq_setIfInBounds, Array.size_setIfInBounds]; exact hw.bound g hgm
  · intro l' v' hl'
    simp only [Array.set!_eq_setIfInBounds, Array.getElem?_setIfInBounds] at hl'
    by_cases hll : l = l'
    · subst hll
      simp only [if_true, hlt, Option.some.injEq] at hl'; subst hl'
      refine ⟨e, gl, gv, hT, hloc, hv, hg, ?_⟩
      simp [hglb]
    · simp only [hll, if_false] at hl'
      obtain ⟨e', gl', gv', cty, cloc, cvt, cvg, cheap⟩ := hw.cells l' v' hl'
      refine ⟨e', gl', gv', cty, cloc, cvt, cvg, ?_⟩
      have hne : gl ≠ gl' := by
        intro heq; subst heq
        have hlen : l < η.locs.length := by rw [hw.lenL]; exact hlt
        exact hll ((List.getElem?_inj hlen hw.inj).mp (by rw [hloc, cloc]))
      simp only [Array.set!_eq_setIfInBounds, Array.getElem?_setIfInBounds, hne, if_false]
      exact cheap
  · intro loc c hm
    obtain ⟨h1, h2⟩ := hw.imm loc c hm
    have hne : gl ≠ loc := fun heq => h2 (heq ▸ List.mem_of_getElem? hloc)
    refine ⟨?_, h2⟩
    simp only [Array.set!_eq_setIfInBounds, Array.getElem?_setIfInBounds, hne, if_false]
    exact h1

/-! ### the three helpers of `make_ref_runtime` -/

/-- what the file must contain for references of element type `e` -/
structure RefLink (F : GFile) (e : Ty) : Prop where
  new : F.findFunc (helperFnName "ref" (.ref e)) = some (refFn (.ref e) e)
  get : F.findFunc (helperFnName "ref_get" (.ref e)) = some (refGetFn (.ref e) e)
  set : F.findFunc (helperFnName "ref_set" (.ref e)) = some (refSetFn (.ref e) e)
  table : ∃ decl, F.structFields (refStructName e) = some decl ∧ decl.map (·.1) = ["value"]

theorem slit_refCell {F : GFile} {e : Ty} (hl : RefLink F e) (gv : GVal) :
    slitValue F (refStructName e) [("value", gv)] = refCell e gv := by
  obtain ⟨decl, hd, hn⟩ := hl.table
  exact slit_zip (names := ["value"]) (gs := [gv]) hd hn (by simp) rfl

theorem ref_new_call {F : GFile} {e : Ty} (hl : RefLink F e) (gw : GWorld) (gv : GVal) :
    CallS F gw (.func (helperFnName "ref" (.ref e))) [gv]
      (.ok (.ptr gw.heap.size) { gw with heap := gw.heap.push (refCell e gv) }) := by
  have hx : EvS F [("value", gv)] gw (sV "value" (goTy e)) (.ok gv gw) := ev_var_some (lookup_cons_self _ _ _)
  have hs := ev_slit_name (name := refStructName e) (evf_cons (n := "value") hx evf_nil)
  rw [slit_refCell hl] at hs
  have ha := ev_addr (ty := .ptr (.name (refStructName e))) hs
  exact call_func_env hl.new rfl (block_cons_sig (rest := []) (by simp) (stmt_ret ha)) rfl

theorem ref_get_call {F : GFile} {e : Ty} (hl : RefLink F e) (gw : GWorld) (gl : Nat) (gv : GVal)
    (hc : gw.heap[gl]? = some (refCell e gv)) :
    CallS F gw (.func (helperFnName "ref_get" (.ref e))) [.ptr gl] (.ok gv gw) := by
  have hx : EvS F [("reference", GVal.ptr gl)] gw (sV "reference" (.ptr (.name (refStructName e)))) (.ok (.ptr gl) gw) :=
    ev_var_some (lookup_cons_self _ _ _)
  have hf := ev_field_ptr (f := "value") (ty := goTy e) hx hc (lookup_cons_self _ _ _)
  exact call_func_env hl.get rfl (block_cons_sig (rest := []) (by simp) (stmt_ret hf)) rfl

theorem ref_set_call {F : GFile} {e : Ty} (hl : RefLink F e) (gw : GWorld) (gl : Nat) (old gv : GVal)
    (hc : gw.heap[gl]? = some (refCell e old)) :
    CallS F gw (.func (helperFnName "ref_set" (.ref e))) [.ptr gl, gv]
      (.ok .unit { gw with heap := gw.heap.set! gl (refCell e gv) }) := by
  have hne : ("value" : String) ≠ "reference" := by decide
  have hx : EvS F [("reference", GVal.ptr gl), ("value", gv)] gw (sV "reference" (.ptr (.name (refStructName e)))) (.ok (.ptr gl) gw) :=
    ev_var_some (lookup_cons_self _ _ _)
  have hv : EvS F [("reference", GVal.ptr gl), ("value", gv)] gw (sV "value" (goTy e)) (.ok gv gw) :=
    ev_var_some (by rw [lookup_cons_ne _ _ (fun h => hne h.symm)]; exact lookup_cons_self _ _ _)
  have hs := stmt_fieldAssign_ptr (f := "value") (ty := goTy e) hx hv hc
  have hsf : setField [("value", old)] "value" gv = [("value", gv)] := by simp [setField]
  simp only [refCell] at hc hs ⊢
  rw [hsf] at hs
  exact call_func_env hl.set rfl (block_cons hs (block_cons_sig (rest := []) (by simp) (stmt_ret ev_unitv))) rfl

end Goml.GoComp
