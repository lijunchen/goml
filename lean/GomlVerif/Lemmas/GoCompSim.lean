import GomlVerif.Lemmas.GoCompDyn
import GomlVerif.Lemmas.GoCompShape
/-!
Forward simulation `Sem` (ANF) ⟶ `Go.Sem` (output of `GoCompile`) for the fragment (`fragA`): statements of the
induction (`SimAt n`, one field per mutually dependent statement, indexed by the `Sem` fuel) and the
expression-level step `SimV`.
-/
namespace Goml.GoComp
open Goml Goml.Go Goml.GoCompile Goml.GoFrag
open Goml.Sem (Val World Res)
open Goml.Dce (keys keys_update)

attribute [local irreducible] Goml.GoCompile.vn Goml.GoCompile.gid Goml.GoCompile.rn

/-- what the proof needs to know about the two programs: `P` is the `Sem` program of the ANF file,
    `F` the Go file the back end emits for it -/
structure Link (env : Env) (file : AFile) (G : List String) (P : Prog) (F : GFile) : Prop where
  rt : RtLink F
  fnSrc : ∀ g, g ∈ file → g.name ∈ G → P.findFn g.name = some g.toFn
  fnGo : ∀ g, g ∈ file → g.name ∈ G →
    ∃ st, F.findFunc (fnName g.name) = some (compileFn env st g).1 ∧ localOK env file G st g = true
  builtinSrc : ∀ b, b ∈ builtinNames → P.findFn b = none
  refSrc : ∀ b, b ∈ refNames → P.findFn b = none
  refGo : ∀ e, refTyOK env file (.ref e) = true → RefLink F e
  tupGo : ∀ ts, tupleTyOK env file (.tuple ts) = true → TupLink F ts
  arrSrc : ∀ b, b ∈ arrNames → P.findFn b = none
  arrGo : ∀ len e, arrTyOK env file (.array len e) = true → ArrLink F len e
  vecSrc : ∀ b, b ∈ vecNames → P.findFn b = none
  vecGo : VecLink F
  dynGo : ∀ tr forTy, (tr, forTy) ∈ dynTable env file G → DynLink env F tr forTy
  /-- `Sem`'s dynamic dispatch finds the function the wrapper calls (the hypothesis `implsOK` on the program) -/
  impls : ∀ tr forTy, (tr, forTy) ∈ dynTable env file G → ∀ s, s ∈ (traitMethodSigs env tr).getD [] →
    ∃ i, P.impls.find? (fun i => i.1 == tr && i.2.1 == Sem.tyKey forTy && i.2.2.1 == s.1) = some i ∧
      i.2.2.2 = Goml.Mono.traitImplFnName tr forTy s.1
  ty : TyLink env F

/-- the function table of the heap context is `fnSigs file G`, and the Go name of every function in it is one of `Bad`
    (no Go variable is spelled like a function that may be used as a value) -/
structure FCtx (env : Env) (file : AFile) (G : List String) (Bad : List String) (η : Hp) : Prop where
  eq : η.fns = fnSigs file G
  bad : ∀ e, e ∈ η.fns → vn e.1 ∈ Bad
  /-- the table of admissible vtables of the heap context is the one of the fragment -/
  deq : η.dyns = dynTable env file G

theorem FCtx.mono {env : Env} {file : AFile} {G Bad : List String} {η η' : Hp} (h : FCtx env file G Bad η) (hle : η.le η') :
    FCtx env file G Bad η' :=
  ⟨by rw [hle.fns]; exact h.eq, fun e he => h.bad e (by rw [← hle.fns]; exact he), by rw [hle.dyns]; exact h.deq⟩

theorem FCtx.rel {env : Env} {file : AFile} {G Bad : List String} {η : Hp} (h : FCtx env file G Bad η) {gρ : GEnv}
    (hgood : ∀ y, y ∈ keys gρ → ¬ y ∈ Bad) : FnRel file G η gρ :=
  ⟨h.eq, fun e he => Goml.Dce.lookup_none_of_not_key (fun hk => hgood _ hk (h.bad e he))⟩

/-- where the value of an assigned expression goes -/
def post (m : Mode) (gρ : GEnv) (gv : GVal) : GEnv :=
  match m with
  | .effect => gρ
  | .assign t => updateG gρ (gid t) gv

theorem keys_post (m : Mode) (gρ : GEnv) (gv : GVal) : keys (post m gρ gv) = keys gρ := by
  cases m with
  | effect => rfl
  | assign t => exact keys_update _ _ _

theorem length_post (m : Mode) (gρ : GEnv) (gv : GVal) : (post m gρ gv).length = gρ.length := by
  cases m with
  | effect => rfl
  | assign t => exact Dce.length_update _ _ _

theorem post_append {m : Mode} {D : GEnv} (gρ : GEnv) (gv : GVal) (h : ∀ t, m = .assign t → ¬ gid t ∈ keys D) :
    post m (D ++ gρ) gv = D ++ post m gρ gv := by
  cases m with
  | effect => rfl
  | assign t => exact Dce.update_append_left (h t rfl) gρ gv

theorem post_cons_ne {m : Mode} {b : String} (sv : GVal) (gρ : GEnv) (gv : GVal) (h : ∀ t, m = .assign t → b ≠ gid t) :
    post m ((b, sv) :: gρ) gv = (b, sv) :: post m gρ gv :=
  post_append (D := [(b, sv)]) gρ gv fun t ht => by
    simp only [Goml.Dce.keys_cons, Goml.Dce.keys_nil, List.mem_singleton]
    exact fun e => h t ht e.symm

/-- the target of an assignment is a declared Go variable that no source variable in scope uses;
    an expression compiled for its effect has type unit -/
def TgtOK (m : Mode) (Γ : Ctx) (gρ : GEnv) (ty : Ty) : Prop :=
  match m with
  | .effect => ty = .unit
  | .assign t => gid t ∈ keys gρ ∧ ∀ x tx, lookupTy Γ x = some tx → vn x ≠ gid t

/-- what a run of the compiled statements `S` must do, given what the `Sem` run did -/
def Concl (env : Env) (η : Hp) (F : GFile) (S : List GStmt) (m : Mode) (gρ : GEnv) (gw : GWorld) (ty : Ty) : Res Val → Prop
  | .ok v w' => ∃ η', η.le η' ∧ ∃ D gv gw', BlockS F gρ gw S (.ok (D ++ post m gρ gv, .normal) gw') ∧ VRel env η' v ty gv ∧
      HasTy env η' v ty ∧ WRel env η' w' gw' ∧ (∀ y, y ∈ keys D → y ∈ topDecls S)
  | .fail (.panic k) w' => ∃ η', η.le η' ∧ ∃ gw', BlockS F gρ gw S (.fail (.panic k) gw') ∧ WRel env η' w' gw'
  | _ => True

/-- forms whose `Sem` evaluation leaves the world and the heap context as they are: everything but calls and `toDyn`
    (which allocates the vtable cell) -/
def pureC : CExpr → Bool
  | .imm _ => true
  | .constr _ _ _ => true
  | .tuple _ _ => true
  | .array _ _ => true
  | .cget _ _ _ _ => true
  | .un _ _ _ => true
  | .bin _ _ _ _ => true
  | .proj _ _ _ => true
  | _ => false

/-- forms whose `Sem` evaluation can panic (division, calls) -/
def mayPanicC : CExpr → Bool
  | .bin _ _ _ _ => true
  | .call _ _ _ => true
  | .dynCall _ _ _ _ _ => true
  | _ => false

/-- as `Concl`, at expression level (a simple `CExpr` compiled by `compile_cexpr`); `pure`: the form
    cannot touch the world, and then the `Sem` world after it is the one before (`w`); only the forms
    of `mayPanic` panic -/
def ConclV (env : Env) (η : Hp) (F : GFile) (e : GExpr) (gρ : GEnv) (gw : GWorld) (ty : Ty) (pure mayPanic : Bool) (w : World) : Res Val → Prop
  | .ok v w' => ∃ η', η.le η' ∧ ∃ gv gw', EvS F gρ gw e (.ok gv gw') ∧ VRel env η' v ty gv ∧ HasTy env η' v ty ∧ WRel env η' w' gw' ∧
      (pure = true → w' = w ∧ η' = η)
  | .fail (.panic k) w' => ∃ η', η.le η' ∧ ∃ gw', EvS F gρ gw e (.fail (.panic k) gw') ∧ WRel env η' w' gw' ∧ mayPanic = true
  | _ => True

/-- a call: `Sem.apply` of a named function against `callG` of its Go name -/
def ConclCall (env : Env) (η : Hp) (F : GFile) (gname : String) (gvs : List GVal) (gw : GWorld) (ty : Ty) : Res Val → Prop
  | .ok v w' => ∃ η', η.le η' ∧ ∃ gv gw', CallS F gw (.func gname) gvs (.ok gv gw') ∧ VRel env η' v ty gv ∧ HasTy env η' v ty ∧
      WRel env η' w' gw'
  | .fail (.panic k) w' => ∃ η', η.le η' ∧ ∃ gw', CallS F gw (.func gname) gvs (.fail (.panic k) gw') ∧ WRel env η' w' gw'
  | _ => True

theorem concl_eq (env : Env) (η : Hp) (F : GFile) (S : List GStmt) (m : Mode) (gρ : GEnv) (gw : GWorld) (ty : Ty) (r : Res Val) :
    Concl env η F S m gρ gw ty r =
      Outc (fun v w' => ∃ η', η.le η' ∧ ∃ D gv gw', BlockS F gρ gw S (.ok (D ++ post m gρ gv, .normal) gw') ∧ VRel env η' v ty gv ∧
          HasTy env η' v ty ∧ WRel env η' w' gw' ∧ (∀ y, y ∈ keys D → y ∈ topDecls S))
        (fun k w' => ∃ η', η.le η' ∧ ∃ gw', BlockS F gρ gw S (.fail (.panic k) gw') ∧ WRel env η' w' gw') r := by
  cases r with
  | ok v w => rfl
  | fail f w => cases f <;> rfl

theorem conclV_eq (env : Env) (η : Hp) (F : GFile) (e : GExpr) (gρ : GEnv) (gw : GWorld) (ty : Ty) (pure mayPanic : Bool) (w : World)
    (r : Res Val) :
    ConclV env η F e gρ gw ty pure mayPanic w r =
      Outc (fun v w' => ∃ η', η.le η' ∧ ∃ gv gw', EvS F gρ gw e (.ok gv gw') ∧ VRel env η' v ty gv ∧ HasTy env η' v ty ∧
          WRel env η' w' gw' ∧ (pure = true → w' = w ∧ η' = η))
        (fun k w' => ∃ η', η.le η' ∧ ∃ gw', EvS F gρ gw e (.fail (.panic k) gw') ∧ WRel env η' w' gw' ∧ mayPanic = true) r := by
  cases r with
  | ok v w => rfl
  | fail f w => cases f <;> rfl

/-- immediates evaluated first leave a conclusion about the rest as it is -/
theorem concl_imm {env : Env} {η : Hp} {F : GFile} {S : List GStmt} {m : Mode} {gρ : GEnv} {gw : GWorld} {ty : Ty} {P : Prog}
    {ρ : Sem.Env} {w : World} {e : Expr} {v : Val} {K : Val → World → Res Val} {n : Nat}
    (hs : ∀ n w, Sem.eval (n + 1) P ρ w e = .ok v w) (h : Concl env η F S m gρ gw ty (K v w)) :
    Concl env η F S m gρ gw ty ((Sem.eval n P ρ w e).andThen K) := by
  rw [concl_eq] at h ⊢; exact (imm_outc hs n).of_pure h

theorem conclV_imm {env : Env} {η : Hp} {F : GFile} {ge : GExpr} {gρ : GEnv} {gw : GWorld} {ty : Ty} {pu mp : Bool} {w0 : World}
    {P : Prog} {ρ : Sem.Env} {w : World} {e : Expr} {v : Val} {K : Val → World → Res Val} {n : Nat}
    (hs : ∀ n w, Sem.eval (n + 1) P ρ w e = .ok v w) (h : ConclV env η F ge gρ gw ty pu mp w0 (K v w)) :
    ConclV env η F ge gρ gw ty pu mp w0 ((Sem.eval n P ρ w e).andThen K) := by
  rw [conclV_eq] at h ⊢; exact (imm_outc hs n).of_pure h

theorem conclV_imms {env : Env} {η : Hp} {F : GFile} {ge : GExpr} {gρ : GEnv} {gw : GWorld} {ty : Ty} {pu mp : Bool} {w0 : World}
    {P : Prog} {ρ : Sem.Env} {w : World} {es : List Expr} {vs : List Val} {K : List Val → World → Res Val} {n : Nat}
    (hs : ∀ n w, Outc (fun vs' w' => vs = vs' ∧ w = w') (fun _ _ => False) (Sem.evalList n P ρ w es))
    (h : ConclV env η F ge gρ gw ty pu mp w0 (K vs w)) :
    ConclV env η F ge gρ gw ty pu mp w0 ((Sem.evalList n P ρ w es).andThen K) := by
  rw [conclV_eq] at h ⊢; exact (hs n w).of_pure h

theorem conclCall_eq (env : Env) (η : Hp) (F : GFile) (gname : String) (gvs : List GVal) (gw : GWorld) (ty : Ty) (r : Res Val) :
    ConclCall env η F gname gvs gw ty r =
      Outc (fun v w' => ∃ η', η.le η' ∧ ∃ gv gw', CallS F gw (.func gname) gvs (.ok gv gw') ∧ VRel env η' v ty gv ∧
          HasTy env η' v ty ∧ WRel env η' w' gw')
        (fun k w' => ∃ η', η.le η' ∧ ∃ gw', CallS F gw (.func gname) gvs (.fail (.panic k) gw') ∧ WRel env η' w' gw') r := by
  cases r with
  | ok v w => rfl
  | fail f w => cases f <;> rfl

section
variable (env : Env) (file : AFile) (G : List String) (P : Prog) (F : GFile)

/-- calls of functions of `G` -/
def SimU (n : Nat) : Prop :=
  ∀ g, g ∈ file → g.name ∈ G → ∀ (η : Hp) (vs : List Val) (gvs : List GVal) (w : World) (gw : GWorld),
    η.fns = fnSigs file G → η.dyns = dynTable env file G → ArgsRel env η vs gvs (g.params.map (·.2)) → WRel env η w gw →
    ConclCall env η F (fnName g.name) gvs gw g.ret (Sem.apply n P w (.fn g.name) vs)

/-- calls of builtins -/
def SimB (n : Nat) : Prop :=
  ∀ b ps r, b ∈ builtinNames → builtinSig b = some (ps, r) → ∀ (η : Hp) (vs : List Val) (gvs : List GVal) (w : World) (gw : GWorld),
    ArgsRel env η vs gvs ps → WRel env η w gw → ConclCall env η F b gvs gw r (Sem.apply n P w (.fn b) vs)

/-- simple complex expressions (everything `compile_cexpr` handles) -/
def SimV (n : Nat) : Prop :=
  ∀ (c : CExpr) (η : Hp) (Γ : Ctx) (K : KCtx) (ρ : Sem.Env) (w : World) (gρ : GEnv) (gw : GWorld) (Bad : List String),
    isCtl c = false → isGoC c = false → fragC env file G Γ K c = true → EnvRel env η Γ ρ gρ → KRel K ρ → WRel env η w gw →
    (∀ y, y ∈ keys gρ → ¬ y ∈ Bad) → FCtx env file G Bad η → (∀ x, x ∈ calleesC (Γ.map (·.1)) c → x ∈ Bad) →
    ConclV env η F (compileCExpr env c) gρ gw c.annTy (pureC c) (mayPanicC c) w (Sem.eval n P ρ w c.toExpr)

/-- the statement `go f(env)`: the `Sem` run of `go e` (value unit) against the Go statement, which leaves the Go
    environment as it is -/
def ConclG (η : Hp) (s : GStmt) (gρ : GEnv) (gw : GWorld) : Res Val → Prop
  | .ok v w' => v = .unit ∧ ∃ η', η.le η' ∧ ∃ gw', StmtS F gρ gw s (.ok (gρ, .normal) gw') ∧ WRel env η' w' gw'
  | .fail (.panic k) w' => ∃ η', η.le η' ∧ ∃ gw', StmtS F gρ gw s (.fail (.panic k) gw') ∧ WRel env η' w' gw'
  | _ => True

theorem conclG_eq (η : Hp) (s : GStmt) (gρ : GEnv) (gw : GWorld) (r : Res Val) :
    ConclG env F η s gρ gw r =
      Outc (fun v w' => v = .unit ∧ ∃ η', η.le η' ∧ ∃ gw', StmtS F gρ gw s (.ok (gρ, .normal) gw') ∧ WRel env η' w' gw')
        (fun k w' => ∃ η', η.le η' ∧ ∃ gw', StmtS F gρ gw s (.fail (.panic k) gw') ∧ WRel env η' w' gw') r := by
  cases r with
  | ok v w => rfl
  | fail f w => cases f <;> rfl

/-- `go e` as a statement (`compile_go`) -/
def SimG (n : Nat) : Prop :=
  ∀ (e : Imm) (ty : Ty) (η : Hp) (Γ : Ctx) (K : KCtx) (ρ : Sem.Env) (w : World) (gρ : GEnv) (gw : GWorld) (Bad : List String),
    fragC env file G Γ K (.go e ty) = true → EnvRel env η Γ ρ gρ → WRel env η w gw →
    (∀ y, y ∈ keys gρ → ¬ y ∈ Bad) → FCtx env file G Bad η → (∀ x, x ∈ calleesC (Γ.map (·.1)) (.go e ty) → x ∈ Bad) →
    ConclG env F η (compileGo env e) gρ gw (Sem.eval n P ρ w (CExpr.go e ty).toExpr)

/-- `AExpr`s in either statement lowering -/
def SimA (n : Nat) : Prop :=
  ∀ (m : Mode) (st : St) (e : AExpr) (η : Hp) (Γ : Ctx) (K : KCtx) (ρ : Sem.Env) (w : World) (gρ : GEnv) (gw : GWorld) (Bad : List String),
    fragA env file G Γ K e = true → EnvRel env η Γ ρ gρ → KRel K ρ → WRel env η w gw →
    GInv Bad (compileA env m st e).1 gρ → TgtOK m Γ gρ (aTy e) → "_" ∈ Bad → FCtx env file G Bad η → (∀ x, x ∈ calleesA (Γ.map (·.1)) e → x ∈ Bad) →
    Concl env η F (compileA env m st e).1 m gρ gw (aTy e) (Sem.eval n P ρ w e.toExpr)

/-- `CExpr`s in tail position of either statement lowering -/
def SimC (n : Nat) : Prop :=
  ∀ (m : Mode) (st : St) (c : CExpr) (η : Hp) (Γ : Ctx) (K : KCtx) (ρ : Sem.Env) (w : World) (gρ : GEnv) (gw : GWorld) (Bad : List String),
    fragC env file G Γ K c = true → EnvRel env η Γ ρ gρ → KRel K ρ → WRel env η w gw →
    GInv Bad (compileTail env m st c).1 gρ → TgtOK m Γ gρ c.annTy → "_" ∈ Bad → FCtx env file G Bad η → (∀ x, x ∈ calleesC (Γ.map (·.1)) c → x ∈ Bad) →
    Concl env η F (compileTail env m st c).1 m gρ gw c.annTy (Sem.eval n P ρ w c.toExpr)

/-- the loop statement `compile_while` builds, started in an environment that holds the condition variable -/
def loopBody (cv : String) (st : St) (c b : AExpr) : List GStmt :=
  (compileA env (.assign cv) st c).1 ++
    [GStmt.ite (.un .not .bool (.var (gid cv) .bool)) [.brk] none] ++
    (compileA env .effect (compileA env (.assign cv) st c).2 b).1

/-- the loop leaves by `break`, the condition variable being false in the Go environment -/
def SimL (n : Nat) : Prop :=
  ∀ (cv : String) (st : St) (c b : AExpr) (η : Hp) (Γ : Ctx) (K : KCtx) (ρ : Sem.Env) (w : World) (gρ : GEnv) (gw : GWorld) (Bad : List String),
    fragA env file G Γ K c = true → aTy c = .bool → fragA env file G Γ K b = true → aTy b = .unit →
    EnvRel env η Γ ρ gρ → KRel K ρ → WRel env η w gw → GInv Bad (loopBody env cv st c b) gρ → TgtOK (.assign cv) Γ gρ .bool → "_" ∈ Bad → FCtx env file G Bad η →
    (∀ x, x ∈ calleesA (Γ.map (·.1)) c ++ calleesA (Γ.map (·.1)) b → x ∈ Bad) →
    Outc (fun v w' => v = .unit ∧ ∃ η', η.le η' ∧ ∃ gw', StmtS F gρ gw (.loop (loopBody env cv st c b))
        (.ok (updateG gρ (gid cv) (.bool false), .normal) gw') ∧ WRel env η' w' gw')
      (fun k w' => ∃ η', η.le η' ∧ ∃ gw', StmtS F gρ gw (.loop (loopBody env cv st c b)) (.fail (.panic k) gw') ∧ WRel env η' w' gw')
      (Sem.eval n P ρ w (.while c.toExpr b.toExpr))

/-- what the selected clause of a `switch` / type switch must do (the clauses are nested blocks:
    nothing they declare survives) -/
def ConclSw (env : Env) (η : Hp) (run : GRes (GEnv × Sig) → Prop) (m : Mode) (gρ : GEnv) (ty : Ty) : Res Val → Prop :=
  Outc (fun v w' => ∃ η', η.le η' ∧ ∃ gv gw', run (.ok (post m gρ gv, .normal) gw') ∧ VRel env η' v ty gv ∧ HasTy env η' v ty ∧
      WRel env η' w' gw')
    (fun k w' => ∃ η', η.le η' ∧ ∃ gw', run (.fail (.panic k) gw') ∧ WRel env η' w' gw')

/-- the clauses of a `switch` and its default are about to run in `gρ`: each is its own block -/
structure GInvA (Bad : List String) (ra : List (Imm × List GStmt)) (rd : Option (List GStmt)) (gρ : GEnv) : Prop where
  arms : ∀ p, p ∈ ra → GInv Bad p.2 gρ
  dflt : match rd with | some b => GInv Bad b gρ | none => True
  goodK : ∀ y, y ∈ keys gρ → ¬ y ∈ Bad

/-- the arms of a `match` on an enum variable against the clauses of the type switch; `gρ` already
    holds the binding of the switch -/
def SimME (n : Nat) : Prop :=
  ∀ (m : Mode) (st : St) (arms : List AArm) (d : ADflt) (ty : Ty) (η : Hp) (Γ : Ctx) (K : KCtx) (ρ : Sem.Env) (w : World)
    (gρ : GEnv) (gw : GWorld) (Bad : List String) (x en : String) (i : Nat) (vs : List Val) (gv : GVal),
    fragArms env file G Γ K (.enumK x (.enum en)) ty arms = true → fragD env file G Γ K ty d = true →
    EnvRel env η Γ ρ gρ → KRel K ρ → WRel env η w gw →
    Sem.lookupEnv ρ x = some (.enumV en i vs) → HasTy env η (.enumV en i vs) (.enum en) → VRel env η (.enumV en i vs) (.enum en) gv →
    GInvA Bad (compileArms env m st arms).1 (compileDflt env m (compileArms env m st arms).2 d).1 gρ →
    TgtOK m Γ gρ ty → "_" ∈ Bad → FCtx env file G Bad η → (∀ c, c ∈ calleesArms (Γ.map (·.1)) arms ++ calleesD (Γ.map (·.1)) d → c ∈ Bad) →
    ConclSw env η (TSwS F gρ gw gv (typeCases env (compileArms env m st arms).1) (compileDflt env m (compileArms env m st arms).2 d).1)
      m gρ ty (Sem.evalArms n P ρ w (.enumV en i vs) (armsToExpr arms) (dfltToExpr d))

/-- the arms of a `match` on a bool / integer / string against the cases of the value switch -/
def SimMV (n : Nat) : Prop :=
  ∀ (m : Mode) (st : St) (arms : List AArm) (d : ADflt) (ty sty : Ty) (η : Hp) (Γ : Ctx) (K : KCtx) (ρ : Sem.Env) (w : World)
    (gρ : GEnv) (gw : GWorld) (Bad : List String) (v : Val) (gv : GVal),
    switchTy sty = true → fragArms env file G Γ K (.valK sty) ty arms = true → fragD env file G Γ K ty d = true →
    EnvRel env η Γ ρ gρ → KRel K ρ → WRel env η w gw → HasTy env η v sty → VRel env η v sty gv →
    GInvA Bad (compileArms env m st arms).1 (compileDflt env m (compileArms env m st arms).2 d).1 gρ →
    TgtOK m Γ gρ ty → "_" ∈ Bad → FCtx env file G Bad η → (∀ c, c ∈ calleesArms (Γ.map (·.1)) arms ++ calleesD (Γ.map (·.1)) d → c ∈ Bad) →
    ConclSw env η (SwS F gρ gw gv (valueCases (matchKind sty) (compileArms env m st arms).1) (compileDflt env m (compileArms env m st arms).2 d).1)
      m gρ ty (Sem.evalArms n P ρ w v (armsToExpr arms) (dfltToExpr d))

/-- the statements a `match` on unit becomes: the first arm, else the default, in place -/
def unitStmts (m : Mode) (st : St) (arms : List AArm) (d : ADflt) : List GStmt × St :=
  if arms.isEmpty then compileDfltUnit env m st d else compileFirstArm env m st arms

/-- what `fragC` asks of a `match` on a unit scrutinee -/
def fragUnit (Γ : Ctx) (K : KCtx) (ty : Ty) (arms : List AArm) (d : ADflt) : Bool :=
  if arms.isEmpty then isSomeD d && fragD env file G Γ K ty d else fragFirst env file G Γ K ty arms

/-- the arms of a `match` on unit: no switch, `unitStmts` in place -/
def SimMU (n : Nat) : Prop :=
  ∀ (m : Mode) (st : St) (arms : List AArm) (d : ADflt) (ty : Ty) (η : Hp) (Γ : Ctx) (K : KCtx) (ρ : Sem.Env) (w : World)
    (gρ : GEnv) (gw : GWorld) (Bad : List String),
    fragUnit env file G Γ K ty arms d = true → EnvRel env η Γ ρ gρ → KRel K ρ → WRel env η w gw →
    GInv Bad (unitStmts env m st arms d).1 gρ → TgtOK m Γ gρ ty → "_" ∈ Bad → FCtx env file G Bad η →
    (∀ c, c ∈ calleesArms (Γ.map (·.1)) arms ++ calleesD (Γ.map (·.1)) d → c ∈ Bad) →
    Concl env η F (unitStmts env m st arms d).1 m gρ gw ty (Sem.evalArms n P ρ w .unit (armsToExpr arms) (dfltToExpr d))

structure SimAt (n : Nat) : Prop where
  u : SimU env file G P F n
  b : SimB env P F n
  v : SimV env file G P F n
  a : SimA env file G P F n
  c : SimC env file G P F n
  l : SimL env file G P F n
  me : SimME env file G P F n
  mv : SimMV env file G P F n
  mu : SimMU env file G P F n
  g : SimG env file G P F n
end

end Goml.GoComp
