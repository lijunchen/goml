import GomlVerif.Lemmas.SemFuel
/-!
The continuations of the interpreter body (`stepE`, `Lemmas/SemStep.lean`) read as relations on results, by name: what
happens after the condition of an `if`, after the left operand of an operator, … in terms of the fuel-free relations `Ev`,
`EvL`, `App`.  `Lemmas/SemEv.lean` proves that `Ev` obeys them.
-/
namespace Goml.Sem
open Goml

def lookupVal (ρ : Env) (x : String) : Val :=
  match lookupEnv ρ x with
  | some v => v
  | none => .fn x

theorem lookupVal_eq (ρ : Env) (x : String) : lookupVal ρ x = (lookupEnv ρ x).getD (.fn x) := by
  unfold lookupVal; cases lookupEnv ρ x <;> rfl

theorem lookupVal_cons_self (y : String) (v : Val) (ρ : Env) : lookupVal ((y, v) :: ρ) y = v := by
  unfold lookupVal; rw [lookupEnv_cons_self]

theorem lookupVal_congr {ρ ρ' : Env} {x : String} (h : lookupEnv ρ x = lookupEnv ρ' x) :
    lookupVal ρ x = lookupVal ρ' x := by
  unfold lookupVal; rw [h]

def iteK (P : Prog) (t e : Expr) (ρ : Env) (v : Val) (w : World) (r : Res Val) : Prop :=
  match v with
  | .bool true => Ev P t ρ w r
  | .bool false => Ev P e ρ w r
  | _ => r = .fail (.stuck "if on a non-boolean") w

def goK (P : Prog) (v : Val) (w : World) (r : Res Val) : Prop :=
  if w.eager then RB (App P w v []) (fun _ w'' r => r = .ok .unit w'') r
  else r = .ok .unit { w with spawned := w.spawned ++ [v] }

def dynDispatch (P : Prog) (tr m key : String) (v : Val) (vs : List Val) (w : World) (r : Res Val) : Prop :=
  match P.impls.find? (fun i => i.1 == tr && i.2.1 == key && i.2.2.1 == m) with
  | some i => App P w (.fn i.2.2.2) (v :: vs) r
  | none => r = .fail (.stuck ("no impl of " ++ tr ++ " for " ++ key)) w

def dynK (P : Prog) (tr m : String) (args : List Expr) (ρ : Env) (v : Val) (w : World) (r : Res Val) : Prop :=
  match v with
  | .dyn _ key v0 => RB (EvL P args ρ w) (fun vs w2 => dynDispatch P tr m key v0 vs w2) r
  | _ => r = .fail (.stuck "dyn call on a non-dyn value") w

/-- the left operand alone decides -/
def scVal : BinOp → Val → Option Val
  | .and, .bool false => some (.bool false)
  | .or, .bool true => some (.bool true)
  | _, _ => none

def binK (P : Prog) (op : BinOp) (rhs : Expr) (ρ : Env) (a : Val) (w : World) (r : Res Val) : Prop :=
  match scVal op a with
  | some v => r = .ok v w
  | none =>
    if logicalNonBool op a then r = .fail (.stuck "logical operator on a non-boolean") w
    else RB (Ev P rhs ρ w) (fun b w'' r => r = exceptRes (binop op a b) w'') r

def whileK (P : Prog) (c b : Expr) (ρ : Env) (v : Val) (w : World) (r : Res Val) : Prop :=
  match v with
  | .bool true => RB (Ev P b ρ w) (fun _ w'' => Ev P (.while c b) ρ w'') r
  | .bool false => r = .ok .unit w
  | _ => r = .fail (.stuck "while on a non-boolean") w

end Goml.Sem
