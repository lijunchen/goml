import GomlVerif.Lemmas.C06Sound
/-!
The five row steps of `plan` (`specLit`, `specDflt`, `specEnum`, `specTuple`, `specStruct`) under one description:
a step drops a row, or expands columns on the branch variable into columns on fresh names.  What a successful step
returns is read off its definition once (`spec…_exp`); only `specDflt_all_drop` (`Lemmas/C06Aux.lean`) evaluates a step again.
-/
namespace Goml.Match
open Goml Goml.Sem

variable {β : Type}

structure Ext (ρ ρ' : Env) (names : List String) (vs : List Val) : Prop where
  hmap : names.map (lookupVar ρ') = vs
  hother : ∀ y, y ∉ names → lookupVar ρ' y = lookupVar ρ y

theorem ext_bindParams (ρ : Env) (names : List String) (vs : List Val) (hnd : names.Nodup)
    (hlen : names.length = vs.length) : Ext ρ (bindParams names vs ρ) names vs :=
  ⟨map_lookup_bindParams names vs ρ hnd hlen, fun y hy => lookupVar_bindParams_notin names vs ρ y hy⟩

/-- `cols'` is `cols` with columns on `bv` replaced by one column per sub-pattern (`sub`: which patterns a step expands,
    and into what).  `expand`: in place, every column on `bv`, as `expandTuple` and `expandStruct` do (`all = true`).
    `first`: only the first column on `bv`, its expansion going to the end, as `specEnum` does, and `specLit` with no
    sub-patterns (`all = false`). -/
inductive Expands (all : Bool) (sub : Pat → Option (List Pat)) (bv : String) (names : List String) :
    List (String × Pat) → List (String × Pat) → Prop where
  | nil : Expands all sub bv names [] []
  | keep {c : String × Pat} {cs rest : List (String × Pat)} : c.1 ≠ bv → Expands all sub bv names cs rest →
      Expands all sub bv names (c :: cs) (c :: rest)
  | expand {c : String × Pat} {ps : List Pat} {cs rest : List (String × Pat)} : c.1 = bv → sub c.2 = some ps →
      Expands all sub bv names cs rest → Expands all sub bv names (c :: cs) (names.zip ps ++ rest)
  | first {c : String × Pat} {ps : List Pat} {cs : List (String × Pat)} : all = false → c.1 = bv →
      sub c.2 = some ps → Expands all sub bv names (c :: cs) (cs ++ names.zip ps)

theorem Expands.of_none {all : Bool} {sub : Pat → Option (List Pat)} {bv : String} {names : List String} :
    ∀ {cols : List (String × Pat)}, removeCol bv cols = none → Expands all sub bv names cols cols := by
  intro cols h
  have hne := removeCol_none h
  clear h
  induction cols with
  | nil => exact .nil
  | cons c cs ih => exact .keep (hne c (by simp)) (ih (fun d hd => hne d (by simp [hd])))

theorem Expands.of_removeCol {sub : Pat → Option (List Pat)} {bv : String} {names : List String} {ps : List Pat} :
    ∀ {cols cs : List (String × Pat)} {q : Pat}, removeCol bv cols = some (q, cs) → sub q = some ps →
      Expands false sub bv names cols (cs ++ names.zip ps) := by
  intro cols
  induction cols with
  | nil => intro cs q h; simp [removeCol] at h
  | cons c cols ih =>
    intro cs q h hq
    simp only [removeCol] at h
    split at h
    · rename_i hc; cases h; exact .first rfl hc hq
    · rename_i hc
      split at h
      · rename_i q' cs' hr
        cases h
        exact .keep hc (ih hr hq)
      · cases h

theorem Expands.first_sub {all : Bool} {sub : Pat → Option (List Pat)} {bv : String} {names : List String}
    {cols cols' : List (String × Pat)} (h : Expands all sub bv names cols cols') :
    ∀ {q : Pat} {cs : List (String × Pat)}, removeCol bv cols = some (q, cs) → ∃ ps, sub q = some ps := by
  induction h with
  | nil => intro q cs hr; simp [removeCol] at hr
  | keep hc _ ih =>
    intro q cs hr
    simp only [removeCol, hc, if_false] at hr
    split at hr
    · rename_i q' cs' hr'; cases hr; exact ih hr'
    · cases hr
  | expand hc hps _ _ => intro q cs hr; simp only [removeCol, hc, if_true] at hr; cases hr; exact ⟨_, hps⟩
  | first _ hc hps => intro q cs hr; simp only [removeCol, hc, if_true] at hr; cases hr; exact ⟨_, hps⟩

theorem Expands.sub_of_mem {sub : Pat → Option (List Pat)} {bv : String} {names : List String}
    {cols cols' : List (String × Pat)} (h : Expands true sub bv names cols cols') {q : Pat} :
    (bv, q) ∈ cols → ∃ ps, sub q = some ps := by
  induction h with
  | nil => intro hq; cases hq
  | keep hc _ ih =>
    intro hq
    rcases List.mem_cons.mp hq with rfl | hq
    · exact absurd rfl hc
    · exact ih hq
  | expand _ hps _ ih =>
    intro hq
    rcases List.mem_cons.mp hq with rfl | hq
    · exact ⟨_, hps⟩
    · exact ih hq
  | first hall _ _ => cases hall

def SubSound (S : Sig) (sub : Pat → Option (List Pat)) (v : Val) (vs : List Val) : Prop :=
  ∀ q ps, sub q = some ps → conf S q v = true →
    ps.length = vs.length ∧ confs S ps vs = true ∧ matchPat q v = matchPats ps vs

/-- what an expansion does to the columns of a row once the components are bound to `names` in `ρ'`; same bindings as a set
    only (`OEq`): `first` moves columns -/
structure ColsStep (S : Sig) (ρ ρ' : Env) (names : List String) (cols cols' : List (String × Pat)) : Prop where
  meaning : OEq (colsMatch ρ' cols') (colsMatch ρ cols)
  conf : ∀ c ∈ cols', conf S c.2 (lookupVar ρ' c.1) = true
  cols : ∀ c ∈ cols', c.1 ∈ names ∨ c ∈ cols

theorem Expands.spec (S : Sig) {all : Bool} {sub : Pat → Option (List Pat)} {bv : String} {names : List String}
    {vs : List Val} {ρ ρ' : Env} (hx : Ext ρ ρ' names vs)
    (hsub : SubSound S sub (lookupVar ρ bv) vs)
    {cols cols' : List (String × Pat)} (h : Expands all sub bv names cols cols') :
    (∀ c ∈ cols, c.1 ∉ names) → (∀ c ∈ cols, conf S c.2 (lookupVar ρ c.1) = true) →
    ColsStep S ρ ρ' names cols cols' := by
  have block : ∀ (c : String × Pat) (ps : List Pat), c.1 = bv → sub c.2 = some ps → conf S c.2 (lookupVar ρ c.1) = true →
      colsMatch ρ' (names.zip ps) = matchPat c.2 (lookupVar ρ c.1) ∧
      (∀ d ∈ names.zip ps, conf S d.2 (lookupVar ρ' d.1) = true) ∧ (∀ d ∈ names.zip ps, d.1 ∈ names) := by
    intro c ps hc hps hcc
    rw [hc] at hcc ⊢
    obtain ⟨hl, hcs, hm⟩ := hsub _ ps hps hcc
    exact ⟨by rw [colsMatch_zip ρ' ps names vs hx.hmap hl, hm], confs_zip S ρ' ps names vs hx.hmap hcs,
      fun d hd => (List.of_mem_zip (show (d.1, d.2) ∈ _ from hd)).1⟩
  induction h with
  | nil => intro _ _; exact ⟨OEq.refl _, fun _ h => (nomatch h), fun _ h => (nomatch h)⟩
  | @keep c cs rest _ _ ih =>
    intro hfr hcf
    have ih := ih (fun d hd => hfr d (by simp [hd])) (fun d hd => hcf d (by simp [hd]))
    have hne : c.1 ∉ names := hfr c (by simp)
    refine ⟨by simp only [colsMatch, hx.hother _ hne]; exact oapp_congr (OEq.refl _) ih.meaning, ?_, ?_⟩
    · intro d hd
      rcases List.mem_cons.mp hd with rfl | hd
      · rw [hx.hother _ hne]; exact hcf d (by simp)
      · exact ih.conf d hd
    · intro d hd
      rcases List.mem_cons.mp hd with rfl | hd
      · exact Or.inr (by simp)
      · exact (ih.cols d hd).imp_right (by simp +contextual)
  | @expand c ps cs rest hc hps _ ih =>
    intro hfr hcf
    have ih := ih (fun d hd => hfr d (by simp [hd])) (fun d hd => hcf d (by simp [hd]))
    obtain ⟨hbm, hbc, hbn⟩ := block c ps hc hps (hcf c (by simp))
    refine ⟨?_, ?_, ?_⟩
    · rw [colsMatch_append, hbm]
      exact oapp_congr (OEq.refl _) ih.meaning
    · intro d hd
      rcases List.mem_append.mp hd with hd | hd
      · exact hbc d hd
      · exact ih.conf d hd
    · intro d hd
      rcases List.mem_append.mp hd with hd | hd
      · exact Or.inl (hbn d hd)
      · exact (ih.cols d hd).imp_right (by simp +contextual)
  | @first c ps cs _ hc hps =>
    intro hfr hcf
    obtain ⟨hbm, hbc, hbn⟩ := block c ps hc hps (hcf c (by simp))
    have hrest : ∀ d ∈ cs, lookupVar ρ' d.1 = lookupVar ρ d.1 := fun d hd => hx.hother _ (hfr d (by simp [hd]))
    refine ⟨?_, ?_, ?_⟩
    · rw [colsMatch_append, hbm, colsMatch_congr ρ ρ' cs hrest]
      exact oapp_comm _ _
    · intro d hd
      rcases List.mem_append.mp hd with hd | hd
      · rw [hrest d hd]; exact hcf d (by simp [hd])
      · exact hbc d hd
    · intro d hd
      rcases List.mem_append.mp hd with hd | hd
      · exact Or.inr (by simp [hd])
      · exact Or.inl (hbn d hd)

/-- a row step on `bv` drops `r` because of its first pattern on `bv` (`drop`), or expands columns on `bv` -/
def RowExp (all : Bool) (sub : Pat → Option (List Pat)) (drop : Pat → Prop) (bv : String) (names : List String)
    (r : Row β) : Option (Row β) → Prop
  | none => ∃ q cs, removeCol bv r.cols = some (q, cs) ∧ drop q
  | some r' => ∃ cs, r' = { r with cols := cs } ∧ Expands all sub bv names r.cols cs

theorem RowExp.first {all : Bool} {sub : Pat → Option (List Pat)} {drop : Pat → Prop} {bv : String}
    {names : List String} {r : Row β} {o : Option (Row β)} (h : RowExp all sub drop bv names r o) {q : Pat}
    {cs : List (String × Pat)} (hr : removeCol bv r.cols = some (q, cs)) : (∃ ps, sub q = some ps) ∨ drop q := by
  cases o with
  | none =>
    obtain ⟨q', cs', hr', hd⟩ := h
    rw [hr] at hr'; cases hr'; exact Or.inr hd
  | some r' =>
    obtain ⟨_, _, hcs⟩ := h
    exact Or.inl (hcs.first_sub hr)

theorem RowExp.sub_of_mem {sub : Pat → Option (List Pat)} {bv : String} {names : List String} {r : Row β}
    {o : Option (Row β)} (h : RowExp true sub (fun _ => False) bv names r o) {q : Pat} (hq : (bv, q) ∈ r.cols) :
    ∃ ps, sub q = some ps := by
  cases o with
  | none => obtain ⟨_, _, _, hd⟩ := h; exact hd.elim
  | some r' => obtain ⟨_, _, hcs⟩ := h; exact hcs.sub_of_mem hq

structure DestrRow (S : Sig) (ρ ρ' : Env) (names : List String) (r r' : Row β) : Prop where
  body : r'.body = r.body
  binds : r'.binds = r.binds
  meaning : OEq (rowMatch ρ' r') (rowMatch ρ r)
  conf : RowConf S ρ' r'
  cols : ∀ c ∈ r'.cols, c.1 ∈ names ∨ c ∈ r.cols

/-- at the value the branch variable has: a dropped row did not match; a kept row matches in the extended `ρ'` as `r`
    does in `ρ` -/
def DestrStep (S : Sig) (ρ ρ' : Env) (names : List String) (r : Row β) : Option (Row β) → Prop
  | none => rowMatch ρ r = none
  | some r' => DestrRow S ρ ρ' names r r'

/-- what a step means for a row, once the components of the value are bound to the fresh names -/
theorem RowExp.destr (S : Sig) {all : Bool} {sub : Pat → Option (List Pat)} {drop : Pat → Prop} {bv : String}
    {names : List String} {vs : List Val} {ρ ρ' : Env} (hx : Ext ρ ρ' names vs)
    (hsub : SubSound S sub (lookupVar ρ bv) vs)
    {r : Row β} {o : Option (Row β)} (h : RowExp all sub drop bv names r o)
    (hdrop : ∀ q cs, removeCol bv r.cols = some (q, cs) → drop q → matchPat q (lookupVar ρ bv) = none)
    (hfr : RowAvoids names r) (hcf : RowConf S ρ r) :
    DestrStep S ρ ρ' names r o := by
  cases o with
  | none =>
    obtain ⟨q, cs, hr, hq⟩ := h
    have hm := rowMatch_removeCol ρ r bv _ cs hr
    rw [hdrop q cs hr hq, oapp_none_left] at hm
    exact (OEq.none_iff hm).mpr rfl
  | some r' =>
    obtain ⟨cs, rfl, hcs⟩ := h
    have hstep := hcs.spec S hx hsub hfr.1 hcf
    refine ⟨rfl, rfl, ?_, hstep.conf, hstep.cols⟩
    simp only [rowMatch]
    rw [bindVals_congr ρ ρ' r.binds (fun b hb => hx.hother _ (hfr.2 b hb))]
    exact oapp_congr (OEq.refl _) hstep.meaning

def tupleItems : Pat → Option (List Pat)
  | .tuple items _ => some items
  | _ => none

def structArgs : Pat → Option (List Pat)
  | .constr (.struct _) args _ => some args
  | _ => none

def enumSub (idx : Nat) : Pat → Option (List Pat)
  | .constr (.enum _ _ i) args _ => if i = idx then some args else none
  | _ => none

/-- `some []` for the rows the bucket of literal `k` keeps: a literal has no sub-patterns -/
def litSub (okP : Prim → Bool) (k : Prim) : Pat → Option (List Pat)
  | .prim p _ => if okP p = true ∧ p = k then some [] else none
  | _ => none

theorem tupleItems_some {q : Pat} {ps : List Pat} (h : tupleItems q = some ps) : ∃ ty, q = .tuple ps ty := by
  unfold tupleItems at h
  split at h <;> cases h
  exact ⟨_, rfl⟩

theorem structArgs_some {q : Pat} {ps : List Pat} (h : structArgs q = some ps) :
    ∃ sn ty, q = .constr (.struct sn) ps ty := by
  unfold structArgs at h
  split at h <;> cases h
  exact ⟨_, _, rfl⟩

theorem enumSub_some {idx : Nat} {q : Pat} {ps : List Pat} (h : enumSub idx q = some ps) :
    ∃ a b ty, q = .constr (.enum a b idx) ps ty := by
  unfold enumSub at h
  split at h
  · split at h
    · rename_i hi; cases h; cases hi; exact ⟨_, _, _, rfl⟩
    · cases h
  · cases h

theorem litSub_some {okP : Prim → Bool} {k : Prim} {q : Pat} {ps : List Pat} (h : litSub okP k q = some ps) :
    ∃ t, q = .prim k t ∧ okP k = true ∧ ps = [] := by
  unfold litSub at h
  split at h
  · split at h
    · rename_i hp; cases h; obtain ⟨h1, rfl⟩ := hp; exact ⟨_, rfl, h1, rfl⟩
    · cases h
  · cases h

theorem specLit_exp {okP : Prim → Bool} {bv : String} {k : Prim} {r : Row β} {o : Option (Row β)}
    (h : specLit okP bv k r = .ok o) :
    RowExp false (litSub okP k) (fun q => ∃ p t, q = .prim p t ∧ okP p = true ∧ p ≠ k) bv [] r o := by
  unfold specLit at h
  split at h
  · rename_i hr; cases h; exact ⟨_, rfl, .of_none hr⟩
  · rename_i p t cs hr
    split at h
    · rename_i hp
      cases h
      by_cases hk : p = k
      · simp only [hk, if_true]
        have := Expands.of_removeCol (names := []) hr (show litSub okP k (.prim p t) = some [] by
          simp only [litSub]; rw [if_pos ⟨hp, hk⟩])
        rw [List.zip_nil_left, List.append_nil] at this
        exact ⟨_, rfl, this⟩
      · simp only [hk, if_false]
        exact ⟨_, _, hr, p, t, rfl, hp, hk⟩
    · cases h
  · cases h

theorem specDflt_exp {okP : Prim → Bool} {bv : String} {r : Row β} {o : Option (Row β)}
    (h : specDflt okP bv r = .ok o) : RowExp false (fun _ => none) (fun q => ∃ p t, q = .prim p t ∧ okP p = true) bv [] r o := by
  unfold specDflt at h
  split at h
  · rename_i hr; cases h; exact ⟨_, rfl, .of_none hr⟩
  · rename_i p t cs hr
    split at h
    · rename_i hp; cases h; exact ⟨_, _, hr, p, t, rfl, hp⟩
    · cases h
  · cases h

theorem specEnum_exp {bv : String} {nv idx : Nat} {names : List String} {r : Row β} {o : Option (Row β)}
    (h : specEnum bv nv idx names r = .ok o) :
    RowExp false (enumSub idx) (fun q => ∃ a b i args ty, q = .constr (.enum a b i) args ty ∧ i ≠ idx) bv names r o := by
  unfold specEnum at h
  split at h
  · rename_i hr; cases h; exact ⟨_, rfl, .of_none hr⟩
  · rename_i a b i args ty cs hr
    split at h
    · cases h
    · cases h
      by_cases hi : i = idx
      · simp only [hi, if_true]
        exact ⟨_, rfl, .of_removeCol hr (by simp only [enumSub]; rw [if_pos hi])⟩
      · simp only [hi, if_false]
        exact ⟨_, _, hr, a, b, i, args, ty, rfl, hi⟩
  · cases h
  · cases h

theorem expandTuple_expands {bv : String} {names : List String} : ∀ {cols cols' : List (String × Pat)},
    expandTuple bv names cols = .ok cols' → Expands true tupleItems bv names cols cols' := by
  intro cols
  induction cols with
  | nil => intro cols' h; cases h; exact .nil
  | cons c cs ih =>
    intro cols' h
    simp only [expandTuple] at h
    split at h
    · cases h
    · rename_i rest hrest
      split at h
      · rename_i hc
        split at h
        · rename_i items ty hpat
          split at h
          · cases h
          · cases h; exact .expand hc (by rw [hpat]; rfl) (ih hrest)
        · cases h
      · rename_i hc; cases h; exact .keep hc (ih hrest)

theorem expandStruct_expands {bv : String} {names : List String} : ∀ {cols cols' : List (String × Pat)},
    expandStruct bv names cols = .ok cols' → Expands true structArgs bv names cols cols' := by
  intro cols
  induction cols with
  | nil => intro cols' h; cases h; exact .nil
  | cons c cs ih =>
    intro cols' h
    simp only [expandStruct] at h
    split at h
    · cases h
    · rename_i rest hrest
      split at h
      · rename_i hc
        split at h
        · rename_i sn args ty hpat
          cases h; exact .expand hc (by rw [hpat]; rfl) (ih hrest)
        · cases h
      · rename_i hc; cases h; exact .keep hc (ih hrest)

theorem specTuple_exp {bv : String} {names : List String} {r : Row β} {o : Option (Row β)}
    (h : specTuple bv names r = .ok o) : RowExp true tupleItems (fun _ => False) bv names r o := by
  unfold specTuple at h
  split at h
  · cases h
  · rename_i cs hcs; cases h; exact ⟨cs, rfl, expandTuple_expands hcs⟩

theorem specStruct_exp {bv : String} {names : List String} {r : Row β} {o : Option (Row β)}
    (h : specStruct bv names r = .ok o) : RowExp true structArgs (fun _ => False) bv names r o := by
  unfold specStruct at h
  split at h
  · cases h
  · rename_i cs hcs; cases h; exact ⟨cs, rfl, expandStruct_expands hcs⟩

theorem tupleItems_conf (S : Sig) {vs : List Val} : SubSound S tupleItems (.tuple vs) vs := by
  intro q ps h hc
  obtain ⟨ty, rfl⟩ := tupleItems_some h
  simp only [conf] at hc
  split at hc
  · rename_i heq; cases heq
    simp only [Bool.and_eq_true, decide_eq_true_eq] at hc
    exact ⟨hc.1.2, hc.2, rfl⟩
  · cases hc

theorem structArgs_conf (S : Sig) {tn : String} {vs : List Val} : SubSound S structArgs (.structV tn vs) vs := by
  intro q ps h hc
  obtain ⟨sn, ty, rfl⟩ := structArgs_some h
  simp only [conf] at hc
  split at hc
  · simp only [Bool.and_eq_true, decide_eq_true_eq] at hc
    exact ⟨hc.1.2, hc.2, rfl⟩
  · cases hc

theorem enumSub_conf (S : Sig) {tn : String} {idx : Nat} {vs : List Val} :
    SubSound S (enumSub idx) (.enumV tn idx vs) vs := by
  intro q ps h hc
  obtain ⟨a, b, ty, rfl⟩ := enumSub_some h
  simp only [conf] at hc
  split at hc
  · split at hc
    · simp only [if_true, Bool.and_eq_true, decide_eq_true_eq] at hc
      exact ⟨hc.2.1, hc.2.2, by simp only [matchPat, if_true]⟩
    · cases hc
  · cases hc

end Goml.Match
