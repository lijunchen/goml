import GomlVerif.Lemmas.C18Json
/-! Lemmas for C18: the generated `to_json` / `to_string` bodies are well-scoped. -/
namespace Goml.Derive

/-- every function the generated bodies call by name -/
def helperNames : List String :=
  (Gen.Derive.jsonArms.filter (fun r => r.2.1 == "fn")).map (·.2.2) ++ Gen.Derive.primToString.map (·.2)

/-- no helper is spelled like a binder or like the parameter (checked on the generated tables) -/
theorem helpers_safe : ∀ h ∈ helperNames,
    (Gen.Derive.binderPrefix.toList.isPrefixOf h.toList) = false ∧ h ≠ Gen.Derive.selfParam := by decide +kernel

theorem fieldBinder_toList (i : Nat) : (fieldBinder i).toList = Gen.Derive.binderPrefix.toList ++ natDigits i := by
  simp [fieldBinder]

theorem fieldBinder_inj {i j : Nat} (h : fieldBinder i = fieldBinder j) : i = j := by
  have := congrArg String.toList h
  rw [fieldBinder_toList, fieldBinder_toList] at this
  exact natDigits_inj (List.append_cancel_left this)

theorem fieldBinder_not_helper (i : Nat) {h : String} (hh : h ∈ helperNames) : fieldBinder i ≠ h := by
  intro e
  have := (helpers_safe h hh).1
  rw [← e, fieldBinder_toList] at this
  have hp : (Gen.Derive.binderPrefix.toList.isPrefixOf (Gen.Derive.binderPrefix.toList ++ natDigits i)) = true := by
    rw [List.isPrefixOf_iff_prefix]; exact List.prefix_append _ _
  rw [hp] at this; cases this

/-- `L`: an arm's locals, or the package's top-level functions -/
def HelperFree (L : List String) : Prop := ∀ h ∈ helperNames, h ∉ L

/-- the fallback both derives share: the type's `*_to_string` helper, or the method of the value itself -/
theorem primCall_scoped {L : List String} {x : String} (t : FTy) (m : String) (hx : x ∈ L) (hL : HelperFree L) :
    (match primHelper t with
     | some h => GExpr.callFn h (.var x)
     | none => .callMethod (.var x) m).scoped L = true := by
  simp only [primHelper, lookup2]
  cases hp : Gen.Derive.primToString.find? (fun r => r.1 == variantName t) with
  | some r =>
    have hm : r.2 ∈ helperNames := by
      have := List.mem_of_find?_eq_some hp
      simp only [helperNames, List.mem_append, List.mem_map]
      exact Or.inr ⟨r, this, rfl⟩
    simp [GExpr.scoped, hL r.2 hm, hx]
  | none => simp [GExpr.scoped, hx]

theorem callToJson_scoped {L : List String} {x : String} (t : FTy) (hx : x ∈ L) (hL : HelperFree L) :
    (callToJson (.var x) t).scoped L = true := by
  unfold callToJson
  cases hf : Gen.Derive.jsonArms.find? (fun r => r.1 == variantName t) with
  | some r =>
    obtain ⟨a, kind, payload⟩ := r
    by_cases hk : (kind == "fn") = true
    · have hm : payload ∈ helperNames := by
        have := List.mem_of_find?_eq_some hf
        simp only [helperNames, List.mem_append, List.mem_map, List.mem_filter]
        exact Or.inl ⟨(a, kind, payload), ⟨this, hk⟩, rfl⟩
      simp [hk, GExpr.scoped, hL payload hm, hx]
    · simp [hk, GExpr.scoped]
  | none => exact primCall_scoped t _ hx hL

theorem callToString_scoped {L : List String} {x : String} (t : FTy) (hx : x ∈ L) (hL : HelperFree L) :
    (callToString (.var x) t).scoped L = true := by
  unfold callToString
  split
  · simp [GExpr.scoped, hx]
  · exact primCall_scoped t _ hx hL

theorem foldl_concat_scoped (L : List String) : ∀ (ps : List GExpr) (p : GExpr),
    (ps.foldl GExpr.concat p).scoped L = (p.scoped L && ps.all (·.scoped L))
  | [], p => by simp
  | q :: qs, p => by
    simp only [List.foldl_cons, foldl_concat_scoped L qs, GExpr.scoped, List.all_cons, Bool.and_assoc]

theorem concatParts_scoped (L : List String) (ps : List GExpr) (h : ps.all (·.scoped L) = true) :
    (concatParts ps).scoped L = true := by
  cases ps with
  | nil => simp [concatParts, GExpr.scoped]
  | cons p ps =>
    simp only [List.all_cons, Bool.and_eq_true] at h
    simp [concatParts, foldl_concat_scoped, h.1, h.2]

/-- the locals of an arm contain the binders `idx … idx+n-1` -/
def HasBinders (L : List String) (idx n : Nat) : Prop := ∀ j, idx ≤ j → j < idx + n → fieldBinder j ∈ L

/-- What each of the four part builders of `derive.rs` produces for fields of types `ts`, numbered from `k` and bound to the values
    `vs`: one `call (var __field<j>) t_j` per field, in order, literals anywhere between; `o` is the text the list stands for when
    the call for a value `v` yields `out v`.  Scoping looks at `ps` only; the values ride along so that the builders need one
    description, not two. -/
inductive Parts (call : GExpr → FTy → GExpr) (out : Val → List Char) :
    Nat → List FTy → List Val → List GExpr → List Char → Prop
  | nil (k : Nat) : Parts call out k [] [] [] []
  | lit (s : String) {k ts vs ps o} : Parts call out k ts vs ps o → Parts call out k ts vs (.lit s :: ps) (s.toList ++ o)
  | field {k t ts v vs ps o} : Parts call out (k + 1) ts vs ps o →
      Parts call out k (t :: ts) (v :: vs) (call (.var (fieldBinder k)) t :: ps) (out v ++ o)

section
variable {call : GExpr → FTy → GExpr} {out : Val → List Char}

theorem Parts.cast {k ts vs ps ps' o o'} (h : Parts call out k ts vs ps o) (e : ps = ps') (e' : o = o') :
    Parts call out k ts vs ps' o' := e ▸ e' ▸ h

theorem Parts.sep (c : Prop) [Decidable c] (s : String) {k ts vs ps o} (h : Parts call out k ts vs ps o) :
    Parts call out k ts vs ((if c then [.lit s] else []) ++ ps) ((if c then s.toList else []) ++ o) := by
  split
  · exact .lit s h
  · exact h

theorem Parts.scoped {L : List String} (hc : ∀ x t, x ∈ L → (call (.var x) t).scoped L = true) {k ts vs ps o}
    (h : Parts call out k ts vs ps o) : HasBinders L k ts.length → ps.all (·.scoped L) = true := by
  induction h with
  | nil => intro _; rfl
  | lit s _ ih => intro hb; simpa [GExpr.scoped] using ih hb
  | @field k t ts _ _ _ _ _ ih =>
    intro hb
    simp only [List.all_cons, Bool.and_eq_true]
    exact ⟨hc _ t (hb k (Nat.le_refl _) (by simp)), ih fun j h1 h2 => hb j (by omega) (by simp at h2 ⊢; omega)⟩

theorem arm_scoped {L : List String} {ts : List FTy} {vs : List Val} {ps : List GExpr} {o : List Char} (a b : String)
    (hc : ∀ x t, x ∈ L → (call (.var x) t).scoped L = true) (h : Parts call out 0 ts vs ps o) (hb : HasBinders L 0 ts.length) :
    (concatParts ([.lit a] ++ ps ++ [.lit b])).scoped L = true :=
  concatParts_scoped _ _ (by simpa [List.all_append, GExpr.scoped] using h.scoped hc hb)

end

theorem jsonStructParts_parts (Δ : Defs) : ∀ (fs : List (String × FTy)) (vs : List Val) (k : Nat), fs.length = vs.length →
    Parts callToJson (toJson Δ) k (fs.map (·.2)) vs (jsonStructParts bindFresh k fs) (membersJson Δ fs vs (k == 0))
  | [], [], k, _ => (Parts.nil k).cast (by simp [jsonStructParts]) (by simp [membersJson])
  | (f, t) :: fs, v :: vs, k, h => by
    have ih := jsonStructParts_parts Δ fs vs (k + 1) (by simpa using h)
    refine (Parts.sep (k > 0) "," (.lit ("\"" ++ f ++ "\":") (.field ih))).cast ?_ ?_
    · simp [jsonStructParts, bindFresh]
    · cases k <;> simp [membersJson]

theorem jsonEnumParts_parts (Δ : Defs) : ∀ (ts : List FTy) (vs : List Val) (k : Nat), ts.length = vs.length →
    Parts callToJson (toJson Δ) k ts vs (jsonEnumParts k ts) (itemsJson Δ vs (k == 0))
  | [], [], k, _ => (Parts.nil k).cast (by simp [jsonEnumParts]) (by simp [itemsJson])
  | t :: ts, v :: vs, k, h => by
    have ih := jsonEnumParts_parts Δ ts vs (k + 1) (by simpa using h)
    refine (Parts.sep (k > 0) "," (.field ih)).cast ?_ ?_
    · simp [jsonEnumParts]
    · cases k <;> simp [itemsJson]

theorem stringEnumParts_parts (Δ : Defs) : ∀ (ts : List FTy) (vs : List Val) (k : Nat), ts.length = vs.length →
    Parts callToString (toString Δ) k ts vs (stringEnumParts k ts) (itemsString Δ vs (k == 0))
  | [], [], k, _ => (Parts.nil k).cast (by simp [stringEnumParts]) (by simp [itemsString])
  | t :: ts, v :: vs, k, h => by
    have ih := stringEnumParts_parts Δ ts vs (k + 1) (by simpa using h)
    refine (Parts.sep (k > 0) ", " (.field ih)).cast ?_ ?_
    · simp [stringEnumParts]
    · cases k <;> simp [itemsString]

theorem stringStructParts_parts (Δ : Defs) : ∀ (fs : List (String × FTy)) (vs : List Val) (k : Nat), fs.length = vs.length →
    Parts callToString (toString Δ) k (fs.map (·.2)) vs (stringStructParts bindFresh k fs) (membersString Δ fs vs)
  | [], [], k, _ => (Parts.nil k).cast (by simp [stringStructParts]) (by simp [membersString])
  | (f, t) :: fs, v :: vs, k, h => by
    have ih := stringStructParts_parts Δ fs vs (k + 1) (by simpa using h)
    refine (Parts.lit (f ++ ": ") (.field (Parts.sep (fs.isEmpty = false) ", " ih))).cast ?_ ?_
    · cases fs <;> simp [stringStructParts, bindFresh]
    · cases fs <;> simp [membersString]

theorem binders_fresh : ∀ (fs : List (String × FTy)) (idx : Nat),
    binders bindFresh idx fs = (List.range' idx fs.length).map fieldBinder
  | [], _ => by simp [binders]
  | (f, t) :: rest, idx => by simp [binders, bindFresh, binders_fresh rest (idx + 1), List.range'_succ]

theorem enumBinders_eq : ∀ (ts : List FTy) (idx : Nat),
    enumBinders idx ts = (List.range' idx ts.length).map fieldBinder
  | [], _ => by simp [enumBinders]
  | t :: rest, idx => by simp [enumBinders, enumBinders_eq rest (idx + 1), List.range'_succ]

theorem allDistinct_binders : ∀ (n idx : Nat), allDistinct ((List.range' idx n).map fieldBinder) = true
  | 0, _ => by simp [allDistinct]
  | n + 1, idx => by
    simp only [List.range'_succ, List.map_cons, allDistinct, Bool.and_eq_true, Bool.not_eq_true']
    refine ⟨?_, allDistinct_binders n (idx + 1)⟩
    rw [List.contains_eq_mem, decide_eq_false_iff_not]
    intro hm
    simp only [List.mem_map, List.mem_range'_1] at hm
    obtain ⟨j, hj, e⟩ := hm
    have := fieldBinder_inj e
    omega

theorem hasBinders_range (n : Nat) (tail : List String) :
    HasBinders ((List.range' 0 n).map fieldBinder ++ tail) 0 n := by
  intro j _ h2
  simp only [List.mem_append, List.mem_map, List.mem_range'_1]
  exact Or.inl ⟨j, ⟨by omega, by omega⟩, rfl⟩

theorem helperFree_self : HelperFree ([] ++ [Gen.Derive.selfParam]) := by
  intro h hh hm
  simp only [List.nil_append, List.mem_singleton] at hm
  exact (helpers_safe h hh).2 hm

theorem helperFree_locals_tops (n : Nat) (tops : List String) (ht : HelperFree tops) :
    HelperFree ((List.range' 0 n).map fieldBinder ++ ([Gen.Derive.selfParam] ++ tops)) := by
  intro h hh hm
  simp only [List.mem_append, List.mem_map, List.mem_singleton] at hm
  rcases hm with ⟨j, _, e⟩ | e | e
  · exact fieldBinder_not_helper j hh e
  · exact (helpers_safe h hh).2 e
  · exact ht h hh e

theorem genJson_hygienic (d : Def) (tops : List String) (ht : HelperFree tops) :
    (genJson bindFresh d).hygienic tops = true := by
  cases d with
  | struct n g fs =>
    simp only [genJson, GMethod.hygienic, List.all_cons, List.all_nil, Bool.and_true]
    by_cases he : fs.isEmpty = true
    · simp [he, GExpr.scoped]
    · have hL := helperFree_locals_tops fs.length tops ht
      have := arm_scoped "{" "}" (fun x t hx => callToJson_scoped t hx hL)
        (jsonStructParts_parts [] fs (fs.map fun _ => .unit) 0 (by simp)) (by simpa using hasBinders_range fs.length _)
      simpa [he, binders_fresh] using this
  | enum n g vs =>
    simp only [genJson, GMethod.hygienic, List.all_map, List.all_eq_true]
    intro ⟨vn, tys⟩ _
    simp only [Function.comp, enumBinders_eq]
    by_cases he : tys.isEmpty = true
    · simp [he, GExpr.scoped]
    · have hL := helperFree_locals_tops tys.length tops ht
      have := arm_scoped ("{\"tag\":\"" ++ vn ++ "\",\"fields\":[") "]}" (fun x t hx => callToJson_scoped t hx hL)
        (jsonEnumParts_parts [] tys (tys.map fun _ => .unit) 0 (by simp)) (hasBinders_range tys.length _)
      simpa [he] using this

theorem genString_hygienic (d : Def) (tops : List String) (ht : HelperFree tops) :
    (genString bindFresh d).hygienic tops = true := by
  cases d with
  | struct n g fs =>
    simp only [genString, GMethod.hygienic, List.all_cons, List.all_nil, Bool.and_true]
    by_cases he : fs.isEmpty = true
    · simp [he, GExpr.scoped]
    · have hL := helperFree_locals_tops fs.length tops ht
      have := arm_scoped (n ++ " { ") " }" (fun x t hx => callToString_scoped t hx hL)
        (stringStructParts_parts [] fs (fs.map fun _ => .unit) 0 (by simp)) (by simpa using hasBinders_range fs.length _)
      simpa [he, binders_fresh] using this
  | enum n g vs =>
    simp only [genString, GMethod.hygienic, List.all_map, List.all_eq_true]
    intro ⟨vn, tys⟩ _
    simp only [Function.comp, enumBinders_eq]
    by_cases he : tys.isEmpty = true
    · simp [he, GExpr.scoped]
    · have hL := helperFree_locals_tops tys.length tops ht
      have := arm_scoped (n ++ "::" ++ vn ++ "(") ")" (fun x t hx => callToString_scoped t hx hL)
        (stringEnumParts_parts [] tys (tys.map fun _ => .unit) 0 (by simp)) (hasBinders_range tys.length _)
      simpa [he] using this

/-! ### scoping: hygiene against no top-level function, and distinct binders -/

theorem GMethod.scoped_of_hygienic {m : GMethod} (hd : ∀ a ∈ m.arms, allDistinct a.binders = true)
    (h : m.hygienic [] = true) : m.scoped = true := by
  simp only [GMethod.hygienic, List.append_nil, List.all_eq_true] at h
  simp only [GMethod.scoped, List.all_eq_true, Bool.and_eq_true]
  exact fun a ha => ⟨hd a ha, h a ha⟩

theorem helperFree_nil : HelperFree [] := fun _ _ hm => nomatch hm

theorem genJson_scoped (d : Def) : (genJson bindFresh d).scoped = true := by
  refine GMethod.scoped_of_hygienic ?_ (genJson_hygienic d [] helperFree_nil)
  cases d with
  | struct n g fs =>
    intro a ha
    simp only [genJson, List.mem_singleton] at ha; subst ha
    by_cases he : fs.isEmpty = true <;> simp [he, allDistinct, binders_fresh, allDistinct_binders]
  | enum n g vs =>
    intro a ha
    simp only [genJson, List.mem_map] at ha
    obtain ⟨⟨vn, tys⟩, _, rfl⟩ := ha
    simp [enumBinders_eq, allDistinct_binders]

theorem genString_scoped (d : Def) : (genString bindFresh d).scoped = true := by
  refine GMethod.scoped_of_hygienic ?_ (genString_hygienic d [] helperFree_nil)
  cases d with
  | struct n g fs =>
    intro a ha
    simp only [genString, List.mem_singleton] at ha; subst ha
    by_cases he : fs.isEmpty = true <;> simp [he, allDistinct, binders_fresh, allDistinct_binders]
  | enum n g vs =>
    intro a ha
    simp only [genString, List.mem_map] at ha
    obtain ⟨⟨vn, tys⟩, _, rfl⟩ := ha
    simp [enumBinders_eq, allDistinct_binders]

end Goml.Derive
