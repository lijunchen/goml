import GomlVerif.Lemmas.SemEq
/-!
The fuel-free relation `Ev` obeys the equations of the interpreter: `ev_step` (with `evL_step`, `evA_step`) says that `Ev`
is the body `stepE` read as a relation on results, and the `ev_*` below are `ev_step` at one node kind each, the
continuation spelled out or under its name from `Lemmas/SemEq.lean`.
-/
namespace Goml.Sem
open Goml

@[simp] theorem conv_panic {α} {s : String} {w : World} {r : Res α} :
    Conv (fun _ => Res.fail (.panic s) w) r ↔ r = .fail (.panic s) w := conv_const (by simp)

/-- a relation on results -/
def relSeq : Seq (fun α => Res α → Prop) := ⟨fun r x => x = r, RB⟩

/-- a run for every amount of fuel -/
def fuelSeq : Seq (fun α => Nat → Res α) := ⟨fun r _ => r, fun F G n => (F n).bind (fun a w => G a w n)⟩

/-- the interpreters as functions of the fuel -/
def fuelI (P : Prog) : Interp (fun α => Nat → Res α) :=
  ⟨fun ρ w e n => eval n P ρ w e, fun ρ w es n => evalList n P ρ w es, fun ρ w v arms d n => evalArms n P ρ w v arms d,
   fun w f args n => apply n P w f args⟩

/-- the fuel-free relations -/
def evI (P : Prog) : Interp (fun α => Res α → Prop) :=
  ⟨fun ρ w e => Ev P e ρ w, fun ρ w es => EvL P es ρ w, fun ρ w v arms d => EvA P ρ w v arms d, App P⟩

/-- a run for every fuel, read at fuel `n`, is the run -/
theorem atFuel (n : Nat) : SeqRel fuelSeq resSeq (fun F r => F n = r) where
  pure _ _ := rfl
  bind := by
    intro α β x y k k' hx hk
    show (x n).bind (fun a w => k a w n) = y.andThen k'
    rw [hx]; cases y with
    | fail f w => rfl
    | ok a w => exact hk a w

theorem atFuel_interp (P : Prog) (n : Nat) : IRel (fun F r => F n = r) (fuelI P) (runI n P) :=
  ⟨fun _ _ _ => rfl, fun _ _ _ => rfl, fun _ _ _ _ _ => rfl, fun _ _ _ => rfl⟩

/-- `F` is stable under more fuel and converges exactly to the results `X` allows -/
def Reads {α : Type} (F : Nat → Res α) (X : Res α → Prop) : Prop := Mono F ∧ ∀ r, Conv F r ↔ X r

theorem reads : SeqRel fuelSeq relSeq @Reads where
  pure r hn := ⟨mono_const r, fun _ => conv_const hn⟩
  bind := by
    intro α β x y k k' hx hk
    refine ⟨mono_bind hx.1 fun a w => (hk a w).1, fun r => (conv_bind hx.1 (fun a w => (hk a w).1) r).trans ?_⟩
    exact ⟨RB.mono (fun _ h => (hx.2 _).1 h) fun a w r h => ((hk a w).2 r).1 h,
      RB.mono (fun _ h => (hx.2 _).2 h) fun a w r h => ((hk a w).2 r).2 h⟩

theorem reads_interp (P : Prog) : IRel @Reads (fuelI P) (evI P) where
  expr ρ w e := ⟨mono_eval P ρ w e, fun _ => Iff.rfl⟩
  list ρ w es := ⟨mono_evalList P ρ w es, fun _ => Iff.rfl⟩
  arms ρ w v arms d := ⟨mono_evalArms P ρ w v arms d, fun _ => Iff.rfl⟩
  app w f args := ⟨mono_apply P w f args, fun _ => Iff.rfl⟩

/-- what converges one unit of fuel later converges -/
theorem conv_of_succ {α} {F G : Nat → Res α} {X : Res α → Prop} {w : World} (h0 : F 0 = .fail .fuel w)
    (hs : ∀ n, F (n + 1) = G n) (hG : Reads G X) (r : Res α) : Conv F r ↔ X r := by
  rw [conv_succ h0, show (fun n => F (n + 1)) = G from funext hs]; exact hG.2 r

/-- **`Ev` is the body of the interpreter read as a relation on results** -/
theorem ev_step {P : Prog} {e : Expr} {ρ : Env} {w : World} {r : Res Val} :
    Ev P e ρ w r ↔ stepE relSeq P.impls (evI P) ρ w e r :=
  conv_of_succ (eval_zero P ρ w e)
    (fun n => (eval_eq_step n P ρ w e).trans (stepE_rel (atFuel n) (atFuel_interp P n) P.impls ρ w e).symm)
    (stepE_rel reads (reads_interp P) P.impls ρ w e) r

theorem evL_step {P : Prog} {es : List Expr} {ρ : Env} {w : World} {r : Res (List Val)} :
    EvL P es ρ w r ↔ stepL relSeq (evI P) ρ w es r :=
  conv_of_succ (evalList_zero P ρ w es)
    (fun n => (evalList_eq_step n P ρ w es).trans (stepL_rel (atFuel n) (atFuel_interp P n) ρ w es).symm)
    (stepL_rel reads (reads_interp P) ρ w es) r

theorem evA_step {P : Prog} {ρ : Env} {w : World} {v : Val} {arms : List Arm} {d : Option Expr} {r : Res Val} :
    EvA P ρ w v arms d r ↔ stepA relSeq (evI P) ρ w v arms d r :=
  conv_of_succ (evalArms_zero P ρ w v arms d)
    (fun n => (evalArms_eq_step n P ρ w v arms d).trans (stepA_rel (atFuel n) (atFuel_interp P n) ρ w v arms d).symm)
    (stepA_rel reads (reads_interp P) ρ w v arms d) r

theorem ev_var {P x ty ρ w r} : Ev P (.var x ty) ρ w r ↔ r = .ok (lookupVal ρ x) w := by
  rw [lookupVal_eq]; exact ev_step

theorem ev_prim {P p ρ w r} : Ev P (.prim p) ρ w r ↔ r = .ok (primVal p) w := ev_step

theorem ev_tag {P idx ty ρ w r} : Ev P (.tag idx ty) ρ w r ↔ r = .ok (.enumV (tagTyName ty) idx []) w := ev_step

theorem ev_closure (P : Prog) (ρ : Env) (w : World) {ty : Ty} {ps : List (String × Ty)} {b : Expr} {r : Res Val} :
    Ev P (.closure ty ps b) ρ w r ↔ r = .ok (.closure (ps.map (·.1)) b ρ) w := ev_step

theorem ev_letE {P x v b ρ w r} :
    Ev P (.letE x v b) ρ w r ↔ RB (Ev P v ρ w) (fun vv w' => Ev P b ((x, vv) :: ρ) w') r := ev_step

theorem ev_ite {P c t e ρ w r} : Ev P (.ite c t e) ρ w r ↔ RB (Ev P c ρ w) (iteK P t e ρ) r :=
  ev_step.trans (rb_congr fun v w r => by
    cases v <;> first | exact Iff.rfl | (rename_i b; cases b <;> exact Iff.rfl))

theorem ev_un {P op ty e ρ w r} :
    Ev P (.un op ty e) ρ w r ↔ RB (Ev P e ρ w) (fun v w' r => r = exceptRes (unop op v) w') r := ev_step

theorem ev_cget {P c idx ty e ρ w r} :
    Ev P (.cget c idx ty e) ρ w r ↔ RB (Ev P e ρ w) (fun v w' r => r = cgetRes idx v w') r := ev_step

theorem ev_proj {P idx ty e ρ w r} :
    Ev P (.proj idx ty e) ρ w r ↔ RB (Ev P e ρ w) (fun v w' r => r = projRes idx v w') r := ev_step

theorem ev_toDyn {P tr forTy ty e ρ w r} :
    Ev P (.toDyn tr forTy ty e) ρ w r ↔
      RB (Ev P e ρ w) (fun v w' r => r = .ok (.dyn tr (tyKey forTy) v) w') r := ev_step

theorem ev_go {P e ρ w r} : Ev P (.go e) ρ w r ↔ RB (Ev P e ρ w) (goK P) r :=
  ev_step.trans (rb_congr fun v w r => by unfold goK; split <;> exact Iff.rfl)

theorem evL_nil {P ρ w r} : EvL P [] ρ w r ↔ r = .ok [] w := evL_step

theorem evL_cons {P e rest ρ w r} :
    EvL P (e :: rest) ρ w r ↔
      RB (Ev P e ρ w) (fun v w' => RB (EvL P rest ρ w') (fun vs w'' r => r = .ok (v :: vs) w'')) r := evL_step

theorem ev_constr {P c ty args ρ w r} :
    Ev P (.constr c ty args) ρ w r ↔ RB (EvL P args ρ w) (fun vs w' r => r = .ok (mkCtor c vs) w') r := ev_step

theorem ev_tuple {P ty items ρ w r} :
    Ev P (.tuple ty items) ρ w r ↔ RB (EvL P items ρ w) (fun vs w' r => r = .ok (.tuple vs) w') r := ev_step

theorem ev_array {P ty items ρ w r} :
    Ev P (.array ty items) ρ w r ↔ RB (EvL P items ρ w) (fun vs w' r => r = .ok (.array vs) w') r := ev_step

theorem ev_call {P ty f args ρ w r} :
    Ev P (.call ty f args) ρ w r ↔
      RB (Ev P f ρ w) (fun fv w' => RB (EvL P args ρ w') (fun vs w'' => App P w'' fv vs)) r := ev_step

/-- `dynDispatch` is `dispatch` read as a relation -/
theorem dispatch_iff {P : Prog} {tr m key : String} {v : Val} {vs : List Val} {w : World} {r : Res Val} :
    dispatch relSeq P.impls (evI P) tr m key v vs w r ↔ dynDispatch P tr m key v vs w r := by
  unfold dispatch dynDispatch
  generalize P.impls.find? _ = o
  cases o <;> exact Iff.rfl

theorem ev_dynCall {P tr m ty recv args ρ w r} :
    Ev P (.dynCall tr m ty recv args) ρ w r ↔ RB (Ev P recv ρ w) (dynK P tr m args ρ) r :=
  ev_step.trans (rb_congr fun v w r => by
    cases v <;> first | exact Iff.rfl | exact rb_congr fun _ _ _ => dispatch_iff)

theorem ev_traitCall (P : Prog) (ρ : Env) (w : World) {tr m : String} {ty : Ty} {recv : Expr} {args : List Expr}
    {r : Res Val} :
    Ev P (.traitCall tr m ty recv args) ρ w r ↔
      RB (Ev P recv ρ w) (fun v w1 =>
        RB (EvL P args ρ w1) (fun vs w2 => dynDispatch P tr m (ValTy.valKey v) v vs w2)) r :=
  ev_step.trans (rb_congr fun _ _ _ => rb_congr fun _ _ _ => dispatch_iff)

/-- `binK` asks once (`scVal`) what the body asks by `scAnd` and `scOr` -/
theorem scVal_eq (op : BinOp) (a : Val) :
    scVal op a = if scAnd op a then some (.bool false) else if scOr op a then some (.bool true) else none := by
  cases op <;> first | rfl | (cases a <;> first | rfl | (rename_i b; cases b <;> rfl))

theorem ev_bin {P op ty l rhs ρ w r} :
    Ev P (.bin op ty l rhs) ρ w r ↔ RB (Ev P l ρ w) (binK P op rhs ρ) r :=
  ev_step.trans (rb_congr fun a w r => by
    unfold binK; rw [scVal_eq]
    by_cases h1 : scAnd op a = true
    · simp only [if_pos h1]; exact Iff.rfl
    by_cases h2 : scOr op a = true
    · simp only [if_neg h1, if_pos h2]; exact Iff.rfl
    simp only [if_neg h1, if_neg h2]
    split <;> exact Iff.rfl)

theorem evA_nil_some {P ρ w v d r} : EvA P ρ w v [] (some d) r ↔ Ev P d ρ w r := evA_step

theorem evA_nil_none {P ρ w v r} :
    EvA P ρ w v [] none r ↔ r = .fail (.stuck "no arm selected and no default") w := evA_step

theorem evA_cons {P ρ w v lhs body rest d r} :
    EvA P ρ w v (.mk lhs body :: rest) d r ↔
      (if armMatches lhs v then Ev P body ρ w r else EvA P ρ w v rest d r) :=
  evA_step.trans (by
    -- `stepA` unfolded, so that `split` sees its `if`
    show (if armMatches lhs v = true then (evI P).expr ρ w body else (evI P).arms ρ w v rest d) r ↔ _
    split <;> exact Iff.rfl)

theorem ev_matchE {P ty s arms d ρ w r} :
    Ev P (.matchE ty s arms d) ρ w r ↔ RB (Ev P s ρ w) (fun v w' => EvA P ρ w' v arms d) r := ev_step

theorem ev_while {P c b ρ w r} : Ev P (.while c b) ρ w r ↔ RB (Ev P c ρ w) (whileK P c b ρ) r :=
  ev_step.trans (rb_congr fun v w r => by
    cases v <;> first | exact Iff.rfl | (rename_i b; cases b <;> exact Iff.rfl))

end Goml.Sem
