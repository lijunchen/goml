import GomlVerif.Lemmas.MonoWork
/-! The work-list invariant of `mono()`: instance table, `queued`, work list and output stay in step -/
namespace Goml.Mono
open Goml

/-- what identifies an instance: the generic function and the `SubstKey` of its bindings -/
def instKey (i : Inst) : String × List (String × Ty) := (i.name, i.key)
/-- the same pair for a work item, which still carries the substitution itself -/
def workKey (w : Work) : String × List (String × Ty) := (w.name, key w.subst)

/-- `pre` = names of the functions already emitted (plus the one being processed).  The instance table is
    append-only and every new instance is queued at once, so the instances past the first `pre.length` are exactly
    the work list, in order, by name (`specs`) and by key (`keys`): nothing waits twice, nothing is emitted twice -/
structure Inv (pre : List String) (c : Ctx) : Prop where
  nodup : (c.instances.map instKey).Nodup
  queued : c.queued = c.instances.map instKey
  specs : c.instances.map (·.spec) = pre ++ c.work.map (·.spec)
  keys : (c.instances.drop pre.length).map instKey = c.work.map workKey

theorem findInst_none {is : List Inst} {n : String} {k : List (String × Ty)} (h : findInst is n k = none) :
    (n, k) ∉ is.map instKey := by
  intro hm
  simp only [List.mem_map] at hm
  obtain ⟨i, hi, he⟩ := hm
  simp only [findInst, List.find?_eq_none] at h
  have := h i hi
  simp only [instKey, Prod.mk.injEq] at he
  simp [he.1, he.2, (entriesBeq_iff k k).2 rfl] at this

theorem any_queued_false {q : List (String × List (String × Ty))} {n : String} {k : List (String × Ty)}
    (h : (n, k) ∉ q) : (q.any fun x => x.1 == n && entriesBeq x.2 k) = false := by
  rw [Bool.eq_false_iff]
  intro ha
  simp only [List.any_eq_true, Bool.and_eq_true, beq_iff_eq] at ha
  obtain ⟨x, hx, h1, h2⟩ := ha
  have h2' := (entriesBeq_iff _ _).1 h2
  apply h
  obtain ⟨a, b⟩ := x
  simp only at h1 h2'
  subst h1 h2'
  exact hx

theorem ensureInstance_inv {pre : List String} {c : Ctx} (n : String) (s : Subst) (h : Inv pre c) :
    Inv pre (ensureInstance c n s).2 := by
  cases hf : findInst c.instances n (key s) with
  | some i => simp only [ensureInstance, hf]; exact h
  | none =>
    have hnot := findInst_none hf
    have hq : (n, key s) ∉ c.queued := by rw [h.queued]; exact hnot
    simp only [ensureInstance, hf, any_queued_false hq]
    have hlen : pre.length ≤ c.instances.length := by
      have := congrArg List.length h.specs
      simp at this
      omega
    constructor
    · show (List.map instKey (c.instances ++ [Inst.mk n (key s) (specName n s)])).Nodup
      simp only [List.map_append, List.map_cons, List.map_nil]
      rw [List.nodup_append]
      refine ⟨h.nodup, by simp, ?_⟩
      intro a ha b hb
      simp only [List.mem_singleton] at hb
      subst hb
      intro he
      subst he
      exact hnot ha
    · simp [h.queued, instKey]
    · simp [h.specs]
    · show List.map instKey (List.drop pre.length (c.instances ++ [Inst.mk n (key s) (specName n s)])) =
        List.map workKey (c.work ++ [Work.mk n s (specName n s)])
      rw [List.drop_append_of_le_length hlen, List.map_append, List.map_append, h.keys]
      simp [instKey, workKey]

theorem fail_inv {pre : List String} {c : Ctx} (m : String) (h : Inv pre c) : Inv pre (c.fail m) :=
  fail_keeps (fun _ _ h => ⟨h.nodup, h.queued, h.specs, h.keys⟩) m h

theorem monoExpr_inv {pre : List String} (F : List Fn) (σ : Subst) (e : Expr) {c : Ctx} (h : Inv pre c) :
    Inv pre (monoExpr F σ e c).2 :=
  monoExpr_requests F σ (Inv pre) (fun _ f cs _ _ h => ensureInstance_inv f.name cs h) (fun _ m h => fail_inv m h) e c h

/-- `step` looks the function of a work item up again by name; this says the lookup succeeds -/
def WorkKnown (F : List Fn) (c : Ctx) : Prop := ∀ w ∈ c.work, (findFn F w.name).isSome = true

theorem ensureInstance_known {F : List Fn} {c : Ctx} (n : String) (s : Subst) (hn : (findFn F n).isSome = true)
    (h : WorkKnown F c) : WorkKnown F (ensureInstance c n s).2 := by
  intro w hw
  rcases ensureInstance_work hw with hw | rfl
  · exact h w hw
  · exact hn

theorem fail_known {F : List Fn} {c : Ctx} (m : String) (h : WorkKnown F c) : WorkKnown F (c.fail m) :=
  fail_keeps (fun _ _ h => h) m h

theorem monoExpr_known (F : List Fn) (σ : Subst) (e : Expr) {c : Ctx} (h : WorkKnown F c) :
    WorkKnown F (monoExpr F σ e c).2 :=
  monoExpr_requests F σ (WorkKnown F) (fun _ f cs hf _ h => ensureInstance_known f.name cs (findFn_isSome_of_mem hf) h)
    (fun _ m h => fail_known m h) e c h

/-- the invariant of `while let Some(..) = ctx.work.pop_front()` -/
structure LoopInv (F : List Fn) (c : Ctx) : Prop where
  inv : Inv (c.out.map (·.name)) c
  known : WorkKnown F c

theorem seed_inv (F : List Fn) : LoopInv F (seed F) := by
  have := seed_induct (P := fun c => Inv [] c ∧ WorkKnown F c) F
    ⟨⟨by simp, by simp, by simp, by simp⟩, by intro w hw; simp at hw⟩
    fun c f hf _ h => ⟨ensureInstance_inv _ _ h.1, ensureInstance_known _ _ (findFn_isSome_of_mem hf) h.2⟩
  exact ⟨by rw [seed_out]; exact this.1, this.2⟩

theorem step_inv {F : List Fn} {c c' : Ctx} (h : LoopInv F c) (hs : step F c = some c') : LoopInv F c' := by
  obtain ⟨w, rest, hw, ⟨hn, _⟩ | ⟨f, hf, rfl⟩⟩ := step_some hs
  · have := h.known w (by rw [hw]; exact List.mem_cons_self)
    simp [hn] at this
  · have hi := h.inv
    have h0 : Inv (c.out.map (·.name) ++ [w.spec]) { c with work := rest } := by
      refine ⟨hi.nodup, hi.queued, ?_, ?_⟩
      · have := hi.specs; rw [hw] at this; simpa using this
      · have := hi.keys; rw [hw] at this
        simp only [List.map_cons] at this
        have h2 : List.drop (c.out.map (·.name) ++ [w.spec]).length c.instances =
            (List.drop (c.out.map (·.name)).length c.instances).tail := by
          simp [List.tail_drop]
        show List.map instKey (List.drop _ c.instances) = List.map workKey rest
        rw [h2, List.map_tail, this]
        rfl
    have hk0 : WorkKnown F { c with work := rest } := by
      intro w' hw'
      exact h.known w' (by rw [hw]; exact List.mem_cons_of_mem _ hw')
    have h1 := monoExpr_inv F w.subst f.body h0
    have hk1 := monoExpr_known F w.subst f.body hk0
    have ho := monoExpr_out F w.subst f.body { c with work := rest }
    refine ⟨?_, hk1⟩
    simp only [List.map_append, List.map_cons, List.map_nil, ho]
    exact ⟨h1.nodup, h1.queued, h1.specs, h1.keys⟩

theorem loop_inv {F : List Fn} (fuel : Nat) (c c' : Ctx) (h : LoopInv F c) (hl : loop F fuel c = some c') :
    LoopInv F c' ∧ c'.work = [] :=
  loop_induct (fun _ _ h hs => step_inv h hs) fuel c c' h hl

end Goml.Mono
