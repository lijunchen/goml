import GomlVerif.Lemmas.C14RelMain
/-! Lemmas for C14: the validator `Alpha.validate` is sound (verified validator; closures included), and the
renaming theorem as its corollary. -/
namespace Goml.Alpha
open Goml Goml.Sem

/-- an entry found under a key has that key -/
theorem implPred_self {tr key m : String} {i : String × String × String × String} (h : implPred tr key m i = true) :
    implPred i.1 i.2.1 i.2.2.1 = implPred tr key m := by
  simp only [implPred, Bool.and_eq_true, beq_iff_eq] at h
  rw [h.1.1, h.1.2, h.2]

theorem implsAgree_find {A B : List (String × String × String × String)} (h : implsAgree A B = true) (tr key m : String) :
    A.find? (fun i => i.1 == tr && i.2.1 == key && i.2.2.1 == m) = B.find? (fun i => i.1 == tr && i.2.1 == key && i.2.2.1 == m) := by
  show A.find? (implPred tr key m) = B.find? (implPred tr key m)
  simp only [implsAgree, List.all_eq_true, List.mem_append, beq_iff_eq] at h
  -- an entry either table holds under the key is one of those the tables were compared at
  cases ha : A.find? (implPred tr key m) with
  | some i =>
    rw [← ha, ← implPred_self (List.find?_some ha)]
    exact h i (.inl (List.mem_of_find?_eq_some ha))
  | none =>
    cases hb : B.find? (implPred tr key m) with
    | none => rfl
    | some j =>
      rw [← ha, ← hb, ← implPred_self (List.find?_some hb)]
      exact h j (.inr (List.mem_of_find?_eq_some hb))

theorem validate_hyp {σs : String → String → String} {Ns : String → List String} {S W : Prog}
    (h : validate σs Ns S W = true) : HypV σs Ns S W := by
  simp only [validate, Bool.and_eq_true, List.all_eq_true] at h
  obtain ⟨⟨htwins, hnoOther⟩, himpls⟩ := h
  refine ⟨implsAgree_find himpls, ?_⟩
  intro n
  cases hs : S.findFn n with
  | some fS =>
    obtain ⟨hmem, hname⟩ := Prog.findFn_some hs
    have := htwins fS hmem
    rw [hname, hs] at this
    cases hw : W.findFn n with
    | none => simp [hw] at this
    | some fW =>
      rw [hw] at this
      exact Or.inr ⟨fS, fW, rfl, rfl, by rw [hname]; exact this⟩
  | none =>
    cases hw : W.findFn n with
    | none => exact Or.inl ⟨rfl, rfl⟩
    | some g =>
      obtain ⟨hmem, hname⟩ := Prog.findFn_some hw
      have := hnoOther g hmem
      rw [hname, hs] at this
      cases this

theorem validate_sound {σs : String → String → String} {Ns : String → List String} {S W : Prog}
    (h : validate σs Ns S W = true) (fuel : Nat) (entry : String) (eager : Bool) :
    run fuel W entry eager = run fuel S entry eager :=
  run_rel (validate_hyp h) fuel entry eager

/-! ### the renaming theorem, closures included -/

theorem eqPrim_refl (p : Prim) : eqPrim p p = true := by
  cases p <;> simp [eqPrim]

theorem aeLhs_ren (σ : String → String) (l : Expr) : aeLhs l (renE σ l) = true := by
  cases l <;> simp [renE, aeLhs, isHead, eqPrim_refl]

theorem ae_ren (σ : String → String) :
    (∀ e, aeE σ e (renE σ e) = true) ∧ (∀ d, aeO σ d (renO σ d) = true) ∧ (∀ arms, aeArms σ arms (renArms σ arms) = true) ∧
    (∀ a, aeArm σ a (renArm σ a) = true) ∧ (∀ es, aeL σ es (renL σ es) = true) := by
  apply renE.mutual_induct
  all_goals intros
  all_goals simp [aeE, renE, aeL, renL, aeArms, renArms, aeArm, renArm, aeO, renO, eqPrim_refl, aeLhs_ren, List.map_map,
    Function.comp_def, *]

theorem aeE_ren (σ : String → String) : ∀ e : Expr, aeE σ e (renE σ e) = true := (ae_ren σ).1
theorem aeL_ren (σ : String → String) : ∀ es : List Expr, aeL σ es (renL σ es) = true := (ae_ren σ).2.2.2.2
theorem aeArms_ren (σ : String → String) : ∀ arms : List Arm, aeArms σ arms (renArms σ arms) = true := (ae_ren σ).2.2.1
theorem aeArm_ren (σ : String → String) : ∀ a : Arm, aeArm σ a (renArm σ a) = true := (ae_ren σ).2.2.2.1
theorem aeO_ren (σ : String → String) : ∀ d : Option Expr, aeO σ d (renO σ d) = true := (ae_ren σ).2.1

/-- the hypotheses of the renaming theorem with closures; `Ns f` = the names function `f` mentions. All decidable. -/
structure HypC (σs : String → String → String) (Ns : String → List String) (P : Prog) : Prop where
  inj : ∀ f ∈ P.fns, injOn (σs f.name) (Ns f.name) = true
  names : ∀ f ∈ P.fns, inE (Ns f.name) f.body = true ∧ (f.params.all fun p => (Ns f.name).contains p.1) = true
  sc : ∀ f ∈ P.fns, scC (moved (σs f.name)) [] f.body = true

theorem hypC_hypV {σs : String → String → String} {Ns : String → List String} {P : Prog} (H : HypC σs Ns P) :
    HypV σs Ns P (renP σs P) := by
  refine ⟨fun _ _ _ => rfl, ?_⟩
  intro n
  rw [findFn_renP]
  cases hf : P.findFn n with
  | none => exact Or.inl ⟨rfl, rfl⟩
  | some f =>
    have hmem : f ∈ P.fns := List.mem_of_find?_eq_some hf
    refine Or.inr ⟨f, renFn (σs f.name) f, rfl, rfl, ?_⟩
    have hsc := H.sc f hmem
    simp only [validFn, Bool.and_eq_true, beq_iff_eq]
    refine ⟨⟨⟨⟨⟨?_, aeE_ren _ _⟩, H.inj f hmem⟩, (H.names f hmem).1⟩, (H.names f hmem).2⟩, hsc⟩
    simp [renFn, List.map_map, Function.comp_def]

theorem run_alpha_full {σs : String → String → String} {Ns : String → List String} {P : Prog} (H : HypC σs Ns P)
    (fuel : Nat) (entry : String) (eager : Bool) : run fuel (renP σs P) entry eager = run fuel P entry eager :=
  run_rel (hypC_hypV H) fuel entry eager

/-! ### the closure-free theorem is a special case -/

/-- `cfE` rules the closure row out; in every other row `scE` and `scC` are conjunctions over the same parts. -/
theorem scC_of_cf_all (m : String → Bool) :
    (∀ B e, cfE e = true → scE m B e = true → scC m B e = true) ∧
    (∀ B d, cfO d = true → scO m B d = true → scCO m B d = true) ∧
    (∀ B arms, cfArms arms = true → scArms m B arms = true → scCArms m B arms = true) ∧
    (∀ B a, cfArm a = true → scArm m B a = true → scCArm m B a = true) ∧
    (∀ B es, cfL es = true → scL m B es = true → scCL m B es = true) := by
  apply scC.mutual_induct
  all_goals intros
  all_goals simp_all only [cfE, scE, scC, cfO, scO, scCO, cfArms, scArms, scCArms, cfArm, scArm, scCArm, cfL, scL, scCL,
    Bool.and_eq_true, and_self, Bool.false_eq_true]

theorem scC_of_cf (m : String → Bool) : ∀ (e : Expr) (B : List String), cfE e = true → scE m B e = true → scC m B e = true :=
  fun e B => (scC_of_cf_all m).1 B e
theorem scCL_of_cf (m : String → Bool) : ∀ (es : List Expr) (B : List String), cfL es = true → scL m B es = true → scCL m B es = true :=
  fun es B => (scC_of_cf_all m).2.2.2.2 B es
theorem scCArms_of_cf (m : String → Bool) : ∀ (arms : List Arm) (B : List String), cfArms arms = true → scArms m B arms = true → scCArms m B arms = true :=
  fun arms B => (scC_of_cf_all m).2.2.1 B arms
theorem scCArm_of_cf (m : String → Bool) : ∀ (a : Arm) (B : List String), cfArm a = true → scArm m B a = true → scCArm m B a = true :=
  fun a B => (scC_of_cf_all m).2.2.2.1 B a
theorem scCO_of_cf (m : String → Bool) : ∀ (d : Option Expr) (B : List String), cfO d = true → scO m B d = true → scCO m B d = true :=
  fun d B => (scC_of_cf_all m).2.1 B d

theorem hyp_hypC {σs : String → String → String} {Ns : String → List String} {P : Prog} (H : Hyp σs Ns P) : HypC σs Ns P :=
  ⟨H.inj, H.names, fun f hf => scC_of_cf _ f.body [] (by
      have := H.cf; simp only [cfP, List.all_eq_true] at this; exact this f hf) (H.sc f hf)⟩

theorem run_alpha {σs : String → String → String} {Ns : String → List String} {P : Prog} (H : Hyp σs Ns P) (fuel : Nat) (entry : String) (eager : Bool) :
    run fuel (renP σs P) entry eager = run fuel P entry eager :=
  run_alpha_full (hyp_hypC H) fuel entry eager

end Goml.Alpha
