import GomlVerif.Lemmas.DceSimPlain
import GomlVerif.Lemmas.DceSimNested
/-!
Simulation proof for DCE: the assembly.  A block is its first statement and the rest (`simB`), a nested block is a block
with its declarations popped (`simN`), a statement goes to the lemma for its kind (`simX`); `sim_all` is the induction on
the fuel of the input run.
-/
namespace Goml.Dce
open Goml.Go Goml.Sem

theorem simN {F D P} (n : Nat) (ih : SimAt F D P n) {ss L ρi ρo w r}
    (hscope : scopeErrs D (keys ρi) ss = []) (hshape : shapeOK ss = true) (hsem : semOK P ss L = true)
    (hr : Rel (dceStmts ss L).live (dceStmts ss L).needs ρo ρi)
    (h : nestedG (n+1) F ρi w ss = r) (hd : Definite r) :
    ∃ r', NestE F ρo w (dceStmts ss L).out r' ∧ ResRelN L r' r := by
  rw [nestedG_eq] at h; subst h
  obtain ⟨rb, hm, hrr⟩ := ih.bl hscope hshape hsem hr rfl hd.of_bind
  refine ⟨_, NestE.of_block hm, resRelN_iff.2 ?_⟩
  obtain ⟨m, hm⟩ := hm.run
  generalize hb : execBlockG n F ρi w ss = rI at hrr
  cases resRel_iff.1 hrr with
  | fail f w1 => exact .fail f w1
  | @ok ρo' ρi' s w1 hrel =>
    refine .ok s w1 fun hn => ?_
    -- both runs pushed their declarations in front of environments with the keys they started from
    obtain ⟨preI, ρi'', ei, fi, hpi⟩ := (frame_all n).bl hb
    obtain ⟨preO, ρo'', eo, fo, hpo⟩ := (frame_all m).bl hm
    subst ei; subst eo
    show Agree L ((preO ++ ρo'').drop _) ((preI ++ ρi'').drop _)
    rw [drop_append_len preO ρo'' ρo.length fo.length.symm, drop_append_len preI ρi'' ρi.length fi.length.symm]
    have hdt := scope_declTop D ss (keys ρi) hscope
    exact agree_pop (ρi := ρi) (ρo := ρo) fi.keys fo.keys (fun x hx => hdt x (hpi x hx))
      (fun x hx => hdt x (declTop_dce_sub ss L x (hpo x hx))) hr.sub (hrel hn).agree

theorem simB {F D P} (n : Nat) (ih : SimAt F D P n) {ss L ρi ρo w r}
    (hscope : scopeErrs D (keys ρi) ss = []) (hshape : shapeOK ss = true) (hsem : semOK P ss L = true)
    (hr : Rel (dceStmts ss L).live (dceStmts ss L).needs ρo ρi)
    (h : execBlockG (n+1) F ρi w ss = r) (hd : Definite r) :
    ∃ r', BlockE F ρo w (dceStmts ss L).out r' ∧ ResRel L [] r' r := by
  cases ss with
  | nil =>
    rw [execBlockG_nil] at h; subst h
    exact ⟨_, BlockE.nil, rfl, rfl, fun _ => hr⟩
  | cons s rest =>
    simp only [scopeErrs, List.append_eq_nil_iff] at hscope
    simp only [shapeOK, Bool.and_eq_true] at hshape
    simp only [semOK, Bool.and_eq_true] at hsem
    simp only [dceStmts] at hr ⊢
    rw [execBlockG_cons] at h; subst h
    obtain ⟨r1, hm1, hr1⟩ := ih.ex hscope.1 hshape.1 hsem.2 hr rfl hd.of_bind
    generalize hs : execG n F ρi w s = rI at hr1 hd
    cases resRel_iff.1 hr1 with
    | fail f w1 => exact ⟨_, BlockE.append_stop (Definite.nf hd) (fun _ _ e => by cases e) hm1, rfl, rfl⟩
    | @ok ρo1 ρi1 sig w1 hrel =>
      cases sig with
      | normal =>
        have hk : keys ρi1 = declScope s (keys ρi) := by
          obtain ⟨pre, ρ'', e1, f1, hp⟩ := (frame_all n).ex hs
          rw [e1, keys_append, f1.keys, declScope_eq]
          show pre.map (·.1) ++ keys ρi = _
          rw [hp]
        obtain ⟨r2, hm2, hr2⟩ := ih.bl (by rw [hk]; exact hscope.2) hshape.2 hsem.1 (hrel rfl) rfl hd
        exact ⟨r2, BlockE.append hm1 hm2, hr2⟩
      | brk =>
        exact ⟨_, BlockE.append_stop (r := .ok (ρo1, .brk) w1) trivial (fun _ _ e => by cases e) hm1,
          rfl, rfl, fun e => by cases e⟩
      | ret v =>
        exact ⟨_, BlockE.append_stop (r := .ok (ρo1, .ret v) w1) trivial (fun _ _ e => by cases e) hm1,
          rfl, rfl, fun e => by cases e⟩

theorem sim0 {F D P} : SimAt F D P 0 := by
  constructor <;> intros <;> rename_i h hd
  all_goals
    simp only [execBlockG_zero, nestedG_zero, execG_zero, switchG_zero, tswitchG_zero] at h
    subst h
    exact absurd hd not_definite_fuel

theorem simX {F D P} (hP : ∀ e, P e = true → Inert F e) (n : Nat) (ih : SimAt F D P n)
    {s live needs ρi ρo w r}
    (hscope : scopeErrsStmt D (keys ρi) s = []) (hshape : shapeOKStmt s = true) (hsem : semOKStmt P s live = true)
    (hr : Rel (dceStmt s live needs).live (dceStmt s live needs).needs ρo ρi)
    (h : execG (n+1) F ρi w s = r) (hd : Definite r) :
    ∃ r', BlockE F ρo w (dceStmt s live needs).out r' ∧ ResRel live needs r' r := by
  cases s with
  | varDecl x ty v => exact simX_varDecl hP n hscope hshape hsem hr h hd
  | assign x v => exact simX_assign hP n hshape hsem hr h hd
  | ite c t e => exact simX_ite n ih hscope hshape hsem hr h hd
  | loop body => exact simX_loop n ih hscope hshape hsem hr h hd
  | «switch» e cs d => exact simX_switch n ih hscope hshape hsem hr h hd
  | tswitch bind e cs d => exact simX_tswitch n ih hscope hshape hsem hr h hd
  | _ => exact simX_kept n rfl hshape hr h hd

theorem simStep {F D P} (hP : ∀ e, P e = true → Inert F e) (n : Nat) (ih : SimAt F D P n) :
    SimAt F D P (n+1) where
  bl := simB n ih
  ne := simN n ih
  ex := simX hP n ih
  sw := simSw n ih
  ts := simTs n ih

theorem sim_all {F D P} (hP : ∀ e, P e = true → Inert F e) : ∀ n, SimAt F D P n
  | 0 => sim0
  | n + 1 => simStep hP n (sim_all hP n)

end Goml.Dce
