import GomlVerif.Lemmas.C14Rel
/-! C14: the two Cores evaluate to related results (closures included).  Induction on fuel over
`eval / evalList / evalArms / apply`, with the relation of `Lemmas/C14Rel.lean` on values and worlds. -/
namespace Goml.Alpha
open Goml Goml.Sem

theorem RRel.andThen {α β : Type} {R : α → α → Prop} {S : β → β → Prop} {r' r : Res α} {K' K : α → World → Res β}
    (h : RRel R r' r) (hK : ∀ a' a w' w, R a' a → WRel w' w → RRel S (K' a' w') (K a w)) :
    RRel S (r'.andThen K') (r.andThen K) :=
  match r', r, h with
  | .ok _ _, .ok _ _, h => hK _ _ _ _ h.1 h.2
  | .fail _ _, .fail _ _, h => h
  | .ok _ _, .fail _ _, h => False.elim h
  | .fail _ _, .ok _ _, h => False.elim h

theorem valKey_rel {v' v : Val} (h : VRel v' v) : ValTy.valKey v' = ValTy.valKey v := by cases h <;> rfl

theorem eqPrim_sound {p q : Prim} (h : eqPrim p q = true) : p = q := by
  cases p <;> cases q <;> simp [eqPrim] at h <;> simp [h]

theorem armMatches_of_not_head {l : Expr} (h : isHead l = false) (v : Val) : armMatches l v = false := by
  cases l <;> first | rfl | cases h

theorem aeLhs_matches {l m : Expr} (h : aeLhs l m = true) (v : Val) : armMatches m v = armMatches l v := by
  unfold aeLhs at h
  split at h
  · next c _ _ d _ _ => cases of_decide_eq_true h; cases c <;> cases v <;> rfl
  · cases beq_iff_eq.1 h; cases v <;> rfl
  · cases eqPrim_sound h; rfl
  · simp only [Bool.and_eq_true, Bool.not_eq_true'] at h
    rw [armMatches_of_not_head h.1, armMatches_of_not_head h.2]

theorem ERel.lookup {σ : String → String} {N : List String} (hσ : injOn σ N = true) {ρ' ρ : Env} (h : ERel σ ρ' ρ)
    (x : String) (hx : N.contains x = true) (hρ : EnvIn N ρ) :
    (∃ v' v, lookupEnv ρ' (σ x) = some v' ∧ lookupEnv ρ x = some v ∧ VRel v' v) ∨
    (lookupEnv ρ' (σ x) = none ∧ lookupEnv ρ x = none) := by
  induction ρ generalizing ρ' with
  | nil => cases h; exact Or.inr ⟨rfl, rfl⟩
  | cons p ρ ih =>
    cases h with
    | cons _ y hv ht =>
      have ih := ih ht (fun q hq => hρ q (by simp [hq]))
      have hp : N.contains y = true := hρ _ (List.Mem.head _)
      rw [lookupEnv_cons, lookupEnv_cons]
      by_cases hxy : y = x
      · subst hxy
        simp only [beq_self_eq_true, if_true]
        exact Or.inl ⟨_, _, rfl, rfl, hv⟩
      · have h1 : (σ y == σ x) = false := beq_eq_false_iff_ne.mpr (fun e => hxy (injOn_apply hσ hp hx e))
        have h2 : (y == x) = false := beq_eq_false_iff_ne.mpr hxy
        rw [h1, h2]
        exact ih

theorem ERel.bind {σ : String → String} : ∀ (ps : List String) {args' args : List Val} {ρ' ρ : Env},
    ERel σ ρ' ρ → VRelL args' args → ERel σ (bindParams (ps.map σ) args' ρ') (bindParams ps args ρ)
  | [], _, _, _, _, h, _ => by simpa [bindParams] using h
  | p :: ps, _, _, _, _, h, .nil => by simpa [bindParams] using h
  | p :: ps, _, _, _, _, h, .cons h1 h2 => by
    simp only [List.map_cons, bindParams]
    exact ERel.bind ps (.cons _ p h1 h) h2

theorem domOk_bind {B : List String} : ∀ (ps : List String) (args : List Val) (ρ : Env), DomOk B ρ → DomOk B (bindParams ps args ρ)
  | [], _, _, h => by simpa [bindParams] using h
  | _ :: _, [], _, h => by simpa [bindParams] using h
  | p :: ps, a :: as, ρ, h => by
    simp only [bindParams]
    apply domOk_bind ps as ((p, a) :: ρ)
    intro x hx
    have := h x hx
    simp only [List.map_cons, List.contains_cons, Bool.or_eq_true]
    exact Or.inr this

/-- the environments an expression and its `σ`-renaming are evaluated in: `σ` is injective on the names `N` in
    play, the binders in scope `B` are bound, and the environments are related name by name -/
structure Ctx (σ : String → String) (N B : List String) (ρ' ρ : Env) : Prop where
  inj : injOn σ N = true
  dom : DomOk B ρ
  names : EnvIn N ρ
  env : ERel σ ρ' ρ

theorem Ctx.cons {σ : String → String} {N B : List String} {ρ' ρ : Env} (C : Ctx σ N B ρ' ρ) {x : String}
    (hx : N.contains x = true) {v' v : Val} (hv : VRel v' v) : Ctx σ N (x :: B) ((σ x, v') :: ρ') ((x, v) :: ρ) :=
  ⟨C.inj, domOk_cons C.dom x v, envIn_cons hx C.names, .cons σ x hv C.env⟩

theorem Ctx.bind {σ : String → String} {N B : List String} {ρ' ρ : Env} (C : Ctx σ N B ρ' ρ) {ps : List String}
    (hps : ∀ p ∈ ps, N.contains p = true) {args' args : List Val} (ha : VRelL args' args) :
    Ctx σ N B (bindParams (ps.map σ) args' ρ') (bindParams ps args ρ) :=
  ⟨C.inj, domOk_bind ps args ρ C.dom, envIn_bind N ps args ρ hps C.names, ERel.bind ps C.env ha⟩

/-- `e'` is `e` renamed by `σ`; environments and worlds related ⇒ results related -/
def RA (S W : Prog) (fuel : Nat) : Prop :=
  ∀ {σ N B ρ' ρ}, Ctx σ N B ρ' ρ → ∀ {w' w : World} {e e' : Expr},
    scC (moved σ) B e = true → inE N e = true → aeE σ e e' = true → WRel w' w →
    RRel VRel (eval fuel W ρ' w' e') (eval fuel S ρ w e)
def RAL (S W : Prog) (fuel : Nat) : Prop :=
  ∀ {σ N B ρ' ρ}, Ctx σ N B ρ' ρ → ∀ {w' w : World} {es es' : List Expr},
    scCL (moved σ) B es = true → inL N es = true → aeL σ es es' = true → WRel w' w →
    RRel VRelL (evalList fuel W ρ' w' es') (evalList fuel S ρ w es)
def RAA (S W : Prog) (fuel : Nat) : Prop :=
  ∀ {σ N B ρ' ρ}, Ctx σ N B ρ' ρ → ∀ {w' w : World} {v' v : Val} {arms arms' : List Arm} {d d' : Option Expr},
    scCArms (moved σ) B arms = true → scCO (moved σ) B d = true → inArms N arms = true → inO N d = true →
    aeArms σ arms arms' = true → aeO σ d d' = true → WRel w' w → VRel v' v →
    RRel VRel (evalArms fuel W ρ' w' v' arms' d') (evalArms fuel S ρ w v arms d)
/-- related functions applied to related arguments -/
def RApp (S W : Prog) (fuel : Nat) : Prop :=
  ∀ {w' w : World} {f' f : Val} {args' args : List Val}, WRel w' w → VRel f' f → VRelL args' args →
    RRel VRel (apply fuel W w' f' args') (apply fuel S w f args)

structure RelAt (S W : Prog) (fuel : Nat) : Prop where
  expr : RA S W fuel
  list : RAL S W fuel
  arms : RAA S W fuel
  app : RApp S W fuel

theorem rA_step {S W : Prog}
    (himpl : ∀ tr key m, W.impls.find? (fun i => i.1 == tr && i.2.1 == key && i.2.2.1 == m) = S.impls.find? (fun i => i.1 == tr && i.2.1 == key && i.2.2.1 == m)) {n : Nat}
    (ihA : RA S W n) (ihL : RAL S W n) (ihAA : RAA S W n) (ihB : RApp S W n) : RA S W (n + 1) := by
  intro σ N B ρ' ρ C w' w e e' hsc hin hae hw
  have hsc0 := hsc
  have hin0 := hin
  have hae0 := hae
  -- one goal per row of `aeE`: both expressions have the same form, and the three checks on it say the checks on its
  -- parts, in order and associated to the left (`(p₁ ∧ p₂) ∧ p₃`: `.1.1`, `.1.2`, `.2`)
  unfold aeE at hae
  split at hae
  all_goals simp only [scC, inE, Bool.and_eq_true, beq_iff_eq, decide_eq_true_eq, Bool.false_eq_true] at hsc hin hae
  · -- var
    next x _ y _ =>
    cases hae
    rw [eval_var, eval_var]
    rcases C.env.lookup C.inj x hin C.names with ⟨v', v, e1, e2, hv⟩ | ⟨e1, e2⟩
    · rw [e1, e2]; exact ⟨hv, hw⟩
    · -- bound on neither side: a global name, which `σ` does not move
      rw [e1, e2]
      simp only [Bool.or_eq_true, Bool.not_eq_true'] at hsc
      rcases hsc with h | h
      · simp only [moved, bne_eq_false_iff_eq] at h
        rw [h]; exact ⟨.fn _, hw⟩
      · have := C.dom x h; rw [lookup_none_dom e2] at this; cases this
  · -- prim
    next p q =>
    cases eqPrim_sound hae
    rw [eval_prim, eval_prim]
    exact ⟨VRel.of_base (by cases p <;> rfl), hw⟩
  · -- tag
    obtain ⟨rfl, ht⟩ := hae
    rw [eval_tag, eval_tag, ht]; exact ⟨.enumV _ _ .nil, hw⟩
  · -- constr
    next c _ _ _ _ _ =>
    obtain ⟨rfl, ha⟩ := hae
    rw [eval_constr, eval_constr]
    refine (ihL C hsc hin ha hw).andThen fun vs' vs w1' w1 hv hw1 => ?_
    cases c
    · exact ⟨.enumV _ _ hv, hw1⟩
    · exact ⟨.structV _ hv, hw1⟩
  · -- tuple
    rw [eval_tuple, eval_tuple]
    exact (ihL C hsc hin hae hw).andThen fun vs' vs w1' w1 hv hw1 => ⟨.tuple hv, hw1⟩
  · -- array
    rw [eval_array, eval_array]
    exact (ihL C hsc hin hae hw).andThen fun vs' vs w1' w1 hv hw1 => ⟨.array hv, hw1⟩
  · -- closure
    next _ ps b _ qs c =>
    simp only [List.all_eq_true, Bool.not_eq_true'] at hsc hin
    have hq : qs.map (·.1) = (ps.map (·.1)).map σ := by rw [← hae.1, List.map_map]; rfl
    rw [eval_closure, eval_closure, hq]
    refine ⟨VRel.closure σ N B _ b c ρ' ρ C.inj hae.2 hsc.2 hin.2 ?_ ?_ C.dom C.names C.env, hw⟩
    · intro p hp
      obtain ⟨q, hq1, rfl⟩ := List.mem_map.1 hp
      exact hin.1 q hq1
    · intro p hp
      obtain ⟨q, hq1, rfl⟩ := List.mem_map.1 hp
      exact hsc.1 q hq1
  · -- letE
    obtain ⟨⟨rfl, hv⟩, hb⟩ := hae
    rw [eval_letE, eval_letE]
    exact (ihA C hsc.1 hin.1.2 hv hw).andThen fun a' a w1' w1 ha hw1 =>
      ihA (C.cons hin.1.1 ha) hsc.2 hin.2 hb hw1
  · -- matchE
    rw [eval_matchE, eval_matchE]
    exact (ihA C hsc.1.1 hin.1.1 hae.1.1 hw).andThen fun a' a w1' w1 ha hw1 =>
      ihAA C hsc.1.2 hsc.2 hin.1.2 hin.2 hae.1.2 hae.2 hw1 ha
  · -- ite
    rw [eval_ite, eval_ite]
    refine (ihA C hsc.1.1 hin.1.1 hae.1.1 hw).andThen fun a' a w1' w1 ha hw1 => ?_
    cases ha with
    | bool b =>
      cases b
      · exact ihA C hsc.2 hin.2 hae.2 hw1
      · exact ihA C hsc.1.2 hin.1.2 hae.1.2 hw1
    | _ => exact ⟨rfl, hw1⟩
  · -- while
    rw [eval_while, eval_while]
    refine (ihA C hsc.1 hin.1 hae.1 hw).andThen fun a' a w1' w1 ha hw1 => ?_
    cases ha with
    | bool b =>
      cases b
      · exact ⟨.unit, hw1⟩
      · exact (ihA C hsc.2 hin.2 hae.2 hw1).andThen fun _ _ w2' w2 _ hw2 => ihA C hsc0 hin0 hae0 hw2
    | _ => exact ⟨rfl, hw1⟩
  · -- go
    rw [eval_go, eval_go]
    refine (ihA C hsc hin hae hw).andThen fun a' a w1' w1 ha hw1 => ?_
    rw [hw1.eager]
    split
    · exact (ihB hw1 ha .nil).andThen fun _ _ w2' w2 _ hw2 => ⟨.unit, hw2⟩
    · exact ⟨.unit, ⟨hw1.out, hw1.store, hw1.spawned.append (.cons ha .nil), hw1.externs, rfl⟩⟩
  · -- cget
    obtain ⟨⟨rfl, rfl⟩, he⟩ := hae
    rw [eval_cget, eval_cget]
    refine (ihA C hsc hin he hw).andThen fun a' a w1' w1 ha hw1 => ?_
    cases ha with
    | enumV _ _ hl => exact .of_resRel ((vrelL_iff.1 hl).component _ (wrel_iff.1 hw1) _)
    | structV _ hl => exact .of_resRel ((vrelL_iff.1 hl).component _ (wrel_iff.1 hw1) _)
    | _ => exact ⟨rfl, hw1⟩
  · -- un
    next op _ _ _ _ _ =>
    obtain ⟨rfl, he⟩ := hae
    rw [eval_un, eval_un]
    exact (ihA C hsc hin he hw).andThen fun a' a w1' w1 ha hw1 =>
      .of_resRel (respects.unopRes op ha (wrel_iff.1 hw1))
  · -- bin
    next op _ _ _ _ _ _ _ =>
    obtain ⟨⟨rfl, hl⟩, hr⟩ := hae
    rw [eval_bin, eval_bin]
    refine (ihA C hsc.1 hin.1 hl hw).andThen fun a' a w1' w1 ha hw1 => ?_
    rw [respects.scAnd op ha, respects.scOr op ha, logicalNonBool_rel op ha]
    split
    · exact ⟨.bool _, hw1⟩
    split
    · exact ⟨.bool _, hw1⟩
    split
    · exact ⟨rfl, hw1⟩
    exact (ihA C hsc.2 hin.2 hr hw1).andThen fun b' b w2' w2 hb hw2 =>
      .of_resRel (respects.binopRes op ha hb (wrel_iff.1 hw2))
  · -- call
    rw [eval_call, eval_call]
    exact (ihA C hsc.1 hin.1 hae.1 hw).andThen fun fv' fv w1' w1 hf hw1 =>
      (ihL C hsc.2 hin.2 hae.2 hw1).andThen fun vs' vs w2' w2 hvs hw2 => ihB hw2 hf hvs
  · -- toDyn
    obtain ⟨⟨rfl, hk⟩, he⟩ := hae
    rw [eval_toDyn, eval_toDyn, ← hk]
    exact (ihA C hsc hin he hw).andThen fun a' a w1' w1 ha hw1 => ⟨.dyn _ _ ha, hw1⟩
  · -- dynCall
    obtain ⟨⟨⟨rfl, rfl⟩, hr⟩, ha⟩ := hae
    rw [eval_dynCall, eval_dynCall]
    refine (ihA C hsc.1 hin.1 hr hw).andThen fun rv' rv w1' w1 hv hw1 => ?_
    cases hv with
    | dyn _ k hv =>
      refine (ihL C hsc.2 hin.2 ha hw1).andThen fun vs' vs w2' w2 hvs hw2 => ?_
      rw [himpl]
      split
      · exact ihB hw2 (.fn _) (.cons hv hvs)
      · exact ⟨rfl, hw2⟩
    | _ => exact ⟨rfl, hw1⟩
  · -- traitCall
    obtain ⟨⟨⟨rfl, rfl⟩, hr⟩, ha⟩ := hae
    rw [eval_traitCall_at, eval_traitCall_at]
    refine (ihA C hsc.1 hin.1 hr hw).andThen fun rv' rv w1' w1 hv hw1 => ?_
    refine (ihL C hsc.2 hin.2 ha hw1).andThen fun vs' vs w2' w2 hvs hw2 => ?_
    rw [himpl, valKey_rel hv]
    split
    · exact ihB hw2 (.fn _) (.cons hv hvs)
    · exact ⟨rfl, hw2⟩
  · -- proj
    obtain ⟨rfl, he⟩ := hae
    rw [eval_proj, eval_proj]
    refine (ihA C hsc hin he hw).andThen fun a' a w1' w1 ha hw1 => ?_
    cases ha with
    | tuple hl => exact .of_resRel ((vrelL_iff.1 hl).component _ (wrel_iff.1 hw1) _)
    | _ => exact ⟨rfl, hw1⟩

theorem rAL_step {S W : Prog} {n : Nat} (ihA : RA S W n) (ihL : RAL S W n) : RAL S W (n + 1) := by
  intro σ N B ρ' ρ C w' w es es' hsc hin hae hw
  unfold aeL at hae
  split at hae
  · rw [evalList_nil_at, evalList_nil_at]; exact ⟨.nil, hw⟩
  · simp only [Bool.and_eq_true] at hae
    simp only [scCL, inL, Bool.and_eq_true] at hsc hin
    rw [evalList_cons_at, evalList_cons_at]
    exact (ihA C hsc.1 hin.1 hae.1 hw).andThen fun a' a w1' w1 ha hw1 =>
      (ihL C hsc.2 hin.2 hae.2 hw1).andThen fun vs' vs w2' w2 hvs hw2 => ⟨.cons ha hvs, hw2⟩
  · cases hae

theorem rAA_step {S W : Prog} {n : Nat} (ihA : RA S W n) (ihAA : RAA S W n) : RAA S W (n + 1) := by
  intro σ N B ρ' ρ C w' w v' v arms arms' d d' hsca hscd hina hind haea haed hw hv
  unfold aeArms at haea
  split at haea
  · -- no arm left: the default, if there is one
    rw [evalArms_nil_at, evalArms_nil_at]
    unfold aeO at haed
    split at haed
    · exact ⟨rfl, hw⟩
    · simp only [scCO, inO] at hscd hind
      exact ihA C hscd hind haed hw
    · cases haed
  · next a _ a' _ =>
    obtain ⟨l, b⟩ := a
    obtain ⟨l', b'⟩ := a'
    simp only [aeArm, Bool.and_eq_true] at haea
    simp only [scCArms, scCArm, inArms, inArm, Bool.and_eq_true] at hsca hina
    rw [evalArms_cons_at, evalArms_cons_at, aeLhs_matches haea.1.1, armMatches_rel l hv]
    split
    · exact ihA C hsca.1 hina.1 haea.1.2 hw
    · exact ihAA C hsca.2 hscd hina.2 hind haea.2 haed hw hv
  · cases haea

/-- what `validate` establishes, function by function -/
structure HypV (σs : String → String → String) (Ns : String → List String) (S W : Prog) : Prop where
  impls : ∀ tr key m, W.impls.find? (fun i => i.1 == tr && i.2.1 == key && i.2.2.1 == m) = S.impls.find? (fun i => i.1 == tr && i.2.1 == key && i.2.2.1 == m)
  fns : ∀ n, (S.findFn n = none ∧ W.findFn n = none) ∨
    ∃ fS fW, S.findFn n = some fS ∧ W.findFn n = some fW ∧ validFn (σs fS.name) (Ns fS.name) fS fW = true

theorem rB_step {σs : String → String → String} {Ns : String → List String} {S W : Prog} (H : HypV σs Ns S W) {n : Nat}
    (ihA : RA S W n) : RApp S W (n + 1) := by
  have hfn : ∀ (fS fW : Fn) (σ : String → String) (N : List String), validFn σ N fS fW = true →
      ∀ (args' args : List Val) (w' w : World), WRel w' w → VRelL args' args →
      RRel VRel (eval n W (bindParams (fW.params.map (·.1)) args' []) w' fW.body)
        (eval n S (bindParams (fS.params.map (·.1)) args []) w fS.body) := by
    intro fS fW σ N hv args' args w' w hw ha
    simp only [validFn, Bool.and_eq_true, beq_iff_eq] at hv
    obtain ⟨⟨⟨⟨⟨hps, hae⟩, hinj⟩, hin⟩, hpN⟩, hsc⟩ := hv
    have hps' : ∀ q ∈ fS.params.map (·.1), N.contains q = true := by
      intro q hq
      obtain ⟨p, hp, rfl⟩ := List.mem_map.1 hq
      exact List.all_eq_true.1 hpN p hp
    have hp2 : (fS.params.map (·.1)).map σ = fW.params.map (·.1) := by
      rw [← hps]; simp [List.map_map, Function.comp_def]
    have C : Ctx σ N [] [] [] := ⟨hinj, fun x hx => (by simp at hx), fun p hp => (by cases hp), .nil σ⟩
    have C := C.bind hps' ha
    rw [hp2] at C
    exact ihA C hsc hin hae hw
  intro w' w f' f args' args hw hf ha
  cases hf with
  | closure σ N B ps body body' ρ' ρ hσ hae hsc hin hpN hpm hB hρ hE =>
    rw [apply_closure, apply_closure]
    exact ihA (Ctx.bind ⟨hσ, hB, hρ, hE⟩ hpN ha) hsc hin hae hw
  | fn name =>
    rcases H.fns name with ⟨hs, hw_⟩ | ⟨fS, fW, hs, hw_, hv⟩
    · rw [apply_extern hw_, apply_extern hs]
      exact .of_resRel (respects.applyExtern name (vrelL_iff.1 ha) (wrel_iff.1 hw))
    · rw [apply_fn, apply_fn, hs, hw_]
      exact hfn fS fW _ _ hv args' args w' w hw ha
  | structV t hl =>
    rw [apply_structV, apply_structV]
    rcases H.fns ("inherent#" ++ t ++ "#" ++ t ++ "#apply") with ⟨hs, hw_⟩ | ⟨fS, fW, hs, hw_, hv⟩
    · simp only [hs, hw_]; exact ⟨rfl, hw⟩
    · simp only [hs, hw_]
      exact hfn fS fW _ _ hv _ _ w' w hw (.cons (.structV t hl) ha)
  | _ => simp only [apply]; exact ⟨rfl, hw⟩

theorem rel_all {σs : String → String → String} {Ns : String → List String} {S W : Prog} (H : HypV σs Ns S W) :
    ∀ fuel, RelAt S W fuel := by
  intro fuel
  induction fuel with
  | zero =>
    refine ⟨?_, ?_, ?_, ?_⟩
    · intro σ N B ρ' ρ _ w' w e e' _ _ _ hw; rw [eval_zero, eval_zero]; exact ⟨rfl, hw⟩
    · intro σ N B ρ' ρ _ w' w es es' _ _ _ hw; rw [evalList_zero, evalList_zero]; exact ⟨rfl, hw⟩
    · intro σ N B ρ' ρ _ w' w v' v arms arms' d d' _ _ _ _ _ _ hw _; rw [evalArms_zero, evalArms_zero]; exact ⟨rfl, hw⟩
    · intro w' w f' f args' args hw _ _; rw [apply_zero, apply_zero]; exact ⟨rfl, hw⟩
  | succ n ih =>
    obtain ⟨ihA, ihL, ihAA, ihB⟩ := ih
    exact ⟨rA_step H.impls ihA ihL ihAA ihB, rAL_step ihA ihL, rAA_step ihA ihAA, rB_step H ihA⟩

theorem run_rel {σs : String → String → String} {Ns : String → List String} {S W : Prog} (H : HypV σs Ns S W)
    (fuel : Nat) (entry : String) (eager : Bool) : run fuel W entry eager = run fuel S entry eager := by
  have hw0 : WRel { eager := eager } { eager := eager } := ⟨rfl, .nil, .nil, rfl, rfl⟩
  have := (rel_all H fuel).app hw0 (.fn entry) .nil
  rw [run_eq, run_eq]
  exact this.outcome_eq

end Goml.Alpha
