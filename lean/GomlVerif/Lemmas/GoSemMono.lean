import GomlVerif.Lemmas.GoSemEq
/-!
Fuel monotonicity of `Go.Sem` (`Model/GoSem.lean`): a run that did not stop for lack of fuel is
unchanged by more fuel, for every one of the nine mutually recursive functions.

It is one reading (`oneMore`) of a general walk, `read_all`: a run in a file `F` whose result is worth reading (`D`) is found
again, in the way `X` says, among the runs of the same term in a file `F'` with the same declarations, given what a call does.
Every node is its equation of `Lemmas/GoSemEq.lean` on both sides and `Reading.bind` over the induction hypotheses for its
recursive calls; what a node does with the values is the same term on both sides.  `Lemmas/GoFileSim.lean` reads the same
walk with "definite" and "for every sufficiently large fuel".
-/
namespace Goml.Go
open Goml.Sem (Fail)

/-- the run did not stop for lack of fuel -/
def GRes.nf {α : Type} : GRes α → Prop
  | .fail .fuel _ => False
  | _ => True

@[simp] theorem nf_ok {α : Type} (a : α) (w : GWorld) : (GRes.ok a w).nf = True := by simp [GRes.nf]
@[simp] theorem nf_fail {α : Type} (f : Fail) (w : GWorld) : (GRes.fail (α := α) f w).nf ↔ f ≠ .fuel := by
  cases f <;> simp [GRes.nf]

theorem nfCast {α β : Type} {f : Fail} {w : GWorld} (h : (GRes.fail (α := α) f w).nf) : (GRes.fail (α := β) f w).nf :=
  (nf_fail f w).mpr ((nf_fail f w).mp h)

/-- `ReadAt` under the reading `oneMore`, with `F' = F` and for every file -/
structure MonoAt (n : Nat) : Prop where
  ev : ∀ {F ρ w e}, (evalG n F ρ w e).nf → evalG (n+1) F ρ w e = evalG n F ρ w e
  el : ∀ {F ρ w es}, (evalListG n F ρ w es).nf → evalListG (n+1) F ρ w es = evalListG n F ρ w es
  ef : ∀ {F ρ w fs}, (evalFieldsG n F ρ w fs).nf → evalFieldsG (n+1) F ρ w fs = evalFieldsG n F ρ w fs
  cl : ∀ {F w f args}, (callG n F w f args).nf → callG (n+1) F w f args = callG n F w f args
  bl : ∀ {F ρ w ss}, (execBlockG n F ρ w ss).nf → execBlockG (n+1) F ρ w ss = execBlockG n F ρ w ss
  ne : ∀ {F ρ w ss}, (nestedG n F ρ w ss).nf → nestedG (n+1) F ρ w ss = nestedG n F ρ w ss
  ex : ∀ {F ρ w s}, (execG n F ρ w s).nf → execG (n+1) F ρ w s = execG n F ρ w s
  sw : ∀ {F ρ w v cs d}, (switchG n F ρ w v cs d).nf → switchG (n+1) F ρ w v cs d = switchG n F ρ w v cs d
  ts : ∀ {F ρ w v cs d}, (tswitchG n F ρ w v cs d).nf → tswitchG (n+1) F ρ w v cs d = tswitchG n F ρ w v cs d

set_option hygiene false in
/-- case split on the result of a recursive call at fuel `n` (`t0`); `t1` is the same call at
    `n+1`, `ih` the induction hypothesis for that function.  It expects `h : … = r` and `hnf : r.nf` in the context.
    No proof uses it. -/
macro "rcall " hx:ident v:ident w:ident " : " t0:term ", " t1:term ", " ih:term : tactic => `(tactic|
  (cases $hx:ident : $t0
   rotate_left
   next f' w' =>
     rw [$hx:ident] at h; simp only at h; subst h
     have hq : $t1 = $t0 := $ih (by rw [$hx:ident]; simp at hnf ⊢; exact hnf)
     rw [hq, $hx:ident]
   rename_i $v:ident $w:ident
   rw [$hx:ident] at h
   have hq : $t1 = $t0 := $ih (by rw [$hx:ident]; trivial)
   rw [hq, $hx:ident]; clear hq; try simp only at h ⊢))

theorem GRes.bind_mono {α β : Type} {r r' : GRes α} {k k' : α → GWorld → GRes β} (hr : r.nf → r' = r)
    (hk : ∀ a w, (k a w).nf → k' a w = k a w) : (r.bind k).nf → r'.bind k' = r.bind k := by
  intro hnf
  cases r with
  | ok a w => rw [hr trivial]; exact hk a w hnf
  | fail f w => rw [hr (nfCast hnf)]; rfl

/-- same struct declarations and method sets -/
structure FileLike (F F' : GFile) : Prop where
  sf : ∀ n, F'.structFields n = F.structFields n
  si : ∀ s i, F'.structImplements s i = F.structImplements s i

theorem FileLike.refl (F : GFile) : FileLike F F := ⟨fun _ => rfl, fun _ _ => rfl⟩

theorem FileLike.zero {F F' : GFile} (h : FileLike F F') (t : GTy) : zero F' t = zero F t := by
  unfold Goml.Go.zero
  have : F'.structFields = F.structFields := funext h.sf
  rw [this]

theorem FileLike.castTail {F F' : GFile} (hL : FileLike F F') : castTail F' = castTail F := by
  funext ty v w; unfold Goml.Go.castTail; simp only [hL.si]

theorem FileLike.slitTail {F F' : GFile} (hL : FileLike F F') : slitTail F' = slitTail F := by
  funext ty fs w; unfold Goml.Go.slitTail; simp only [hL.sf, hL.zero]

/-- `D r`: the result `r` of the run in `F` at fuel `n` is worth reading; `X n T r`: `r` is found among the runs `T` (a
    function of the fuel) of the same term in `F'` -/
structure Reading (D : ∀ {α : Type}, GRes α → Prop) (X : ∀ {α : Type}, Nat → (Nat → GRes α) → GRes α → Prop) : Prop where
  nofuel : ∀ {α : Type} (w : GWorld), ¬ D (GRes.fail (α := α) .fuel w)
  const : ∀ {α : Type} (n : Nat) (r : GRes α), X n (fun _ => r) r
  /-- the runs `T` need one unit of fuel to make the step that the run at fuel `n + 1` has made -/
  succ : ∀ {α : Type} {n : Nat} {T : Nat → GRes α} {r : GRes α}, X n (fun j => T (j+1)) r → X (n+1) T r
  bind : ∀ {α β : Type} {n : Nat} {T : Nat → GRes α} {K : Nat → α → GWorld → GRes β} {r : GRes α} {k : α → GWorld → GRes β},
    (D r → X n T r) → (∀ a w, D (k a w) → X n (fun j => K j a w) (k a w)) →
    D (r.bind k) → X n (fun j => (T j).bind (K j)) (r.bind k)

section
variable {D : ∀ {α : Type}, GRes α → Prop} {X : ∀ {α : Type}, Nat → (Nat → GRes α) → GRes α → Prop}

theorem Reading.ite (_hX : Reading D X) {α : Type} {n : Nat} {c : Prop} [Decidable c] {x y : GRes α} {T T' : Nat → GRes α}
    (hx : D x → X n T x) (hy : D y → X n T' y) :
    D (if c then x else y) → X n (fun j => if c then T j else T' j) (if c then x else y) := by
  split
  · exact hx
  · exact hy

theorem Reading.succD (hX : Reading D X) {α : Type} {P : Prop} {n : Nat} {T : Nat → GRes α} {r : GRes α}
    (h : P → X n (fun j => T (j+1)) r) : P → X (n+1) T r := fun hp => hX.succ (h hp)

structure ReadAt (D : ∀ {α : Type}, GRes α → Prop) (X : ∀ {α : Type}, Nat → (Nat → GRes α) → GRes α → Prop)
    (F F' : GFile) (n : Nat) : Prop where
  ev : ∀ {ρ w e}, D (evalG n F ρ w e) → X n (fun k => evalG k F' ρ w e) (evalG n F ρ w e)
  el : ∀ {ρ w es}, D (evalListG n F ρ w es) → X n (fun k => evalListG k F' ρ w es) (evalListG n F ρ w es)
  ef : ∀ {ρ w fs}, D (evalFieldsG n F ρ w fs) → X n (fun k => evalFieldsG k F' ρ w fs) (evalFieldsG n F ρ w fs)
  cl : ∀ {w f args}, D (callG n F w f args) → X n (fun k => callG k F' w f args) (callG n F w f args)
  bl : ∀ {ρ w ss}, D (execBlockG n F ρ w ss) → X n (fun k => execBlockG k F' ρ w ss) (execBlockG n F ρ w ss)
  ne : ∀ {ρ w ss}, D (nestedG n F ρ w ss) → X n (fun k => nestedG k F' ρ w ss) (nestedG n F ρ w ss)
  ex : ∀ {ρ w s}, D (execG n F ρ w s) → X n (fun k => execG k F' ρ w s) (execG n F ρ w s)
  sw : ∀ {ρ w v cs d}, D (switchG n F ρ w v cs d) → X n (fun k => switchG k F' ρ w v cs d) (switchG n F ρ w v cs d)
  ts : ∀ {ρ w v cs d}, D (tswitchG n F ρ w v cs d) → X n (fun k => tswitchG k F' ρ w v cs d) (tswitchG n F ρ w v cs d)

variable {F F' : GFile} (hX : Reading D X) (hL : FileLike F F') (n : Nat) (ih : ReadAt D X F F' n) (ρ : GEnv) (w : GWorld)
include hX ih

omit ih in
theorem read_leaf {e : GExpr} (he : isLeafG e = true) :
    X n (fun j => evalG (j+1) F' ρ w e) (evalG (n+1) F ρ w e) := by
  have : (fun j => evalG (j+1) F' ρ w e) = fun _ => evalG (n+1) F ρ w e := funext fun j => evalG_leaf he j n F' F ρ w
  rw [this]; exact hX.const _ _

theorem runOptG_read (d : Option (List GStmt)) :
    D (runOptG n F ρ w d) → X n (fun j => runOptG j F' ρ w d) (runOptG n F ρ w d) := by
  cases d with
  | none => exact fun _ => hX.const _ _
  | some b => exact ih.ne

theorem readL (es : List GExpr) :
    D (evalListG (n+1) F ρ w es) → X (n+1) (fun k => evalListG k F' ρ w es) (evalListG (n+1) F ρ w es) := by
  refine hX.succD ?_
  cases es with
  | nil => simp only [evalListG_nil]; exact fun _ => hX.const _ _
  | cons e rest =>
    simp only [evalListG_cons]
    exact hX.bind ih.ev fun _ _ => hX.bind ih.el fun _ _ _ => hX.const _ _

theorem readF (fs : List GField) :
    D (evalFieldsG (n+1) F ρ w fs) →
      X (n+1) (fun k => evalFieldsG k F' ρ w fs) (evalFieldsG (n+1) F ρ w fs) := by
  refine hX.succD ?_
  cases fs with
  | nil => simp only [evalFieldsG_nil]; exact fun _ => hX.const _ _
  | cons fd rest =>
    cases fd
    simp only [evalFieldsG_cons]
    exact hX.bind ih.ev fun _ _ => hX.bind ih.ef fun _ _ _ => hX.const _ _


include hL in
theorem readE (e : GExpr) :
    D (evalG (n+1) F ρ w e) → X (n+1) (fun k => evalG k F' ρ w e) (evalG (n+1) F ρ w e) := by
  refine hX.succD ?_
  cases e with
  | call t f args =>
    simp only [evalG_call]
    exact hX.bind ih.ev fun _ _ => hX.bind ih.el fun _ _ => ih.cl
  | un op t e => simp only [evalG_un]; exact hX.bind ih.ev fun _ _ _ => hX.const _ _
  | bin op t l r =>
    simp only [evalG_bin]
    refine hX.bind ih.ev fun a w1 => ?_
    split
    · exact fun _ => hX.const _ _
    · exact fun _ => hX.const _ _
    · exact ih.ev
    · exact ih.ev
    · exact hX.bind ih.ev fun _ _ _ => hX.const _ _
  | field f t o => simp only [evalG_field]; exact hX.bind ih.ev fun _ _ _ => hX.const _ _
  | index t a i =>
    simp only [evalG_index]
    exact hX.bind ih.ev fun _ _ => hX.bind ih.ev fun _ _ _ => hX.const _ _
  | cast t e =>
    simp only [evalG_cast, hL.castTail]; exact hX.bind ih.ev fun _ _ _ => hX.const _ _
  | slit t fs =>
    simp only [evalG_slit, hL.slitTail]; exact hX.bind ih.ef fun _ _ _ => hX.const _ _
  | alit t es => simp only [evalG_alit]; exact hX.bind ih.el fun _ _ _ => hX.const _ _
  | blocke t ss e =>
    simp only [evalG_blocke]
    refine hX.bind ih.bl fun p w1 => ?_
    split
    · exact ih.ev
    all_goals exact fun _ => hX.const _ _
  | _ => exact fun _ => read_leaf hX n ρ w rfl

theorem readB (ss : List GStmt) :
    D (execBlockG (n+1) F ρ w ss) → X (n+1) (fun k => execBlockG k F' ρ w ss) (execBlockG (n+1) F ρ w ss) := by
  refine hX.succD ?_
  cases ss with
  | nil => simp only [execBlockG_nil]; exact fun _ => hX.const _ _
  | cons s rest =>
    simp only [execBlockG_cons]
    refine hX.bind ih.ex fun p w1 => ?_
    split
    · exact ih.bl
    · exact fun _ => hX.const _ _

theorem readN (ss : List GStmt) :
    D (nestedG (n+1) F ρ w ss) → X (n+1) (fun k => nestedG k F' ρ w ss) (nestedG (n+1) F ρ w ss) := by
  refine hX.succD ?_
  simp only [nestedG_eq]
  exact hX.bind ih.bl fun _ _ _ => hX.const _ _

theorem readS (v : GVal) (cs : List GCase) (d : Option (List GStmt)) :
    D (switchG (n+1) F ρ w v cs d) →
      X (n+1) (fun k => switchG k F' ρ w v cs d) (switchG (n+1) F ρ w v cs d) := by
  refine hX.succD ?_
  cases cs with
  | nil => simp only [switchG_nil]; exact runOptG_read hX n ih ρ w d
  | cons c rest =>
    cases c
    simp only [switchG_cons]
    exact hX.bind ih.ev fun _ _ => hX.ite ih.ne ih.sw

theorem readT (v : GVal) (cs : List GTCase) (d : Option (List GStmt)) :
    D (tswitchG (n+1) F ρ w v cs d) →
      X (n+1) (fun k => tswitchG k F' ρ w v cs d) (tswitchG (n+1) F ρ w v cs d) := by
  refine hX.succD ?_
  cases cs with
  | nil => simp only [tswitchG_nil]; exact runOptG_read hX n ih ρ w d
  | cons c rest =>
    cases c
    simp only [tswitchG_cons]
    exact hX.ite ih.ne ih.ts


include hL in
theorem readX (s : GStmt) :
    D (execG (n+1) F ρ w s) → X (n+1) (fun k => execG k F' ρ w s) (execG (n+1) F ρ w s) := by
  refine hX.succD ?_
  cases s with
  | expr e => simp only [execG_expr]; exact hX.bind ih.ev fun _ _ _ => hX.const _ _
  | go c =>
    simp only [execG_go]
    cases c <;> first
      | exact fun _ => hX.const _ _
      | exact hX.bind ih.ev fun _ _ => hX.bind ih.el fun _ _ =>
          hX.ite (hX.bind ih.cl fun _ _ _ => hX.const _ _) fun _ => hX.const _ _
  | varDecl x ty v =>
    simp only [execG_varDecl, hL.zero]
    refine hX.ite (fun _ => hX.const _ _) ?_
    cases v with
    | none => exact fun _ => hX.const _ _
    | some e => exact hX.bind ih.ev fun _ _ _ => hX.const _ _
  | assign x e => simp only [execG_assign]; exact hX.bind ih.ev fun _ _ _ => hX.const _ _
  | fieldAssign t e =>
    simp only [execG_fieldAssign]
    cases t <;> first
      | exact fun _ => hX.const _ _
      | exact hX.bind ih.ev fun _ _ => hX.bind ih.ev fun _ _ _ => hX.const _ _
  | ptrAssign p e =>
    simp only [execG_ptrAssign]
    refine hX.bind ih.ev fun pv w1 => ?_
    split
    · exact hX.bind ih.ev fun _ _ _ => hX.const _ _
    all_goals exact fun _ => hX.const _ _
  | indexAssign a i e =>
    simp only [execG_indexAssign]
    cases a <;> first | exact fun _ => hX.const _ _ | skip
    refine hX.bind ih.ev fun iv w1 => ?_
    split
    · exact hX.bind ih.ev fun _ _ _ => hX.const _ _
    · exact fun _ => hX.const _ _
  | ret e =>
    simp only [execG_ret]
    cases e with
    | none => exact fun _ => hX.const _ _
    | some e => exact hX.bind ih.ev fun _ _ _ => hX.const _ _
  | ite c t e =>
    simp only [execG_ite]
    refine hX.bind ih.ev fun cv w1 => ?_
    split
    · exact ih.ne
    · exact runOptG_read hX n ih ρ w1 e
    · exact fun _ => hX.const _ _
  | loop body =>
    -- the right side of `execG_loop` contains the loop again: each side is rewritten once
    rw [execG_loop n]; simp only [execG_loop _ F']
    refine hX.bind ih.ne fun p w1 => ?_
    split
    · exact ih.ex
    all_goals exact fun _ => hX.const _ _
  | brk => simp only [execG_brk]; exact fun _ => hX.const _ _
  | «switch» e cs d => simp only [execG_switch]; exact hX.bind ih.ev fun _ _ => ih.sw
  | tswitch b e cs d =>
    simp only [execG_tswitch]
    exact hX.bind ih.ev fun _ _ => hX.bind ih.ts fun _ _ _ => hX.const _ _

end

section
variable {D : ∀ {α : Type}, GRes α → Prop} {X : ∀ {α : Type}, Nat → (Nat → GRes α) → GRes α → Prop}

theorem read0 (hX : Reading D X) (F F' : GFile) : ReadAt D X F F' 0 := by
  constructor <;> intros <;> rename_i hd
  all_goals
    simp only [evalG_zero, evalListG_zero, evalFieldsG_zero, callG_zero, execBlockG_zero, nestedG_zero, execG_zero,
      switchG_zero, tswitchG_zero] at hd
    exact absurd hd (hX.nofuel _)

theorem read_all (hX : Reading D X) {F F' : GFile} (hL : FileLike F F')
    (hC : ∀ n, ReadAt D X F F' n → ∀ w f args, D (callG (n+1) F w f args) →
      X (n+1) (fun k => callG k F' w f args) (callG (n+1) F w f args)) : ∀ n, ReadAt D X F F' n
  | 0 => read0 hX F F'
  | n + 1 =>
    have ih := read_all hX hL hC n
    { ev := readE hX hL n ih _ _ _
      el := readL hX n ih _ _ _
      ef := readF hX n ih _ _ _
      cl := hC n ih _ _ _
      bl := readB hX n ih _ _ _
      ne := readN hX n ih _ _ _
      ex := readX hX hL n ih _ _ _
      sw := readS hX n ih _ _ _ _ _
      ts := readT hX n ih _ _ _ _ _ }

end

theorem oneMore : Reading (fun r => r.nf) (fun n T r => T (n+1) = r) where
  nofuel _ h := h
  const _ _ := rfl
  succ h := h
  bind hr hk := GRes.bind_mono hr hk

/-- a call enters the body of a function of the file, or does not look at its fuel -/
theorem monoC {F : GFile} (n : Nat) (ih : ReadAt (fun r => r.nf) (fun n T r => T (n+1) = r) F F n) (w : GWorld) (f : GVal)
    (args : List GVal) : (callG (n+1) F w f args).nf → callG (n+2) F w f args = callG (n+1) F w f args := by
  have other : (∀ name fn, f = .func name → F.findFunc name = some fn → fn.params.length ≠ args.length) →
      (callG (n+1) F w f args).nf → callG (n+2) F w f args = callG (n+1) F w f args :=
    fun h _ => by rw [callG_other (n+1) F w f args h, callG_other n F w f args h]
  cases f with
  | func name =>
    cases hf : F.findFunc name with
    | none => exact other fun _ _ e h' => by cases e; rw [hf] at h'; cases h'
    | some fn =>
      by_cases hlen : fn.params.length = args.length
      · simp only [callG_some hf hlen]
        intro hnf
        exact congrArg retOfB (ih.bl (by cases hb : execBlockG n F (bindG fn.params args) w fn.body with
          | ok p w1 => trivial
          | fail f' w1 => rw [hb] at hnf; exact nfCast hnf))
      · exact other fun _ _ e h' => by cases e; rw [hf] at h'; cases h'; exact hlen
  | _ => exact other fun _ _ e => by cases e

/-- **fuel monotonicity**, one step, all nine functions of `Go.Sem` -/
theorem mono_all : ∀ n, MonoAt n := fun n =>
  have h := fun F => read_all oneMore (FileLike.refl F) monoC n
  ⟨(h _).ev, (h _).el, (h _).ef, (h _).cl, (h _).bl, (h _).ne, (h _).ex, (h _).sw, (h _).ts⟩

theorem mono_of_step {α : Type} {T : Nat → GRes α} (h : ∀ n, (T n).nf → T (n+1) = T n) {n m : Nat}
    (hle : n ≤ m) (hn : (T n).nf) : T m = T n := by
  induction hle with
  | refl => rfl
  | step _ ih => rw [h _ (by rw [ih]; exact hn), ih]

theorem execBlockG_mono {n m : Nat} (hle : n ≤ m) {F ρ w ss} (h : (execBlockG n F ρ w ss).nf) :
    execBlockG m F ρ w ss = execBlockG n F ρ w ss :=
  mono_of_step (T := fun k => execBlockG k F ρ w ss) (fun k => (mono_all k).bl) hle h

theorem evalListG_mono {n m : Nat} (hle : n ≤ m) {F ρ w es} (h : (evalListG n F ρ w es).nf) :
    evalListG m F ρ w es = evalListG n F ρ w es :=
  mono_of_step (T := fun k => evalListG k F ρ w es) (fun k => (mono_all k).el) hle h

theorem evalFieldsG_mono {n m : Nat} (hle : n ≤ m) {F ρ w fs} (h : (evalFieldsG n F ρ w fs).nf) :
    evalFieldsG m F ρ w fs = evalFieldsG n F ρ w fs :=
  mono_of_step (T := fun k => evalFieldsG k F ρ w fs) (fun k => (mono_all k).ef) hle h

theorem callG_mono {n m : Nat} (hle : n ≤ m) {F w f args} (h : (callG n F w f args).nf) :
    callG m F w f args = callG n F w f args :=
  mono_of_step (T := fun k => callG k F w f args) (fun k => (mono_all k).cl) hle h

end Goml.Go
