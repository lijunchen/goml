import GomlVerif.Lemmas.WtSubst
import GomlVerif.Lemmas.MonoWork
/-!
The shape of what `mono_expr` emits: `SameUpToCallee (substE σ e) (monoExpr F σ e c).1`.  Typing preservation
(`C03presMono`) and the absence of type parameters (`MonoClosed`) are read off this relation.
-/
namespace Goml.Wt
open Goml Goml.Mono Goml.Closed

mutual
/-- `SameUpToCallee e e'`: `e'` is `e` except for
* the *name* in `.var` nodes (same annotation) — `resolveCall` / `specialize_fn_value` rename a
  reference to a generic function to the instance;
* the type name stored in the constructor of a `.constr` / `.cget` node, re-derived from the node's
  (scrutinee's) type by `update_constructor_type`;
* a `.traitCall`, which becomes a direct `.call` of some name at the function type of the arguments. -/
inductive SameUpToCallee : Expr → Expr → Prop
  | var (x x' : String) (ty : Ty) : SameUpToCallee (.var x ty) (.var x' ty)
  | prim (p : Prim) : SameUpToCallee (.prim p) (.prim p)
  | tag (i : Nat) (ty : Ty) : SameUpToCallee (.tag i ty) (.tag i ty)
  | constr (k : Ctor) (ty : Ty) {args args' : List Expr} :
    SameUpToCalleeList args args' → SameUpToCallee (.constr k ty args) (.constr (updateCtor k ty) ty args')
  | tuple (ty : Ty) {items items' : List Expr} :
    SameUpToCalleeList items items' → SameUpToCallee (.tuple ty items) (.tuple ty items')
  | array (ty : Ty) {items items' : List Expr} :
    SameUpToCalleeList items items' → SameUpToCallee (.array ty items) (.array ty items')
  | closure (ty : Ty) (ps : List (String × Ty)) {b b' : Expr} :
    SameUpToCallee b b' → SameUpToCallee (.closure ty ps b) (.closure ty ps b')
  | letE (x : String) {v v' b b' : Expr} :
    SameUpToCallee v v' → SameUpToCallee b b' → SameUpToCallee (.letE x v b) (.letE x v' b')
  | matchNone (ty : Ty) {s s' : Expr} {arms arms' : List Arm} :
    SameUpToCallee s s' → SameUpToCalleeArms arms arms' →
    SameUpToCallee (.matchE ty s arms none) (.matchE ty s' arms' none)
  | matchSome (ty : Ty) {s s' d d' : Expr} {arms arms' : List Arm} :
    SameUpToCallee s s' → SameUpToCalleeArms arms arms' → SameUpToCallee d d' →
    SameUpToCallee (.matchE ty s arms (some d)) (.matchE ty s' arms' (some d'))
  | ite {c c' t t' e e' : Expr} :
    SameUpToCallee c c' → SameUpToCallee t t' → SameUpToCallee e e' → SameUpToCallee (.ite c t e) (.ite c' t' e')
  | while {c c' b b' : Expr} :
    SameUpToCallee c c' → SameUpToCallee b b' → SameUpToCallee (.while c b) (.while c' b')
  | go {e e' : Expr} : SameUpToCallee e e' → SameUpToCallee (.go e) (.go e')
  | cget (k : Ctor) (idx : Nat) (ty : Ty) {e e' : Expr} :
    SameUpToCallee e e' → SameUpToCallee (.cget k idx ty e) (.cget (updateCtor k (getTy e)) idx ty e')
  | un (op : UnOp) (ty : Ty) {e e' : Expr} : SameUpToCallee e e' → SameUpToCallee (.un op ty e) (.un op ty e')
  | bin (op : BinOp) (ty : Ty) {l l' r r' : Expr} :
    SameUpToCallee l l' → SameUpToCallee r r' → SameUpToCallee (.bin op ty l r) (.bin op ty l' r')
  | call (ty : Ty) {f f' : Expr} {args args' : List Expr} :
    SameUpToCallee f f' → SameUpToCalleeList args args' → SameUpToCallee (.call ty f args) (.call ty f' args')
  | toDyn (tr : String) (forTy ty : Ty) {e e' : Expr} :
    SameUpToCallee e e' → SameUpToCallee (.toDyn tr forTy ty e) (.toDyn tr forTy ty e')
  | dynCall (tr m : String) (ty : Ty) {recv recv' : Expr} {args args' : List Expr} :
    SameUpToCallee recv recv' → SameUpToCalleeList args args' →
    SameUpToCallee (.dynCall tr m ty recv args) (.dynCall tr m ty recv' args')
  | traitCall (tr m : String) (ty : Ty) (nm : String) {recv recv' : Expr} {args args' : List Expr} :
    SameUpToCallee recv recv' → SameUpToCalleeList args args' →
    SameUpToCallee (.traitCall tr m ty recv args)
      (.call ty (.var nm (.func (getTys (recv' :: args')) ty)) (recv' :: args'))
  | proj (idx : Nat) (ty : Ty) {e e' : Expr} : SameUpToCallee e e' → SameUpToCallee (.proj idx ty e) (.proj idx ty e')
inductive SameUpToCalleeList : List Expr → List Expr → Prop
  | nil : SameUpToCalleeList [] []
  | cons {e e' : Expr} {es es' : List Expr} :
    SameUpToCallee e e' → SameUpToCalleeList es es' → SameUpToCalleeList (e :: es) (e' :: es')
inductive SameUpToCalleeArms : List Arm → List Arm → Prop
  | nil : SameUpToCalleeArms [] []
  | cons {l l' b b' : Expr} {rest rest' : List Arm} :
    SameUpToCallee l l' → SameUpToCallee b b' → SameUpToCalleeArms rest rest' →
    SameUpToCalleeArms (.mk l b :: rest) (.mk l' b' :: rest')
end

theorem SameUpToCallee.rename_right {a : Expr} {x : String} {t : Ty} (x' : String)
    (h : SameUpToCallee a (.var x t)) : SameUpToCallee a (.var x' t) := by
  cases h
  exact .var _ _ _

theorem SameUpToCallee.getTy_eq {e e' : Expr} (h : SameUpToCallee e e') : getTy e = getTy e' := by
  refine SameUpToCallee.rec (motive_1 := fun e e' _ => getTy e = getTy e') (motive_2 := fun _ _ _ => True)
    (motive_3 := fun _ _ _ => True) ?_ ?_ ?_ ?_ ?_ ?_ ?_ ?_ ?_ ?_ ?_ ?_ ?_ ?_ ?_ ?_ ?_ ?_ ?_ ?_ ?_ ?_ ?_ ?_ ?_ h
  all_goals intros
  -- (`trivial` / `rfl` as first alternatives would unfold `getTy` on both sides in every row)
  all_goals first | exact True.intro | (simp only [getTy]; done) | (simp only [getTy]; assumption)

theorem SameUpToCalleeList.getTys_eq {es es' : List Expr} (h : SameUpToCalleeList es es') : getTys es = getTys es' := by
  induction es generalizing es' with
  | nil => cases h; rfl
  | cons e es ih => cases h with | cons h1 h2 => simp only [getTys, h1.getTy_eq, ih h2]

theorem SameUpToCalleeList.length_eq {es es' : List Expr} (h : SameUpToCalleeList es es') : es.length = es'.length := by
  induction es generalizing es' with
  | nil => cases h; rfl
  | cons e es ih => cases h with | cons h1 h2 => simp only [List.length_cons, ih h2]

theorem substParams_eq_substParamTys (σ : Subst) (ps : List (String × Ty)) : substParams σ ps = substParamTys σ ps := by
  induction ps with
  | nil => rfl
  | cons p ps ih => obtain ⟨x, t⟩ := p; simp [substParams, substParamTys, ih]

theorem resolveCall_same (F : List Fn) (nty : Ty) (a f' : Expr) (as args' : List Expr) (c : Ctx)
    (hf : SameUpToCallee a f') (ha : SameUpToCalleeList as args') :
    SameUpToCallee (.call nty a as) (resolveCall F nty f' args' c).1 := by
  rcases resolveCall_cases F nty f' args' c with e | ⟨m, e⟩ | ⟨x, fty, callee, s1, cs, hv, _, _, _, _, e⟩ <;> rw [e]
  · exact .call nty hf ha
  · exact .call nty hf ha
  · subst hv
    exact .call nty (hf.rename_right _) ha

theorem monoExpr_same (F : List Fn) (σ : Subst) :
    (∀ e c, SameUpToCallee (substE σ e) (monoExpr F σ e c).1) ∧
    (∀ as c, SameUpToCalleeArms (substAs σ as) (monoArms F σ as c).1) ∧
    ∀ es c, SameUpToCalleeList (substEs σ es) (monoList F σ es c).1 := by
  refine monoExpr.mutual_induct_unfolding F σ
    (fun e _ r => SameUpToCallee (substE σ e) r.1) (fun as _ r => SameUpToCalleeArms (substAs σ as) r.1)
    (fun es _ r => SameUpToCalleeList (substEs σ es) r.1)
    ?var ?prim ?tag ?constr ?tuple ?array ?closure ?letE ?matchNone ?matchSome ?ite ?while_ ?go ?cget ?un ?bin
    ?callVar ?callFn ?toDyn ?dynCall ?traitCall ?proj ?nil ?cons ?armsNil ?armsCons
  all_goals intros
  all_goals simp only [substE, substEs, substAs]
  case var x ty c => rcases monoVar_cases F σ x ty c with e | ⟨_, _, _, _, e⟩ <;> rw [e] <;> exact .var _ _ _
  case prim => exact .prim _
  case tag => exact .tag _ _
  case constr ih => exact .constr _ _ ih
  case tuple ih => exact .tuple _ ih
  case array ih => exact .array _ ih
  case closure ih => rw [← substParams_eq_substParamTys]; exact .closure _ _ ih
  case letE ih1 ih2 => exact .letE _ ih1 ih2
  case matchNone ih1 ih2 => exact .matchNone _ ih1 ih2
  case matchSome ih1 ih2 ih3 => exact .matchSome _ ih1 ih2 ih3
  case ite ih1 ih2 ih3 => exact .ite ih1 ih2 ih3
  case while_ ih1 ih2 => exact .while ih1 ih2
  case go ih => exact .go ih
  case cget k idx ty e c r s ih =>
    -- `update_constructor_type` reads the scrutinee's type off the *source* expression
    have := SameUpToCallee.cget k idx (substTy σ ty) ih
    rw [getTy_substE] at this
    exact this
  case un ih => exact .un _ _ ih
  case bin ih1 ih2 => exact .bin _ _ ih1 ih2
  case callVar ih => exact resolveCall_same F _ _ _ _ _ _ (.var _ _ _) ih
  case callFn ih1 ih2 => exact resolveCall_same F _ _ _ _ _ _ ih1 ih2
  case toDyn ih => exact .toDyn _ _ _ ih
  case dynCall ih1 ih2 => exact .dynCall _ _ _ ih1 ih2
  case traitCall ih1 ih2 => exact .traitCall _ _ _ _ ih1 ih2
  case proj ih => exact .proj _ _ ih
  case nil => exact .nil
  case cons ih1 ih2 => exact .cons ih1 ih2
  case armsNil => exact .nil
  case armsCons ih1 ih2 ih3 => exact .cons ih1 ih2 ih3

section
variable (F : List Fn) (σ : Subst)

theorem monoExpr_sameUpToCallee (e : Expr) : ∀ c, SameUpToCallee (substE σ e) (monoExpr F σ e c).1 :=
  (monoExpr_same F σ).1 e

end

theorem allParamTys_subst (p : Ty → Bool) (σ : Subst) (ps : List (String × Ty)) :
    allParamTys p (substParamTys σ ps) = allParamTys (fun t => p (substTy σ t)) ps := by
  induction ps with
  | nil => rfl
  | cons a ps ih => obtain ⟨x, t⟩ := a; simp only [substParamTys, allParamTys, ih]

theorem allTys_substE (p : Ty → Bool) (σ : Subst) :
    (∀ e, allTys p (substE σ e) = allTys (fun t => p (substTy σ t)) e) ∧
    (∀ as, allTysArms p (substAs σ as) = allTysArms (fun t => p (substTy σ t)) as) ∧
    ∀ es, allTysList p (substEs σ es) = allTysList (fun t => p (substTy σ t)) es := by
  refine substE.mutual_induct
    (fun e => allTys p (substE σ e) = allTys (fun t => p (substTy σ t)) e)
    (fun as => allTysArms p (substAs σ as) = allTysArms (fun t => p (substTy σ t)) as)
    (fun es => allTysList p (substEs σ es) = allTysList (fun t => p (substTy σ t)) es)
    ?_ ?_ ?_ ?_ ?_ ?_ ?_ ?_ ?_ ?_ ?_ ?_ ?_ ?_ ?_ ?_ ?_ ?_ ?_ ?_ ?_ ?_ ?_ ?_ ?_
  all_goals intros
  all_goals simp only [substE, substEs, substAs, allTys, allTysList, allTysArms, allParamTys_subst, *]

end Goml.Wt
