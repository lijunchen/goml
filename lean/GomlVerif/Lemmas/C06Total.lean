import GomlVerif.Lemmas.C06Main
/-!
The termination measure: every sub-matrix of a plan is strictly smaller than the matrix it was split from
(`plan_measure`), because an expansion replaces a pattern by its sub-patterns (`Expands.size`); and `compileSeq_ne_none` (a
sequence of calls returns if each does).
-/
namespace Goml.Match
open Goml Goml.Sem

variable {β : Type}

theorem colsSize_append (a b : List (String × Pat)) : colsSize (a ++ b) = colsSize a + colsSize b := by
  induction a with
  | nil => simp [colsSize]
  | cons c a ih => simp [colsSize, ih]; omega

theorem colsSize_zip_le : ∀ (names : List String) (ps : List Pat), colsSize (names.zip ps) ≤ Pat.sizes ps := by
  intro names
  induction names with
  | nil => intro ps; simp [colsSize]
  | cons x xs ih =>
    intro ps
    cases ps with
    | nil => simp [colsSize]
    | cons p ps =>
      simp only [List.zip_cons_cons, colsSize, Pat.sizes]
      have := ih ps
      omega

theorem colsSize_filter_le (f : String × Pat → Bool) : ∀ cols : List (String × Pat),
    colsSize (cols.filter f) ≤ colsSize cols := by
  intro cols
  induction cols with
  | nil => simp [colsSize]
  | cons c cs ih =>
    simp only [List.filter]
    split <;> simp only [colsSize] <;> omega

theorem measure_map_moveVars : ∀ rows : List (Row β), measure (rows.map moveVars) ≤ measure rows := by
  intro rows
  induction rows with
  | nil => simp [measure]
  | cons r rs ih =>
    simp only [List.map_cons, measure, moveVars]
    have := colsSize_filter_le (fun c => !isVarOrWild c.2) r.cols
    omega

/-- a row step never grows a row, and shrinks a row that tests `bv` (or drops it) -/
structure Shrinks (bv : String) (f : Row β → M (Option (Row β))) : Prop where
  le : ∀ r r', f r = .ok (some r') → colsSize r'.cols ≤ colsSize r.cols
  lt : ∀ r r', (∃ p, (bv, p) ∈ r.cols) → f r = .ok (some r') → colsSize r'.cols < colsSize r.cols

theorem filterMapE_measure_le {bv : String} {f : Row β → M (Option (Row β))} (hf : Shrinks bv f) :
    ∀ (l l' : List (Row β)), filterMapE f l = .ok l' → measure l' ≤ measure l := by
  intro l
  induction l with
  | nil => intro l' h; simp only [filterMapE] at h; cases h; simp
  | cons a as ih =>
    intro l' h
    obtain ⟨o, rest, ho, hrest, rfl⟩ := filterMapE_cons_ok h
    have := ih rest hrest
    cases o with
    | none => simp only [measure]; omega
    | some b =>
      have := hf.le a b ho
      simp only [measure]; omega

theorem filterMapE_measure_lt {bv : String} {f : Row β → M (Option (Row β))} (hf : Shrinks bv f)
    (r0 : Row β) (rest sub : List (Row β)) (hbv : ∃ p, (bv, p) ∈ r0.cols)
    (h : filterMapE f (r0 :: rest) = .ok sub) : measure sub < measure (r0 :: rest) := by
  obtain ⟨o, rest', ho, hrest, rfl⟩ := filterMapE_cons_ok h
  have := filterMapE_measure_le hf rest rest' hrest
  cases o with
  | none => simp only [measure]; omega
  | some b =>
    have := hf.lt r0 b hbv ho
    simp only [measure]; omega

theorem Expands.size {all : Bool} {sub : Pat → Option (List Pat)} {bv : String} {names : List String}
    (hsub : ∀ q ps, sub q = some ps → q.size = 1 + Pat.sizes ps)
    {cols cols' : List (String × Pat)} (h : Expands all sub bv names cols cols') :
    colsSize cols' ≤ colsSize cols ∧ ((∃ p, (bv, p) ∈ cols) → colsSize cols' < colsSize cols) := by
  induction h with
  | nil => exact ⟨Nat.le_refl _, fun ⟨p, hp⟩ => by cases hp⟩
  | keep hc _ ih =>
    simp only [colsSize]
    refine ⟨by omega, ?_⟩
    rintro ⟨p, hp⟩
    rcases List.mem_cons.mp hp with hp | hp
    · exact absurd (by rw [← hp]) hc
    · have := ih.2 ⟨p, hp⟩; omega
  | @expand c ps _ _ _ hps _ ih =>
    have hz := colsSize_zip_le names ps
    have hs := hsub _ ps hps
    simp only [colsSize_append, colsSize]
    exact ⟨by omega, fun _ => by omega⟩
  | @first c ps cs _ _ hps =>
    have hz := colsSize_zip_le names ps
    have hs := hsub _ ps hps
    simp only [colsSize_append, colsSize]
    exact ⟨by omega, fun _ => by omega⟩

theorem RowExp.steps {all : Bool} {sub : Pat → Option (List Pat)} {drop : Pat → Prop} {bv : String}
    {names : List String} (hsub : ∀ q ps, sub q = some ps → q.size = 1 + Pat.sizes ps)
    {f : Row β → M (Option (Row β))} (hf : ∀ {r o}, f r = .ok o → RowExp all sub drop bv names r o) :
    Shrinks bv f := by
  have key : ∀ r r', f r = .ok (some r') → Expands all sub bv names r.cols r'.cols := by
    intro r r' h
    obtain ⟨cs, e, hcs⟩ := hf h
    cases e
    exact hcs
  exact ⟨fun r r' h => ((key r r' h).size hsub).1, fun r r' hbv h => ((key r r' h).size hsub).2 hbv⟩

theorem tupleItems_size (q : Pat) (ps : List Pat) (h : tupleItems q = some ps) : q.size = 1 + Pat.sizes ps := by
  obtain ⟨_, rfl⟩ := tupleItems_some h; rw [Pat.size]

theorem structArgs_size (q : Pat) (ps : List Pat) (h : structArgs q = some ps) : q.size = 1 + Pat.sizes ps := by
  obtain ⟨_, _, rfl⟩ := structArgs_some h; rw [Pat.size]

theorem enumSub_size (idx : Nat) (q : Pat) (ps : List Pat) (h : enumSub idx q = some ps) :
    q.size = 1 + Pat.sizes ps := by
  obtain ⟨_, _, _, rfl⟩ := enumSub_some h; rw [Pat.size]

theorem litSub_size (okP : Prim → Bool) (k : Prim) (q : Pat) (ps : List Pat) (h : litSub okP k q = some ps) :
    q.size = 1 + Pat.sizes ps := by
  obtain ⟨_, rfl, _, rfl⟩ := litSub_some h; rfl

theorem Branch.steps {S : Sig} {bv : String} {bty : Ty} {n n1 : Nat} {vars : List (String × Ty)}
    {f : Row β → M (Option (Row β))} (h : Branch S bv bty n n1 vars f) : Shrinks bv f := by
  cases h with
  | lit okP k => exact RowExp.steps (litSub_size okP k) specLit_exp
  | dflt okP => exact RowExp.steps (fun _ _ h => by cases h) specDflt_exp
  | enum idx m => exact RowExp.steps (enumSub_size idx) specEnum_exp
  | struct => exact RowExp.steps structArgs_size specStruct_exp
  | tuple => exact RowExp.steps tupleItems_size specTuple_exp

theorem plan_measure (S : Sig) {n : Nat} {bv : String} {bty ty : Ty} {r0 : Row β} {rest : List (Row β)}
    {pl : Plan β} (hplan : plan S n bv bty ty (r0 :: rest) = .ok pl) (hbv : ∃ p, (bv, p) ∈ r0.cols) :
    ∀ sub ∈ pl.subs, measure sub < measure (r0 :: rest) := by
  intro sub hsub
  obtain ⟨_, _, f, hf, hs⟩ := (plan_branches S hplan).exists_of_mem_right sub hsub
  exact filterMapE_measure_lt hf.steps r0 rest sub hbv hs

theorem compileSeq_ne_none {rec : Nat → List (Row β) → Option (M (DT β × Nat))} :
    ∀ (subs : List (List (Row β))) (n : Nat), (∀ sub ∈ subs, ∀ m, rec m sub ≠ none) →
      compileSeq rec n subs ≠ none := by
  intro subs
  induction subs with
  | nil => intro n _; simp [compileSeq]
  | cons rs rest ih =>
    intro n h
    simp only [compileSeq]
    have h0 := h rs (by simp) n
    split
    · rename_i e; exact absurd e h0
    · simp
    · rename_i r hr
      have := ih r.2 (fun sub hsub => h sub (by simp [hsub]))
      split
      · rename_i e; exact absurd e this
      · simp
      · simp

end Goml.Match
