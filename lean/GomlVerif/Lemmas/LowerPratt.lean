import GomlVerif.Lemmas.LowerBal
import GomlVerif.Model.Pratt
/-! The image of `Pratt.Cst` in the rowan-shaped trees of `Model/Lower.lean`, and what `lowerExprW` does on
the node kinds of that image (view lemmas: parentheses, identifiers, literals, prefix and binary operators here; calls
and `.` in `Lemmas/LowerPrattPost.lean`). Punctuation tokens that no accessor of `nodes.rs`
reads (`,` and the parentheses of an argument list) are left out of the image. -/
namespace Goml.Lower
open Goml.Src Goml.Gen.BindingPower

/-- the `MySyntaxKind` name of an operator token -/
def tkKind : TK → String
  | .OrOr => "OrOr" | .AndAnd => "AndAnd" | .EqEq => "EqEq" | .NotEq => "NotEq" | .Less => "Less"
  | .Greater => "Greater" | .LessEq => "LessEq" | .GreaterEq => "GreaterEq" | .Plus => "Plus" | .Minus => "Minus"
  | .Star => "Star" | .Slash => "Slash" | .Dot => "Dot" | .Bang => "Bang" | .LParen => "LParen"

def eIdent (x : String) : Cst := .node "EXPR_IDENT" [.node "PATH" [.tok "Ident" x none]]
def eInt (ds : List Char) : Cst := .node "EXPR_INT" [.tok "Int" (String.ofList ds) none]
def eParen (x : Cst) : Cst := .node "EXPR_PAREN" [.tok "LParen" "(" none, x, .tok "RParen" ")" none]
def ePrefix (k : TK) (x : Cst) : Cst := .node "EXPR_PREFIX" [.tok (tkKind k) k.spelling none, x]
def eBinary (k : TK) (l r : Cst) : Cst := .node "EXPR_BINARY" [l, .tok (tkKind k) k.spelling none, r]
def eArg (a : Cst) : Cst := .node "ARG" [a]
def eCall (f : Cst) (args : List Cst) : Cst := .node "EXPR_CALL" [f, .node "ARG_LIST" (args.map eArg)]

mutual
def embed : Pratt.Cst → Cst
  | .ident s => eIdent s
  | .int ds => eInt ds
  | .paren e => eParen (embed e)
  | .prefix k e => ePrefix k (embed e)
  | .binary k l r => eBinary k (embed l) (embed r)
  | .call f args => eCall (embed f) (embedList args)
def embedList : List Pratt.Cst → List Cst
  | [] => []
  | c :: cs => embed c :: embedList cs
end

/-- an expression node: what `support::child::<Expr>` selects -/
def IsE (x : Cst) : Prop := x.isNode = true ∧ exprKinds.contains x.kind = true

theorem embed_isE : ∀ c : Pratt.Cst, IsE (embed c)
  | .ident _ => by simp [embed, eIdent, IsE, Cst.isNode, Cst.kind, exprKinds]
  | .int _ => by simp [embed, eInt, IsE, Cst.isNode, Cst.kind, exprKinds]
  | .paren _ => by simp [embed, eParen, IsE, Cst.isNode, Cst.kind, exprKinds]
  | .prefix _ _ => by simp [embed, ePrefix, IsE, Cst.isNode, Cst.kind, exprKinds]
  | .binary _ _ _ => by simp [embed, eBinary, IsE, Cst.isNode, Cst.kind, exprKinds]
  | .call _ _ => by simp [embed, eCall, IsE, Cst.isNode, Cst.kind, exprKinds]

theorem intKindOf_none (k : String) (h : k ∈ ["EXPR_IDENT", "EXPR_PAREN", "EXPR_PREFIX", "EXPR_BINARY", "EXPR_CALL"]) :
    intKindOf "EXPR_" k = none := by
  simp at h
  rcases h with rfl | rfl | rfl | rfl | rfl <;> decide


section acc
variable {ks : List String} {k : String} {x : Cst} {rest : List Cst} {a b : String} {c : Option (String × Nat)}

theorem child_nil : child ks (.node k []) = none := rfl
theorem child_cons_tok : child ks (.node k (.tok a b c :: rest)) = child ks (.node k rest) := by
  simp [child, nodesOf, Cst.kids, Cst.isNode]
theorem child_cons_hit (hx : x.isNode = true) (hk : ks.contains x.kind = true) :
    child ks (.node k (x :: rest)) = some x := by
  simp only [child, nodesOf, Cst.kids, List.filter_cons, hx, if_true, List.find?_cons, hk]
theorem child_cons_miss (hx : x.isNode = true) (hk : ks.contains x.kind = false) :
    child ks (.node k (x :: rest)) = child ks (.node k rest) := by
  simp only [child, nodesOf, Cst.kids, List.filter_cons, hx, if_true, List.find?_cons, hk]

theorem childrenK_nil : childrenK ks (.node k []) = [] := rfl
theorem childrenK_cons_tok : childrenK ks (.node k (.tok a b c :: rest)) = childrenK ks (.node k rest) := by
  simp [childrenK, nodesOf, Cst.kids, Cst.isNode]
theorem childrenK_cons_hit (hx : x.isNode = true) (hk : ks.contains x.kind = true) :
    childrenK ks (.node k (x :: rest)) = x :: childrenK ks (.node k rest) := by
  simp only [childrenK, nodesOf, Cst.kids, List.filter_cons, hx, if_true, hk]
theorem childrenK_cons_miss (hx : x.isNode = true) (hk : ks.contains x.kind = false) :
    childrenK ks (.node k (x :: rest)) = childrenK ks (.node k rest) := by
  simp only [childrenK, nodesOf, Cst.kids, List.filter_cons, hx, hk, if_true, Bool.false_eq_true, if_false]

theorem tokenAny_cons_node (hx : x.isNode = true) : tokenAny ks (.node k (x :: rest)) = tokenAny ks (.node k rest) := by
  simp only [tokenAny, Cst.kids, List.find?_cons, hx, Bool.not_true, Bool.false_and]
theorem tokenAny_cons_tok_hit (h : ks.contains a = true) :
    tokenAny ks (.node k (.tok a b c :: rest)) = some (.tok a b c) := by
  have h1 : Cst.isNode (.tok a b c) = false := rfl
  have h2 : Cst.kind (.tok a b c) = a := rfl
  simp only [tokenAny, Cst.kids, List.find?_cons, h1, h2, h, Bool.not_false, Bool.true_and]
theorem tokenAny_cons_tok_miss (h : ks.contains a = false) :
    tokenAny ks (.node k (.tok a b c :: rest)) = tokenAny ks (.node k rest) := by
  have h1 : Cst.isNode (.tok a b c) = false := rfl
  have h2 : Cst.kind (.tok a b c) = a := rfl
  simp only [tokenAny, Cst.kids, List.find?_cons, h1, h2, h, Bool.not_false, Bool.true_and]
theorem tokenAny_nil : tokenAny ks (.node k []) = none := rfl
end acc

theorem isE_not (x : Cst) (hx : IsE x) (ks : List String) (h : ∀ k ∈ ks, k ∉ exprKinds) : ks.contains x.kind = false := by
  have h2 := hx.2
  simp only [List.contains_eq_mem, decide_eq_true_eq, decide_eq_false_iff_not] at h2 ⊢
  intro hm
  exact h _ hm h2

theorem view_paren (C : List String) (n : Nat) (x : Cst) (hx : IsE x) (tr : List Trailing) :
    lowerExprW C (n + 1) (eParen x) tr = (lowerExprW C n x [] >>= fun e => pure (applyTrailing e tr)) := by
  have hk := intKindOf_none "EXPR_PAREN" (by simp)
  have hkind : (eParen x).kind = "EXPR_PAREN" := rfl
  have hc : child exprKinds (eParen x) = some x := by
    rw [eParen, child_cons_tok, child_cons_hit hx.1 hx.2]
  -- the node is kept opaque: only its kind and the accessors' values are rewritten in the body of `lowerExprW`
  generalize eParen x = y at hkind hc
  rw [lowerExprW, hkind, hk, hc]
  rfl

def toUn : Pratt.UnOp → UnOp
  | .neg => .neg | .not => .not
def toBin : Pratt.BinOp → BinOp
  | .or => .or | .and => .and | .eq => .eq | .ne => .notEq | .lt => .less | .gt => .greater
  | .le => .lessEq | .ge => .greaterEq | .add => .add | .sub => .sub | .mul => .mul | .div => .div

mutual
def toExpr : Pratt.Ast → Expr
  | .var x => .path [x]
  | .lit ds => .lit (.int none (String.ofList ds))
  | .un o e => .un (toUn o) (toExpr e)
  | .bin o l r => .bin (toBin o) (toExpr l) (toExpr r)
  | .call f args => .call (toExpr f) (toExprList args)
  | .field e x => .field (toExpr e) x
  | .proj e i => .proj (toExpr e) i
def toExprList : List Pratt.Ast → List Expr
  | [] => []
  | a :: as => toExpr a :: toExprList as
end

theorem identPath_eIdent (x : String) : lowerCtorPathFromIdentExpr (eIdent x) = pure [x] := by
  have h1 : child ["PATH"] (eIdent x) = some (.node "PATH" [.tok "Ident" x none]) :=
    child_cons_hit rfl (by simp [Cst.kind])
  simp only [lowerCtorPathFromIdentExpr, h1]
  rfl

/-- an identifier that is not a constructor of the file is an `EPath`, whatever is on the binder stack -/
theorem view_ident (C : List String) (n : Nat) (x : String) (hC : isCtor C x = false) (tr : List Trailing) (s : St) :
    lowerExprW C (n + 1) (eIdent x) tr s = (some (applyTrailing (.path [x]) tr), s) := by
  have hk := intKindOf_none "EXPR_IDENT" (by simp)
  have hkind : (eIdent x).kind = "EXPR_IDENT" := rfl
  have hp := identPath_eIdent x
  generalize eIdent x = y at hkind hp
  rw [lowerExprW, hkind, hk]
  simp [hp, bind_run, run_pure, lastIdent, getLocals, isCtorPath, hC, M.pure]

/-- with nothing pending only: `noTrailing` rejects pending operations on a literal, as the `.int` row of `Pratt.lower` does -/
theorem view_int (C : List String) (n : Nat) (ds : List Char) (s : St) :
    lowerExprW C (n + 1) (eInt ds) [] s = (some (.lit (.int none (String.ofList ds))), s) := by
  have hk : intKindOf "EXPR_" "EXPR_INT" = some ("Int", "", "Int", none) := by decide
  have hkind : (eInt ds).kind = "EXPR_INT" := rfl
  have ht : tokenK "Int" (eInt ds) = some (.tok "Int" (String.ofList ds) none) := by
    simp [tokenK, eInt, Cst.kids, Cst.isNode, Cst.kind]
  generalize eInt ds = y at hkind ht
  rw [lowerExprW, hkind, hk]
  simp [ht, bind_run, run_pure, noTrailing, stripSuffix, Cst.tokText, M.pure]

theorem view_prefix (C : List String) (n : Nat) (k : TK) (o : Pratt.UnOp) (ho : Pratt.unOpOf k = some o)
    (x : Cst) (hx : IsE x) (tr : List Trailing) :
    lowerExprW C (n + 1) (ePrefix k x) tr =
      (opt (lowerExprW C n x tr) >>= fun e => match e with
        | none => err "Prefix expression missing operand"
        | some e => pure (.un (toUn o) e)) := by
  have hk := intKindOf_none "EXPR_PREFIX" (by simp)
  have hkind : (ePrefix k x).kind = "EXPR_PREFIX" := rfl
  have hc : child exprKinds (ePrefix k x) = some x := by
    rw [ePrefix, child_cons_tok, child_cons_hit hx.1 hx.2]
  have ht : tokenAny prefixOpKinds (ePrefix k x) = some (.tok (tkKind k) k.spelling none) := by
    cases k <;> cases ho <;> exact tokenAny_cons_tok_hit (by decide)
  generalize ePrefix k x = y at hkind hc ht
  rw [lowerExprW, hkind, hk, hc, ht]
  cases k <;> cases ho <;> rfl

theorem binOpOf_tkKind (k : TK) (o : Pratt.BinOp) (ho : Pratt.binOpOf k = some o) :
    binOpOf (tkKind k) = some (toBin o) ∧ binaryOpKinds.contains (tkKind k) = true ∧ (tkKind k == "Dot") = false := by
  cases k <;> simp [Pratt.binOpOf] at ho <;> subst ho <;> decide

theorem eBinary_operands (k : TK) {l r : Cst} (hl : IsE l) (hr : IsE r) :
    childrenK exprKinds (eBinary k l r) = [l, r] := by
  simp only [eBinary, childrenK_cons_hit hl.1 hl.2, childrenK_cons_tok, childrenK_cons_hit hr.1 hr.2, childrenK_nil]

theorem view_binary (C : List String) (n : Nat) (k : TK) (o : Pratt.BinOp) (ho : Pratt.binOpOf k = some o)
    (l r : Cst) (hl : IsE l) (hr : IsE r) (tr : List Trailing) :
    lowerExprW C (n + 1) (eBinary k l r) tr =
      (lowerExprW C n l [] >>= fun lhs => lowerExprW C n r tr >>= fun rhs => pure (.bin (toBin o) lhs rhs)) := by
  have hk := intKindOf_none "EXPR_BINARY" (by simp)
  obtain ⟨h1, h2, h3⟩ := binOpOf_tkKind k o ho
  have hkind : (eBinary k l r).kind = "EXPR_BINARY" := rfl
  have hc := eBinary_operands k hl hr
  have ht : tokenAny binaryOpKinds (eBinary k l r) = some (.tok (tkKind k) k.spelling none) := by
    simp only [eBinary, tokenAny_cons_node hl.1, tokenAny_cons_tok_hit h2]
  generalize eBinary k l r = y at hkind hc ht
  rw [lowerExprW, hkind, hk, hc, ht]
  simp only [Cst.kind, h3, h1]
  rfl


theorem bind_pure_fst {α β} {m : M α} {g : α → β} {s : St} {a : α} (h : (m s).1 = some a) :
    ((m >>= fun e => (pure (g e) : M β)) s).1 = some (g a) := by
  rw [bind_some h]
  rfl

theorem bind2_fst {m1 : M Expr} {m2 : M Expr} {g : Expr → Expr → Expr} {s : St} {a b : Expr}
    (h1 : (m1 s).1 = some a) (h2 : (m2 (m1 s).2).1 = some b) :
    ((m1 >>= fun x => m2 >>= fun y => (pure (g x y) : M Expr)) s).1 = some (g a b) := by
  rw [bind_some h1, bind_some h2]
  rfl

end Goml.Lower
