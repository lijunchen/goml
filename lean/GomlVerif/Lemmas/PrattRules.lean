import GomlVerif.Model.Pratt
/-!
Fuel-free reading of the Pratt model: `EvE m ts c rest` says that `exprBp` with any
sufficient fuel parses `ts` at minimum binding power `m` into `c`, leaving `rest`
(and `rest` is no longer than `ts`). The lemmas below are the "rules" of that reading,
one per branch of `exprBp` / `loopBp` / `argList`.
-/
namespace Goml.Pratt
open Goml.Gen.BindingPower

def EvE (m : Nat) (ts : List Tok) (c : Cst) (rest : List Tok) : Prop :=
  rest.length ≤ ts.length ∧ ∀ f, 3 * ts.length + 2 ≤ f → exprBp f m ts = some (c, rest)

/-- the loop, started with the left operand `c0` in front of `ts`, ends with `c` in front of `rest` -/
def EvL (m : Nat) (c0 : Cst) (ts : List Tok) (c : Cst) (rest : List Tok) : Prop :=
  rest.length ≤ ts.length ∧ ∀ f, 3 * ts.length + 1 ≤ f → loopBp f m c0 ts = some (c, rest)

/-- `<`, not `≤`: an argument list consumes at least its `)` -/
def EvA (ts : List Tok) (cs : List Cst) (rest : List Tok) : Prop :=
  rest.length < ts.length ∧ ∀ f, 3 * ts.length + 3 ≤ f → argList f ts = some (cs, rest)

/-- the loop of `expr_bp` at minimum power `m` stops in front of `ts` -/
def stops (m : Nat) : List Tok → Bool
  | .op k :: _ =>
    match postfixBp k with
    | some l => decide (l < m)
    | none =>
      match infixBp k with
      | some (l, _) => decide (l < m)
      | none => true
  | _ => true

theorem EvL_stop {m c ts} (h : stops m ts = true) : EvL m c ts c ts := by
  refine ⟨Nat.le_refl _, ?_⟩
  intro f hf
  obtain ⟨f, rfl⟩ : ∃ f', f = f' + 1 := ⟨f - 1, by omega⟩
  unfold loopBp
  cases ts with
  | nil => rfl
  | cons t ts =>
    cases t with
    | op k =>
      simp only [stops] at h
      cases hp : postfixBp k with
      | some l => simp [hp] at h; simp only [hp]; simp [h]
      | none =>
        simp only [hp] at h
        cases hi : infixBp k with
        | some lr => obtain ⟨l, r⟩ := lr; simp [hi] at h; simp only [hp, hi]; simp [h]
        | none => simp only [hp, hi]
    | _ => rfl

theorem EvE_ident {m s ts c rest} (h : EvL m (.ident s) ts c rest) :
    EvE m (.ident s :: ts) c rest := by
  refine ⟨by have := h.1; simp; omega, ?_⟩
  intro f hf
  obtain ⟨f, rfl⟩ : ∃ f', f = f' + 1 := ⟨f - 1, by simp at hf; omega⟩
  unfold exprBp
  exact h.2 f (by simp at hf; omega)

theorem EvE_int {m s ts c rest} (h : EvL m (.int s) ts c rest) :
    EvE m (.int s :: ts) c rest := by
  refine ⟨by have := h.1; simp; omega, ?_⟩
  intro f hf
  obtain ⟨f, rfl⟩ : ∃ f', f = f' + 1 := ⟨f - 1, by simp at hf; omega⟩
  unfold exprBp
  exact h.2 f (by simp at hf; omega)

theorem EvE_prefix {m k r ts e ts' c rest} (hk : prefixBp k = some r)
    (he : EvE r ts e ts') (hl : EvL m (.prefix k e) ts' c rest) :
    EvE m (.op k :: ts) c rest := by
  refine ⟨by have := he.1; have := hl.1; simp; omega, ?_⟩
  intro f hf
  obtain ⟨f, rfl⟩ : ∃ f', f = f' + 1 := ⟨f - 1, by simp at hf; omega⟩
  unfold exprBp
  simp only [hk]
  rw [he.2 f (by simp at hf; omega)]
  exact hl.2 f (by have := he.1; simp at hf; omega)

theorem EvE_paren {m ts e ts' c rest}
    (he : EvE 0 ts e (.rparen :: ts')) (hl : EvL m (.paren e) ts' c rest) :
    EvE m (.op .LParen :: ts) c rest := by
  refine ⟨by have := he.1; have := hl.1; simp at *; omega, ?_⟩
  intro f hf
  obtain ⟨f, rfl⟩ : ∃ f', f = f' + 1 := ⟨f - 1, by simp at hf; omega⟩
  unfold exprBp
  have hp : prefixBp .LParen = none := by decide
  simp only [hp]
  rw [he.2 f (by simp at hf; omega)]
  exact hl.2 f (by have := he.1; simp at hf this; omega)

theorem EvL_call {m l c0 ts as ts' c rest} (hp : postfixBp .LParen = some l) (hm : m ≤ l)
    (ha : EvA ts as ts') (hl : EvL m (.call c0 as) ts' c rest) :
    EvL m c0 (.op .LParen :: ts) c rest := by
  refine ⟨by have := ha.1; have := hl.1; simp; omega, ?_⟩
  intro f hf
  obtain ⟨f, rfl⟩ : ∃ f', f = f' + 1 := ⟨f - 1, by simp at hf; omega⟩
  unfold loopBp
  simp only [hp]
  rw [if_neg (by omega)]
  rw [ha.2 f (by simp at hf; omega)]
  exact hl.2 f (by have := ha.1; simp at hf; omega)

theorem EvL_infix {m k l r c0 ts rhs ts' c rest} (hp : postfixBp k = none)
    (hi : infixBp k = some (l, r)) (hm : m ≤ l)
    (he : EvE r ts rhs ts') (hl : EvL m (.binary k c0 rhs) ts' c rest) :
    EvL m c0 (.op k :: ts) c rest := by
  refine ⟨by have := he.1; have := hl.1; simp; omega, ?_⟩
  intro f hf
  obtain ⟨f, rfl⟩ : ∃ f', f = f' + 1 := ⟨f - 1, by simp at hf; omega⟩
  unfold loopBp
  simp only [hp, hi]
  rw [if_neg (by omega)]
  rw [he.2 f (by simp at hf; omega)]
  exact hl.2 f (by have := he.1; simp at hf; omega)

theorem EvA_nil {ts} : EvA (.rparen :: ts) [] ts := by
  refine ⟨by simp, ?_⟩
  intro f hf
  obtain ⟨f, rfl⟩ : ∃ f', f = f' + 1 := ⟨f - 1, by simp at hf; omega⟩
  unfold argList
  rfl

theorem exprBp_rparen (f m : Nat) (ts : List Tok) : exprBp f m (.rparen :: ts) = none := by
  cases f <;> simp [exprBp]

theorem EvA_last {ts e rest} (he : EvE 0 ts e (.rparen :: rest)) : EvA ts [e] rest := by
  refine ⟨by have := he.1; simp at this; omega, ?_⟩
  intro f hf
  obtain ⟨f, rfl⟩ : ∃ f', f = f' + 1 := ⟨f - 1, by omega⟩
  have h2 := he.2 f (by omega)
  unfold argList
  cases ts with
  | nil => simp [h2]
  | cons t ts =>
    cases t with
    | rparen => rw [exprBp_rparen] at h2; cases h2
    | _ => simp [h2]

theorem EvA_cons {ts e ts' es rest} (he : EvE 0 ts e (.comma :: ts')) (ha : EvA ts' es rest) :
    EvA ts (e :: es) rest := by
  refine ⟨by have := he.1; have := ha.1; simp at *; omega, ?_⟩
  intro f hf
  obtain ⟨f, rfl⟩ : ∃ f', f = f' + 1 := ⟨f - 1, by omega⟩
  have h2 := he.2 f (by omega)
  have h3 := ha.2 f (by have := he.1; simp at this; omega)
  unfold argList
  cases ts with
  | nil => simp [h2, h3]
  | cons t ts =>
    cases t with
    | rparen => rw [exprBp_rparen] at h2; cases h2
    | _ => simp [h2, h3]

end Goml.Pratt
