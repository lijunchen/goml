import GomlVerif.Lemmas.GoCompSim
/-! expression-level step of the simulation (`stepV`, by the rows of the view `CV`): immediates, unary / binary operators, calls
(`target_call`, `callV_sim`), constructors and field reads of structs, tuples and variants, arrays, trait objects
(`todyn_sim`, `dyncall_sim`) -/
namespace Goml.GoComp
open Goml Goml.Go Goml.GoCompile Goml.GoFrag
open Goml.Sem (Val World Res)
open Goml.Dce (keys lookup_cons_self lookup_cons_ne lookup_none_of_not_key)

attribute [local irreducible] Goml.GoCompile.vn Goml.GoCompile.gid Goml.GoCompile.rn

/-- a form that leaves the world and the heap context as they are -/
theorem conclV_pure {env : Env} {η : Hp} {F : GFile} {e : GExpr} {gρ : GEnv} {gw : GWorld} {ty : Ty} {mp : Bool} {w : World}
    {v : Val} {gv : GVal} (hev : EvS F gρ gw e (.ok gv gw)) (hval : VRel env η v ty gv) (hty : HasTy env η v ty)
    (hw : WRel env η w gw) : ConclV env η F e gρ gw ty true mp w (.ok v w) :=
  ⟨η, η.le_refl, gv, gw, hev, hval, hty, hw, fun _ => ⟨rfl, rfl⟩⟩

theorem binDom_logic {op : BinOp} {t : Ty} (h : binDom op t = true) (hlog : Goml.C01.isLogic op = true) : t = .bool := by
  cases op <;> cases hlog <;> cases t <;> first | rfl | cases h

theorem binResTy_scalar {op : BinOp} {t : Ty} (h : scalarTy t = true) : scalarTy (binResTy op t) = true := by
  cases op <;> first | exact h | rfl

/-! ### `Sem.builtin` on the reference, array and `Vec` builtins

Stated once: `Sem.builtin` is one match on eighteen string literals, and every step that looks at a goal mentioning it
has to decide that match again. -/

theorem sem_ref (v : Val) (w : World) :
    Sem.builtin "ref" [v] w = some (.ok (.ref w.store.size) { w with store := w.store.push v }) := rfl

theorem sem_ref_get (l : Nat) (w : World) :
    Sem.builtin "ref_get" [.ref l] w =
      (match w.store[l]? with
       | some v => some (.ok v w)
       | none => some (.fail (.stuck "dangling ref") w)) := rfl

theorem sem_ref_set (l : Nat) (v : Val) (w : World) :
    Sem.builtin "ref_set" [.ref l, v] w =
      (if l < w.store.size then some (.ok .unit { w with store := w.store.set! l v })
       else some (.fail (.stuck "dangling ref") w)) := rfl

theorem sem_array_get (vs : List Val) (b : Nat) (s : Bool) (i : Int) (w : World) :
    Sem.builtin "array_get" [.array vs, .int b s i] w =
      (if i < 0 then some (.fail (.panic "index out of range") w)
       else match vs[i.toNat]? with
         | some v => some (.ok v w)
         | none => some (.fail (.panic "index out of range") w)) := rfl

theorem sem_array_set (vs : List Val) (b : Nat) (s : Bool) (i : Int) (v : Val) (w : World) :
    Sem.builtin "array_set" [.array vs, .int b s i, v] w =
      (if i < 0 || i.toNat ≥ vs.length then some (.fail (.panic "index out of range") w)
       else some (.ok (.array (vs.set i.toNat v)) w)) := rfl

theorem sem_vec_new (w : World) : Sem.builtin "vec_new" [] w = some (.ok (.vec []) w) := rfl

theorem sem_vec_push (vs : List Val) (v : Val) (w : World) :
    Sem.builtin "vec_push" [.vec vs, v] w = some (.ok (.vec (vs ++ [v])) w) := rfl

theorem sem_vec_get (vs : List Val) (b : Nat) (s : Bool) (i : Int) (w : World) :
    Sem.builtin "vec_get" [.vec vs, .int b s i] w =
      (if i < 0 then some (.fail (.panic "index out of range") w)
       else match vs[i.toNat]? with
         | some v => some (.ok v w)
         | none => some (.fail (.panic "index out of range") w)) := rfl

theorem sem_vec_len (vs : List Val) (w : World) :
    Sem.builtin "vec_len" [.vec vs] w = some (.ok (.int 32 true (Sem.wrap 32 true vs.length)) w) := rfl

theorem intV_inv {env : Env} {η : Hp} {v : Val} {g : GVal} {t : Ty} (hit : intTy t = true) (ht : HasTy env η v t)
    (hg : VRel env η v t g) : ∃ b s x, v = .int b s x ∧ g = .int b s x := by
  cases t <;> simp [intTy] at hit
  obtain ⟨x, rfl, rfl, _⟩ := tv_inv ht hg
  exact ⟨_, _, x, rfl, rfl⟩

/-! ### calls

A compiled call rests on one statement: the Go function implements the source callable under `VRel` / `WRel` (`ConclCall`,
`target_call`): functions of `G` (`SimU`), the builtins of `builtinNames` (`SimB`), the reference and array helpers of the runtime, `append`.
`call_sim` lifts it to the call expressions.  `hgo` says that no Go local shadows a top-level function the compiled call names. -/

/-- a helper of the runtime implements its builtin -/
theorem helper_call {env : Env} {file : AFile} {G : List String} {P : Prog} {F : GFile} (hl : Link env file G P F)
    {name : String} {key : Ty} {tys : List Ty} {ty : Ty} (hh : Helper env file name key tys ty)
    {η : Hp} {vs : List Val} {gvs : List GVal} {w : World} {gw : GWorld} (n : Nat)
    (hargs : ArgsRel env η vs gvs tys) (hw : WRel env η w gw) :
    ConclCall env η F (helperFnName name key) gvs gw ty (Sem.apply (n + 1) P w (.fn name) vs) := by
  rw [Sem.apply]
  cases hh with
  | ref hrt =>
    obtain ⟨v, g, rfl, rfl, hg, ht⟩ := argsRel_single hargs
    simp only [hl.refSrc "ref" (by simp [refNames]), sem_ref]
    obtain ⟨hle, hw', hg', ht'⟩ := hw.alloc ht hg
    exact ⟨_, hle, _, _, ref_new_call (hl.refGo _ hrt) gw g, hg', ht', hw'⟩
  | refGet hrt =>
    obtain ⟨v, g, rfl, rfl, hg, ht⟩ := argsRel_single hargs
    simp only [hl.refSrc "ref_get" (by simp [refNames])]
    obtain ⟨l, gl', rfl, rfl, htl, hll⟩ := tv_inv ht hg
    obtain ⟨cv, gl, gcv, hs0, hloc0, hcvt, hcvg, hcell⟩ := hw.get ht
    simp only [sem_ref_get, hs0]
    obtain rfl : gl = gl' := Option.some.inj (hloc0.symm.trans hll)
    exact ⟨η, η.le_refl, gcv, gw, ref_get_call (hl.refGo ty hrt) gw gl gcv hcell, hcvg, hcvt, hw⟩
  | @refSet e hrt =>
    obtain ⟨v1, v2, g1, g2, rfl, rfl, hg1, ht1, hg2, ht2⟩ := argsRel_two hargs
    simp only [hl.refSrc "ref_set" (by simp [refNames])]
    obtain ⟨l, gl', rfl, rfl, htl, hll⟩ := tv_inv ht1 hg1
    obtain ⟨gl, hloc0, hlt, ⟨old, hcell⟩, hw'⟩ := hw.set ht1 ht2 hg2
    simp only [sem_ref_set, if_pos hlt]
    obtain rfl : gl = gl' := Option.some.inj (hloc0.symm.trans hll)
    exact ⟨η, η.le_refl, .unit, _, ref_set_call (hl.refGo e hrt) gw gl old g2 hcell, rfl, trivial, hw'⟩
  | @arrGet len e it hat hint =>
    obtain ⟨va, vi, ga, gi, rfl, rfl, hga, hta, hgi, hti⟩ := argsRel_two hargs
    obtain ⟨xs, gs, rfl, rfl, hlen1, hxs, hgs⟩ := tv_inv hta hga
    obtain ⟨b, s, x, rfl, rfl⟩ := intV_inv hint hti hgi
    simp only [hl.arrSrc "array_get" (by simp [arrNames]), sem_array_get]
    by_cases hneg : x < 0
    · simp only [if_pos hneg]
      exact ⟨η, η.le_refl, gw, arr_get_call_oob (hl.arrGo len ty hat) gw gs b s x (Or.inl hneg), hw⟩
    · rcases VRels_replicate_get x.toNat hgs with ⟨hn1, hn2⟩ | ⟨v, g, hv1, hv2, hvg⟩
      · simp only [if_neg hneg, hn1]
        exact ⟨η, η.le_refl, gw, arr_get_call_oob (hl.arrGo len ty hat) gw gs b s x (Or.inr hn2), hw⟩
      · simp only [if_neg hneg, hv1]
        exact ⟨η, η.le_refl, g, gw, arr_get_call (hl.arrGo len ty hat) gw gs b s x g hneg hv2, hvg,
          hasTys_replicate_get x.toNat hxs hv1, hw⟩
  | @arrSet len e it hat hint =>
    obtain ⟨va, vi, vv, ga, gi, gv, rfl, rfl, hga, hta, hgi, hti, hgv, htv⟩ := argsRel_three hargs
    obtain ⟨xs, gs, rfl, rfl, hlen1, hxs, hgs⟩ := tv_inv hta hga
    obtain ⟨b, s, x, rfl, rfl⟩ := intV_inv hint hti hgi
    have hlenG : gs.length = xs.length := (VRels_length hgs).1.symm
    simp only [hl.arrSrc "array_set" (by simp [arrNames]), sem_array_set]
    by_cases hoob : x < 0 ∨ x.toNat ≥ xs.length
    · have : (decide (x < 0) || decide (x.toNat ≥ xs.length)) = true := by
        rcases hoob with h | h <;> simp [h]
      simp only [this, if_true]
      exact ⟨η, η.le_refl, gw, arr_set_call_oob (hl.arrGo len e hat) gw gs b s x gv (by rw [hlenG]; exact hoob), hw⟩
    · have : (decide (x < 0) || decide (x.toNat ≥ xs.length)) = false := by
        simp only [not_or] at hoob
        simp [hoob.1, hoob.2]
      simp only [this, Bool.false_eq_true, if_false]
      refine ⟨η, η.le_refl, .array (gs.set x.toNat gv), gw,
        arr_set_call (hl.arrGo len e hat) gw gs b s x gv (by rw [hlenG]; exact hoob), ?_, ?_, hw⟩
      · simp only [VRel]; exact ⟨_, VRels_replicate_set x.toNat hgs hgv, rfl⟩
      · simp only [HasTy]; exact ⟨hlen1, hasTys_replicate_set x.toNat hxs htv⟩

/-- `append` implements `vec_push`: a fresh backing array -/
theorem push_call {env : Env} {file : AFile} {G : List String} {P : Prog} {F : GFile} (hl : Link env file G P F) {e : Ty}
    {η : Hp} {vs : List Val} {gvs : List GVal} {w : World} {gw : GWorld} (n : Nat)
    (hargs : ArgsRel env η vs gvs [.vec e, e]) (hw : WRel env η w gw) :
    ConclCall env η F "append" gvs gw (.vec e) (Sem.apply (n + 1) P w (.fn "vec_push") vs) := by
  obtain ⟨va, vx, ga, gx, rfl, rfl, hga, hta, hgx, htx⟩ := argsRel_two hargs
  obtain ⟨xs, rfl, hxs, hcs⟩ := tv_inv hta hga
  rw [Sem.apply]; simp only [hl.vecSrc "vec_push" (by simp [vecNames]), sem_vec_push]
  rcases hcs with ⟨rfl, rfl⟩ | ⟨hne, loc, gs, hmem, hgs, rfl⟩
  · obtain ⟨hle, hw'⟩ := hw.allocImm (.array [gx])
    refine ⟨_, hle, _, _, call_append_nil hl.vecGo.append hw.cap, ?_, ?_, hw'⟩
    · simp only [VRel, List.nil_append, List.length_singleton]
      refine Or.inr ⟨by simp, gw.heap.size, [gx], by simp, ?_, rfl⟩
      simp only [List.replicate, VRels]
      exact ⟨VRel_mono hle _ _ _ hgx, trivial⟩
    · simp only [HasTy, List.nil_append, List.length_singleton, List.replicate, HasTys]
      exact ⟨HasTy_mono hle _ _ htx, trivial⟩
  · have hcell : gw.heap[loc]? = some (.array gs) := (hw.imm _ _ hmem).1
    have hlen : gs.length = xs.length := (VRels_length hgs).1.symm
    obtain ⟨hle, hw'⟩ := hw.allocImm (.array (gs.take xs.length ++ [gx]))
    refine ⟨_, hle, _, _, call_append_slice hl.vecGo.append hw.cap hcell, ?_, ?_, hw'⟩
    · have htake : gs.take xs.length = gs := by rw [← hlen]; exact List.take_length
      simp only [VRel]
      refine Or.inr ⟨by simp, gw.heap.size, gs ++ [gx], by simp [htake], ?_, by simp⟩
      exact VRels_replicate_snoc (VRels_mono hle _ _ _ hgs) (VRel_mono hle _ _ _ hgx)
    · simp only [HasTy]
      exact hasTys_replicate_snoc (HasTys_mono hle _ _ hxs) (HasTy_mono hle _ _ htx)

/-- a function of the table — one of `G` under its own Go name (`SimU`) or one of `builtinNames` (`SimB`) -/
theorem named_call {env : Env} {file : AFile} {G : List String} {P : Prog} {F : GFile} {n : Nat}
    (hu : SimU env file G P F n) (hb : SimB env P F n) {name : String} {ps : List Ty} {r : Ty}
    (hmem : (name, ps, r) ∈ fnSigs file G) {η : Hp} {vs : List Val} {gvs : List GVal} {w : World} {gw : GWorld}
    (hfe : η.fns = fnSigs file G) (hdq : η.dyns = dynTable env file G) (hargs : ArgsRel env η vs gvs ps) (hw : WRel env η w gw) :
    ConclCall env η F (vn name) gvs gw r (Sem.apply n P w (.fn name) vs) := by
  rcases fnSigs_spec hmem with ⟨g, hg, hgn, hG, hent, hrn, hps, hr⟩ | ⟨hbn, hsig⟩
  · have hc := hu g hg hG η vs gvs w gw hfe hdq (by rw [← hps]; exact hargs) hw
    have hfn : fnName name = vn name := by
      simp only [fnName, hent, Bool.false_eq_true, if_false]
      unfold vn; rw [hrn]
    rw [hgn, hfn, ← hr] at hc; exact hc
  · rw [vn_builtin hbn]; exact hb name ps r hbn hsig η vs gvs w gw hargs hw

/-- **the Go function `h` implements the source callable `name` under `VRel`** -/
theorem target_call {env : Env} {file : AFile} {G : List String} {P : Prog} {F : GFile} (hl : Link env file G P F) {n : Nat}
    (hu : SimU env file G P F n) (hb : SimB env P F n) {name h : String} {tys : List Ty} {ty : Ty}
    (ht : Target env file G name h tys ty) {η : Hp} {vs : List Val} {gvs : List GVal} {w : World} {gw : GWorld}
    (hfe : η.fns = fnSigs file G) (hdq : η.dyns = dynTable env file G) (hargs : ArgsRel env η vs gvs tys) (hw : WRel env η w gw) :
    ConclCall env η F h gvs gw ty (Sem.apply n P w (.fn name) vs) := by
  cases ht with
  | fn hmem => exact named_call hu hb hmem hfe hdq hargs hw
  | helper hh =>
    cases n with
    | zero => rw [Sem.apply]; trivial
    | succ n => exact helper_call hl hh n hargs hw
  | push _ =>
    cases n with
    | zero => rw [Sem.apply]; trivial
    | succ n => exact push_call hl n hargs hw

/-- the callee is a function value on both sides, the arguments are immediates of the fragment, and the Go function implements
    the source callable: the Go call simulates the source call -/
theorem call_sim {env : Env} {η : Hp} {file : AFile} {G : List String} (P : Prog) {F : GFile} (ht : TyLink env F) {Γ : Ctx}
    {ρ : Sem.Env} {gρ : GEnv} {gw : GWorld} {w : World} {n : Nat} {name h : String} {ty : Ty} {gt : GTy} {fe : Expr} {ge : GExpr}
    {args : List Imm} {tys : List Ty}
    (hf : ∀ k w, Sem.eval (k + 1) P ρ w fe = .ok (.fn name) w) (hg : EvS F gρ gw ge (.ok (.func h) gw))
    (hargs : argsOK env file G Γ args tys = true) (hrel : EnvRel env η Γ ρ gρ) (hfr : FnRel file G η gρ)
    (hcall : ∀ vs gvs, ArgsRel env η vs gvs tys → ConclCall env η F h gvs gw ty (Sem.apply n P w (.fn name) vs)) :
    ConclV env η F (.call gt ge (compileImms env args)) gρ gw ty false true w
      (Sem.eval (n + 1) P ρ w (.call ty fe (args.map Imm.toExpr))) := by
  obtain ⟨vs, gvs, hrelA, hgA, hsA⟩ := imms_both P ht hrel hfr hargs
  rw [Sem.eval_call, conclV_eq]
  refine (imm_outc hf n).andThen ?_ (fun _ _ h => h.elim)
  rintro _ _ ⟨rfl, rfl⟩
  refine (hsA n w).andThen ?_ (fun _ _ h => h.elim)
  rintro _ _ ⟨rfl, rfl⟩
  have hc := hcall vs gvs hrelA
  rw [conclCall_eq] at hc
  exact hc.imp
    (fun v w' ⟨η1, hle, gv, gw', hc, hval, hty, hw1⟩ => ⟨η1, hle, gv, gw', ev_call hg (hgA gw) hc, hval, hty, hw1, fun h => by cases h⟩)
    (fun k w' ⟨η1, hle, gw', hc, hw1⟩ => ⟨η1, hle, gw', ev_call hg (hgA gw) hc, hw1, rfl⟩)

/-- a name that is no local is a function value in `Sem` -/
theorem sem_callee {P : Prog} {ρ : Sem.Env} {name : String} {fty : Ty} (h : Sem.lookupEnv ρ name = none) (k : Nat) (w : World) :
    Sem.eval (k + 1) P ρ w (.var name fty) = .ok (.fn name) w := by
  rw [Sem.eval_var, h]; rfl

/-- a call through a local that holds a function value: the value names a function of the table -/
theorem local_sim {env : Env} {file : AFile} {G : List String} {P : Prog} {F : GFile} (hl : Link env file G P F) {n : Nat}
    (hu : SimU env file G P F n) (hb : SimB env P F n) {η : Hp} {Γ : Ctx} {ρ : Sem.Env} {w : World} {gρ : GEnv} {gw : GWorld}
    {x : String} {ps : List Ty} {args : List Imm} {ty : Ty} (hlk : lookupTy Γ x = some (.func ps ty))
    (hargs : argsOK env file G Γ args ps = true) (hrel : EnvRel env η Γ ρ gρ) (hw : WRel env η w gw) (hfr : FnRel file G η gρ)
    (hdq : η.dyns = dynTable env file G) :
    ConclV env η F (.call (goTy ty) (.var (vn x) (goTy (.func ps ty))) (compileImms env args)) gρ gw ty false true w
      (Sem.eval (n + 1) P ρ w (.call ty (.var x (.func ps ty)) (args.map Imm.toExpr))) := by
  obtain ⟨v, gv, hsv, hgv, htg, hht⟩ := hrel.typed hlk
  obtain ⟨fname, rfl, rfl, hfind⟩ := tv_inv hht htg
  have hmem : (fname, ps, ty) ∈ fnSigs file G := by rw [← hfr.eq]; exact List.mem_of_find?_eq_some hfind
  exact call_sim P hl.ty (fun k w => by rw [Sem.eval_var, hsv]; rfl) (ev_var_some hgv) hargs hrel hfr
    (fun vs gvs ha => named_call hu hb hmem hfr.eq hdq ha hw)

/-- `vec_new()` is `nil` -/
theorem vecNew_sim {env : Env} {file : AFile} {G : List String} {P : Prog} {F : GFile} (hl : Link env file G P F) (n : Nat)
    {η : Hp} {ρ : Sem.Env} {w : World} {gρ : GEnv} {gw : GWorld} {fty e : Ty} (hsrc : Sem.lookupEnv ρ "vec_new" = none)
    (hw : WRel env η w gw) :
    ConclV env η F (.nil (goTy (.vec e))) gρ gw (.vec e) false true w
      (Sem.eval (n + 1) P ρ w (.call (.vec e) (.var "vec_new" fty) [])) := by
  rw [Sem.eval_call, conclV_eq]
  refine (imm_outc (sem_callee hsrc) n).andThen ?_ (fun _ _ h => h.elim)
  rintro _ _ ⟨rfl, rfl⟩
  cases n with
  | zero => trivial
  | succ n =>
    rw [Sem.evalList_nil_at, Res.andThen_ok, Sem.apply_fn]
    simp only [hl.vecSrc "vec_new" (by simp [vecNames]), sem_vec_new]
    exact ⟨η, η.le_refl, .nilv, gw, ev_nil, by simp [VRel], by simp [HasTy, HasTys], hw, fun h => by cases h⟩

/-- `vec_get(v, i)` is `v[i]` -/
theorem vecGet_sim {env : Env} {file : AFile} {G : List String} {P : Prog} {F : GFile} (hl : Link env file G P F) (n : Nat)
    {η : Hp} {Γ : Ctx} {ρ : Sem.Env} {w : World} {gρ : GEnv} {gw : GWorld} {fty ty : Ty} {a i : Imm}
    (hsrc : Sem.lookupEnv ρ "vec_get" = none) (ha : immOK env file G Γ a = true) (hta : a.ty = .vec ty)
    (hi : immOK env file G Γ i = true) (hint : intTy i.ty = true) (hrel : EnvRel env η Γ ρ gρ) (hw : WRel env η w gw)
    (hfr : FnRel file G η gρ) :
    ConclV env η F (.index (goTy ty) (compileImm env a) (compileImm env i)) gρ gw ty false true w
      (Sem.eval (n + 1) P ρ w (.call ty (.var "vec_get" fty) [a.toExpr, i.toExpr])) := by
  obtain ⟨va, ga, hsa, hgaE, hga, htya⟩ := imm_both P hl.ty ha hrel hfr
  obtain ⟨vi, gi, hsi, hgiE, hgi, htyi⟩ := imm_both P hl.ty hi hrel hfr
  rw [hta] at hga htya
  obtain ⟨xs, rfl, hxs, hcs⟩ := tv_inv htya hga
  obtain ⟨b, s, x, rfl, rfl⟩ := intV_inv hint htyi hgi
  rw [Sem.eval_call, conclV_eq]
  refine (imm_outc (sem_callee hsrc) n).andThen ?_ (fun _ _ h => h.elim)
  rintro _ _ ⟨rfl, rfl⟩
  refine (evalList_cons_outc hsa (evalList_cons_outc hsi evalList_nil_outc) n w).andThen ?_ (fun _ _ h => h.elim)
  rintro _ _ ⟨rfl, rfl⟩
  cases n with
  | zero => trivial
  | succ n =>
    rw [Sem.apply_fn]; simp only [hl.vecSrc "vec_get" (by simp [vecNames]), sem_vec_get]
    by_cases hneg : x < 0
    · simp only [if_pos hneg]
      rcases hcs with ⟨rfl, rfl⟩ | ⟨hne, loc, gs, hmem, hgs, rfl⟩
      · exact ⟨η, η.le_refl, gw, ev_index_nil (hgaE gw) (hgiE gw), hw, trivial⟩
      · exact ⟨η, η.le_refl, gw, ev_index_slice_oob (hgaE gw) (hgiE gw) (Or.inl hneg), hw, trivial⟩
    · rcases hcs with ⟨rfl, rfl⟩ | ⟨hne, loc, gs, hmem, hgs, rfl⟩
      · simp only [if_neg hneg, List.getElem?_nil]
        exact ⟨η, η.le_refl, gw, ev_index_nil (hgaE gw) (hgiE gw), hw, trivial⟩
      · rcases VRels_replicate_get x.toNat hgs with ⟨hn1, hn2⟩ | ⟨v, g, hv1, hv2, hvg⟩
        · simp only [if_neg hneg, hn1]
          have hge : x.toNat ≥ xs.length := by
            rcases Nat.lt_or_ge x.toNat xs.length with h | h
            · rw [List.getElem?_eq_getElem h] at hn1; cases hn1
            · exact h
          exact ⟨η, η.le_refl, gw, ev_index_slice_oob (hgaE gw) (hgiE gw) (Or.inr hge), hw, trivial⟩
        · simp only [if_neg hneg, hv1]
          have hlt : ¬ x.toNat ≥ xs.length := by
            intro hge
            rw [List.getElem?_eq_none hge] at hv1; cases hv1
          have hcell : gw.heap[loc]? = some (.array gs) := (hw.imm _ _ hmem).1
          exact ⟨η, η.le_refl, g, gw, ev_index_slice (hgaE gw) (hgiE gw) hneg hlt hcell hv2, hvg,
            hasTys_replicate_get x.toNat hxs hv1, hw, fun h => by cases h⟩

/-- `vec_len(v)` is `int32(len(v))` -/
theorem vecLen_sim {env : Env} {file : AFile} {G : List String} {P : Prog} {F : GFile} (hl : Link env file G P F) (n : Nat)
    {η : Hp} {Γ : Ctx} {ρ : Sem.Env} {w : World} {gρ : GEnv} {gw : GWorld} {fty e : Ty} {a : Imm}
    (hsrc : Sem.lookupEnv ρ "vec_len" = none) (ha : immOK env file G Γ a = true) (haty : a.ty = .vec e)
    (hrel : EnvRel env η Γ ρ gρ) (hw : WRel env η w gw) (hfr : FnRel file G η gρ)
    (hgo1 : lookupG gρ "int32" = none) (hgo2 : lookupG gρ "len" = none) :
    ConclV env η F (.call (goTy (.int 32 true)) (.var "int32" (.func [.int 32 true] (.int 32 true)))
        [.call (.int 32 true) (.var "len" (.func [goTy a.ty] (.int 32 true))) [compileImm env a]]) gρ gw (.int 32 true) false true w
      (Sem.eval (n + 1) P ρ w (.call (.int 32 true) (.var "vec_len" fty) [a.toExpr])) := by
  obtain ⟨va, ga, hsa, hgaE, hga, htya⟩ := imm_both P hl.ty ha hrel hfr
  rw [haty] at hga htya
  obtain ⟨xs, rfl, hxs, hcs⟩ := tv_inv htya hga
  rw [Sem.eval_call, conclV_eq]
  refine (imm_outc (sem_callee hsrc) n).andThen ?_ (fun _ _ h => h.elim)
  rintro _ _ ⟨rfl, rfl⟩
  refine (evalList_cons_outc hsa evalList_nil_outc n w).andThen ?_ (fun _ _ h => h.elim)
  rintro _ _ ⟨rfl, rfl⟩
  cases n with
  | zero => trivial
  | succ n =>
    rw [Sem.apply_fn]; simp only [hl.vecSrc "vec_len" (by simp [vecNames]), sem_vec_len]
    have hlenE : EvS F gρ gw (.call (.int 32 true) (.var "len" (.func [goTy (.vec e)] (.int 32 true))) [compileImm env a])
        (.ok (.int 64 true xs.length) gw) := by
      rcases hcs with ⟨rfl, rfl⟩ | ⟨hne, loc, gs, hmem, hgs, rfl⟩
      · exact ev_call (ev_var_none hgo2) (evl_cons (hgaE gw) evl_nil) (call_len_nil hl.vecGo.len)
      · exact ev_call (ev_var_none hgo2) (evl_cons (hgaE gw) evl_nil) (call_len_slice hl.vecGo.len)
    rw [haty]
    exact ⟨η, η.le_refl, _, gw, ev_call (ev_var_none hgo1) (evl_cons hlenE evl_nil) (call_int32 hl.vecGo.int32),
      by simp [VRel], ⟨rfl, rfl, wrap_wrap _ _ _⟩, hw, fun h => by cases h⟩

/-- a call of the fragment, read through `CallView` -/
theorem callV_sim {env : Env} {file : AFile} {G : List String} {P : Prog} {F : GFile} (hl : Link env file G P F) {n : Nat}
    (hu : SimU env file G P F n) (hb : SimB env P F n) {Γ : Ctx} {fty : Ty} {name : String} {args : List Imm} {ty : Ty}
    {ge : GExpr} {cs : List String} (hv : CallView env file G Γ fty name args ty ge cs)
    {η : Hp} {ρ : Sem.Env} {w : World} {gρ : GEnv} {gw : GWorld}
    (hrel : EnvRel env η Γ ρ gρ) (hw : WRel env η w gw) (hfr : FnRel file G η gρ) (hdq : η.dyns = dynTable env file G)
    (hgo : ∀ x, x ∈ cs → lookupG gρ x = none) :
    ConclV env η F ge gρ gw ty false true w (Sem.eval (n + 1) P ρ w (.call ty (.var name fty) (args.map Imm.toExpr))) := by
  cases hv with
  | named hty hnone ht hargs _ =>
    exact call_sim P hl.ty (sem_callee (hrel.untyped hnone)) (ev_var_none (hgo _ (List.mem_singleton.mpr rfl))) hargs hrel hfr
      (fun vs gvs ha => target_call hl hu hb ht hfr.eq hdq ha hw)
  | localFn hlk hfty hargs _ => subst hfty; exact local_sim hl hu hb hlk hargs hrel hw hfr hdq
  | vecNew hnone _ => exact vecNew_sim hl n (hrel.untyped hnone) hw
  | vecGet hnone ha hta hi hint _ => exact vecGet_sim hl n (hrel.untyped hnone) ha hta hi hint hrel hw hfr
  | vecLen hnone ha haty _ => exact vecLen_sim hl n (hrel.untyped hnone) ha haty hrel hw hfr (hgo "int32" (by simp)) (hgo "len" (by simp))

theorem veccall_sim {env : Env} {file : AFile} {G : List String} {P : Prog} {F : GFile} (hl : Link env file G P F) (n : Nat)
    (η : Hp) (Γ : Ctx) (ρ : Sem.Env) (w : World) (gρ : GEnv) (gw : GWorld) (Bad : List String)
    (name : String) (fty : Ty) (args : List Imm) (ty : Ty)
    (hfrag : vecCallOK env file G Γ (.var name fty) args ty = true) (hrel : EnvRel env η Γ ρ gρ) (hw : WRel env η w gw)
    (hgood : ∀ y, y ∈ keys gρ → ¬ y ∈ Bad) (hfr : FnRel file G η gρ)
    (hcal : ∀ x, x ∈ calleesC (Γ.map (·.1)) (.call (.var name fty) args ty) → x ∈ Bad) :
    ConclV env η F (compileCExpr env (.call (.var name fty) args ty)) gρ gw ty false true w
      (Sem.eval (n + 1) P ρ w (CExpr.call (.var name fty) args ty).toExpr) := by
  obtain ⟨hnone, hrn, hrow⟩ := vecCallOK_inv hfrag
  have hsrc : Sem.lookupEnv ρ name = none := hrel.untyped hnone
  have hgo : ∀ x, x ∈ calleesC (Γ.map (·.1)) (.call (.var name fty) args ty) → lookupG gρ x = none :=
    fun x hx => lookup_none_of_not_key (fun hk => hgood _ hk (hcal x hx))
  simp only [CExpr.toExpr, Imm.toExpr]
  cases hrow with
  | new _ hshape => rw [hshape]; exact vecNew_sim hl n hsrc hw
  | push hargs _ hshape hcs =>
    -- `vec_push(v, x)` is `append(v, x)`
    rw [hshape]
    refine call_sim P hl.ty (sem_callee hsrc) (ev_var_none (hgo "append" (by rw [hcs]; simp))) hargs hrel hfr (fun vs gvs ha => ?_)
    cases n with
    | zero => rw [Sem.apply_zero]; trivial
    | succ n => exact push_call hl n ha hw
  | get hint ha hta hi _ hshape => rw [hshape]; exact vecGet_sim hl n hsrc ha hta hi hint hrel hw hfr
  | len ha haty _ hshape hcs =>
    rw [hshape]; exact vecLen_sim hl n hsrc ha haty hrel hw hfr (hgo "int32" (by rw [hcs]; simp)) (hgo "len" (by rw [hcs]; simp))

/-- `local_sim`, from the check `localCallOK` -/
theorem localcall_sim {env : Env} {file : AFile} {G : List String} {P : Prog} {F : GFile} (hl : Link env file G P F) {n : Nat}
    (hu : SimU env file G P F n) (hb : SimB env P F n)
    (η : Hp) (Γ : Ctx) (ρ : Sem.Env) (w : World) (gρ : GEnv) (gw : GWorld)
    (x : String) (fty : Ty) (args : List Imm) (ty : Ty)
    (hfrag : localCallOK env file G Γ (.var x fty) args ty = true) (hrel : EnvRel env η Γ ρ gρ) (hw : WRel env η w gw)
    (hfr : FnRel file G η gρ) (hdq : η.dyns = dynTable env file G) :
    ConclV env η F (compileCExpr env (.call (.var x fty) args ty)) gρ gw ty false true w
      (Sem.eval (n + 1) P ρ w (CExpr.call (.var x fty) args ty).toExpr) := by
  obtain ⟨ps, hlk, rfl, hsp, hext, hargs, _⟩ := localCallOK_inv hfrag
  simp only [CExpr.toExpr, compileCExpr, Imm.toExpr, compileCall_local hsp hext]
  exact local_sim hl hu hb hlk hargs hrel hw hfr hdq

theorem dynTable_spec {env : Env} {file : AFile} {G : List String} {tr : String} {forTy : Ty}
    (h : (tr, forTy) ∈ dynTable env file G) : dynEntryOK env file G tr forTy = true := by
  unfold dynTable at h
  split at h
  · simp only [List.mem_filter] at h; exact h.2
  · cases h

/-- what `dynEntryOK` says about one method of the trait -/
theorem dynEntry_sig {env : Env} {file : AFile} {G : List String} {tr : String} {forTy : Ty}
    (h : dynEntryOK env file G tr forTy = true) {s : String × List Ty × Ty} (hs : s ∈ (traitMethodSigs env tr).getD []) :
    dynRecvTy env forTy = true ∧ (((traitMethodSigs env tr).getD []).map fun s => gid s.1).Nodup ∧
    isEntry (Goml.Mono.traitImplFnName tr forTy s.1) = false ∧
    ("self" :: (wrapParams 0 s.2.1).map (·.1)).Nodup ∧
    ¬ gid (Goml.Mono.traitImplFnName tr forTy s.1) ∈ "self" :: (wrapParams 0 s.2.1).map (·.1) ∧
    ∃ g, g ∈ file ∧ g.name = Goml.Mono.traitImplFnName tr forTy s.1 ∧ g.name ∈ G ∧
      g.params.map (·.2) = forTy :: s.2.1 ∧ g.ret = s.2.2 := by
  simp only [dynEntryOK, Bool.and_eq_true] at h
  obtain ⟨⟨⟨hrecv, _⟩, _⟩, hsig⟩ := h
  cases hts : traitMethodSigs env tr with
  | none => rw [hts] at hs; simp at hs
  | some sigs =>
    rw [hts] at hsig hs; simp only [Option.getD_some, Bool.and_eq_true, decide_eq_true_eq, List.all_eq_true] at hsig hs
    obtain ⟨hnd, hall⟩ := hsig
    have h1 := hall s hs
    simp only [Bool.not_eq_true', beq_iff_eq] at h1
    obtain ⟨⟨⟨⟨⟨⟨_, _⟩, _⟩, hent⟩, hndp⟩, hnc⟩, hfile⟩ := h1
    refine ⟨hrecv, by simpa using hnd, hent, hndp, by simpa using hnc, ?_⟩
    cases hfind : file.find? (·.name == Goml.Mono.traitImplFnName tr forTy s.1) with
    | none => rw [hfind] at hfile; cases hfile
    | some g =>
      rw [hfind] at hfile; simp only [Bool.and_eq_true] at hfile
      obtain ⟨⟨hG, hps⟩, hret⟩ := hfile
      have hgname : g.name = Goml.Mono.traitImplFnName tr forTy s.1 := by have := List.find?_some hfind; simpa using this
      exact ⟨g, List.mem_of_find?_eq_some hfind, hgname, by rw [hgname]; simpa using hG, scalarEqs_eq hps, scalarEq_eq hret⟩

/-- the slot of a method in the vtable cell -/
theorem lookup_slots (f : String × List Ty × Ty → GVal) : ∀ (sigs : List (String × List Ty × Ty)) (s : String × List Ty × Ty),
    (sigs.map fun s => gid s.1).Nodup → s ∈ sigs → lookupG (sigs.map fun s => (gid s.1, f s)) (gid s.1) = some (f s) := by
  intro sigs s hnd hs
  have h := find?_key_eq_some (key := fun s : String × List Ty × Ty => gid s.1) hnd hs rfl
  simp only [lookupG, List.find?_map, Function.comp_def, h, Option.map_some]

/-- the `data` field of a trait object: for a numeric literal the conversion to its own type, which — the literal being in
    the range of its type — evaluates to the literal's value; else the operand itself -/
theorem dynData_ev {env : Env} {η : Hp} {F : GFile} {gρ : GEnv} {gw : GWorld} {e : Imm} {v : Val} {gd : GVal} (hvl : VecLink F)
    (hev : EvS F gρ gw (compileImm env e) (.ok gd gw)) (ht : HasTy env η v e.ty) (hg : VRel env η v e.ty gd)
    (hgo : ∀ n, n ∈ dynDataCallee e → lookupG gρ n = none) : EvS F gρ gw (dynDataExpr env e) (.ok gd gw) := by
  cases e with
  | var x ty => exact hev
  | tag idx ty => exact hev
  | prim p ty =>
    simp only [dynDataExpr]
    cases hc : convName ty with
    | none => exact hev
    | some n =>
      simp only
      simp only [Imm.ty] at ht hg
      rcases convName_spec hc with ⟨b, s, rfl, hn, hmem⟩ | ⟨b, rfl⟩
      · obtain ⟨x, rfl, rfl, hr⟩ := tv_inv ht hg
        have hcall := call_conv (F := F) (w := gw) (b0 := b) (s0 := s) (x := x) hmem hn (hvl.conv n hmem)
        rw [hr] at hcall
        exact ev_call (ev_var_none (hgo n (by simp [dynDataCallee, hc]))) (evl_cons hev evl_nil) hcall
      · cases v <;> simp [HasTy] at ht

theorem todyn_sim {env : Env} {file : AFile} {G : List String} {P : Prog} {F : GFile} (hl : Link env file G P F) (n : Nat)
    (η : Hp) (Γ : Ctx) (ρ : Sem.Env) (w : World) (gρ : GEnv) (gw : GWorld) (Bad : List String)
    (tr : String) (forTy : Ty) (e : Imm) (ty : Ty)
    (hfrag : toDynOK env file G Γ tr forTy e ty = true) (hrel : EnvRel env η Γ ρ gρ) (hw : WRel env η w gw)
    (hgood : ∀ y, y ∈ keys gρ → ¬ y ∈ Bad) (hfc : FCtx env file G Bad η)
    (hcal : ∀ x, x ∈ calleesC (Γ.map (·.1)) (.toDyn tr forTy e ty) → x ∈ Bad) :
    ConclV env η F (compileCExpr env (.toDyn tr forTy e ty)) gρ gw ty false false w
      (Sem.eval (n + 1) P ρ w (CExpr.toDyn tr forTy e ty).toExpr) := by
  have hfr := hfc.rel hgood
  obtain ⟨he, hety, rfl, hmem⟩ := toDynOK_inv hfrag
  have hdl := hl.dynGo tr forTy hmem
  obtain ⟨v, gd, hs, hg, hval, hty⟩ := imm_both P hl.ty he hrel hfr
  rw [hety] at hval hty
  have hbad : dynVtableCtorName tr forTy ∈ Bad := hcal _ (by simp [calleesC])
  have hgo : lookupG gρ (dynVtableCtorName tr forTy) = none := lookup_none_of_not_key (fun hk => hgood _ hk hbad)
  simp only [CExpr.toExpr, compileCExpr, goTy]
  rw [Sem.eval_toDyn, conclV_eq]
  refine (imm_outc hs n).andThen ?_ (fun _ _ h => h.elim)
  rintro _ _ ⟨rfl, rfl⟩
  obtain ⟨hle, hw'⟩ := hw.allocImm (vtableVal env tr forTy)
  have hfields : EvFS F gρ gw
      [.mk "data" (dynDataExpr env e),
       .mk "vtable" (.call (vtablePtrTy tr) (.var (dynVtableCtorName tr forTy) (.func [] (vtablePtrTy tr))) [])]
      (.ok [("data", gd), ("vtable", .ptr gw.heap.size)] { gw with heap := gw.heap.push (vtableVal env tr forTy) }) :=
    evf_cons (dynData_ev hl.vecGo (hg gw) (hety.symm ▸ hty) (hety.symm ▸ hval)
      (fun nm hnm => lookup_none_of_not_key (fun hk => hgood _ hk (hcal nm (by simp [calleesC, hnm]))))) (evf_cons (ev_call (ev_var_none hgo) evl_nil (dyn_ctor_call hdl gw)) evf_nil)
  have hgoE := ev_slit_name (name := dynStructName tr) hfields
  rw [slit_dyn hdl] at hgoE
  refine ⟨_, hle, _, _, hgoE, ?_, ?_, hw', fun h => by cases h⟩
  · simp only [VRel]
    exact ⟨trivial, forTy, gd, gw.heap.size, by rw [hfc.deq]; exact hmem, rfl, HasTy_mono hle _ _ hty,
      VRel_mono hle _ _ _ hval, by simp, rfl⟩
  · simp only [HasTy]
    exact ⟨trivial, forTy, by rw [hfc.deq]; exact hmem, rfl, HasTy_mono hle _ _ hty⟩

theorem dyncall_sim {env : Env} {file : AFile} {G : List String} {P : Prog} {F : GFile} (hl : Link env file G P F) {n : Nat}
    (hu : SimU env file G P F n)
    (η : Hp) (Γ : Ctx) (ρ : Sem.Env) (w : World) (gρ : GEnv) (gw : GWorld) (Bad : List String)
    (tr m : String) (recv : Imm) (args : List Imm) (ty : Ty)
    (hfrag : dynCallOK env file G Γ tr m recv args ty = true) (hrel : EnvRel env η Γ ρ gρ) (hw : WRel env η w gw)
    (hgood : ∀ y, y ∈ keys gρ → ¬ y ∈ Bad) (hfc : FCtx env file G Bad η) :
    ConclV env η F (compileCExpr env (.dynCall tr m recv args ty)) gρ gw ty false true w
      (Sem.eval (n + 1) P ρ w (CExpr.dynCall tr m recv args ty).toExpr) := by
  have hfr := hfc.rel hgood
  obtain ⟨s, hr, hrty, hsg, hargs, rfl, -⟩ := dynCallOK_inv hfrag
  · have hs : s ∈ (traitMethodSigs env tr).getD [] := List.mem_of_find?_eq_some hsg
    have hsm : s.1 = m := by have := List.find?_some hsg; simpa using this
    obtain ⟨v0, gr, hsr, hgr, hvalr, htyr⟩ := imm_both P hl.ty hr hrel hfr
    rw [hrty] at hvalr htyr
    obtain ⟨vs, gvs, hrelA, hgA, hsA⟩ := imms_both P hl.ty hrel hfr hargs
    -- the receiver is a trait object
    obtain ⟨key, v, forTy, gd, loc, rfl, hmemη, hkey, hvt, hvg, hcellη, rfl⟩ := tv_inv htyr hvalr
    have hmem : (tr, forTy) ∈ dynTable env file G := by rw [← hfc.deq]; exact hmemη
    have hdl := hl.dynGo tr forTy hmem
    obtain ⟨hrecv, hndS, hent, hndp, hnc, g, hgmem, hgname, hgG, hgps, hgret⟩ := dynEntry_sig (dynTable_spec hmem) hs
    obtain ⟨i, hfind, hiname⟩ := hl.impls tr forTy hmem s hs
    -- the compiled expression
    have hshape : compileCExpr env (.dynCall tr m recv args s.2.2) =
        .call (goTy s.2.2) (.field (gid m) (slotTy s.2.1 s.2.2) (.field "vtable" (vtablePtrTy tr) (compileImm env recv)))
          (.field "data" anyTy (compileImm env recv) :: compileImms env args) := by
      have : (((traitMethodSigs env tr).getD []).find? (·.1 == m)) = some s := hsg
      simp only [compileCExpr, this, Option.getD_some]
    rw [hshape]
    simp only [CExpr.toExpr]
    rw [Sem.eval_dynCall, conclV_eq]
    refine (imm_outc hsr n).andThen ?_ (fun _ _ h => h.elim)
    rintro _ _ ⟨rfl, rfl⟩
    refine (hsA n w).andThen ?_ (fun _ _ h => h.elim)
    rintro _ _ ⟨rfl, rfl⟩
    rw [hkey, ← hsm] at *
    simp only [hfind, hiname]
    -- the implementing function
    have hfn : fnName g.name = gid (Goml.Mono.traitImplFnName tr forTy s.1) := by
      rw [hgname]
      simp only [fnName, hent, Bool.false_eq_true, if_false]
    have hlenA := hrelA.length
    have hcallr := hu g hgmem hgG η (v :: vs) (gd :: gvs) w gw hfc.eq hfc.deq
      (by rw [hgps]; exact ⟨hvg, hvt, hrelA⟩) hw
    rw [hfn, hgname, hgret] at hcallr
    -- the Go side: through the vtable cell to the wrapper
    have hcell : gw.heap[loc]? = some (vtableVal env tr forTy) := (hw.imm _ _ hcellη).1
    have hne : ("vtable" : String) ≠ "data" := by decide
    have hvtE : EvS F gρ gw (.field "vtable" (vtablePtrTy tr) (compileImm env recv)) (.ok (.ptr loc) gw) :=
      ev_field_struct (hgr gw) (by rw [lookup_cons_ne _ _ (fun h => hne h.symm)]; exact lookup_cons_self _ _ _)
    have hslot : EvS F gρ gw (.field (gid s.1) (slotTy s.2.1 s.2.2) (.field "vtable" (vtablePtrTy tr) (compileImm env recv)))
        (.ok (.func (dynWrapName tr forTy s.1)) gw) :=
      ev_field_ptr hvtE hcell (lookup_slots (fun s => GVal.func (dynWrapName tr forTy s.1)) _ s hndS hs)
    have hdataE : EvS F gρ gw (.field "data" anyTy (compileImm env recv)) (.ok gd gw) :=
      ev_field_struct (hgr gw) (lookup_cons_self _ _ _)
    have hargsE : EvLS F gρ gw (.field "data" anyTy (compileImm env recv) :: compileImms env args) (.ok (gd :: gvs) gw) :=
      evl_cons hdataE (hgA gw)
    rw [conclCall_eq] at hcallr
    exact hcallr.imp
      (fun rv w' ⟨η1, hle1, grv, gw', hc, hval, hty, hw1⟩ =>
        ⟨η1, hle1, grv, gw', ev_call hslot hargsE (dyn_wrap_call hdl hs hlenA.2 hndp hnc hrecv hvt hvg hc), hval, hty, hw1,
          fun h => by cases h⟩)
      (fun k w' ⟨η1, hle1, gw', hc, hw1⟩ =>
        ⟨η1, hle1, gw', ev_call hslot hargsE (dyn_wrap_call hdl hs hlenA.2 hndp hnc hrecv hvt hvg hc), hw1, trivial⟩)

theorem stepV {env : Env} {file : AFile} {G : List String} {P : Prog} {F : GFile} (hl : Link env file G P F) {n : Nat}
    (hu : SimU env file G P F n) (hb : SimB env P F n) : SimV env file G P F (n + 1) := by
  intro c η Γ K ρ w gρ gw Bad hctl hgoc hfrag hrel hkrel hw hgood hfc hcal
  have hfr := hfc.rel hgood
  have hcv := fragC_cv hctl hgoc hfrag
  generalize hge : compileCExpr env c = ge at hcv ⊢
  generalize hcs : calleesC (Γ.map (·.1)) c = cs at hcv
  cases hcv with
  | imm hi =>
    obtain ⟨v, gv, hs, hg, hval, hty⟩ := imm_both P hl.ty hi hrel hfr
    simp only [CExpr.toExpr, CExpr.annTy]
    rw [hs n w]
    exact conclV_pure (hg gw) hval hty hw
  | neg he hety =>
    obtain ⟨v, gv, hs, hg, hval, hty⟩ := imm_both P hl.ty he hrel hfr
    rw [hety] at hval hty
    obtain ⟨x, rfl, rfl, -⟩ := tv_inv hty hval
    simp only [CExpr.toExpr, CExpr.annTy]
    rw [Sem.eval_un]
    refine conclV_imm hs ?_
    simp only [Sem.unop]
    exact conclV_pure (ev_neg_int (hg gw)) rfl ⟨rfl, rfl, wrap_wrap _ _ _⟩ hw
  | not he hety =>
    obtain ⟨v, gv, hs, hg, hval, hty⟩ := imm_both P hl.ty he hrel hfr
    rw [hety] at hval hty
    obtain ⟨b, rfl, rfl⟩ := tv_inv hty hval
    simp only [CExpr.toExpr, CExpr.annTy]
    rw [Sem.eval_un]
    refine conclV_imm hs ?_
    simp only [Sem.unop]
    exact conclV_pure (ev_not (hg gw)) rfl trivial hw
  | @bin op l r hl' hr' htl hop =>
    obtain ⟨a, ga, hsa, hga, hvala, htya⟩ := imm_both P hl.ty hl' hrel hfr
    obtain ⟨b, gb, hsb, hgb, hvalb, htyb⟩ := imm_both P hl.ty hr' hrel hfr
    rw [← htl] at hvalb htyb
    have hdom : binDom op l.ty = true := by
      have := hop; simp only [binOK, Bool.and_eq_true] at this; exact this.1.2
    simp only [CExpr.toExpr, CExpr.annTy]
    rw [Sem.eval_bin]
    refine conclV_imm hsa ?_
    by_cases hlog : Goml.C01.isLogic op = true
    · -- `&&` / `||` on booleans: the right operand runs only if the left one does not decide
      have hbool : l.ty = .bool := binDom_logic hdom hlog
      rw [hbool] at htya htyb hvala hvalb ⊢
      obtain ⟨x, rfl, rfl⟩ := tv_inv htya hvala
      obtain ⟨y, rfl, rfl⟩ := tv_inv htyb hvalb
      cases op <;> simp [Goml.C01.isLogic] at hlog
      · cases x with
        | false => exact conclV_pure (ev_and_false (hga gw)) rfl trivial hw
        | true =>
          simp only [Sem.scAnd, Sem.scOr, Sem.logicalNonBool, Bool.false_eq_true, if_false, Bool.not_true, Bool.and_false]
          refine conclV_imm hsb ?_
          exact conclV_pure (ev_and_true (hga gw) (hgb gw)) rfl trivial hw
      · cases x with
        | true => exact conclV_pure (ev_or_true (hga gw)) rfl trivial hw
        | false =>
          simp only [Sem.scAnd, Sem.scOr, Sem.logicalNonBool, Bool.false_eq_true, if_false, Bool.not_true, Bool.and_false]
          refine conclV_imm hsb ?_
          exact conclV_pure (ev_or_false (hga gw) (hgb gw)) rfl trivial hw
    · have hlog' : Goml.C01.isLogic op = false := by simpa using hlog
      -- no short circuit
      have h1 : Sem.scAnd op a = false := by cases op <;> first | rfl | cases hlog'
      have h2 : Sem.scOr op a = false := by cases op <;> first | rfl | cases hlog'
      have h3 : Sem.logicalNonBool op a = false := by cases op <;> first | rfl | cases hlog'
      simp only [h1, h2, h3, Bool.false_eq_true, if_false]
      refine conclV_imm hsb ?_
      have hscl : scalarTy l.ty = true := binDom_scalar hdom
      have htoGa : Goml.C01.toG a = some ga := (VRel_scalar htya hscl).mp hvala
      have htoGb : Goml.C01.toG b = some gb := (VRel_scalar htyb hscl).mp hvalb
      have hscr : scalarTy (binResTy op l.ty) = true := binResTy_scalar hscl
      rcases binop_frag hop hlog' htya htyb with ⟨v, hv, hvt⟩ | ⟨k, hk⟩
      · simp only [hv]
        obtain ⟨gv, hgv, hgt⟩ := Goml.C01.binop_ok_agree op a b v ga gb hlog' htoGa htoGb hv
        rw [← gBin_eq_gop] at hgv
        exact conclV_pure (ev_bin (by rw [isLogicG_gBin]; exact hlog') (hga gw) (hgb gw) hgv)
          ((VRel_scalar hvt hscr).mpr hgt) hvt hw
      · simp only [hk]
        have hgk := Goml.C01.binop_panic_agree op a b ga gb k hlog' htoGa htoGb hk
        rw [← gBin_eq_gop] at hgk
        exact ⟨η, η.le_refl, gw, ev_bin_err (by rw [isLogicG_gBin]; exact hlog') (hga gw) (hgb gw) hgk, hw, rfl⟩
  | call hv =>
    simp only [CExpr.toExpr, CExpr.annTy, Imm.toExpr]
    exact callV_sim hl hu hb hv hrel hw hfr hfc.deq
      (fun x hx => lookup_none_of_not_key (fun hk => hgood _ hk (hcal x (hcs ▸ hx))))
  | @variant tn vn' vname vi tys args hv hargs =>
    obtain ⟨_, hn, d, hd, hvar⟩ := variantOf_spec hv
    obtain ⟨vs, gvs, hrelA, hgF, hsA⟩ := tfields_both P hl.ty hrel hfr 0 hargs
    obtain ⟨hval, hT⟩ := enum_value hn hd hvar hrelA
    obtain ⟨_, _, _, hlen⟩ := VRels_of_args hrelA
    simp only [CExpr.toExpr, CExpr.annTy]
    rw [Sem.eval_constr]
    refine conclV_imms hsA ?_
    have hgo := ev_slit_name (name := variantGoName env tn vname) (hgF gw)
    rw [slit_variant hl.ty hn hd hvar hlen] at hgo
    exact conclV_pure hgo hval hT hw
  | @struct sn d args hsn hd hargs =>
    obtain ⟨vs, gvs, hrelA, hgF, hsA⟩ := fields_both P hl.ty hrel hfr hargs
    obtain ⟨hv, hT⟩ := struct_value hsn hd hrelA
    obtain ⟨_, _, _, hlen⟩ := VRels_of_args hrelA
    simp only [CExpr.toExpr, CExpr.annTy]
    rw [Sem.eval_constr]
    refine conclV_imms hsA ?_
    have hgo := ev_slit_name (name := gid sn) (hgF gw)
    rw [slit_struct hl.ty.closed hsn (hl.ty.table sn hsn) hd (by simpa using hlen)] at hgo
    exact conclV_pure hgo hv hT hw
  | @tuple items ts hargs htt =>
    obtain ⟨vs, gvs, hrelA, hgF, hsA⟩ := tfields_both P hl.ty hrel hfr 0 hargs
    obtain ⟨h1, h2, _, hlen⟩ := VRels_of_args hrelA
    simp only [CExpr.toExpr, CExpr.annTy]
    rw [Sem.eval_tuple]
    refine conclV_imms hsA ?_
    have hgo := ev_slit_struct (name := goTypeNameFor (.tuple ts)) (tfs := goTyFields 0 ts) (hgF gw)
    rw [slit_tuple (hl.tupGo ts htt) hlen] at hgo
    refine conclV_pure hgo ?_ ?_ hw
    · simp only [VRel]; exact ⟨gvs, h1, by rw [hlen]⟩
    · simp only [HasTy]; exact h2
  | @array items len e hargs hval =>
    obtain ⟨vs, gvs, hrelA, hgA, hsA⟩ := imms_both P hl.ty hrel hfr hargs
    obtain ⟨h1, h2, _, _⟩ := VRels_of_args hrelA
    have hlen1 : 1 ≤ len := by
      simp only [valTy, valTyS, Bool.and_eq_true, decide_eq_true_eq] at hval; exact hval.1.1
    simp only [CExpr.toExpr, CExpr.annTy]
    rw [Sem.eval_array]
    refine conclV_imms hsA ?_
    refine conclV_pure (ev_alit_array (hgA gw)) ?_ ?_ hw
    · simp only [VRel]; exact ⟨gvs, h1, rfl⟩
    · simp only [HasTy]; exact ⟨hlen1, h2⟩
  | @cgetVariant x tn vn' vname vi idx tys t hK he hv hti _ =>
    obtain ⟨v, gv, hs, hg, hval, hty⟩ := imm_both P hl.ty he hrel hfr
    -- the operand holds the variant the enclosing arm fixed
    obtain ⟨en, vs, hlk⟩ := hkrel x vi hK
    have hv0 := hs 0 w
    simp only [Imm.toExpr, Sem.eval_var, hlk, Option.getD_some] at hv0
    injection hv0 with hv0; subst hv0
    simp only [Imm.ty] at hval hty
    obtain ⟨d, i', c, vs', gs, hveq, hn, hd, hc, hfields, hgs, rfl⟩ := tv_inv hty hval
    injection hveq with _ hi' hvs'; subst hi'; subst hvs'
    obtain ⟨_, _, d', hd', hvar⟩ := variantOf_spec hv
    rw [hd] at hd'; injection hd' with hd'; subst hd'
    rw [hc] at hvar; injection hvar with hvar; subst hvar
    obtain ⟨d2, hd2, hok⟩ := good_enum hl.ty.closed hn
    rw [hd] at hd2; injection hd2 with hd2; subst hd2
    have hnd : (fieldNames 0 gs.length).Nodup := (VRels_length hgs).2 ▸ hok.payloadNodup _ (List.mem_of_getElem? hc)
    obtain ⟨vi', gi, hvi, hev, hri, hti'⟩ := field_read _ (hg gw) hgs hfields hnd (fieldNames_at hgs hti) hti
    simp only [CExpr.toExpr, CExpr.annTy]
    rw [Sem.eval_cget]
    refine conclV_imm hs ?_
    simp only [hvi]
    exact conclV_pure hev hri hti' hw
  | @cgetStruct e sn f idx t he hety hcf _ =>
    obtain ⟨v, gv, hs, hg, hval, hty⟩ := imm_both P hl.ty he hrel hfr
    rw [hety] at hval hty
    -- the value is a struct value of an admitted struct
    obtain ⟨d, vs, gs, rfl, hsn, hd, hfields, hgs, rfl⟩ := tv_inv hty hval
    obtain ⟨d', hd', hok⟩ := good_struct hl.ty.closed hsn
    rw [hd] at hd'; injection hd' with hd'; subst hd'
    rw [cgetField_struct hety hd hok.generics] at hcf
    cases hf : d.fields[idx]? with
    | none => rw [hf] at hcf; cases hcf
    | some p =>
      rw [hf] at hcf; simp only [Option.map_some, Option.some.injEq, Prod.mk.injEq] at hcf
      obtain ⟨rfl, rfl⟩ := hcf
      obtain ⟨vi, gi, hvi, hev, hri, hti'⟩ := field_read _ (hg gw) hgs hfields hok.nodup
        (show (d.fields.map fun f => gid f.1)[idx]? = some (gid p.1) by simp [hf])
        (show (d.fields.map (·.2))[idx]? = some p.2 by simp [hf])
      simp only [CExpr.toExpr, CExpr.annTy]
      rw [Sem.eval_cget]
      refine conclV_imm hs ?_
      simp only [hvi]
      exact conclV_pure hev hri hti' hw
  | @proj e ts idx t he hety _ hnd hti _ =>
    obtain ⟨v, gv, hs, hg, hval, hty⟩ := imm_both P hl.ty he hrel hfr
    rw [hety] at hval hty
    obtain ⟨vs, gs, rfl, hvs, hgs, rfl⟩ := tv_inv hty hval
    obtain ⟨vi, gi, hvi, hev, hri, hti'⟩ := field_read _ (hg gw) hgs hvs ((VRels_length hgs).2 ▸ hnd) (fieldNames_at hgs hti) hti
    simp only [CExpr.toExpr, CExpr.annTy]
    rw [Sem.eval_proj]
    refine conclV_imm hs ?_
    simp only [hvi]
    exact conclV_pure hev hri hti' hw
  | @toDyn tr forTy e he hety hmem =>
    rw [← hge]
    exact todyn_sim hl n η Γ ρ w gρ gw Bad tr forTy e _ (by simpa only [fragC] using hfrag) hrel hw hgood hfc hcal
  | @dynCall tr m recv args sg hr hrty hsg hargs _ =>
    rw [← hge]
    exact dyncall_sim hl hu η Γ ρ w gρ gw Bad tr m recv args _ (by simpa only [fragC] using hfrag) hrel hw hgood hfc

end Goml.GoComp
