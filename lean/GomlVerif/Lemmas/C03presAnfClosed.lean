import GomlVerif.Lemmas.AnfHyp
import GomlVerif.Lemmas.TypeOf
/-!
ANF rebuilds every node over transformed parts and inserts only `let`s, temporaries annotated with the type of the
expression they name, the `if` of a lowered `&&` / `||` with its literal, and the tag that replaces an enum constructor.  So it
preserves every predicate decided node by node (`everyNode q = q`; here `allTys p` and `noTraitCall`) whose local check
passes those (`NodeOk`), by one walk of `dec` (`dec_every`); no side condition on names is needed.
-/
namespace Goml.Closed
open Goml

def hole : Expr := .prim .unit

mutual
/-- `q` holds of every node, each taken with its parts removed (`hole` for an expression, `[]` for a list): `q` sees the
    constructor and its annotations only.  The default of a `match` is a part like the others: the skeleton is the same
    with and without it. -/
def everyNode (q : Expr → Bool) : Expr → Bool
  | .var x t => q (.var x t)
  | .prim p => q (.prim p)
  | .tag i t => q (.tag i t)
  | .constr c t args => q (.constr c t []) && everyNodeList q args
  | .tuple t items => q (.tuple t []) && everyNodeList q items
  | .array t items => q (.array t []) && everyNodeList q items
  | .closure t ps b => q (.closure t ps hole) && everyNode q b
  | .letE x v b => q (.letE x hole hole) && everyNode q v && everyNode q b
  | .matchE t s arms none => q (.matchE t hole [] none) && everyNode q s && everyNodeArms q arms
  | .matchE t s arms (some d) => q (.matchE t hole [] none) && everyNode q s && everyNodeArms q arms && everyNode q d
  | .ite c t e => q (.ite hole hole hole) && everyNode q c && everyNode q t && everyNode q e
  | .while c b => q (.while hole hole) && everyNode q c && everyNode q b
  | .go e => q (.go hole) && everyNode q e
  | .cget c i t e => q (.cget c i t hole) && everyNode q e
  | .un o t e => q (.un o t hole) && everyNode q e
  | .bin o t l r => q (.bin o t hole hole) && everyNode q l && everyNode q r
  | .call t f args => q (.call t hole []) && everyNode q f && everyNodeList q args
  | .toDyn tr ft t e => q (.toDyn tr ft t hole) && everyNode q e
  | .dynCall tr m t r args => q (.dynCall tr m t hole []) && everyNode q r && everyNodeList q args
  | .traitCall tr m t r args => q (.traitCall tr m t hole []) && everyNode q r && everyNodeList q args
  | .proj i t e => q (.proj i t hole) && everyNode q e
def everyNodeList (q : Expr → Bool) : List Expr → Bool
  | [] => true
  | e :: es => everyNode q e && everyNodeList q es
def everyNodeArms (q : Expr → Bool) : List Arm → Bool
  | [] => true
  | .mk l b :: rest => everyNode q l && everyNode q b && everyNodeArms q rest
end

/-- `allTys p` is its own local check: on a node without parts it tests the node's annotations -/
theorem everyNode_allTys (p : Ty → Bool) :
    (∀ e, everyNode (allTys p) e = allTys p e) ∧ (∀ arms, everyNodeArms (allTys p) arms = allTysArms p arms) ∧
    (∀ es, everyNodeList (allTys p) es = allTysList p es) := by
  apply everyNode.mutual_induct
  all_goals intros
  all_goals simp only [everyNode, everyNodeList, everyNodeArms, hole, allTys, allTysList, allTysArms, Bool.and_true, Bool.true_and, *]

/-- so is `noTraitCall`: on a node without parts it asks whether the node is a trait call -/
theorem everyNode_noTraitCall :
    (∀ e, everyNode noTraitCall e = noTraitCall e) ∧ (∀ arms, everyNodeArms noTraitCall arms = noTraitCallArms arms) ∧
    (∀ es, everyNodeList noTraitCall es = noTraitCallList es) := by
  apply everyNode.mutual_induct
  all_goals intros
  all_goals simp only [everyNode, everyNodeList, everyNodeArms, hole, noTraitCall, noTraitCallList, noTraitCallArms,
    Bool.and_true, Bool.true_and, Bool.false_and, *]

end Goml.Closed

namespace Goml.Anf
open Goml Goml.Closed

/-- what `tyOf` may produce without reading an annotation -/
structure PBase (p : Ty → Bool) : Prop where
  unit : p .unit = true
  prim : ∀ q, p (Anf.primTy q) = true

variable (p : Ty → Bool)

def allB : Binds → Bool
  | [] => true
  | (_, v) :: L => allTys p v && allB L

theorem allTys_tyOf (hp : PBase p) (e : Expr) (h : allTys p e = true) : p (tyOf e) = true := by
  rw [tyOf_eq_getTy]; exact allTys_getTy hp.unit (fun q => primTy_eq q ▸ hp.prim q) e h

def ntcB : Binds → Bool
  | [] => true
  | (_, v) :: L => noTraitCall v && ntcB L

/-- what ANF needs of a local check: the nodes it inserts pass it -/
structure NodeOk (q : Expr → Bool) : Prop where
  letE : ∀ x, q (.letE x hole hole) = true
  ite : q (.ite hole hole hole) = true
  prim : ∀ p, q (.prim p) = true
  /-- an enum constructor becomes its tag: a nullary one as an expression, any one as the head of an arm -/
  tag : ∀ tn vn i t, q (.constr (.enum tn vn i) t []) = true → q (.tag i t) = true
  tmp : ∀ e x, everyNode q e = true → q (.var x (tyOf e)) = true

section
variable {q : Expr → Bool}

def everyB (q : Expr → Bool) : Binds → Bool
  | [] => true
  | (_, v) :: L => everyNode q v && everyB q L

theorem everyB_append : ∀ (L1 L2 : Binds), everyB q (L1 ++ L2) = (everyB q L1 && everyB q L2)
  | [], _ => by simp [everyB]
  | (x, v) :: L1, L2 => by simp only [List.cons_append, everyB, everyB_append L1 L2, Bool.and_assoc]

theorem everyNode_wrap (hq : NodeOk q) : ∀ (L : Binds) (c : Expr), everyNode q (wrap L c) = (everyB q L && everyNode q c)
  | [], c => by simp [wrap, everyB]
  | (x, v) :: L, c => by
    simp only [wrap, everyNode, everyB, everyNode_wrap hq L c, hq.letE, Bool.true_and, Bool.and_assoc]

def EN (q : Expr → Bool) (e : Expr) : Prop :=
  ∀ n, everyNode q e = true → everyB q (dec e n).L = true ∧ everyNode q (dec e n).c = true

theorem en_top (hq : NodeOk q) {e : Expr} (h : EN q e) (n : Nat) (he : everyNode q e = true) :
    everyNode q (anf e n ret).1 = true := by
  rw [anf_ret, everyNode_wrap hq]
  have := h n he
  simp [this.1, this.2]

theorem en_imm (hq : NodeOk q) {e : Expr} (h : EN q e) (n : Nat) (he : everyNode q e = true) :
    everyB q (decImm e n).L = true ∧ everyNode q (decImm e n).c = true := by
  cases hat : isAtom e
  · rw [decImm_nonatom hat]
    have := h (n + 1) he
    simp only [everyB_append, everyB, everyNode, this.1, this.2, Bool.and_true, true_and]
    exact hq.tmp e _ he
  · rw [decImm_atom hat]; exact ⟨rfl, he⟩

theorem en_armHead (hq : NodeOk q) {lhs : Expr} (h : everyNode q lhs = true) : everyNode q (armHead lhs) = true := by
  unfold armHead
  split
  · simp only [everyNode, Bool.and_eq_true] at h ⊢
    exact hq.tag _ _ _ _ h.1
  · exact h

mutual
/-- `unfold decImm`: the rows of `dec` spell its body -/
theorem dec_every (hq : NodeOk q) : ∀ (e : Expr), EN q e
  | .var _ _, n, h | .prim _, n, h | .tag _ _, n, h | .closure _ _ _, n, h | .traitCall _ _ _ _ _, n, h => by
    exact ⟨rfl, h⟩
  | .constr (.enum tn vn idx) ty [], n, h => by
    simp only [everyNode, Bool.and_eq_true] at h
    exact ⟨rfl, hq.tag _ _ _ _ h.1⟩
  | .constr (.struct sn) ty [], n, h => ⟨rfl, h⟩
  | .constr c ty (a :: as), n, h => by
    simp only [everyNode, Bool.and_eq_true] at h
    have := decList_every hq (a :: as) n h.2
    simp only [dec, everyNode, Bool.and_eq_true]; exact ⟨this.1, h.1, this.2⟩
  | .tuple ty items, n, h | .array ty items, n, h => by
    simp only [everyNode, Bool.and_eq_true] at h
    have := decList_every hq items n h.2
    simp only [dec, everyNode, Bool.and_eq_true]; exact ⟨this.1, h.1, this.2⟩
  | .letE x v b, n, h => by
    simp only [everyNode, Bool.and_eq_true] at h
    obtain ⟨⟨_, hv⟩, hb⟩ := h
    have h1 := dec_every hq v n hv
    have h2 := dec_every hq b (dec v n).n hb
    simp only [dec, everyB_append, everyB, Bool.and_eq_true]
    exact ⟨⟨h1.1, h1.2, h2.1⟩, h2.2⟩
  | .ite c t e, n, h => by
    simp only [everyNode, Bool.and_eq_true] at h
    obtain ⟨⟨⟨hnode, hc⟩, ht⟩, he⟩ := h
    have h1 := en_imm hq (dec_every hq c) n hc
    have h2 := en_top hq (dec_every hq t) (decImm c n).n ht
    have h3 := en_top hq (dec_every hq e) (anf t (decImm c n).n ret).2 he
    unfold decImm at h1 h2 h3
    simp only [dec, everyNode, Bool.and_eq_true]
    exact ⟨h1.1, ⟨⟨hnode, h1.2⟩, h2⟩, h3⟩
  | .while c b, n, h => by
    simp only [everyNode, Bool.and_eq_true] at h
    obtain ⟨⟨hnode, hc⟩, hb⟩ := h
    have h1 := en_top hq (dec_every hq c) n hc
    have h2 := en_top hq (dec_every hq b) (anf c n ret).2 hb
    simp only [dec, everyNode, everyB, Bool.and_eq_true]
    exact ⟨trivial, ⟨hnode, h1⟩, h2⟩
  | .matchE ty s arms none, n, h => by
    simp only [everyNode, Bool.and_eq_true] at h
    obtain ⟨⟨hnode, hs⟩, harms⟩ := h
    have h1 := en_imm hq (dec_every hq s) n hs
    have h2 := anfArms_every hq arms (decImm s n).n harms
    unfold decImm at h1 h2
    simp only [dec, anfDflt, everyNode, Bool.and_eq_true]
    exact ⟨h1.1, ⟨hnode, h1.2⟩, h2⟩
  | .matchE ty s arms (some d), n, h => by
    simp only [everyNode, Bool.and_eq_true] at h
    obtain ⟨⟨⟨hnode, hs⟩, harms⟩, hd⟩ := h
    have h1 := en_imm hq (dec_every hq s) n hs
    have h2 := anfArms_every hq arms (decImm s n).n harms
    have h3 := en_top hq (dec_every hq d) (anfArms arms (decImm s n).n).2 hd
    unfold decImm at h1 h2 h3
    simp only [dec, anfDflt, everyNode, Bool.and_eq_true]
    exact ⟨h1.1, ⟨⟨hnode, h1.2⟩, h2⟩, h3⟩
  | .go e, n, h | .cget _ _ _ e, n, h | .un _ _ e, n, h | .proj _ _ e, n, h | .toDyn _ _ _ e, n, h => by
    simp only [everyNode, Bool.and_eq_true] at h
    have := en_imm hq (dec_every hq e) n h.2
    unfold decImm at this
    simp only [dec, everyNode, Bool.and_eq_true]; exact ⟨this.1, h.1, this.2⟩
  | .bin op ty l r, n, h => by
    simp only [everyNode, Bool.and_eq_true] at h
    obtain ⟨⟨hnode, hl⟩, hr⟩ := h
    have h1 := en_imm hq (dec_every hq l) n hl
    have h2 := en_imm hq (dec_every hq r) (decImm l n).n hr
    have h3 := en_top hq (dec_every hq r) (decImm l n).n hr
    unfold decImm at h1 h2 h3
    simp only [dec]
    split
    · split
      · simp only [everyNode, Bool.and_eq_true]; exact ⟨h1.1, ⟨⟨hq.ite, h1.2⟩, h3⟩, hq.prim _⟩
      · simp only [everyNode, Bool.and_eq_true]; exact ⟨h1.1, ⟨⟨hq.ite, h1.2⟩, hq.prim _⟩, h3⟩
    · simp only [everyB_append, everyNode, Bool.and_eq_true]
      exact ⟨⟨h1.1, h2.1⟩, ⟨hnode, h1.2⟩, h2.2⟩
  | .call ty recv args, n, h | .dynCall _ _ ty recv args, n, h => by
    simp only [everyNode, Bool.and_eq_true] at h
    obtain ⟨⟨hnode, hrecv⟩, hargs⟩ := h
    have h1 := en_imm hq (dec_every hq recv) n hrecv
    have h2 := decList_every hq args (decImm recv n).n hargs
    unfold decImm at h1 h2
    simp only [dec, everyB_append, everyNode, Bool.and_eq_true]
    exact ⟨⟨h1.1, h2.1⟩, ⟨hnode, h1.2⟩, h2.2⟩
theorem decList_every (hq : NodeOk q) : ∀ (es : List Expr) (n : Nat), everyNodeList q es = true →
    everyB q (decList es n).L = true ∧ everyNodeList q (decList es n).cs = true
  | [], n, _ => ⟨rfl, rfl⟩
  | e :: rest, n, h => by
    simp only [everyNodeList, Bool.and_eq_true] at h
    have h1 := en_imm hq (dec_every hq e) n h.1
    have h2 := decList_every hq rest (decImm e n).n h.2
    unfold decImm at h1 h2
    simp only [decList, everyB_append, everyNodeList, Bool.and_eq_true]
    exact ⟨⟨h1.1, h2.1⟩, h1.2, h2.2⟩
theorem anfArms_every (hq : NodeOk q) : ∀ (arms : List Arm) (n : Nat), everyNodeArms q arms = true →
    everyNodeArms q (anfArms arms n).1 = true
  | [], n, _ => rfl
  | .mk lhs body :: rest, n, h => by
    simp only [everyNodeArms, Bool.and_eq_true] at h
    obtain ⟨⟨hlhs, hbody⟩, hrest⟩ := h
    have h1 := en_top hq (dec_every hq body) n hbody
    have h2 := anfArms_every hq rest (anf body n ret).2 hrest
    simp only [anfArms, everyNodeArms, Bool.and_eq_true]
    exact ⟨⟨en_armHead hq hlhs, h1⟩, h2⟩
end

theorem anf_every (hq : NodeOk q) (e : Expr) (n : Nat) (he : everyNode q e = true) :
    everyNode q (anf e n ret).1 = true := en_top hq (dec_every hq e) n he

end

theorem everyB_allTys : ∀ L, everyB (allTys p) L = allB p L
  | [] => rfl
  | (_, v) :: L => by simp only [everyB, allB, (everyNode_allTys p).1, everyB_allTys L]

theorem nodeOk_allTys (hp : PBase p) : NodeOk (allTys p) where
  letE := fun _ => rfl
  ite := rfl
  prim := fun _ => rfl
  tag := fun _ _ _ _ h => by simpa [allTys, allTysList] using h
  tmp := fun e _ h => allTys_tyOf p hp e (by rw [← (everyNode_allTys p).1]; exact h)

theorem decList_allTys (hp : PBase p) : ∀ (es : List Expr) (n : Nat), allTysList p es = true →
    allB p (decList es n).L = true ∧ allTysList p (decList es n).cs = true := fun es n h => by
  have := decList_every (nodeOk_allTys p hp) es n (by rw [(everyNode_allTys p).2.2]; exact h)
  rwa [everyB_allTys, (everyNode_allTys p).2.2] at this
theorem anfArms_allTys (hp : PBase p) : ∀ (arms : List Arm) (n : Nat), allTysArms p arms = true →
    allTysArms p (anfArms arms n).1 = true := fun arms n h => by
  have := anfArms_every (nodeOk_allTys p hp) arms n (by rw [(everyNode_allTys p).2.1]; exact h)
  rwa [(everyNode_allTys p).2.1] at this

theorem everyB_ntc : ∀ L, everyB noTraitCall L = ntcB L
  | [] => rfl
  | (_, v) :: L => by simp only [everyB, ntcB, everyNode_noTraitCall.1, everyB_ntc L]

theorem nodeOk_ntc : NodeOk noTraitCall where
  letE := fun _ => rfl
  ite := rfl
  prim := fun _ => rfl
  tag := fun _ _ _ _ _ => rfl
  tmp := fun _ _ _ => rfl

theorem decList_ntc : ∀ (es : List Expr) (n : Nat), noTraitCallList es = true →
    ntcB (decList es n).L = true ∧ noTraitCallList (decList es n).cs = true := fun es n h => by
  have := decList_every nodeOk_ntc es n (by rw [everyNode_noTraitCall.2.2]; exact h)
  rwa [everyB_ntc, everyNode_noTraitCall.2.2] at this
theorem anfArms_ntc : ∀ (arms : List Arm) (n : Nat), noTraitCallArms arms = true →
    noTraitCallArms (anfArms arms n).1 = true := fun arms n h => by
  have := anfArms_every nodeOk_ntc arms n (by rw [everyNode_noTraitCall.2.1]; exact h)
  rwa [everyNode_noTraitCall.2.1] at this

end Goml.Anf
