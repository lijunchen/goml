import GomlVerif.Lemmas.DceSyntax
import GomlVerif.Lemmas.ListFacts
/-! lemmas behind `prune_imports_exact`, `prune_funcs_closed`, `prune_funcs_keeps_roots` (`Props/Dce.lean`) and the pruning
steps of `Lemmas/DceFile2.lean` -/
namespace Goml.Dce
open Goml.Go

def importSpecs (items : List GItem) : List (String × String) :=
  items.flatMap fun | .imports s => s | _ => []

def methodsExprs : List GMethod → List GExpr
  | [] => []
  | m :: ms => exprsS m.body ++ methodsExprs ms

/-- every expression in a function or method body of the file -/
def itemsExprs : List GItem → List GExpr
  | [] => []
  | .func g :: rest => exprsS g.body ++ itemsExprs rest
  | .structDef _ _ ms :: rest => methodsExprs ms ++ itemsExprs rest
  | _ :: rest => itemsExprs rest

theorem pkgsMethods_iff (imps : Names) (p : String) : ∀ ms : List GMethod,
    p ∈ pkgsMethods imps ms ↔ p ∈ imps ∧ AnyE (CallsPkg p) (methodsExprs ms)
  | [] => by simp [pkgsMethods, methodsExprs, anyE_nil]
  | m :: ms => by
    have h1 := pkgsStmts_iff imps p m.body
    have h2 := pkgsMethods_iff imps p ms
    simp only [pkgsMethods, methodsExprs, mem_uni, anyE_append, h1, h2, and_or_left]

theorem usedPackages_iff (imps : Names) (p : String) : ∀ items : List GItem,
    p ∈ usedPackages imps items ↔ p ∈ imps ∧ AnyE (CallsPkg p) (itemsExprs items)
  | [] => by simp [usedPackages, itemsExprs, anyE_nil]
  | it :: rest => by
    have h2 := usedPackages_iff imps p rest
    cases it with
    | func g =>
      have h1 := pkgsStmts_iff imps p g.body
      simp only [usedPackages, pkgsItem, itemsExprs, mem_uni, anyE_append, h1, h2, and_or_left]
    | structDef n fs ms =>
      have h1 := pkgsMethods_iff imps p ms
      simp only [usedPackages, pkgsItem, itemsExprs, mem_uni, anyE_append, h1, h2, and_or_left]
    | _ => simp [usedPackages, pkgsItem, itemsExprs, h2]

theorem pruneImportItems_specs (used : Names) (spec : String × String) : ∀ items : List GItem,
    spec ∈ importSpecs (pruneImportItems used items) ↔
      spec ∈ importSpecs items ∧ specBinding spec ∈ used
  | [] => by simp [pruneImportItems, importSpecs]
  | it :: rest => by
    have ih := pruneImportItems_specs used spec rest
    simp only [importSpecs] at ih ⊢
    cases it with
    | imports s =>
      simp only [pruneImportItems]
      split
      · rename_i hk
        simp only [List.flatMap_cons, List.mem_append, ih]
        have : ¬ (spec ∈ s ∧ specBinding spec ∈ used) := by
          intro ⟨h1, h2⟩
          have : spec ∈ s.filter (fun s => used.contains (specBinding s)) := by
            simp [List.mem_filter, h1, h2]
          rw [List.isEmpty_iff] at hk
          rw [hk] at this; cases this
        constructor
        · intro h; exact ⟨Or.inr h.1, h.2⟩
        · rintro ⟨h1 | h1, h2⟩
          · exact absurd ⟨h1, h2⟩ this
          · exact ⟨h1, h2⟩
      · simp only [List.flatMap_cons, List.mem_append, ih, List.mem_filter, List.contains_iff_mem]
        constructor
        · rintro (⟨h1, h2⟩ | ⟨h1, h2⟩)
          · exact ⟨Or.inl h1, by simpa using h2⟩
          · exact ⟨Or.inr h1, h2⟩
        · rintro ⟨h1 | h1, h2⟩
          · exact Or.inl ⟨h1, by simpa using h2⟩
          · exact Or.inr ⟨h1, h2⟩
    | _ => simpa [pruneImportItems, List.flatMap_cons] using ih

theorem importNames_eq (F : GFile) : importNames F = (importSpecs F.items).map specBinding := by
  unfold importNames importSpecs
  induction F.items with
  | nil => rfl
  | cons it rest ih =>
    simp only [List.flatMap_cons, List.map_append, ih]
    cases it <;> simp

theorem closure_sub (fs : List GFunc) (fns reach : Names) : ∀ x ∈ reach, x ∈ closure fs fns reach := by
  induction reach using closure.induct fs fns with
  | case1 reach h => intro x hx; rw [closure, if_pos h]; exact hx
  | case2 reach h ih =>
    intro x hx; rw [closure, if_neg h]; exact ih x (List.mem_append_left _ hx)

theorem closure_closed (fs : List GFunc) (fns reach : Names) :
    ∀ x ∈ calleesOf fs fns (closure fs fns reach), x ∈ fns → x ∈ closure fs fns reach := by
  induction reach using closure.induct fs fns with
  | case1 reach h =>
    rw [closure, if_pos h]
    intro x hx hf
    by_cases hr : x ∈ reach
    · exact hr
    · have : x ∈ newOf fs fns reach := by
        simp [newOf, List.mem_filter, hx, hf, hr]
      rw [h] at this; cases this
  | case2 reach h ih => rw [closure, if_neg h]; exact ih

theorem mem_calleesOf (fs : List GFunc) (fns : Names) (x : String) : ∀ rs : Names,
    x ∈ calleesOf fs fns rs ↔ ∃ n ∈ rs, ∃ f, lastFunc fs n = some f ∧ x ∈ calledStmts fns f.body
  | [] => by simp [calleesOf]
  | n :: rs => by
    have ih := mem_calleesOf fs fns x rs
    simp only [calleesOf, mem_uni, ih, List.mem_cons, exists_eq_or_imp]
    cases h : lastFunc fs n <;> simp

theorem lastFunc_of_mem (fs : List GFunc) (g : GFunc) (hnd : (fs.map (·.name)).Nodup) (h : g ∈ fs) :
    lastFunc fs g.name = some g := by
  unfold lastFunc
  refine find?_key_eq_some (key := fun f : GFunc => f.name) ?_ ?_ rfl
  · rw [List.map_reverse]
    unfold List.Nodup at *
    rw [List.pairwise_reverse]
    exact hnd.imp (fun h => Ne.symm h)
  · simpa using h

theorem funcs_filter (items : List GItem) (R : Names) :
    (GFile.funcs { items := items.filter (keepItem R) }) =
      (GFile.funcs { items := items }).filter (fun g => R.contains g.name) := by
  unfold GFile.funcs
  induction items with
  | nil => rfl
  | cons it rest ih =>
    simp only [] at ih ⊢
    cases it with
    | func g =>
      by_cases hg : g.name ∈ R <;> simp [hg, keepItem] <;> simpa using ih
    | _ => simpa [List.filter_cons, keepItem] using ih

theorem pruned_funcs (F : GFile) :
    (pruneDeadFunctions F).funcs = F.funcs.filter (fun g => (reachable F).contains g.name) := by
  unfold pruneDeadFunctions
  split
  · rename_i h
    have h : F.funcs = [] := by simpa [List.isEmpty_iff] using h
    rw [h]; rfl
  · rw [funcs_filter]

end Goml.Dce
