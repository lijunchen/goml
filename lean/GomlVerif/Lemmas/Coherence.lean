import GomlVerif.Lemmas.Discover
import GomlVerif.Model.Visibility
/-!
Helper lemmas for C16: what an error-free `localCheck` registered, and when the merge of the
packages' impl tables reports nothing.
-/
namespace Goml.Vis
open Goml.Graph

theorem packageAllowed_iff (p cur : Pkg) (imps : List Pkg) :
    packageAllowed p cur imps = true ↔ p = cur ∨ p = builtinName ∨ p ∈ imps := by
  simp [packageAllowed, or_assoc]

theorem fileImports_sub (q : PkgSrc) (file : Nat) : ∀ x, x ∈ fileImports q file → x ∈ q.imports := by
  intro x hx
  unfold fileImports at hx
  split at hx
  · exact hx
  · simp at hx

/-- every package the target type names is visible from the file of the declaration -/
def TyVisible (q : PkgSrc) (d : ImplD) : Prop :=
  ∀ n ∈ d.tyNames, packageAllowed n q.name (fileImports q d.file) = true

/-- the conditions under which `define_trait_impl` inserts the impl without any diagnostic -/
def Registrable (q : PkgSrc) (d : ImplD) : Prop :=
  packageAllowed d.tr q.name (fileImports q d.file) = true ∧ TyVisible q d ∧
  (d.tr = q.name ∨ d.typeLocalTo q.name = true)

/-- the conditions under which `define_inherent_impl` reports nothing -/
def InherentOk (q : PkgSrc) (d : ImplD) : Prop := TyVisible q d ∧ d.typeLocalTo q.name = true

theorem implStep_nil {q : PkgSrc} {st : LocalSt} {d : ImplD} (h : (implStep q st d).cls = []) :
    st.cls = [] ∧
    ((d.inherent = true ∧ InherentOk q d ∧ (implStep q st d).reg = st.reg) ∨
     (d.inherent = false ∧ Registrable q d ∧ d.key ∉ st.reg ∧ (implStep q st d).reg = st.reg ++ [d.key])) := by
  by_cases hall : (d.tyNames.all fun n => packageAllowed n q.name (fileImports q d.file)) = true
  swap
  · -- some package named in the type is not visible: always a diagnostic
    exfalso
    have hall' : (d.tyNames.all fun n => packageAllowed n q.name (fileImports q d.file)) = false := by simpa using hall
    unfold implStep at h
    simp only [hall', Bool.false_eq_true, if_false] at h
    split at h
    · split at h <;> simp at h
    · split at h
      · simp at h
      · split at h
        · simp at h
        · split at h <;> simp at h
  have hvis : TyVisible q d := by
    intro n hn
    exact (List.all_eq_true.1 hall) n hn
  by_cases hinh : d.inherent = true
  · by_cases hloc : d.typeLocalTo q.name = true
    · refine ⟨?_, Or.inl ⟨hinh, ⟨hvis, hloc⟩, ?_⟩⟩
      · simpa [implStep, hall, hinh, hloc] using h
      · simp [implStep, hall, hinh, hloc]
    · have hloc' : d.typeLocalTo q.name = false := by simpa using hloc
      simp [implStep, hall, hinh, hloc'] at h
  · have hinh' : d.inherent = false := by simpa using hinh
    by_cases h1 : packageAllowed d.tr q.name (fileImports q d.file) = true
    swap
    · have h1' : packageAllowed d.tr q.name (fileImports q d.file) = false := by simpa using h1
      simp [implStep, hinh', h1'] at h
    by_cases hr : d.key ∈ st.reg
    · exfalso
      have hr' : st.reg.contains d.key = true := by simpa using hr
      unfold implStep at h
      simp only [hall, if_true, hinh', Bool.false_eq_true, if_false, h1, Bool.not_true, hr', List.append_nil] at h
      split at h <;> simp at h
    by_cases hl : d.tr = q.name
    · have hl' : (d.tr == q.name) = true := by simpa using hl
      refine ⟨?_, Or.inr ⟨hinh', ⟨h1, hvis, Or.inl hl⟩, hr, ?_⟩⟩
      · simpa [implStep, hall, hinh', h1, hl', hr] using h
      · simp [implStep, hall, hinh', h1, hl', hr]
    · have hl' : (d.tr == q.name) = false := by simpa using hl
      by_cases hloc : d.typeLocalTo q.name = true
      · refine ⟨?_, Or.inr ⟨hinh', ⟨h1, hvis, Or.inr hloc⟩, hr, ?_⟩⟩
        · simpa [implStep, hall, hinh', h1, hl', hloc, hr] using h
        · simp [implStep, hall, hinh', h1, hl', hloc, hr]
      · have hloc' : d.typeLocalTo q.name = false := by simpa using hloc
        simp [implStep, hall, hinh', h1, hl', hloc'] at h

/-- the trait impls among the declarations -/
def traitImpls (l : List ImplD) : List ImplD := l.filter fun d => !d.inherent

theorem foldl_implStep_nil {q : PkgSrc} : ∀ (l : List ImplD) (st : LocalSt),
    (l.foldl (implStep q) st).cls = [] →
      st.cls = [] ∧ (∀ d ∈ l, (d.inherent = true → InherentOk q d) ∧ (d.inherent = false → Registrable q d)) ∧
      (l.foldl (implStep q) st).reg = st.reg ++ (traitImpls l).map ImplD.key ∧
      (st.reg.Nodup → (l.foldl (implStep q) st).reg.Nodup) := by
  intro l
  induction l with
  | nil => intro st h; exact ⟨h, by simp, by simp [traitImpls], id⟩
  | cons d l ih =>
    intro st h
    simp only [List.foldl_cons] at h ⊢
    obtain ⟨c1, r1, e1, n1⟩ := ih _ h
    obtain ⟨c0, hcase⟩ := implStep_nil c1
    rcases hcase with ⟨hi, ok, e0⟩ | ⟨hi, r0, notin, e0⟩
    · refine ⟨c0, List.forall_mem_cons.2 ⟨?_, r1⟩, ?_, ?_⟩
      · exact ⟨fun _ => ok, fun hf => absurd (hi.symm.trans hf) (by decide)⟩
      · rw [e1, e0]; simp [traitImpls, hi]
      · intro hn; apply n1; rw [e0]; exact hn
    · refine ⟨c0, List.forall_mem_cons.2 ⟨?_, r1⟩, ?_, ?_⟩
      · exact ⟨fun ht => absurd (ht.symm.trans hi) (by decide), fun _ => r0⟩
      · rw [e1, e0]; simp [traitImpls, hi]
      · intro hn
        apply n1
        rw [e0]
        exact List.nodup_append_comm.1 (List.nodup_cons.2 ⟨notin, hn⟩)

/-- an error-free package registered its standard impl and every declared trait impl, each once;
    its inherent impls are for its own types -/
structure LocalClean (q : PkgSrc) : Prop where
  uses : ∀ u ∈ q.uses, useClasses q u = []
  impls : ∀ d ∈ q.impls, (d.inherent = true → InherentOk q d) ∧ (d.inherent = false → Registrable q d)
  reg_eq : (localCheck q).reg = stdKey q.name :: (traitImpls q.impls).map ImplD.key
  reg_nodup : (localCheck q).reg.Nodup

theorem localCheck_nil {q : PkgSrc} (h : (localCheck q).cls = []) : LocalClean q := by
  unfold localCheck at h
  obtain ⟨c, r, e, n⟩ := foldl_implStep_nil q.impls _ h
  simp only at c
  exact ⟨List.flatMap_eq_nil_iff.1 c, r, by simpa [localCheck] using e, n (by simp)⟩

/-- no key of the later table is in the earlier one -/
def Disj (r₁ r₂ : List Key) : Prop := ∀ k ∈ r₂, k ∉ r₁

theorem Disj.symm {r₁ r₂ : List Key} (h : Disj r₁ r₂) : Disj r₂ r₁ :=
  fun k hk hk' => h k hk' hk

theorem mergeStep_fst_nil {acc : List Cls × List Key} {reg : List Key} :
    (mergeStep acc reg).1 = [] ↔ acc.1 = [] ∧ Disj acc.2 reg := by
  simp only [mergeStep, List.append_eq_nil_iff, List.map_eq_nil_iff, List.filter_eq_nil_iff, Disj]
  constructor
  · rintro ⟨h1, h2⟩
    exact ⟨h1, fun k hk => by simpa using h2 k hk⟩
  · rintro ⟨h1, h2⟩
    exact ⟨h1, fun k hk => by simpa using h2 k hk⟩

theorem merge_fst_nil : ∀ (regs : List (List Key)) (acc : List Cls × List Key),
    (regs.foldl mergeStep acc).1 = [] ↔
      acc.1 = [] ∧ (∀ r ∈ regs, Disj acc.2 r) ∧ regs.Pairwise Disj := by
  intro regs
  induction regs with
  | nil => intro acc; simp
  | cons r rs ih =>
    intro acc
    simp only [List.foldl_cons, ih, mergeStep_fst_nil, List.pairwise_cons, List.mem_cons, forall_eq_or_imp]
    have key : (∀ r' ∈ rs, Disj (mergeStep acc r).2 r') ↔ (∀ r' ∈ rs, Disj acc.2 r') ∧ (∀ r' ∈ rs, Disj r r') := by
      simp only [mergeStep, Disj, List.mem_append, not_or]
      constructor
      · intro h
        exact ⟨fun r' hr k hk => (h r' hr k hk).1, fun r' hr k hk => (h r' hr k hk).2⟩
      · rintro ⟨h1, h2⟩ r' hr k hk
        exact ⟨h1 r' hr k hk, h2 r' hr k hk⟩
    rw [key]
    tauto

theorem merge_snd : ∀ (regs : List (List Key)) (acc : List Cls × List Key),
    (regs.foldl mergeStep acc).2 = acc.2 ++ regs.flatten := by
  intro regs
  induction regs with
  | nil => intro acc; simp
  | cons r rs ih => intro acc; simp [List.foldl_cons, ih, mergeStep]

theorem flatten_nodup_of_pairwise (regs : List (List Key)) (hn : ∀ r ∈ regs, r.Nodup) (hp : regs.Pairwise Disj) :
    regs.flatten.Nodup :=
  List.pairwise_flatten.mpr ⟨hn, hp.imp fun h x hx y hy (e : x = y) => h y hy (e ▸ hx)⟩

/-- `checkOrder` reports nothing iff every package is error-free and the impl tables are pairwise
    disjoint -/
theorem checkOrder_nil_iff (w : World) (order : List Pkg) :
    checkOrder w order = [] ↔
      (∀ p ∈ order, (localCheck (w.src p)).cls = []) ∧
      (order.map fun p => (localCheck (w.src p)).reg).Pairwise Disj := by
  unfold checkOrder
  simp only [List.append_eq_nil_iff, List.flatMap_eq_nil_iff, List.mem_map, forall_exists_index, and_imp,
    forall_apply_eq_imp_iff₂]
  have hm := merge_fst_nil ((order.map fun p => localCheck (w.src p)).map (·.reg)) ([], [])
  have hfold : ∀ (ls : List LocalSt) (acc : List Cls × List Key),
      ls.foldl (fun acc l => mergeStep acc l.reg) acc = (ls.map (·.reg)).foldl mergeStep acc := by
    intro ls
    induction ls with
    | nil => intro acc; rfl
    | cons x xs ih => intro acc; simp [List.foldl_cons, ih]
  rw [hfold, hm]
  simp only [List.map_map, true_and]
  constructor
  · rintro ⟨h1, _, h3⟩
    exact ⟨h1, h3⟩
  · rintro ⟨h1, h3⟩
    exact ⟨h1, by intro r _ k _ hk; simp at hk, h3⟩

end Goml.Vis
