import GomlVerif.Lemmas.ValTyBasic
/-!
Store typing on the first-order values plus references, on its own (C03): `SVT S Ψ v τ` is value typing relative to a
store typing `Ψ : List Ty` (location ↦ type of its content), `WT` the world invariant.  Four facts, for `ref` and `ref_get` (nothing here for
`ref_set`): typing is monotone under APPEND-ONLY extension of `Ψ` (`mono`), a read returns a value of the recorded type
(`ref_get_sound`), a typed reference does not dangle (`ref_live`), allocation extends `Ψ` by one entry and keeps the invariant
(`ref_new_sound`).  Nothing uses this file: `sem_preserves_types_store_partial` rests on the same facts for the full value
typing (`ValTyG.ref_new_sound` … in `Lemmas/ValTyBasic.lean`).
-/
namespace Goml.ValTy.Store
open Goml Goml.Sem Goml.Wt Goml.Mono Goml.ValTy

mutual
inductive SVT (S : Sig) (Ψ : List Ty) : Val → Ty → Prop
  | unit : SVT S Ψ .unit .unit
  | bool (b : Bool) : SVT S Ψ (.bool b) .bool
  | int (b : Nat) (s : Bool) (x : Int) : okWidth b = true → SVT S Ψ (.int b s x) (.int b s)
  | str (s : String) : SVT S Ψ (.str s) .string
  | tuple {vs : List Val} {ts : List Ty} : SVTs S Ψ vs ts → SVT S Ψ (.tuple vs) (.tuple ts)
  | ref {l : Nat} {e : Ty} : Ψ[l]? = some e → SVT S Ψ (.ref l) (.ref e)
inductive SVTs (S : Sig) (Ψ : List Ty) : List Val → List Ty → Prop
  | nil : SVTs S Ψ [] []
  | cons {v : Val} {vs : List Val} {t : Ty} {ts : List Ty} : SVT S Ψ v t → SVTs S Ψ vs ts → SVTs S Ψ (v :: vs) (t :: ts)
end

variable {S : Sig}

mutual
/-- value typing survives an append-only extension of the store typing -/
theorem mono {Ψ : List Ty} (Δ : List Ty) : ∀ {v : Val} {t : Ty}, SVT S Ψ v t → SVT S (Ψ ++ Δ) v t
  | _, _, .unit => .unit
  | _, _, .bool b => .bool b
  | _, _, .int b s x h => .int b s x h
  | _, _, .str s => .str s
  | _, _, .tuple h => .tuple (monos Δ h)
  | _, _, .ref h => .ref (ValTyR.get_ext ⟨Δ, rfl⟩ h)
theorem monos {Ψ : List Ty} (Δ : List Ty) : ∀ {vs : List Val} {ts : List Ty}, SVTs S Ψ vs ts → SVTs S (Ψ ++ Δ) vs ts
  | _, _, .nil => .nil
  | _, _, .cons h1 h2 => .cons (mono Δ h1) (monos Δ h2)
end

/-- the world invariant: the store has one cell per entry of `Ψ`, each holding a value of the recorded type -/
def WT (S : Sig) (Ψ : List Ty) (w : World) : Prop :=
  w.store.size = Ψ.length ∧ ∀ (l : Nat) (v : Val), w.store[l]? = some v → ∃ e, Ψ[l]? = some e ∧ SVT S Ψ v e

/-- `ref_get`: a read through a typed reference returns a value of the recorded type -/
theorem ref_get_sound {Ψ : List Ty} {w : World} {l : Nat} {e : Ty} {v : Val} (hw : WT S Ψ w)
    (hr : SVT S Ψ (.ref l) (.ref e)) (hv : w.store[l]? = some v) : SVT S Ψ v e := by
  cases hr with
  | ref h =>
    obtain ⟨e', he', hv'⟩ := hw.2 l v hv
    rw [h] at he'; injection he' with he'; subst he'
    exact hv'

/-- a typed reference never dangles -/
theorem ref_live {Ψ : List Ty} {w : World} {l : Nat} {e : Ty} (hw : WT S Ψ w) (hr : SVT S Ψ (.ref l) (.ref e)) :
    l < w.store.size := by
  cases hr with
  | ref h =>
    rw [hw.1]; exact ValTyR.lt_of_get h

/-- `ref`: allocation extends the store typing by the type of the stored value and keeps the invariant -/
theorem ref_new_sound {Ψ : List Ty} {w : World} {v : Val} {e : Ty} (hw : WT S Ψ w) (hv : SVT S Ψ v e) :
    WT S (Ψ ++ [e]) { w with store := w.store.push v } ∧ SVT S (Ψ ++ [e]) (.ref w.store.size) (.ref e) := by
  refine ⟨⟨by simp [hw.1], ?_⟩, .ref (by rw [hw.1]; simp)⟩
  intro l u hu
  simp only [Array.getElem?_push] at hu
  by_cases hl : l = w.store.size
  · simp only [hl, if_true] at hu
    injection hu with hu; subst hu
    exact ⟨e, by rw [hl, hw.1]; simp, mono [e] hv⟩
  · simp only [hl, if_false] at hu
    obtain ⟨e', he', hv'⟩ := hw.2 l u hu
    exact ⟨e', ValTyR.get_ext ⟨[e], rfl⟩ he', mono [e] hv'⟩

end Goml.ValTy.Store
