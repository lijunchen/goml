import GomlVerif.Lemmas.LowerPrattPost
import GomlVerif.Lemmas.PrattLowerEq
/-! `Model/Lower.lean` on the whole image of `Pratt.Cst` (operators, parentheses, calls, fields, projections,
with a pending list) answers what `Pratt.lower` answers, whenever that succeeds.  Not conversely: where `Pratt.lower`
fails on an argument of a call, `mapSkip` drops the argument and the lowering model goes on (`f(1(x))`). -/
namespace Goml.Lower
open Goml.Src Goml.Gen.BindingPower

mutual
/-- decidable side conditions on the tree: no identifier in expression position is spelled like a constructor of
the file; a tuple index fits `usize` -/
def okC (C : List String) : Pratt.Cst → Bool
  | .ident x => !isCtor C x
  | .int _ => true
  | .paren e => okC C e
  | .prefix _ e => okC C e
  | .binary k l r => okC C l && (if k = .Dot then dotOk r else okC C r)
  | .call f args => okC C f && okCList C args
def okCList (C : List String) : List Pratt.Cst → Bool
  | [] => true
  | c :: cs => okC C c && okCList C cs
end

mutual
/-- fuel `lowerExprW` needs on `embed c`: the depth of the image; an argument sits under an `ARG` node, one unit more -/
def dep : Pratt.Cst → Nat
  | .ident _ => 1
  | .int _ => 1
  | .paren e => dep e + 1
  | .prefix _ e => dep e + 1
  | .binary _ l r => max (dep l) (dep r) + 1
  | .call f args => max (dep f) (depList args + 1) + 1
def depList : List Pratt.Cst → Nat
  | [] => 0
  | c :: cs => max (dep c) (depList cs)
end

theorem fuel_succ {c : Pratt.Cst} {n : Nat} (hn : dep c ≤ n) : ∃ m, n = m + 1 :=
  ⟨n - 1, by cases c <;> simp [dep] at hn <;> omega⟩

theorem mapSkip_cons_fst {α β} {f : α → M β} {x : α} {xs : List α} {s : St} {y : β} {ys : List β}
    (h1 : (f x s).1 = some y) (h2 : (mapSkip f xs (f x s).2).1 = some ys) :
    (mapSkip f (x :: xs) s).1 = some (y :: ys) := by
  simp only [mapSkip]
  revert h2
  rcases mapSkip f xs (f x s).2 with ⟨_ | zs, s'⟩ <;> intro h2
  · cases h2
  · cases h2; simp [h1]

theorem callK_ident (C : List String) (n : Nat) (x : String) (hC : isCtor C x = false) (as : List Expr)
    (tr : List Trailing) (s : St) :
    callK C n (eIdent x) as tr s = (some (applyTrailing (.call (.path [x]) as) tr), s) := by
  have hk : ((eIdent x).kind == "EXPR_IDENT") = true := rfl
  simp only [callK, hk, if_true, identPath_eIdent]
  simp [bind_run, run_pure, lastIdent, getLocals, isCtorPath, hC, M.pure]

theorem callK_other (C : List String) (n : Nat) (f : Pratt.Cst) (hf : ∀ s, f = .ident s → False) (as : List Expr)
    (tr : List Trailing) :
    callK C n (embed f) as tr =
      (if Pratt.isPostfixNode f && !Pratt.prefixSpine f then
         (lowerExprW C n (embed f) [] >>= fun fe => pure (applyTrailing (.call fe as) tr))
       else lowerExprW C n (embed f) (.call as :: tr)) := by
  have h1 : ((embed f).kind == "EXPR_IDENT") = false := by
    rw [kind_ident_iff]; cases f <;> simp at hf ⊢
  unfold callK
  simp only [h1, Bool.false_eq_true, if_false, postfix_embed, recvPrefix_embed]

/-- By the induction principle of `Pratt.lower`: in a row where it succeeds, the view lemma of the node kind turns
`lowerExprW` on the image into the same shape over the parts; where it fails there is nothing to show. -/
theorem lower_full_all (C : List String) :
    (∀ (c : Pratt.Cst) (tr : List Pratt.Trail) (a : Pratt.Ast) (n : Nat) (s : St),
      okC C c = true → Pratt.lower c tr = some a → dep c ≤ n →
      (lowerExprW C n (embed c) (tr.map toTr) s).1 = some (toExpr a)) ∧
    (∀ (cs : List Pratt.Cst) (as : List Pratt.Ast) (n : Nat) (s : St),
      okCList C cs = true → Pratt.lowerList cs = some as → depList cs + 1 ≤ n →
      (mapSkip (lowerArg C n) ((embedList cs).map eArg) s).1 = some (toExprList as)) := by
  apply Pratt.lower.mutual_induct
  -- .ident
  case case1 =>
    intro x tr a n s hok h hn
    simp [Pratt.lower] at h
    subst h
    simp [okC] at hok
    obtain ⟨m, rfl⟩ := fuel_succ hn
    rw [embed, view_ident C m x hok, toExpr_applyTrail]
    simp [toExpr]
  -- .int, nothing pending
  case case2 =>
    intro ds tr he a n s _ h hn
    cases tr with
    | nil =>
      simp [Pratt.lower] at h
      subst h
      obtain ⟨m, rfl⟩ := fuel_succ hn
      rw [embed, List.map_nil, view_int]
      simp [toExpr]
    | cons _ _ => simp at he
  -- .paren
  case case4 =>
    intro e tr a' he ih a n s hok h hn
    obtain ⟨m, rfl⟩ := fuel_succ hn
    simp [Pratt.lower, he] at h
    subst h
    have ih := ih a' m s (by simpa [okC] using hok) he (by simp [dep] at hn; omega)
    rw [embed, view_paren C m _ (embed_isE e), toExpr_applyTrail]
    exact bind_pure_fst (g := fun e => applyTrailing e (tr.map toTr)) ih
  -- .prefix
  case case6 =>
    intro k e tr a' o ho he ih a n s hok h hn
    obtain ⟨m, rfl⟩ := fuel_succ hn
    simp [Pratt.lower, he, ho] at h
    subst h
    have ih := ih a' m s (by simpa [okC] using hok) he (by simp [dep] at hn; omega)
    rw [embed, view_prefix C m k o ho _ (embed_isE e), toExpr]
    rw [opt_bind_some ih]
    rfl
  -- .call, identifier callee
  case case9 =>
    intro args tr as hargs x ihA a n s hok h hn
    obtain ⟨m, rfl⟩ := fuel_succ hn
    simp only [okC, Bool.and_eq_true] at hok
    simp [Pratt.lower, hargs] at h
    subst h
    rw [embed, view_call C m _ (embed_isE _),
      bind_some (ihA as m s hok.2 hargs (by simp [dep] at hn; omega)), embed,
      callK_ident C m x (by simpa [okC] using hok.1), toExpr_applyTrail]
    simp [toExpr]
  -- .call, postfix callee: the call is applied here
  case case10 =>
    intro f args tr as hargs hpf fe hf hid ihA ihF a n s hok h hn
    obtain ⟨m, rfl⟩ := fuel_succ hn
    simp only [okC, Bool.and_eq_true] at hok
    rw [Pratt.lower_call_wrap f args as tr hargs hid hpf, hf] at h
    simp only [Option.map_some, Option.some.injEq] at h
    subst h
    have ihf := ihF fe m (mapSkip (lowerArg C m) ((embedList args).map eArg) s).2 hok.1 hf (by simp [dep] at hn; omega)
    rw [embed, view_call C m _ (embed_isE f), bind_some (ihA as m s hok.2 hargs (by simp [dep] at hn; omega)),
      callK_other C m f hid, toExpr_applyTrail]
    simp only [hpf, if_true]
    exact bind_pure_fst (g := fun e => applyTrailing (.call e (toExprList as)) (tr.map toTr)) ihf
  -- .call, handed down to the callee
  case case12 =>
    intro f args tr as hargs hpf hid ihA ihF a n s hok h hn
    obtain ⟨m, rfl⟩ := fuel_succ hn
    simp only [okC, Bool.and_eq_true] at hok
    rw [Pratt.lower_call_fwd f args as tr hargs hid (Bool.eq_false_iff.2 hpf)] at h
    rw [embed, view_call C m _ (embed_isE f), bind_some (ihA as m s hok.2 hargs (by simp [dep] at hn; omega)),
      callK_other C m f hid]
    simp only [hpf]
    exact ihF a m _ hok.1 h (by simp [dep] at hn; omega)
  -- `.`, handed down to the operand of a prefix operator
  case case13 =>
    intro l r tr hp post hd ih a n s hok h hn
    obtain ⟨m, rfl⟩ := fuel_succ hn
    simp only [okC, Bool.and_eq_true, if_true] at hok
    simp only [Pratt.lower, if_true, hp, hd] at h
    have hda := dotAccess_embed r post hd hok.2 s
    rw [embed, view_dot C m _ _ (embed_isE l) (embed_isE r), recvPrefix_embed]
    simp only [hp, if_true]
    rw [bind_some (by rw [hda]), hda]
    exact ih a m s hok.1 h (by simp [dep] at hn; omega)
  -- `.`, applied to the receiver
  case case15 =>
    intro l r tr hp le post hd hl ih a n s hok h hn
    obtain ⟨m, rfl⟩ := fuel_succ hn
    have hp' : Pratt.prefixSpine l = false := by simpa using hp
    simp only [okC, Bool.and_eq_true, if_true] at hok
    simp [Pratt.lower, hp', hl, hd] at h
    subst h
    have ihl := ih le m s hok.1 hl (by simp [dep] at hn; omega)
    simp only [List.map_nil] at ihl
    have hda := dotAccess_embed r post hd hok.2 (lowerExprW C m (embed l) [] s).2
    rw [embed, view_dot C m _ _ (embed_isE l) (embed_isE r), recvPrefix_embed]
    simp only [hp', Bool.false_eq_true, if_false]
    rw [bind_some ihl, bind_some (by rw [hda]), hda, toExpr_applyTrail]
    rfl
  -- a binary operator
  case case17 =>
    intro k l r tr hk la o ho hl ra hr ihl ihr a n s hok h hn
    obtain ⟨m, rfl⟩ := fuel_succ hn
    simp only [okC, Bool.and_eq_true, hk, if_false] at hok
    simp [Pratt.lower, hk, hl, ho, hr] at h
    subst h
    have ihl := ihl la m s hok.1 hl (by simp [dep] at hn; omega)
    have ihr := ihr ra m (lowerExprW C m (embed l) [] s).2 hok.2 hr (by simp [dep] at hn; omega)
    rw [embed, view_binary C m k o ho _ _ (embed_isE l) (embed_isE r), toExpr]
    exact bind2_fst (g := fun x y => Expr.bin (toBin o) x y) ihl ihr
  -- []
  case case20 =>
    intro as n s _ h _
    simp [Pratt.lowerList] at h
    subst h
    rfl
  -- c :: cs
  case case21 =>
    intro c cs a as' hcs hc ih1 ihL as n s hok h hn
    obtain ⟨m, rfl⟩ : ∃ m, n = m + 1 := ⟨n - 1, by omega⟩
    simp only [okCList, Bool.and_eq_true] at hok
    simp [Pratt.lowerList, hc, hcs] at h
    subst h
    rw [embedList, List.map_cons, toExprList]
    refine mapSkip_cons_fst (f := lowerArg C (m + 1)) ?_ ?_
    · rw [view_arg C m _ (embed_isE c)]
      exact ih1 a m s hok.1 hc (by simp [depList] at hn; omega)
    · exact ihL as' (m + 1) _ hok.2 hcs (by simp [depList] at hn; omega)
  -- the rows in which `Pratt.lower` fails: `h : Pratt.lower c tr = some a` is absurd
  all_goals intros
  all_goals rename_i h _
  all_goals simp [Pratt.lower, Pratt.lowerList, *] at h

theorem lower_full (C : List String) : ∀ (c : Pratt.Cst) (tr : List Pratt.Trail) (a : Pratt.Ast) (n : Nat) (s : St),
    okC C c = true → Pratt.lower c tr = some a → dep c ≤ n →
    (lowerExprW C n (embed c) (tr.map toTr) s).1 = some (toExpr a) :=
  (lower_full_all C).1

theorem lower_fullL (C : List String) : ∀ (cs : List Pratt.Cst) (as : List Pratt.Ast) (n : Nat) (s : St),
    okCList C cs = true → Pratt.lowerList cs = some as → depList cs + 1 ≤ n →
    (mapSkip (lowerArg C n) ((embedList cs).map eArg) s).1 = some (toExprList as) :=
  (lower_full_all C).2

end Goml.Lower
