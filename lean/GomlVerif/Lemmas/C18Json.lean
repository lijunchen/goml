import GomlVerif.Model.Derive
import GomlVerif.Lemmas.ListFacts
/-! Lemmas for C18: the JSON reader inverts the compact serialisation `Json.text` of every JSON structure (`jsonRead_text`), and the
derived `to_json` writes the serialisation of `encode Δ v` (`toJson_text`). -/
namespace Goml.Derive

theorem skipWs_cons {c : Char} {r : List Char} (h : isWs c = false) : skipWs (c :: r) = c :: r := by
  simp [skipWs, h]

theorem digitChar_spec : ∀ k : Fin 10, isDigit (digitChar k) = true ∧ (digitChar k = '0' → k.val = 0) := by decide +kernel

theorem natDigits_eq (n : Nat) : natDigits n = if n < 10 then [digitChar n] else natDigits (n / 10) ++ [digitChar (n % 10)] := by
  rw [natDigits]

theorem natDigits_isDigit (n : Nat) : ∀ c ∈ natDigits n, isDigit c = true :=
  decimal_all natDigits_eq (p := fun c => isDigit c = true) (fun k h => (digitChar_spec ⟨k, h⟩).1) n

theorem natDigits_spec (n : Nat) : ∃ d ds, natDigits n = d :: ds ∧ isDigit d = true ∧
    (∀ c ∈ ds, isDigit c = true) ∧ (d = '0' → n = 0 ∧ ds = []) := by
  have hd := natDigits_isDigit n
  have hz := decimal_head natDigits_eq (fun k h => (digitChar_spec ⟨k, h⟩).2) n
  cases e : natDigits n with
  | nil => exact absurd e (decimal_ne_nil natDigits_eq n)
  | cons d ds =>
    rw [e] at hd hz
    refine ⟨d, ds, rfl, hd d (by simp), fun c hc => hd c (by simp [hc]), fun h0 => ?_⟩
    have hn : n = 0 := hz (by rw [h0]; rfl)
    subst hn
    rw [natDigits_eq] at e
    exact ⟨rfl, (List.cons.inj e).2.symm⟩

theorem digitChar_val : ∀ k : Fin 10, (digitChar k).toNat - 48 = k.val := by decide +kernel

theorem digitsVal_natDigits (n : Nat) : digitsVal (natDigits n) = n :=
  decimal_foldl natDigits_eq (g := id) (fun m k h => by simp [digitChar_val ⟨k, h⟩]) n

theorem natDigits_inj {i j : Nat} (h : natDigits i = natDigits j) : i = j := by
  have := congrArg digitsVal h
  simpa [digitsVal_natDigits] using this

theorem dropDigits_all {ds : List Char} (h : ∀ c ∈ ds, isDigit c = true) : dropDigits ds = [] := by
  induction ds with
  | nil => rfl
  | cons c cs ih =>
    simp [dropDigits, h c (by simp)]
    exact ih (fun c hc => h c (by simp [hc]))

theorem isDigit_isNumChar {c : Char} (h : isDigit c = true) : isNumChar c = true := by
  simp [isNumChar, h]

theorem isDigit_ne_minus {c : Char} (h : isDigit c = true) : c ≠ '-' := by
  intro e; subst e; revert h; decide +kernel

theorem validNumber_digits {d : Char} {ds : List Char} (hd : isDigit d = true)
    (hds : ∀ c ∈ ds, isDigit c = true) (h0 : d = '0' → ds = []) : validNumber (d :: ds) = true := by
  have hm := isDigit_ne_minus hd
  simp only [validNumber, hm, if_false]
  by_cases hz : d = '0'
  · simp [hz, h0 hz, validFrac]
  · simp [hz, hd, dropDigits_all hds, validFrac]

theorem validNumber_neg {d : Char} (ds : List Char) (hd : isDigit d = true) :
    validNumber ('-' :: d :: ds) = validNumber (d :: ds) := by
  simp [validNumber, isDigit_ne_minus hd]

/-- `%d` always writes a JSON number -/
theorem showInt_numTok (v : Int) : validNumber (showInt v) = true ∧ ∀ c ∈ showInt v, isNumChar c = true := by
  cases v with
  | ofNat n =>
    obtain ⟨d, ds, e, hd, hds, h0⟩ := natDigits_spec n
    simp only [showInt]
    refine ⟨?_, fun c hc => isDigit_isNumChar (natDigits_isDigit n c hc)⟩
    rw [e]
    exact validNumber_digits hd hds fun h => (h0 h).2
  | negSucc n =>
    obtain ⟨d, ds, e, hd, hds, h0⟩ := natDigits_spec (n + 1)
    simp only [showInt]
    refine ⟨?_, fun c hc => ?_⟩
    · rw [e, validNumber_neg ds hd]
      exact validNumber_digits hd hds fun h => (h0 h).2
    · rcases List.mem_cons.1 hc with rfl | hc
      · decide +kernel
      · exact isDigit_isNumChar (natDigits_isDigit _ c hc)

/-- what follows a number must not continue it -/
def NumEnd (rest : List Char) : Prop := ∀ c r, rest = c :: r → isNumChar c = false

theorem numEnd_nil : NumEnd [] := by intro c r h; cases h

theorem numEnd_cons {c : Char} (r : List Char) (h : isNumChar c = false) : NumEnd (c :: r) := by
  intro c' r' e; cases e; exact h

theorem spanNum_append {t rest : List Char} (ht : ∀ c ∈ t, isNumChar c = true) (hr : NumEnd rest) :
    spanNum (t ++ rest) = (t, rest) := by
  induction t with
  | nil =>
    cases rest with
    | nil => rfl
    | cons c r => simp [spanNum, hr c r rfl]
  | cons c cs ih =>
    have := ih (fun c hc => ht c (by simp [hc]))
    simp [spanNum, ht c (by simp), this]

theorem ne_of_pred {p : Char → Bool} {c x : Char} (h : p c = true) (hx : p x = false) : c ≠ x := by
  intro e; rw [e, hx] at h; cases h

theorem numChar_notWs {c : Char} (h : isNumChar c = true) : isWs c = false := by
  have key : ∀ x : Char, isNumChar x = false → c ≠ x := fun _ => ne_of_pred h
  simp only [isWs, Bool.or_eq_false_iff, decide_eq_false_iff_not]
  exact ⟨⟨⟨key _ (by decide +kernel), key _ (by decide +kernel)⟩, key _ (by decide +kernel)⟩, key _ (by decide +kernel)⟩

theorem validNumber_ne_nil {t : List Char} (h : validNumber t = true) : t ≠ [] := by
  intro e; subst e; simp [validNumber] at h

theorem numTok_head {t : List Char} (hv : validNumber t = true) (ht : ∀ c ∈ t, isNumChar c = true) :
    ∃ c r, t = c :: r ∧ isWs c = false ∧ c ≠ ']' ∧ c ≠ '}' := by
  cases t with
  | nil => exact absurd rfl (validNumber_ne_nil hv)
  | cons c r =>
    have hc := ht c (by simp)
    exact ⟨c, r, rfl, numChar_notWs hc, ne_of_pred hc (by decide +kernel), ne_of_pred hc (by decide +kernel)⟩

theorem readValue_num {t rest : List Char} (fuel : Nat) (hv : validNumber t = true)
    (ht : ∀ c ∈ t, isNumChar c = true) (hr : NumEnd rest) :
    readValue (fuel + 1) (t ++ rest) = some (.num t, rest) := by
  cases t with
  | nil => exact absurd rfl (validNumber_ne_nil hv)
  | cons c r =>
    have hc := ht c (by simp)
    have ne : ∀ x : Char, isNumChar x = false → c ≠ x := fun _ => ne_of_pred hc
    have hs := spanNum_append ht hr
    simp only [List.cons_append] at hs
    simp only [readValue, List.cons_append, skipWs_cons (numChar_notWs hc), ne '"' (by decide +kernel), ne '{' (by decide +kernel),
      ne '[' (by decide +kernel), ne 't' (by decide +kernel), ne 'f' (by decide +kernel), ne 'n' (by decide +kernel), if_false, hs, hv,
      if_true]

theorem readValue_true (fuel : Nat) (rest : List Char) :
    readValue (fuel + 1) ("true".toList ++ rest) = some (.bool true, rest) := by
  simp [readValue, skipWs, isWs, stripPrefix]

theorem readValue_false (fuel : Nat) (rest : List Char) :
    readValue (fuel + 1) ("false".toList ++ rest) = some (.bool false, rest) := by
  simp [readValue, skipWs, isWs, stripPrefix]

theorem readValue_null (fuel : Nat) (rest : List Char) :
    readValue (fuel + 1) ("null".toList ++ rest) = some (.null, rest) := by
  simp [readValue, skipWs, isWs, stripPrefix]

theorem hexRound : ∀ n : Fin 32, hex4Val '0' '0' (hexDigit (n.val / 16)) (hexDigit (n.val % 16)) = some n.val := by decide +kernel

theorem readStr_quote (rest : List Char) : readStr ('"' :: rest) = some ([], rest) := by
  rw [readStr.eq_def]; simp

theorem readStr_esc2 (e ch : Char) (r : List Char) (hu : e ≠ 'u') (h : unescape e = some ch) :
    readStr ('\\' :: e :: r) = consFst ch (readStr r) := by
  rw [readStr.eq_def]; simp [hu, h]

theorem readStr_raw (c : Char) (r : List Char) (h1 : c ≠ '"') (h2 : c ≠ '\\') (h3 : ¬ c.toNat < 32) :
    readStr (c :: r) = consFst c (readStr r) := by
  rw [readStr.eq_def]; simp [h1, h2, h3]

theorem readStr_u (a b c d : Char) (r : List Char) (u : Nat) (h : hex4Val a b c d = some u)
    (h1 : ¬ (0xD800 ≤ u ∧ u < 0xDC00)) (h2 : ¬ (0xDC00 ≤ u ∧ u < 0xE000)) :
    readStr ('\\' :: 'u' :: a :: b :: c :: d :: r) = consFst (Char.ofNat u) (readStr r) := by
  rw [readStr.eq_def]; simp [h, h1, h2]

/-- the reader undoes `json_escape_string`, for every string -/
theorem readStr_esc (s rest : List Char) : readStr (jsonEscBody s ++ '"' :: rest) = some (s, rest) := by
  induction s with
  | nil => simp [jsonEscBody, readStr_quote]
  | cons c cs ih =>
    simp only [jsonEscBody, jsonEscChar]
    split
    · rename_i h; subst h
      simp [readStr_esc2 '"' '"' _ (by decide +kernel) (by decide +kernel), ih, consFst]
    · split
      · rename_i h1 h; subst h
        simp [readStr_esc2 '\\' '\\' _ (by decide +kernel) (by decide +kernel), ih, consFst]
      · split
        · rename_i h1 h2 h
          have hr := hexRound ⟨c.toNat, h⟩
          simp only at hr
          simp [readStr_u _ _ _ _ _ _ hr (by omega) (by omega), ih, consFst, Char.ofNat_toNat]
        · rename_i h1 h2 h
          simp [readStr_raw c _ h1 h2 h, ih, consFst]

theorem identChar_raw {c : Char} (h : isIdentChar c = true) : c ≠ '"' ∧ c ≠ '\\' ∧ ¬ c.toNat < 32 := by
  refine ⟨ne_of_pred h (by decide +kernel), ne_of_pred h (by decide +kernel), ?_⟩
  simp [isIdentChar] at h
  omega

theorem readValue_str (fuel : Nat) (s rest : List Char) :
    readValue (fuel + 1) (jsonQuote s ++ rest) = some (.str s, rest) := by
  simp [readValue, jsonQuote, skipWs, isWs, readStr_esc]

theorem find_namesOk {Δ : Defs} {p : Def → Bool} {d : Def} (hΔ : defsOk Δ = true) (hf : Δ.find? p = some d) :
    namesOk d = true := by
  simp only [defsOk, List.all_eq_true] at hΔ
  exact hΔ d (List.mem_of_find?_eq_some hf)

theorem find_variants {Δ : Defs} {n : String} {idx : Nat} {p : String × List FTy} (h : lookupVariant Δ n idx = some p) :
    ∃ m g vs, Δ.find? (fun d => d.name == n) = some (.enum m g vs) ∧ vs[idx]? = some p := by
  unfold lookupVariant at h
  cases hf : Δ.find? (fun d => d.name == n) with
  | none => simp [hf] at h
  | some d =>
    cases d with
    | struct m g fs => simp [hf] at h
    | enum m g vs => exact ⟨m, g, vs, rfl, by simpa [hf] using h⟩

theorem find_struct {Δ : Defs} {n : String} {decls : List (String × FTy)} (h : lookupStruct Δ n = some decls) :
    ∃ m g, Δ.find? (fun d => d.name == n) = some (.struct m g decls) := by
  unfold lookupStruct at h
  cases hf : Δ.find? (fun d => d.name == n) with
  | none => simp [hf] at h
  | some d =>
    cases d with
    | struct m g fs => simp [hf] at h; subst h; exact ⟨m, g, rfl⟩
    | enum m g vs => simp [hf] at h

theorem lookupStruct_names {Δ : Defs} {n : String} {decls : List (String × FTy)} (hΔ : defsOk Δ = true)
    (h : lookupStruct Δ n = some decls) : ∀ d ∈ decls, isIdent d.1 = true := by
  obtain ⟨m, g, hf⟩ := find_struct h
  have hn := find_namesOk hΔ hf
  simp only [namesOk, Bool.and_eq_true, List.all_eq_true] at hn
  exact hn.2

theorem lookupVariant_name {Δ : Defs} {n : String} {idx : Nat} {vn : String} {tys : List FTy} (hΔ : defsOk Δ = true)
    (h : lookupVariant Δ n idx = some (vn, tys)) : isIdent vn = true := by
  obtain ⟨m, g, vs, hf, hget⟩ := find_variants h
  have hn := find_namesOk hΔ hf
  simp only [namesOk, Bool.and_eq_true, List.all_eq_true] at hn
  exact hn.2 (vn, tys) (List.mem_of_getElem? hget)

theorem isIdent_chars {s : String} (h : isIdent s = true) : ∀ c ∈ s.toList, isIdentChar c = true := by
  simpa [isIdent, List.all_eq_true] using h

theorem hasTys_length {Δ : Defs} : ∀ {ts : List FTy} {vs : List Val}, hasTys Δ ts vs = true → ts.length = vs.length
  | [], [], _ => rfl
  | [], _ :: _, h => by simp [hasTys] at h
  | _ :: _, [], h => by simp [hasTys] at h
  | t :: ts, v :: vs, h => by
    simp only [hasTys, Bool.and_eq_true] at h
    simp [hasTys_length h.2]

theorem hasTy_struct_inv {Δ : Defs} {t : FTy} {n : String} {fs : List Val} (h : hasTy Δ t (.struct n fs) = true) :
    t = .named n ∧ ∃ decls, lookupStruct Δ n = some decls ∧ hasTys Δ (decls.map (·.2)) fs = true := by
  cases t with
  | named m =>
    simp only [hasTy, Bool.and_eq_true, beq_iff_eq] at h
    cases hl : lookupStruct Δ n with
    | none => simp [hl] at h
    | some decls => exact ⟨by rw [h.1], decls, rfl, by simpa [hl] using h.2⟩
  | _ => simp [hasTy] at h

theorem hasTy_enum_inv {Δ : Defs} {t : FTy} {n : String} {idx : Nat} {args : List Val} (h : hasTy Δ t (.enum n idx args) = true) :
    t = .named n ∧ ∃ vn tys, lookupVariant Δ n idx = some (vn, tys) ∧ hasTys Δ tys args = true := by
  cases t with
  | named m =>
    simp only [hasTy, Bool.and_eq_true, beq_iff_eq] at h
    cases hl : lookupVariant Δ n idx with
    | none => simp [hl] at h
    | some p => exact ⟨by rw [h.1], p.1, p.2, rfl, by simpa [hl] using h.2⟩
  | _ => simp [hasTy] at h

/-- the shapes of type and value that `hasTy` accepts, one constructor per row of `hasTy` (what the row further asks of the
    parts of a struct or enum value is `hasTy_struct_inv`, `hasTy_enum_inv`) -/
inductive HasTyView : FTy → Val → Prop
  | unit : HasTyView .unit .unit
  | bool (b : Bool) : HasTyView .bool (.bool b)
  | int (bits : Nat) (signed : Bool) (i : Int) : HasTyView (.int bits signed) (.int i)
  | float (bits : Nat) (tx : List Char) : HasTyView (.float bits) (.float tx)
  | str (s : List Char) : HasTyView .string (.str s)
  | struct (n : String) (fs : List Val) : HasTyView (.named n) (.struct n fs)
  | enum (n : String) (idx : Nat) (args : List Val) : HasTyView (.named n) (.enum n idx args)

theorem hasTy_view {Δ : Defs} {t : FTy} {v : Val} (h : hasTy Δ t v = true) : HasTyView t v := by
  unfold hasTy at h
  split at h
  · exact .unit
  · exact .bool _
  · exact .int _ _ _
  · exact .float _ _
  · exact .str _
  · simp only [Bool.and_eq_true, beq_iff_eq] at h
    exact h.1 ▸ .struct _ _
  · simp only [Bool.and_eq_true, beq_iff_eq] at h
    exact h.1 ▸ .enum _ _ _
  · cases h

theorem hasTys_nil_left {Δ : Defs} {vs : List Val} (h : hasTys Δ [] vs = true) : vs = [] := by
  cases vs with
  | nil => rfl
  | cons v vs => simp [hasTys] at h

theorem readMembers_last {k : Nat} {r0 r2 r : List Char} {key : List Char} {v : Json}
    (hk : readStr r0 = some (key, ':' :: r2)) (hv : readValue k r2 = some (v, '}' :: r)) :
    readMembers (k + 1) ('"' :: r0) = some ([.mk key v], r) := by
  simp [readMembers, skipWs, isWs, hk, hv]

theorem readMembers_more {k : Nat} {r0 r2 r rest' : List Char} {key : List Char} {v : Json} {ms : List Member}
    (hk : readStr r0 = some (key, ':' :: r2)) (hv : readValue k r2 = some (v, ',' :: r))
    (hm : readMembers k r = some (ms, rest')) :
    readMembers (k + 1) ('"' :: r0) = some (.mk key v :: ms, rest') := by
  simp [readMembers, skipWs, isWs, hk, hv, hm]

theorem readValue_obj {k : Nat} {r2 rest : List Char} {ms : List Member}
    (hm : readMembers k ('"' :: r2) = some (ms, rest)) :
    readValue (k + 1) ('{' :: '"' :: r2) = some (.obj ms, rest) := by
  simp [readValue, skipWs, isWs, hm]

theorem readValue_arr {k : Nat} {c2 : Char} {r2 rest : List Char} {vs : List Json}
    (hws : isWs c2 = false) (hc : c2 ≠ ']') (hm : readItems k (c2 :: r2) = some (vs, rest)) :
    readValue (k + 1) ('[' :: c2 :: r2) = some (.arr vs, rest) := by
  simp [readValue, skipWs_cons hws, skipWs_cons (show isWs '[' = false by decide +kernel), hc, hm]

mutual
/-- the compact serialisation (no blanks); keys and strings through `jsonQuote` -/
def Json.text : Json → List Char
  | .null => "null".toList
  | .bool b => if b then "true".toList else "false".toList
  | .num t => t
  | .str s => jsonQuote s
  | .arr [] => "[]".toList
  | .arr (j :: js) => '[' :: (j.text ++ textItems js)
  | .obj [] => "{}".toList
  | .obj (m :: ms) => '{' :: (m.text ++ textMembers ms)
def Member.text : Member → List Char
  | .mk k v => jsonQuote k ++ ':' :: v.text
/-- the further items, each after its comma, and the closing bracket -/
def textItems : List Json → List Char
  | [] => [']']
  | j :: js => ',' :: (j.text ++ textItems js)
def textMembers : List Member → List Char
  | [] => ['}']
  | m :: ms => ',' :: (m.text ++ textMembers ms)
end

mutual
/-- every number of the structure is a JSON number -/
def Json.ok : Json → Bool
  | .num t => validNumber t && t.all isNumChar
  | .arr js => okItems js
  | .obj ms => okMembers ms
  | _ => true
def Member.ok : Member → Bool
  | .mk _ v => v.ok
def okItems : List Json → Bool
  | [] => true
  | j :: js => j.ok && okItems js
def okMembers : List Member → Bool
  | [] => true
  | m :: ms => m.ok && okMembers ms
end

theorem text_head {j : Json} (h : j.ok = true) : ∃ c r, j.text = c :: r ∧ isWs c = false ∧ c ≠ ']' ∧ c ≠ '}' := by
  cases j with
  | null => exact ⟨'n', "ull".toList, by simp [Json.text], by decide +kernel, by decide +kernel, by decide +kernel⟩
  | bool b =>
    cases b with
    | false => exact ⟨'f', "alse".toList, by simp [Json.text], by decide +kernel, by decide +kernel, by decide +kernel⟩
    | true => exact ⟨'t', "rue".toList, by simp [Json.text], by decide +kernel, by decide +kernel, by decide +kernel⟩
  | num t =>
    simp only [Json.ok, Bool.and_eq_true, List.all_eq_true] at h
    simpa only [Json.text] using numTok_head h.1 h.2
  | str s => exact ⟨'"', jsonEscBody s ++ ['"'], by simp [Json.text, jsonQuote], by decide +kernel, by decide +kernel, by decide +kernel⟩
  | arr js => cases js <;> exact ⟨'[', _, by simp [Json.text]; rfl, by decide +kernel, by decide +kernel, by decide +kernel⟩
  | obj ms => cases ms <;> exact ⟨'{', _, by simp [Json.text]; rfl, by decide +kernel, by decide +kernel, by decide +kernel⟩

/-- the length of the text bounds the fuel the reader spends, and splits over `++`; `NumEnd rest` is for `num` alone (`spanNum`
    is greedy) -/
def ReadsJ (j : Json) : Prop :=
  ∀ (fuel : Nat) (rest : List Char), j.ok = true → j.text.length ≤ fuel → NumEnd rest →
    readValue fuel (j.text ++ rest) = some (j, rest)

/-- the items after a first one `j` that is read -/
def ReadsJs (js : List Json) : Prop :=
  ∀ (j : Json), ReadsJ j → ∀ (fuel : Nat) (rest : List Char), j.ok = true → okItems js = true →
    (j.text ++ textItems js).length ≤ fuel → readItems fuel (j.text ++ textItems js ++ rest) = some (j :: js, rest)

def ReadsMs (ms : List Member) : Prop :=
  ∀ (k : List Char) (v : Json), ReadsJ v → ∀ (fuel : Nat) (rest : List Char), v.ok = true → okMembers ms = true →
    ((Member.mk k v).text ++ textMembers ms).length ≤ fuel →
    readMembers fuel ((Member.mk k v).text ++ textMembers ms ++ rest) = some (.mk k v :: ms, rest)

theorem reads_items_cons (j' : Json) (js : List Json) (hj' : ReadsJ j') (hjs : ReadsJs js) : ReadsJs (j' :: js) := by
  intro j hj fuel rest ok okjs hlen
  simp only [okItems, Bool.and_eq_true] at okjs
  cases fuel with
  | zero => simp [textItems] at hlen
  | succ f =>
    simp only [textItems, List.length_append, List.length_cons, List.append_assoc, List.cons_append] at hlen ⊢
    have h1 := hj f (',' :: (j'.text ++ (textItems js ++ rest))) ok (by omega) (numEnd_cons _ (by decide +kernel))
    have h2 := hjs j' hj' f rest okjs.1 okjs.2 (by simp only [List.length_append]; omega)
    simp only [List.append_assoc] at h2
    simp [readItems, h1, skipWs, isWs, h2]

theorem reads_items_nil : ReadsJs [] := by
  intro j hj fuel rest ok _ hlen
  cases fuel with
  | zero => simp [textItems] at hlen
  | succ f =>
    simp only [textItems, List.length_append, List.length_cons, List.length_nil, List.append_assoc, List.cons_append, List.nil_append] at hlen ⊢
    have h1 := hj f (']' :: rest) ok (by omega) (numEnd_cons _ (by decide +kernel))
    simp [readItems, h1, skipWs, isWs]

theorem reads_members_nil : ReadsMs [] := by
  intro k v hv fuel rest ok _ hlen
  cases fuel with
  | zero => simp [textMembers] at hlen
  | succ f =>
    simp only [Member.text, textMembers, jsonQuote, List.length_append, List.length_cons, List.length_nil, List.append_assoc,
      List.cons_append, List.nil_append] at hlen ⊢
    have h1 := hv f ('}' :: rest) ok (by omega) (numEnd_cons _ (by decide +kernel))
    exact readMembers_last (readStr_esc k _) h1

theorem reads_members_cons (m' : Member) (ms : List Member) (hm' : match m' with | .mk _ v => ReadsJ v) (hms : ReadsMs ms) :
    ReadsMs (m' :: ms) := by
  obtain ⟨k', v'⟩ := m'
  intro k v hv fuel rest ok okms hlen
  simp only [okMembers, Member.ok, Bool.and_eq_true] at okms
  cases fuel with
  | zero => simp [textMembers] at hlen
  | succ f =>
    have h2 := hms k' v' hm' f rest okms.1 okms.2
    simp only [Member.text, textMembers, jsonQuote, List.length_append, List.length_cons, List.append_assoc,
      List.cons_append, List.nil_append] at hlen h2 ⊢
    have h1 := hv f (',' :: '"' :: (jsonEscBody k' ++ '"' :: ':' :: (v'.text ++ (textMembers ms ++ rest)))) ok (by omega)
      (numEnd_cons _ (by decide +kernel))
    exact readMembers_more (readStr_esc k _) h1 (h2 (by omega))

/-- **the reader inverts the compact serialisation** of every JSON structure whose numbers are numbers -/
theorem reads_text (j : Json) : ReadsJ j := by
  -- `ReadsJs js` is about the items after a first one: `arr (j :: js)` needs `ReadsJ j` and `ReadsJs js`, so the list motives
  -- carry both for the components
  apply Json.rec (motive_1 := ReadsJ) (motive_2 := fun m => match m with | .mk _ v => ReadsJ v)
    (motive_3 := fun js => ReadsJs js ∧ ∀ j js', js = j :: js' → ReadsJ j ∧ ReadsJs js')
    (motive_4 := fun ms => ReadsMs ms ∧ ∀ k v ms', ms = .mk k v :: ms' → ReadsJ v ∧ ReadsMs ms')
  case null =>
    intro fuel rest _ hlen _
    cases fuel with
    | zero => simp [Json.text] at hlen
    | succ k => exact readValue_null k rest
  case bool =>
    intro b fuel rest _ hlen _
    cases fuel with
    | zero => cases b <;> simp [Json.text] at hlen
    | succ k =>
      cases b with
      | false => exact readValue_false k rest
      | true => exact readValue_true k rest
  case num =>
    intro t fuel rest ok hlen hr
    simp only [Json.ok, Bool.and_eq_true, List.all_eq_true] at ok
    cases fuel with
    | zero => exact absurd (List.length_eq_zero_iff.mp (by simpa [Json.text] using hlen)) (validNumber_ne_nil ok.1)
    | succ k => exact readValue_num k ok.1 ok.2 hr
  case str =>
    intro s fuel rest _ hlen _
    cases fuel with
    | zero => simp [Json.text, jsonQuote] at hlen
    | succ k => exact readValue_str k s rest
  case arr =>
    intro js ih fuel rest ok hlen _
    cases js with
    | nil =>
      cases fuel with
      | zero => simp [Json.text] at hlen
      | succ k => simp [Json.text, readValue, skipWs, isWs]
    | cons j js =>
      obtain ⟨hj, hjs⟩ := ih.2 j js rfl
      simp only [Json.ok, okItems, Bool.and_eq_true] at ok
      obtain ⟨c, r, hc, hws, hnb, _⟩ := text_head ok.1
      cases fuel with
      | zero => simp [Json.text] at hlen
      | succ k =>
        have hrec := hjs j hj k rest ok.1 ok.2 (by simpa [Json.text] using hlen)
        simp only [Json.text, hc, List.cons_append] at hrec ⊢
        exact readValue_arr hws hnb hrec
  case obj =>
    intro ms ih fuel rest ok hlen _
    cases ms with
    | nil =>
      cases fuel with
      | zero => simp [Json.text] at hlen
      | succ k => simp [Json.text, readValue, skipWs, isWs]
    | cons m ms =>
      obtain ⟨key, v⟩ := m
      obtain ⟨hv, hms⟩ := ih.2 key v ms rfl
      simp only [Json.ok, okMembers, Member.ok, Bool.and_eq_true] at ok
      cases fuel with
      | zero => simp [Json.text] at hlen
      | succ k =>
        have hrec := hms key v hv k rest ok.1 ok.2 (by simpa [Json.text] using hlen)
        simp only [Json.text, Member.text, jsonQuote, List.cons_append, List.append_assoc] at hrec ⊢
        exact readValue_obj hrec
  case mk => intro k v hv; exact hv
  case nil => exact ⟨reads_items_nil, fun _ _ e => nomatch e⟩
  case cons => intro j js hj hjs; exact ⟨reads_items_cons j js hj hjs.1, fun _ _ e => by cases e; exact ⟨hj, hjs.1⟩⟩
  case nil => exact ⟨reads_members_nil, fun _ _ _ e => nomatch e⟩
  case cons => intro m ms hm hms; exact ⟨reads_members_cons m ms hm hms.1, fun _ _ _ e => by cases e; exact ⟨hm, hms.1⟩⟩

theorem jsonRead_text {j : Json} (h : j.ok = true) : jsonRead j.text = some j := by
  have := reads_text j (j.text.length + 1) [] h (by omega) numEnd_nil
  simp only [List.append_nil] at this
  simp [jsonRead, this, skipWs]

theorem toJson_unit (Δ : Defs) : toJson Δ .unit = "null".toList := by rw [toJson]
theorem toJson_bool (Δ : Defs) (b : Bool) : toJson Δ (.bool b) = if b then "true".toList else "false".toList := by rw [toJson]
theorem toJson_int (Δ : Defs) (i : Int) : toJson Δ (.int i) = showInt i := by rw [toJson]
theorem toJson_float (Δ : Defs) (t : List Char) : toJson Δ (.float t) = t := by rw [toJson]
theorem toJson_str (Δ : Defs) (s : List Char) : toJson Δ (.str s) = jsonQuote s := by rw [toJson]
theorem toString_unit (Δ : Defs) : toString Δ .unit = "()".toList := by rw [toString]
theorem toString_bool (Δ : Defs) (b : Bool) : toString Δ (.bool b) = if b then "true".toList else "false".toList := by rw [toString]
theorem toString_int (Δ : Defs) (i : Int) : toString Δ (.int i) = showInt i := by rw [toString]
theorem toString_float (Δ : Defs) (t : List Char) : toString Δ (.float t) = t := by rw [toString]
theorem toString_str (Δ : Defs) (s : List Char) : toString Δ (.str s) = s := by rw [toString]

/-! ### `to_json` writes the serialisation of `encode` -/

theorem jsonEscBody_ident : ∀ k : List Char, (∀ c ∈ k, isIdentChar c = true) → jsonEscBody k = k
  | [], _ => rfl
  | c :: cs, h => by
    obtain ⟨h1, h2, h3⟩ := identChar_raw (h c (by simp))
    simp [jsonEscBody, jsonEscChar, h1, h2, h3, jsonEscBody_ident cs fun c hc => h c (by simp [hc])]

theorem jsonQuote_ident {s : String} (h : isIdent s = true) : jsonQuote s.toList = '"' :: (s.toList ++ ['"']) := by
  rw [jsonQuote, jsonEscBody_ident _ (isIdent_chars h)]

theorem membersJson_false {Δ : Defs} (d : String × FTy) (decls : List (String × FTy)) (v : Val) (vs : List Val) :
    membersJson Δ (d :: decls) (v :: vs) false = ',' :: membersJson Δ (d :: decls) (v :: vs) true := by
  simp [membersJson]

theorem itemsJson_false {Δ : Defs} (v : Val) (vs : List Val) :
    itemsJson Δ (v :: vs) false = ',' :: itemsJson Δ (v :: vs) true := by
  simp [itemsJson]

/-- `to_json` writes the compact serialisation of the required structure, whose numbers are numbers -/
def TextV (Δ : Defs) (v : Val) : Prop :=
  ∀ t, hasTy Δ t v = true → floatsOk v = true → toJson Δ v = (encode Δ v).text ∧ (encode Δ v).ok = true

/-- … and of the further members / items of a list of values, each after its comma, with the closer -/
def TextVs (Δ : Defs) (vs : List Val) : Prop :=
  (∀ decls : List (String × FTy), hasTys Δ (decls.map (·.2)) vs = true → floatsOkL vs = true → (∀ d ∈ decls, isIdent d.1 = true) →
    membersJson Δ decls vs false ++ ['}'] = textMembers (encodeMembers Δ decls vs) ∧ okMembers (encodeMembers Δ decls vs) = true) ∧
  (∀ tys, hasTys Δ tys vs = true → floatsOkL vs = true →
    itemsJson Δ vs false ++ [']'] = textItems (encodeItems Δ vs) ∧ okItems (encodeItems Δ vs) = true)

theorem toJson_text {Δ : Defs} (hΔ : defsOk Δ = true) (v : Val) : TextV Δ v := by
  apply Val.rec (motive_1 := TextV Δ) (motive_2 := TextVs Δ)
  case unit =>
    intro t _ _; exact ⟨by rw [toJson_unit, encode, Json.text], rfl⟩
  case bool =>
    intro b t _ _; exact ⟨by rw [toJson_bool, encode, Json.text], rfl⟩
  case int =>
    intro i t _ _
    obtain ⟨h1, h2⟩ := showInt_numTok i
    exact ⟨by rw [toJson_int, encode, Json.text], by simp [encode, Json.ok, h1]; exact h2⟩
  case float =>
    intro tx t _ hf
    exact ⟨by rw [toJson_float, encode, Json.text], by simpa [encode, Json.ok, floatsOk] using hf⟩
  case str =>
    intro s t _ _; exact ⟨by rw [toJson_str, encode, Json.text], rfl⟩
  case struct =>
    intro n fs ih t hty hfl
    obtain ⟨-, decls, hl, htys⟩ := hasTy_struct_inv hty
    simp only [floatsOk] at hfl
    have hid := lookupStruct_names hΔ hl
    cases decls with
    | nil =>
      have hfs := hasTys_nil_left (by simpa using htys); subst hfs
      simp [toJson, hl, encode, encodeMembers, Json.text, Json.ok, okMembers]
    | cons d decls' =>
      cases fs with
      | nil => simp [hasTys] at htys
      | cons v vs =>
        obtain ⟨h1, h2⟩ := ih.1 (d :: decls') htys hfl hid
        rw [membersJson_false] at h1
        simp only [encodeMembers, textMembers, List.cons_append, List.cons.injEq, true_and] at h1
        simp only [toJson, hl, encode, List.isEmpty_cons, Bool.false_eq_true, if_false, encodeMembers, Json.text, Json.ok]
        exact ⟨by rw [h1], h2⟩
  case enum =>
    intro n idx args ih t hty hfl
    obtain ⟨-, vn, tys, hl, htys⟩ := hasTy_enum_inv hty
    simp only [floatsOk] at hfl
    have hvn := jsonEscBody_ident _ (isIdent_chars (lookupVariant_name hΔ hl))
    cases tys with
    | nil =>
      have hargs := hasTys_nil_left htys; subst hargs
      simp [toJson, hl, encode, Json.text, Member.text, textMembers, hvn, Json.ok, okMembers, Member.ok, jsonQuote, jsonEscBody, jsonEscChar]
    | cons ty tys' =>
      cases args with
      | nil => simp [hasTys] at htys
      | cons a as =>
        obtain ⟨h1, h2⟩ := ih.2 (ty :: tys') htys hfl
        rw [itemsJson_false] at h1
        simp only [encodeItems, textItems, List.cons_append, List.cons.injEq, true_and] at h1
        refine ⟨?_, by simpa [encode, hl, Json.ok, okMembers, Member.ok, encodeItems] using h2⟩
        -- peel `]}`: the list hypothesis ends in `]`
        have e : itemsJson Δ (a :: as) true ++ "]}".toList = (itemsJson Δ (a :: as) true ++ [']']) ++ ['}'] := by simp
        simp only [toJson, hl, encode, List.isEmpty_cons, Bool.false_eq_true, if_false, e, h1]
        simp [Json.text, Member.text, textMembers, hvn, jsonQuote, jsonEscBody, jsonEscChar, encodeItems]
  case nil =>
    constructor
    · intro decls h _ _
      cases decls <;> simp_all [hasTys, membersJson, encodeMembers, textMembers, okMembers]
    · intro tys _ _
      simp [itemsJson, encodeItems, textItems, okItems]
  case cons =>
    intro v vs hv hvs
    constructor
    · intro decls hty hfl hid
      cases decls with
      | nil => simp [hasTys] at hty
      | cons d ds =>
        obtain ⟨f, t⟩ := d
        simp only [List.map_cons, hasTys, Bool.and_eq_true] at hty
        simp only [floatsOkL, Bool.and_eq_true] at hfl
        obtain ⟨e1, o1⟩ := hv t hty.1 hfl.1
        obtain ⟨e2, o2⟩ := hvs.1 ds hty.2 hfl.2 fun d hd => hid d (by simp [hd])
        have hq := jsonQuote_ident (hid (f, t) (by simp))
        simp only [membersJson, encodeMembers, textMembers, Member.text, okMembers, Member.ok, o1, o2, hq, e1, ← e2]
        simp
    · intro tys hty hfl
      cases tys with
      | nil => simp [hasTys] at hty
      | cons t ts =>
        simp only [hasTys, Bool.and_eq_true] at hty
        simp only [floatsOkL, Bool.and_eq_true] at hfl
        obtain ⟨e1, o1⟩ := hv t hty.1 hfl.1
        obtain ⟨e2, o2⟩ := hvs.2 ts hty.2 hfl.2
        simp only [itemsJson, encodeItems, textItems, okItems, o1, o2, e1, ← e2]
        simp

theorem jsonRead_toJson {Δ : Defs} (hΔ : defsOk Δ = true) {t : FTy} {v : Val} (hty : hasTy Δ t v = true)
    (hfl : floatsOk v = true) : jsonRead (toJson Δ v) = some (encode Δ v) := by
  obtain ⟨e, ok⟩ := toJson_text hΔ v t hty hfl
  rw [e, jsonRead_text ok]

end Goml.Derive
