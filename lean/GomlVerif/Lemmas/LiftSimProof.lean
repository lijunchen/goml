import GomlVerif.Lemmas.LiftSimBuiltin
import GomlVerif.Lemmas.LiftSimEnv
import GomlVerif.Lemmas.LiftSimInv
/-!
C08: the statement that an accepted pair of programs is a simulation under `Sem`, its case of no fuel, and sequencing.

`SimAt n`: every source evaluation with fuel `n` that neither runs out of fuel nor gets stuck is
matched by the lifted program: there is a result `r'`, related to the source result, that the
target evaluates to in the fuel-free sense `Ev` (the lifted program needs more fuel: rebinding of
captured variables, the extra argument of apply calls; `conv_iff_stable` reads `Ev` as "for every
sufficiently large fuel").
-/
namespace Goml.Lift
open Goml Goml.Sem

section
variable (P P' : Prog)

/-- what `progOk` establishes -/
structure ProgRel : Prop where
  fns : ∀ g f, P.findFn g = some f → ∃ f', P'.findFn g = some f' ∧ fnOk P P' f f' = true
  impls : P.impls = P'.impls
  implsOk : ∀ i, i ∈ P.impls → globalOk P P' i.2.2.2 = true

/-- `callShape` for the value the callee evaluates to: the promise of the declared return type of a called top-level
function -/
def applyShape (fv' : Val) : Shape :=
  match fv' with
  | .fn g =>
    match P.findFn g, P'.findFn g with
    | some _, some fn' => claim P' fn'.ret
    | _, _ => .any
  | _ => .any

/-- the simulation statement for one source expression at one fuel -/
def ExprSim (n : Nat) (e : Expr) : Prop :=
  ∀ {e' : Expr} {Γ : SEnv} {S T : List String} {ρ ρ' : Sem.Env} {w w' : World} {s : Shape},
    simE P P' Γ S T e e' = some s → EnvRel P P' Γ S T ρ ρ' → WRel P P' w w' → Good (eval n P ρ w e) →
    ∃ r', Ev P' e' ρ' w' r' ∧ ResRel P P' s (eval n P ρ w e) r'

structure SimAt (n : Nat) : Prop where
  expr : ∀ {e : Expr}, ExprSim P P' n e
  list : ∀ {es es' : List Expr} {Γ : SEnv} {S T : List String} {ρ ρ' : Sem.Env} {w w' : World} {ss : List Shape},
    simList P P' Γ S T es es' = some ss → EnvRel P P' Γ S T ρ ρ' → WRel P P' w w' → Good (evalList n P ρ w es) →
    ∃ r', EvL P' es' ρ' w' r' ∧ ResRelL P P' ss (evalList n P ρ w es) r'
  arms : ∀ {arms arms' : List Arm} {d d' : Option Expr} {Γ : SEnv} {S T : List String} {ρ ρ' : Sem.Env}
    {w w' : World} {v v' : Val},
    simArms P P' Γ S T arms arms' = true → simOpt P P' Γ S T d d' = true → EnvRel P P' Γ S T ρ ρ' →
    WRel P P' w w' → VRel P P' v v' → Good (evalArms n P ρ w v arms d) →
    ∃ r', EvA P' ρ' w' v' arms' d' r' ∧ ResRel P P' .any (evalArms n P ρ w v arms d) r'
  app : ∀ {f f' : Val} {args args' : List Val} {w w' : World},
    VRel P P' f f' → VRelList P P' args args' → WRel P P' w w' → Good (apply n P w f args) →
    ∃ r', App P' w' f' args' r' ∧ ResRel P P' (applyShape P P' f') (apply n P w f args) r'

end

section
variable {P P' : Prog}

theorem not_good_fuel {α : Type} {w : World} : ¬ Good (Res.fail (α := α) Fail.fuel w) := by simp [Good]
theorem not_good_stuck {α : Type} {w : World} {m : String} : ¬ Good (Res.fail (α := α) (Fail.stuck m) w) := by simp [Good]

theorem simAt_zero : SimAt P P' 0 := by
  -- with no fuel every interpreter returns `.fail .fuel`, by definition
  refine ⟨?_, ?_, ?_, ?_⟩
  · intro e e' Γ S T ρ ρ' w w' s _ _ _ hg
    exact absurd hg not_good_fuel
  · intro es es' Γ S T ρ ρ' w w' ss _ _ _ hg
    exact absurd hg not_good_fuel
  · intro arms arms' d d' Γ S T ρ ρ' w w' v v' _ _ _ _ _ hg
    exact absurd hg not_good_fuel
  · intro f f' args args' w w' _ _ _ hg
    exact absurd hg not_good_fuel

theorem ResRel.fail_inv {s : Shape} {f : Fail} {w : World} {r' : Res Val} (h : ResRel P P' s (.fail f w) r') :
    ∃ w', r' = .fail f w' ∧ WRel P P' w w' := by
  cases r' with
  | ok v w' => simp [ResRel] at h
  | fail f' w' => simp only [ResRel] at h; obtain ⟨rfl, hw⟩ := h; exact ⟨w', rfl, hw⟩

theorem ResRel.ok_inv {s : Shape} {v : Val} {w : World} {r' : Res Val} (h : ResRel P P' s (.ok v w) r') :
    ∃ v' w', r' = .ok v' w' ∧ VRel P P' v v' ∧ HasShape s v' ∧ WRel P P' w w' := by
  cases r' with
  | ok v' w' => simp only [ResRel] at h; exact ⟨v', w', rfl, h.1, h.2.1, h.2.2⟩
  | fail f' w' => simp [ResRel] at h

theorem ResRel.nf {s : Shape} {r r' : Res Val} (h : ResRel P P' s r r') (hg : Good r) : NF r' := by
  cases r' with
  | ok v' w' => trivial
  | fail f' w' =>
    cases r with
    | ok v w => exact h.elim
    | fail f w => cases h.1; cases f' <;> first | trivial | exact hg.elim

theorem ResRelL.fail_inv {ss : List Shape} {f : Fail} {w : World} {r' : Res (List Val)}
    (h : ResRelL P P' ss (.fail f w) r') : ∃ w', r' = .fail f w' ∧ WRel P P' w w' := by
  cases r' with
  | ok v w' => simp [ResRelL] at h
  | fail f' w' => simp only [ResRelL] at h; obtain ⟨rfl, hw⟩ := h; exact ⟨w', rfl, hw⟩

theorem ResRelL.ok_inv {ss : List Shape} {vs : List Val} {w : World} {r' : Res (List Val)}
    (h : ResRelL P P' ss (.ok vs w) r') :
    ∃ vs' w', r' = .ok vs' w' ∧ VRelList P P' vs vs' ∧ HasShapes ss vs' ∧ WRel P P' w w' := by
  cases r' with
  | ok v' w' => simp only [ResRelL] at h; exact ⟨v', w', rfl, h.1, h.2.1, h.2.2⟩
  | fail f' w' => simp [ResRelL] at h

theorem Good.fail_of {α β : Type} {f : Fail} {w : World} (h : Good (Res.fail (α := α) f w)) :
    Good (Res.fail (α := β) f w) := by
  cases f <;> simp_all [Good]

/-- a relation on results that relates equal failures in related worlds -/
def FailClosed {β : Type} (R : Res β → Res β → Prop) : Prop :=
  ∀ f w w', WRel P P' w w' → R (.fail f w) (.fail f w')

theorem ResRel.failClosed (s : Shape) : FailClosed (P := P) (P' := P') (ResRel P P' s) :=
  fun _ _ _ hw => ⟨rfl, hw⟩
theorem ResRelL.failClosed (ss : List Shape) : FailClosed (P := P) (P' := P') (ResRelL P P' ss) :=
  fun _ _ _ hw => ⟨rfl, hw⟩

theorem Good.andThen_left {α β : Type} {r : Res α} {K : α → World → Res β} (h : Good (r.andThen K)) : Good r := by
  cases r with
  | ok v w => trivial
  | fail f w => exact Good.fail_of h

/-- Sequencing.  The first stage is a source result `r` against what the target's first stage may return (`E'`: an
    expression, an argument list or an application under the induction hypothesis), related by `Q`, of which only the two
    inversions are used; `hT` is the rule of `Ev` for the target node (`ev_step.2`). -/
theorem sim_seq {α β : Type} {R : Res β → Res β → Prop} {Tgt : Res β → Prop} {E' : Res α → Prop}
    {K' : α → World → Res β → Prop} (hT : ∀ r', RB E' K' r' → Tgt r') (hR : FailClosed (P := P) (P' := P') R)
    {Q : Res α → Res α → Prop} {X : α → α → Prop} {Y : α → Prop}
    (hfail : ∀ {f : Fail} {w : World} {r' : Res α}, Q (.fail f w) r' → ∃ w', r' = .fail f w' ∧ WRel P P' w w')
    (hok : ∀ {v : α} {w : World} {r' : Res α}, Q (.ok v w) r' → ∃ v' w', r' = .ok v' w' ∧ X v v' ∧ Y v' ∧ WRel P P' w w')
    {r : Res α} {K : α → World → Res β}
    (h1 : Good r → ∃ r', E' r' ∧ Q r r')
    (hK : ∀ v v' w1 w1', X v v' → Y v' → WRel P P' w1 w1' → E' (.ok v' w1') → Good (K v w1) →
      ∃ r', K' v' w1' r' ∧ R (K v w1) r')
    (hg : Good (r.andThen K)) : ∃ r', Tgt r' ∧ R (r.andThen K) r' := by
  obtain ⟨r1', he, hr1⟩ := h1 (Good.andThen_left hg)
  cases r with
  | fail f w1 =>
    obtain ⟨w1', rfl, hw1⟩ := hfail hr1
    exact ⟨.fail f w1', hT _ (Or.inl ⟨f, w1', he, rfl⟩), hR f w1 w1' hw1⟩
  | ok v w1 =>
    obtain ⟨v', w1', rfl, hv, hsv, hw1⟩ := hok hr1
    obtain ⟨r', hk, hr'⟩ := hK v v' w1 w1' hv hsv hw1 he hg
    exact ⟨r', hT _ (Or.inr ⟨v', w1', he, hk⟩), hr'⟩

end
end Goml.Lift
