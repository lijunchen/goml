import GomlVerif.Lemmas.AnfSem
/-!
The side conditions of the ANF proof (`Hyp` and its variants for operand lists, arms and defaults) and how they
pass from a node to its parts; with them `hypL_atom_stable` (an operand's atom keeps its value while later chains
run) and `armMatches_armHead`.
-/
namespace Goml.Anf
open Goml Goml.Sem

theorem disj_iff {xs ys : List String} : disj xs ys = true ↔ ∀ x ∈ xs, x ∉ ys := by
  simp [disj]

theorem disj_nil_left (ys : List String) : disj [] ys = true := by simp [disj]
theorem disj_nil_right (xs : List String) : disj xs [] = true := by simp [disj]

theorem disj_append_right {xs ys zs : List String} (h : disj xs (ys ++ zs) = true) :
    disj xs ys = true ∧ disj xs zs = true := by
  rw [disj_iff] at h
  constructor <;> rw [disj_iff] <;> intro x hx hm
  · exact h x hx (by simp [hm])
  · exact h x hx (by simp [hm])

/-- By the induction principle of `bnd`: each row of `bnd` is the row of `names` with some summands left out. -/
theorem bnd_sub_names_all :
    (∀ (e : Expr) (x : String), x ∈ bnd e → x ∈ names e) ∧
    (∀ (d : Option Expr) (x : String), x ∈ bndDflt d → x ∈ namesDflt d) ∧
    (∀ (arms : List Arm) (x : String), x ∈ bndArms arms → x ∈ namesArms arms) ∧
    (∀ (es : List Expr) (x : String), x ∈ bndList es → x ∈ namesList es) := by
  apply bnd.mutual_induct
  all_goals intros
  all_goals simp only [bnd, bndList, bndArms, bndDflt, names, namesList, namesArms, namesDflt, List.mem_append,
    List.mem_cons, List.not_mem_nil] at *
  all_goals grind

theorem bndList_sub_names : ∀ (es : List Expr) (x : String), x ∈ bndList es → x ∈ namesList es := bnd_sub_names_all.2.2.2
theorem bndArms_sub_names : ∀ (arms : List Arm) (x : String), x ∈ bndArms arms → x ∈ namesArms arms :=
  bnd_sub_names_all.2.2.1
theorem bndDflt_sub_names : ∀ (d : Option Expr) (x : String), x ∈ bndDflt d → x ∈ namesDflt d := bnd_sub_names_all.2.1

/-- a name bound by a sibling's chain does not occur in `ys`: the chain drew its temporaries from `[n', n'')`, which
    lies inside the range `[n, N)` that `ys` avoids, and its other keys are `let`-bound names `bs` disjoint from `ys` -/
theorem keyOk_not_mem {bs ys : List String} {n n' n'' N : Nat} {x : String} (hk : KeyOk bs n' n'' x)
    (hd : disj bs ys = true) (hf : ∀ m, n ≤ m → m < N → tmpName m ∉ ys) (h1 : n ≤ n') (h2 : n'' ≤ N) :
    x ∉ ys := by
  rcases hk with hk | ⟨m, hm1, hm2, rfl⟩
  · exact disj_iff.1 hd x hk
  · exact hf m (by omega) (by omega)

theorem decImm_c_names (e : Expr) (n : Nat) (x : String) (hx : x ∈ names (decImm e n).c) :
    (isAtom e = true ∧ x ∈ names e) ∨ (isAtom e = false ∧ x = tmpName n ∧ n < (decImm e n).n) := by
  cases h : isAtom e
  · rw [decImm_nonatom h] at hx ⊢
    simp only [names, List.mem_singleton] at hx
    have := dec_mono e (n + 1)
    exact Or.inr ⟨rfl, hx, by simp only; omega⟩
  · rw [decImm_atom h] at hx
    exact Or.inl ⟨rfl, hx⟩

/-- side conditions for `e` transformed from counter `n`, evaluated in an environment that may
    differ from the source environment on the names in `D`; all temporaries stay below `N`.
    `N` is fixed at the root — the counter the whole transformation ends with, `(anf e n ret).2`
    (`hyp_of_inFragment`) — and every part of a node inherits it. -/
structure Hyp (D : List String) (e : Expr) (n N : Nat) : Prop where
  frag : frag e = true
  dis : ∀ x ∈ names e, x ∉ D
  fresh : ∀ m, n ≤ m → m < N → tmpName m ∉ names e
  bound : (dec e n).n ≤ N

/-- side conditions for an operand: as `Hyp`, with the counter of `decImm` -/
structure HypI (D : List String) (e : Expr) (n N : Nat) : Prop where
  frag : frag e = true
  dis : ∀ x ∈ names e, x ∉ D
  fresh : ∀ m, n ≤ m → m < N → tmpName m ∉ names e
  bound : (decImm e n).n ≤ N

/-- the same for a list of operands, named left to right (`decList`) -/
structure HypL (D : List String) (es : List Expr) (n N : Nat) : Prop where
  frag : fragList es = true
  dis : ∀ x ∈ namesList es, x ∉ D
  fresh : ∀ m, n ≤ m → m < N → tmpName m ∉ namesList es
  bound : (decList es n).n ≤ N

/-- the same for the default of a `match`, transformed on its own (`anfDflt`) -/
structure HypD (D : List String) (d : Option Expr) (n N : Nat) : Prop where
  frag : fragDflt d = true
  dis : ∀ x ∈ namesDflt d, x ∉ D
  fresh : ∀ m, n ≤ m → m < N → tmpName m ∉ namesDflt d
  bound : (anfDflt d n).2 ≤ N

/-- the same for the arms of a `match` followed by its default: the counter runs through the arm bodies, then
    the default; no arm's chain is visible to another, so `D` stays -/
structure HypA (D : List String) (arms : List Arm) (d : Option Expr) (n N : Nat) : Prop where
  fragA : fragArms arms = true
  fragD : fragDflt d = true
  dis : ∀ x ∈ namesArms arms ++ namesDflt d, x ∉ D
  fresh : ∀ m, n ≤ m → m < N → tmpName m ∉ namesArms arms ++ namesDflt d
  bound : (anfDflt d (anfArms arms n).2).2 ≤ N

theorem hyp_of_inFragment {e : Expr} {n : Nat} (h : inAnfFragment e n = true) : Hyp [] e n (anf e n ret).2 := by
  unfold inAnfFragment at h
  simp only [Bool.and_eq_true] at h
  refine ⟨h.1, fun _ _ => by simp, ?_, by rw [anf_ret]; exact Nat.le_refl _⟩
  intro m h1 h2 hm
  have := h.2
  unfold tmpFresh at this
  rw [List.all_eq_true] at this
  have hmem : m ∈ List.range' n ((anf e n ret).2 - n) := by
    rw [List.mem_range']; exact ⟨m - n, by omega, by omega⟩
  have := this m hmem
  simp only [Bool.not_eq_true', List.contains_eq_mem, decide_eq_false_iff_not] at this
  exact this hm

/-- a part `child` of `e`, transformed from `n'` after the chains `L` of earlier siblings ran: those drew their
    temporaries from `[n0, n1) ⊆ [n, N)` and bound `let` names `bs` apart from `child`'s names, so the
    environment may now also differ on `keys L` -/
theorem hyp_child {D : List String} {e : Expr} {n N : Nat} (hy : Hyp D e n N) {child : Expr} {L : Binds}
    {bs : List String} {n0 n1 n' : Nat} (hfc : frag child = true) (hsub : ∀ x ∈ names child, x ∈ names e)
    (hk : ∀ x ∈ keys L, KeyOk bs n0 n1 x) (hdj : disj bs (names child) = true) (h0 : n ≤ n0) (h1 : n1 ≤ N)
    (hn' : n ≤ n') (hb : (dec child n').n ≤ N) : Hyp (D ++ keys L) child n' N := by
  refine ⟨hfc, ?_, ?_, hb⟩
  · intro x hx
    simp only [List.mem_append, not_or]
    refine ⟨hy.dis x (hsub x hx), fun hkx => ?_⟩
    exact keyOk_not_mem (hk x hkx) hdj (fun m hm1 hm2 hm => hy.fresh m hm1 hm2 (hsub _ hm)) h0 h1 hx
  · intro m hm1 hm2 hm
    exact hy.fresh m (by omega) hm2 (hsub _ hm)

/-- a part of `e` evaluated in `e`'s own environment (no sibling chain before it) -/
theorem hyp_child0 {D : List String} {e : Expr} {n N : Nat} (hy : Hyp D e n N) {child : Expr} {n' : Nat}
    (hfc : frag child = true) (hsub : ∀ x ∈ names child, x ∈ names e) (hn' : n ≤ n')
    (hb : (dec child n').n ≤ N) : Hyp D child n' N :=
  ⟨hfc, fun x hx => hy.dis x (hsub x hx), fun m hm1 hm2 hm => hy.fresh m (by omega) hm2 (hsub _ hm), hb⟩

theorem hyp_operand {D : List String} {e child : Expr} {n N : Nat} (hy : Hyp D e n N) (hfc : frag child = true)
    (hsub : ∀ x ∈ names child, x ∈ names e) (hb : (decImm child n).n ≤ N) : HypI D child n N :=
  ⟨hfc, fun x hx => hy.dis x (hsub x hx), fun m a b hm => hy.fresh m a b (hsub _ hm), hb⟩

/-- the first of the operands `e :: rest`, and the later ones once its chain has run -/
theorem hypL_cons {D : List String} {e : Expr} {rest : List Expr} {n N : Nat} (hy : HypL D (e :: rest) n N) :
    HypI D e n N ∧ HypL (D ++ keys (decImm e n).L) rest (decImm e n).n N := by
  obtain ⟨hf, hd, hfr, hb⟩ := hy
  simp only [fragList, Bool.and_eq_true] at hf
  obtain ⟨⟨⟨hfe, hfrest⟩, hdj⟩, -⟩ := hf
  have hbr : (decList rest (decImm e n).n).n ≤ N := by simpa [decList, decImm] using hb
  have hbe : (decImm e n).n ≤ N := Nat.le_trans (decList_mono rest _) hbr
  refine ⟨⟨hfe, fun x hx => hd x (by simp [namesList, hx]), fun m h1 h2 hm => hfr m h1 h2 (by simp [namesList, hm]), hbe⟩,
    hfrest, fun x hx => ?_, fun m h1 h2 hm => hfr m (by have := decImm_mono e n; omega) h2 (by simp [namesList, hm]), hbr⟩
  simp only [List.mem_append, not_or]
  refine ⟨hd x (by simp [namesList, hx]), fun hk => ?_⟩
  exact keyOk_not_mem (decImm_keys e n x hk) hdj
    (fun m h1 h2 hm => hfr m h1 h2 (by simp [namesList, hm])) (Nat.le_refl n) hbe hx

/-- the atom standing for an operand is not rebound while the later operands are named -/
theorem imm_not_rebound {e : Expr} {rest : List Expr} {n N : Nat}
    (hd : disj (bndList rest) (names e) = true)
    (hfr : ∀ m, n ≤ m → m < N → tmpName m ∉ namesList (e :: rest))
    (hb : (decList rest (decImm e n).n).n ≤ N) (x : String) (hx : x ∈ names (decImm e n).c) :
    x ∉ keys (decList rest (decImm e n).n).L := by
  intro hk
  have hko := decList_keys rest _ x hk
  have hm1 := decImm_mono e n
  have hm2 := decList_mono rest (decImm e n).n
  rcases decImm_c_names e n x hx with ⟨_, hxe⟩ | ⟨_, rfl, hlt⟩
  · refine keyOk_not_mem hko hd (fun m h1 h2 hm => hfr m h1 h2 ?_) hm1 hb hxe
    simp [namesList, hm]
  · rcases hko with hko | ⟨m, hm1', hm2', hm3⟩
    · exact hfr n (Nat.le_refl _) (by omega) (by simp [namesList, bndList_sub_names rest _ hko])
    · have := tmpName_inj hm3; omega

/-- so the atom of the first operand keeps its value while the chain of the later ones runs -/
theorem hypL_atom_stable {P : Prog} {D : List String} {e : Expr} {rest : List Expr} {n N : Nat} {ρ1 ρ2 : Env}
    {w1 w2 : World} (hy : HypL D (e :: rest) n N) (h : EvB P (decList rest (decImm e n).n).L ρ1 w1 (.ok ρ2 w2)) :
    atomVal ρ2 (decImm e n).c = atomVal ρ1 (decImm e n).c := by
  have hf := hy.frag
  simp only [fragList, Bool.and_eq_true] at hf
  exact atomVal_congr fun x hx => evB_lookup h x (imm_not_rebound hf.2 hy.fresh (hypL_cons hy).2.bound x hx)

theorem hyp_tuple {D : List String} {ty : Ty} {items : List Expr} {n N : Nat} (hy : Hyp D (.tuple ty items) n N) :
    HypL D items n N :=
  ⟨by simpa [frag] using hy.frag, by simpa [names] using hy.dis, by simpa [names] using hy.fresh, hy.bound⟩

theorem hyp_array {D : List String} {ty : Ty} {items : List Expr} {n N : Nat} (hy : Hyp D (.array ty items) n N) :
    HypL D items n N :=
  ⟨by simpa [frag] using hy.frag, by simpa [names] using hy.dis, by simpa [names] using hy.fresh, hy.bound⟩

theorem hyp_constr {D : List String} {c : Ctor} {ty : Ty} {args : List Expr} {n N : Nat}
    (h : ∀ tn vn idx, c = .enum tn vn idx → args ≠ []) (hy : Hyp D (.constr c ty args) n N) : HypL D args n N :=
  ⟨by have := hy.frag; simp only [frag, Bool.and_eq_true] at this; exact this.2,
    by simpa [names] using hy.dis, by simpa [names] using hy.fresh,
    by have := hy.bound; rw [dec_constr_general h] at this; exact this⟩

/-- `dec (.call ty f args) n` is `decList (f :: args) n` componentwise: the callee (for `dynCall` the receiver) is the
    first operand -/
theorem hyp_call {D : List String} {ty : Ty} {f : Expr} {args : List Expr} {n N : Nat}
    (hy : Hyp D (.call ty f args) n N) : HypL D (f :: args) n N :=
  ⟨by simpa [frag, fragList] using hy.frag, by simpa [names, namesList] using hy.dis,
    by simpa [names, namesList] using hy.fresh, hy.bound⟩

theorem hyp_dynCall {D : List String} {tr m : String} {ty : Ty} {recv : Expr} {args : List Expr} {n N : Nat}
    (hy : Hyp D (.dynCall tr m ty recv args) n N) : HypL D (recv :: args) n N :=
  ⟨by simpa [frag, fragList] using hy.frag, by simpa [names, namesList] using hy.dis,
    by simpa [names, namesList] using hy.fresh, hy.bound⟩

theorem hyp_bin_plain {D : List String} {op : BinOp} {ty : Ty} {l r : Expr} {n N : Nat}
    (hc : ((op == .and || op == .or) && !trivialRhs r) = false) (hy : Hyp D (.bin op ty l r) n N) :
    HypL D [l, r] n N := by
  refine ⟨?_, by simpa [names, namesList] using hy.dis, by simpa [names, namesList] using hy.fresh, ?_⟩
  · have hf := hy.frag
    simp only [frag, Bool.and_eq_true] at hf
    obtain ⟨⟨⟨hfl, hfr⟩, hdl⟩, hdr⟩ := hf
    simp only [fragList, Bool.and_eq_true, bndList, namesList, List.append_nil, disj_nil_left, disj_nil_right,
      and_true]
    exact ⟨⟨⟨hfl, hfr⟩, hdl⟩, hdr⟩
  · rw [← (dec_bin_plain hc n).2.2]; exact hy.bound

theorem hyp_letE {D : List String} {x : String} {v b : Expr} {n N : Nat} (hy : Hyp D (.letE x v b) n N) :
    Hyp D v n N ∧ Hyp (D ++ keys (dec v n).L) b (dec v n).n N := by
  have hf := hy.frag
  simp only [frag, Bool.and_eq_true] at hf
  obtain ⟨⟨hfv, hfb⟩, hdj⟩ := hf
  have hm1 := dec_mono v n
  have hm2 := dec_mono b (dec v n).n
  have hbd := hy.bound
  simp only [dec] at hbd
  exact ⟨hyp_child0 hy hfv (fun x hx => by simp [names, hx]) (Nat.le_refl _) (by omega),
    hyp_child hy hfb (fun x hx => by simp [names, hx]) (dec_keys v n) hdj (Nat.le_refl _) (by omega) hm1 hbd⟩

theorem hyp_ite {D : List String} {c t e : Expr} {n N : Nat} (hy : Hyp D (.ite c t e) n N) :
    HypI D c n N ∧ Hyp (D ++ keys (decImm c n).L) t (decImm c n).n N ∧
      Hyp (D ++ keys (decImm c n).L) e (dec t (decImm c n).n).n N := by
  have hf := hy.frag
  simp only [frag, Bool.and_eq_true] at hf
  obtain ⟨⟨⟨hfc, hft⟩, hfe⟩, hdj⟩ := hf
  obtain ⟨hdjt, hdje⟩ := disj_append_right hdj
  have hm1 := decImm_mono c n
  have hm2 := dec_mono t (decImm c n).n
  have hm3 := dec_mono e (dec t (decImm c n).n).n
  have hbd : (dec e (dec t (decImm c n).n).n).n ≤ N := by
    have := hy.bound
    simp only [dec, anf_ret] at this; exact this
  exact ⟨hyp_operand hy hfc (fun x hx => by simp [names, hx]) (by omega),
    hyp_child hy hft (fun x hx => by simp [names, hx]) (decImm_keys c n) hdjt (Nat.le_refl _) (by omega) hm1
      (by omega),
    hyp_child hy hfe (fun x hx => by simp [names, hx]) (decImm_keys c n) hdje (Nat.le_refl _) (by omega)
      (by omega) hbd⟩

theorem hyp_while {D : List String} {c b : Expr} {n N : Nat} (hy : Hyp D (.while c b) n N) :
    Hyp D c n N ∧ Hyp D b (dec c n).n N := by
  have hf := hy.frag
  simp only [frag, Bool.and_eq_true] at hf
  obtain ⟨hfc, hfb⟩ := hf
  have hm1 := dec_mono c n
  have hm2 := dec_mono b (dec c n).n
  have hbd := hy.bound
  simp only [dec, anf_ret] at hbd
  exact ⟨hyp_child0 hy hfc (fun x hx => by simp [names, hx]) (Nat.le_refl _) (by omega),
    hyp_child0 hy hfb (fun x hx => by simp [names, hx]) hm1 hbd⟩

/-- `&&` / `||` lowered to `if`: the left operand is named, the right one becomes a branch -/
theorem hyp_lowered {D : List String} {op : BinOp} {ty : Ty} {l r : Expr} {n N : Nat}
    (hc : ((op == .and || op == .or) && !trivialRhs r) = true) (hy : Hyp D (.bin op ty l r) n N) :
    HypI D l n N ∧ Hyp (D ++ keys (decImm l n).L) r (decImm l n).n N := by
  have hf := hy.frag
  simp only [frag, Bool.and_eq_true] at hf
  obtain ⟨⟨⟨hfl, hfr⟩, hdj⟩, -⟩ := hf
  have hm1 := decImm_mono l n
  have hm2 := dec_mono r (decImm l n).n
  obtain ⟨hop, hat⟩ := lowered_iff.1 hc
  have hbd : (dec r (decImm l n).n).n ≤ N := by
    have := hy.bound
    rcases hop with rfl | rfl
    · rw [dec_and_lowered hat, anf_ret] at this; exact this
    · rw [dec_or_lowered hat, anf_ret] at this; exact this
  exact ⟨hyp_operand hy hfl (fun x hx => by simp [names, hx]) (by omega),
    hyp_child hy hfr (fun x hx => by simp [names, hx]) (decImm_keys l n) hdj (Nat.le_refl _) (by omega) hm1 hbd⟩

theorem hyp_matchE {D : List String} {ty : Ty} {s : Expr} {arms : List Arm} {d : Option Expr} {n N : Nat}
    (hy : Hyp D (.matchE ty s arms d) n N) :
    HypI D s n N ∧ HypA (D ++ keys (decImm s n).L) arms d (decImm s n).n N := by
  have hf := hy.frag
  simp only [frag, Bool.and_eq_true] at hf
  obtain ⟨⟨⟨hfs, hfa⟩, hfd⟩, hdj⟩ := hf
  have hm1 := decImm_mono s n
  have hm2 := anfArms_mono arms (decImm s n).n
  have hm3 := anfDflt_mono d (anfArms arms (decImm s n).n).2
  have hbd : (anfDflt d (anfArms arms (decImm s n).n).2).2 ≤ N := by
    have := hy.bound
    simp only [dec] at this; exact this
  have hsub : ∀ x ∈ namesArms arms ++ namesDflt d, x ∈ names (.matchE ty s arms d) := fun x hx => by
    simp only [names, List.mem_append] at hx ⊢; exact Or.inr hx
  refine ⟨hyp_operand hy hfs (fun x hx => by simp [names, hx]) (by omega), hfa, hfd, ?_, ?_, hbd⟩
  · intro x hx
    simp only [List.mem_append, not_or]
    exact ⟨hy.dis x (hsub x hx), fun hk => keyOk_not_mem (decImm_keys s n x hk) hdj
      (fun m a b hm => hy.fresh m a b (hsub _ hm)) (Nat.le_refl n) (by omega) hx⟩
  · intro m a b hm
    exact hy.fresh m (by omega) b (hsub _ hm)

theorem hypA_nil {D : List String} {d : Option Expr} {n N : Nat} (hy : HypA D [] d n N) : HypD D d n N :=
  ⟨hy.fragD, fun x hx => hy.dis x (by simp [namesArms, hx]),
    fun m a b hm => hy.fresh m a b (by simp [namesArms, hm]), hy.bound⟩

theorem hypA_cons {D : List String} {lhs body : Expr} {rest : List Arm} {d : Option Expr} {n N : Nat}
    (hy : HypA D (.mk lhs body :: rest) d n N) : Hyp D body n N ∧ HypA D rest d (dec body n).n N := by
  have hf := hy.fragA
  simp only [fragArms, Bool.and_eq_true] at hf
  obtain ⟨⟨-, hfb⟩, hfrest⟩ := hf
  have hm1 := dec_mono body n
  have hm2 := anfArms_mono rest (dec body n).n
  have hm3 := anfDflt_mono d (anfArms rest (dec body n).n).2
  have hbd := hy.bound
  simp only [anfArms, anf_ret] at hbd
  have hsub : ∀ x, x ∈ namesArms rest ++ namesDflt d → x ∈ namesArms (.mk lhs body :: rest) ++ namesDflt d := by
    intro x hx
    simp only [namesArms, List.mem_append] at hx ⊢
    rcases hx with hx | hx <;> simp [hx]
  refine ⟨⟨hfb, ?_, ?_, by omega⟩, hfrest, hy.fragD, ?_, ?_, hbd⟩
  · exact fun x hx => hy.dis x (by simp [namesArms, hx])
  · exact fun m a b hm => hy.fresh m a b (by simp [namesArms, hm])
  · exact fun x hx => hy.dis x (hsub x hx)
  · exact fun m a b hm => hy.fresh m (by omega) b (hsub _ hm)

theorem hypD_some {D : List String} {e : Expr} {n N : Nat} (hy : HypD D (some e) n N) : Hyp D e n N :=
  ⟨hy.frag, hy.dis, hy.fresh, by have := hy.bound; simpa [anfDflt, anf_ret] using this⟩

theorem armMatches_armHead (lhs : Expr) (v : Val) : armMatches (armHead lhs) v = armMatches lhs v := by
  cases lhs <;> try rfl
  rename_i c ty args
  cases c <;> try rfl
  cases v <;> rfl

end Goml.Anf
