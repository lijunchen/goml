import GomlVerif.Lemmas.MonoWork
/-!
`mono_expr` as a pure function: the emitted expression and the list of instance requests do not
depend on the context (as long as the instance table names every instance by `spec_name_for` of its
key, which `ensure_instance` maintains).  `monoExpr_pure` reduces every statement about
the stateful traversal to the pure one.
-/
namespace Goml.Mono
open Goml

theorem map_insertByKey (p : String × Ty) (l : List (String × Ty)) :
    (insertByKey p l).map (fun q => (q.1.toList, toM q.2)) =
      Mangle.insertByKey (p.1.toList, toM p.2) (l.map fun q => (q.1.toList, toM q.2)) := by
  induction l with
  | nil => simp [insertByKey, Mangle.insertByKey]
  | cons q l ih =>
    by_cases hk : keyLe p.1 q.1 = true
    · have hk' : Mangle.nameLe p.1.toList q.1.toList = true := hk
      simp [insertByKey, Mangle.insertByKey, hk, hk']
    · have hk' : ¬ Mangle.nameLe p.1.toList q.1.toList = true := hk
      simp [insertByKey, Mangle.insertByKey, hk, hk', ih]

theorem map_key (σ : Subst) :
    (key σ).map (fun q => (q.1.toList, toM q.2)) = Mangle.sortByKey (σ.map fun q => (q.1.toList, toM q.2)) := by
  induction σ with
  | nil => simp [key, Mangle.sortByKey]
  | cons p σ ih => simp [key, Mangle.sortByKey, map_insertByKey, ih]

theorem insertByKey_ne_nil (p : String × Ty) (l : List (String × Ty)) : insertByKey p l ≠ [] := by
  cases l with
  | nil => simp [insertByKey]
  | cons q l => simp only [insertByKey]; split <;> simp

theorem key_eq_nil {σ : Subst} : key σ = [] ↔ σ = [] := by
  cases σ with
  | nil => simp [key]
  | cons p σ => simp [key, insertByKey_ne_nil]

/-- `spec_name_for` sorts the substitution itself: the name is a function of the `SubstKey` -/
theorem specName_key {n : String} {s s' : Subst} (h : key s = key s') : specName n s = specName n s' := by
  unfold specName Mangle.specNameFor
  have hm : Mangle.sortByKey (s.map fun q => (q.1.toList, toM q.2)) =
      Mangle.sortByKey (s'.map fun q => (q.1.toList, toM q.2)) := by rw [← map_key, ← map_key, h]
  cases s with
  | nil =>
    have : s' = [] := key_eq_nil.1 (by rw [← h]; simp [key])
    subst this; rfl
  | cons p s =>
    cases s' with
    | nil => exact absurd (key_eq_nil.1 (by rw [h]; simp [key])) (by simp)
    | cons p' s' =>
      simp only [List.map_cons] at hm ⊢
      rw [hm]

/-- what a row of `monoExpr` does to the context after its parts; the context after a traversal is the fold of these -/
inductive Eff where
  | req (name : String) (s : Subst)
  | fail (msg : String)

def applyEff (c : Ctx) : Eff → Ctx
  | .req n s => (ensureInstance c n s).2
  | .fail m => c.fail m

def applyEffs (c : Ctx) (es : List Eff) : Ctx := es.foldl applyEff c

theorem applyEffs_append (c : Ctx) (a b : List Eff) : applyEffs c (a ++ b) = applyEffs (applyEffs c a) b := by
  simp [applyEffs, List.foldl_append]

/-- every instance is named by `spec_name_for` of (any substitution with) its key -/
def InstNamed (c : Ctx) : Prop := ∀ i ∈ c.instances, ∀ s, key s = i.key → specName i.name s = i.spec

theorem ensureInstance_fst {c : Ctx} (h : InstNamed c) (n : String) (s : Subst) :
    (ensureInstance c n s).1 = specName n s := by
  simp only [ensureInstance]
  split
  · rename_i i hi
    obtain ⟨hm, hn, hk⟩ := findInst_some hi
    have := h i hm s hk.symm
    rw [← this, hn]
  · split <;> rfl

theorem ensureInstance_named {c : Ctx} (h : InstNamed c) (n : String) (s : Subst) :
    InstNamed (ensureInstance c n s).2 := by
  intro i hi s' hs'
  rcases ensureInstance_instances hi with hi | rfl
  · exact h i hi s' hs'
  · exact specName_key hs'

theorem fail_named {c : Ctx} (h : InstNamed c) (m : String) : InstNamed (c.fail m) :=
  fail_keeps (fun _ _ h => h) m h

theorem applyEff_named {c : Ctx} (h : InstNamed c) (e : Eff) : InstNamed (applyEff c e) := by
  cases e with
  | req n s => exact ensureInstance_named h n s
  | fail m => exact fail_named h m

theorem applyEffs_named {c : Ctx} (h : InstNamed c) (es : List Eff) : InstNamed (applyEffs c es) := by
  induction es generalizing c with
  | nil => exact h
  | cons e es ih => exact ih (applyEff_named h e)

/-! `specializeValueP` … `monoAs` repeat `specializeValue` … `monoArms` of `Model/Mono.lean` row by row, messages included,
without the context; `monoExpr_pure_all` fails when the two drift apart. -/

def specializeValueP (F : List Fn) (x : String) (ty : Ty) : Option (String × Subst) :=
  match findFn F x with
  | none => none
  | some callee =>
    if !fnIsGeneric callee then none
    else
      match ty with
      | .func params ret =>
        if params.length != callee.params.length then none
        else
          match unifyList (callee.params.map (·.2)) params [] with
          | none => none
          | some s1 =>
            match unify callee.ret ret s1 with
            | none => none
            | some cs => if cs.any (fun p => hasTParam p.2) then none else some (callee.name, cs)
      | _ => none

def monoVarP (F : List Fn) (σ : Subst) (x : String) (ty : Ty) : Expr × List Eff :=
  match specializeValueP F x (substTy σ ty) with
  | some r => (.var (specName r.1 r.2) (substTy σ ty), [.req r.1 r.2])
  | none => (.var x (substTy σ ty), [])

def resolveCallP (F : List Fn) (nty : Ty) (f' : Expr) (args' : List Expr) : Expr × List Eff :=
  match f' with
  | .var fname fty =>
    match findCallee F fname with
    | none => (.call nty f' args', [])
    | some callee =>
      if !fnIsGeneric callee then (.call nty f' args', [])
      else
        match unifyList (callee.params.map (·.2)) (getTys args') [] with
        | none => (.call nty f' args', [.fail ("monomorphization unification failed for " ++ callee.name)])
        | some s1 =>
          match unify callee.ret nty s1 with
          | none => (.call nty f' args', [.fail ("monomorphization return type unification failed for " ++ callee.name)])
          | some cs =>
            if cs.any (fun p => hasTParam p.2) then (.call nty f' args', [])
            else (.call nty (.var (specName callee.name cs) fty) args', [.req callee.name cs])
  | _ => (.call nty f' args', [])

mutual
/-- `mono_expr` as a pure function: the emitted expression and the requests/failures in order -/
def monoE (F : List Fn) (σ : Subst) : Expr → Expr × List Eff
  | .var x ty => monoVarP F σ x ty
  | .prim p => (.prim p, [])
  | .tag i ty => (.tag i (substTy σ ty), [])
  | .constr k ty args =>
    let nty := substTy σ ty
    let r := monoEs F σ args
    (.constr (updateCtor k nty) nty r.1, r.2 ++ (if updateCtorPanics nty then [.fail "Expected a constructor type"] else []))
  | .tuple ty items =>
    let r := monoEs F σ items
    (.tuple (substTy σ ty) r.1, r.2)
  | .array ty items =>
    let r := monoEs F σ items
    (.array (substTy σ ty) r.1, r.2)
  | .closure ty ps body =>
    let r := monoE F σ body
    (.closure (substTy σ ty) (substParams σ ps) r.1, r.2)
  | .letE x v b =>
    let r1 := monoE F σ v
    let r2 := monoE F σ b
    (.letE x r1.1 r2.1, r1.2 ++ r2.2)
  | .matchE ty s arms none =>
    let r1 := monoE F σ s
    let r2 := monoAs F σ arms
    (.matchE (substTy σ ty) r1.1 r2.1 none, r1.2 ++ r2.2)
  | .matchE ty s arms (some d) =>
    let r1 := monoE F σ s
    let r2 := monoAs F σ arms
    let r3 := monoE F σ d
    (.matchE (substTy σ ty) r1.1 r2.1 (some r3.1), r1.2 ++ r2.2 ++ r3.2)
  | .ite cnd t e =>
    let r1 := monoE F σ cnd
    let r2 := monoE F σ t
    let r3 := monoE F σ e
    (.ite r1.1 r2.1 r3.1, r1.2 ++ r2.2 ++ r3.2)
  | .while cnd b =>
    let r1 := monoE F σ cnd
    let r2 := monoE F σ b
    (.while r1.1 r2.1, r1.2 ++ r2.2)
  | .go e =>
    let r := monoE F σ e
    (.go r.1, r.2)
  | .cget k idx ty e =>
    let r := monoE F σ e
    let scrutTy := substTy σ (getTy e)
    (.cget (updateCtor k scrutTy) idx (substTy σ ty) r.1,
      r.2 ++ (if updateCtorPanics scrutTy then [.fail "Expected a constructor type"] else []))
  | .un op ty e =>
    let r := monoE F σ e
    (.un op (substTy σ ty) r.1, r.2)
  | .bin op ty l r =>
    let r1 := monoE F σ l
    let r2 := monoE F σ r
    (.bin op (substTy σ ty) r1.1 r2.1, r1.2 ++ r2.2)
  | .call ty (.var x fty) args =>
    let r2 := monoEs F σ args
    let r3 := resolveCallP F (substTy σ ty) (.var x (substTy σ fty)) r2.1
    (r3.1, r2.2 ++ r3.2)
  | .call ty f args =>
    let r1 := monoE F σ f
    let r2 := monoEs F σ args
    let r3 := resolveCallP F (substTy σ ty) r1.1 r2.1
    (r3.1, r1.2 ++ r2.2 ++ r3.2)
  | .toDyn tr forTy ty e =>
    let r := monoE F σ e
    (.toDyn tr (substTy σ forTy) (substTy σ ty) r.1, r.2)
  | .dynCall tr m ty recv args =>
    let r1 := monoE F σ recv
    let r2 := monoEs F σ args
    (.dynCall tr m (substTy σ ty) r1.1 r2.1, r1.2 ++ r2.2)
  | .traitCall tr m ty recv args =>
    let r1 := monoE F σ recv
    let r2 := monoEs F σ args
    let all := r1.1 :: r2.1
    let nty := substTy σ ty
    (.call nty (.var (traitImplFnName tr (getTy r1.1) m) (.func (getTys all) nty)) all, r1.2 ++ r2.2)
  | .proj idx ty e =>
    let r := monoE F σ e
    (.proj idx (substTy σ ty) r.1, r.2)
def monoEs (F : List Fn) (σ : Subst) : List Expr → List Expr × List Eff
  | [] => ([], [])
  | e :: es =>
    let r1 := monoE F σ e
    let r2 := monoEs F σ es
    (r1.1 :: r2.1, r1.2 ++ r2.2)
def monoAs (F : List Fn) (σ : Subst) : List Arm → List Arm × List Eff
  | [] => ([], [])
  | .mk lhs body :: rest =>
    let r1 := monoE F σ lhs
    let r2 := monoE F σ body
    let r3 := monoAs F σ rest
    (.mk r1.1 r2.1 :: r3.1, r1.2 ++ r2.2 ++ r3.2)
end

theorem monoE_call_nonvar (F : List Fn) (σ : Subst) (ty : Ty) (f : Expr) (args : List Expr)
    (h : ∀ x t, f ≠ .var x t) :
    monoE F σ (.call ty f args) =
      ((resolveCallP F (substTy σ ty) (monoE F σ f).1 (monoEs F σ args).1).1,
       (monoE F σ f).2 ++ (monoEs F σ args).2 ++ (resolveCallP F (substTy σ ty) (monoE F σ f).1 (monoEs F σ args).1).2) := by
  cases f <;> first
    | (exfalso; exact h _ _ rfl)
    | simp only [monoE]

theorem monoE_call_var (F : List Fn) (σ : Subst) (ty : Ty) (x : String) (fty : Ty) (args : List Expr) :
    monoE F σ (.call ty (.var x fty) args) =
      ((resolveCallP F (substTy σ ty) (.var x (substTy σ fty)) (monoEs F σ args).1).1,
       (monoEs F σ args).2 ++ (resolveCallP F (substTy σ ty) (.var x (substTy σ fty)) (monoEs F σ args).1).2) := by
  simp only [monoE]

/-! ### the stateful traversal is the pure one followed by its effects -/

theorem specializeValue_pure {c : Ctx} (F : List Fn) (x : String) (ty : Ty) :
    specializeValue F x ty c = (specializeValueP F x ty).map fun r => ensureInstance c r.1 r.2 := by
  unfold specializeValue specializeValueP
  cases findFn F x with
  | none => rfl
  | some callee =>
    by_cases hg : fnIsGeneric callee = true
    · simp only [hg, Bool.not_true, Bool.false_eq_true, if_false]
      cases ty <;> try rfl
      rename_i params ret
      by_cases hl : (params.length != callee.params.length) = true
      · simp [hl]
      · cases hu : unifyList (callee.params.map (·.2)) params [] with
        | none => simp [hl, hu]
        | some s1 =>
          cases hr : unify callee.ret ret s1 with
          | none => simp [hl, hu, hr]
          | some cs =>
            by_cases ha : (cs.any fun p => hasTParam p.2) = true
            · simp [hl, hu, hr, ha]
            · simp [hl, hu, hr, ha]
    · simp [hg]

theorem monoVar_pure {c : Ctx} (h : InstNamed c) (F : List Fn) (σ : Subst) (x : String) (ty : Ty) :
    monoVar F σ x ty c = ((monoVarP F σ x ty).1, applyEffs c (monoVarP F σ x ty).2) := by
  simp only [monoVar, monoVarP]
  rw [specializeValue_pure]
  cases hs : specializeValueP F x (substTy σ ty) with
  | none => simp [applyEffs]
  | some r => simp [applyEffs, applyEff, ensureInstance_fst h]

theorem resolveCall_pure {c : Ctx} (h : InstNamed c) (F : List Fn) (nty : Ty) (f' : Expr) (args' : List Expr) :
    resolveCall F nty f' args' c =
      ((resolveCallP F nty f' args').1, applyEffs c (resolveCallP F nty f' args').2) := by
  unfold resolveCall resolveCallP
  cases f' <;> try (simp [applyEffs]; done)
  rename_i fname fty
  cases hc : findCallee F fname with
  | none => simp [hc, applyEffs]
  | some callee =>
    by_cases hg : fnIsGeneric callee = true
    · cases hu : unifyList (callee.params.map (·.2)) (getTys args') [] with
      | none => simp [hc, hu, hg, applyEffs, applyEff]
      | some s1 =>
        cases hr : unify callee.ret nty s1 with
        | none => simp [hc, hu, hr, hg, applyEffs, applyEff]
        | some cs =>
          by_cases ha : (cs.any fun p => hasTParam p.2) = true
          · simp [hc, hu, hr, hg, ha, applyEffs]
          · simp [hc, hu, hr, hg, ha, applyEffs, applyEff, ensureInstance_fst h]
    · simp [hc, hg, applyEffs]

/-- a row runs its parts in order, so its effects are the parts' effects appended, each part starting from a context that
still names its instances by their keys (`applyEffs_named`) -/
theorem monoExpr_pure_all (F : List Fn) (σ : Subst) :
    (∀ e c, InstNamed c → monoExpr F σ e c = ((monoE F σ e).1, applyEffs c (monoE F σ e).2)) ∧
    (∀ as c, InstNamed c → monoArms F σ as c = ((monoAs F σ as).1, applyEffs c (monoAs F σ as).2)) ∧
    ∀ es c, InstNamed c → monoList F σ es c = ((monoEs F σ es).1, applyEffs c (monoEs F σ es).2) := by
  refine monoExpr.mutual_induct_unfolding F σ
    (fun e c r => InstNamed c → r = ((monoE F σ e).1, applyEffs c (monoE F σ e).2))
    (fun as c r => InstNamed c → r = ((monoAs F σ as).1, applyEffs c (monoAs F σ as).2))
    (fun es c r => InstNamed c → r = ((monoEs F σ es).1, applyEffs c (monoEs F σ es).2))
    ?var ?prim ?tag ?constr ?tuple ?array ?closure ?letE ?matchNone ?matchSome ?ite ?while_ ?go ?cget ?un ?bin
    ?callVar ?callFn ?toDyn ?dynCall ?traitCall ?proj ?nil ?cons ?armsNil ?armsCons
  case var => intro x ty c h; rw [monoE]; exact monoVar_pure h F σ x ty
  case prim | tag | nil | armsNil => intros; simp only [monoE, monoEs, monoAs, applyEffs, List.foldl_nil]
  case constr | cget =>
    dsimp only; intros; rename_i ih h
    simp only [monoE, ih h, applyEffs_append]
    split <;> simp [applyEffs, applyEff]
  case tuple | array | closure | go | un | toDyn | proj =>
    dsimp only; intros; rename_i ih h
    simp only [monoE, ih h]
  case letE | matchNone | while_ | bin | dynCall | traitCall | cons =>
    dsimp only; intros; rename_i ih1 ih2 h
    have e1 := ih1 h
    -- `ih2` speaks of the context the first part returned: rewrite that to `applyEffs c _`
    simp only [e1] at ih2
    have e2 := ih2 (applyEffs_named h _)
    simp only [monoE, monoEs, e1, e2, applyEffs_append]
  case matchSome | ite | armsCons =>
    dsimp only; intros; rename_i ih1 ih2 ih3 h
    have e1 := ih1 h
    simp only [e1] at ih2 ih3
    have e2 := ih2 (applyEffs_named h _)
    simp only [e2] at ih3
    have e3 := ih3 (applyEffs_named (applyEffs_named h _) _)
    simp only [monoE, monoAs, e1, e2, e3, applyEffs_append]
  case callVar =>
    dsimp only; intros; rename_i ih h
    simp only [monoE, ih h, resolveCall_pure (applyEffs_named h _), applyEffs_append]
  case callFn =>
    dsimp only; intros; rename_i hn ih1 ih2 h
    have e1 := ih1 h
    simp only [e1] at ih2
    have e2 := ih2 (applyEffs_named h _)
    rw [monoE_call_nonvar F σ _ _ _ hn]
    simp only [e1, e2, resolveCall_pure (applyEffs_named (applyEffs_named h _) _), applyEffs_append]

theorem monoExpr_pure (F : List Fn) (σ : Subst) (e : Expr) :
    ∀ c, InstNamed c → monoExpr F σ e c = ((monoE F σ e).1, applyEffs c (monoE F σ e).2) :=
  (monoExpr_pure_all F σ).1 e

end Goml.Mono
