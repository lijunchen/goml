import GomlVerif.Lemmas.DceSimRel
/-!
Simulation proof for DCE, block-free statements: a statement the scan keeps steps in the same way in two environments that
agree on what it reads; a declaration or store whose variable is dead is deleted or kept for its effects.
-/
namespace Goml.Dce
open Goml.Go Goml.Sem

theorem step_expr (n : Nat) {F ρo ρi w e} (hb : noBlockExpr e = true) (ha : Agree (varsUsed e) ρo ρi) :
    StepRel (QSame ρo ρi) (execG (n+1) F ρo w (.expr e)) (execG (n+1) F ρi w (.expr e)) := by
  rw [execG_expr, execG_expr, (coin_all n).ev hb ha]
  exact StepRel.bind fun _ _ => ⟨rfl, rfl, rfl, rfl⟩

theorem step_ret (n : Nat) {F ρo ρi w e} (hb : noBlockExpr e = true) (ha : Agree (varsUsed e) ρo ρi) :
    StepRel (QSame ρo ρi) (execG (n+1) F ρo w (.ret (some e))) (execG (n+1) F ρi w (.ret (some e))) := by
  rw [execG_ret, execG_ret]; simp only
  rw [(coin_all n).ev hb ha]
  exact StepRel.bind fun _ _ => ⟨rfl, rfl, rfl, rfl⟩

theorem step_ret_none (n : Nat) {F ρo ρi w} :
    StepRel (QSame ρo ρi) (execG (n+1) F ρo w (.ret none)) (execG (n+1) F ρi w (.ret none)) := by
  rw [execG_ret, execG_ret]; exact ⟨rfl, rfl, rfl, rfl⟩

theorem step_brk (n : Nat) {F ρo ρi w} :
    StepRel (QSame ρo ρi) (execG (n+1) F ρo w .brk) (execG (n+1) F ρi w .brk) := by
  rw [execG_brk, execG_brk]; exact ⟨rfl, rfl, rfl, rfl⟩

theorem step_go (n : Nat) {F ρo ρi w c} (hb : noBlockExpr c = true) (ha : Agree (varsUsed c) ρo ρi) :
    StepRel (QSame ρo ρi) (execG (n+1) F ρo w (.go c)) (execG (n+1) F ρi w (.go c)) := by
  rw [execG_go, execG_go]
  cases c <;> first | exact .fail _ _ | skip
  simp only [noBlockExpr, Bool.and_eq_true] at hb
  simp only
  rw [(coin_all n).ev hb.1 (ha.mono (fun x hx => by simp [varsUsed, hx]))]
  refine StepRel.bind fun fv w1 => ?_
  rw [(coin_all n).el hb.2 (ha.mono (fun x hx => by simp [varsUsed, hx]))]
  refine StepRel.bind fun vs w2 => ?_
  split
  · exact StepRel.bind fun _ _ => ⟨rfl, rfl, rfl, rfl⟩
  · exact ⟨rfl, rfl, rfl, rfl⟩

def initG (n : Nat) (F : GFile) (ρ : GEnv) (w : GWorld) (ty : GTy) : Option GExpr → GRes GVal
  | some e => evalG n F ρ w e
  | none => .ok (zero F ty) w

theorem execG_varDecl_init (n : Nat) (F : GFile) (ρ : GEnv) (w : GWorld) (x : String) (ty : GTy) (v : Option GExpr) :
    execG (n+1) F ρ w (.varDecl x ty v) =
      if absurdTy ty then .fail (.stuck "go: variable of an array type longer than the address space") w else
      (initG n F ρ w ty v).bind fun v1 w1 => .ok ((x, v1) :: ρ, .normal) w1 := by
  rw [execG_varDecl]; cases v <;> rfl

theorem step_varDecl (n : Nat) {F ρo ρi w x ty v} (hb : noBlockOpt v = true) (ha : Agree (varsUsedOpt v) ρo ρi) :
    StepRel (QPush ρo ρi x) (execG (n+1) F ρo w (.varDecl x ty v)) (execG (n+1) F ρi w (.varDecl x ty v)) := by
  have hi : initG n F ρo w ty v = initG n F ρi w ty v := by
    cases v with
    | none => rfl
    | some e => exact (coin_all n).ev hb ha
  rw [execG_varDecl_init, execG_varDecl_init, hi]
  split
  · exact .fail _ _
  · exact StepRel.bind fun v _ => ⟨rfl, rfl, v, rfl, rfl⟩

theorem step_assign (n : Nat) {F ρo ρi w x e} (hb : noBlockExpr e = true) (ha : Agree (varsUsed e) ρo ρi) :
    StepRel (QAssign ρo ρi x) (execG (n+1) F ρo w (.assign x e)) (execG (n+1) F ρi w (.assign x e)) := by
  rw [execG_assign, execG_assign, (coin_all n).ev hb ha]
  refine StepRel.bind fun v _ => ⟨rfl, rfl, ?_⟩
  by_cases hx : (x == "_") = true
  · simp only [hx, if_true]; exact Or.inl ⟨by simpa using hx, rfl, rfl⟩
  · simp only [hx, if_false, Bool.false_eq_true]; exact Or.inr ⟨by simpa using hx, v, rfl, rfl⟩

theorem step_ptrAssign (n : Nat) {F ρo ρi w p e} (hb1 : noBlockExpr p = true) (hb2 : noBlockExpr e = true)
    (ha1 : Agree (varsUsed p) ρo ρi) (ha2 : Agree (varsUsed e) ρo ρi) :
    StepRel (QSame ρo ρi) (execG (n+1) F ρo w (.ptrAssign p e)) (execG (n+1) F ρi w (.ptrAssign p e)) := by
  rw [execG_ptrAssign, execG_ptrAssign, (coin_all n).ev hb1 ha1]
  refine StepRel.bind fun pv w1 => ?_
  split
  · rw [(coin_all n).ev hb2 ha2]
    exact StepRel.bind fun _ _ => ⟨rfl, rfl, rfl, rfl⟩
  · exact .fail _ _
  · exact .fail _ _

theorem step_fieldAssign (n : Nat) {F ρo ρi w t e} (hb1 : noBlockExpr t = true) (hb2 : noBlockExpr e = true)
    (ha1 : Agree (varsUsed t) ρo ρi) (ha2 : Agree (varsUsed e) ρo ρi) :
    StepRel (QUpd ρo ρi) (execG (n+1) F ρo w (.fieldAssign t e)) (execG (n+1) F ρi w (.fieldAssign t e)) := by
  rw [execG_fieldAssign, execG_fieldAssign]
  cases t <;> first | exact .fail _ _ | skip
  rename_i f ty obj
  simp only [noBlockExpr] at hb1
  simp only [varsUsed] at ha1
  simp only
  rw [(coin_all n).ev hb1 ha1]
  cases ho : evalG n F ρi w obj with
  | fail f' w1 => exact .fail _ _
  | ok ov w1 =>
    rw [GRes.bind_ok, GRes.bind_ok, (coin_all n).ev hb2 ha2]
    refine StepRel.bind fun v w2 => ?_
    unfold fieldStore
    split
    · split
      · exact ⟨rfl, rfl, Or.inl ⟨rfl, rfl⟩⟩
      · exact .fail _ _
    · rename_i nm fs x tx
      -- a struct held in a variable is updated in place, in both environments
      have hli := evalG_var_nonfunc ho (by intro y hy; cases hy)
      have hlo : lookupG ρo x = some (.struct nm fs) := by rw [ha1 x (by simp [varsUsed])]; exact hli
      exact ⟨rfl, rfl, Or.inr ⟨x, _, key_of_lookup_some hlo, key_of_lookup_some hli, rfl, rfl⟩⟩
    · exact .fail _ _
    · exact .fail _ _

theorem step_indexAssign (n : Nat) {F ρo ρi w a i e} (hb1 : noBlockExpr a = true) (hb2 : noBlockExpr i = true)
    (hb3 : noBlockExpr e = true)
    (ha1 : Agree (varsUsed a) ρo ρi) (ha2 : Agree (varsUsed i) ρo ρi) (ha3 : Agree (varsUsed e) ρo ρi) :
    StepRel (QUpd ρo ρi) (execG (n+1) F ρo w (.indexAssign a i e)) (execG (n+1) F ρi w (.indexAssign a i e)) := by
  rw [execG_indexAssign, execG_indexAssign]
  cases a <;> first | exact .fail _ _ | skip
  rename_i x tx
  have hl : lookupG ρo x = lookupG ρi x := ha1 x (by simp [varsUsed])
  simp only
  rw [(coin_all n).ev hb2 ha2, hl]
  refine StepRel.bind fun iv w1 => ?_
  split
  · rename_i vs _ _ k hli
    rw [(coin_all n).ev hb3 ha3]
    refine StepRel.bind fun v w2 => ?_
    split
    · exact .fail _ _
    · exact ⟨rfl, rfl, Or.inr ⟨x, _, key_of_lookup_some (hl.trans hli), key_of_lookup_some hli, rfl, rfl⟩⟩
  · exact .fail _ _

theorem kept_simple {F : GFile} {n : Nat} {ρo ρi : GEnv} {w : GWorld} {s : GStmt} {r : GRes (GEnv × Sig)}
    {live needs : Names} {Q : GEnv → GEnv → Prop}
    (hstep : StepRel Q (execG (n+1) F ρo w s) (execG (n+1) F ρi w s))
    (h : execG (n+1) F ρi w s = r) (hd : Definite r)
    (hrel : ∀ ρo' ρi', Q ρo' ρi' → Rel live needs ρo' ρi') :
    ∃ r', BlockE F ρo w [s] r' ∧ ResRel live needs r' r := by
  rw [h] at hstep
  exact ⟨_, BlockE.single (.of_run rfl (hstep.nf hd)),
    resRel_iff.2 <| (stepRel_iff.1 hstep).mono fun _ _ _ _ _ _ hq _ => hrel _ _ hq⟩

theorem step_plain (n : Nat) {F : GFile} {ρo ρi : GEnv} {w : GWorld} {s : GStmt} (hp : plain s = true)
    (hshape : shapeOKStmt s = true) (ha : Agree (readsStmt s) ρo ρi) :
    StepRel (QUpd ρo ρi) (execG (n+1) F ρo w s) (execG (n+1) F ρi w s) := by
  have same : ∀ {r' r}, StepRel (QSame ρo ρi) r' r → StepRel (QUpd ρo ρi) r' r :=
    StepRel.mono fun _ _ h => Or.inl h
  cases s with
  | expr e =>
    simp only [shapeOKStmt, Bool.and_eq_true] at hshape
    exact same (step_expr n hshape.1 ha)
  | go c =>
    simp only [shapeOKStmt, Bool.and_eq_true] at hshape
    exact same (step_go n hshape.1 ha)
  | ret v =>
    cases v with
    | none => exact same (step_ret_none n)
    | some e =>
      simp only [shapeOKStmt, Bool.and_eq_true, noBlockOpt] at hshape
      exact same (step_ret n hshape.1 ha)
  | brk => exact same (step_brk n)
  | ptrAssign p e =>
    simp only [shapeOKStmt, Bool.and_eq_true] at hshape
    obtain ⟨⟨hp, he⟩, _⟩ := hshape
    simp only [readsStmt] at ha
    exact same (step_ptrAssign n hp he (ha.mono fun x hx => by simp [hx]) (ha.mono fun x hx => by simp [hx]))
  | fieldAssign t e =>
    simp only [shapeOKStmt, Bool.and_eq_true] at hshape
    obtain ⟨⟨ht, he⟩, _⟩ := hshape
    simp only [readsStmt] at ha
    exact step_fieldAssign n ht he (ha.mono fun x hx => by simp [hx]) (ha.mono fun x hx => by simp [hx])
  | indexAssign a i e =>
    simp only [shapeOKStmt, Bool.and_eq_true] at hshape
    obtain ⟨⟨⟨ha', hi⟩, he⟩, _⟩ := hshape
    simp only [readsStmt] at ha
    exact step_indexAssign n ha' hi he (ha.mono fun x hx => by simp [hx])
      (ha.mono fun x hx => by simp [hx]) (ha.mono fun x hx => by simp [hx])
  | _ => cases hp

theorem simX_kept {F : GFile} (n : Nat) {s live needs ρi ρo w r} (hk : plain s = true)
    (hshape : shapeOKStmt s = true)
    (hr : Rel (dceStmt s live needs).live (dceStmt s live needs).needs ρo ρi)
    (h : execG (n+1) F ρi w s = r) (hd : Definite r) :
    ∃ r', BlockE F ρo w (dceStmt s live needs).out r' ∧ ResRel live needs r' r := by
  obtain ⟨ho, hn, hl⟩ := plain_dce s live needs hk hshape
  rw [hn] at hr
  rw [ho]
  apply kept_simple (step_plain n hk hshape (hr.agree.mono fun y hy => (hl y).mpr (Or.inr hy))) h hd
  rintro _ _ (⟨rfl, rfl⟩ | ⟨x, v, hko, hki, rfl, rfl⟩)
  · exact hr.mono (fun y hy => (hl y).mpr (Or.inl hy)) (fun y hy => hy)
  · exact rel_upd hr (fun _ => hko) (fun y hy _ => (hl y).mpr (Or.inl hy)) (fun y hy => hy)

theorem exec_keepEffect (n : Nat) (F : GFile) (ρ : GEnv) (w : GWorld) (e : GExpr) :
    execG (n+1) F ρ w (keepEffect e) = (evalG n F ρ w e).bind fun _ w1 => .ok (ρ, .normal) w1 := by
  rcases keepEffect_cases e with h | h <;> rw [h]
  · exact execG_expr n F ρ w e
  · rw [execG_assign]; rfl

/-- The input run evaluates a value whose variable is dead; the output run executes what the
    scan left of it.  With effects that is the same evaluation; without, the value is inert, so
    the input evaluation neither panics nor changes the world. -/
theorem sim_dead {F : GFile} {P : GExpr → Bool} (hP : ∀ e, P e = true → Inert F e) (n : Nat)
    {e : GExpr} {live : Names} {ρo ρi : GEnv} {w : GWorld} (hnb : noBlockExpr e = true)
    (hsem : exprEffects e = true ∨ P e = true) (ha : Agree (deadLive live (some e)) ρo ρi)
    (hd : Definite (evalG n F ρi w e)) :
    BlockE F ρo w (deadOut (some e)) ((evalG n F ρi w e).bind fun _ w1 => .ok (ρo, .normal) w1) := by
  simp only [deadOut, deadLive] at ha ⊢
  by_cases he : exprEffects e = true
  · simp only [he, if_true] at ha ⊢
    refine BlockE.single (.of_run (n := n+1) ?_ ?_)
    · rw [exec_keepEffect, (coin_all n).ev hnb (ha.mono fun y hy => by simp [hy])]
    · cases hev : evalG n F ρi w e with
      | ok v w1 => trivial
      | fail f w1 => rw [hev] at hd; exact nfCast hd.nf
  · simp only [he, if_false, Bool.false_eq_true]
    have hq := hP e (hsem.resolve_left he) n ρi w
    cases hev : evalG n F ρi w e with
    | fail f w1 => rw [hev] at hq hd; exact (definite_fail_panic hd hq).elim
    | ok val w1 => rw [hev] at hq; cases hq; exact BlockE.nil

theorem sim_dead_init {F : GFile} {P : GExpr → Bool} (hP : ∀ e, P e = true → Inert F e) (n : Nat)
    {v : Option GExpr} {ty : GTy} {live : Names} {ρo ρi : GEnv} {w : GWorld} (hnb : noBlockOpt v = true)
    (hsem : ∀ e, v = some e → exprEffects e = true ∨ P e = true) (ha : Agree (deadLive live v) ρo ρi)
    (hd : Definite (initG n F ρi w ty v)) :
    BlockE F ρo w (deadOut v) ((initG n F ρi w ty v).bind fun _ w1 => .ok (ρo, .normal) w1) := by
  cases v with
  | none => exact BlockE.nil
  | some e => exact sim_dead hP n hnb (hsem e rfl) ha hd

theorem simX_varDecl {F : GFile} {D : Names} {P : GExpr → Bool} (hP : ∀ e, P e = true → Inert F e)
    (n : Nat) {x ty v live needs ρi ρo w r}
    (hscope : scopeErrsStmt D (keys ρi) (.varDecl x ty v) = [])
    (hshape : shapeOKStmt (.varDecl x ty v) = true)
    (hsem : semOKStmt P (.varDecl x ty v) live = true)
    (hr : Rel (dceStmt (.varDecl x ty v) live needs).live (dceStmt (.varDecl x ty v) live needs).needs ρo ρi)
    (h : execG (n+1) F ρi w (.varDecl x ty v) = r) (hd : Definite r) :
    ∃ r', BlockE F ρo w (dceStmt (.varDecl x ty v) live needs).out r' ∧ ResRel live needs r' r := by
  obtain ⟨hu, ⟨hxI, hxD⟩, _⟩ := scopeErrs_varDecl.mp
    (show scopeErrs D (keys ρi) [.varDecl x ty v] = [] by simp [scopeErrs, hscope])
  obtain ⟨hnb, hx_⟩ : noBlockOpt v = true ∧ x ≠ "_" := by
    cases v <;> simp only [shapeOKStmt, Bool.and_eq_true, bne_iff_ne, ne_eq] at hshape <;> exact ⟨hshape.1.1, hshape.1.2⟩
  have hid := dceOpt_id hnb
  have hxe : ¬ x ∈ varsUsedOpt v := fun hm => hxI ((undecl_nil.mp hu) x hm hxD)
  have hsemE : ∀ e, v = some e → x ∈ live ∨ exprEffects e = true ∨ P e = true := by
    intro e he; subst he
    simpa [semOKStmt, dceExpr_id e hnb, or_assoc] using hsem
  simp only [dceStmt_varDecl, hid] at hr ⊢
  by_cases hl : x ∈ live
  · simp only [hl, if_true] at hr ⊢
    have ha : Agree (varsUsedOpt v) ρo ρi := hr.agree.mono (fun y hy => by
      have : y ≠ x := fun e' => hxe (e' ▸ hy)
      simp [hy, this])
    apply kept_simple (step_varDecl n hnb ha) h hd
    rintro _ _ ⟨v, rfl, rfl⟩
    exact rel_push hr hx_ (fun y hy hne => by simp [hy, hne]) (fun y hy _ => hy)
  · simp only [hl, if_false] at hr ⊢
    have hsemD : ∀ e, v = some e → exprEffects e = true ∨ P e = true := fun e he => (hsemE e he).resolve_left hl
    have hxd : ¬ x ∈ deadLive live v := fun hm => (mem_deadLive hm).elim hl hxe
    rw [execG_varDecl_init] at h
    by_cases hab : absurdTy ty = true
    · rw [if_pos hab] at h; subst h; exact absurd hd (by simp [Definite])
    · rw [if_neg hab] at h; subst h
      by_cases hn : x ∈ needs
      · -- the bare declaration stays and runs first
        simp only [hn, if_true] at hr ⊢
        have hd0 : BlockE F ρo w [.varDecl x ty none] (.ok ((x, zero F ty) :: ρo, .normal) w) :=
          BlockE.single (.of_run (n := n+1) (by rw [execG_varDecl, if_neg hab]) trivial)
        exact ⟨_, BlockE.append hd0
            (sim_dead_init hP n hnb hsemD (agree_cons_left (v := zero F ty) hr.agree hxd) hd.of_bind),
          ResRel.bind fun v w1 => ⟨rfl, rfl, fun _ => rel_push_dead hr hx_ hl (fun y hy => mem_deadLive_of_mem hy)
            (fun y hy hne => by simp [hy, hne])⟩⟩
      · simp only [hn, if_false, List.nil_append] at hr ⊢
        exact ⟨_, sim_dead_init hP n hnb hsemD hr.agree hd.of_bind,
          ResRel.bind fun v w1 => ⟨rfl, rfl, fun _ => rel_drop_decl hr hx_ hl hn (fun y hy => mem_deadLive_of_mem hy)
            (fun y hy => hy)⟩⟩

theorem simX_assign {F : GFile} {P : GExpr → Bool} (hP : ∀ e, P e = true → Inert F e)
    (n : Nat) {x v live needs ρi ρo w r}
    (hshape : shapeOKStmt (.assign x v) = true)
    (hsem : semOKStmt P (.assign x v) live = true)
    (hr : Rel (dceStmt (.assign x v) live needs).live (dceStmt (.assign x v) live needs).needs ρo ρi)
    (h : execG (n+1) F ρi w (.assign x v) = r) (hd : Definite r) :
    ∃ r', BlockE F ρo w (dceStmt (.assign x v) live needs).out r' ∧ ResRel live needs r' r := by
  simp only [shapeOKStmt, Bool.and_eq_true] at hshape
  obtain ⟨⟨hnb, _⟩, hself⟩ := hshape
  have hself : ¬ x ∈ varsUsed v := by simpa using hself
  have hid := dceExpr_id v hnb
  simp only [semOKStmt, hid, Bool.or_eq_true, List.contains_iff_mem] at hsem
  simp only [dceStmt_assign, hid] at hr ⊢
  by_cases hl : x ∈ live
  · simp only [hl, if_true] at hr ⊢
    have ha : Agree (varsUsed v) ρo ρi := hr.agree.mono (fun y hy => by
      have : y ≠ x := fun e' => hself (e' ▸ hy)
      simp [hy, this])
    apply kept_simple (step_assign n hnb ha) h hd
    rintro ρo' ρi' (⟨hx, e1, e2⟩ | ⟨hx, val, rfl, rfl⟩)
    · subst e1; subst e2
      refine ⟨?_, hr.sub, fun y hy hk => hr.needs y (by simp [hy]) hk, hr.blank⟩
      intro y hy
      by_cases hyx : y = x
      · subst hyx
        have hki : ¬ y ∈ keys ρi' := by rw [hx]; exact hr.blank
        have hko : ¬ y ∈ keys ρo' := fun hh => hki (hr.sub y hh)
        rw [lookup_none_of_not_key hki, lookup_none_of_not_key hko]
      · exact hr.agree y (by simp [hy, hyx])
    · exact rel_upd hr (fun hk => hr.needs x (by simp) hk) (fun y hy hne => by simp [hy, hne])
        (fun y hy => by simp [hy])
  · simp only [hl, if_false] at hr ⊢
    rw [execG_assign] at h; subst h
    refine ⟨_, sim_dead hP n hnb (hsem.imp_left fun h => h.resolve_left hl) hr.agree hd.of_bind,
      ResRel.bind fun val w1 => ⟨rfl, rfl, fun _ => ?_⟩⟩
    split
    · exact hr.mono (fun y hy => mem_deadLive_of_mem hy) (fun y hy => hy)
    · exact rel_dead_store hr hl (fun y hy => mem_deadLive_of_mem hy) (fun y hy => hy)

end Goml.Dce
