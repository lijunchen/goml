import GomlVerif.Lemmas.ValTyBasic
import GomlVerif.Lemmas.SemBuiltin
/-!
Operators and the admitted builtins respect value typing (C03, type soundness of `Sem`): proved for the general judgement
`ValTyG.VT`, each by reading the shape of the operands off their types (`VT.inv`).  Before them, the facts about nominal
types that the constructor and field-read cases of `step_expr` use; at the end, `methodTy_objSafe` for its trait-object cases.
-/
namespace Goml.ValTy
open Goml Goml.Sem Goml.Wt Goml.Mono

variable {S : Sig} {P : Prog}

theorem tyEq {a b : Ty} (h : tyBeq a b = true) : a = b := (tyBeq_iff a b).1 h

theorem isNumeric_cases {t : Ty} (h : isNumeric t = true) : (∃ n s, t = .int n s) ∨ ∃ n, t = .float n := by
  cases t <;> simp [isNumeric] at h
  · exact .inl ⟨_, _, rfl⟩
  · exact .inr ⟨_, rfl⟩

theorem isEnumTy_subst (θ : Subst) (t : Ty) (h : isEnumTy t = true) : isEnumTy (substTy θ t) = true := by
  unfold isEnumTy at h
  split at h <;> simp_all [substTy, substTys, isEnumTy]

theorem isStructTy_subst (θ : Subst) (t : Ty) (h : isStructTy t = true) : isStructTy (substTy θ t) = true := by
  unfold isStructTy at h
  split at h <;> simp_all [substTy, substTys, isStructTy]

theorem not_enum_and_struct {t : Ty} (h1 : isEnumTy t = true) (h2 : isStructTy t = true) : False := by
  unfold isEnumTy at h1
  split at h1 <;> simp_all [isStructTy]

theorem nominalArgs_name {n m : String} {ty : Ty} (h1 : (nominalArgs n ty).isSome = true)
    (h2 : (nominalArgs m ty).isSome = true) : n = m := by
  unfold nominalArgs at h1 h2
  split at h1 <;> simp at h1 <;> simp_all

theorem enumFieldTys_of_fieldTys {tn vn : String} {idx : Nat} {ty : Ty} {fts : List Ty}
    (h : fieldTys S (.enum tn vn idx) ty = some fts) : enumFieldTys S tn idx ty = some fts :=
  enumFieldTys_iff.2 ⟨vn, h⟩

theorem builtinTy_noParam {f : String} {t : Ty} (h : builtinTy f = some t) : Closed.noParam t = true := by
  unfold builtinTy at h
  split at h <;> first | (injection h with h; subst h; rfl) | cases h

end Goml.ValTy

namespace Goml.ValTyG
open Goml Goml.Sem Goml.Wt Goml.Mono Goml.ValTy
open Goml.ValTyR (Ext)

variable {S : Sig} {P : Prog} {rf : Bool} {Ψ : List Ty}

/-! ### operators -/

theorem unop_sound {op : UnOp} {ty ta : Ty} {a v : Val} (hok : unopOk op ty ta = true)
    (ha : VT S P rf Ψ a ta) (hr : unop op a = .ok v) : VT S P rf Ψ v ty := by
  cases op <;> simp only [unopOk, Bool.and_eq_true] at hok
  · obtain rfl := tyEq hok.2
    rcases isNumeric_cases hok.1 with ⟨n, s, rfl⟩ | ⟨n, rfl⟩
    · obtain ⟨x, rfl, hw⟩ := ha.inv
      injection hr with hr; subst hr; exact .int _ _ _ hw
    · obtain ⟨x, rfl, hw⟩ := ha.inv
      injection hr with hr; subst hr; exact .float _ _ hw
  · obtain rfl := tyEq hok.1
    obtain rfl := tyEq hok.2
    obtain ⟨b, rfl⟩ := ha.inv
    injection hr with hr; subst hr; exact .bool _

theorem arith_sound {op : BinOp} {t : Ty} {a b v : Val} (hop : op = .add ∨ op = .sub ∨ op = .mul ∨ op = .div)
    (hnum : isNumeric t = true) (ha : VT S P rf Ψ a t) (hb : VT S P rf Ψ b t) (hr : binop op a b = .ok v) :
    VT S P rf Ψ v t := by
  rcases isNumeric_cases hnum with ⟨n, s, rfl⟩ | ⟨n, rfl⟩
  · obtain ⟨x, rfl, hw⟩ := ha.inv
    obtain ⟨y, rfl, _⟩ := hb.inv
    rcases hop with rfl | rfl | rfl | rfl
    all_goals simp only [binop] at hr
    -- `+`, `-`, `*`
    iterate 3
      injection hr with hr
      subst hr
      exact .int _ _ _ hw
    -- `/`, under an `if` that fails on a zero divisor
    split at hr
    · cases hr
    · injection hr with hr
      subst hr
      exact .int _ _ _ hw
  · obtain ⟨x, rfl, hw⟩ := ha.inv
    obtain ⟨y, rfl, _⟩ := hb.inv
    rcases hop with rfl | rfl | rfl | rfl
    all_goals
      simp only [binop] at hr
      injection hr with hr
      subst hr
      exact .float _ _ hw

theorem cmp_sound {op : BinOp} {t : Ty} {a b v : Val} (hop : op = .less ∨ op = .greater ∨ op = .lessEq ∨ op = .greaterEq)
    (ht : isNumeric t = true ∨ t = .string) (ha : VT S P rf Ψ a t) (hb : VT S P rf Ψ b t) (hr : binop op a b = .ok v) :
    VT S P rf Ψ v .bool := by
  have : ∃ r, v = .bool r := by
    rcases ht with hnum | rfl
    · rcases isNumeric_cases hnum with ⟨n, s, rfl⟩ | ⟨n, rfl⟩
      -- integers and floats alike
      all_goals
        obtain ⟨x, rfl, _⟩ := ha.inv
        obtain ⟨y, rfl, _⟩ := hb.inv
        rcases hop with rfl | rfl | rfl | rfl
        all_goals
          simp only [binop] at hr
          injection hr with hr
          exact ⟨_, hr.symm⟩
    · obtain ⟨x, rfl⟩ := ha.inv
      obtain ⟨y, rfl⟩ := hb.inv
      rcases hop with rfl | rfl | rfl | rfl
      all_goals
        simp only [binop] at hr
        injection hr with hr
        exact ⟨_, hr.symm⟩
  obtain ⟨r, rfl⟩ := this
  exact .bool r

theorem binop_sound {op : BinOp} {ty ta tb : Ty} {a b v : Val} (hok : binopOk op ty ta tb = true)
    (ha : VT S P rf Ψ a ta) (hb : VT S P rf Ψ b tb) (hr : binop op a b = .ok v) : VT S P rf Ψ v ty := by
  cases op <;> simp only [binopOk, Bool.and_eq_true, Bool.or_eq_true] at hok
  case add =>
    obtain ⟨⟨hab, haty⟩, hkind⟩ := hok
    obtain rfl := tyEq hab
    obtain rfl := tyEq haty
    rcases hkind with hnum | hs
    · exact arith_sound (.inl rfl) hnum ha hb hr
    · obtain rfl := tyEq hs
      obtain ⟨x, rfl⟩ := ha.inv
      obtain ⟨y, rfl⟩ := hb.inv
      injection hr with hr; subst hr; exact .str _
  case sub | mul | div =>
    obtain ⟨⟨hab, haty⟩, hnum⟩ := hok
    obtain rfl := tyEq hab
    obtain rfl := tyEq haty
    exact arith_sound (by decide) hnum ha hb hr
  case and | or =>
    obtain ⟨⟨habool, hbbool⟩, htybool⟩ := hok
    obtain rfl := tyEq habool
    obtain rfl := tyEq hbbool
    obtain rfl := tyEq htybool
    obtain ⟨x, rfl⟩ := ha.inv
    obtain ⟨y, rfl⟩ := hb.inv
    injection hr with hr
    subst hr
    exact .bool _
  case less | greater | lessEq | greaterEq =>
    obtain ⟨⟨hab, htybool⟩, hkind⟩ := hok
    obtain rfl := tyEq hab
    obtain rfl := tyEq htybool
    exact cmp_sound (by decide) (hkind.imp_right tyEq) ha hb hr
  -- `==` / `!=` return a boolean on whatever `valEq` compares
  case eq | notEq =>
    obtain rfl := tyEq hok.2
    simp only [binop] at hr
    split at hr
    · injection hr with hr
      subst hr
      exact .bool _
    · cases hr

/-! ### builtins -/

theorem res_ok_inj {α : Type} {a b : α} {w w' : World} (h : (Res.ok a w : Res α) = .ok b w') : a = b ∧ w = w' := by
  injection h with h1 h2; exact ⟨h1, h2⟩

theorem int_to_string_sound {f : String} {b : Nat} {s : Bool} {args : List Val} {w w' : World} {v : Val}
    (hf : f ∈ intToString) (ha : VTs S P rf Ψ args [.int b s])
    (hr : applyExtern f args w = .ok v w') :
    VT S P rf Ψ v .string ∧ w'.store = w.store := by
  obtain ⟨a, rfl, ha1⟩ := VTs_single ha
  obtain ⟨x, rfl, _⟩ := ha1.inv
  rw [applyExtern, builtin_int_to_string hf] at hr
  obtain ⟨rfl, rfl⟩ := res_ok_inj hr
  exact ⟨.str _, rfl⟩

theorem float_to_string_sound {f : String} {b : Nat} {args : List Val} {w w' : World} {v : Val}
    (hf : f ∈ floatToString) (ha : VTs S P rf Ψ args [.float b])
    (hr : applyExtern f args w = .ok v w') :
    VT S P rf Ψ v .string ∧ w'.store = w.store := by
  obtain ⟨a, rfl, ha1⟩ := VTs_single ha
  obtain ⟨x, rfl, _⟩ := ha1.inv
  rw [applyExtern, builtin_float_to_string hf] at hr
  obtain ⟨rfl, rfl⟩ := res_ok_inj hr
  exact ⟨.str _, rfl⟩

theorem builtin_sound {f : String} {ps : List Ty} {r : Ty} {args : List Val} {w w' : World} {v : Val}
    (hb : builtinTy f = some (.func ps r)) (ha : VTs S P rf Ψ args ps)
    (hr : applyExtern f args w = .ok v w') :
    VT S P rf Ψ v r ∧ w'.store = w.store := by
  unfold builtinTy at hb
  split at hb <;> simp only [Option.some.injEq, Ty.func.injEq, reduceCtorEq] at hb
  all_goals obtain ⟨rfl, rfl⟩ := hb
  -- one goal per row of `builtinTy`, in its order.  All rows but `int*` / `uint*` / `float*_to_string` are literal rows of
  -- `builtin`, which reduces on them (`change`); those families are its last two rows.
  -- string_print, string_println
  iterate 2
    · obtain ⟨a, rfl, ha1⟩ := VTs_single ha
      obtain ⟨s, rfl⟩ := ha1.inv
      change Res.ok _ _ = _ at hr
      obtain ⟨rfl, rfl⟩ := res_ok_inj hr
      exact ⟨.unit, rfl⟩
  · -- unit_to_string
    obtain ⟨a, rfl, ha1⟩ := VTs_single ha
    obtain rfl : a = .unit := ha1.inv
    change Res.ok _ _ = _ at hr
    obtain ⟨rfl, rfl⟩ := res_ok_inj hr
    exact ⟨.str _, rfl⟩
  · -- bool_to_string
    obtain ⟨a, rfl, ha1⟩ := VTs_single ha
    obtain ⟨b, rfl⟩ := ha1.inv
    change Res.ok _ _ = _ at hr
    obtain ⟨rfl, rfl⟩ := res_ok_inj hr
    exact ⟨.str _, rfl⟩
  -- int8_to_string … uint64_to_string
  iterate 8
    exact int_to_string_sound (by simp [intToString]) ha hr
  -- bool_to_json, json_escape_string
  iterate 2
    · obtain ⟨a, rfl, ha1⟩ := VTs_single ha
      obtain ⟨b, rfl⟩ := ha1.inv
      change Res.ok _ _ = _ at hr
      obtain ⟨rfl, rfl⟩ := res_ok_inj hr
      exact ⟨.str _, rfl⟩
  · -- string_len
    obtain ⟨a, rfl, ha1⟩ := VTs_single ha
    obtain ⟨s, rfl⟩ := ha1.inv
    change Res.ok _ _ = _ at hr
    obtain ⟨rfl, rfl⟩ := res_ok_inj hr
    exact ⟨.int _ _ _ (by decide), rfl⟩
  -- float32_to_string, float64_to_string
  iterate 2
    exact float_to_string_sound (by simp [floatToString]) ha hr

theorem poly_sound {f : String} {argTys : List Ty} {ty : Ty} {θ : Subst} {args : List Val} {w w' : World} {v : Val}
    (hp : polyOk f argTys ty = true) (ha : VTs S P rf Ψ args (substTys θ argTys))
    (hr : applyExtern f args w = .ok v w') :
    VT S P rf Ψ v (substTy θ ty) ∧ w'.store = w.store := by
  unfold polyOk at hp
  split at hp
  · -- array_get
    obtain rfl := tyEq hp
    simp only [substTys, substTy] at ha
    obtain ⟨x, y, rfl, hx, hy⟩ := VTs_two ha
    obtain ⟨vs, rfl, _, hvs⟩ := hx.inv
    obtain ⟨i, rfl, _⟩ := hy.inv
    simp only [applyExtern, builtin] at hr
    by_cases hi : i < 0
    · simp [hi] at hr
    · cases hu : vs[i.toNat]? with
      | none => simp [hi, hu] at hr
      | some u =>
        simp [hi, hu] at hr
        obtain ⟨rfl, rfl⟩ := hr
        exact ⟨VTall_get hvs _ _ hu, rfl⟩
  · -- array_set
    simp only [Bool.and_eq_true] at hp
    obtain rfl := tyEq hp.1
    obtain rfl := tyEq hp.2
    simp only [substTys, substTy] at ha
    cases ha with
    | cons hx ha =>
      obtain ⟨y, z, rfl, hy, hz⟩ := VTs_two ha
      obtain ⟨vs, rfl, hlen, hvs⟩ := hx.inv
      obtain ⟨i, rfl, _⟩ := hy.inv
      simp only [applyExtern, builtin] at hr
      by_cases hc : (decide (i < 0) || decide (i.toNat ≥ vs.length)) = true
      · simp [hc] at hr
      · simp only [hc] at hr
        simp at hr
        obtain ⟨rfl, rfl⟩ := hr
        simp only [substTy]
        exact ⟨.array (VTall_set hvs _ _ hz) (by simpa using hlen), trivial⟩
  · -- vec_new
    simp only [substTys] at ha
    cases ha
    simp [applyExtern, builtin] at hr
    obtain ⟨rfl, rfl⟩ := hr
    cases ty <;> simp at hp
    simp only [substTy]; exact ⟨.vec .nil, trivial⟩
  · -- vec_push
    simp only [Bool.and_eq_true] at hp
    obtain rfl := tyEq hp.1
    obtain rfl := tyEq hp.2
    simp only [substTys, substTy] at ha
    obtain ⟨x, y, rfl, hx, hy⟩ := VTs_two ha
    obtain ⟨vs, rfl, hvs⟩ := hx.inv
    simp [applyExtern, builtin] at hr
    obtain ⟨rfl, rfl⟩ := hr
    simp only [substTy]
    exact ⟨.vec (VTall_append hvs _ hy), trivial⟩
  · -- vec_get
    obtain rfl := tyEq hp
    simp only [substTys, substTy] at ha
    obtain ⟨x, y, rfl, hx, hy⟩ := VTs_two ha
    obtain ⟨vs, rfl, hvs⟩ := hx.inv
    obtain ⟨i, rfl, _⟩ := hy.inv
    simp only [applyExtern, builtin] at hr
    by_cases hi : i < 0
    · simp [hi] at hr
    · cases hu : vs[i.toNat]? with
      | none => simp [hi, hu] at hr
      | some u =>
        simp [hi, hu] at hr
        obtain ⟨rfl, rfl⟩ := hr
        exact ⟨VTall_get hvs _ _ hu, rfl⟩
  · -- vec_len
    obtain rfl := tyEq hp
    simp only [substTys, substTy] at ha
    obtain ⟨x, rfl, hx⟩ := VTs_single ha
    obtain ⟨vs, rfl, hvs⟩ := hx.inv
    simp [applyExtern, builtin] at hr
    obtain ⟨rfl, rfl⟩ := hr
    simp only [substTy]; exact ⟨.int _ _ _ (by decide), trivial⟩
  · cases hp

/-- the reference builtins: allocation extends the store typing, read and write keep it -/
theorem ref_sound {f : String} {argTys : List Ty} {ty : Ty} {θ : Subst} {args : List Val} {w w' : World} {v : Val}
    (h0 : rf = true) (hp : refOk f argTys ty = true) (hw : WT S P rf Ψ w) (ha : VTs S P rf Ψ args (substTys θ argTys))
    (hr : applyExtern f args w = .ok v w') :
    ∃ Ψ', Ext Ψ Ψ' ∧ WT S P rf Ψ' w' ∧ VT S P rf Ψ' v (substTy θ ty) := by
  unfold refOk at hp
  split at hp
  · -- ref
    obtain rfl := tyEq hp
    simp only [substTys] at ha
    obtain ⟨a, rfl, ha1⟩ := VTs_single ha
    simp [applyExtern, builtin] at hr
    obtain ⟨rfl, rfl⟩ := hr
    have := ref_new_sound h0 hw ha1
    exact ⟨_, ⟨[_], rfl⟩, this.1, by simpa [substTy] using this.2⟩
  · -- ref_get
    obtain rfl := tyEq hp
    simp only [substTys, substTy] at ha
    obtain ⟨a, rfl, ha1⟩ := VTs_single ha
    obtain ⟨l, rfl, _⟩ := ha1.inv
    simp only [applyExtern, builtin] at hr
    cases hl : w.store[l]? with
    | none => simp [hl] at hr
    | some u =>
      simp [hl] at hr
      obtain ⟨rfl, rfl⟩ := hr
      exact ⟨Ψ, Ext.refl Ψ, hw, ref_get_sound hw ha1 hl⟩
  · -- ref_set
    simp only [Bool.and_eq_true] at hp
    obtain rfl := tyEq hp.1
    obtain rfl := tyEq hp.2
    simp only [substTys, substTy] at ha
    obtain ⟨x, y, rfl, hx, hy⟩ := VTs_two ha
    obtain ⟨l, rfl, _⟩ := hx.inv
    simp only [applyExtern, builtin] at hr
    by_cases hl : l < w.store.size
    · simp [hl] at hr
      obtain ⟨rfl, rfl⟩ := hr
      exact ⟨Ψ, Ext.refl Ψ, ref_set_sound hw hx hy, by simp only [substTy]; exact .unit⟩
    · simp [hl] at hr
  · cases hp

end Goml.ValTyG

namespace Goml.ValTy
open Goml Goml.Sem Goml.Wt Goml.Mono

variable {S : Sig} {P : Prog}

theorem builtin_sound {f : String} {ps : List Ty} {r : Ty} {args : List Val} {w w' : World} {v : Val}
    (hb : builtinTy f = some (.func ps r)) (ha : VTs S P args ps)
    (hr : (match builtin f args w with
           | some r => r
           | none => .ok .unit { w with externs := w.externs ++ [f] }) = .ok v w') :
    VT S P v r :=
  VT.ofG (ValTyG.builtin_sound hb (ha.toG []) hr).1

theorem poly_sound {f : String} {argTys : List Ty} {ty : Ty} {θ : Subst} {args : List Val} {w w' : World} {v : Val}
    (hp : polyOk f argTys ty = true) (ha : VTs S P args (substTys θ argTys))
    (hr : (match builtin f args w with
           | some r => r
           | none => .ok .unit { w with externs := w.externs ++ [f] }) = .ok v w') :
    VT S P v (substTy θ ty) :=
  VT.ofG (ValTyG.poly_sound hp (ha.toG []) hr).1

end Goml.ValTy

/-! ### object safety -/

namespace Goml.ValTyR
open Goml Goml.Sem Goml.Wt Goml.Mono Goml.ValTy

variable {S : Sig}

/-- By the induction principle of `replaceSelf`: `noSelf` rules out the one row that replaces (`.struct "Self"`) and holds
    of the parts of every other row, which rebuilds its constructor over them. -/
theorem replaceSelf_noSelf_all (self : Ty) :
    (∀ t : Ty, noSelf t = true → replaceSelf self t = t) ∧
    ∀ ts : List Ty, noSelfs ts = true → replaceSelfs self ts = ts := by
  apply replaceSelf.mutual_induct
  all_goals intros
  all_goals simp_all only [replaceSelf, replaceSelfs, noSelf, noSelfs, Bool.and_eq_true, Bool.not_eq_true',
    beq_eq_false_iff_ne, ne_eq, beq_iff_eq, not_true_eq_false, not_false_eq_true, if_false]

theorem replaceSelf_noSelf (self : Ty) : ∀ t : Ty, noSelf t = true → replaceSelf self t = t :=
  (replaceSelf_noSelf_all self).1

theorem replaceSelfs_noSelf (self : Ty) : ∀ ts : List Ty, noSelfs ts = true → replaceSelfs self ts = ts :=
  (replaceSelf_noSelf_all self).2

/-- an object-safe method: its signature at any `Self` is `(Self, ps) -> r` with the same `ps`, `r` -/
theorem methodTy_objSafe {tr m : String} (h : objSafe S tr m = true) :
    ∃ ps r, ∀ self, methodTy S tr m self = some (.func (self :: ps) r) := by
  unfold objSafe at h
  cases hd : S.traits.find? (·.name == tr) with
  | none => simp [hd] at h
  | some d =>
    simp only [hd] at h
    cases hl : lookupTy d.methods m with
    | none => simp [hl] at h
    | some sig =>
      simp only [hl] at h
      split at h
      · rename_i s ps r heq
        injection heq with heq; subst heq
        simp only [Bool.and_eq_true] at h
        obtain ⟨⟨hs, hps⟩, hr⟩ := h
        refine ⟨ps, r, fun self => ?_⟩
        unfold methodTy
        simp only [hd, hl]
        have hself : replaceSelf self s = self := by
          cases s <;> simp [isSelf] at hs
          subst hs; simp [replaceSelf]
        simp [replaceSelf, replaceSelfs, hself, replaceSelfs_noSelf self ps hps, replaceSelf_noSelf self r hr]
      · cases h

end Goml.ValTyR
