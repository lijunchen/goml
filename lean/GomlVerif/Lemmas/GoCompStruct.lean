import GomlVerif.Lemmas.GoCompRuntime
/-! composite values (structs, tuple / variant payloads, enum values): construction and field access on both sides -/
namespace Goml.GoComp
open Goml Goml.Go Goml.GoCompile Goml.GoFrag
open Goml.Sem (Val World)

attribute [local irreducible] Goml.GoCompile.vn Goml.GoCompile.gid Goml.GoCompile.rn

theorem struct_value {env : Env} {η : Hp} {sn : String} (hsn : sn ∈ goodStructs env)
    {d : StructDef} (hd : env.getStruct sn = some d) {vs : List Val} {gvs : List GVal}
    (hargs : ArgsRel env η vs gvs (d.fields.map (·.2))) :
    VRel env η (.structV sn vs) (.struct sn) (.struct (gid sn) ((d.fields.map fun f => gid f.1).zip gvs)) ∧
      HasTy env η (.structV sn vs) (.struct sn) := by
  obtain ⟨h1, h2, _, _⟩ := VRels_of_args hargs
  refine ⟨by simp only [VRel, hd]; exact ⟨gvs, h1, rfl⟩, ?_⟩
  simp only [HasTy, hd]
  exact ⟨trivial, hsn, h2⟩

theorem struct_field {env : Env} {η : Hp} : ∀ {vs : List Val} {gs : List GVal} {tys : List Ty} (i : Nat) {t : Ty},
    VRels env η vs tys gs → HasTys env η vs tys → tys[i]? = some t →
    ∃ v g, vs[i]? = some v ∧ gs[i]? = some g ∧ VRel env η v t g ∧ HasTy env η v t
  | [], gs, tys, i, t, _, ht, hi => by
    cases tys <;> simp [HasTys] at ht; simp at hi
  | v :: vs, gs, [], i, t, _, ht, _ => by simp [HasTys] at ht
  | v :: vs, [], t0 :: tys, i, t, hg, _, _ => by simp [VRels] at hg
  | v :: vs, g :: gs', t0 :: tys, i, t, hg, ht, hi => by
    simp only [VRels] at hg
    simp only [HasTys] at ht
    cases i with
    | zero => simp at hi; subst hi; exact ⟨v, g, by simp, by simp, hg.1, ht.1⟩
    | succ i =>
      simp only [List.getElem?_cons_succ] at hi ⊢
      exact struct_field i hg.2 ht.2 hi

/-- the Go struct `N` with the fields `names.zip gs` is the image of the components `vs` at the types `tys`: its field `names[i]`
    holds the image of component `i` -/
theorem field_read {env : Env} {η : Hp} {F : GFile} {gρ : GEnv} {gw : GWorld} {ge : GExpr} {N : String} {names : List String}
    {vs : List Val} {gs : List GVal} {tys : List Ty} {i : Nat} {t : Ty} {f : String} (T : GTy)
    (hg : EvS F gρ gw ge (.ok (.struct N (names.zip gs)) gw)) (hgs : VRels env η vs tys gs) (hvs : HasTys env η vs tys)
    (hnd : names.Nodup) (hn : names[i]? = some f) (ht : tys[i]? = some t) :
    ∃ vi gi, vs[i]? = some vi ∧ EvS F gρ gw (.field f T ge) (.ok gi gw) ∧ VRel env η vi t gi ∧ HasTy env η vi t := by
  obtain ⟨vi, gi, hvi, hgi, hri, hti⟩ := struct_field i hgs hvs ht
  exact ⟨vi, gi, hvi, ev_field_struct hg (lookup_zip names gs i f gi hnd hn hgi), hri, hti⟩

theorem fieldNames_at {env : Env} {η : Hp} {vs : List Val} {gs : List GVal} {tys : List Ty} (hgs : VRels env η vs tys gs)
    {i : Nat} {t : Ty} (ht : tys[i]? = some t) : (fieldNames 0 gs.length)[i]? = some (fieldN i) := by
  have hlen : gs.length = tys.length := (VRels_length hgs).2.symm
  have hi : i < tys.length := (List.getElem?_eq_some_iff.mp ht).1
  rw [hlen]; simpa using fieldNames_get 0 tys.length i hi

/-- the fields of a compiled struct literal evaluate to the declared names zipped with the values -/
theorem fields_both {env : Env} {η : Hp} {file : AFile} {G : List String} (P : Prog) {F : GFile} (ht : TyLink env F) {Γ : Ctx}
    {ρ : Sem.Env} {gρ : GEnv} (hr : EnvRel env η Γ ρ gρ) (hfr : FnRel file G η gρ) {args : List Imm} {fields : List (String × Ty)}
    (h : argsOK env file G Γ args (fields.map (·.2)) = true) :
    ∃ vs gvs, ArgsRel env η vs gvs (fields.map (·.2)) ∧
      (∀ gw, EvFS F gρ gw (structFieldsOf fields (compileImms env args)) (.ok ((fields.map fun f => gid f.1).zip gvs) gw)) ∧
      (∀ n w, Outc (fun vs' w' => vs = vs' ∧ w = w') (fun _ _ => False) (Sem.evalList n P ρ w (args.map Imm.toExpr))) := by
  obtain ⟨vs, gvs, h1, _, _, h2, h3⟩ := imms_fields_both P ht hr hfr h
  exact ⟨vs, gvs, h1, fun gw => structFieldsOf_eq fields _ ▸ h2 _ gw, h3⟩

/-- the composite literal of an admitted struct evaluates to the image `VRel` gives the struct value -/
theorem slit_struct {env : Env} {F : GFile} (hS : structsClosed env = true) {sn : String} (hsn : sn ∈ goodStructs env)
    (htab : structTableOK env F sn = true) {d : StructDef} (hd : env.getStruct sn = some d) {gvs : List GVal}
    (hlen : gvs.length = d.fields.length) :
    slitValue F (gid sn) ((d.fields.map fun f => gid f.1).zip gvs) =
      .struct (gid sn) ((d.fields.map fun f => gid f.1).zip gvs) := by
  obtain ⟨d', hd', hok⟩ := good_struct hS hsn
  rw [hd] at hd'; injection hd' with hd'; subst hd'
  unfold structTableOK at htab
  rw [hd] at htab
  cases hdecl : F.structFields (gid sn) with
  | none => rw [hdecl] at htab; simp at htab
  | some decl =>
    rw [hdecl] at htab
    exact slit_zip hdecl (by simpa using htab) hok.nodup (by simp [hlen])

/-- the payload fields of a compiled variant literal evaluate to `_i, _{i+1}, …` zipped with the values -/
theorem tfields_both {env : Env} {η : Hp} {file : AFile} {G : List String} (P : Prog) {F : GFile} (ht : TyLink env F) {Γ : Ctx}
    {ρ : Sem.Env} {gρ : GEnv} (hr : EnvRel env η Γ ρ gρ) (hfr : FnRel file G η gρ) {args : List Imm} {tys : List Ty} (i : Nat)
    (h : argsOK env file G Γ args tys = true) :
    ∃ vs gvs, ArgsRel env η vs gvs tys ∧
      (∀ gw, EvFS F gρ gw (tupleFields i (compileImms env args)) (.ok ((fieldNames i tys.length).zip gvs) gw)) ∧
      (∀ n w, Outc (fun vs' w' => vs = vs' ∧ w = w') (fun _ _ => False) (Sem.evalList n P ρ w (args.map Imm.toExpr))) := by
  obtain ⟨vs, gvs, h1, hlen, _, h2, h3⟩ := imms_fields_both P ht hr hfr h
  refine ⟨vs, gvs, h1, fun gw => ?_, h3⟩
  rw [tupleFields_eq, compileImms, List.length_map, hlen]
  exact h2 _ gw

theorem enum_value {env : Env} {η : Hp} {n : String} (hn : n ∈ goodEnums env) {d : EnumDef} (hd : env.getEnum n = some d)
    {idx : Nat} {vname : String} {tys : List Ty} (hv : d.variants[idx]? = some (vname, tys))
    {vs : List Val} {gvs : List GVal} (hargs : ArgsRel env η vs gvs tys) :
    VRel env η (.enumV n idx vs) (.enum n) (.struct (variantGoName env n vname) ((fieldNames 0 tys.length).zip gvs)) ∧
      HasTy env η (.enumV n idx vs) (.enum n) := by
  obtain ⟨h1, h2, _, h4⟩ := VRels_of_args hargs
  refine ⟨by simp only [VRel, hd, hv]; exact ⟨gvs, h1, by rw [h4]⟩, ?_⟩
  simp only [HasTy, hd, hv]
  exact ⟨trivial, hn, h2⟩

end Goml.GoComp
