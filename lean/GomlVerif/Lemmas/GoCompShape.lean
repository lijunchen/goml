import GomlVerif.Lemmas.GoCompView
/-!
What the lowering emits for a node, as far as its shape goes.  The simulation and the static half (writes, scope, typing)
both read `compileSimple` / `compileBindSimple` through `SimpleView` / `BindView`; nothing else splits the twelve simple
forms.
-/
namespace Goml.GoComp
open Goml Goml.Go Goml.GoCompile Goml.GoFrag

attribute [local irreducible] Goml.GoCompile.vn Goml.GoCompile.gid Goml.GoCompile.rn

theorem compileGo_isGo (env : Env) (e : Imm) : ∃ X, compileGo env e = .go X := by
  unfold compileGo; split <;> exact ⟨_, rfl⟩

/-- a call of the fragment is not the call of `missing` that `compile_aexpr` skips -/
theorem not_missing {env : Env} {file : AFile} {G : List String} {Γ : Ctx} {K : KCtx} {f : Imm} {args : List Imm} {ty : Ty}
    (h : fragC env file G Γ K (.call f args ty) = true) : isMissingCall f ty = false := by
  simp only [fragC] at h
  cases f with
  | var name fty =>
    have hne : rn name ≠ "missing" := by
      rcases fragCall_callee h with ⟨hrn, hmem⟩ | hsp
      · rw [hrn]; intro e; rw [e] at hmem; simp [refNames, arrNames, vecNames] at hmem
      · intro e; rw [e] at hsp; simp [specialCallees] at hsp
    simp [isMissingCall, callee, hne]
  | prim p t => rfl
  | tag i t => rfl

/-- the forms that are a Go call statement when compiled for their effect -/
inductive IsCallC : CExpr → Prop
  | call (f args ty) : IsCallC (.call f args ty)
  | dyn (tr m recv args ty) : IsCallC (.dynCall tr m recv args ty)

/-- what `compile_aexpr_effect` / `compile_aexpr_assign` emit for a form that is not control flow; the call of `missing`
    stays a statement even when compiled for its value -/
inductive SimpleView (env : Env) : Mode → CExpr → List GStmt → Prop
  | go (e ty) : SimpleView env .effect (.go e ty) [compileGo env e]
  | goUnit (t e ty) : SimpleView env (.assign t) (.go e ty) [compileGo env e, .assign (gid t) unitE]
  | missing (t f args ty) : isMissingCall f ty = true →
      SimpleView env (.assign t) (.call f args ty) [.expr (compileCExpr env (.call f args .unit))]
  | assign (t c) : isGoC c = false → SimpleView env (.assign t) c [.assign (gid t) (compileCExpr env c)]
  | expr (c) : IsCallC c → SimpleView env .effect c [.expr (compileCExpr env c)]
  | drop (c) : isGoC c = false → ¬ IsCallC c → SimpleView env .effect c []

theorem compileSimple_view (env : Env) (m : Mode) (c : CExpr) : SimpleView env m c (compileSimple env m c) := by
  cases m with
  | effect =>
    cases c <;> simp only [compileSimple] <;>
      first | exact .go _ _ | exact .expr _ (.call _ _ _) | exact .expr _ (.dyn _ _ _ _ _) | exact .drop _ rfl (fun h => by cases h)
  | assign t =>
    cases c <;> simp only [compileSimple] <;> try (first | exact .goUnit _ _ _ | exact .assign _ _ rfl)
    split
    · next h => exact .missing _ _ _ _ h
    · exact .assign _ _ rfl

theorem IsCallC.not_go {c : CExpr} (h : IsCallC c) : isGoC c = false := by cases h <;> rfl

/-- what `compile_aexpr` emits for `let x = v` with `v` not control flow -/
inductive BindView (env : Env) (x : String) : CExpr → List GStmt → Prop
  | go (e ty) : BindView env x (.go e ty) [compileGo env e, .varDecl (vn x) .unit (some unitE)]
  | decl (v) : isGoC v = false → BindView env x v [.varDecl (vn x) (cexprTy env v) (some (compileCExpr env v))]

theorem compileBindSimple_view (env : Env) (x : String) (v : CExpr) : BindView env x v (compileBindSimple env x v) := by
  cases v <;> simp only [compileBindSimple] <;> first | exact .go _ _ | exact .decl _ rfl

theorem compileTail_simple (env : Env) (m : Mode) (st : St) {c : CExpr} (h : isCtl c = false) :
    (compileTail env m st c).1 = compileSimple env m c := by
  cases c <;> simp [isCtl] at h <;> rfl

theorem cexprTastTy_frag {env : Env} {file : AFile} {G : List String} {Γ : Ctx} {K : KCtx} {c : CExpr}
    (h : fragC env file G Γ K c = true) : cexprTastTy env c = c.annTy := by
  by_cases hctl : isCtl c = false
  · by_cases hgoc : isGoC c = false
    · exact cv_tastTy (fragC_cv hctl hgoc h)
    · cases c <;> first | rfl | simp [isGoC] at hgoc
  · cases c <;> first | rfl | simp [isCtl] at hctl

theorem cexprTy_frag {env : Env} {file : AFile} {G : List String} {Γ : Ctx} {K : KCtx} {c : CExpr}
    (h : fragC env file G Γ K c = true) : cexprTy env c = goTy c.annTy := by
  simp only [cexprTy, cexprTastTy_frag h]

theorem fragC_go_unit {env : Env} {file : AFile} {G : List String} {Γ : Ctx} {K : KCtx} {e : Imm} {ty : Ty}
    (h : fragC env file G Γ K (.go e ty) = true) : ty = .unit :=
  let ⟨_, _, _, _, hv⟩ := fragC_goView h; hv.unit

theorem fragC_ite {env : Env} {file : AFile} {G : List String} {Γ : Ctx} {K : KCtx} {c : Imm} {t e : AExpr} {ty : Ty}
    (h : fragC env file G Γ K (.ite c t e ty) = true) :
    immOK env file G Γ c = true ∧ c.ty = .bool ∧ fragA env file G Γ K t = true ∧ fragA env file G Γ K e = true ∧
      aTy t = ty ∧ aTy e = ty := by
  simp only [fragC, Bool.and_eq_true] at h
  obtain ⟨⟨⟨⟨⟨hc, hcb⟩, hft⟩, hfe⟩, htt⟩, hte⟩ := h
  exact ⟨hc, scalarEq_eq hcb, hft, hfe, scalarEq_eq htt, scalarEq_eq hte⟩

theorem fragC_while {env : Env} {file : AFile} {G : List String} {Γ : Ctx} {K : KCtx} {c b : AExpr} {ty : Ty}
    (h : fragC env file G Γ K (.while c b ty) = true) :
    fragA env file G Γ K c = true ∧ aTy c = .bool ∧ fragA env file G Γ K b = true ∧ aTy b = .unit ∧ ty = .unit := by
  simp only [fragC, Bool.and_eq_true] at h
  obtain ⟨⟨⟨⟨hfc, hcb⟩, hfb⟩, hbu⟩, htu⟩ := h
  exact ⟨hfc, scalarEq_eq hcb, hfb, scalarEq_eq hbu, scalarEq_eq htu⟩

theorem tail_switch_shape (env : Env) (m : Mode) (st : St) {s : Imm} (arms : List AArm) (d : ADflt) (ty : Ty)
    (hsw : switchTy s.ty = true) :
    (compileTail env m st (.matchE s arms d ty)).1 =
      [.switch (compileImm env s) (valueCases (matchKind s.ty) (compileArms env m (st.check (okImm env s)) arms).1)
        (compileDflt env m (compileArms env m (st.check (okImm env s)) arms).2 d).1] := by
  cases hsty : s.ty <;> rw [hsty] at hsw <;> try (cases hsw; done)
  all_goals simp only [compileTail, hsty, matchKind]

theorem tail_tswitch_shape (env : Env) (m : Mode) (st : St) (x en : String) (arms : List AArm) (d : ADflt) (ty : Ty) :
    (compileTail env m st (.matchE (.var x (.enum en)) arms d ty)).1 =
      [.tswitch (some (rn x)) (.var (vn x) (goTy (.enum en)))
        (typeCases env (compileArms env m (st.check (okImm env (.var x (.enum en)))) arms).1)
        (compileDflt env m (compileArms env m (st.check (okImm env (.var x (.enum en)))) arms).2 d).1] := by
  simp only [compileTail, Imm.ty, matchKind, compileImm]

/-- a `match` of the fragment by its scrutinee: a local of an admitted enum type (type switch), unit (the first arm or the
    default in place), a bool / integer / string (value switch) -/
inductive MatchView (env : Env) (file : AFile) (G : List String) (Γ : Ctx) (K : KCtx) (arms : List AArm) (d : ADflt) (ty : Ty) :
    Imm → Prop
  | enum {x en : String} (isLocal : lookupTy Γ x = some (.enum en)) (name : vn x = rn x) (good : en ∈ goodEnums env)
      (armsOK : fragArms env file G Γ K (.enumK x (.enum en)) ty arms = true) (dfltOK : fragD env file G Γ K ty d = true) :
      MatchView env file G Γ K arms d ty (.var x (.enum en))
  | unit {s : Imm} (sty : s.ty = .unit)
      (first : if arms.isEmpty then isSomeD d = true ∧ fragD env file G Γ K ty d = true
        else fragFirst env file G Γ K ty arms = true) : MatchView env file G Γ K arms d ty s
  | lit {s : Imm} (sty : switchTy s.ty = true) (armsOK : fragArms env file G Γ K (.valK s.ty) ty arms = true)
      (dfltOK : fragD env file G Γ K ty d = true) : MatchView env file G Γ K arms d ty s

theorem fragC_match_inv {env : Env} {file : AFile} {G : List String} {Γ : Ctx} {K : KCtx} {s : Imm} {arms : List AArm} {d : ADflt}
    {ty : Ty} (h : fragC env file G Γ K (.matchE s arms d ty) = true) :
    immOK env file G Γ s = true ∧ MatchView env file G Γ K arms d ty s := by
  simp only [fragC, Bool.and_eq_true] at h
  obtain ⟨⟨hs, _⟩, hcase⟩ := h
  refine ⟨hs, ?_⟩
  cases hsty : s.ty <;> rw [hsty] at hcase <;> simp only [switchTy, Bool.false_and, Bool.true_and, Bool.and_eq_true,
    Bool.false_eq_true] at hcase
  case unit => exact .unit hsty (by split <;> simp_all)
  case enum en =>
    cases s <;> simp only [Bool.and_eq_true, Bool.false_eq_true, beq_iff_eq] at hcase
    rename_i x xty
    simp only [Imm.ty] at hsty; subst hsty
    -- the scrutinee is a local of that type: an enum type is no function type
    rcases immOK_var_inv hs with ⟨hlt, _⟩ | ⟨_, _, _, hfn, _⟩
    · exact .enum hlt hcase.1.1.1 (by simpa using hcase.1.1.2) hcase.1.2 hcase.2
    · cases hfn
  all_goals exact .lit (by rw [hsty]; rfl) (hsty ▸ hcase.1) hcase.2

theorem fragC_flat {env : Env} {file : AFile} {G : List String} {Γ : Ctx} {K : KCtx} {c : CExpr}
    (h : fragC env file G Γ K c = true) : flatTy c.annTy = true := by
  cases c with
  | ite c t e ty => simp only [fragC, Bool.and_eq_true] at h; exact scalarEq_flat_right h.1.2
  | «while» c b ty => simp only [fragC, Bool.and_eq_true] at h; exact scalarEq_flat h.2
  | matchE s arms d ty => simp only [fragC, Bool.and_eq_true] at h; exact h.1.2
  | go e ty => rw [fragC_go_unit h]; rfl
  | _ => exact cv_flat (fragC_cv rfl rfl h)

theorem compileFn_shape (env : Env) (st : St) (g : AFn) :
    (compileFn env st g).1 =
      { name := fnName g.name, params := g.params.map fun p => (vn p.1, goTy p.2), ret := some (goTy g.ret),
        body := .varDecl (gid ("ret" ++ toString st.n)) (goTy g.ret) none ::
          ((compileA env (.assign ("ret" ++ toString st.n))
              ((st.next.check (okTy g.ret)).check (g.params.all fun p => okTy p.2)) g.body).1 ++
            [.ret (some (.var (gid ("ret" ++ toString st.n)) (goTy g.ret)))]) } := rfl

theorem localsOf_compileFn (env : Env) (st : St) (g : AFn) :
    Goml.Dce.localsOf (compileFn env st g).1 =
      (g.params.map fun p => vn p.1) ++ gid ("ret" ++ toString st.n) :: Goml.Dce.allDecls
        (compileA env (.assign ("ret" ++ toString st.n))
          ((st.next.check (okTy g.ret)).check (g.params.all fun p => okTy p.2)) g.body).1 := by
  rw [compileFn_shape]
  simp [Goml.Dce.localsOf, Goml.Dce.allDecls, Goml.Dce.declsOf, allDecls_append, List.map_map, Function.comp_def]

/-- the conjuncts of `localOK` by name, the Go-side ones on the function `compileFn` emits -/
structure LocalView (env : Env) (file : AFile) (G : List String) (st : St) (g : AFn) : Prop where
  retTy : valTy env g.ret = true
  frag : fragA env file G (paramCtx g) [] g.body = true
  ret : aTy g.body = g.ret
  params : (g.params.map fun p => vn p.1).Nodup
  decls : sokB (fun _ => true) (g.params.map fun p => vn p.1) (compileFn env st g).1.body = true
  blank : "_" ∉ Goml.Dce.localsOf (compileFn env st g).1
  callees : ∀ c ∈ calleesA ((paramCtx g).map (·.1)) g.body, c ∉ Goml.Dce.localsOf (compileFn env st g).1 ∧ c ≠ "_"
  fnames : ∀ e ∈ fnSigs file G, vn e.1 ∉ Goml.Dce.localsOf (compileFn env st g).1 ∧ vn e.1 ≠ "_"

theorem localOK_view {env : Env} {file : AFile} {G : List String} {st : St} {g : AFn}
    (h : localOK env file G st g = true) : LocalView env file G st g := by
  simp only [localOK, srcLocalOK, goLocalOK, scopedLocalsOK, Bool.and_eq_true, Bool.not_eq_true', decide_eq_true_eq,
    List.contains_eq_mem, decide_eq_false_iff_not, List.all_eq_true, bne_iff_ne] at h
  obtain ⟨⟨⟨⟨_, hrs⟩, hfrag⟩, hret⟩, ⟨⟨⟨hnd, hsok⟩, hblank⟩, hcallees⟩, hfnames⟩ := h
  have hpn : (compileFn env st g).1.params.map (·.1) = g.params.map fun p => vn p.1 := by
    rw [compileFn_shape]; simp [List.map_map, Function.comp_def]
  exact ⟨hrs, hfrag, scalarEq_eq hret, hpn ▸ hnd, hpn ▸ hsok, hblank, hcallees, hfnames⟩

end Goml.GoComp
