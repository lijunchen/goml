import GomlVerif.Lemmas.GoCompArr
/-!
Trait objects: `dyn[T](v)` is the Go struct `dyn__T{data: any(v), vtable: dyn__T__vtable__X()}`, where the constructor
allocates a fresh vtable cell holding the wrapper functions of the receiver type `X` — an immutable cell of the heap context
(`Hp.imm`) with the content `vtableVal`; a method call `d.m(args)` goes through the cell to the wrapper
`dyn__T__wrap__X__m(self any, p0, …)`, which recovers the receiver (`self.(X)`: the identity on the receiver types of the
fragment, `dynRecvTy`) and calls the implementing function `trait_impl#T#X#m`.  This file has the `Go.Sem` side: what the file
must contain (`DynLink`), the constructor call, the composite literal, the wrapper call.
-/
namespace Goml.GoComp
open Goml Goml.Go Goml.GoCompile Goml.GoFrag
open Goml.Sem (Val World)
open Goml.Dce (keys keys_append lookup_cons_self lookup_cons_ne lookup_none_of_not_key lookup_append_not_key)

attribute [local irreducible] Goml.GoCompile.vn Goml.GoCompile.gid Goml.GoCompile.rn

theorem ev_call_fail {F ρ w ty f args fv w1 vs w2 fl w3} (hf : EvS F ρ w f (.ok fv w1))
    (ha : EvLS F ρ w1 args (.ok vs w2)) (hc : CallS F w2 fv vs (.fail fl w3)) : EvS F ρ w (.call ty f args) (.fail fl w3) :=
  ev_call hf ha hc

/-- the `any`-typed receiver is recovered unchanged by `self.(T)` / `T(self)` -/
theorem ev_cast_id {env : Env} {η : Hp} {F : GFile} {ρ : GEnv} {w w' : GWorld} {e : GExpr} {v : Val} {forTy : Ty} {g : GVal}
    (he : EvS F ρ w e (.ok g w')) (hr : dynRecvTy env forTy = true) (ht : HasTy env η v forTy) (hg : VRel env η v forTy g)
    (hE : ∀ n, forTy = .enum n → ∀ d, env.getEnum n = some d → ∀ vr, vr ∈ d.variants →
      F.structImplements (variantGoName env n vr.1) (gid n) = true) :
    EvS F ρ w (.cast (goTy forTy) e) (.ok g w') := by
  refine stable_step he fun k hk => ?_
  rw [evalG_cast, hk]; simp only [GRes.bind_ok, castTail]
  have hT := tv_inv ht hg
  cases forTy <;> simp only [dynRecvTy] at hr <;> try (cases hr; done)
  · obtain ⟨rfl, rfl⟩ := hT; simp [goTy, convert]   -- unit
  · obtain ⟨b, rfl, rfl⟩ := hT; simp [goTy, convert]   -- bool
  · obtain ⟨x, rfl, rfl, hrange⟩ := hT; simp [goTy, convert, hrange]   -- int
  · obtain ⟨x, rfl, rfl⟩ := hT; simp [goTy, convert]   -- string
  · obtain ⟨d, idx, vr, vs, gs, rfl, _, hd, hv, _, _, rfl⟩ := hT   -- enum: the variant struct implements the enum's interface
    have himp := hE _ rfl d hd vr (List.mem_of_getElem? hv)
    simp [goTy, himp]
  · obtain ⟨d, vs, gs, rfl, _, _, _, _, rfl⟩ := hT; simp [goTy]   -- struct
  · obtain ⟨name, rfl, rfl, _⟩ := hT; simp [goTy, convert]   -- func

/-- what the file must contain for the vtable `(tr, forTy)` -/
structure DynLink (env : Env) (F : GFile) (tr : String) (forTy : Ty) : Prop where
  ctor : F.findFunc (dynVtableCtorName tr forTy) =
    some (genDynVtableCtorFn tr forTy ((traitMethodSigs env tr).getD []))
  wrap : ∀ s, s ∈ (traitMethodSigs env tr).getD [] →
    F.findFunc (dynWrapName tr forTy s.1) = some (genDynWrapFn tr forTy s.1 s.2.1 s.2.2)
  dynT : ∃ decl, F.structFields (dynStructName tr) = some decl ∧ decl.map (·.1) = ["data", "vtable"]
  vtT : ∃ decl, F.structFields (dynVtableStructName tr) = some decl ∧
    decl.map (·.1) = ((traitMethodSigs env tr).getD []).map fun s => gid s.1
  nodup : (((traitMethodSigs env tr).getD []).map fun s => gid s.1).Nodup
  /-- an enum receiver: its variant structs have the method set of the enum's interface -/
  recv : ∀ n, forTy = .enum n → ∀ d, env.getEnum n = some d → ∀ vr, vr ∈ d.variants →
    F.structImplements (variantGoName env n vr.1) (gid n) = true

theorem slit_dyn {env : Env} {F : GFile} {tr : String} {forTy : Ty} (hl : DynLink env F tr forTy) (gd p : GVal) :
    slitValue F (dynStructName tr) [("data", gd), ("vtable", p)] =
      .struct (dynStructName tr) [("data", gd), ("vtable", p)] := by
  obtain ⟨decl, hd, hn⟩ := hl.dynT
  exact slit_zip (names := ["data", "vtable"]) (gs := [gd, p]) hd hn (by decide) rfl

theorem evf_slots {F : GFile} {w : GWorld} (tr : String) (forTy : Ty) : ∀ sigs : List (String × List Ty × Ty),
    EvFS F [] w (sigs.map fun s => GField.mk (gid s.1) (.var (dynWrapName tr forTy s.1) (slotTy s.2.1 s.2.2)))
      (.ok (sigs.map fun s => (gid s.1, GVal.func (dynWrapName tr forTy s.1))) w)
  | [] => evf_nil
  | s :: rest => by
    simp only [List.map_cons]
    exact evf_cons (ev_var_none rfl) (evf_slots tr forTy rest)

/-- the vtable literal of the constructor evaluates to `vtableVal` -/
theorem slit_vtable {env : Env} {F : GFile} {tr : String} {forTy : Ty} (hl : DynLink env F tr forTy) :
    slitValue F (dynVtableStructName tr)
        (((traitMethodSigs env tr).getD []).map fun s => (gid s.1, GVal.func (dynWrapName tr forTy s.1))) =
      vtableVal env tr forTy := by
  obtain ⟨decl, hd, hn⟩ := hl.vtT
  rw [vtableVal, ← List.zip_map']
  exact slit_zip hd hn hl.nodup (by simp)

/-- the vtable constructor: a fresh cell with the wrappers -/
theorem dyn_ctor_call {env : Env} {F : GFile} {tr : String} {forTy : Ty} (hl : DynLink env F tr forTy) (gw : GWorld) :
    CallS F gw (.func (dynVtableCtorName tr forTy)) []
      (.ok (.ptr gw.heap.size) { gw with heap := gw.heap.push (vtableVal env tr forTy) }) := by
  have hs := ev_slit_name (ρ := []) (name := dynVtableStructName tr) (evf_slots (F := F) (w := gw) tr forTy ((traitMethodSigs env tr).getD []))
  rw [slit_vtable hl] at hs
  have ha := ev_addr (ty := vtablePtrTy tr) hs
  exact call_func_env hl.ctor rfl (block_cons_sig (rest := []) (by simp) (stmt_ret ha)) rfl

/-- the variables of a parameter list evaluate to the arguments they were bound to -/
theorem evl_vars {F : GFile} {w : GWorld} : ∀ (ps : List (String × GTy)) (vals : List GVal) (pre : GEnv),
    ps.length = vals.length → (ps.map (·.1)).Nodup → (∀ x, x ∈ ps.map (·.1) → ¬ x ∈ keys pre) →
    EvLS F (pre ++ ((ps.zip vals).map fun ((x, _), v) => (x, v))) w (ps.map fun p => GExpr.var p.1 p.2) (.ok vals w)
  | [], [], pre, _, _, _ => evl_nil
  | [], _ :: _, _, h, _, _ => by simp at h
  | _ :: _, [], _, h, _, _ => by simp at h
  | p :: ps, v :: vals, pre, hlen, hnd, hfresh => by
    simp only [List.map_cons, List.nodup_cons] at hnd
    simp only [List.zip_cons_cons, List.map_cons]
    have hlk : lookupG (pre ++ (p.1, v) :: ((ps.zip vals).map fun ((x, _), v) => (x, v))) p.1 = some v := by
      rw [lookup_append_not_key (hfresh p.1 (by simp))]; exact lookup_cons_self _ _ _
    have ih := evl_vars (F := F) (w := w) ps vals (pre ++ [(p.1, v)]) (by simpa using hlen) hnd.2 (fun x hx hk => by
      rw [keys_append, List.mem_append] at hk
      rcases hk with hk | hk
      · exact hfresh x (by simp [hx]) hk
      · simp only [Goml.Dce.keys_cons, Goml.Dce.keys_nil, List.mem_singleton] at hk
        subst hk; exact hnd.1 hx)
    have e : pre ++ [(p.1, v)] ++ ((ps.zip vals).map fun ((x, _), v) => (x, v)) =
        pre ++ (p.1, v) :: ((ps.zip vals).map fun ((x, _), v) => (x, v)) := by simp
    rw [e] at ih
    exact evl_cons (ev_var_some hlk) ih

theorem length_wrapParams : ∀ (i : Nat) (ps : List Ty), (wrapParams i ps).length = ps.length
  | _, [] => rfl
  | i, _ :: ps => by simp [wrapParams, length_wrapParams (i + 1) ps]

/-- a call of the wrapper is a call of the implementing function -/
theorem dyn_wrap_call {env : Env} {η : Hp} {F : GFile} {tr : String} {forTy : Ty} (hl : DynLink env F tr forTy)
    {s : String × List Ty × Ty} (hs : s ∈ (traitMethodSigs env tr).getD []) {gw : GWorld} {v : Val} {gd : GVal}
    {gargs : List GVal} {r : GRes GVal}
    (hlen : gargs.length = s.2.1.length)
    (hnd : ("self" :: (wrapParams 0 s.2.1).map (·.1)).Nodup)
    (hnc : ¬ gid (Goml.Mono.traitImplFnName tr forTy s.1) ∈ "self" :: (wrapParams 0 s.2.1).map (·.1))
    (hrecv : dynRecvTy env forTy = true) (ht : HasTy env η v forTy) (hg : VRel env η v forTy gd)
    (hc : CallS F gw (.func (gid (Goml.Mono.traitImplFnName tr forTy s.1))) (gd :: gargs) r) :
    CallS F gw (.func (dynWrapName tr forTy s.1)) (gd :: gargs) r := by
  have hfind := hl.wrap s hs
  simp only [List.nodup_cons] at hnd
  obtain ⟨hself, hndp⟩ := hnd
  let ρ : GEnv := ("self", gd) :: (((wrapParams 0 s.2.1).zip gargs).map fun ((x, _), v) => (x, v))
  have hkeys : ∀ x, x ∈ keys ρ → x ∈ "self" :: (wrapParams 0 s.2.1).map (·.1) := by
    intro x hx
    simp only [ρ, Goml.Dce.keys_cons, List.mem_cons] at hx ⊢
    rcases hx with hx | hx
    · exact Or.inl hx
    · right
      simp only [keys, List.map_map, List.mem_map, Function.comp] at hx
      obtain ⟨⟨⟨a, b⟩, c⟩, hm, rfl⟩ := hx
      exact List.mem_map_of_mem (f := (·.1)) (List.of_mem_zip hm).1
  have hnone : lookupG ρ (gid (Goml.Mono.traitImplFnName tr forTy s.1)) = none :=
    lookup_none_of_not_key (fun hk => hnc (hkeys _ hk))
  have hselfE : EvS F ρ gw (.var "self" anyTy) (.ok gd gw) := ev_var_some (lookup_cons_self _ _ _)
  have hcast := ev_cast_id hselfE hrecv ht hg hl.recv
  have hvars : EvLS F ρ gw ((wrapParams 0 s.2.1).map fun p => GExpr.var p.1 p.2) (.ok gargs gw) := by
    have := evl_vars (F := F) (w := gw) (wrapParams 0 s.2.1) gargs [("self", gd)]
      (by rw [length_wrapParams, hlen]) hndp (fun x hx hk => by
        simp only [Goml.Dce.keys_cons, Goml.Dce.keys_nil, List.mem_singleton] at hk
        subst hk; exact hself hx)
    simpa [ρ] using this
  have hargs : EvLS F ρ gw (.cast (goTy forTy) (.var "self" anyTy) :: (wrapParams 0 s.2.1).map fun p => GExpr.var p.1 p.2)
      (.ok (gd :: gargs) gw) := evl_cons hcast hvars
  have hcall : EvS F ρ gw (.call (goTy s.2.2) (.var (gid (Goml.Mono.traitImplFnName tr forTy s.1))
      (.func (goTy forTy :: goTys s.2.1) (goTy s.2.2)))
      (.cast (goTy forTy) (.var "self" anyTy) :: (wrapParams 0 s.2.1).map fun p => GExpr.var p.1 p.2)) r :=
    ev_call (ev_var_none hnone) hargs hc
  have hlenP : (genDynWrapFn tr forTy s.1 s.2.1 s.2.2).params.length = (gd :: gargs).length := by
    simp [genDynWrapFn, length_wrapParams, hlen]
  cases r with
  | ok rv w' =>
    exact call_func_env hfind rfl (block_cons_sig (rest := []) (sig := .ret rv) (by simp) (stmt_ret hcall)) rfl hlenP
  | fail fl w' =>
    exact call_func_env hfind rfl (block_cons_fail (stmt_ret hcall)) rfl hlenP

end Goml.GoComp
