import GomlVerif.Model.Pipeline
/-!
Pipeline composition, back half: erasing the annotations `annotA` puts on an ANF expression gives the
expression back (`annotFile_toFn`), so the annotated file `go_file` is given denotes, under `Sem`, the
ANF program the middle end produced.
-/
namespace Goml.Pipeline
open Goml Goml.GoCompile

theorem annotI_toExpr : ∀ (e : Expr) (i : Imm), annotI e = some i → i.toExpr = e := by
  intro e i h
  cases e <;> simp only [annotI, Option.some.injEq] at h <;> first | (subst h; rfl) | cases h

theorem annotIs_toExpr : ∀ (es : List Expr) (is : List Imm), annotIs es = some is → is.map Imm.toExpr = es
  | [], is, h => by simp only [annotIs, Option.some.injEq] at h; subst h; rfl
  | e :: es, is, h => by
    simp only [annotIs] at h
    split at h
    · rename_i i is' h1 h2
      cases h
      simp [annotI_toExpr e i h1, annotIs_toExpr es is' h2]
    · cases h

theorem asC_some {o : Option AExpr} {c : CExpr} (h : asC o = some c) : o = some (.ret c) := by
  cases o with
  | none => simp [asC] at h
  | some a =>
    cases a <;> simp [asC] at h
    subst h; rfl

/-! A row of `annotA` with several parts is a `match` on their annotations: `split` leaves its row of `some`s, with the
parts' equations, and `none = some a`. -/
mutual
theorem annotA_toExpr : ∀ (e : Expr) (a : AExpr), annotA e = some a → a.toExpr = e
  | .var _ _, a, h | .prim _, a, h | .tag _ _, a, h => by
    simp only [annotA, Option.some.injEq] at h; subst h; rfl
  | .constr _ _ items, a, h | .tuple _ items, a, h | .array _ items, a, h => by
    simp only [annotA, Option.map_eq_some_iff] at h
    obtain ⟨is, h1, rfl⟩ := h
    simp [AExpr.toExpr, CExpr.toExpr, annotIs_toExpr items is h1]
  | .closure _ _ _, a, h | .traitCall _ _ _ _ _, a, h => by simp [annotA] at h
  | .letE x v b, a, h => by
    simp only [annotA] at h
    split at h
    · rename_i v' b' h1 h2
      cases h
      have e1 := annotA_toExpr v _ (asC_some h1)
      have e2 := annotA_toExpr b b' h2
      simp only [AExpr.toExpr] at e1
      simp [AExpr.toExpr, e1, e2]
    · cases h
  | .matchE t s arms d, a, h => by
    simp only [annotA] at h
    split at h
    · rename_i s' arms' d' h1 h2 h3
      cases h
      simp [AExpr.toExpr, CExpr.toExpr, annotI_toExpr s s' h1, annotArms_toExpr arms arms' h2, annotD_toExpr d d' h3]
    · cases h
  | .ite c t e, a, h => by
    simp only [annotA] at h
    split at h
    · rename_i c' t' e' h1 h2 h3
      cases h
      simp [AExpr.toExpr, CExpr.toExpr, annotI_toExpr c c' h1, annotA_toExpr t t' h2, annotA_toExpr e e' h3]
    · cases h
  | .while c b, a, h => by
    simp only [annotA] at h
    split at h
    · rename_i c' b' h1 h2
      cases h
      simp [AExpr.toExpr, CExpr.toExpr, annotA_toExpr c c' h1, annotA_toExpr b b' h2]
    · cases h
  | .go e, a, h | .cget _ _ _ e, a, h | .un _ _ e, a, h | .toDyn _ _ _ e, a, h | .proj _ _ e, a, h => by
    simp only [annotA, Option.map_eq_some_iff] at h
    obtain ⟨e', h1, rfl⟩ := h
    simp [AExpr.toExpr, CExpr.toExpr, annotI_toExpr e e' h1]
  | .bin op t l r, a, h => by
    simp only [annotA] at h
    split at h
    · rename_i l' r' h1 h2
      cases h
      simp [AExpr.toExpr, CExpr.toExpr, annotI_toExpr l l' h1, annotI_toExpr r r' h2]
    · cases h
  | .call _ f args, a, h | .dynCall _ _ _ f args, a, h => by
    simp only [annotA] at h
    split at h
    · rename_i f' is h1 h2
      cases h
      simp [AExpr.toExpr, CExpr.toExpr, annotI_toExpr f f' h1, annotIs_toExpr args is h2]
    · cases h
theorem annotArms_toExpr : ∀ (arms : List Arm) (as : List AArm), annotArms arms = some as → armsToExpr as = arms
  | [], as, h => by simp only [annotArms, Option.some.injEq] at h; subst h; rfl
  | .mk lhs body :: rest, as, h => by
    simp only [annotArms] at h
    split at h
    · rename_i l b r h1 h2 h3
      cases h
      simp [armsToExpr, annotI_toExpr lhs l h1, annotA_toExpr body b h2, annotArms_toExpr rest r h3]
    · cases h
theorem annotD_toExpr : ∀ (d : Option Expr) (d' : ADflt), annotD d = some d' → dfltToExpr d' = d
  | none, d', h => by simp only [annotD, Option.some.injEq] at h; subst h; rfl
  | some e, d', h => by
    simp only [annotD, Option.map_eq_some_iff] at h
    obtain ⟨a, h1, rfl⟩ := h
    simp [dfltToExpr, annotA_toExpr e a h1]
end

theorem annotFn_toFn (f : Fn) (a : AFn) (h : annotFn f = some a) : a.toFn = f := by
  unfold annotFn at h
  split at h
  · rename_i hg
    simp only [Option.map_eq_some_iff] at h
    obtain ⟨b, hb, rfl⟩ := h
    have := annotA_toExpr f.body b hb
    have hg' : f.generics = [] := by simpa using hg
    cases f
    simp_all [AFn.toFn]
  · cases h

theorem annotFile_toFn : ∀ (fns : List Fn) (file : AFile), annotFile fns = some file → file.map AFn.toFn = fns
  | [], file, h => by simp only [annotFile, Option.some.injEq] at h; subst h; rfl
  | f :: fs, file, h => by
    simp only [annotFile] at h
    split at h
    · rename_i a as h1 h2
      cases h
      simp [annotFn_toFn f a h1, annotFile_toFn fs as h2]
    · cases h

end Goml.Pipeline
