import GomlVerif.Lemmas.LiftSemUnfold
/-! `Sem.builtin` on the `*_to_string` builtins, which it recognises by suffix and prefix of the name; and what a call
of a name that is no function of the program does. -/
namespace Goml.Sem
open Goml

/-- What `apply` does with `.fn name` when the program has no function `name`: the builtin of that name or, there
being none, an extern call, which is recorded and answers `unit`. -/
def applyExtern (name : String) (args : List Val) (w : World) : Res Val :=
  match builtin name args w with
  | some r => r
  | none => .ok .unit { w with externs := w.externs ++ [name] }

theorem apply_extern {n : Nat} {P : Prog} {w : World} {name : String} (h : P.findFn name = none) (args : List Val) :
    apply (n + 1) P w (.fn name) args = applyExtern name args w := by
  rw [apply_fn, h]
  rfl

def intToString : List String :=
  ["int8_to_string", "int16_to_string", "int32_to_string", "int64_to_string",
   "uint8_to_string", "uint16_to_string", "uint32_to_string", "uint64_to_string"]

def floatToString : List String := ["float32_to_string", "float64_to_string"]

/-- each of these names passes the suffix / prefix test by which `builtin` recognises a `*_to_string` builtin -/
theorem intToString_ok : ∀ f ∈ intToString,
    f.endsWith "_to_string" = true ∧ (f.startsWith "int" || f.startsWith "uint") = true := by
  decide +kernel

theorem floatToString_ok : ∀ f ∈ floatToString, f.endsWith "_to_string" = true ∧ f.startsWith "float" = true := by
  decide +kernel

/-! `builtin` is a match on the literal name and the shape of the arguments, the `*_to_string` rows last.  Of the rows
before them only `missing` and `ref` take one number. -/

theorem builtin_int {name : String} (hm : name ≠ "missing") (hr : name ≠ "ref") (b : Nat) (s : Bool) (v : Int) (w : World) :
    builtin name [.int b s v] w =
      if name.endsWith "_to_string" && (name.startsWith "int" || name.startsWith "uint") then
        some (.ok (.str (showInt v)) w)
      else none := by
  unfold builtin
  split
  -- a row for other arguments is impossible, `missing` and `ref` are excluded, and the last row is not reached: for it
  -- `split` leaves the negated `*_to_string` row as an anonymous hypothesis, which is fetched by its statement
  all_goals first
    | (rename_i heq; cases heq <;> first | rfl | exact absurd rfl hm | exact absurd rfl hr)
    | exact (‹∀ b' s' v', [Val.int b s v] = [Val.int b' s' v'] → False› _ _ _ rfl).elim

theorem builtin_float {name : String} (hm : name ≠ "missing") (hr : name ≠ "ref") (b : Nat) (x : Float) (w : World) :
    builtin name [.float b x] w =
      if name.endsWith "_to_string" && name.startsWith "float" then some (.ok (.str (showFloat b x)) w) else none := by
  unfold builtin
  split
  -- as in `builtin_int`
  all_goals first
    | (rename_i heq; cases heq <;> first | rfl | exact absurd rfl hm | exact absurd rfl hr)
    | exact (‹∀ b' x', [Val.float b x] = [Val.float b' x'] → False› _ _ rfl).elim

/-- a name that ends in `_to_string` is neither `missing` nor `ref` -/
theorem ne_of_to_string {f : String} (h : f.endsWith "_to_string" = true) : f ≠ "missing" ∧ f ≠ "ref" := by
  constructor
  · rintro rfl
    exact absurd h (by decide)
  · rintro rfl
    exact absurd h (by decide)

theorem builtin_int_to_string {f : String} (hf : f ∈ intToString) (n s x) (w : World) :
    builtin f [.int n s x] w = some (.ok (.str (showInt x)) w) := by
  obtain ⟨h1, h2⟩ := intToString_ok f hf
  rw [builtin_int (ne_of_to_string h1).1 (ne_of_to_string h1).2, h1, h2]
  rfl

theorem builtin_float_to_string {f : String} (hf : f ∈ floatToString) (n x) (w : World) :
    builtin f [.float n x] w = some (.ok (.str (showFloat n x)) w) := by
  obtain ⟨h1, h2⟩ := floatToString_ok f hf
  rw [builtin_float (ne_of_to_string h1).1 (ne_of_to_string h1).2, h1, h2]
  rfl

end Goml.Sem
