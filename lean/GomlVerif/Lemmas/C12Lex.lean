import GomlVerif.Lemmas.C12Regex
/-! The lexer model: UTF-8 boundaries, where the multi-line scanner stops, candidates and the longest match, the token loop. -/
namespace Goml.Lex


theorem utf8_length (c : Char) : (utf8 c).length = utf8Len c := by
  unfold utf8 utf8Len
  simp only
  split
  · rfl
  · split
    · rfl
    · split <;> rfl

theorem utf8Len_pos (c : Char) : 0 < utf8Len c := by
  unfold utf8Len; simp only; split
  · omega
  · split
    · omega
    · split <;> omega

theorem utf8s_length (cs : List Char) : (utf8s cs).length = byteLen cs := by
  induction cs with
  | nil => rfl
  | cons c cs ih => simp [utf8s, byteLen, utf8_length, ih]

theorem byteLen_append (a b : List Char) : byteLen (a ++ b) = byteLen a + byteLen b := by
  induction a with
  | nil => simp [byteLen]
  | cons c cs ih => simp [byteLen, ih]; omega

/-- every byte of a scalar's encoding after the first is a continuation byte -/
theorem utf8_cont (c : Char) (i : Nat) (v : Nat) (h : (utf8 c)[i + 1]? = some v) : 128 ≤ v := by
  have hm : v ∈ (utf8 c).drop 1 := List.mem_of_getElem? (by rw [List.getElem?_drop, Nat.add_comm]; exact h)
  unfold utf8 at hm
  simp only at hm
  split at hm
  · simp at hm
  · split at hm
    · simp at hm; omega
    · split at hm <;> simp at hm <;> omega

/-- a byte `< 128` of the encoding of `cs` starts a scalar: its offset is a char boundary -/
theorem boundary_of_ascii (cs : List Char) (n v : Nat) (h : (utf8s cs)[n]? = some v) (hv : v < 128) :
    ∃ k, charsOfBytes cs n = some k ∧ k ≤ cs.length := by
  induction cs generalizing n with
  | nil => simp [utf8s] at h
  | cons c cs ih =>
    match n with
    | 0 => exact ⟨0, by simp [charsOfBytes], by omega⟩
    | n + 1 =>
      simp only [utf8s] at h
      by_cases hlt : n + 1 < (utf8 c).length
      · rw [List.getElem?_append_left hlt] at h
        have := utf8_cont c n v h
        omega
      · rw [List.getElem?_append_right (by omega)] at h
        obtain ⟨k, hk, hkl⟩ := ih _ h
        rw [utf8_length] at hlt h hk
        refine ⟨k + 1, ?_, by simp; omega⟩
        simp only [charsOfBytes]
        rw [if_pos (by omega), hk]; rfl

theorem charsOfBytes_prefix (a b : List Char) : charsOfBytes (a ++ b) (byteLen a) = some a.length := by
  induction a with
  | nil => cases b <;> simp [charsOfBytes, byteLen]
  | cons c cs ih =>
    have hp := utf8Len_pos c
    simp only [byteLen, List.cons_append]
    obtain ⟨m, hm⟩ : ∃ m, utf8Len c + byteLen cs = m + 1 := ⟨utf8Len c + byteLen cs - 1, by omega⟩
    rw [hm]
    simp only [charsOfBytes]
    rw [if_pos (by omega)]
    have : m + 1 - utf8Len c = byteLen cs := by omega
    rw [this, ih]; rfl

theorem boundary_at_end (cs : List Char) : charsOfBytes cs (byteLen cs) = some cs.length := by
  simpa using charsOfBytes_prefix cs []

/-! ### the multi-line scanner stops on `\n` or at the end -/

theorem scanWhile_le (p : Nat → Bool) (b : List Nat) (i : Nat) (h : i ≤ b.length) :
    scanWhile p b i ≤ b.length := by
  fun_induction scanWhile p b i <;> omega

theorem scanWhile_stop (p : Nat → Bool) (b : List Nat) (i : Nat)
    (h : scanWhile p b i < b.length) : ∃ v, b[scanWhile p b i]? = some v ∧ p v = false := by
  fun_induction scanWhile p b i with
  | case1 i hi hp ih => exact ih h
  | case2 i hi hp => exact ⟨b[i], by simp [hi], by simpa using hp⟩
  | case3 i hi => omega

/-- where `lex_multiline_str` may stop -/
def StopPoint (b : List Nat) (n : Nat) : Prop := n = b.length ∨ b[n]? = some 10

theorem mlLoop_stop (b : List Nat) (c l n : Nat) (hc1 : 1 ≤ c) (hc : c ≤ b.length)
    (hnl : b[c - 1]? = some 10) (h : mlLoop b c l = some n) : StopPoint b n := by
  fun_induction mlLoop b c l with
  -- `ls` is the `lineStart` of the model, definitionally `c`
  | case1 c l ls hge hl => simp at h -- end of input, fewer than two lines
  | case2 c l ls hge hl => -- end of input
    simp only [Option.some.injEq] at h; subst h; left
    have : ls = c := rfl
    omega
  | case3 c l ls hlt idx hbad hl => -- no marker: back to the newline before this line
    simp only [Option.some.injEq] at h; subst h; right; exact hnl
  | case4 c l ls hlt idx hbad hl => simp at h -- no marker, fewer than two lines
  | case5 c l ls hlt idx hok idx2 l' hge hl => simp at h -- the line ends the input, fewer than two lines
  | case6 c l ls hlt idx hok idx2 l' hge hl => -- the line ends the input
    simp only [Option.some.injEq] at h; subst h; left
    have h2 : idx + 2 ≤ b.length := by
      simp only [ge_iff_le, Bool.or_eq_true, decide_eq_true_eq, not_or, Nat.not_le] at hok
      omega
    have h3 : idx2 ≤ b.length := scanWhile_le (fun c => c != 10) b _ h2
    omega
  | case7 c l ls hlt idx hok idx2 l' hlt2 ih => -- on to the next line
    have h1 : c ≤ idx := le_scanWhile (fun c => c == 32 || c == 9) b c
    have h2 : idx + 2 ≤ idx2 := le_scanWhile (fun c => c != 10) b (idx + 2)
    obtain ⟨v, hv, hp⟩ : ∃ v, b[idx2]? = some v ∧ (fun c => c != 10) v = false :=
      scanWhile_stop (fun c => c != 10) b (idx + 2) (by omega)
    have hv10 : v = 10 := by simpa using hp
    subst hv10
    exact ih (by omega) (by omega) (by simpa using hv) h

theorem lexMultilineStr_stop (b : List Nat) (n : Nat) (h : lexMultilineStr b = some n) :
    StopPoint b n := by
  unfold lexMultilineStr at h
  simp only at h
  split at h
  · simp at h
  · rename_i hlt
    obtain ⟨v, hv, hp⟩ := scanWhile_stop (fun c => c != 10) b 0 (by omega)
    have hv10 : v = 10 := by simpa using hp
    subst hv10
    exact mlLoop_stop b _ 1 n (by omega) (by omega) (by simpa using hv) h

/-- the byte count the scanner hands to `bump` is a char boundary of the remainder (`multiline_boundaries`, Props/C12) -/
theorem lexMultilineStr_boundary (cs : List Char) (n : Nat) (h : lexMultilineStr (utf8s cs) = some n) :
    ∃ k, charsOfBytes cs n = some k ∧ k ≤ cs.length := by
  rcases lexMultilineStr_stop _ _ h with he | hn
  · rw [he, utf8s_length]; exact ⟨cs.length, boundary_at_end cs, Nat.le_refl _⟩
  · exact boundary_of_ascii cs n 10 hn (by omega)

/-- `c` is a possible answer of `pickBest init cs`: the start value or a candidate, and no shorter than either. -/
structure Picked (init : Option Cand) (cs : List Cand) (c : Cand) : Prop where
  mem : init = some c ∨ c ∈ cs
  ge_init : ∀ b, init = some b → b.len ≤ c.len
  ge_all : ∀ x ∈ cs, x.len ≤ c.len

theorem pickBest_spec : ∀ (init : Option Cand) (cs : List Cand),
    (∀ c, pickBest init cs = some c → Picked init cs c) ∧ (pickBest init cs = none → init = none ∧ cs = [])
  | init, [] => by
    simp only [pickBest, and_true, imp_self]
    exact fun c hc => ⟨.inl hc, fun b hb => by cases hc ▸ hb; exact Nat.le_refl _, nofun⟩
  | none, x :: xs => by
    have ⟨h1, h2⟩ := pickBest_spec (some x) xs
    simp only [pickBest]
    refine ⟨fun c hc => ?_, fun h => nomatch (h2 h).1⟩
    obtain ⟨hm, hb, hx⟩ := h1 c hc
    refine ⟨.inr (hm.elim (fun h => by cases h; exact List.mem_cons_self) (List.mem_cons_of_mem _)), nofun, ?_⟩
    exact List.forall_mem_cons.2 ⟨hb x rfl, hx⟩
  | some b, x :: xs => by
    have ⟨h1, h2⟩ := pickBest_spec (some (if x.beats b then x else b)) xs
    simp only [pickBest]
    refine ⟨fun c hc => ?_, fun h => nomatch (h2 h).1⟩
    obtain ⟨hm, hb, hx⟩ := h1 c hc
    have hb := hb _ rfl
    have hcmp : b.len ≤ (if x.beats b then x else b).len ∧ x.len ≤ (if x.beats b then x else b).len := by
      unfold Cand.beats
      split <;> rename_i hbe <;>
        simp only [Bool.or_eq_true, decide_eq_true_eq, Bool.and_eq_true, beq_iff_eq, not_or] at hbe <;> omega
    refine ⟨?_, fun b' hb' => by cases hb'; omega, List.forall_mem_cons.2 ⟨by omega, hx⟩⟩
    rcases hm with hm | hm
    · cases hm
      split
      · exact .inr List.mem_cons_self
      · exact .inl rfl
    · exact .inr (List.mem_cons_of_mem _ hm)

theorem isPrefix_iff_take (a s : List Char) : isPrefix a s = true ↔ s.take a.length = a := by
  induction a generalizing s with
  | nil => simp [isPrefix]
  | cons x xs ih =>
    cases s with
    | nil => simp [isPrefix]
    | cons y ys =>
      simp only [isPrefix, Bool.and_eq_true, beq_iff_eq, List.length_cons, List.take_succ_cons,
        List.cons.injEq, ih]
      constructor
      · intro h; exact ⟨h.1.symm, h.2⟩
      · intro h; exact ⟨h.1.symm, h.2⟩

theorem mem_litCands {s : List Char} {c : Cand} : ∀ {lits : List (Nat × List Char)},
    c ∈ litCands s lits ↔ ∃ l ∈ lits, l.2 ≠ [] ∧ isPrefix l.2 s = true ∧
      c = { kind := l.1, len := l.2.length, prio := 2 * byteLen l.2, callback := false }
  | [] => by simp [litCands]
  | (k, lit) :: rest => by
    have ih := mem_litCands (s := s) (c := c) (lits := rest)
    simp only [litCands, List.mem_cons, or_and_right, exists_or, exists_eq_left, ← ih]
    split <;> rename_i h
    · simp only [List.mem_cons, h.1, h.2, ne_eq, not_false_eq_true, true_and]
    · exact ⟨.inr, fun h' => h'.elim (fun h' => absurd ⟨h'.1, h'.2.1⟩ h) id⟩

theorem mem_reCands {s : List Char} {c : Cand} : ∀ {rs : List RegexRule},
    c ∈ reCands s rs ↔ ∃ r ∈ rs, ∃ n, r.re.longest s = some (n + 1) ∧
      c = { kind := r.kind, len := n + 1, prio := r.prio.getD r.re.priority, callback := r.callback.isSome }
  | [] => by simp [reCands]
  | r :: rest => by
    have ih := mem_reCands (s := s) (c := c) (rs := rest)
    simp only [reCands, List.mem_cons, or_and_right, exists_or, exists_eq_left, ← ih]
    split <;> rename_i h
    · simp only [List.mem_cons, h, Option.some.injEq, Nat.succ_eq_add_one, Nat.add_right_cancel_iff, exists_eq_left']
    · exact ⟨.inr, fun h' => h'.elim (fun ⟨n, hn, _⟩ => absurd hn (h n)) id⟩

/-- a rule of the table matches exactly the first `j` scalars of `s` (`j > 0`) -/
def RuleMatches (rules : Rules) (s : List Char) (j : Nat) : Prop :=
  (∃ l ∈ rules.literals, l.2 ≠ [] ∧ l.2.length = j ∧ s.take j = l.2) ∨
  (∃ r ∈ rules.regexes, 0 < j ∧ j ≤ s.length ∧ Re.Matches r.re (Re.word (s.take j)))

theorem best_mem {rules : Rules} {s : List Char} {c : Cand}
    (hc : pickBest none (litCands s rules.literals ++ reCands s rules.regexes) = some c) :
    c ∈ litCands s rules.literals ∨ c ∈ reCands s rules.regexes :=
  List.mem_append.1 (((pickBest_spec _ _).1 c hc).mem.resolve_left nofun)

theorem cand_len {rules : Rules} {s : List Char} {c : Cand}
    (hc : pickBest none (litCands s rules.literals ++ reCands s rules.regexes) = some c) :
    0 < c.len ∧ c.len ≤ s.length := by
  rcases best_mem hc with hm | hm
  · obtain ⟨l, _, hne, hp, rfl⟩ := mem_litCands.1 hm
    have := congrArg List.length ((isPrefix_iff_take _ _).1 hp)
    rw [List.length_take] at this
    exact ⟨List.length_pos_iff.2 hne, by simp only; omega⟩
  · obtain ⟨r, _, n, hl, rfl⟩ := mem_reCands.1 hm
    exact ⟨Nat.succ_pos n, (Re.longest_sound _ _ _ hl).1⟩

theorem cands_complete {rules : Rules} {s : List Char} {j : Nat} (hj : RuleMatches rules s j) :
    ∃ c ∈ litCands s rules.literals ++ reCands s rules.regexes, j ≤ c.len := by
  rcases hj with ⟨l, hl, hne, hlen, htake⟩ | ⟨r, hr, hj0, hjl, hm⟩
  · have hp : isPrefix l.2 s = true := (isPrefix_iff_take _ _).2 (by rw [hlen]; exact htake)
    exact ⟨_, List.mem_append_left _ (mem_litCands.2 ⟨l, hl, hne, hp, rfl⟩), Nat.le_of_eq hlen.symm⟩
  · obtain ⟨m, h1, h2⟩ := Re.longest_max r.re s j hjl hm
    obtain ⟨m', rfl⟩ : ∃ m', m = m' + 1 := ⟨m - 1, by omega⟩
    exact ⟨_, List.mem_append_right _ (mem_reCands.2 ⟨r, hr, m', h1, rfl⟩), h2⟩

theorem best_dominates (rules : Rules) (s : List Char) (c : Cand)
    (hc : pickBest none (litCands s rules.literals ++ reCands s rules.regexes) = some c)
    (j : Nat) (hj : RuleMatches rules s j) : j ≤ c.len := by
  obtain ⟨x, hx, hxl⟩ := cands_complete hj
  exact Nat.le_trans hxl (((pickBest_spec _ _).1 c hc).ge_all x hx)


theorem longestMatch_no_badBump (rules : Rules) (s : List Char) (nb : Nat) :
    longestMatch rules s ≠ .badBump nb := by
  intro h
  unfold longestMatch at h
  split at h
  · simp at h
  · split at h
    · simp only at h
      split at h
      · simp at h
      · rename_i nb' hml
        obtain ⟨k, hk, _⟩ := lexMultilineStr_boundary _ _ hml
        rw [hk] at h
        simp at h
    · simp at h

/-- A token answer `.tok k n` of `longestMatch` on `s` is the best candidate `c`, lengthened by the `j` scalars the multi-line
scanner adds. -/
structure TokAnswer (rules : Rules) (s : List Char) (k n : Nat) (c : Cand) (j : Nat) : Prop where
  best : pickBest none (litCands s rules.literals ++ reCands s rules.regexes) = some c
  kind : k = c.kind
  len : n = c.len + j
  extra : j ≤ s.length - c.len

theorem longestMatch_tok_inv (rules : Rules) (s : List Char) (k n : Nat) (h : longestMatch rules s = .tok k n) :
    ∃ c j, TokAnswer rules s k n c j := by
  unfold longestMatch at h
  split at h
  · cases h
  · rename_i c hc
    split at h
    · simp only at h
      split at h
      · cases h
      · rename_i nb hml
        obtain ⟨j, hj, hjl⟩ := lexMultilineStr_boundary _ _ hml
        rw [hj] at h
        simp only [Step.tok.injEq] at h
        exact ⟨c, j, hc, h.1.symm, h.2.symm, by simpa using hjl⟩
    · simp only [Step.tok.injEq] at h
      exact ⟨c, 0, hc, h.1.symm, h.2.symm, Nat.zero_le _⟩

theorem longestMatch_tok_len (rules : Rules) (s : List Char) (k n : Nat)
    (h : longestMatch rules s = .tok k n) : 0 < n ∧ n ≤ s.length := by
  obtain ⟨c, j, t⟩ := longestMatch_tok_inv rules s k n h
  have := cand_len t.best
  have := t.len
  have := t.extra
  omega

theorem longestMatch_maximal (rules : Rules) (s : List Char) (k n : Nat)
    (h : longestMatch rules s = .tok k n) : ∀ j, RuleMatches rules s j → j ≤ n := by
  intro j hj
  obtain ⟨c, _, t⟩ := longestMatch_tok_inv rules s k n h
  rw [t.len]
  exact Nat.le_trans (best_dominates rules s c t.best j hj) (Nat.le_add_right _ _)

theorem longestMatch_kind_ne (rules : Rules) (s : List Char) (k n : Nat)
    (h : longestMatch rules s = .tok k n)
    (hkinds : (∀ l ∈ rules.literals, l.1 ≠ rules.errorKind) ∧ (∀ r ∈ rules.regexes, r.kind ≠ rules.errorKind)) :
    k ≠ rules.errorKind := by
  obtain ⟨c, _, t⟩ := longestMatch_tok_inv rules s k n h
  rw [t.kind]
  rcases best_mem t.best with hm | hm
  · obtain ⟨l, hl, _, _, rfl⟩ := mem_litCands.1 hm
    exact hkinds.1 l hl
  · obtain ⟨r, hr, _, _, rfl⟩ := mem_reCands.1 hm
    exact hkinds.2 r hr

theorem longestMatch_noMatch (rules : Rules) (s : List Char) (h : longestMatch rules s = .noMatch) :
    (∀ j, ¬ RuleMatches rules s j) ∨
      ∃ r ∈ rules.regexes, r.callback.isSome = true ∧ ∃ j, 0 < j ∧ Re.Matches r.re (Re.word (s.take j)) := by
  unfold longestMatch at h
  split at h
  · rename_i hnone
    left
    intro j hj
    obtain ⟨x, hx, _⟩ := cands_complete hj
    rw [((pickBest_spec _ _).2 hnone).2] at hx
    cases hx
  · rename_i c hc
    split at h
    · rename_i hcb
      right
      rcases best_mem hc with hm | hm
      · obtain ⟨_, _, _, _, rfl⟩ := mem_litCands.1 hm
        cases hcb
      · obtain ⟨r, hr, n, hl, rfl⟩ := mem_reCands.1 hm
        exact ⟨r, hr, hcb, n + 1, Nat.succ_pos n, (Re.longest_sound _ _ _ hl).2⟩
    · simp at h


def textOf (ts : List Tok) : List Char := ts.flatMap (·.text)

theorem textOf_append (a b : List Tok) : textOf (a ++ b) = textOf a ++ textOf b := by
  simp [textOf]

theorem textOf_cons (t : Tok) (ts : List Tok) : textOf (t :: ts) = t.text ++ textOf ts := by
  simp [textOf]

/-- every token is what `longestMatch` answers on the text from the token's start on: a rule token has the kind and
length of the match, an error token stands where nothing matches -/
def Greedy (rules : Rules) (ts : List Tok) : Prop :=
  ∀ (pre : List Tok) (t : Tok) (post : List Tok), ts = pre ++ t :: post →
    longestMatch rules (textOf (t :: post)) = .tok t.kind t.text.length ∨
      (longestMatch rules (textOf (t :: post)) = .noMatch ∧ t.kind = rules.errorKind)

theorem Greedy.nil (rules : Rules) : Greedy rules [] := by
  intro pre t post hp; simp at hp

theorem Greedy.cons {rules : Rules} {t : Tok} {ts : List Tok}
    (ht : longestMatch rules (textOf (t :: ts)) = .tok t.kind t.text.length ∨
      (longestMatch rules (textOf (t :: ts)) = .noMatch ∧ t.kind = rules.errorKind))
    (h : Greedy rules ts) : Greedy rules (t :: ts) := by
  intro pre t' post hp
  cases pre with
  | nil =>
    simp only [List.nil_append, List.cons.injEq] at hp
    obtain ⟨rfl, rfl⟩ := hp
    exact ht
  | cons p pre' =>
    simp only [List.cons_append, List.cons.injEq] at hp
    exact h pre' t' post hp.2

/-- `ts` is a token list the loop can return on `rest` -/
inductive Lexed (rules : Rules) : List Char → List Tok → Prop
  | nil : Lexed rules [] []
  | cons {c : Char} {cs : List Char} {k n : Nat} {ts : List Tok} : 0 < n →
      (longestMatch rules (c :: cs) = .tok k n ∨ (longestMatch rules (c :: cs) = .noMatch ∧ k = rules.errorKind)) →
      Lexed rules ((c :: cs).drop n) ts → Lexed rules (c :: cs) (⟨k, (c :: cs).take n⟩ :: ts)

def Outcome (rules : Rules) (errLen : Nat → Nat) (rest : List Char) : LexResult → Prop
  | .ok ts => Lexed rules rest ts
  | .stuck _ _ => ∃ p, errLen p = 0
  | .panic _ _ => False

theorem lexLoop_outcome (rules : Rules) (errLen : Nat → Nat) : ∀ (fuel pos : Nat) (rest : List Char),
    rest.length < fuel → Outcome rules errLen rest (lexLoop rules errLen fuel pos rest) := by
  intro fuel
  induction fuel with
  | zero => intro pos rest h; omega
  | succ fuel ih =>
    intro pos rest hlen
    cases rest with
    | nil => exact .nil
    | cons c cs =>
      -- a token of `n > 0` scalars in front of what the loop makes of the rest
      have step : ∀ (k n : Nat), 0 < n →
          (longestMatch rules (c :: cs) = .tok k n ∨ (longestMatch rules (c :: cs) = .noMatch ∧ k = rules.errorKind)) →
          Outcome rules errLen (c :: cs)
            ((lexLoop rules errLen fuel (pos + n) ((c :: cs).drop n)).cons ⟨k, (c :: cs).take n⟩) := by
        intro k n hn hm
        have := ih (pos + n) ((c :: cs).drop n) (by simp only [List.length_drop, List.length_cons] at *; omega)
        cases hr : lexLoop rules errLen fuel (pos + n) ((c :: cs).drop n) with
        | ok ts => rw [hr] at this; exact .cons hn hm this
        | stuck a b => rw [hr] at this; exact this
        | panic a b => rw [hr] at this; exact this
      simp only [lexLoop]
      cases hm : longestMatch rules (c :: cs) with
      | tok k n =>
        have hn := (longestMatch_tok_len _ _ _ _ hm).1
        simp only [if_neg (Nat.ne_of_gt hn)]
        exact step k n hn (.inl hm)
      | noMatch =>
        by_cases hn : errLen pos = 0
        · simp only [hn, if_true]; exact ⟨pos, hn⟩
        · simp only [if_neg hn]; exact step _ _ (Nat.pos_of_ne_zero hn) (.inr ⟨hm, rfl⟩)
      | badBump nb => exact absurd hm (longestMatch_no_badBump _ _ _)

theorem lexLoop_lexed {rules : Rules} {errLen : Nat → Nat} {fuel pos : Nat} {rest : List Char} {ts : List Tok}
    (hf : rest.length < fuel) (h : lexLoop rules errLen fuel pos rest = .ok ts) : Lexed rules rest ts := by
  have := lexLoop_outcome rules errLen fuel pos rest hf; rw [h] at this; exact this

theorem lexLoop_ok (rules : Rules) (errLen : Nat → Nat) (he : ∀ p, 0 < errLen p) (fuel pos : Nat) (rest : List Char)
    (hf : rest.length < fuel) : ∃ ts, lexLoop rules errLen fuel pos rest = .ok ts := by
  have := lexLoop_outcome rules errLen fuel pos rest hf
  cases hr : lexLoop rules errLen fuel pos rest with
  | ok ts => exact ⟨ts, rfl⟩
  | stuck a b => rw [hr] at this; obtain ⟨p, hp⟩ := this; have := he p; omega
  | panic a b => rw [hr] at this; exact this.elim

theorem Lexed.text_eq {rules : Rules} {rest : List Char} {ts : List Tok} (h : Lexed rules rest ts) : textOf ts = rest := by
  induction h with
  | nil => rfl
  | cons _ _ _ ih => rw [textOf_cons, ih]; exact List.take_append_drop _ _

theorem Lexed.nonempty {rules : Rules} {rest : List Char} {ts : List Tok} (h : Lexed rules rest ts) :
    ∀ t ∈ ts, t.text ≠ [] := by
  induction h with
  | nil => simp
  | @cons c cs k n ts hn _ _ ih =>
    intro t ht
    rcases List.mem_cons.1 ht with rfl | ht
    · obtain ⟨m, rfl⟩ : ∃ m, n = m + 1 := ⟨n - 1, by omega⟩
      simp
    · exact ih t ht

theorem Lexed.greedy {rules : Rules} {rest : List Char} {ts : List Tok} (h : Lexed rules rest ts) : Greedy rules ts := by
  induction h with
  | nil => exact .nil rules
  | @cons c cs k n ts hn hm hts ih =>
    refine .cons ?_ ih
    have htext : textOf (⟨k, (c :: cs).take n⟩ :: ts) = c :: cs := (Lexed.cons hn hm hts).text_eq
    rw [htext]
    rcases hm with hm | hm
    · left; rw [hm]; simp only [List.length_take, Nat.min_eq_left (longestMatch_tok_len _ _ _ _ hm).2]
    · exact .inr hm

theorem tiles_of_nonempty (ts : List Tok) (h : ∀ t ∈ ts, t.text ≠ []) (off : Nat) :
    Tiles off (ranges off ts) (off + byteLen (textOf ts)) := by
  induction ts generalizing off with
  | nil => simp [ranges, Tiles, textOf, byteLen]
  | cons t ts ih =>
    simp only [ranges, Tiles, textOf_cons, byteLen_append, true_and]
    have hpos : 0 < byteLen t.text := by
      cases ht : t.text with
      | nil => exact absurd ht (h t (by simp))
      | cons c cs => have := utf8Len_pos c; simp only [byteLen]; omega
    refine ⟨by omega, ?_⟩
    have := ih (fun t' ht' => h t' (List.mem_cons_of_mem _ ht')) (off + byteLen t.text)
    rw [Nat.add_assoc] at this
    exact this

theorem range_ends_are_boundaries (ts : List Tok) (pre : List Char) :
    ∀ r ∈ ranges (byteLen pre) ts, ∃ k, charsOfBytes (pre ++ textOf ts) r.2 = some k := by
  induction ts generalizing pre with
  | nil => intro r hr; simp [ranges] at hr
  | cons t ts ih =>
    intro r hr
    simp only [ranges] at hr
    rcases List.mem_cons.1 hr with rfl | hr
    · refine ⟨(pre ++ t.text).length, ?_⟩
      simp only
      rw [textOf_cons, ← List.append_assoc, ← byteLen_append]
      exact charsOfBytes_prefix _ _
    · have := ih (pre ++ t.text) r (by rw [byteLen_append]; exact hr)
      rw [textOf_cons, ← List.append_assoc]
      exact this

end Goml.Lex
