import GomlVerif.Lemmas.AnfSim
/-!
The simulation node by node.  A node rewrites the source with its `ev_…` rule, the target with the same rule at an atom,
and applies `Sim.bind_ret` / `Sim.bind2` to what holds of its parts; no node looks at the direction.
-/
namespace Goml.Anf
open Goml Goml.Sem

variable {P : Prog} {d : Dir}

theorem sim_var (x : String) (ty : Ty) : SimE P d (.var x ty) := fun n N D ρ ρ' w hy ha =>
  Sim.of_iff fun r => by
    show Ev P (.var x ty) ρ w r ↔ RB (EvB P [] ρ' w) (fun ρ1 w1 => Ev P (.var x ty) ρ1 w1) r
    rw [rb_evB_nil, ev_var, ev_var, lookupVal_congr (ha x (hy.dis x (by simp [names])))]

theorem sim_prim (p : Prim) : SimE P d (.prim p) := fun n N D ρ ρ' w _ _ =>
  Sim.of_iff fun r => by
    show Ev P (.prim p) ρ w r ↔ RB (EvB P [] ρ' w) (fun ρ1 w1 => Ev P (.prim p) ρ1 w1) r
    rw [rb_evB_nil, ev_prim, ev_prim]

theorem sim_un {op : UnOp} {ty : Ty} {e : Expr} (he : SimE P d e) : SimE P d (.un op ty e) :=
  sim_op1 (mk1 := fun i => .un op ty i) he (fun _ => rfl) (by simp [frag]) (by simp [names])
    (fun _ _ _ => ev_un) (fun _ _ _ _ => ev_un)

theorem sim_cget {c : Ctor} {idx : Nat} {ty : Ty} {e : Expr} (he : SimE P d e) : SimE P d (.cget c idx ty e) :=
  sim_op1 (mk1 := fun i => .cget c idx ty i) he (fun _ => rfl) (by simp [frag]) (by simp [names])
    (fun _ _ _ => ev_cget) (fun _ _ _ _ => ev_cget)

theorem sim_proj {idx : Nat} {ty : Ty} {e : Expr} (he : SimE P d e) : SimE P d (.proj idx ty e) :=
  sim_op1 (mk1 := fun i => .proj idx ty i) he (fun _ => rfl) (by simp [frag]) (by simp [names])
    (fun _ _ _ => ev_proj) (fun _ _ _ _ => ev_proj)

theorem sim_toDyn {tr : String} {forTy ty : Ty} {e : Expr} (he : SimE P d e) : SimE P d (.toDyn tr forTy ty e) :=
  sim_op1 (mk1 := fun i => .toDyn tr forTy ty i) he (fun _ => rfl) (by simp [frag]) (by simp [names])
    (fun _ _ _ => ev_toDyn) (fun _ _ _ _ => ev_toDyn)

theorem sim_go {e : Expr} (he : SimE P d e) : SimE P d (.go e) :=
  sim_op1 (mk1 := fun i => .go i) he (fun _ => rfl) (by simp [frag]) (by simp [names])
    (fun _ _ _ => ev_go) (fun _ _ _ _ => ev_go)

theorem sim_tuple {ty : Ty} {items : List Expr} (hL : SimL P d items) : SimE P d (.tuple ty items) :=
  sim_ops (mk := fun cs => .tuple ty cs) (H := fun vs w r => r = .ok (.tuple vs) w) hL
    (fun _ => ⟨rfl, rfl, rfl⟩) (fun _ _ _ => hyp_tuple)
    (fun _ _ => Sim.of_iff fun _ => ev_tuple) (fun _ _ _ => Sim.of_iff fun _ => ev_tuple.symm)

theorem sim_array {ty : Ty} {items : List Expr} (hL : SimL P d items) : SimE P d (.array ty items) :=
  sim_ops (mk := fun cs => .array ty cs) (H := fun vs w r => r = .ok (.array vs) w) hL
    (fun _ => ⟨rfl, rfl, rfl⟩) (fun _ _ _ => hyp_array)
    (fun _ _ => Sim.of_iff fun _ => ev_array) (fun _ _ _ => Sim.of_iff fun _ => ev_array.symm)

theorem sim_constr {c : Ctor} {ty : Ty} {args : List Expr}
    (h : ∀ tn vn idx, c = .enum tn vn idx → args ≠ []) (hL : SimL P d args) : SimE P d (.constr c ty args) :=
  sim_ops (mk := fun cs => .constr c ty cs) (H := fun vs w r => r = .ok (mkCtor c vs) w) hL
    (fun _ => by rw [dec_constr_general h]; exact ⟨rfl, rfl, rfl⟩) (fun _ _ _ => hyp_constr h)
    (fun _ _ => Sim.of_iff fun _ => ev_constr) (fun _ _ _ => Sim.of_iff fun _ => ev_constr.symm)

theorem sim_constr_nullary {tn vn : String} {idx : Nat} {ty : Ty} : SimE P d (.constr (.enum tn vn idx) ty []) := by
  intro n N D ρ ρ' w hy _
  have hf := hy.frag
  simp only [frag, fragList, Bool.and_true, beq_iff_eq] at hf
  refine Sim.of_iff fun r => ?_
  show Ev P (.constr (.enum tn vn idx) ty []) ρ w r ↔ RB (EvB P [] ρ' w) (fun ρ1 w1 => Ev P (.tag idx ty) ρ1 w1) r
  rw [rb_evB_nil, ev_constr, rb_evL_nil, ev_tag, hf]; rfl

/-- the `[]` row of `mk` is never reached -/
theorem sim_call {ty : Ty} {f : Expr} {args : List Expr} (hL : SimL P d (f :: args)) : SimE P d (.call ty f args) :=
  sim_ops (mk := fun cs => match cs with | fi :: is => .call ty fi is | [] => .prim .unit) (H := callH P) hL
    (fun _ => ⟨rfl, rfl, rfl⟩) (fun _ _ _ => hyp_call)
    (fun _ _ => Sim.of_iff fun _ => ev_call_ops) (fun _ _ _ => Sim.of_iff fun _ => ev_call_ops.symm)

/-- the source checks the receiver before it evaluates the arguments, the target after: they differ only where the
    source goes wrong -/
theorem dyn_src {tr m : String} {ty : Ty} {recv : Expr} {args : List Expr} {ρ : Env} {w : World} :
    Sim d (Ev P (.dynCall tr m ty recv args) ρ w) (RB (EvL P (recv :: args) ρ w) (dynH P tr m)) := by
  refine Sim.iff (fun _ => ev_dynCall)
    (fun _ => (rb_first_list (K := fun v as w' r => dynHead P tr m v as w' r)).symm) (Sim.bind_right fun v w1 _ => ?_)
  cases hd : isDynVal v
  · exact Sim.of_stuck fun _ => dynK_of_not_dyn hd
  · exact Sim.of_iff fun _ => dynK_of_dyn hd

theorem sim_dynCall {tr m : String} {ty : Ty} {recv : Expr} {args : List Expr} (hL : SimL P d (recv :: args)) :
    SimE P d (.dynCall tr m ty recv args) :=
  sim_ops (mk := fun cs => match cs with | ri :: is => .dynCall tr m ty ri is | [] => .prim .unit)
    (H := dynH P tr m) hL (fun _ => ⟨rfl, rfl, rfl⟩) (fun _ _ _ => hyp_dynCall) (fun _ _ => dyn_src)
    (fun n _ _ => Sim.of_iff fun _ => (dyn_tgt (decImm_c_atom recv n) (decList_cs_atoms args _)).symm)

theorem plain_cases {op : BinOp} {r : Expr} (hc : ((op == .and || op == .or) && !trivialRhs r) = false) :
    isAtom r = true ∨ (op ≠ .and ∧ op ≠ .or) := by
  cases hr : isAtom r
  · have hn := mt (lowered_iff (op := op) (r := r)).2 (by rw [hc]; simp)
    exact Or.inr ⟨fun h => hn ⟨Or.inl h, hr⟩, fun h => hn ⟨Or.inr h, hr⟩⟩
  · exact Or.inl rfl

theorem sim_bin_plain {op : BinOp} {ty : Ty} {l r : Expr}
    (hc : ((op == .and || op == .or) && !trivialRhs r) = false) (hL : SimL P d [l, r]) : SimE P d (.bin op ty l r) :=
  sim_ops (mk := fun cs => match cs with | [li, ri] => .bin op ty li ri | _ => .prim .unit) (H := binH op) hL
    (dec_bin_plain hc) (fun _ _ _ => hyp_bin_plain hc) (fun _ _ => Sim.of_iff fun _ => ev_bin_ops (plain_cases hc))
    (fun _ _ _ => Sim.of_iff fun _ => (ev_bin_ops (Or.inl (decImm_c_atom r _))).symm)

theorem sim_letE {x : String} {v b : Expr} (hv : SimE P d v) (hb : SimE P d b) : SimE P d (.letE x v b) := by
  intro n N D ρ ρ' w hy ha
  obtain ⟨hyv, hyb⟩ := hyp_letE hy
  rw [dec_letE]
  refine Sim.iff (fun _ => ev_letE) (fun _ => rb_evB_append.trans (rb_congr fun _ _ _ => rb_evB_cons)) ?_
  exact Sim.bind2 (hv n N D ρ ρ' w hyv ha) fun ρ1 w0 vv w1 h1 _ =>
    hb _ N _ _ _ w1 hyb ((evB_agree h1 ha).cons x vv)

theorem sim_ite {c t e : Expr} (hc : SimE P d c) (ht : SimE P d t) (he : SimE P d e) : SimE P d (.ite c t e) := by
  intro n N D ρ ρ' w hy ha
  obtain ⟨hyc, hyt, hye⟩ := hyp_ite hy
  rw [dec_ite]
  refine Sim.iff (fun _ => ev_ite) (fun _ => rb_congr fun _ _ _ => ev_ite.trans (rb_atom (decImm_c_atom c n))) ?_
  refine Sim.bind_ret (sim_imm hc n N D ρ ρ' w hyc ha) fun ρ1 w1 h1 => ?_
  have ha1 := evB_agree h1 ha
  exact sim_iteK (sim_top ht _ N _ _ _ w1 hyt ha1) (sim_top he _ N _ _ _ w1 hye ha1)

theorem sim_while {c b : Expr} (hc : SimE P d c) (hb : SimE P d b) : SimE P d (.while c b) := by
  intro n N D ρ ρ' w hy ha
  obtain ⟨hyc, hyb⟩ := hyp_while hy
  rw [dec_while]
  refine Sim.iff (fun _ => Iff.rfl) (fun _ => rb_evB_nil) ?_
  exact sim_while_congr (fun w => sim_top hc n N D ρ ρ' w hyc ha) (fun w => sim_top hb _ N D ρ ρ' w hyb ha) w

theorem and_true_res (b : Val) (w : World) :
    exceptRes (binop .and (.bool true) b) w = .ok b w ∨ Stuck (exceptRes (binop .and (.bool true) b) w) := by
  cases b <;> simp [binop, exceptRes]

theorem or_false_res (b : Val) (w : World) :
    exceptRes (binop .or (.bool false) b) w = .ok b w ∨ Stuck (exceptRes (binop .or (.bool false) b) w) := by
  cases b <;> simp [binop, exceptRes]

/-- once the left operand has the value `a`: what `&&` does next in the source, the `if` does in the target -/
theorem sim_and {r r' : Expr} {ρ ρ1 : Env} {a : Val} {w : World} (hr : Sim d (Ev P r ρ w) (Ev P r' ρ1 w)) :
    Sim d (binK P .and r ρ a w) (iteK P r' (.prim (.bool false)) ρ1 a w) := by
  cases a with
  | bool bv =>
    cases bv with
    | false => exact Sim.of_iff fun x => by simp only [binK, scVal, iteK, ev_prim, primVal]
    | true => exact (Sim.filter and_true_res).trans hr
  | _ =>
    -- the message is `Sem.eval`'s, at `logicalNonBool`
    refine Sim.of_stuck (s := "logical operator on a non-boolean") (w := w) fun x => ?_
    simp [binK, scVal, logicalNonBool, binOp_beq]

theorem sim_or {r r' : Expr} {ρ ρ1 : Env} {a : Val} {w : World} (hr : Sim d (Ev P r ρ w) (Ev P r' ρ1 w)) :
    Sim d (binK P .or r ρ a w) (iteK P (.prim (.bool true)) r' ρ1 a w) := by
  cases a with
  | bool bv =>
    cases bv with
    | true => exact Sim.of_iff fun x => by simp only [binK, scVal, iteK, ev_prim, primVal]
    | false => exact (Sim.filter or_false_res).trans hr
  | _ =>
    refine Sim.of_stuck (s := "logical operator on a non-boolean") (w := w) fun x => ?_
    simp [binK, scVal, logicalNonBool, binOp_beq]

/-- `a && b` / `a || b` with a complex right operand: lowered to `if` -/
theorem sim_bin_lowered {op : BinOp} {ty : Ty} {l r : Expr}
    (hc : ((op == .and || op == .or) && !trivialRhs r) = true) (hl : SimE P d l) (hr : SimE P d r) :
    SimE P d (.bin op ty l r) := by
  intro n N D ρ ρ' w hy ha
  obtain ⟨hyl, hyr⟩ := hyp_lowered hc hy
  obtain ⟨hop, hat⟩ := lowered_iff.1 hc
  have hr' : ∀ ρ1 w1, EvB P (decImm l n).L ρ' w (.ok ρ1 w1) →
      Sim d (Ev P r ρ w1) (Ev P (anf r (decImm l n).n ret).1 ρ1 w1) :=
    fun ρ1 w1 h1 => sim_top hr _ N _ ρ ρ1 w1 hyr (evB_agree h1 ha)
  rcases hop with rfl | rfl
  · rw [dec_and_lowered hat]
    refine Sim.iff (fun _ => ev_bin) (fun _ => rb_congr fun _ _ _ => ev_ite.trans (rb_atom (decImm_c_atom l n))) ?_
    exact Sim.bind_ret (sim_imm hl n N D ρ ρ' w hyl ha) fun ρ1 w1 h1 => sim_and (hr' ρ1 w1 h1)
  · rw [dec_or_lowered hat]
    refine Sim.iff (fun _ => ev_bin) (fun _ => rb_congr fun _ _ _ => ev_ite.trans (rb_atom (decImm_c_atom l n))) ?_
    exact Sim.bind_ret (sim_imm hl n N D ρ ρ' w hyl ha) fun ρ1 w1 h1 => sim_or (hr' ρ1 w1 h1)

theorem simD_none : SimD P d none := fun _ _ _ _ _ _ _ _ _ =>
  Sim.of_iff fun _ => evA_nil_none.trans evA_nil_none.symm

theorem simD_some {e : Expr} (he : SimE P d e) : SimD P d (some e) := fun n N D ρ ρ' w _ hy ha =>
  Sim.iff (fun _ => evA_nil_some) (fun _ => evA_nil_some) (sim_top he n N D ρ ρ' w (hypD_some hy) ha)

theorem simA_nil : SimA P d [] := fun _ hd n N D ρ ρ' w v hy ha => hd n N D ρ ρ' w v (hypA_nil hy) ha

theorem simA_cons {lhs body : Expr} {rest : List Arm} (hb : SimE P d body) (hr : SimA P d rest) :
    SimA P d (.mk lhs body :: rest) := by
  intro dflt hd n N D ρ ρ' w v hy ha
  obtain ⟨hyb, hyr⟩ := hypA_cons hy
  rw [anfArms_cons]
  refine Sim.iff (fun _ => evA_cons) (fun _ => evA_cons) ?_
  rw [armMatches_armHead]
  split
  · exact sim_top hb n N D ρ ρ' w hyb ha
  · exact hr dflt hd _ N D ρ ρ' w v hyr ha

theorem sim_matchE {ty : Ty} {s : Expr} {arms : List Arm} {dflt : Option Expr}
    (hs : SimE P d s) (hA : SimA P d arms) (hD : SimD P d dflt) : SimE P d (.matchE ty s arms dflt) := by
  intro n N D ρ ρ' w hy ha
  obtain ⟨hys, hyA⟩ := hyp_matchE hy
  rw [dec_matchE]
  refine Sim.iff (fun _ => ev_matchE) (fun _ => rb_congr fun _ _ _ => ev_matchE.trans (rb_atom (decImm_c_atom s n))) ?_
  exact Sim.bind_ret (sim_imm hs n N D ρ ρ' w hys ha) fun ρ1 w1 h1 =>
    hA dflt hD _ N _ ρ ρ1 w1 _ hyA (evB_agree h1 ha)

mutual
theorem sim (d : Dir) : ∀ (e : Expr), SimE P d e
  | .var x ty => sim_var x ty
  | .prim p => sim_prim p
  | .tag _ _ | .closure _ _ _ | .traitCall _ _ _ _ _ => fun _ _ _ _ _ _ hy => by have := hy.frag; simp [frag] at this
  | .constr (.enum tn vn idx) ty [] => sim_constr_nullary
  | .constr (.struct sn) ty [] => sim_constr (fun _ _ _ h => by cases h) (simL d [])
  | .constr c ty (a :: as) => sim_constr (fun _ _ _ _ => by simp) (simL d (a :: as))
  | .tuple ty items => sim_tuple (simL d items)
  | .array ty items => sim_array (simL d items)
  | .letE x v b => sim_letE (sim d v) (sim d b)
  | .ite c t e => sim_ite (sim d c) (sim d t) (sim d e)
  | .while c b => sim_while (sim d c) (sim d b)
  | .go e => sim_go (sim d e)
  | .matchE ty s arms dflt => sim_matchE (sim d s) (simA d arms) (simD d dflt)
  | .cget c idx ty e => sim_cget (sim d e)
  | .un op ty e => sim_un (sim d e)
  | .bin op ty l r => by
    cases hc : ((op == .and || op == .or) && !trivialRhs r)
    -- `[l, r]` is not a part of the node, so `simL d [l, r]` would not be a structural call: built by hand
    · exact sim_bin_plain hc (simL_cons (sim_imm (sim d l)) (simL_cons (sim_imm (sim d r)) simL_nil))
    · exact sim_bin_lowered hc (sim d l) (sim d r)
  | .call ty f args => sim_call (simL_cons (sim_imm (sim d f)) (simL d args))
  | .toDyn tr forTy ty e => sim_toDyn (sim d e)
  | .dynCall tr m ty recv args => sim_dynCall (simL_cons (sim_imm (sim d recv)) (simL d args))
  | .proj idx ty e => sim_proj (sim d e)
termination_by structural e => e
theorem simL (d : Dir) : ∀ (es : List Expr), SimL P d es
  | [] => simL_nil
  | e :: rest => simL_cons (sim_imm (sim d e)) (simL d rest)
termination_by structural es => es
theorem simA (d : Dir) : ∀ (arms : List Arm), SimA P d arms
  | [] => simA_nil
  | .mk _ body :: rest => simA_cons (sim d body) (simA d rest)
termination_by structural arms => arms
theorem simD (d : Dir) : ∀ (dflt : Option Expr), SimD P d dflt
  | none => simD_none
  | some e => simD_some (sim d e)
termination_by structural dflt => dflt
end

variable (P)

theorem fw : ∀ (e : Expr), FW P e := fun e n N D ρ ρ' w r hy ha => sim .fwd e n N D ρ ρ' w hy ha r

theorem bw : ∀ (e : Expr), BW P e := fun e n N D ρ ρ' w r hy ha => sim .bwd e n N D ρ ρ' w hy ha r

theorem fwL : ∀ (es : List Expr), FWL P es := fun es n N D ρ ρ' w r hy ha => simL .fwd es n N D ρ ρ' w hy ha r

theorem fwD : ∀ (d : Option Expr), FWD P d := fun d n N D ρ ρ' w v r hy ha => simD .fwd d n N D ρ ρ' w v hy ha r

theorem fwA : ∀ (arms : List Arm), FWA P arms := fun arms d hd n N D ρ ρ' w v r hy ha =>
  simA .fwd arms d (fun n N D ρ ρ' w v hy ha r => hd n N D ρ ρ' w v r hy ha) n N D ρ ρ' w v hy ha r

theorem bwL : ∀ (es : List Expr), BWL P es := fun es n N D ρ ρ' w _ hy ha h =>
  simL .bwd es n N D ρ ρ' w hy ha _ (rb_listRes P h)

theorem bwD : ∀ (d : Option Expr), BWD P d := fun d n N D ρ ρ' w v r hy ha => simD .bwd d n N D ρ ρ' w v hy ha r

theorem bwA : ∀ (arms : List Arm), BWA P arms := fun arms d hd n N D ρ ρ' w v r hy ha =>
  simA .bwd arms d (fun n N D ρ ρ' w v hy ha r => hd n N D ρ ρ' w v r hy ha) n N D ρ ρ' w v hy ha r

theorem fw_ops {e : Expr} {ops : List Expr} {H : List Val → World → Res Val → Prop} {mk : List Expr → Expr}
    (hL : FWL P ops)
    (hdec : ∀ n, (dec e n).L = (decList ops n).L ∧ (dec e n).c = mk (decList ops n).cs ∧ (dec e n).n = (decList ops n).n)
    (hhyp : ∀ D n N, Hyp D e n N → HypL D ops n N)
    (hsrc : ∀ ρ w r, Ev P e ρ w r → ¬Stuck r → RB (EvL P ops ρ w) H r)
    (htgt : ∀ n ρ w r, RB (EvL P (decList ops n).cs ρ w) H r → Ev P (mk (decList ops n).cs) ρ w r) :
    FW P e := fun n N D ρ ρ' w r hy ha =>
  sim_ops (d := .fwd) (fun n N D ρ ρ' w hy ha r => hL n N D ρ ρ' w r hy ha) hdec hhyp (fun ρ w r => hsrc ρ w r)
    (fun n ρ w r h _ => htgt n ρ w r h) n N D ρ ρ' w hy ha r

theorem bw_ops {e : Expr} {ops : List Expr} {H : List Val → World → Res Val → Prop} {mk : List Expr → Expr}
    (hL : BWL P ops)
    (hdec : ∀ n, (dec e n).L = (decList ops n).L ∧ (dec e n).c = mk (decList ops n).cs ∧ (dec e n).n = (decList ops n).n)
    (hhyp : ∀ D n N, Hyp D e n N → HypL D ops n N)
    (hsrc : ∀ ρ w r, RB (EvL P ops ρ w) H r → Ev P e ρ w r ∨ Wrong P e ρ w)
    (htgt : ∀ n ρ w r, Ev P (mk (decList ops n).cs) ρ w r → RB (EvL P (decList ops n).cs ρ w) H r) :
    BW P e := fun n N D ρ ρ' w r hy ha =>
  sim_ops (d := .bwd)
    (fun n N D ρ ρ' w hy ha r hr => by
      rcases hr with ⟨f, w', h, rfl⟩ | ⟨ρ1, w1, h, rfl⟩
      · exact hL n N D ρ ρ' w _ hy ha h
      · exact hL n N D ρ ρ' w _ hy ha h)
    hdec hhyp (fun ρ w r => hsrc ρ w r) (fun n ρ w r h => Or.inl (htgt n ρ w r h)) n N D ρ ρ' w hy ha r

end Goml.Anf
