import GomlVerif.Lemmas.PipeMonoSim
import GomlVerif.Props.C08
import GomlVerif.Props.C09
import GomlVerif.Props.Dce
import GomlVerif.Props.GoCompile
import GomlVerif.Lemmas.PipeBack
/-!
Pipeline composition: adapters between the shapes of the per-pass theorems.

* mono (`MonoSim.run_definite`): lock-step, same fuel, equality of `Sem.run` outcomes;
* lift (`Lift.lift_preserves_partial`): "status ok or panic" ⇒ ∃ fuel′ ∀ m ≥ fuel′, equality;
* anf (`C09.anf_run_preserves_partial`): `NF` ∧ `¬Stuck` of the `apply` result ⇒ ∃ m, equality.

All three are brought to the form `Definite (run fuel P) → ∃ m₀, ∀ m ≥ m₀, run m P' = run fuel P`
(`Reproduces`).  That, and the two hypotheses about the back end (`CompileSim`, `DceFileSim`), are one statement about
two fuel-indexed runs (`Repro`), which composes by transitivity.
-/
namespace Goml.Pipeline
open Goml Goml.Sem

/-- a run that ends normally or with a panic (neither out of fuel nor stuck) -/
def Definite (o : Outcome) : Prop := o.status = "ok" ∨ ∃ k, o.status = "panic:" ++ k

/-- every definite run of `main` in `P` is reproduced by `P'`, outcome for outcome (stdout, way of
    ending, extern events), for every sufficiently large fuel and under either `go` schedule -/
def Reproduces (P P' : Prog) : Prop :=
  ∀ (fuel : Nat) (eager : Bool), Definite (run fuel P "main" eager) →
    ∃ m0, ∀ m, m0 ≤ m → run m P' "main" eager = run fuel P "main" eager

/-- Every definite outcome of the run `f` is an outcome of the run `g`, under the same schedule.  `CompileSim` and
    `DceFileSim` below are this by definition, `Reproduces` by `reproduces_iff`. -/
def Repro (f g : Nat → Bool → Outcome) : Prop :=
  ∀ fuel eager, Definite (f fuel eager) → ∃ m, g m eager = f fuel eager

theorem Repro.trans {f g h : Nat → Bool → Outcome} (h1 : Repro f g) (h2 : Repro g h) : Repro f h := by
  intro fuel eager hd
  obtain ⟨m1, e1⟩ := h1 fuel eager hd
  obtain ⟨m2, e2⟩ := h2 m1 eager (e1 ▸ hd)
  exact ⟨m2, e2.trans e1⟩

/-! ### definite runs are stable under more fuel -/

theorem good_nf {r : Res Val} (h : Lift.Good r) : NF r ∧ ¬Anf.Stuck r := by
  cases r with
  | ok v w => exact ⟨trivial, fun h => h⟩
  | fail f w =>
    cases f with
    | panic k => exact ⟨trivial, fun h => h⟩
    | fuel => exact h.elim
    | stuck s => exact h.elim

theorem definite_good {Q : Prog} {fuel : Nat} {entry : String} {eager : Bool}
    (h : Definite (run fuel Q entry eager)) : Lift.Good (apply fuel Q { eager := eager } (.fn entry) []) := by
  rw [Sem.run_eq] at h
  exact Lift.good_of_status h

theorem run_stable {Q : Prog} {fuel : Nat} {entry : String} {eager : Bool}
    (h : Definite (run fuel Q entry eager)) {m : Nat} (hm : fuel ≤ m) :
    run m Q entry eager = run fuel Q entry eager := by
  have hn := (good_nf (definite_good h)).1
  rw [Sem.run_eq, Sem.run_eq, apply_mono hm rfl hn]

/-- for `Sem` runs "for some fuel" and "for every sufficiently large fuel" say the same -/
theorem reproduces_iff {P P' : Prog} :
    Reproduces P P' ↔ Repro (fun n e => run n P "main" e) (fun n e => run n P' "main" e) := by
  refine ⟨fun h fuel eager hd => ?_, fun h fuel eager hd => ?_⟩
  · obtain ⟨m0, hm⟩ := h fuel eager hd
    exact ⟨m0, hm m0 (Nat.le_refl _)⟩
  · obtain ⟨m, e⟩ := h fuel eager hd
    simp only at e
    exact ⟨m, fun k hk => (run_stable (by rw [e]; exact hd) hk).trans e⟩

theorem Reproduces.trans {P Q R : Prog} (h1 : Reproduces P Q) (h2 : Reproduces Q R) : Reproduces P R :=
  reproduces_iff.2 ((reproduces_iff.1 h1).trans (reproduces_iff.1 h2))

theorem mono_link {c : MonoSim.Cx} (hok : MonoSim.monoOk c = true) : Reproduces c.P c.P' :=
  reproduces_iff.2 fun fuel eager hd => ⟨fuel, MonoSim.run_definite hok fuel eager hd⟩

/-- lift: `lift_preserves_partial` (C08) has this shape already -/
theorem lift_link (env : Lift.Env) (p : Prog) (h : Lift.DirectFlow env p = true) :
    Reproduces p (Lift.liftProg env p) :=
  fun fuel eager hd => Lift.lift_preserves_partial env p h fuel eager hd

/-- anf: `anf_run_preserves_partial` (C09) gives one fuel; stability gives all larger ones -/
theorem anf_link (P : Prog) (n : Nat) (h : C09.FileInAnfFragment P n) : Reproduces P (Anf.anfProg P n) :=
  reproduces_iff.2 fun fuel eager hd =>
    let ⟨hn, hs⟩ := good_nf (definite_good hd)
    C09.anf_run_preserves_partial P n h "main" eager fuel hn hs

theorem stages_spec {i : PipeIn} {s : Stages} (h : stages i = some s) :
    s.mono.fns = s.monoOut.fns ∧ s.mono.impls = i.prog.impls ∧
    s.lift = Lift.liftProg s.env s.mono ∧ s.anf = Anf.anfProg s.lift s.gensym ∧
    s.gensym = (Lift.liftFile s.env s.mono.fns).2.gensym ∧ s.env = liftEnv i s.monoOut ∧
    Mono.mono monoFuel tyFuel i.enums i.structs i.prog.fns = some s.monoOut ∧ s.monoOut.err = none ∧
    s.pairs = monoPairs i.prog.fns := by
  unfold stages at h
  split at h
  · cases h
  · rename_i o ho
    split at h
    · cases h
    · rename_i he
      simp only [Option.some.injEq] at h
      subst h
      exact ⟨rfl, rfl, rfl, rfl, rfl, rfl, ho, he, rfl⟩

theorem lift_anf_link {i : PipeIn} {s : Stages} (h : stages i = some s) (hl : Lift.DirectFlow s.env s.mono = true)
    (ha : C09.FileInAnfFragment s.lift s.gensym) : Reproduces s.mono s.lift ∧ Reproduces s.lift s.anf := by
  obtain ⟨_, _, hlift, hanf, _⟩ := stages_spec h
  exact ⟨by rw [hlift]; exact lift_link s.env s.mono hl, by rw [hanf]; exact anf_link s.lift s.gensym ha⟩

theorem fragAnf_eq (s : Stages) : fragAnf s = Anf.allInFragment s.lift s.gensym := rfl

/-! ### the back half: Go generation and dead-code elimination -/
open Goml.Go

/-- **The hypothesis about `go/compile.rs`** (statement lowering ANF → Go AST) in `end_to_end_partial`;
    `compileSim_of_fragGo` proves it for the model `Model/GoCompile.lean` on its fragment.  `compile` is the model of
    `go::compile::go_file` without its final `eliminate_dead_vars`, `A` the ANF program (the one instance is the constant
    function `fun _ => b.pre`: the Go file is computed from the annotated file, not from `A`).  Shape: `Repro` with `Go.Sem`
    on the target side, `runGo` at its default slice-capacity policy (`capPolicy = 0`). -/
def CompileSim (compile : Prog → GFile) (A : Prog) : Prop :=
  ∀ (fuel : Nat) (eager : Bool), Definite (run fuel A "main" eager) →
    ∃ m, runGo m (compile A) "main" eager = run fuel A "main" eager

/-- **The hypothesis about `go/dce.rs`** in `end_to_end_partial`: every definite run of the emitted file is
    reproduced by the file `eliminate_dead_vars` returns (`Repro` again, at the default slice-capacity policy);
    `dceFileSim_of_ok` proves it for every file inside the DCE contract. -/
def DceFileSim (G : GFile) : Prop :=
  ∀ (fuel : Nat) (eager : Bool), Definite (runGo fuel G "main" eager) →
    ∃ m, runGo m (Dce.eliminateDeadVars G) "main" eager = runGo fuel G "main" eager

theorem back_half {P A : Prog} (hP : Reproduces P A) (compile : Prog → GFile)
    (hcompile : CompileSim compile A) (hdce : DceFileSim (compile A))
    (fuel : Nat) (eager : Bool) (hdef : Definite (run fuel P "main" eager)) :
    (∃ m, runGo m (compile A) "main" eager = run fuel P "main" eager) ∧
    (∃ m, runGo m (Dce.eliminateDeadVars (compile A)) "main" eager = run fuel P "main" eager) :=
  have h1 := (reproduces_iff.1 hP).trans hcompile
  ⟨h1 fuel eager hdef, h1.trans hdce fuel eager hdef⟩

/-- what `backStages i = some b` says of each field of `b` -/
structure BackSpec (i : E2EIn) (b : BackStages) : Prop where
  mid : stages i.pipe = some b.mid
  afile : annotFile b.mid.anf.fns = some b.afile
  gensym : b.gensym = (Anf.anfFns b.mid.lift.fns b.mid.gensym).2
  pre : b.pre = (GoCompile.goFilePreSt i.goenv b.afile b.gensym).1
  ok : b.ok = (GoCompile.goFilePreSt i.goenv b.afile b.gensym).2.ok
  emitted : b.emitted = Dce.eliminateDeadVars b.pre

theorem backStages_spec {i : E2EIn} {b : BackStages} (h : backStages i = some b) : BackSpec i b := by
  unfold backStages at h
  split at h
  · cases h
  · rename_i s hs
    split at h
    · cases h
    · rename_i file hf
      simp only [Option.some.injEq] at h
      subst h
      -- projections of the record just built; at default transparency `rfl` would unfold `goFilePreSt` first
      refine ⟨hs, hf, ?_, ?_, ?_, ?_⟩ <;> with_reducible rfl

/-- `compile_preserves_run` (`fragGoPlain`) or `compile_preserves_run_dyn` (`fragGoDyn`) at the composite's own ANF program -/
theorem compileSim_of_fragGo {i : E2EIn} {b : BackStages} (h : backStages i = some b) (hf : fragGo i b = true) :
    CompileSim (fun _ => b.pre) b.mid.anf := by
  have hspec := backStages_spec h
  unfold fragGo at hf
  simp only [Bool.and_eq_true, Bool.or_eq_true, List.any_eq_true, beq_iff_eq, List.isEmpty_iff] at hf
  obtain ⟨hfr, f, hfmem, hname, hps⟩ := hf
  intro fuel eager hdef
  rw [hspec.pre]
  rcases hfr with hp | hd
  · unfold fragGoPlain at hp
    simp only [Bool.and_eq_true, List.contains_iff_mem] at hp
    exact GoCompileProps.compile_preserves_run i.goenv b.afile b.gensym _ hp.1 f hfmem hname hps hp.2
      b.mid.anf (annotFile_toFn _ _ hspec.afile).symm fuel eager hdef
  · unfold fragGoDyn at hd
    simp only [Bool.and_eq_true, List.contains_iff_mem] at hd
    exact GoCompileProps.compile_preserves_run_dyn i.goenv b.afile b.gensym _ hd.1.1 f hfmem hname hps hd.1.2
      b.mid.anf (annotFile_toFn _ _ hspec.afile).symm hd.2 fuel eager hdef

/-- `Dce.dce_file_preserves` at the default slice-capacity policy -/
theorem dceFileSim_of_ok (G : GFile) (hok : Dce.fileDceOK G = true) : DceFileSim G :=
  fun fuel eager hdef => Dce.dce_file_preserves G hok fuel eager 0 hdef

end Goml.Pipeline
