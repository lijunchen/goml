import GomlVerif.Lemmas.GoCompStepV
/-!
The arms of a `match` against what `compile_match_branches` makes of them: the clauses of a type
switch (enum scrutinee), the cases of a value switch (bool / integer / string scrutinee), the first
arm in place (unit scrutinee).
-/
namespace Goml.GoComp
open Goml Goml.Go Goml.GoCompile Goml.GoFrag
open Goml.Sem (Val World Res)
open Goml.Dce (keys)

attribute [local irreducible] Goml.GoCompile.vn Goml.GoCompile.gid Goml.GoCompile.rn

/-- the clauses of a type switch, of a value switch, in the block-scoped invariant -/
theorem GInvA.of_sok {Bad : List String} {ra : List (Imm × List GStmt)} {rd : Option (List GStmt)} {gρ : GEnv}
    (hs : SokA (notBad Bad) (keys gρ) ra rd) (hgood : ∀ y, y ∈ keys gρ → ¬ y ∈ Bad) : GInvA Bad ra rd gρ :=
  ⟨fun p hp => ⟨hs.1 p hp, hgood⟩, by cases rd with | none => trivial | some d => exact ⟨hs.2 d rfl, hgood⟩, hgood⟩

theorem ginvA_of_tswitch {Bad : List String} {env : Env} {b : Option String} {e : GExpr} {ra : List (Imm × List GStmt)}
    {rd : Option (List GStmt)} {gρ : GEnv} (h : GInv Bad [.tswitch b e (typeCases env ra) rd] gρ) : GInvA Bad ra rd gρ :=
  .of_sok (sokB_tswitch.mp h.sok) h.goodK

theorem ginvA_of_switch {Bad : List String} {k : MatchKind} {e : GExpr} {ra : List (Imm × List GStmt)}
    {rd : Option (List GStmt)} {gρ : GEnv} (h : GInv Bad [.switch e (valueCases k ra) rd] gρ) : GInvA Bad ra rd gρ :=
  .of_sok (sokB_switch.mp h.sok) h.goodK

theorem GInvA.rebind {Bad ra rd gρ} (h : GInvA Bad ra rd gρ) {x : String} (hx : x ∈ keys gρ) (v : GVal) :
    GInvA Bad ra rd ((x, v) :: gρ) := by
  refine ⟨fun p hp => (h.arms p hp).rebind hx v, ?_, fun y hk => ?_⟩
  · cases rd with
    | none => trivial
    | some d => exact GInv.rebind h.dflt hx v
  · simp only [Goml.Dce.keys_cons, List.mem_cons] at hk
    rcases hk with rfl | hk
    · exact h.goodK _ hx
    · exact h.goodK y hk

theorem GInvA.cons {Bad : List String} {p : Imm × List GStmt} {ra : List (Imm × List GStmt)} {rd : Option (List GStmt)} {gρ : GEnv}
    (h : GInvA Bad (p :: ra) rd gρ) : GInv Bad p.2 gρ ∧ GInvA Bad ra rd gρ :=
  ⟨h.arms p List.mem_cons_self, fun q hq => h.arms q (List.mem_cons_of_mem _ hq), h.dflt, h.goodK⟩

theorem ConclSw.mono {env : Env} {η : Hp} {run run' : GRes (GEnv × Sig) → Prop} {m : Mode} {gρ : GEnv} {ty : Ty} {res : Res Val}
    (h : ConclSw env η run m gρ ty res) (hm : ∀ r, run r → run' r) : ConclSw env η run' m gρ ty res :=
  Outc.imp h (fun _ _ ⟨η1, hle, gv, gw', h1, h2⟩ => ⟨η1, hle, gv, gw', hm _ h1, h2⟩)
    (fun _ _ ⟨η1, hle, gw', h1, h2⟩ => ⟨η1, hle, gw', hm _ h1, h2⟩)

/-- a clause that runs `S` as a nested block inherits the conclusion about `S` -/
theorem conclSw_of_concl {env : Env} {η : Hp} {F : GFile} {S : List GStmt} {m : Mode} {gρ : GEnv} {gw : GWorld} {ty : Ty} {res : Res Val}
    {run : GRes (GEnv × Sig) → Prop} (h : Concl env η F S m gρ gw ty res) (hs : ∀ r0, NestS F gρ gw S r0 → run r0) :
    ConclSw env η run m gρ ty res := by
  rw [concl_eq] at h
  refine h.imp (fun v w' ⟨η1, hle, D, gv, gw', hb, hval, hty, hw, _⟩ => ?_)
    (fun k w' ⟨η1, hle, gw', hb, hw⟩ => ⟨η1, hle, gw', hs _ (nest_of_block hb), hw⟩)
  have hn := hs _ (nest_of_block hb)
  simp only [GRes.bind_ok, popG, drop_append_len D _ gρ.length (length_post m gρ gv)] at hn
  exact ⟨η1, hle, gv, gw', hn, hval, hty, hw⟩

/-- a default arm `e` whose statements the clause `run` runs as a nested block -/
theorem dflt_sim {env : Env} {file : AFile} {G : List String} {P : Prog} {F : GFile} {n : Nat} (ha : SimA env file G P F n)
    {m : Mode} {st : St} {e : AExpr} {ty : Ty} {η : Hp} {Γ : Ctx} {K : KCtx} {ρ : Sem.Env} {w : World} {gρ : GEnv} {gw : GWorld}
    {Bad : List String} {run : GRes (GEnv × Sig) → Prop} (hfd : fragD env file G Γ K ty (.some e) = true)
    (hrel : EnvRel env η Γ ρ gρ) (hkrel : KRel K ρ) (hw : WRel env η w gw) (hinv : GInv Bad (compileA env m st e).1 gρ)
    (htgt : TgtOK m Γ gρ ty) (hus : "_" ∈ Bad) (hfc : FCtx env file G Bad η)
    (hcal : ∀ c, c ∈ calleesA (Γ.map (·.1)) e → c ∈ Bad) (hrun : ∀ r0, NestS F gρ gw (compileA env m st e).1 r0 → run r0) :
    ConclSw env η run m gρ ty (Sem.eval n P ρ w e.toExpr) := by
  simp only [fragD, Bool.and_eq_true] at hfd
  have hte := scalarEq_eq hfd.2
  have hA := ha m st e η Γ K ρ w gρ gw Bad hfd.1 hrel hkrel hw hinv (hte ▸ htgt) hus hfc hcal
  rw [hte] at hA
  exact conclSw_of_concl hA hrun

theorem calleesArms_rest {bs : List String} {lhs : Imm} {body : AExpr} {rest : List AArm} {d : ADflt} {c : String}
    (hc : c ∈ calleesArms bs rest ++ calleesD bs d) : c ∈ calleesArms bs (.mk lhs body :: rest) ++ calleesD bs d := by
  simp only [calleesArms, List.mem_append] at hc ⊢
  rcases hc with hc | hc
  · exact Or.inl (Or.inr hc)
  · exact Or.inr hc

theorem compileArms_cons (env : Env) (m : Mode) (st : St) (lhs : Imm) (body : AExpr) (rest : List AArm) :
    compileArms env m st (.mk lhs body :: rest) =
      ((lhs, (compileA env m st body).1) :: (compileArms env m (compileA env m st body).2 rest).1,
       (compileArms env m (compileA env m st body).2 rest).2) := by
  simp only [compileArms]

theorem lookupVariantName_enum {env : Env} {en : String} {idx : Nat} {d : EnumDef} {vname : String} {tys : List Ty}
    (hd : env.getEnum en = some d) (hv : d.variants[idx]? = some (vname, tys)) :
    lookupVariantName env (.enum en) idx = some (variantStructName env en vname) := by
  simp [lookupVariantName, Goml.Mono.constrName, hd, hv]

/-! ### enum scrutinee: type switch -/

theorem stepME {env : Env} {file : AFile} {G : List String} {P : Prog} {F : GFile} (hl : Link env file G P F) {n : Nat}
    (ha : SimA env file G P F n) (hme : SimME env file G P F n) : SimME env file G P F (n + 1) := by
  intro m st arms d ty η Γ K ρ w gρ gw Bad x en i vs gv hfa hfd hrel hkrel hw hlk hty hgv hinv htgt hus hfc hcal
  -- the scrutinee's variant and its Go struct
  obtain ⟨d0, _, ⟨vni, tysi⟩, _, gs, hveq, hen, hd0, hvi, hfields, hgs, rfl⟩ := tv_inv hty hgv
  injection hveq with _ hi' hvs'; subst hi'; subst hvs'
  obtain ⟨d0', hd0', hok⟩ := good_enum hl.ty.closed hen
  rw [hd0] at hd0'; injection hd0' with hd0'; subst hd0'
  cases arms with
  | nil =>
    simp only [armsToExpr, compileArms, typeCases]
    rw [Sem.evalArms_nil_at]
    cases d with
    | none => simp only [dfltToExpr]; trivial
    | some e =>
      simp only [dfltToExpr, compileDflt]
      exact dflt_sim ha hfd hrel hkrel hw (by simpa only [compileArms, compileDflt] using hinv.dflt) htgt hus hfc
        (fun c hc => hcal c (by simp [calleesArms, calleesD, hc])) (fun r0 hn => tsw_nil_some hn)
  | cons arm rest =>
    obtain ⟨lhs, body⟩ := arm
    cases lhs with
    | var y t => simp [fragArms] at hfa
    | prim p t => simp [fragArms] at hfa
    | tag idx tty =>
      simp only [fragArms, Bool.and_eq_true] at hfa
      obtain ⟨⟨⟨⟨htt, hvo⟩, hfb⟩, htb⟩, hfr⟩ := hfa
      have htt' := scalarEq_eq htt; subst htt'
      have htb' := scalarEq_eq htb
      cases hv : variantOf env (.enum en) idx with
      | none => rw [hv] at hvo; simp at hvo
      | some vv =>
        obtain ⟨n', vname, tys⟩ := vv
        obtain ⟨hE, _, d1, hd1, hvar⟩ := variantOf_spec hv
        injection hE with hE; subst hE
        rw [hd0] at hd1; injection hd1 with hd1; subst hd1
        rw [compileArms_cons] at hinv ⊢
        simp only [armsToExpr, typeCases, Imm.toExpr, caseType, lookupVariantName_enum hd0 hvar, Option.map_some, Option.getD_some]
        rw [Sem.evalArms_cons_at]
        simp only [Sem.armMatches]
        generalize hSb : compileA env m st body = rb at *
        obtain ⟨hinvb, hinvr⟩ := hinv.cons
        by_cases hidx : idx = i
        · subst hidx
          simp only [beq_self_eq_true, if_true]
          rw [hvi] at hvar; injection hvar with hvar; injection hvar with h1 h2; subst h1; subst h2
          have hk' : KRel ((x, idx) :: K) ρ := hkrel.know hlk
          have hA := ha m st body η Γ ((x, idx) :: K) ρ w gρ gw Bad hfb hrel hk' hw (hSb ▸ hinvb) (htb' ▸ htgt) hus hfc
            (fun c hc => hcal c (by simp [calleesArms, hc]))
          rw [hSb, htb'] at hA
          refine conclSw_of_concl hA (fun r0 hn => tsw_cons_hit ?_ hn)
          simp [tsHitG, variantGoName]
        · have hne : (idx == i) = false := by simpa using hidx
          simp only [hne, Bool.false_eq_true, if_false]
          have hR := hme m rb.2 rest d ty η Γ K ρ w gρ gw Bad x en i vs _ hfr hfd hrel hkrel hw hlk
            hty hgv hinvr htgt hus hfc
            (fun c hc => hcal c (calleesArms_rest hc))
          refine hR.mono (fun r hr => tsw_cons_miss ?_ hr)
          simp only [tsHitG, variantGoName, beq_eq_false_iff_ne, ne_eq]
          intro heq
          apply hidx
          have hlen : idx < (d0.variants.map fun v => variantGoName env en v.1).length := by
            rw [List.length_map]
            rcases Nat.lt_or_ge idx d0.variants.length with h | h
            · exact h
            · rw [List.getElem?_eq_none h] at hvar; cases hvar
          refine (List.getElem?_inj hlen hok.nodup).mp ?_
          simp only [List.getElem?_map, hvar, hvi, Option.map_some, variantGoName]
          rw [heq]

/-! ### bool / integer / string scrutinee: value switch -/

/-- comparable scalars: `==` on the Go images is `valEq` -/
theorem valEq_toGV {env : Env} {η : Hp} {a b : Val} {ga gb : GVal} {t : Ty} (ha : HasTy env η a t) (hb : HasTy env η b t)
    (hs : scalarTy t = true) (h1 : VRel env η a t ga) (h2 : VRel env η b t gb) : gvalEq ga gb = Sem.valEq a b := by
  cases t <;> simp [scalarTy] at hs
  · have := hasTy_unit ha; subst this; have := hasTy_unit hb; subst this
    simp [VRel] at h1 h2; subst h1; subst h2; rfl
  · obtain ⟨x, rfl⟩ := hasTy_bool ha; obtain ⟨y, rfl⟩ := hasTy_bool hb
    simp [VRel] at h1 h2; subst h1; subst h2; rfl
  · obtain ⟨x, rfl⟩ := hasTy_int ha; obtain ⟨y, rfl⟩ := hasTy_int hb
    simp [VRel] at h1 h2; subst h1; subst h2; rfl
  · obtain ⟨x, rfl⟩ := hasTy_str ha; obtain ⟨y, rfl⟩ := hasTy_str hb
    simp [VRel] at h1 h2; subst h1; subst h2; rfl

theorem switchTy_scalar {t : Ty} (h : switchTy t = true) : scalarTy t = true := by
  cases t <;> simp [switchTy] at h <;> rfl

/-- the `case` label of a literal head of the scrutinee's own type is the literal as `compile_imm` spells it -/
theorem caseLabel_lit {env : Env} {p : Prim} {sty : Ty} (hs : switchTy sty = true) (hp : okPrim p sty = true) :
    caseLabel (matchKind sty) (.prim p sty) = some (compileImm env (.prim p sty)) := by
  cases sty with
  | bool | string | int _ _ =>
    cases p <;> simp [okPrim] at hp <;> simp [matchKind, caseLabel, compileImm, lit, hp]
  | _ => simp [switchTy] at hs

theorem stepMV {env : Env} {file : AFile} {G : List String} {P : Prog} {F : GFile} (hl : Link env file G P F) {n : Nat}
    (ha : SimA env file G P F n) (hmv : SimMV env file G P F n) : SimMV env file G P F (n + 1) := by
  intro m st arms d ty sty η Γ K ρ w gρ gw Bad v gv hsw hfa hfd hrel hkrel hw hty hgv hinv htgt hus hfc hcal
  cases arms with
  | nil =>
    simp only [armsToExpr, compileArms, valueCases]
    rw [Sem.evalArms_nil_at]
    cases d with
    | none => simp only [dfltToExpr]; trivial
    | some e =>
      simp only [dfltToExpr, compileDflt]
      exact dflt_sim ha hfd hrel hkrel hw (by simpa only [compileArms, compileDflt] using hinv.dflt) htgt hus hfc
        (fun c hc => hcal c (by simp [calleesArms, calleesD, hc])) (fun r0 hn => sw_nil_some hn)
  | cons arm rest =>
    obtain ⟨lhs, body⟩ := arm
    cases lhs with
    | var y t => simp [fragArms] at hfa
    | tag idx t => simp [fragArms] at hfa
    | prim p pty =>
      simp only [fragArms, Bool.and_eq_true] at hfa
      obtain ⟨⟨⟨⟨hp, hpt⟩, hfb⟩, htb⟩, hfr⟩ := hfa
      have hpt' := scalarEq_eq hpt; subst hpt'
      have htb' := scalarEq_eq htb
      rw [compileArms_cons] at hinv ⊢
      simp only [armsToExpr, valueCases, Imm.toExpr, caseLabel_lit (env := env) hsw hp, Option.getD_some]
      rw [Sem.evalArms_cons_at]
      simp only [Sem.armMatches]
      generalize hSb : compileA env m st body = rb at *
      obtain ⟨hinvb, hinvr⟩ := hinv.cons
      -- the label evaluates to the Go image of the literal
      have hlit : immOK env file G Γ (.prim p pty) = true := hp
      obtain ⟨lv, glv, hsl, hgl, h3l, h4l⟩ := imm_both P hl.ty hlit hrel (hfc.rel hinv.goodK)
      have hlv : lv = Sem.primVal p := by
        have := hsl 0 w; simp only [Imm.toExpr] at this; rw [Sem.eval] at this; injection this with this; exact this.symm
      subst hlv
      have heq := valEq_toGV h4l hty (switchTy_scalar hsw) h3l hgv
      by_cases hhit : (Sem.valEq (Sem.primVal p) v).getD false = true
      · simp only [hhit, if_true]
        have hA := ha m st body η Γ K ρ w gρ gw Bad hfb hrel hkrel hw (hSb ▸ hinvb) (htb' ▸ htgt) hus hfc
          (fun c hc => hcal c (by simp [calleesArms, hc]))
        rw [hSb, htb'] at hA
        exact conclSw_of_concl hA (fun r0 hn => sw_cons_hit (hgl gw) (by rw [heq]; exact hhit) hn)
      · have hmiss : (Sem.valEq (Sem.primVal p) v).getD false = false := by simpa using hhit
        simp only [hmiss, Bool.false_eq_true, if_false]
        have hR := hmv m rb.2 rest d ty pty η Γ K ρ w gρ gw Bad v gv hsw hfr hfd hrel hkrel hw hty hgv hinvr htgt hus hfc
          (fun c hc => hcal c (calleesArms_rest hc))
        exact hR.mono (fun r hr => sw_cons_miss (hgl gw) (by rw [heq]; exact hmiss) hr)

/-! ### unit scrutinee: the first arm (else the default) in place -/

theorem tail_unit_shape (env : Env) (m : Mode) (st : St) {s : Imm} (arms : List AArm) (d : ADflt) (ty : Ty) (hs : s.ty = .unit) :
    compileTail env m st (.matchE s arms d ty) = unitStmts env m st arms d := by
  simp only [compileTail, hs, matchKind, unitStmts]

theorem stepMU {env : Env} {file : AFile} {G : List String} {P : Prog} {F : GFile} {n : Nat}
    (ha : SimA env file G P F n) : SimMU env file G P F (n + 1) := by
  intro m st arms d ty η Γ K ρ w gρ gw Bad hfrag hrel hkrel hw hinv htgt hus hfc hcal
  cases arms with
  | nil =>
    simp only [fragUnit, List.isEmpty_nil, if_true, Bool.and_eq_true] at hfrag
    simp only [unitStmts, List.isEmpty_nil, if_true] at hinv ⊢
    simp only [armsToExpr]
    rw [Sem.evalArms_nil_at]
    cases d with
    | none => simp [isSomeD] at hfrag
    | some e =>
      simp only [dfltToExpr, compileDfltUnit] at hinv ⊢
      simp only [fragD, Bool.and_eq_true] at hfrag
      obtain ⟨_, hfe, hte⟩ := hfrag
      have hte' := scalarEq_eq hte
      have hA := ha m st e η Γ K ρ w gρ gw Bad hfe hrel hkrel hw hinv (hte' ▸ htgt) hus hfc
        (fun c hc => hcal c (by simp [calleesArms, calleesD, hc]))
      rw [hte'] at hA
      exact hA
  | cons arm rest =>
    obtain ⟨lhs, body⟩ := arm
    simp only [fragUnit, List.isEmpty_cons, Bool.false_eq_true, if_false, fragFirst, Bool.and_eq_true] at hfrag
    simp only [unitStmts, List.isEmpty_cons, Bool.false_eq_true, if_false, compileFirstArm] at hinv ⊢
    obtain ⟨⟨hl, hfb⟩, htb⟩ := hfrag
    have htb' := scalarEq_eq htb
    have hlhs : lhs = .prim .unit .unit := by
      cases lhs with
      | var y t => simp at hl
      | tag idx t => simp at hl
      | prim p t => cases p <;> cases t <;> simp at hl <;> rfl
    subst hlhs
    simp only [armsToExpr, Imm.toExpr]
    rw [Sem.evalArms_cons_at]
    have hm : Sem.armMatches (.prim .unit) .unit = true := rfl
    simp only [hm, if_true]
    have hA := ha m st body η Γ K ρ w gρ gw Bad hfb hrel hkrel hw hinv (htb' ▸ htgt) hus hfc
      (fun c hc => hcal c (by simp [calleesArms, hc]))
    rw [htb'] at hA
    exact hA

end Goml.GoComp
