import GomlVerif.Lemmas.Topo
/-!
Helper definitions and lemmas for C13/C16 about `discover`: the loop invariant (closed under
imports, reachable from the root), the budget argument, numbering of ids.
-/
namespace Goml.Graph

def SameSet (l₁ l₂ : List Pkg) : Prop := ∀ x, x ∈ l₁ ↔ x ∈ l₂

theorem btreeIter_ext {e₁ e₂ : Pkg → List Pkg} (h : ∀ p, SameSet (e₁ p) (e₂ p)) :
    btreeIter e₁ = btreeIter e₂ :=
  funext fun p => sorted_ext (h p)

theorem number_fst (l : List Pkg) : ∀ start, (number start l).map (·.1) = l := by
  induction l with
  | nil => intro _; rfl
  | cons a l ih => intro s; simp [number, ih]

theorem number_snd_ge (l : List Pkg) : ∀ start x, x ∈ number start l → start ≤ x.2 := by
  induction l with
  | nil => intro _ x hx; simp [number] at hx
  | cons a l ih =>
    intro s x hx
    simp only [number, List.mem_cons] at hx
    rcases hx with rfl | hx
    · exact Nat.le_refl _
    · exact Nat.le_of_succ_le (ih _ x hx)

theorem number_snd_nodup (l : List Pkg) : ∀ start, ((number start l).map (·.2)).Nodup := by
  induction l with
  | nil => intro _; simp [number]
  | cons a l ih =>
    intro s
    simp only [number, List.map_cons, List.nodup_cons]
    refine ⟨?_, ih _⟩
    intro hm
    obtain ⟨x, hx, hs⟩ := List.mem_map.1 hm
    have := number_snd_ge l (s + 1) x hx
    omega

def DiskEdge (disk : Disk) (a b : Pkg) : Prop := ∃ imps, disk.load a = .unit a imps ∧ b ∈ imps

/-- reachable from the root package through import edges of well-formed directories -/
inductive Reach (disk : Disk) : Pkg → Prop
  | root : Reach disk rootName
  | step {a b : Pkg} : Reach disk a → DiskEdge disk a b → Reach disk b

/-- `iter` enumerates, for every package, exactly its import set (without repetition) -/
def IterOk (disk : Disk) (iter : Pkg → List Pkg) : Prop :=
  ∀ p, (iter p).Nodup ∧ SameSet (iter p) (disk.importsOf p)

/-- invariant of `discoverLoop`: with the queue empty, `closed` puts everything reachable into `order`; `reachO` and
`reachQ` give the converse -/
structure DInv (disk : Disk) (iter : Pkg → List Pkg) (queue order : List Pkg) : Prop where
  nodup : order.Nodup
  loads : ∀ p ∈ order, ∃ imps, disk.load p = .unit p imps
  closed : ∀ p ∈ order, ∀ d ∈ iter p, d ∈ order ∨ d ∈ queue
  reachO : ∀ p ∈ order, Reach disk p
  reachQ : ∀ q ∈ queue, Reach disk q
  root : rootName ∈ order

theorem importsOf_unit {disk : Disk} {p d : Pkg} {imps : List Pkg} (h : disk.load p = .unit d imps) :
    disk.importsOf p = imps := by
  simp [Disk.importsOf, h]

theorem Reach.iter {disk : Disk} {iter : Pkg → List Pkg} (hi : IterOk disk iter) {p q : Pkg}
    {imps : List Pkg} (rp : Reach disk p) (hl : disk.load p = .unit p imps) (hq : q ∈ iter p) :
    Reach disk q :=
  .step rp ⟨imps, hl, importsOf_unit hl ▸ ((hi p).2 q).1 hq⟩

/- The rows of `discoverLoop.induct`: 1 queue empty, 2 out of fuel, 3 `p` loaded already, 4 `p` loads and declares
itself, 5 it declares another name, 6 it does not load. -/
theorem discoverLoop_inv {disk : Disk} {iter : Pkg → List Pkg} (hi : IterOk disk iter) :
    ∀ (fuel : Nat) (queue order order' : List Pkg),
      discoverLoop disk iter fuel queue order = .ok order' → DInv disk iter queue order →
      DInv disk iter [] order' := by
  intro fuel queue order order'
  induction fuel, queue, order using discoverLoop.induct disk iter with
  | case1 => intro h inv; simp only [discoverLoop, Except.ok.injEq] at h; exact h ▸ inv
  | case2 => simp [discoverLoop]
  | case3 fuel p rest order hp ih =>
    intro h inv
    rw [discoverLoop, if_pos hp] at h
    refine ih h { inv with closed := ?_, reachQ := ?_ }
    · intro x hx d hd
      rcases inv.closed x hx d hd with h1 | h1
      · exact Or.inl h1
      · rcases List.mem_cons.1 h1 with rfl | h1
        · exact Or.inl hp
        · exact Or.inr h1
    · exact fun q hq => inv.reachQ q (List.mem_cons_of_mem _ hq)
  | case4 fuel p rest order hp imps hl ih =>
    intro h inv
    simp only [discoverLoop, if_neg hp, hl, if_true] at h
    have rp : Reach disk p := inv.reachQ p (by simp)
    refine ih h
      { nodup := List.nodup_append_comm.1 (List.nodup_cons.2 ⟨hp, inv.nodup⟩)
        loads := List.forall_mem_append.2 ⟨inv.loads, List.forall_mem_singleton.2 ⟨imps, hl⟩⟩
        closed := List.forall_mem_append.2 ⟨fun x hx d hd => ?_, List.forall_mem_singleton.2 fun d hd => ?_⟩
        reachO := List.forall_mem_append.2 ⟨inv.reachO, List.forall_mem_singleton.2 rp⟩
        reachQ := List.forall_mem_append.2
          ⟨fun q hq => rp.iter hi hl (by simpa using hq), fun q hq => inv.reachQ q (List.mem_cons_of_mem _ hq)⟩
        root := List.mem_append_left _ inv.root }
    · rcases inv.closed x hx d hd with h1 | h1
      · exact Or.inl (List.mem_append_left _ h1)
      · rcases List.mem_cons.1 h1 with rfl | h1
        · exact Or.inl (by simp)
        · exact Or.inr (List.mem_append_right _ h1)
    · exact Or.inr (List.mem_append_left _ (by simpa using hd))
  | case5 fuel p rest order hp decl imps hl hd => simp [discoverLoop, hp, hl, hd]
  | case6 fuel p rest order hp hno => simp [discoverLoop, hp]

theorem discover_inv {disk : Disk} {iter : Pkg → List Pkg} (hi : IterOk disk iter)
    {order : List Pkg} (h : discover disk iter = .ok order) : DInv disk iter [] order := by
  unfold discover at h
  cases hl : disk.load rootName with
  | unit decl imps =>
    simp only [hl] at h
    by_cases hd : decl = rootName
    · rw [if_pos hd] at h
      rw [hd] at hl
      exact discoverLoop_inv hi _ _ _ _ h
        { nodup := List.nodup_singleton _
          loads := List.forall_mem_singleton.2 ⟨imps, hl⟩
          closed := List.forall_mem_singleton.2 fun d hd => Or.inr (by simpa using hd)
          reachO := List.forall_mem_singleton.2 .root
          reachQ := fun q hq => Reach.root.iter hi hl (by simpa using hq)
          root := by simp }
    · rw [if_neg hd] at h; simp at h
  | _ => simp [hl] at h

def importCount : Load → Nat
  | .unit _ imps => imps.length
  | _ => 0

def pendingOf (order : List Pkg) (e : Pkg × Load) : Nat := if e.1 ∈ order then 0 else importCount e.2

/-- import-list lengths of the directories not yet loaded -/
def pending (disk : Disk) (order : List Pkg) : Nat := (disk.map (pendingOf order)).sum

theorem pendingOf_mono (order : List Pkg) (p : Pkg) (e : Pkg × Load) : pendingOf (order ++ [p]) e ≤ pendingOf order e := by
  unfold pendingOf
  by_cases h1 : e.1 ∈ order
  · simp [h1]
  · by_cases h2 : e.1 = p
    · simp [h2]
    · simp [h1, h2]

theorem pendingOf_hit (order : List Pkg) (e : Pkg × Load) : pendingOf (order ++ [e.1]) e = 0 := by
  simp [pendingOf]

theorem pendingOf_miss {order : List Pkg} {e : Pkg × Load} (h : e.1 ∉ order) : pendingOf order e = importCount e.2 := by
  simp [pendingOf, h]

theorem pending_mono (p : Pkg) (order : List Pkg) : ∀ (d : Disk), pending d (order ++ [p]) ≤ pending d order := by
  intro d
  induction d with
  | nil => simp [pending]
  | cons e d ih =>
    simp only [pending, List.map_cons, List.sum_cons] at ih ⊢
    have := pendingOf_mono order p e
    omega

theorem pending_load {p : Pkg} {l : Load} : ∀ {disk : Disk} {order : List Pkg}, (p, l) ∈ disk → p ∉ order →
    pending disk (order ++ [p]) + importCount l ≤ pending disk order := by
  intro disk
  induction disk with
  | nil => intro order h; simp at h
  | cons e disk ih =>
    intro order h hp
    simp only [pending, List.map_cons, List.sum_cons]
    rcases List.mem_cons.1 h with rfl | h
    · have h1 := pending_mono p order disk
      have h2 := pendingOf_hit order (p, l)
      have h3 := pendingOf_miss (order := order) (e := (p, l)) hp
      simp only [pending] at h1
      simp only at h2 h3
      omega
    · have h1 := ih h hp
      have h2 := pendingOf_mono order p e
      simp only [pending] at h1
      omega

theorem lookup_mem {p : Pkg} {l : Load} {disk : Disk} (h : disk.lookup p = some l) : (p, l) ∈ disk := by
  obtain ⟨l₁, l₂, rfl, _⟩ := List.lookup_eq_some_iff.1 h
  simp

theorem load_mem {disk : Disk} {p d : Pkg} {imps : List Pkg} (h : disk.load p = .unit d imps) :
    (p, Load.unit d imps) ∈ disk := by
  unfold Disk.load at h
  cases hl : disk.lookup p with
  | none => simp [hl] at h
  | some l => simp only [hl] at h; exact lookup_mem (h ▸ hl)

theorem iter_length_le {disk : Disk} {iter : Pkg → List Pkg} (hi : IterOk disk iter) (p : Pkg) :
    (iter p).length ≤ (disk.importsOf p).length :=
  ((hi p).1.subperm (fun x hx => ((hi p).2 x).1 hx)).length_le

/-- loading a directory pays for the pushes of its imports -/
theorem load_budget {disk : Disk} {iter : Pkg → List Pkg} (hi : IterOk disk iter) {p : Pkg} {imps order : List Pkg}
    (hl : disk.load p = .unit p imps) (hp : p ∉ order) :
    (iter p).length + pending disk (order ++ [p]) ≤ pending disk order := by
  have h1 := pending_load (load_mem hl) hp
  have h2 := iter_length_le hi p
  rw [importsOf_unit hl] at h2
  simp only [importCount] at h1
  omega

/-- the model's budget is what is pending before anything is loaded, and one `pop` more -/
theorem pending_nil (disk : Disk) : pending disk [] + 1 = discoverFuel disk := by
  have : pendingOf [] = fun e : Pkg × Load => match e.2 with | .unit _ imps => imps.length | _ => 0 := by
    funext e
    simp only [pendingOf, List.not_mem_nil, if_false]
    cases e.2 <;> rfl
  simp only [pending, discoverFuel, this]
  rfl

theorem discoverLoop_fuel {disk : Disk} {iter : Pkg → List Pkg} (hi : IterOk disk iter) :
    ∀ (fuel : Nat) (queue order : List Pkg), queue.length + pending disk order ≤ fuel →
      discoverLoop disk iter fuel queue order ≠ .error .fuel := by
  intro fuel queue order
  induction fuel, queue, order using discoverLoop.induct disk iter with
  | case1 => simp [discoverLoop]
  | case2 => simp
  | case3 fuel p rest order hp ih =>
    intro hb
    rw [discoverLoop, if_pos hp]
    exact ih (by simp only [List.length_cons] at hb; omega)
  | case4 fuel p rest order hp imps hl ih =>
    intro hb
    simp only [discoverLoop, if_neg hp, hl, if_true]
    refine ih ?_
    have := load_budget hi hl hp
    simp only [List.length_cons] at hb
    simp only [List.length_append, List.length_reverse]
    omega
  | case5 fuel p rest order hp decl imps hl hd => simp [discoverLoop, hp, hl, hd]
  | case6 fuel p rest order hp hno => simp [discoverLoop, hp]

end Goml.Graph
