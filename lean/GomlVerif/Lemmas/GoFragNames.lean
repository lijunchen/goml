import GomlVerif.Lemmas.GoCompLink
/-!
`closedOK` and `goodFns` of a concrete file, in a form the kernel evaluates quickly.  The last conjunct of `goLocalOK`
computes `vn` of every name of `fnSigs file G`, the thirteen builtins included, and `vn` takes a string apart and puts it
together again twice: for the kernel that is most of the whole check of a small file.  The builtins keep their names
(`vn_builtin`), so `sigNames` leaves `vn` on the file's own functions only; the `…n` / `…N` functions are the model's
with that list in place, and an evaluation of a fragment check rewrites with the `…_eq` at the end first.
-/
namespace Goml.GoFrag
open Goml Goml.Go Goml.GoCompile Goml.GoComp

def sigNames (file : AFile) (G : List String) : List String :=
  ((file.filter fun f => G.contains f.name && !isEntry f.name && rn f.name == f.name).map fun f => vn f.name) ++ builtinNames

theorem fnSigs_names (file : AFile) (G : List String) : (fnSigs file G).map (fun e => vn e.1) = sigNames file G := by
  have hb : (builtinNames.filterMap fun b => (builtinSig b).map fun sg => (b, sg.1, sg.2)).map (·.1) = builtinNames := by
    decide +kernel
  have hv : builtinNames.map vn = builtinNames := (List.map_congr_left fun _ h => vn_builtin h).trans (List.map_id _)
  have hvb : ∀ l : List (String × List Ty × Ty), l.map (fun e => vn e.1) = (l.map (·.1)).map vn := fun l => by
    rw [List.map_map]; rfl
  rw [fnSigs, sigNames, List.map_append, List.map_map, hvb, hb, hv]
  rfl

def goLocalOKn (env : Env) (file : AFile) (G : List String) (st : St) (f : AFn) : Bool :=
  let gf := (compileFn env st f).1
  let locals := Goml.Dce.localsOf gf
  scopedLocalsOK gf && !locals.contains "_" &&
  (calleesA ((paramCtx f).map (·.1)) f.body).all (fun c => !locals.contains c && c != "_") &&
  (sigNames file G).all (fun v => !locals.contains v && v != "_")

theorem goLocalOK_eq (env : Env) (file : AFile) (G : List String) (st : St) (f : AFn) :
    goLocalOK env file G st f = goLocalOKn env file G st f := by
  simp only [goLocalOK, goLocalOKn, ← fnSigs_names, List.all_map]
  rfl

def memberOKn (env : Env) (file : AFile) (G : List String) (st : St) (f : AFn) : Bool :=
  srcLocalOK env file G f && goLocalOKn env file G st f && noConstExpr env st f

theorem memberOK_eq (env : Env) (file : AFile) (G : List String) (st : St) (f : AFn) :
    memberOK env file G st f = memberOKn env file G st f := by
  rw [memberOK, localOK, goLocalOK_eq, memberOKn]

def checkFnsN (env : Env) (file : AFile) (G : List String) : St → List AFn → Bool
  | _, [] => true
  | st, f :: rest =>
    (if G.contains f.name then memberOKn env file G st f else true) &&
      checkFnsN env file G (compileFn env st f).2 rest

theorem checkFns_eq (env : Env) (file : AFile) (G : List String) :
    ∀ (fs : List AFn) (st : St), checkFns env file G st fs = checkFnsN env file G st fs
  | [], _ => rfl
  | f :: rest, st => by rw [checkFns, checkFnsN, memberOK_eq, checkFns_eq env file G rest]

def refineN (env : Env) (file : AFile) (n : Nat) : Nat → List String → List String
  | 0, G => G
  | k + 1, G =>
    let rec keep (st : St) : List AFn → List String
      | [] => []
      | f :: rest =>
        (if G.contains f.name && memberOKn env file G st f then [f.name] else []) ++
          keep (compileFn env st f).2 rest
    let G' := (if G.contains dynMarker then [dynMarker] else []) ++ keep { n := n, ok := true } file
    if G'.length == G.length then G else refineN env file n k G'

theorem keep_eq (env : Env) (file : AFile) (G : List String) :
    ∀ (fs : List AFn) (st : St), refine.keep env file G st fs = refineN.keep env file G st fs
  | [], _ => by rw [refine.keep, refineN.keep]
  | f :: rest, st => by rw [refine.keep, refineN.keep, memberOK_eq, keep_eq env file G rest]

theorem refine_eq (env : Env) (file : AFile) (n : Nat) : ∀ (k : Nat) (G : List String), refine env file n k G = refineN env file n k G
  | 0, _ => rfl
  | k + 1, G => by simp only [refine, refineN, keep_eq, refine_eq env file n k]

/-! `fileOK` compares the names of all functions of the emitted file with one another and with `reservedGoNames`.  The
runtime's functions come first in that file (`funcs_goFilePre`) and are the same for every file: their part of the two
comparisons is settled here, once. -/

def runtimeNames : List String := runtimeFile.funcs.map (·.name)

def ownNames (env : Env) (file : AFile) (n : Nat) : List String :=
  (midFuncs env file ++ ((compileFns env { n := n, ok := true } file).1 ++ [mainFn])).map (·.name)

theorem funcNames_goFilePre (env : Env) (file : AFile) (n : Nat) :
    (goFilePreSt env file n).1.funcs.map (·.name) = runtimeNames ++ ownNames env file n := by
  rw [funcs_goFilePre, List.map_append]; rfl

theorem findFunc_isNone (F : GFile) (r : String) : (F.findFunc r).isNone = !(F.funcs.map (·.name)).contains r := by
  rw [GFile.findFunc, Bool.eq_iff_iff]
  simp [List.find?_eq_none]

def fileOKn (env : Env) (file : AFile) (n : Nat) : Bool :=
  let F := (goFilePreSt env file n).1
  let own := ownNames env file n
  (own.Nodup && own.all fun x => !runtimeNames.contains x) && (file.map (·.name)).Nodup &&
  file.all (fun f => !builtinNames.contains f.name && !refNames.contains f.name && !arrNames.contains f.name &&
    !vecNames.contains f.name) &&
  reservedGoNames.all (fun r => !own.contains r) &&
  structsClosed env && (goodStructs env).all (structTableOK env F) && (goodEnums env).all (enumTableOK env F) &&
  (collectRuntimeTypes env file).refs.all (refTableOK env F) && (collectRuntimeTypes env file).tuples.all (tupleTableOK env F) &&
  ((collectDynRequirements env file).traits ++ (collectDynRequirements env file).vtables.map (·.1)).all (dynStructTableOK env F) &&
  (collectDynRequirements env file).vtables.all (fun p => dynRecvTableOK env F p.2)

theorem fileOK_eq (env : Env) (file : AFile) (n : Nat) : fileOK env file n = fileOKn env file n := by
  have hR : runtimeNames.Nodup := by decide +kernel
  have hres : ∀ r ∈ reservedGoNames, r ∉ runtimeNames := by decide +kernel
  have h1 : decide ((runtimeNames ++ ownNames env file n).Nodup) =
      ((ownNames env file n).Nodup && (ownNames env file n).all fun x => !runtimeNames.contains x) := by
    rw [Bool.eq_iff_iff]
    simp only [List.nodup_append, hR, true_and, decide_eq_true_eq, Bool.and_eq_true, List.all_eq_true, Bool.not_eq_true',
      List.contains_eq_mem, decide_eq_false_iff_not]
    exact and_congr_right fun _ => ⟨fun h x hx hr => h x hr x hx rfl, fun h a ha b hb e => h b hb (e ▸ ha)⟩
  have h2 : reservedGoNames.all (fun r => !(runtimeNames ++ ownNames env file n).contains r) =
      reservedGoNames.all (fun r => !(ownNames env file n).contains r) := by
    rw [Bool.eq_iff_iff, List.all_eq_true, List.all_eq_true]
    exact forall₂_congr fun r hr => by simp [hres r hr]
  simp only [fileOK, fileOKn, findFunc_isNone, funcNames_goFilePre, h1, h2]

theorem goodFns_eq (env : Env) (file : AFile) (n : Nat) :
    goodFns env file n = if fileOKn env file n then refineN env file n (file.length + 1) (file.map (·.name)) else [] := by
  rw [goodFns, fileOK_eq, refine_eq]

theorem goodFnsD_eq (env : Env) (file : AFile) (n : Nat) :
    goodFnsD env file n =
      if fileOKn env file n then refineN env file n (file.length + 2) (dynMarker :: file.map (·.name)) else [] := by
  rw [goodFnsD, fileOK_eq, refine_eq]

theorem closedOKD_eq (env : Env) (file : AFile) (n : Nat) (G : List String) :
    closedOKD env file n G = (fileOKn env file n && checkFnsN env file G { n := n, ok := true } file) := by
  rw [closedOKD, checkFns_eq, fileOK_eq]

theorem closedOK_eq (env : Env) (file : AFile) (n : Nat) (G : List String) :
    closedOK env file n G =
      (fileOKn env file n && checkFnsN env file G { n := n, ok := true } file && !G.contains dynMarker) := by
  rw [closedOK, closedOKD_eq]

end Goml.GoFrag
