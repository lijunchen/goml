import GomlVerif.Lemmas.ValTyBasic
/-!
The store-typed judgement `ValTyR.VT S P Ψ` is the instance `rf = true` of `ValTyG.VT` (C03, type soundness with `Ref`);
`toG` / `ofG` go between the two; through them the facts of `Lemmas/ValTyBasic.lean` about `ValTyG.VT` are restated for `ValTyR.VT`.
-/
namespace Goml.ValTyR
open Goml Goml.Sem Goml.Wt Goml.Mono Goml.ValTy

variable {S : Sig} {P : Prog} {Ψ : List Ty}

theorem VT.toG {v : Val} {t : Ty} (h : VT S P Ψ v t) : ValTyG.VT S P true Ψ v t :=
  VT.rec (motive_1 := fun v t _ => ValTyG.VT S P true Ψ v t) (motive_2 := fun vs ts _ => ValTyG.VTs S P true Ψ vs ts)
    (motive_3 := fun vs e _ => ValTyG.VTall S P true Ψ vs e) (motive_4 := fun θ ρ Γ _ => ValTyG.ET S P true Ψ θ ρ Γ)
    (unit := .unit)
    (bool := .bool)
    (int := .int)
    (float := .float)
    (str := .str)
    (tuple := fun _ ih => .tuple ih)
    (enumV := fun h1 h2 _ ih => .enumV h1 h2 ih)
    (structV := fun h1 h2 _ ih => .structV h1 h2 ih)
    (array := fun _ h2 ih => .array ih h2)
    (vec := fun _ ih => .vec ih)
    (ref := fun h => .ref rfl h)
    (dyn := fun h1 _ h3 ih => .dyn rfl h1 ih h3)
    (closure := fun _ h2 h3 ih => .closure ih h2 h3)
    (fn := fun θ h => .fn θ h)
    -- `VTs`, `VTall`, `ET`: `nil` and `cons` of each, by position
    .nil (fun _ _ ih1 ih2 => .cons ih1 ih2)
    .nil (fun _ _ ih1 ih2 => .cons ih1 ih2)
    .nil (fun _ _ ih1 ih2 => .cons ih1 ih2)
    h

theorem VTs.toG : ∀ {vs : List Val} {ts : List Ty}, VTs S P Ψ vs ts → ValTyG.VTs S P true Ψ vs ts := by
  intro vs
  induction vs with
  | nil => intro ts h; cases h; exact .nil
  | cons v vs ih => intro ts h; cases h with | cons h1 h2 => exact .cons h1.toG (ih h2)

theorem VTall.toG : ∀ {vs : List Val} {e : Ty}, VTall S P Ψ vs e → ValTyG.VTall S P true Ψ vs e := by
  intro vs
  induction vs with
  | nil => intro e h; exact .nil
  | cons v vs ih => intro e h; cases h with | cons h1 h2 => exact .cons h1.toG (ih h2)

theorem ET.toG : ∀ {θ : Subst} {ρ : Env} {Γ : TyEnv}, ET S P Ψ θ ρ Γ → ValTyG.ET S P true Ψ θ ρ Γ := by
  intro θ ρ
  induction ρ with
  | nil => intro Γ h; cases h; exact .nil
  | cons b ρ ih => intro Γ h; cases h with | cons h1 h2 => exact .cons h1.toG (ih h2)

theorem VT.ofG {v : Val} {t : Ty} (h : ValTyG.VT S P true Ψ v t) : VT S P Ψ v t :=
  ValTyG.VT.rec (rf := true) (motive_1 := fun v t _ => VT S P Ψ v t) (motive_2 := fun vs ts _ => VTs S P Ψ vs ts)
    (motive_3 := fun vs e _ => VTall S P Ψ vs e) (motive_4 := fun θ ρ Γ _ => ET S P Ψ θ ρ Γ)
    (unit := .unit)
    (bool := .bool)
    (int := .int)
    (float := .float)
    (str := .str)
    (tuple := fun _ ih => .tuple ih)
    (enumV := fun h1 h2 _ ih => .enumV h1 h2 ih)
    (structV := fun h1 h2 _ ih => .structV h1 h2 ih)
    (array := fun _ h2 ih => .array ih h2)
    (vec := fun _ ih => .vec ih)
    (ref := fun _ h => .ref h)
    (dyn := fun _ h1 _ h3 ih => .dyn h1 ih h3)
    (closure := fun _ h2 h3 ih => .closure ih h2 h3)
    (fn := fun θ h => .fn θ h)
    -- `VTs`, `VTall`, `ET`: `nil` and `cons` of each, by position
    .nil (fun _ _ ih1 ih2 => .cons ih1 ih2)
    .nil (fun _ _ ih1 ih2 => .cons ih1 ih2)
    .nil (fun _ _ ih1 ih2 => .cons ih1 ih2)
    h

theorem VTs.ofG : ∀ {vs : List Val} {ts : List Ty}, ValTyG.VTs S P true Ψ vs ts → VTs S P Ψ vs ts := by
  intro vs
  induction vs with
  | nil => intro ts h; cases h; exact .nil
  | cons v vs ih => intro ts h; cases h with | cons h1 h2 => exact .cons (VT.ofG h1) (ih h2)

theorem VTall.ofG : ∀ {vs : List Val} {e : Ty}, ValTyG.VTall S P true Ψ vs e → VTall S P Ψ vs e := by
  intro vs
  induction vs with
  | nil => intro e h; exact .nil
  | cons v vs ih => intro e h; cases h with | cons h1 h2 => exact .cons (VT.ofG h1) (ih h2)

theorem ET.ofG : ∀ {θ : Subst} {ρ : Env} {Γ : TyEnv}, ValTyG.ET S P true Ψ θ ρ Γ → ET S P Ψ θ ρ Γ := by
  intro θ ρ
  induction ρ with
  | nil => intro Γ h; cases h; exact .nil
  | cons b ρ ih => intro Γ h; cases h with | cons h1 h2 => exact .cons (VT.ofG h1) (ih h2)

theorem WT.toG {w : World} (h : WT S P Ψ w) : ValTyG.WT S P true Ψ w :=
  fun _ => ⟨h.1, fun l v hv => let ⟨e, he, hv'⟩ := h.2 l v hv; ⟨e, he, hv'.toG⟩⟩

theorem WT.ofG {w : World} (h : ValTyG.WT S P true Ψ w) : WT S P Ψ w :=
  ⟨(h rfl).1, fun l v hv => let ⟨e, he, hv'⟩ := (h rfl).2 l v hv; ⟨e, he, VT.ofG hv'⟩⟩

/-! ### value typing -/

theorem VTs_get : ∀ {vs : List Val} {ts : List Ty}, VTs S P Ψ vs ts → ∀ (i : Nat) (t : Ty), ts[i]? = some t →
    ∃ v, vs[i]? = some v ∧ VT S P Ψ v t :=
  fun h i t ht => let ⟨v, hv, h'⟩ := ValTyG.VTs_get h.toG i t ht; ⟨v, hv, VT.ofG h'⟩

theorem fieldTys_nominal {c : Ctor} {ty : Ty} {fts : List Ty} (h : fieldTys S c ty = some fts) :
    (nominalArgs (ctorTyName c) ty).isSome = true :=
  ValTy.fieldTys_nominal h

theorem enumFieldTys_nominal {tn : String} {idx : Nat} {ty : Ty} {fts : List Ty}
    (h : enumFieldTys S tn idx ty = some fts) : (nominalArgs tn ty).isSome = true :=
  ValTy.enumFieldTys_nominal h

theorem VT_prim (p : Prim) (h : primOk p = true) : VT S P Ψ (primVal p) (primTy p) :=
  VT.ofG (ValTyG.VT_prim p h)

/-! canonical forms: `ValTyG.VT.inv` at each shape of the type -/

theorem VT_bool {v : Val} (h : VT S P Ψ v .bool) : ∃ b, v = .bool b := h.toG.inv

theorem VT_str {v : Val} (h : VT S P Ψ v .string) : ∃ s, v = .str s := h.toG.inv

theorem VT_unit {v : Val} (h : VT S P Ψ v .unit) : v = .unit := h.toG.inv

theorem VT_int {v : Val} {b : Nat} {s : Bool} (h : VT S P Ψ v (.int b s)) : ∃ x, v = .int b s x :=
  let ⟨x, hx, _⟩ := h.toG.inv
  ⟨x, hx⟩

theorem VT_float {v : Val} {b : Nat} (h : VT S P Ψ v (.float b)) : ∃ x, v = .float b x :=
  let ⟨x, hx, _⟩ := h.toG.inv
  ⟨x, hx⟩

theorem VT_tuple {v : Val} {ts : List Ty} (h : VT S P Ψ v (.tuple ts)) : ∃ vs, v = .tuple vs ∧ VTs S P Ψ vs ts :=
  let ⟨vs, hv, h'⟩ := h.toG.inv
  ⟨vs, hv, VTs.ofG h'⟩

theorem VTs_single {args : List Val} {t : Ty} (h : VTs S P Ψ args [t]) : ∃ a, args = [a] ∧ VT S P Ψ a t :=
  let ⟨a, ha, h'⟩ := ValTyG.VTs_single h.toG
  ⟨a, ha, VT.ofG h'⟩

theorem VTall_get : ∀ {vs : List Val} {e : Ty}, VTall S P Ψ vs e → ∀ (i : Nat) (v : Val), vs[i]? = some v → VT S P Ψ v e :=
  fun h i v hv => VT.ofG (ValTyG.VTall_get h.toG i v hv)

theorem VTall_set : ∀ {vs : List Val} {e : Ty}, VTall S P Ψ vs e → ∀ (i : Nat) (v : Val), VT S P Ψ v e → VTall S P Ψ (vs.set i v) e :=
  fun h i v hv => VTall.ofG (ValTyG.VTall_set h.toG i v hv.toG)

theorem VTall_append : ∀ {vs : List Val} {e : Ty}, VTall S P Ψ vs e → ∀ (v : Val), VT S P Ψ v e → VTall S P Ψ (vs ++ [v]) e :=
  fun h v hv => VTall.ofG (ValTyG.VTall_append h.toG v hv.toG)

theorem VTs_length : ∀ {vs : List Val} {ts : List Ty}, VTs S P Ψ vs ts → vs.length = ts.length :=
  fun h => ValTyG.VTs_length h.toG

theorem VTs_all : ∀ {vs : List Val} {ts : List Ty} {e : Ty}, VTs S P Ψ vs ts → (∀ t ∈ ts, t = e) → VTall S P Ψ vs e :=
  fun h hall => VTall.ofG (ValTyG.VTs_all h.toG hall)

theorem allTyEq_all {e : Ty} : ∀ {ts : List Ty}, allTyEq e ts = true → ∀ t ∈ ts, t = e :=
  ValTy.allTyEq_all

theorem getTys_length (es : List Expr) : (getTys es).length = es.length :=
  Wt.getTys_length es

theorem VT_array {v : Val} {n : Nat} {e : Ty} (h : VT S P Ψ v (.array n e)) : ∃ vs, v = .array vs ∧ vs.length = n ∧ VTall S P Ψ vs e :=
  let ⟨vs, hv, hn, h'⟩ := h.toG.inv
  ⟨vs, hv, hn, VTall.ofG h'⟩

theorem VT_vec {v : Val} {e : Ty} (h : VT S P Ψ v (.vec e)) : ∃ vs, v = .vec vs ∧ VTall S P Ψ vs e :=
  let ⟨vs, hv, h'⟩ := h.toG.inv
  ⟨vs, hv, VTall.ofG h'⟩

theorem VT_anyint {v : Val} {b : Nat} {s : Bool} (h : VT S P Ψ v (.int b s)) : ∃ x, v = .int b s x := VT_int h

theorem ET_lookup {θ : Subst} : ∀ {ρ : Env} {Γ : TyEnv}, ET S P Ψ θ ρ Γ → ∀ x,
    (match lookupVar Γ x with
     | some t => ∃ v, lookupEnv ρ x = some v ∧ VT S P Ψ v (substTy θ t)
     | none => lookupEnv ρ x = none) := by
  intro ρ Γ h x
  have hG := ValTyG.ET_lookup h.toG x
  revert hG
  cases lookupVar Γ x with
  | none => exact id
  | some t => exact fun ⟨v, hv, h'⟩ => ⟨v, hv, VT.ofG h'⟩

theorem ET_bind {θ : Subst} : ∀ (ps : List (String × Ty)) (vs : List Val) (ρ : Env) (Γ : TyEnv),
    VTs S P Ψ vs (substTys θ (ps.map (·.2))) → ET S P Ψ θ ρ Γ →
    ET S P Ψ θ (bindParams (ps.map (·.1)) vs ρ) (bindAll ps Γ) :=
  fun ps vs ρ Γ h hρ => ET.ofG (ValTyG.ET_bind ps vs ρ Γ h.toG hρ.toG)

theorem valKey_of_VT {v : Val} {τ : Ty} (hc : concreteTy τ = true) (h : VT S P Ψ v τ) : valKey v = tyKey τ :=
  ValTyG.valKey_of_VT hc h.toG

/-! ### store typings -/

theorem VT.mono {Ψ Ψ' : List Ty} (hx : Ext Ψ Ψ') : ∀ {v : Val} {t : Ty}, VT S P Ψ v t → VT S P Ψ' v t :=
  fun h => VT.ofG (h.toG.mono hx)
theorem VTs.mono {Ψ Ψ' : List Ty} (hx : Ext Ψ Ψ') : ∀ {vs : List Val} {ts : List Ty}, VTs S P Ψ vs ts → VTs S P Ψ' vs ts :=
  fun h => VTs.ofG (h.toG.mono hx)
theorem VTall.mono {Ψ Ψ' : List Ty} (hx : Ext Ψ Ψ') : ∀ {vs : List Val} {e : Ty}, VTall S P Ψ vs e → VTall S P Ψ' vs e :=
  fun h => VTall.ofG (h.toG.mono hx)
theorem ET.mono {Ψ Ψ' : List Ty} (hx : Ext Ψ Ψ') : ∀ {θ : Subst} {ρ : Env} {Γ : TyEnv}, ET S P Ψ θ ρ Γ → ET S P Ψ' θ ρ Γ :=
  fun h => ET.ofG (h.toG.mono hx)

theorem WT.of_store {w w' : World} (h : WT S P Ψ w) (hs : w'.store = w.store) : WT S P Ψ w' := by
  unfold WT at h ⊢; rw [hs]; exact h

theorem ref_get_sound {w : World} {l : Nat} {e : Ty} {v : Val} (hw : WT S P Ψ w)
    (hr : VT S P Ψ (.ref l) (.ref e)) (hv : w.store[l]? = some v) : VT S P Ψ v e :=
  VT.ofG (ValTyG.ref_get_sound hw.toG hr.toG hv)

theorem ref_live {w : World} {l : Nat} {e : Ty} (hw : WT S P Ψ w) (hr : VT S P Ψ (.ref l) (.ref e)) :
    l < w.store.size :=
  ValTyG.ref_live hw.toG hr.toG

theorem ref_new_sound {w : World} {v : Val} {e : Ty} (hw : WT S P Ψ w) (hv : VT S P Ψ v e) :
    WT S P (Ψ ++ [e]) { w with store := w.store.push v } ∧ VT S P (Ψ ++ [e]) (.ref w.store.size) (.ref e) :=
  let ⟨h1, h2⟩ := ValTyG.ref_new_sound rfl hw.toG hv.toG
  ⟨WT.ofG h1, VT.ofG h2⟩

theorem ref_set_sound {w : World} {l : Nat} {e : Ty} {v : Val} (hw : WT S P Ψ w)
    (hr : VT S P Ψ (.ref l) (.ref e)) (hv : VT S P Ψ v e) : WT S P Ψ { w with store := w.store.set! l v } :=
  WT.ofG (ValTyG.ref_set_sound hw.toG hr.toG hv.toG)

end Goml.ValTyR
