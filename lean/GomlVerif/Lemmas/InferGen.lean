import GomlVerif.Lemmas.InferJust
/-!
`Gen`, one specification of a stretch of constraint generation, closed under sequencing and with one rule per primitive
of the generator and per kind of obligation, so that ONE induction over `go` (`Lemmas/InferTotal.lean::go_spec`) proves
that generation returns, that it extends the state, and that the tree it returns is justified by the queue it returns.
-/
namespace Goml.Infer
open Goml Goml.Unify

/-- The obligations are justified not at `s'` but at every later state that satisfies `C` (`Clean`, or anything for the
steps that need no cleanness): that is what makes `seq` hold. -/
structure Gen (C : St → Prop) (funs : List (String × Ty)) (Γ : Scopes) (s : St) (os : List Obl) (bs : List (Nat × Ty))
    (Γ' : Scopes) (s' : St) : Prop where
  le : Le s s'
  just : ∀ {s2}, Le s' s2 → C s2 → ∀ {B}, BIn B bs → EnvAll B Γ → EnvAll B Γ' ∧ JL B funs s2.cs os

namespace Gen
variable {C : St → Prop} {funs : List (String × Ty)} {Γ Γ1 Γ2 Γ' : Scopes} {s s0 s1 s2 s' s'' : St}
  {os os1 os2 os' : List Obl} {bs bs1 bs2 bs' : List (Nat × Ty)}

theorem refl : Gen C funs Γ s [] [] Γ s := ⟨Le.refl s, fun _ _ _ _ hΓ => ⟨hΓ, JL.nil⟩⟩

theorem seq (h1 : Gen C funs Γ s os1 bs1 Γ1 s1) (h2 : Gen C funs Γ1 s1 os2 bs2 Γ2 s2) :
    Gen C funs Γ s (os1 ++ os2) (bs1 ++ bs2) Γ2 s2 :=
  ⟨h1.le.trans h2.le, fun l hd _ hB hΓ =>
    let ⟨e1, j1⟩ := h1.just (h2.le.trans l) hd hB.left hΓ
    let ⟨e2, j2⟩ := h2.just l hd hB.right e1
    ⟨e2, j1.append j2⟩⟩

theorem mono (h : Gen C funs Γ s os bs Γ' s') (hos : ∀ o, o ∈ os' → o ∈ os) (hbs : ∀ b, b ∈ bs → b ∈ bs') :
    Gen C funs Γ s os' bs' Γ' s' :=
  ⟨h.le, fun l hd _ hB hΓ =>
    let ⟨e, j⟩ := h.just l hd (fun p hp => hB p (hbs p hp)) hΓ
    ⟨e, fun o ho => j o (hos o ho)⟩⟩

theorem pre (l : Le s s0) (h : Gen C funs Γ s0 os bs Γ' s') : Gen C funs Γ s os bs Γ' s' := ⟨l.trans h.le, h.just⟩

theorem post (h : Gen C funs Γ s os bs Γ' s') (l : Le s' s'') : Gen C funs Γ s os bs Γ' s'' :=
  ⟨h.le.trans l, fun l2 => h.just (l.trans l2)⟩

theorem also (h : Gen C funs Γ s os bs Γ' s') (hj : ∀ B cs, (∀ c, c ∈ s'.cs → c ∈ cs) → JL B funs cs os2) :
    Gen C funs Γ s (os ++ os2) bs Γ' s' :=
  ⟨h.le, fun l hd _ hB hΓ => let ⟨e, j⟩ := h.just l hd hB hΓ; ⟨e, j.append (hj _ _ l.mem)⟩⟩

theorem queued {l r} (h : Gen C funs Γ s os bs Γ' s') (hm : Constraint.eq l r ∈ s'.cs) :
    Gen C funs Γ s (os ++ [.rel l r]) bs Γ' s' :=
  h.also fun _ _ hs => JL.one (Or.inr (hs _ hm))

theorem push (h : Gen C funs Γ s os bs Γ' s') (l r : Ty) :
    Gen C funs Γ s (os ++ [.rel l r]) bs Γ' (s'.push (.eq l r)) :=
  (h.post (le_push _ _)).queued (mem_push _ _)

theorem pushF (h : Gen C funs Γ s os bs Γ' s') (e : Ty) (f : String) (r : Ty) :
    Gen C funs Γ s (os ++ [.fld e f r]) bs Γ' (s'.push (.field e f r)) :=
  (h.post (le_push _ _)).also fun _ _ hs => JL.one (hs _ (mem_push _ _))

theorem fact {o} (h : Gen C funs Γ s os bs Γ' s') (hj : ∀ B cs, J B funs cs o) : Gen C funs Γ s (os ++ [o]) bs Γ' s' :=
  h.also fun B cs _ => JL.one (hj B cs)

theorem same {t : Ty} (h : Gen C funs Γ s os bs Γ' s') : Gen C funs Γ s (os ++ [.same t t]) bs Γ' s' := h.fact fun _ _ => rfl

theorem relRefl {t : Ty} (h : Gen C funs Γ s os bs Γ' s') : Gen C funs Γ s (os ++ [.rel t t]) bs Γ' s' := h.fact fun _ _ => .inl rfl

theorem inst {n sch} {σ : Store} (h : Gen C funs Γ s os bs Γ' s') (hl : lookupAssoc n funs = some sch) :
    Gen C funs Γ s (os ++ [.inst n (instTy σ [] sch).2.2]) bs Γ' s' := h.fact fun _ _ => ⟨sch, hl, σ, rfl⟩

theorem proj {tup tys idx ft} (h : Gen C funs Γ s os bs Γ' s') (hty : tup = .tuple tys) (hft : tys[idx]? = some ft) :
    Gen C funs Γ s (os ++ [.projOk tup idx ft]) bs Γ' s' := h.fact fun _ _ => ⟨tys, hty, hft⟩

theorem lookup {x ty} (h : Gen C funs Γ s os bs Γ' s') (hl : lookupVar x Γ' = some ty) :
    Gen C funs Γ s (os ++ [.bound x ty]) bs Γ' s' :=
  ⟨h.le, fun l hd _ hB hΓ => let ⟨e, j⟩ := h.just l hd hB hΓ; ⟨e, j.append (JL.one (e.lookup hl))⟩⟩

/-- after a diagnostic no later state is clean: anything is justified -/
theorem diag {d} (l : Le s s0) : Gen Clean funs Γ s os bs Γ' (s0.diag d) :=
  ⟨l.trans (le_diag _ _), fun l2 hd => (diag_absurd l2 hd).elim⟩

/-- likewise after the ghost flag -/
theorem mark (l : Le s s0) : Gen Clean funs Γ s os bs Γ' s0.mark :=
  ⟨l.trans (le_mark _), fun l2 hd => (mark_absurd l2 hd).elim⟩

theorem enter (h : Gen C funs (pushScope Γ) s os bs Γ' s') : Gen C funs Γ s os bs Γ' s' :=
  ⟨h.le, fun l hd _ hB hΓ => h.just l hd hB hΓ.push⟩

theorem leave (h : Gen C funs Γ s os bs Γ' s') : Gen C funs Γ s os bs (popScope Γ' s').1 (popScope Γ' s').2 :=
  ⟨h.le.trans (le_popScope _ _), fun l hd _ hB hΓ =>
    let ⟨e, j⟩ := h.just ((le_popScope _ _).trans l) hd hB hΓ; ⟨e.pop, j⟩⟩

theorem bind (h : Gen C funs Γ s os bs Γ' s') (x : Nat) (ty : Ty) :
    Gen C funs Γ s (os ++ [.bound x ty]) (bs ++ [(x, ty)]) (insertVar x ty Γ') s' :=
  ⟨h.le, fun l hd _ hB hΓ =>
    let ⟨e, j⟩ := h.just l hd hB.left hΓ
    have hx := hB.right (x, ty) List.mem_cons_self
    ⟨e.insert hx, j.append (JL.one hx)⟩⟩

end Gen

/-- `obls` lists a node's obligations as those of its sub-trees, then the node's own; the generator emits the node's own
between the sub-trees.  With the two kept apart, the order is changed in `kid` and `kidFront` only. -/
def Gen2 (C : St → Prop) (funs : List (String × Ty)) (Γ : Scopes) (s : St) (kids own : List Obl)
    (bs : List (Nat × Ty)) (Γ' : Scopes) (s' : St) : Prop :=
  Gen C funs Γ s (kids ++ own) bs Γ' s'

namespace Gen2
variable {C : St → Prop} {funs : List (String × Ty)} {Γ Γ1 Γ2 Γ' : Scopes} {s s0 s1 s2 s' s'' : St}
  {kids own os : List Obl} {bs bs2 : List (Nat × Ty)}

theorem refl : Gen2 C funs Γ s [] [] [] Γ s := Gen.refl

theorem ofGen (h : Gen C funs Γ s os bs Γ' s') : Gen2 C funs Γ s os [] bs Γ' s' := by
  unfold Gen2; rw [List.append_nil]; exact h

theorem kid (h1 : Gen2 C funs Γ s kids own bs Γ1 s1) (h2 : Gen C funs Γ1 s1 os bs2 Γ2 s2) :
    Gen2 C funs Γ s (kids ++ os) own (bs ++ bs2) Γ2 s2 := by
  unfold Gen2 at h1 ⊢
  refine (Gen.seq h1 h2).mono (fun o ho => ?_) (fun _ h => h)
  simp only [List.mem_append] at ho ⊢
  rcases ho with (h | h) | h
  · exact .inl (.inl h)
  · exact .inr h
  · exact .inl (.inr h)

/-- for a sub-tree that `obls` and `binders` list first although it is generated last (a callee, after its arguments) -/
theorem kidFront (h1 : Gen2 C funs Γ s kids own bs Γ1 s1) (h2 : Gen C funs Γ1 s1 os bs2 Γ2 s2) :
    Gen2 C funs Γ s (os ++ kids) own (bs2 ++ bs) Γ2 s2 := by
  unfold Gen2 at h1 ⊢
  refine (Gen.seq h1 h2).mono (fun o ho => ?_) (fun b hb => ?_)
  · simp only [List.mem_append] at ho ⊢
    rcases ho with (h | h) | h
    · exact .inr h
    · exact .inl (.inl h)
    · exact .inl (.inr h)
  · simp only [List.mem_append] at hb ⊢
    exact hb.symm

theorem post (h : Gen2 C funs Γ s kids own bs Γ' s') (l : Le s' s'') : Gen2 C funs Γ s kids own bs Γ' s'' := Gen.post h l

private theorem own1 {o} (h : Gen C funs Γ s (kids ++ own ++ [o]) bs Γ' s') : Gen2 C funs Γ s kids (own ++ [o]) bs Γ' s' := by
  unfold Gen2; rw [← List.append_assoc]; exact h

theorem push (h : Gen2 C funs Γ s kids own bs Γ' s') (l r : Ty) :
    Gen2 C funs Γ s kids (own ++ [.rel l r]) bs Γ' (s'.push (.eq l r)) := own1 (Gen.push h l r)

theorem queued {l r} (h : Gen2 C funs Γ s kids own bs Γ' s') (hm : Constraint.eq l r ∈ s'.cs) :
    Gen2 C funs Γ s kids (own ++ [.rel l r]) bs Γ' s' := own1 (Gen.queued h hm)

theorem same {t : Ty} (h : Gen2 C funs Γ s kids own bs Γ' s') : Gen2 C funs Γ s kids (own ++ [.same t t]) bs Γ' s' :=
  own1 (Gen.same h)

end Gen2

/-- `C` is arbitrary: no diagnostic of `check_pat` makes its tree lack a justification -/
theorem checkPat_gen {C funs} : ∀ (p : IPat) ty Γ (s : St),
    Gen C funs Γ s (pobls (checkPat p ty Γ s).1 ty) (pbinders (checkPat p ty Γ s).1)
      (checkPat p ty Γ s).2.1 (checkPat p ty Γ s).2.2 := by
  intro p
  apply IPat.rec
    (motive_1 := fun p => ∀ ty Γ (s : St), Gen C funs Γ s (pobls (checkPat p ty Γ s).1 ty) (pbinders (checkPat p ty Γ s).1)
      (checkPat p ty Γ s).2.1 (checkPat p ty Γ s).2.2)
    (motive_2 := fun ps => ∀ tys Γ (s : St), Gen C funs Γ s (pselfL (checkPatZip ps tys Γ s).1)
      (pbindersL (checkPatZip ps tys Γ s).1) (checkPatZip ps tys Γ s).2.1 (checkPatZip ps tys Γ s).2.2)
  · intro x ty Γ s; rw [checkPat]; exact (Gen.refl.bind x ty).same  -- var
  · intro ty Γ s; rw [checkPat]; exact (Gen.refl.post (le_fresh s)).push _ _  -- wild
  · intro ty Γ s; rw [checkPat]; exact Gen.refl.relRefl.push _ _  -- unit
  · intro ty Γ s; rw [checkPat]; exact Gen.refl.relRefl.push _ _  -- bool
  · intro ty Γ s; rw [checkPat]; exact (Gen.refl.push _ _).queued (mem_push _ _)  -- int: `rel ty target`, queued, not an identity
  · intro ty Γ s; rw [checkPat]; exact Gen.refl.relRefl.push _ _  -- str
  · intro k ty Γ s; rw [checkPat]; exact Gen.refl.relRefl.push _ _  -- tint
  · intro info args ih ty Γ s  -- constr
    -- a failed lookup / a wrong arity: the diagnostic, then `check_pat_wild`
    have wild : ∀ d, Gen C funs Γ s (pobls (.wild (s.diag d).fresh.1) ty) [] Γ
        ((s.diag d).fresh.2.push (.eq (s.diag d).fresh.1 ty)) :=
      fun d => (Gen.refl.post ((le_diag _ _).trans (le_fresh _))).push _ _
    rcases info with _ | _ | ⟨cty, arity⟩
    · simp only [checkPat]; exact wild _
    · simp only [checkPat]; exact wild _
    · simp only [checkPat]
      split
      · exact wild _
      · exact ((ih _ Γ _).pre (le_inst _ _)).push _ _
  · intro ps ih ty Γ s; rw [checkPat]  -- tuple
    exact ((Gen.refl.same.post (le_tupleElemTys _ _ _)).seq (ih _ Γ _)).push _ _
  · intro tys Γ s; simp only [checkPatZip]; exact .refl  -- nil
  · intro p ps ihp ihps tys Γ s  -- cons
    cases tys with
    | nil => simp only [checkPatZip]; exact .refl
    | cons t ts =>
      simp only [checkPatZip]
      exact ((ihp t Γ s).mono (fun _ h => List.mem_append_left _ h) (fun _ h => h)).seq (ihps ts _ _)

theorem le_checkPat : ∀ (p : IPat) ty Γ (s : St), Le s (checkPat p ty Γ s).2.2 :=
  fun p ty Γ s => (checkPat_gen (C := fun _ => True) (funs := []) p ty Γ s).le

theorem checkPat_just {B funs} : ∀ (p : IPat) ty Γ (s : St),
    BIn B (pbinders (checkPat p ty Γ s).1) → EnvAll B Γ →
    EnvAll B (checkPat p ty Γ s).2.1 ∧ JL B funs (checkPat p ty Γ s).2.2.cs (pobls (checkPat p ty Γ s).1 ty) :=
  fun p ty Γ s => (checkPat_gen (C := fun _ => True) p ty Γ s).just (Le.refl _) trivial

theorem bindParamsInf_gen {funs} : ∀ ps Γ (s : St),
    Gen Clean funs Γ s (boundsOf (bindParamsInf ps Γ s).1) (bindParamsInf ps Γ s).1 (bindParamsInf ps Γ s).2.1 (bindParamsInf ps Γ s).2.2
  | [], Γ, s => .refl
  | (x, ann) :: ps, Γ, s => by
    simp only [bindParamsInf, boundsOf]
    have v : Le s (match ann with | some a => (a, s) | none => s.fresh).2 := by
      cases ann with
      | none => exact le_fresh s
      | some a => exact Le.refl s
    exact ((Gen.refl.post v).bind x _).seq (bindParamsInf_gen ps _ _)

theorem bindParamsChk_gen {funs} : ∀ ps eps Γ (s : St),
    Gen Clean funs Γ s (boundsOf (bindParamsChk ps eps Γ s).1) (bindParamsChk ps eps Γ s).1 (bindParamsChk ps eps Γ s).2.1
      (bindParamsChk ps eps Γ s).2.2
  | [], eps, Γ, s => by simp only [bindParamsChk]; exact .refl
  | (x, ann) :: ps, [], Γ, s => by simp only [bindParamsChk]; exact .refl
  | (x, ann) :: ps, ep :: eps, Γ, s => by
    simp only [bindParamsChk, boundsOf]
    have v : Le s (match ann with | some a => (a, s.push (.eq a ep)) | none => (ep, s)).2 := by
      cases ann with
      | none => exact Le.refl s
      | some a => exact le_push s _
    exact ((Gen.refl.post v).bind x _).seq (bindParamsChk_gen ps eps _ _)

theorem nameRef_gen (r G Γ) (s : St) : Gen Clean G.funs Γ s (obls (nameRef r G Γ s).1) [] Γ (nameRef r G Γ s).2 := by
  have err : ∀ d, Gen Clean G.funs Γ s (obls (errExpr (s.diag d)).1) [] Γ (errExpr (s.diag d)).2 :=
    fun d => (Gen.diag (Le.refl s)).post (le_errExpr _)
  unfold nameRef
  split
  · split
    · rename_i hl; exact Gen.refl.lookup hl
    · exact err _
  · split
    · rename_i fty hl
      exact (Gen.refl.inst hl).post (le_inst _ _)
    · exact err _
  · exact err _
  · split
    · rename_i fty hl
      exact (Gen.refl.inst hl).post (le_inst _ _)
    · exact err _
  · exact err _

theorem nameRef_just {B} {r G Γ} {s s' : St} (l : Le (nameRef r G Γ s).2 s') (hd : Clean s') (hΓ : EnvAll B Γ) :
    JL B G.funs s'.cs (obls (nameRef r G Γ s).1) :=
  ((nameRef_gen r G Γ s).just l hd (fun _ h => nomatch h) hΓ).2

/-- the last conjunct: in check mode `finish` ends by queuing `TypeEqual(type of the tree, expected type)` -/
def Ret (funs : List (String × Ty)) (Γ : Scopes) (s : St) (exp : Option Ty) (r : Res) : Prop :=
  ∃ t Γ' s', r = some (t, Γ', s') ∧ Gen Clean funs Γ s (obls t) (binders t) Γ' s' ∧
    ∀ x, exp = some x → Constraint.eq t.ty x ∈ s'.cs

def RetL (funs : List (String × Ty)) (Γ : Scopes) (s : St) (r : Option (List TExpr × Scopes × St)) : Prop :=
  ∃ ts Γ' s', r = some (ts, Γ', s') ∧ Gen Clean funs Γ s (oblsL ts) (bindersL ts) Γ' s'

/-- `i exp v T` are implicit so that they are read off the goal before `g` is elaborated -/
theorem finish_spec {funs Γ s os bs Γx sx i exp v T} (g : Gen Clean funs Γ s os bs Γx sx)
    (hos : ∀ o, o ∈ obls T → o ∈ os) (hbs : ∀ b, b ∈ bs → b ∈ binders T) :
    Ret funs Γ s exp (finish i exp v T Γx sx) := by
  obtain ⟨s', h, l⟩ := finish_le i exp v T Γx sx
  exact ⟨T, Γx, s', h, (g.mono hos hbs).post l, (finish_inv h).2.2.2⟩

theorem finish_eq {funs Γ s Γx sx i exp v T} (g : Gen Clean funs Γ s (obls T) (binders T) Γx sx) :
    Ret funs Γ s exp (finish i exp v T Γx sx) :=
  finish_spec g (fun _ h => h) (fun _ h => h)

theorem finish2 {funs Γ s kids own Γx sx i exp v T} (g : Gen2 Clean funs Γ s kids own (binders T) Γx sx)
    (h : obls T = kids ++ own) : Ret funs Γ s exp (finish i exp v T Γx sx) :=
  finish_eq (h ▸ g)

theorem finish_err {funs Γ s s0 i exp v Γx d} (l : Le s s0) :
    Ret funs Γ s exp (finish i exp v (errExpr (s0.diag d)).1 Γx (errExpr (s0.diag d)).2) :=
  finish_eq ((Gen.diag l).post (le_errExpr _))

end Goml.Infer
