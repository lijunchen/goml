import GomlVerif.Lemmas.MonoShape
import GomlVerif.Lemmas.TypeOf
/-! What `mono_expr` emits is free of type parameters, and every function the work list emits is a `specialise` of a
function of the program at a closed substitution. -/
namespace Goml.Mono
open Goml Goml.Closed

theorem noParam_iff_not_hasTParam (t : Ty) : noParam t = !hasTParam t := by
  apply Ty.rec
    (motive_1 := fun t => noParam t = !hasTParam t)
    (motive_2 := fun ts => noParams ts = !hasTParams ts)
  all_goals intros
  all_goals simp_all [noParam, hasTParam, noParams, hasTParams, Bool.not_or]

/-- the guard `call_subst.values().any(has_tparam)` of `mono_expr` -/
theorem closedSubst_of_any {cs : Subst} (h : (cs.any fun p => hasTParam p.2) = false) : ClosedSubst cs := by
  intro n v hl
  have hm := lookup_mem hl
  have := List.any_eq_false.1 h (n, v) hm
  simpa [noParam_iff_not_hasTParam] using this

theorem noParam_primTy (p : Prim) : noParam (primTy p) = true := by
  cases p <;> simp [primTy, noParam]

theorem getTy_noParam (e : Expr) : allTys noParam e = true → noParam (getTy e) = true :=
  allTys_getTy rfl noParam_primTy e

theorem getTys_noParam (es : List Expr) : allTysList noParam es = true → noParams (getTys es) = true := by
  induction es with
  | nil => simp [getTys, noParams]
  | cons e es ih =>
    intro h
    simp only [allTysList, Bool.and_eq_true] at h
    simp [getTys, noParams, getTy_noParam e h.1, ih h.2]

/-- what `SameUpToCallee` may change carries no type parameter that was not there: a renamed `.var` keeps its
annotation, a re-derived constructor name is no annotation, and the callee of a resolved trait call is
annotated with the types of its (parameter-free) arguments. -/
theorem _root_.Goml.Wt.SameUpToCallee.allTys_noParam {a b : Expr} (hs : Wt.SameUpToCallee a b) :
    allTys noParam a = true → allTys noParam b = true := by
  refine Wt.SameUpToCallee.rec
    (motive_1 := fun a b _ => allTys noParam a = true → allTys noParam b = true)
    (motive_2 := fun as bs _ => allTysList noParam as = true → allTysList noParam bs = true)
    (motive_3 := fun as bs _ => allTysArms noParam as = true → allTysArms noParam bs = true)
    ?_ ?_ ?_ ?_ ?_ ?_ ?_ ?_ ?_ ?_ ?_ ?_ ?_ ?_ ?_ ?_ ?_ ?_ ?_ ?_ ?_ ?_ ?_ ?_ ?_ hs
  all_goals
    intros
    simp_all [allTys, allTysList, allTysArms, noParam, getTys, noParams, getTy_noParam, getTys_noParam]

/-- if every annotation of `e` becomes parameter-free under `σ`, what `mono_expr` emits for `e`
contains no type parameter: it is `substE σ e` up to callee names -/
theorem monoExpr_closed (F : List Fn) (σ : Subst) (e : Expr) (c : Ctx)
    (h : allTys (fun t => noParam (substTy σ t)) e = true) : allTys noParam (monoExpr F σ e c).1 = true :=
  (Wt.monoExpr_sameUpToCallee F σ e c).allTys_noParam (((Wt.allTys_substE noParam σ).1 e).trans h)

theorem allParamTys_mono {p q : Ty → Bool} (h : ∀ t, p t = true → q t = true) (ps : List (String × Ty)) :
    allParamTys p ps = true → allParamTys q ps = true := by
  induction ps with
  | nil => simp [allParamTys]
  | cons a ps ih =>
    obtain ⟨x, t⟩ := a
    simp only [allParamTys, Bool.and_eq_true]
    exact fun hh => ⟨h t hh.1, ih hh.2⟩

/-- every row of `allTys` is a conjunction of `p` at the annotations and `allTys p` of the parts -/
theorem allTys_mono_all {p q : Ty → Bool} (h : ∀ t, p t = true → q t = true) :
    (∀ e, allTys p e = true → allTys q e = true) ∧ (∀ as, allTysArms p as = true → allTysArms q as = true) ∧
      ∀ es, allTysList p es = true → allTysList q es = true := by
  have hps := allParamTys_mono h
  refine allTys.mutual_induct
    (fun e => allTys p e = true → allTys q e = true) (fun as => allTysArms p as = true → allTysArms q as = true)
    (fun es => allTysList p es = true → allTysList q es = true)
    ?_ ?_ ?_ ?_ ?_ ?_ ?_ ?_ ?_ ?_ ?_ ?_ ?_ ?_ ?_ ?_ ?_ ?_ ?_ ?_ ?_ ?_ ?_ ?_ ?_
  all_goals intros
  all_goals simp_all only [allTys, allTysList, allTysArms, Bool.and_eq_true, and_self]

theorem allTys_mono {p q : Ty → Bool} (h : ∀ t, p t = true → q t = true) (e : Expr) :
    allTys p e = true → allTys q e = true := (allTys_mono_all h).1 e

/-- every annotation of the function mentions only parameters that `σ` binds -/
def Covers (σ : Subst) (f : Fn) : Prop := fnAllTys (coversTy σ) f = true

theorem coversTy_closed {σ : Subst} (hc : ClosedSubst σ) (t : Ty) (h : coversTy σ t = true) :
    noParam (substTy σ t) = true :=
  subst_closed_aux σ hc t (by simpa [coversTy, List.all_eq_true] using h)

/-- the function emitted for the instance `(f, σ)` while the context was `c` -/
def specialise (F : List Fn) (f : Fn) (σ : Subst) (c : Ctx) : Fn :=
  { name := specName f.name σ, generics := [], params := substParams σ f.params, ret := substTy σ f.ret,
    body := (monoExpr F σ f.body c).1 }

theorem specialise_closed (F : List Fn) (f : Fn) (σ : Subst) (c : Ctx) (hc : ClosedSubst σ) (hv : Covers σ f) :
    fnAllTys noParam (specialise F f σ c) = true := by
  simp only [Covers, fnAllTys, Bool.and_eq_true] at hv
  simp only [fnAllTys, specialise, Bool.and_eq_true]
  refine ⟨⟨?_, coversTy_closed hc _ hv.1.2⟩, ?_⟩
  · rw [Wt.substParams_eq_substParamTys, Wt.allParamTys_subst]
    exact allParamTys_mono (fun t ht => coversTy_closed hc t ht) _ hv.1.1
  · exact monoExpr_closed F σ f.body c (allTys_mono (fun t ht => coversTy_closed hc t ht) _ hv.2)

structure WorkOk (c : Ctx) : Prop where
  closed : ∀ w ∈ c.work, ClosedSubst w.subst
  named : ∀ w ∈ c.work, w.spec = specName w.name w.subst

theorem ensureInstance_workOk {c : Ctx} (n : String) (s : Subst) (hs : ClosedSubst s) (h : WorkOk c) :
    WorkOk (ensureInstance c n s).2 := by
  refine ⟨fun w hw => ?_, fun w hw => ?_⟩
  · rcases ensureInstance_work hw with hw | rfl
    · exact h.closed w hw
    · exact hs
  · rcases ensureInstance_work hw with hw | rfl
    · exact h.named w hw
    · rfl

theorem fail_workOk {c : Ctx} (m : String) (h : WorkOk c) : WorkOk (c.fail m) :=
  fail_keeps (fun _ _ h => ⟨h.closed, h.named⟩) m h

theorem monoExpr_workOk (F : List Fn) (σ : Subst) (e : Expr) {c : Ctx} (h : WorkOk c) :
    WorkOk (monoExpr F σ e c).2 :=
  monoExpr_requests F σ WorkOk (fun _ f cs _ hany h => ensureInstance_workOk f.name cs (closedSubst_of_any hany) h)
    (fun _ m h => fail_workOk m h) e c h

/-- every emitted function is the specialisation of a function of the program at a closed substitution -/
def OutSpec (F : List Fn) (c : Ctx) : Prop :=
  ∀ g ∈ c.out, ∃ f σ c0, f ∈ F ∧ ClosedSubst σ ∧ g = specialise F f σ c0

/-- the invariant of the loop for what is emitted: `work` about what is still queued, `out` about what is already out -/
structure SpecInv (F : List Fn) (c : Ctx) : Prop where
  work : WorkOk c
  out : OutSpec F c

theorem seed_specInv (F : List Fn) : SpecInv F (seed F) := by
  refine ⟨seed_induct F ⟨by intro w hw; simp at hw, by intro w hw; simp at hw⟩
    fun c f _ _ h => ensureInstance_workOk _ _ closedSubst_nil h, ?_⟩
  intro g hg
  simp [seed_out] at hg

theorem step_specInv {F : List Fn} {c c' : Ctx} (h : SpecInv F c) (hs : step F c = some c') : SpecInv F c' := by
  obtain ⟨w, rest, hw, hc'⟩ := step_some hs
  have h0 : WorkOk { c with work := rest } :=
    ⟨fun w' hw' => h.work.closed w' (by rw [hw]; exact List.mem_cons_of_mem _ hw'),
     fun w' hw' => h.work.named w' (by rw [hw]; exact List.mem_cons_of_mem _ hw')⟩
  rcases hc' with ⟨_, rfl⟩ | ⟨f, hf, rfl⟩
  · refine ⟨fail_workOk _ h0, ?_⟩
    intro g hg
    rw [fail_out] at hg
    exact h.out g hg
  · have h1 := monoExpr_workOk F w.subst f.body h0
    have ho := monoExpr_out F w.subst f.body { c with work := rest }
    refine ⟨⟨h1.closed, h1.named⟩, ?_⟩
    intro g hg
    simp only [ho, List.mem_append, List.mem_singleton] at hg
    rcases hg with hg | hg
    · exact h.out g hg
    · have hwm : w ∈ c.work := by rw [hw]; exact List.mem_cons_self
      refine ⟨f, w.subst, { c with work := rest }, (findFn_mem hf).1, h.work.closed w hwm, ?_⟩
      rw [hg]
      simp only [specialise, (findFn_mem hf).2, h.work.named w hwm]

theorem loop_specInv {F : List Fn} (fuel : Nat) (c c' : Ctx) (h : SpecInv F c) (hl : loop F fuel c = some c') :
    SpecInv F c' :=
  (loop_induct (fun _ _ h hs => step_specInv h hs) fuel c c' h hl).1

end Goml.Mono
