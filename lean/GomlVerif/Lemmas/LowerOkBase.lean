import GomlVerif.Model.LowerScope
/-! Postconditions for `lower_ctor_iff`: what it means for a lowered expression / arm / field / block to be
classified according to the declarative scope, and the constructor-by-constructor rules. -/
namespace Goml.Lower
open Goml.Src

theorem patNames_scope_all :
    (∀ p, Resolve.patNames (scopePat p) = patVars p) ∧
    (∀ fs, Resolve.patsNames (scopeFieldPats fs) = patVarsFields fs) ∧
    (∀ ps, Resolve.patsNames (scopePats ps) = patVarsList ps) := by
  apply scopePat.mutual_induct
  all_goals intros
  all_goals simp only [scopePat, scopePats, scopeFieldPats, Resolve.patNames, Resolve.patsNames, patVars, patVarsList,
    patVarsFields, *]

theorem patNames_scopePat : ∀ p : Pat, Resolve.patNames (scopePat p) = patVars p := patNames_scope_all.1
theorem patsNames_scopePats : ∀ ps : List Pat, Resolve.patsNames (scopePats ps) = patVarsList ps := patNames_scope_all.2.2
theorem patsNames_scopeFieldPats : ∀ fs : List FieldPat, Resolve.patsNames (scopeFieldPats fs) = patVarsFields fs :=
  patNames_scope_all.2.1

variable {C Γ : List String}

/-- `isLetE e = false`: a `let` occurs only as an item of a block, so an expression position opens no scope for what
follows it (`okItems_cons_expr`). -/
def OkE (C Γ : List String) (e : Expr) : Prop := classOkExpr C Γ (scopeOf e) = true ∧ isLetE e = false
def OkL (C Γ : List String) (es : List Expr) : Prop := ∀ e ∈ es, OkE C Γ e
def OkArm (C Γ : List String) : Arm → Prop
  | .mk p b => OkE C (Γ ++ patVars p) b
/-- A shorthand field `{x}` is a use of the binder `x`: `scopeFields` maps it to a plain `var`, whatever `e` is. -/
def OkF (C Γ : List String) : FieldInit → Prop
  | .mk f e => isShorthand f e = true ∨ OkE C Γ e
def OkT (C Γ : List String) : Trailing → Prop
  | .call args => OkL C Γ args
  | _ => True
def OkItems (C Γ : List String) (es : List Expr) : Prop := classOkItems C Γ (scopeItems es) = true

/-- what the `let`s among the items of a block have pushed on the binder stack -/
def itemsBinds : List Expr → List String
  | [] => []
  | e :: rest => (match e with | .letE p _ _ => patVars p | _ => []) ++ itemsBinds rest

theorem classOkList_scopeList {es : List Expr} (h : OkL C Γ es) : classOkList C Γ (scopeList es) = true := by
  induction es with
  | nil => simp [scopeList, classOkList]
  | cons e es ih =>
    simp only [scopeList, classOkList, Bool.and_eq_true]
    exact ⟨(h e (List.mem_cons_self ..)).1, ih (fun x hx => h x (List.mem_cons_of_mem _ hx))⟩

theorem okE_lit (l : Lit) : OkE C Γ (.lit l) := by simp [OkE, scopeOf, classOkExpr, classOkList, isLetE]
theorem okE_un {o : UnOp} {e : Expr} (h : OkE C Γ e) : OkE C Γ (.un o e) := by
  simp [OkE, scopeOf, classOkExpr, classOkList, isLetE, h.1]
theorem okE_go {e : Expr} (h : OkE C Γ e) : OkE C Γ (.go e) := by
  simp [OkE, scopeOf, classOkExpr, classOkList, isLetE, h.1]
theorem okE_proj {e : Expr} {i : Nat} (h : OkE C Γ e) : OkE C Γ (.proj e i) := by
  simp [OkE, scopeOf, classOkExpr, classOkList, isLetE, h.1]
theorem okE_field {e : Expr} {x : String} (h : OkE C Γ e) : OkE C Γ (.field e x) := by
  simp [OkE, scopeOf, classOkExpr, classOkList, isLetE, h.1]
theorem okE_bin {o : BinOp} {l r : Expr} (hl : OkE C Γ l) (hr : OkE C Γ r) : OkE C Γ (.bin o l r) := by
  simp [OkE, scopeOf, classOkExpr, classOkList, isLetE, hl.1, hr.1]
theorem okE_while {c b : Expr} (hc : OkE C Γ c) (hb : OkE C Γ b) : OkE C Γ (.while c b) := by
  simp [OkE, scopeOf, classOkExpr, classOkList, isLetE, hc.1, hb.1]
theorem okE_ite {c t e : Expr} (hc : OkE C Γ c) (ht : OkE C Γ t) (he : OkE C Γ e) : OkE C Γ (.ite c t e) := by
  simp [OkE, scopeOf, classOkExpr, classOkList, isLetE, hc.1, ht.1, he.1]
theorem okE_tuple {es : List Expr} (h : OkL C Γ es) : OkE C Γ (.tuple es) := by
  simp [OkE, scopeOf, classOkExpr, isLetE, classOkList_scopeList h]
theorem okE_array {es : List Expr} (h : OkL C Γ es) : OkE C Γ (.array es) := by
  simp [OkE, scopeOf, classOkExpr, isLetE, classOkList_scopeList h]
theorem okE_call {f : Expr} {args : List Expr} (hf : OkE C Γ f) (h : OkL C Γ args) : OkE C Γ (.call f args) := by
  simp [OkE, scopeOf, classOkExpr, classOkList, isLetE, classOkList_scopeList h, hf.1]

/-- the `else` branch of the classification: an `EPath` is not a visible constructor -/
theorem okE_path {p : List String} {last : String} (hl : p.getLast? = some last)
    (h : isCtorPath C Γ p last = false) : OkE C Γ (.path p) := by
  refine ⟨?_, rfl⟩
  match p, hl with
  | [x], hl =>
    simp at hl; subst hl
    simp [isCtorPath, isCtor] at h
    simp [scopeOf, classOkExpr]
    by_cases hx : x ∈ C
    · exact Or.inl (h hx)
    · exact Or.inr hx
  | [], hl => simp at hl
  | _ :: _ :: _, _ => simp [scopeOf, classOkExpr, classOkList]

/-- the `then` branch: an `EConstr` is a constructor of the file that no local binder shadows -/
theorem okE_constr {p : List String} {last : String} {args : List Expr} (hl : p.getLast? = some last)
    (h : isCtorPath C Γ p last = true) (ha : OkL C Γ args) : OkE C Γ (.constr p args) := by
  refine ⟨?_, rfl⟩
  match p, hl with
  | [x], hl =>
    simp at hl; subst hl
    simp [isCtorPath, isCtor] at h
    simp [scopeOf, classOkExpr, classOkList_scopeList ha, h.1, h.2]
  | [], hl => simp at hl
  | _ :: _ :: _, _ => simp [scopeOf, classOkExpr, classOkList_scopeList ha]

theorem okE_applyPost {e : Expr} {t : Trailing} (he : OkE C Γ e) (ht : OkT C Γ t) : OkE C Γ (applyPost e t) := by
  cases t with
  | call args => exact okE_call he ht
  | field x => exact okE_field he
  | proj i => exact okE_proj he

theorem okE_applyTrailing : ∀ (tr : List Trailing) (e : Expr), OkE C Γ e → (∀ t ∈ tr, OkT C Γ t) →
    OkE C Γ (applyTrailing e tr)
  | [], _, he, _ => he
  | t :: ts, e, he, h =>
    okE_applyTrailing ts (applyPost e t) (okE_applyPost he (h t (List.mem_cons_self ..)))
      (fun u (hu : u ∈ ts) => h u (List.mem_cons_of_mem _ hu))

theorem okE_closure {ps : List (String × Option TyE)} {b : Expr} (h : OkE C (Γ ++ ps.map (·.1)) b) :
    OkE C Γ (.closure ps b) := by
  refine ⟨?_, rfl⟩
  simp only [scopeOf, classOkExpr, List.map_map]
  have : (ps.map ((fun q : String × Nat => q.1) ∘ fun q => (q.1, 0))) = ps.map (·.1) := by
    apply List.map_congr_left; intro a _; rfl
  rw [this]
  exact h.1

theorem classOkArms_scopeArms : ∀ {arms : List Arm}, (∀ a ∈ arms, OkArm C Γ a) → classOkArms C Γ (scopeArms arms) = true
  | [], _ => by simp [scopeArms, classOkArms]
  | .mk p b :: rest, h => by
    have h1 : OkArm C Γ (.mk p b) := h _ (List.mem_cons_self ..)
    simp only [scopeArms, classOkArms, Bool.and_eq_true, patNames_scopePat]
    exact ⟨h1.1, classOkArms_scopeArms (fun a ha => h a (List.mem_cons_of_mem _ ha))⟩

theorem okE_matchE {s : Expr} {arms : List Arm} (hs : OkE C Γ s) (h : ∀ a ∈ arms, OkArm C Γ a) :
    OkE C Γ (.matchE s arms) := by
  refine ⟨?_, rfl⟩
  simp only [scopeOf, classOkExpr, Bool.and_eq_true]
  exact ⟨hs.1, classOkArms_scopeArms h⟩

theorem classOkList_scopeFields : ∀ {fs : List FieldInit}, (∀ f ∈ fs, OkF C Γ f) → classOkList C Γ (scopeFields fs) = true
  | [], _ => by simp [scopeFields, classOkList]
  | .mk f e :: rest, h => by
    have h1 : OkF C Γ (.mk f e) := h _ (List.mem_cons_self ..)
    simp only [scopeFields, classOkList, Bool.and_eq_true]
    refine ⟨?_, classOkList_scopeFields (fun a ha => h a (List.mem_cons_of_mem _ ha))⟩
    rcases h1 with hs | he
    · simp [hs, classOkExpr, classOkList]
    · by_cases hs : isShorthand f e = true
      · simp [hs, classOkExpr, classOkList]
      · simp [hs, he.1]

theorem okE_structLit {p : List String} {fs : List FieldInit} (h : ∀ f ∈ fs, OkF C Γ f) : OkE C Γ (.structLit p fs) := by
  refine ⟨?_, rfl⟩
  simp only [scopeOf, classOkExpr]
  exact classOkList_scopeFields h


theorem okItems_nil : OkItems C Γ [] := by simp [OkItems, scopeItems, classOkItems]

theorem okItems_cons_let {p : Pat} {a : Option TyE} {v : Expr} {rest : List Expr}
    (hv : OkE C Γ v) (hr : OkItems C (Γ ++ patVars p) rest) : OkItems C Γ (.letE p a v :: rest) := by
  simp only [OkItems, scopeItems, classOkItems, Bool.and_eq_true, patNames_scopePat]
  exact ⟨hv.1, hr⟩

theorem okItems_cons_expr {e : Expr} {rest : List Expr} (he : OkE C Γ e) (hr : OkItems C Γ rest) :
    OkItems C Γ (e :: rest) := by
  have hn := he.2
  -- `e` is not a `let`, so it opens no scope for `rest`
  cases e
  all_goals simp [isLetE] at hn
  all_goals
    simp only [OkItems, scopeItems, classOkItems, Bool.and_eq_true]
    exact ⟨he.1, hr⟩

theorem itemsBinds_cons_expr {e : Expr} {rest : List Expr} (hn : isLetE e = false) :
    itemsBinds (e :: rest) = itemsBinds rest := by
  cases e
  all_goals simp [isLetE] at hn
  all_goals simp [itemsBinds]

theorem okItems_snoc : ∀ {es : List Expr} {Γ : List String} {t : List Expr}, OkItems C Γ es →
    OkItems C (Γ ++ itemsBinds es) t → OkItems C Γ (es ++ t)
  | [], Γ, t, _, ht => by simpa [itemsBinds] using ht
  | e :: rest, Γ, t, h, ht => by
    cases e with
    | letE p a v =>
      simp only [OkItems, scopeItems, classOkItems, Bool.and_eq_true, patNames_scopePat, List.cons_append] at h ⊢
      refine ⟨h.1, ?_⟩
      exact okItems_snoc (es := rest) (Γ := Γ ++ patVars p) (t := t) h.2
        (by simpa [itemsBinds, List.append_assoc] using ht)
    | _ =>
      simp only [OkItems, scopeItems, classOkItems, Bool.and_eq_true, List.cons_append] at h ⊢
      refine ⟨h.1, ?_⟩
      exact okItems_snoc (es := rest) (Γ := Γ) (t := t) h.2 (by simpa [itemsBinds] using ht)

theorem okE_block {es : List Expr} (h : OkItems C Γ es) : OkE C Γ (.block es) := by
  refine ⟨?_, rfl⟩
  simp only [scopeOf, classOkExpr]
  exact h

/-- The classification agrees with `Resolve.conOk*`: no `con x` under a local binder `x`, `x` a constructor.  Every row
of `conOk*` asks for a part of what the same row of `classOk*` asks. -/
theorem conOk_all (D : List String) :
    (∀ Γ e, classOkExpr C Γ e = true → Resolve.conOkExpr ⟨C, D⟩ Γ e = true) ∧
    (∀ Γ as, classOkArms C Γ as = true → Resolve.conOkArms ⟨C, D⟩ Γ as = true) ∧
    (∀ Γ is, classOkItems C Γ is = true → Resolve.conOkItems ⟨C, D⟩ Γ is = true) ∧
    (∀ Γ es, classOkList C Γ es = true → Resolve.conOkList ⟨C, D⟩ Γ es = true) := by
  apply classOkExpr.mutual_induct
  all_goals intros
  all_goals simp_all only [classOkExpr, classOkList, classOkItems, classOkArms, Resolve.conOkExpr, Resolve.conOkList,
    Resolve.conOkItems, Resolve.conOkArms, Bool.and_eq_true, and_self]

theorem conOk_expr (D : List String) : ∀ (e : Resolve.Expr) (Γ : List String),
    classOkExpr C Γ e = true → Resolve.conOkExpr ⟨C, D⟩ Γ e = true :=
  fun e Γ => (conOk_all D).1 Γ e
theorem conOk_list (D : List String) : ∀ (es : List Resolve.Expr) (Γ : List String),
    classOkList C Γ es = true → Resolve.conOkList ⟨C, D⟩ Γ es = true :=
  fun es Γ => (conOk_all D).2.2.2 Γ es
theorem conOk_items (D : List String) : ∀ (is : List Resolve.Item) (Γ : List String),
    classOkItems C Γ is = true → Resolve.conOkItems ⟨C, D⟩ Γ is = true :=
  fun is Γ => (conOk_all D).2.2.1 Γ is
theorem conOk_arms (D : List String) : ∀ (as : List Resolve.Arm) (Γ : List String),
    classOkArms C Γ as = true → Resolve.conOkArms ⟨C, D⟩ Γ as = true :=
  fun as Γ => (conOk_all D).2.1 Γ as

end Goml.Lower
