import GomlVerif.Lemmas.SemStep
/-!
Fuel lemmas for `Sem`: a result other than fuel exhaustion is stable under more fuel, and the
fuel-free big-step relations `Ev`, `EvL`, `EvA`, `App` derived from the interpreter.
-/
namespace Goml.Sem
open Goml

theorem evalArms_nil (n : Nat) (P : Prog) (ρ : Env) (w : World) (v : Val) (d : Option Expr) :
    evalArms (n+1) P ρ w v [] d =
      match d with
      | some d => eval n P ρ w d
      | none => .fail (.stuck "no arm selected and no default") w := rfl

theorem evalList_nil (n : Nat) (P : Prog) (ρ : Env) (w : World) :
    evalList (n+1) P ρ w [] = .ok [] w := rfl

/-! "One more unit of fuel does not change a result other than fuel exhaustion" is a relation between two runs that
sequencing respects (`oneMore`); so the body of the interpreter respects it (`stepE_rel`), and `step_all` is the induction
on the fuel. -/

/-- whether a failure is fuel exhaustion does not depend on the type of the result it stands for -/
theorem nf_cast {α β} {r : Res β} {f : Fail} {w : World} (hr : r = .fail f w) (hn : NF r) :
    NF (Res.fail (α := α) f w) := by
  subst hr; rw [NF_fail] at hn ⊢; exact hn

theorem Res.andThen_step {α β : Type} {r r' : Res α} {K K' : α → World → Res β} (hr : NF r → r' = r)
    (hK : ∀ a w, NF (K a w) → K' a w = K a w) (hn : NF (r.andThen K)) : r'.andThen K' = r.andThen K := by
  cases r with
  | fail f w => rw [hr (nf_cast rfl hn)]; rfl
  | ok a w => rw [hr trivial]; exact hK a w hn

theorem oneMore : SeqRel resSeq resSeq (fun r r' => NF r → r' = r) where
  pure _ _ _ := rfl
  bind hx hk hn := Res.andThen_step hx (fun a w => hk a w) hn

theorem step_rel (P : Prog) : ∀ n, IRel (fun r r' => NF r → r' = r) (runI n P) (runI (n + 1) P)
  | 0 => ⟨fun _ _ _ h => h.elim, fun _ _ _ h => h.elim, fun _ _ _ _ _ h => h.elim, fun _ _ _ h => h.elim⟩
  | n + 1 => by
    have ih := step_rel P n
    refine ⟨fun ρ w e => ?_, fun ρ w es => ?_, fun ρ w v arms d => ?_, fun w f args hn => ?_⟩
    · show NF (eval (n + 1) P ρ w e) → eval (n + 2) P ρ w e = eval (n + 1) P ρ w e
      rw [eval_eq_step, eval_eq_step]; exact stepE_rel oneMore ih P.impls ρ w e
    · show NF (evalList (n + 1) P ρ w es) → evalList (n + 2) P ρ w es = evalList (n + 1) P ρ w es
      rw [evalList_eq_step, evalList_eq_step]; exact stepL_rel oneMore ih ρ w es
    · show NF (evalArms (n + 1) P ρ w v arms d) → evalArms (n + 2) P ρ w v arms d = evalArms (n + 1) P ρ w v arms d
      rw [evalArms_eq_step, evalArms_eq_step]; exact stepA_rel oneMore ih ρ w v arms d
    · -- `apply` looks the function up in `P`; every row is a call of `eval` one unit down, or needs no fuel
      show apply (n + 2) P w f args = apply (n + 1) P w f args
      replace hn : NF (apply (n + 1) P w f args) := hn
      cases f with
      | closure ps b ρ => exact ih.expr _ _ _ hn
      | fn name =>
        simp only [apply_fn] at hn ⊢
        generalize P.findFn name = o at hn ⊢
        cases o with
        | some fn => exact ih.expr _ _ _ hn
        | none => rfl
      | structV sn fs =>
        simp only [apply_structV] at hn ⊢
        generalize P.findFn _ = o at hn ⊢
        cases o with
        | some fn => exact ih.expr _ _ _ hn
        | none => rfl
      | _ => rfl

theorem step_all (P : Prog) : ∀ n,
    (∀ ρ w e r, eval n P ρ w e = r → NF r → eval (n+1) P ρ w e = r) ∧
    (∀ ρ w es r, evalList n P ρ w es = r → NF r → evalList (n+1) P ρ w es = r) ∧
    (∀ ρ w v arms d r, evalArms n P ρ w v arms d = r → NF r → evalArms (n+1) P ρ w v arms d = r) ∧
    (∀ w f args r, apply n P w f args = r → NF r → apply (n+1) P w f args = r) := by
  intro n
  have h := step_rel P n
  exact ⟨fun ρ w e r hr hn => by subst hr; exact h.expr ρ w e hn, fun ρ w es r hr hn => by subst hr; exact h.list ρ w es hn,
    fun ρ w v arms d r hr hn => by subst hr; exact h.arms ρ w v arms d hn,
    fun w f args r hr hn => by subst hr; exact h.app w f args hn⟩

/-- a fuel-indexed computation that is stable once it has produced a result -/
def Mono {α} (F : Nat → Res α) : Prop := ∀ n m r, n ≤ m → F n = r → NF r → F m = r

theorem mono_of_step {α} {F : Nat → Res α} (h : ∀ n, NF (F n) → F (n + 1) = F n) : Mono F := by
  intro n m r hnm hr hn
  induction hnm with
  | refl => exact hr
  | step _ ih => subst ih; exact h _ hn

theorem mono_eval (P : Prog) (ρ : Env) (w : World) (e : Expr) : Mono (fun n => eval n P ρ w e) :=
  mono_of_step fun n => (step_rel P n).expr ρ w e
theorem mono_evalList (P : Prog) (ρ : Env) (w : World) (es : List Expr) : Mono (fun n => evalList n P ρ w es) :=
  mono_of_step fun n => (step_rel P n).list ρ w es
theorem mono_evalArms (P : Prog) (ρ : Env) (w : World) (v : Val) (arms : List Arm) (d : Option Expr) :
    Mono (fun n => evalArms n P ρ w v arms d) :=
  mono_of_step fun n => (step_rel P n).arms ρ w v arms d
theorem mono_apply (P : Prog) (w : World) (f : Val) (args : List Val) : Mono (fun n => apply n P w f args) :=
  mono_of_step fun n => (step_rel P n).app w f args
theorem mono_const {α} (r : Res α) : Mono (fun _ => r) := fun _ _ _ _ h _ => h

theorem eval_mono {P : Prog} {n m : Nat} (hnm : n ≤ m) {ρ w e r} (h : eval n P ρ w e = r) (hn : NF r) :
    eval m P ρ w e = r := mono_eval P ρ w e n m r hnm h hn

theorem apply_mono {P : Prog} {n m : Nat} (hnm : n ≤ m) {w f args r} (h : apply n P w f args = r) (hn : NF r) :
    apply m P w f args = r := mono_apply P w f args n m r hnm h hn

def Conv {α} (F : Nat → Res α) (r : Res α) : Prop := ∃ n, F n = r ∧ NF r

theorem Conv.det {α} {F : Nat → Res α} (hF : Mono F) {r r' : Res α} (h : Conv F r) (h' : Conv F r') : r = r' := by
  obtain ⟨n, hn, hnf⟩ := h
  obtain ⟨m, hm, hmf⟩ := h'
  have h1 := hF n (max n m) r (Nat.le_max_left _ _) hn hnf
  have h2 := hF m (max n m) r' (Nat.le_max_right _ _) hm hmf
  rw [← h1, ← h2]

/-- for a result that is not fuel exhaustion, "converges to" is "returns for every sufficiently large fuel" -/
theorem conv_iff_stable {α} {F : Nat → Res α} (hF : Mono F) {r : Res α} (hn : NF r) :
    Conv F r ↔ ∃ k, ∀ m, k ≤ m → F m = r :=
  ⟨fun ⟨n, h, _⟩ => ⟨n, fun m hm => hF n m r hm h hn⟩, fun ⟨k, h⟩ => ⟨k, h k (Nat.le_refl k), hn⟩⟩

theorem Conv.nf {α} {F : Nat → Res α} {r} (h : Conv F r) : NF r := by
  obtain ⟨_, _, hn⟩ := h; exact hn

theorem conv_const {α} {r₀ r : Res α} (h : NF r₀) : Conv (fun _ => r₀) r ↔ r = r₀ :=
  ⟨fun ⟨_, e, _⟩ => e.symm, fun e => ⟨0, e.symm, e ▸ h⟩⟩

def Ev (P : Prog) (e : Expr) (ρ : Env) (w : World) (r : Res Val) : Prop := Conv (fun n => eval n P ρ w e) r
def EvL (P : Prog) (es : List Expr) (ρ : Env) (w : World) (r : Res (List Val)) : Prop :=
  Conv (fun n => evalList n P ρ w es) r
def EvA (P : Prog) (ρ : Env) (w : World) (v : Val) (arms : List Arm) (d : Option Expr) (r : Res Val) : Prop :=
  Conv (fun n => evalArms n P ρ w v arms d) r
def App (P : Prog) (w : World) (f : Val) (args : List Val) (r : Res Val) : Prop :=
  Conv (fun n => apply n P w f args) r

theorem app_of_ev_body {P' : Prog} {w : World} {f : Val} {args : List Val} {body : Expr} {env : Env} {r : Res Val}
    (heq : ∀ m, apply (m+1) P' w f args = eval m P' env w body) (h : Ev P' body env w r) : App P' w f args r := by
  obtain ⟨m, hm, hn⟩ := h
  exact ⟨m+1, by simp only [heq]; exact hm, hn⟩

theorem Ev.det {P e ρ w r r'} (h : Ev P e ρ w r) (h' : Ev P e ρ w r') : r = r' := Conv.det (mono_eval P ρ w e) h h'
/-- so a sequencing over an expression that evaluates to `.ok v w1` (`RB.of_pure`) is its continuation at `v`, `w1` -/
theorem Ev.ok_iff {P e ρ w v w1} (hc : Ev P e ρ w (.ok v w1)) : ∀ x, Ev P e ρ w x ↔ x = .ok v w1 :=
  fun _ => ⟨fun h => Ev.det h hc, fun h => h ▸ hc⟩
theorem EvL.det {P es ρ w r r'} (h : EvL P es ρ w r) (h' : EvL P es ρ w r') : r = r' := Conv.det (mono_evalList P ρ w es) h h'
theorem App.det {P w f a r r'} (h : App P w f a r) (h' : App P w f a r') : r = r' := Conv.det (mono_apply P w f a) h h'

def Res.bind {α β} (r : Res α) (k : α → World → Res β) : Res β :=
  match r with
  | .fail f w => .fail f w
  | .ok a w => k a w

def RB {α β} (X : Res α → Prop) (K : α → World → Res β → Prop) (r : Res β) : Prop :=
  (∃ f w', X (.fail f w') ∧ r = .fail f w') ∨ (∃ a w', X (.ok a w') ∧ K a w' r)

theorem mono_bind {α β} {F : Nat → Res α} {G : Nat → α → World → Res β} (hF : Mono F)
    (hG : ∀ a w, Mono (fun n => G n a w)) : Mono (fun n => (F n).bind (G n)) := by
  intro n m r hnm h hn
  simp only [Res.bind] at h ⊢
  cases hf : F n with
  | fail f w' =>
    rw [hf] at h; simp only at h
    rw [hF n m _ hnm hf (nf_cast h.symm hn)]; exact h
  | ok a w' =>
    rw [hf] at h; simp only at h
    rw [hF n m _ hnm hf (by simp)]; simp only
    exact hG a w' n m r hnm h hn

theorem conv_bind {α β} {F : Nat → Res α} {G : Nat → α → World → Res β} (hF : Mono F)
    (hG : ∀ a w, Mono (fun n => G n a w)) (r : Res β) :
    Conv (fun n => (F n).bind (G n)) r ↔ RB (Conv F) (fun a w' => Conv (fun n => G n a w')) r := by
  constructor
  · rintro ⟨n, h, hn⟩
    simp only [Res.bind] at h
    cases hf : F n with
    | fail f w' =>
      rw [hf] at h; simp only at h
      exact Or.inl ⟨f, w', ⟨n, hf, nf_cast h.symm hn⟩, h.symm⟩
    | ok a w' =>
      rw [hf] at h; simp only at h
      exact Or.inr ⟨a, w', ⟨n, hf, by simp⟩, ⟨n, h, hn⟩⟩
  · rintro (⟨f, w', ⟨n, hf, hnf⟩, rfl⟩ | ⟨a, w', ⟨n, hf, _⟩, ⟨m, hg, hn⟩⟩)
    · exact ⟨n, by simp only [Res.bind, hf], nf_cast rfl hnf⟩
    · refine ⟨max n m, ?_, hn⟩
      simp only [Res.bind]
      rw [hF n _ _ (Nat.le_max_left _ _) hf (by simp)]
      simp only
      exact hG a w' m _ r (Nat.le_max_right _ _) hg hn

/-- a computation that needs one unit of fuel to start -/
theorem conv_succ {α} {F : Nat → Res α} {w : World} (h0 : F 0 = .fail .fuel w) (r : Res α) :
    Conv F r ↔ Conv (fun n => F (n+1)) r := by
  constructor
  · rintro ⟨n, h, hn⟩
    cases n with
    | zero => rw [h0] at h; subst h; simp at hn
    | succ n => exact ⟨n, h, hn⟩
  · rintro ⟨n, h, hn⟩; exact ⟨n+1, h, hn⟩

theorem RB.mono {α β} {X X' : Res α → Prop} {K K' : α → World → Res β → Prop} {r : Res β}
    (hX : ∀ x, X x → X' x) (hK : ∀ a w r, K a w r → K' a w r) (h : RB X K r) : RB X' K' r := by
  rcases h with ⟨f, w', hx, rfl⟩ | ⟨a, w', hx, hk⟩
  · exact Or.inl ⟨f, w', hX _ hx, rfl⟩
  · exact Or.inr ⟨a, w', hX _ hx, hK _ _ _ hk⟩

theorem rb_congr {α β} {X : Res α → Prop} {K K' : α → World → Res β → Prop} {r : Res β}
    (h : ∀ a w r, K a w r ↔ K' a w r) : RB X K r ↔ RB X K' r :=
  ⟨RB.mono (fun _ hx => hx) fun a w r => (h a w r).1, RB.mono (fun _ hx => hx) fun a w r => (h a w r).2⟩

theorem rb_congr_left {α β} {X X' : Res α → Prop} {K : α → World → Res β → Prop} {r : Res β}
    (h : ∀ x, X x ↔ X' x) : RB X K r ↔ RB X' K r :=
  ⟨RB.mono (fun x => (h x).1) fun _ _ _ hk => hk, RB.mono (fun x => (h x).2) fun _ _ _ hk => hk⟩

theorem RB.of_pure {α β} {X : Res α → Prop} {K : α → World → Res β → Prop} {a : α} {w : World} {r : Res β}
    (hX : ∀ x, X x ↔ x = .ok a w) : RB X K r ↔ K a w r := by
  constructor
  · rintro (⟨f, w', h, _⟩ | ⟨a', w', h, hk⟩)
    · cases (hX _).1 h
    · cases (hX _).1 h; exact hk
  · intro hk; exact Or.inr ⟨a, w, (hX _).2 rfl, hk⟩

/-! `RB` is the bind of relations on results: it has a left and a right unit and is associative -/

theorem rb_pure {α β} {a : α} {w : World} {K : α → World → Res β → Prop} {r : Res β} :
    RB (fun out => out = .ok a w) K r ↔ K a w r := RB.of_pure fun _ => Iff.rfl

theorem rb_ret {α} {X : Res α → Prop} {r : Res α} : RB X (fun a w r => r = .ok a w) r ↔ X r := by
  constructor
  · rintro (⟨f, w', h, rfl⟩ | ⟨a, w', h, rfl⟩) <;> exact h
  · intro h
    cases r with
    | fail f w' => exact Or.inl ⟨f, w', h, rfl⟩
    | ok a w' => exact Or.inr ⟨a, w', h, rfl⟩

theorem rb_assoc {α β γ} {X : Res α → Prop} {K1 : α → World → Res β → Prop} {K2 : β → World → Res γ → Prop}
    {r : Res γ} : RB (RB X K1) K2 r ↔ RB X (fun a w => RB (K1 a w) K2) r := by
  constructor
  · rintro (⟨f, w', h, rfl⟩ | ⟨b, w1, h, h2⟩)
    · rcases h with ⟨f', w'', h3, h4⟩ | ⟨a, w'', h3, h4⟩
      · cases h4; exact Or.inl ⟨f, w', h3, rfl⟩
      · exact Or.inr ⟨a, w'', h3, Or.inl ⟨f, w', h4, rfl⟩⟩
    · rcases h with ⟨f', w'', h3, h4⟩ | ⟨a, w'', h3, h4⟩
      · cases h4
      · exact Or.inr ⟨a, w'', h3, Or.inr ⟨b, w1, h4, h2⟩⟩
  · rintro (⟨f, w', h, rfl⟩ | ⟨a, w', h, h2⟩)
    · exact Or.inl ⟨f, w', Or.inl ⟨f, w', h, rfl⟩, rfl⟩
    · rcases h2 with ⟨f, w'', h3, rfl⟩ | ⟨b, w1, h3, h4⟩
      · exact Or.inl ⟨f, w'', Or.inr ⟨a, w', h, h3⟩, rfl⟩
      · exact Or.inr ⟨b, w1, Or.inr ⟨a, w', h, h3⟩, h4⟩

/-- relate the two halves of a sequencing step separately; a failure of the first half comes with `r = .fail f w'`, from
which the caller has `NF` of it (`nf_cast`) -/
theorem sim_bind {α β} {F : Res α} {G : α → World → Res β} {r : Res β} {X' : Res α → Prop}
    {K' : α → World → Res β → Prop} (h : F.bind G = r)
    (hF : ∀ f w', F = .fail f w' → r = .fail f w' → X' (.fail f w'))
    (hF' : ∀ a w', F = .ok a w' → X' (.ok a w'))
    (hG : ∀ a w', G a w' = r → K' a w' r) : RB X' K' r := by
  cases hf : F with
  | fail f w' =>
    rw [hf] at h; simp only [Res.bind] at h
    exact Or.inl ⟨f, w', hF f w' hf h.symm, h.symm⟩
  | ok a w' =>
    rw [hf] at h; simp only [Res.bind] at h
    exact Or.inr ⟨a, w', hF' a w' hf, hG a w' h⟩

end Goml.Sem
