import GomlVerif.Lemmas.GoSemEv
import GomlVerif.Lemmas.GoSemEnv
/-!
`Go.Sem` congruence for files (used by the file-level lifting of `dce_preserves`).

`F'` is a file that looks like `F` to the semantics except for its function bodies: same struct
declarations and method sets (`FileLike`), and for every function of `F` a function of the same
name and parameters in `F'` whose body — RUN IN `F'` — reproduces every definite run of the original
body RUN IN `F'` (`FnSim`).  Then every definite run of any expression, statement, block or call in
`F` is reproduced in `F'` (`fileSim_all`).  Results are stated as "for every sufficiently large fuel" (`Ev1`), which
composes without a separate appeal to monotonicity.

The induction is the walk `read_all` of `Lemmas/GoSemMono.lean`, read with "definite" and "for every sufficiently large fuel"
(`eventually`: sequencing is `Ev1.bindD`); the file enters the walk only through `zero`, `structFields`, `structImplements`
(`FileLike`), and the callee's body is the one case proved here (`simC`).
-/
namespace Goml.Go
open Goml.Sem (Fail)
open Goml.Dce (Definite)

theorem retOfB_definite {r0 : GRes (GEnv × Sig)} (h : Definite (retOfB r0)) : Definite r0 := by
  cases r0 with
  | ok p w => trivial
  | fail f w => cases f <;> exact h

/-- a failure is definite or not whatever the type of the result it stands for (for `scall` below) -/
theorem defCast {α β : Type} {f : Fail} {w : GWorld} (h : Definite (GRes.fail (α := α) f w)) :
    Definite (GRes.fail (α := β) f w) := by
  cases f <;> exact h

/-- the functions of `F'` simulate those of `F`, bodies run in `F'` -/
structure FnSim (F F' : GFile) : Prop where
  none : ∀ name, F.findFunc name = none → F'.findFunc name = none
  some : ∀ name fn, F.findFunc name = some fn → ∃ fn', F'.findFunc name = some fn' ∧ fn'.params = fn.params ∧
    ∀ (args : List GVal) (w : GWorld) (r0 : GRes (GEnv × Sig)), fn.params.length = args.length →
      Ev1 (fun k => execBlockG k F' (bindG fn.params args) w fn.body) r0 → Definite r0 →
      Ev1 (fun k => retOfB (execBlockG k F' (bindG fn.params args) w fn'.body)) (retOfB r0)

section
variable {F F' : GFile}

/-- the statement at one fuel of the run in `F` -/
structure SimAt (F F' : GFile) (n : Nat) : Prop where
  ev : ∀ {ρ w e r}, evalG n F ρ w e = r → Definite r → Ev1 (fun k => evalG k F' ρ w e) r
  el : ∀ {ρ w es r}, evalListG n F ρ w es = r → Definite r → Ev1 (fun k => evalListG k F' ρ w es) r
  ef : ∀ {ρ w fs r}, evalFieldsG n F ρ w fs = r → Definite r → Ev1 (fun k => evalFieldsG k F' ρ w fs) r
  cl : ∀ {w f args r}, callG n F w f args = r → Definite r → Ev1 (fun k => callG k F' w f args) r
  bl : ∀ {ρ w ss r}, execBlockG n F ρ w ss = r → Definite r → Ev1 (fun k => execBlockG k F' ρ w ss) r
  ne : ∀ {ρ w ss r}, nestedG n F ρ w ss = r → Definite r → Ev1 (fun k => nestedG k F' ρ w ss) r
  ex : ∀ {ρ w s r}, execG n F ρ w s = r → Definite r → Ev1 (fun k => execG k F' ρ w s) r
  sw : ∀ {ρ w v cs d r}, switchG n F ρ w v cs d = r → Definite r → Ev1 (fun k => switchG k F' ρ w v cs d) r
  ts : ∀ {ρ w v cs d r}, tswitchG n F ρ w v cs d = r → Definite r → Ev1 (fun k => tswitchG k F' ρ w v cs d) r

/-! ### tactics for one recursive call of the run in `F` at a time (no proof uses them: the walk `read_all` treats every node
through `Reading.bind`, which is `Ev1.bindD` here) -/

set_option hygiene false in
/-- finish: the target computation at fuel `k+1` unfolds (`fn.eq_def`) to the sub-computations whose
    eventual values are the given `Ev1` facts; after rewriting them (and the extra facts in
    brackets) both sides coincide -/
macro "sfin0 " fn:ident " [" xs:Lean.Parser.Tactic.simpLemma,* "]" : tactic => `(tactic|
  (exact ⟨1, fun k hk => by
    obtain ⟨k, rfl⟩ : ∃ j, k = j + 1 := ⟨k - 1, by omega⟩
    dsimp only
    rw [$fn:ident]; try simp only [hL.sf, hL.si, hL.zero, Bool.false_eq_true, if_false, if_true, $xs,*]⟩))

set_option hygiene false in
macro "sfin1 " fn:ident E1:ident " [" xs:Lean.Parser.Tactic.simpLemma,* "]" : tactic => `(tactic|
  (obtain ⟨m1, e1⟩ := $E1:ident
   dsimp only at e1
   exact ⟨m1 + 1, fun k hk => by
    obtain ⟨k, rfl⟩ : ∃ j, k = j + 1 := ⟨k - 1, by omega⟩
    dsimp only
    rw [$fn:ident]; try simp only [e1 k (by omega), hL.sf, hL.si, hL.zero, Bool.false_eq_true, if_false, if_true, $xs,*]⟩))

set_option hygiene false in
macro "sfin2 " fn:ident E1:ident E2:ident " [" xs:Lean.Parser.Tactic.simpLemma,* "]" : tactic => `(tactic|
  (obtain ⟨m1, e1⟩ := $E1:ident
   obtain ⟨m2, e2⟩ := $E2:ident
   dsimp only at e1 e2
   exact ⟨m1 + m2 + 1, fun k hk => by
    obtain ⟨k, rfl⟩ : ∃ j, k = j + 1 := ⟨k - 1, by omega⟩
    dsimp only
    rw [$fn:ident]; try simp only [e1 k (by omega), e2 k (by omega), hL.sf, hL.si, hL.zero, Bool.false_eq_true, if_false, if_true, $xs,*]⟩))

set_option hygiene false in
macro "sfin3 " fn:ident E1:ident E2:ident E3:ident " [" xs:Lean.Parser.Tactic.simpLemma,* "]" : tactic => `(tactic|
  (obtain ⟨m1, e1⟩ := $E1:ident
   obtain ⟨m2, e2⟩ := $E2:ident
   obtain ⟨m3, e3⟩ := $E3:ident
   dsimp only at e1 e2 e3
   exact ⟨m1 + m2 + m3 + 1, fun k hk => by
    obtain ⟨k, rfl⟩ : ∃ j, k = j + 1 := ⟨k - 1, by omega⟩
    dsimp only
    rw [$fn:ident]; try simp only [e1 k (by omega), e2 k (by omega), e3 k (by omega), hL.sf, hL.si, hL.zero, Bool.false_eq_true, if_false, if_true, $xs,*]⟩))

set_option hygiene false in
/-- case split on the result of the recursive call `t0` of the run in `F` (fuel `n`); `E` names the
    `Ev1` fact the induction hypothesis `ih` gives for it; `fin` closes the branch where it failed -/
macro "scall " hx:ident v:ident w:ident E:ident " : " t0:term ", " ih:term ", " fin:tactic : tactic => `(tactic|
  (cases $hx:ident : $t0
   rotate_left
   next f' w' =>
     rw [$hx:ident] at h; simp only at h; subst h
     have $E:ident := $ih $hx:ident (defCast hdef)
     $fin
   rename_i $v:ident $w:ident
   rw [$hx:ident] at h
   have $E:ident := $ih $hx:ident trivial
   try simp only at h))

theorem Ev1.bindD {α β : Type} {T : Nat → GRes α} {K : Nat → α → GWorld → GRes β} {r : GRes α}
    {k : α → GWorld → GRes β} (h1 : Definite r → Ev1 T r)
    (h2 : ∀ a w, Definite (k a w) → Ev1 (fun j => K j a w) (k a w)) :
    Definite (r.bind k) → Ev1 (fun j => (T j).bind (K j)) (r.bind k) := fun hd =>
  Ev1.bind (h1 hd.of_bind)
    fun a w e => h2 a w (by subst e; exact hd)

/-- "a definite result in `F` is the eventual one in `F'`" passes through sequencing and one more unit of fuel -/
theorem eventually : Reading (fun r => Definite r) (fun _ T r => Ev1 T r) where
  nofuel _ h := h
  const _ r := Ev1.const r
  succ h := h.succ
  bind h1 h2 := Ev1.bindD h1 h2

/-- a call: one that does not enter a function of `F` does not enter one of `F'` and does not look at the file; one that does
    first moves the callee's original body from `F` to `F'` (`ih`), then exchanges it for the new body (`FnSim`) -/
theorem simC (hS : FnSim F F') (n : Nat) (ih : ReadAt (fun r => Definite r) (fun _ T r => Ev1 T r) F F' n) (w : GWorld)
    (f : GVal) (args : List GVal) :
    Definite (callG (n+1) F w f args) → Ev1 (fun k => callG k F' w f args) (callG (n+1) F w f args) := by
  have other : (∀ name fn, f = .func name → F.findFunc name = some fn → fn.params.length ≠ args.length) →
      (∀ name fn, f = .func name → F'.findFunc name = some fn → fn.params.length ≠ args.length) →
      callG 1 F' w f args = callG 1 F w f args →
      Ev1 (fun k => callG k F' w f args) (callG (n+1) F w f args) := fun h h' e =>
    Ev1.succ ⟨0, fun k _ => by dsimp only; rw [callG_other k F' w f args h', callG_other n F w f args h, e]⟩
  intro hdef
  cases f with
  | func name =>
    cases hf : F.findFunc name with
    | none =>
      have hf' := hS.none name hf
      exact other (fun _ _ e h => by cases e; rw [hf] at h; cases h)
        (fun _ _ e h => by cases e; rw [hf'] at h; cases h)
        (by rw [callG.eq_def, callG.eq_def]; simp only [hf, hf'])
    | some fn =>
      obtain ⟨fn', hf', hps, hsim⟩ := hS.some name fn hf
      by_cases hlen : fn.params.length = args.length
      · rw [callG_some hf hlen] at hdef ⊢
        have hd0 := retOfB_definite hdef
        obtain ⟨m, em⟩ := hsim args w _ hlen (ih.bl hd0) hd0
        exact Ev1.succ ⟨m, fun k hk => by
          dsimp only; rw [callG_some hf' (by rw [hps]; exact hlen), hps]; exact em k hk⟩
      · exfalso
        have har : (fn.params.length != args.length) = true := by simp [hlen]
        rw [callG.eq_def] at hdef; simp only [hf, har, if_true] at hdef
        exact hdef
  | _ => exact other (fun _ _ e => by cases e) (fun _ _ e => by cases e) (by rw [callG.eq_def, callG.eq_def])

/-- **file congruence**: every definite run in `F` — of an expression, an operand list, a call, a
    block, a statement, a switch — is reproduced in `F'` for every sufficiently large fuel -/
theorem fileSim_all (hL : FileLike F F') (hS : FnSim F F') : ∀ n, SimAt F F' n := fun n =>
  have h := read_all eventually hL (simC hS) n
  { ev := fun e hd => e ▸ h.ev (e ▸ hd), el := fun e hd => e ▸ h.el (e ▸ hd), ef := fun e hd => e ▸ h.ef (e ▸ hd)
    cl := fun e hd => e ▸ h.cl (e ▸ hd), bl := fun e hd => e ▸ h.bl (e ▸ hd), ne := fun e hd => e ▸ h.ne (e ▸ hd)
    ex := fun e hd => e ▸ h.ex (e ▸ hd), sw := fun e hd => e ▸ h.sw (e ▸ hd), ts := fun e hd => e ▸ h.ts (e ▸ hd) }

end
end Goml.Go
