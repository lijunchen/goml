import GomlVerif.Lemmas.GoCompStepC
/-! `let` chains (`AExpr`) in either statement lowering; the loop `compile_while` builds against `Sem`'s `while` -/
namespace Goml.GoComp
open Goml Goml.Go Goml.GoCompile Goml.GoFrag
open Goml.Sem (Val World)
open Goml.Dce (keys lookup_cons_self lookup_cons_ne lookup_append_not_key key_of_lookup_some keys_update lookup_update_ne
  lookup_update_self)

attribute [local irreducible] Goml.GoCompile.vn Goml.GoCompile.gid Goml.GoCompile.rn

/-- the rest of a `let`: the prefix `Pre` has just bound `x` and left `D1` (what else it declares at top level) on top of
    it -/
theorem let_body {env : Env} {η η1 : Hp} {file : AFile} {G : List String} {P : Prog} {F : GFile} {n : Nat}
    (ha : SimA env file G P F n) (m : Mode) (st2 : St) (x : String) (tx : Ty) (body : AExpr) (Γ : Ctx) (K : KCtx) (ρ : Sem.Env)
    (gρ : GEnv) (gw : GWorld) (Bad : List String) (Pre : List GStmt)
    (D1 : GEnv) (vv : Val) (gv : GVal) (w1 : World) (gw1 : GWorld)
    (hpre : BlockS F gρ gw Pre (.ok (D1 ++ (vn x, gv) :: gρ, .normal) gw1))
    (hDtop : ∀ y, y ∈ keys (D1 ++ [(vn x, gv)]) → y ∈ topDecls Pre)
    (hD1x : ¬ vn x ∈ keys D1)
    (hinv : GInv Bad (Pre ++ (compileA env m st2 body).1) gρ)
    (hrel0 : EnvRel env η Γ ρ gρ) (hle1 : η.le η1) (hkrel : KRel K ρ) (h3 : VRel env η1 vv tx gv) (h4 : HasTy env η1 vv tx) (hw1 : WRel env η1 w1 gw1)
    (hfb : fragA env file G ((x, tx) :: Γ) (eraseK K x) body = true) (htgt : TgtOK m Γ gρ (aTy body)) (hus : "_" ∈ Bad)
    (hfx : FCtx env file G Bad η) (hcal : ∀ c, c ∈ calleesA (x :: Γ.map (·.1)) body → c ∈ Bad) :
    Concl env η F (Pre ++ (compileA env m st2 body).1) m gρ gw (aTy body)
      (Sem.eval n P ((x, vv) :: ρ) w1 body.toExpr) := by
  have hrel : EnvRel env η1 Γ ρ gρ := hrel0.mono hle1
  have htopfresh : ∀ y, y ∈ topDecls Pre → ¬ y ∈ keys gρ := fun y hy => (sokB_top Pre _ hinv.left.sok y hy).2
  have hfresh : ¬ vn x ∈ keys gρ := htopfresh _ (hDtop _ (by simp [Dce.keys_append]))
  have hD1disj : ∀ y, y ∈ keys D1 → ¬ y ∈ keys gρ := fun y hy =>
    htopfresh y (hDtop y (by rw [Dce.keys_append]; exact List.mem_append_left _ hy))
  have hrel2 : EnvRel env η1 ((x, tx) :: Γ) ((x, vv) :: ρ) (D1 ++ (vn x, gv) :: gρ) := by
    refine (hrel.cons hfresh h3 h4).go_agree (fun y ty hy => lookup_append_not_key ?_ _)
    obtain ⟨_, _, _, h2, _, _⟩ := (hrel.cons hfresh h3 h4).1 y ty hy
    have hk := key_of_lookup_some h2
    simp only [Goml.Dce.keys_cons, List.mem_cons] at hk
    rcases hk with hk | hk
    · rw [hk]; exact hD1x
    · exact fun h => hD1disj _ h hk
  have hinv2 : GInv Bad (compileA env m st2 body).1 (D1 ++ (vn x, gv) :: gρ) := by
    have := GInv.right (D := D1 ++ [(vn x, gv)]) (U := gρ) hinv rfl hDtop
    simpa [List.append_assoc] using this
  have htgt2 : TgtOK m ((x, tx) :: Γ) (D1 ++ (vn x, gv) :: gρ) (aTy body) := by
    cases m with
    | effect => exact htgt
    | assign t =>
      obtain ⟨htk, hne⟩ := htgt
      refine ⟨by rw [Dce.keys_append]; exact List.mem_append_right _ (List.mem_cons_of_mem _ htk), fun y ty hy => ?_⟩
      by_cases hxy : x = y
      · subst hxy; exact fun e => hfresh (e ▸ htk)
      · rw [lookupTy_cons_ne _ _ hxy] at hy; exact hne y ty hy
  have hpost : ∀ gv2, post m (D1 ++ (vn x, gv) :: gρ) gv2 = (D1 ++ [(vn x, gv)]) ++ post m gρ gv2 := fun gv2 => by
    rw [show D1 ++ (vn x, gv) :: gρ = (D1 ++ [(vn x, gv)]) ++ gρ by simp]
    refine post_append gρ gv2 (fun t ht => ?_)
    subst ht
    obtain ⟨htk, _⟩ := htgt
    rw [Dce.keys_append, List.mem_append]
    rintro (h | h)
    · exact hD1disj _ h htk
    · simp only [Goml.Dce.keys_cons, Goml.Dce.keys_nil, List.mem_singleton] at h; exact hfresh (h ▸ htk)
  have hB := ha m st2 body η1 ((x, tx) :: Γ) (eraseK K x) ((x, vv) :: ρ) w1 (D1 ++ (vn x, gv) :: gρ) gw1 Bad hfb hrel2 (hkrel.bind x vv) hw1 hinv2 htgt2 hus (hfx.mono hle1) hcal
  rw [concl_eq] at hB ⊢
  refine hB.imp ?_ (fun k w2 ⟨η2, hle2, gw2, hb, g5⟩ => ⟨η2, Hp.le_trans hle1 hle2, gw2, block_append hpre hb, g5⟩)
  rintro v2 w2 ⟨η2, hle2, D2, gv2, gw2, hb, g3, g4, g5, hD2⟩
  rw [hpost gv2] at hb
  refine ⟨η2, Hp.le_trans hle1 hle2, D2 ++ (D1 ++ [(vn x, gv)]), gv2, gw2, ?_, g3, g4, g5, fun y hy => ?_⟩
  · have := block_append hpre hb
    simpa [List.append_assoc] using this
  · rw [topDecls_append]
    rw [Dce.keys_append, List.mem_append] at hy
    rcases hy with hy | hy
    · exact List.mem_append_right _ (hD2 y hy)
    · exact List.mem_append_left _ (hDtop y hy)

/-- the statements a `let x = v` contributes, before those of its body -/
def letPrefix (env : Env) (st : St) (x : String) (v : CExpr) : List GStmt :=
  if isCtl v then
    .varDecl (vn x) (cexprTy env v) none ::
      (compileTail env (.assign (rn x)) (st.check (okTy (cexprTastTy env v))) v).1
  else compileBindSimple env x v

/-- the counter / flag state with which the body of the `let` is compiled -/
def letBodySt (env : Env) (st : St) (x : String) (v : CExpr) : St :=
  if isCtl v then (compileTail env (.assign (rn x)) (st.check (okTy (cexprTastTy env v))) v).2
  else st.check (okBindSimple env v)

theorem compileA_let (env : Env) (m : Mode) (st : St) (x : String) (v : CExpr) (body : AExpr) (ty : Ty) :
    (compileA env m st (.letE x v body ty)).1 =
      letPrefix env st x v ++ (compileA env m (letBodySt env st x v) body).1 := by
  simp only [compileA, letPrefix, letBodySt]
  split <;> rfl

/-- the statements a `let x = v` contributes run `v` to completion: they leave the value of `v` in `x`, under whatever else
    (`D1`) they declare at top level; if `v` panics, nothing after them runs -/
theorem let_prefix {env : Env} {η : Hp} {file : AFile} {G : List String} {P : Prog} {F : GFile} {n : Nat}
    (hv : SimV env file G P F n) (hc : SimC env file G P F n) (hg : SimG env file G P F n)
    (st : St) (x : String) (v : CExpr) (Γ : Ctx) (K : KCtx) (ρ : Sem.Env) (w : World) (gρ : GEnv) (gw : GWorld) (Bad : List String)
    (hfv : fragC env file G Γ K v = true) (hrel : EnvRel env η Γ ρ gρ) (hkrel : KRel K ρ) (hw : WRel env η w gw)
    (hinvP : GInv Bad (letPrefix env st x v) gρ) (hus : "_" ∈ Bad) (hfx : FCtx env file G Bad η)
    (hcalv : ∀ c, c ∈ calleesC (Γ.map (·.1)) v → c ∈ Bad) :
    Outc (fun vv w1 => ∃ η1, η.le η1 ∧ ∃ D1 gv gw1,
        BlockS F gρ gw (letPrefix env st x v) (.ok (D1 ++ (vn x, gv) :: gρ, .normal) gw1) ∧
        (∀ y, y ∈ keys (D1 ++ [(vn x, gv)]) → y ∈ topDecls (letPrefix env st x v)) ∧ ¬ vn x ∈ keys D1 ∧
        VRel env η1 vv v.annTy gv ∧ HasTy env η1 vv v.annTy ∧ WRel env η1 w1 gw1)
      (fun k w1 => ∀ rest, ∃ η1, η.le η1 ∧ ∃ gw1,
        BlockS F gρ gw (letPrefix env st x v ++ rest) (.fail (.panic k) gw1) ∧ WRel env η1 w1 gw1)
      (Sem.eval n P ρ w v.toExpr) := by
  have hsc := fragC_flat hfv
  by_cases hctl : isCtl v = true
  · -- `var x T; <statements assigning x>`
    simp only [letPrefix, hctl, if_true] at hinvP ⊢
    rw [show cexprTy env v = goTy v.annTy by simp [cexprTy, cexprTastTy_frag hfv]] at hinvP ⊢
    generalize hd : compileTail env (.assign (rn x)) (st.check (okTy (cexprTastTy env v))) v = d at hinvP ⊢
    obtain ⟨hfresh, _, hsokd⟩ := hinvP.varDecl
    have hvd : StmtS F gρ gw (.varDecl (vn x) (goTy v.annTy) none) (.ok ((vn x, zero F (goTy v.annTy)) :: gρ, .normal) gw) :=
      stmt_varDecl_none (flat_not_absurd hsc)
    have hne : ∀ y ty, lookupTy Γ y = some ty → vn y ≠ vn x := fun y ty hy e => by
      obtain ⟨_, _, _, h2, _, _⟩ := hrel.typed hy
      exact hfresh (e ▸ key_of_lookup_some h2)
    have hrel1 : EnvRel env η Γ ρ ((vn x, zero F (goTy v.annTy)) :: gρ) :=
      hrel.go_agree (fun y ty hy => lookup_cons_ne _ _ (fun e => hne y ty hy e.symm))
    have hinvd : GInv Bad d.1 ((vn x, zero F (goTy v.annTy)) :: gρ) := hinvP.after_varDecl _
    have htgtd : TgtOK (.assign (rn x)) Γ ((vn x, zero F (goTy v.annTy)) :: gρ) v.annTy := by
      refine ⟨by rw [← vn_def]; simp, fun y ty hy => ?_⟩
      rw [← vn_def]; exact hne y ty hy
    have hD := hc (.assign (rn x)) _ v η Γ K ρ w _ gw Bad hfv hrel1 hkrel hw (hd ▸ hinvd) htgtd hus hfx hcalv
    rw [hd, concl_eq] at hD
    refine hD.imp ?_ (fun k w1 ⟨η1, hle1, gw1, hb, hw1⟩ rest =>
      ⟨η1, hle1, gw1, block_cons hvd (block_append_panic (b := rest) hb), hw1⟩)
    rintro vv w1 ⟨η1, hle1, D1, gv, gw1, hb, hval, hty, hw1, hD1⟩
    have hup : post (.assign (rn x)) ((vn x, zero F (goTy v.annTy)) :: gρ) gv = (vn x, gv) :: gρ := by
      simp only [post]; rw [← vn_def]; exact Dce.update_cons_self _ _ _ _
    rw [hup] at hb
    refine ⟨η1, hle1, D1, gv, gw1, block_cons hvd hb, fun y hy => ?_,
      fun h => (sokB_top d.1 _ hsokd _ (hD1 _ h)).2 List.mem_cons_self, hval, hty, hw1⟩
    rw [Dce.keys_append, List.mem_append] at hy
    simp only [topDecls, List.mem_cons]
    rcases hy with hy | hy
    · exact Or.inr (hD1 y hy)
    · simp only [Goml.Dce.keys_cons, Goml.Dce.keys_nil, List.mem_singleton] at hy; exact Or.inl hy
  · have hctl' : isCtl v = false := by simpa using hctl
    simp only [letPrefix, hctl', Bool.false_eq_true, if_false] at hinvP ⊢
    have hS := compileBindSimple_view env x v
    generalize compileBindSimple env x v = S at hS hinvP ⊢
    cases hS with
    | go e ty' =>
      -- `go f(env); var x struct{} = struct{}{}`
      have hty := fragC_go_unit hfv
      subst hty
      simp only [CExpr.annTy] at *
      obtain ⟨X, hX⟩ := compileGo_isGo env e
      have hdP : topDecls [compileGo env e, .varDecl (vn x) .unit (some unitE)] = [vn x] := by
        rw [hX]; simp [topDecls]
      have hG := hg e .unit η Γ K ρ w gρ gw Bad hfv hrel hw hinvP.goodK hfx hcalv
      rw [conclG_eq] at hG
      refine hG.imp ?_ (fun k w1 ⟨η1, hle1, gw1, hs, hw1⟩ rest => ⟨η1, hle1, gw1, block_cons_fail hs, hw1⟩)
      rintro vv w1 ⟨rfl, η1, hle1, gw1, hs, hw1⟩
      have hvd : StmtS F gρ gw1 (.varDecl (vn x) .unit (some unitE)) (.ok ((vn x, .unit) :: gρ, .normal) gw1) :=
        stmt_varDecl_some (by simp [absurdTy]) ev_unitv
      exact ⟨η1, hle1, [], .unit, gw1, block_cons hs (block_cons hvd block_nil),
        fun y hy => by rw [hdP]; simpa [keys] using hy, by simp [keys], by simp [VRel], trivial, hw1⟩
    | decl v hgoc =>
    -- `var x T = <expr>`
    rw [cexprTy_frag hfv] at hinvP ⊢
    have hV := hv v η Γ K ρ w gρ gw Bad hctl' hgoc hfv hrel hkrel hw hinvP.goodK hfx hcalv
    rw [conclV_eq] at hV
    refine hV.imp ?_ (fun k w1 ⟨η1, hle1, gw1, he, hw1, _⟩ rest =>
      ⟨η1, hle1, gw1, block_cons_fail (stmt_varDecl_some (flat_not_absurd hsc) he), hw1⟩)
    rintro vv w1 ⟨η1, hle1, gv, gw1, he, hval, hty, hw1, _⟩
    exact ⟨η1, hle1, [], gv, gw1, block_cons (stmt_varDecl_some (flat_not_absurd hsc) he) block_nil,
      fun y hy => by simpa [keys, topDecls] using hy, by simp [keys], hval, hty, hw1⟩

theorem stepA {env : Env} {file : AFile} {G : List String} {P : Prog} {F : GFile} {n : Nat}
    (hc1 : SimC env file G P F (n + 1)) (hv : SimV env file G P F n) (hc : SimC env file G P F n)
    (ha : SimA env file G P F n) (hg : SimG env file G P F n) : SimA env file G P F (n + 1) := by
  intro m st e η Γ K ρ w gρ gw Bad hfrag hrel hkrel hw hinv htgt hus hfx hcal
  cases e with
  | ret c =>
    simp only [compileA, AExpr.toExpr, aTy, fragA, calleesA] at *
    exact hc1 m st c η Γ K ρ w gρ gw Bad hfrag hrel hkrel hw hinv htgt hus hfx hcal
  | letE x v body ty =>
    simp only [fragA, Bool.and_eq_true] at hfrag
    obtain ⟨hfv, hfb⟩ := hfrag
    simp only [AExpr.toExpr, aTy] at htgt ⊢
    have hcalv : ∀ c, c ∈ calleesC (Γ.map (·.1)) v → c ∈ Bad := fun c hc' => hcal c (by simp [calleesA, hc'])
    have hcalb : ∀ c, c ∈ calleesA (x :: Γ.map (·.1)) body → c ∈ Bad := fun c hc' => hcal c (by simp [calleesA, hc'])
    rw [compileA_let] at hinv ⊢
    rw [Sem.eval_letE, concl_eq]
    refine (let_prefix hv hc hg st x v Γ K ρ w gρ gw Bad hfv hrel hkrel hw hinv.left hus hfx hcalv).andThen ?_ (fun k w1 h => h _)
    rintro vv w1 ⟨η1, hle1, D1, gv, gw1, hpre, hDtop, hD1x, hval, hty, hw1⟩
    rw [← concl_eq]
    exact let_body ha m _ x v.annTy body Γ K ρ gρ gw Bad _ D1 vv gv w1 gw1 hpre hDtop hD1x hinv hrel hle1 hkrel hval hty hw1 hfb htgt
      hus hfx hcalb

/-- **ordering**: the statements of `v` run to completion — leaving the `Sem` world after `v` and
    the value of `v` in `x` — before any statement of the body; if `v` panics, nothing after it runs -/
theorem let_order {env : Env} {η : Hp} {file : AFile} {G : List String} {P : Prog} {F : GFile} {n : Nat}
    (hv : SimV env file G P F n) (hc : SimC env file G P F n) (hg : SimG env file G P F n)
    (m : Mode) (st : St) (x : String) (v : CExpr) (body : AExpr) (ty : Ty) (Γ : Ctx) (K : KCtx) (ρ : Sem.Env) (w : World)
    (gρ : GEnv) (gw : GWorld) (Bad : List String)
    (hfrag : fragA env file G Γ K (.letE x v body ty) = true) (hrel : EnvRel env η Γ ρ gρ) (hkrel : KRel K ρ) (hw : WRel env η w gw)
    (hinv : GInv Bad (compileA env m st (.letE x v body ty)).1 gρ) (hus : "_" ∈ Bad) (hfx : FCtx env file G Bad η)
    (hcal : ∀ c, c ∈ calleesA (Γ.map (·.1)) (.letE x v body ty) → c ∈ Bad) :
    match Sem.eval n P ρ w v.toExpr with
    | .ok vv w1 => ∃ η1, η.le η1 ∧ ∃ env1 gv gw1, BlockS F gρ gw (letPrefix env st x v) (.ok (env1, .normal) gw1) ∧ WRel env η1 w1 gw1 ∧
        lookupG env1 (vn x) = some gv ∧ VRel env η1 vv v.annTy gv
    | .fail (.panic k) w1 => ∀ rest, ∃ η1, η.le η1 ∧ ∃ gw1, BlockS F gρ gw (letPrefix env st x v ++ rest) (.fail (.panic k) gw1) ∧ WRel env η1 w1 gw1
    | _ => True := by
  simp only [fragA, Bool.and_eq_true] at hfrag
  rw [compileA_let] at hinv
  have h := let_prefix hv hc hg st x v Γ K ρ w gρ gw Bad hfrag.1 hrel hkrel hw hinv.left hus hfx
    (fun c hc' => hcal c (by simp [calleesA, hc']))
  revert h
  cases Sem.eval n P ρ w v.toExpr with
  | ok vv w1 =>
    rintro ⟨η1, hle1, D1, gv, gw1, hb, _, hxD1, hval, _, hw1⟩
    exact ⟨η1, hle1, _, gv, gw1, hb, hw1, by rw [lookup_append_not_key hxD1]; exact lookup_cons_self _ _ _, hval⟩
  | fail f w1 => cases f <;> exact id

theorem stepL {env : Env} {file : AFile} {G : List String} {P : Prog} {F : GFile} {n : Nat}
    (ha : SimA env file G P F n) (hL : SimL env file G P F n) : SimL env file G P F (n + 1) := by
  intro cv st c b η Γ K ρ w gρ gw Bad hfc hcb hfb hbu hrel hkrel hw hinv htgt hus hfx hcal
  obtain ⟨htk, htne⟩ := htgt
  have hcalc : ∀ x, x ∈ calleesA (Γ.map (·.1)) c → x ∈ Bad := fun x hx => hcal x (List.mem_append_left _ hx)
  have hcalb : ∀ x, x ∈ calleesA (Γ.map (·.1)) b → x ∈ Bad := fun x hx => hcal x (List.mem_append_right _ hx)
  -- the three parts of the loop body
  generalize hA : (compileA env (.assign cv) st c).1 = A at *
  generalize hst2 : (compileA env (.assign cv) st c).2 = st2 at *
  have hbody : loopBody env cv st c b =
      A ++ (GStmt.ite (.un .not .bool (.var (gid cv) .bool)) [.brk] none :: (compileA env .effect st2 b).1) := by
    simp [loopBody, hA, hst2]
  rw [hbody] at hinv ⊢
  generalize hB : (compileA env .effect st2 b).1 = B at *
  have hinvA : GInv Bad A gρ := hinv.left
  rw [Sem.eval_while]
  have hAsim := ha (.assign cv) st c η Γ K ρ w gρ gw Bad hfc hrel hkrel hw (hA ▸ hinvA) ⟨htk, htne⟩ hus hfx hcalc
  rw [hA, hcb, concl_eq] at hAsim
  refine hAsim.andThen ?_ (fun k w1 ⟨η1, hle1, gw1, hbA, hw1⟩ =>
    ⟨η1, hle1, gw1, StmtE.loop_fail (nest_of_block (block_append_panic hbA)), hw1⟩)
  rintro vc w1 ⟨η1, hle1, D1, gvc, gw1, hbA, hval, hty, hw1, hD1⟩
  obtain ⟨bb, rfl, rfl⟩ := tv_inv hty hval
  simp only [post] at hbA
  have hD1disj : ∀ y, y ∈ keys D1 → ¬ y ∈ keys gρ := fun y hy => (sokB_top A _ hinvA.sok y (hD1 y hy)).2
  have hcvD1 : ¬ gid cv ∈ keys D1 := fun h => hD1disj _ h htk
  -- the `if !cond { break }`
  have hlk : lookupG (D1 ++ updateG gρ (gid cv) (.bool bb)) (gid cv) = some (.bool bb) := by
    rw [lookup_append_not_key hcvD1]; exact lookup_update_self _ _ _ htk
  have hcond : EvS F (D1 ++ updateG gρ (gid cv) (.bool bb)) gw1 (.un .not .bool (.var (gid cv) .bool))
      (.ok (.bool !bb) gw1) := ev_not (ev_var_some hlk)
  cases bb with
  | false =>
    simp only
    have hI : StmtS F (D1 ++ updateG gρ (gid cv) (.bool false)) gw1
        (.ite (.un .not .bool (.var (gid cv) .bool)) [.brk] none)
        (.ok (D1 ++ updateG gρ (gid cv) (.bool false), .brk) gw1) := by
      have := stmt_ite_true (e := none) hcond (nest_of_block (block_cons_sig (rest := []) (by simp) stmt_brk))
      simpa [popG] using this
    have hblk := block_append hbA (block_cons_sig (rest := B) (by simp) hI)
    have hn := nest_of_block hblk
    simp only [GRes.bind_ok, popG, drop_append_len D1 _ gρ.length (Dce.length_update _ _ _)] at hn
    exact ⟨rfl, η1, hle1, gw1, StmtE.loop_brk hn, hw1⟩
  | true =>
    simp only
    have hI : StmtS F (D1 ++ updateG gρ (gid cv) (.bool true)) gw1
        (.ite (.un .not .bool (.var (gid cv) .bool)) [.brk] none)
        (.ok (D1 ++ updateG gρ (gid cv) (.bool true), .normal) gw1) := stmt_ite_false_none hcond
    -- the loop body proper, in effect mode
    have hrel1 : EnvRel env η1 Γ ρ (D1 ++ updateG gρ (gid cv) (.bool true)) := (hrel.mono hle1).go_agree (fun y ty hy => by
      obtain ⟨_, _, _, h2, _, _⟩ := hrel.typed hy
      rw [lookup_append_not_key (fun h => hD1disj _ h (key_of_lookup_some h2))]
      exact lookup_update_ne _ (fun e => htne y ty hy e.symm) _)
    have hinvB : GInv Bad B (D1 ++ updateG gρ (gid cv) (.bool true)) := by
      have h1 := GInv.right (a := A) (D := D1) (U := updateG gρ (gid cv) (.bool true)) hinv (keys_update _ _ _) hD1
      have h2 : GInv Bad ([GStmt.ite (.un .not .bool (.var (gid cv) .bool)) [.brk] none] ++ B)
          (D1 ++ updateG gρ (gid cv) (.bool true)) := by simpa using h1
      have h3 := GInv.right (a := [GStmt.ite (.un .not .bool (.var (gid cv) .bool)) [.brk] none]) (D := [])
        (U := D1 ++ updateG gρ (gid cv) (.bool true)) h2 rfl (fun y hy => by cases hy)
      simpa using h3
    have hBsim := ha .effect st2 b η1 Γ K ρ w1 (D1 ++ updateG gρ (gid cv) (.bool true)) gw1 Bad hfb hrel1 hkrel hw1 (hB ▸ hinvB) hbu hus (hfx.mono hle1) hcalb
    rw [hB, concl_eq] at hBsim
    refine hBsim.andThen ?_ (fun k w2 ⟨η2, hle2, gw2, hbB, g5⟩ =>
      ⟨η2, Hp.le_trans hle1 hle2, gw2, StmtE.loop_fail (nest_of_block (block_append hbA (block_cons hI hbB))), g5⟩)
    rintro vb w2 ⟨η2, hle2, D2, gvb, gw2, hbB, _, _, g5, _⟩
    simp only [post] at hbB
    have hblk := block_append hbA (block_cons hI hbB)
    have hn := nest_of_block hblk
    rw [show D2 ++ (D1 ++ updateG gρ (gid cv) (GVal.bool true)) = (D2 ++ D1) ++ updateG gρ (gid cv) (GVal.bool true) by simp] at hn
    simp only [GRes.bind_ok, popG, drop_append_len (D2 ++ D1) _ gρ.length (Dce.length_update _ _ _)] at hn
    -- next iteration
    have hrel' : EnvRel env η2 Γ ρ (updateG gρ (gid cv) (.bool true)) := (hrel.mono (Hp.le_trans hle1 hle2)).go_agree (fun y ty hy =>
      lookup_update_ne _ (fun e => htne y ty hy e.symm) _)
    have hinv' : GInv Bad (A ++ (GStmt.ite (.un .not .bool (.var (gid cv) .bool)) [.brk] none :: B))
        (updateG gρ (gid cv) (.bool true)) := hinv.keys_eq (keys_update _ _ _)
    have hnext := hL cv st c b η2 Γ K ρ w2 (updateG gρ (gid cv) (.bool true)) gw2 Bad hfc hcb hfb hbu hrel' hkrel g5
      (by rw [hbody]; exact hinv') ⟨by rw [keys_update]; exact htk, htne⟩ hus (hfx.mono (Hp.le_trans hle1 hle2)) hcal
    rw [hbody] at hnext
    exact hnext.imp
      (fun v w3 ⟨hv, η3, hle3, gw3, hlp, g6⟩ =>
        ⟨hv, η3, Hp.le_trans (Hp.le_trans hle1 hle2) hle3, gw3, StmtE.loop_next hn (by rw [Dce.update_update] at hlp; exact hlp), g6⟩)
      (fun k w3 ⟨η3, hle3, gw3, hlp, g6⟩ => ⟨η3, Hp.le_trans (Hp.le_trans hle1 hle2) hle3, gw3, StmtE.loop_next hn hlp, g6⟩)

end Goml.GoComp
