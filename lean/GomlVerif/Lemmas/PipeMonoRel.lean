import GomlVerif.Model.MonoSim
import GomlVerif.Lemmas.ValRel
import GomlVerif.Lemmas.ArmHead
/-!
Pipeline composition, mono link: the simulation relation between a Core program `c.P` and its
monomorphised form `c.P'` under `Sem`, for pairs accepted by `MonoSim.monoOk`.

Values correspond up to (i) the type names carried by enum / struct values (phase 2 of `mono`
renames generic instances), (ii) the names of top-level functions (`fn f` ~ `fn f__T_int32`, any
instance of `f`), (iii) closure bodies (`eOk`).  References are the same store locations.
-/
namespace Goml.MonoSim
open Goml Goml.Sem

section
variable (c : Cx)

mutual
inductive VRel : Val → Val → Prop
  | unit : VRel .unit .unit
  | bool (b : Bool) : VRel (.bool b) (.bool b)
  | int (b : Nat) (s : Bool) (v : Int) : VRel (.int b s v) (.int b s v)
  | float (b : Nat) (x : Float) : VRel (.float b x) (.float b x)
  | str (s : String) : VRel (.str s) (.str s)
  | tuple {vs vs' : List Val} : VRelList vs vs' → VRel (.tuple vs) (.tuple vs')
  | enumV {t t' : String} {i : Nat} {vs vs' : List Val} : VRelList vs vs' → VRel (.enumV t i vs) (.enumV t' i vs')
  | structV {n n' : String} {vs vs' : List Val} : structOk c n n' = true → VRelList vs vs' →
      VRel (.structV n vs) (.structV n' vs')
  | array {vs vs' : List Val} : VRelList vs vs' → VRel (.array vs) (.array vs')
  | vec {vs vs' : List Val} : VRelList vs vs' → VRel (.vec vs) (.vec vs')
  | ref (l : Nat) : VRel (.ref l) (.ref l)
  | fn {x x' : String} : fnOk c x x' = true → VRel (.fn x) (.fn x')
  | dyn {tr key : String} {v v' : Val} : dynOk c key = true → VRel v v' → VRel (.dyn tr key v) (.dyn tr key v')
  | closure {ps : List String} {body body' : Expr} {ρ ρ' : Sem.Env} :
      eOk c body body' = true → (∀ p, p ∈ ps → noGlobal c p = true) → EnvRel ρ ρ' →
      VRel (.closure ps body ρ) (.closure ps body' ρ')
inductive VRelList : List Val → List Val → Prop
  | nil : VRelList [] []
  | cons {v v' : Val} {vs vs' : List Val} : VRel v v' → VRelList vs vs' → VRelList (v :: vs) (v' :: vs')
/-- same names in the same order, none of them spelled like a function, related values -/
inductive EnvRel : Sem.Env → Sem.Env → Prop
  | nil : EnvRel [] []
  | cons {x : String} {v v' : Val} {ρ ρ' : Sem.Env} : noGlobal c x = true → VRel v v' → EnvRel ρ ρ' →
      EnvRel ((x, v) :: ρ) ((x, v') :: ρ')
end

structure WRel (w w' : World) : Prop where
  out : w.out = w'.out
  store : VRelList c w.store.toList w'.store.toList
  spawned : VRelList c w.spawned w'.spawned
  externs : w.externs = w'.externs
  eager : w.eager = w'.eager

/-- failures correspond: the same panic, fuel exhaustion on both sides, or stuck on both sides
    (the message of a stuck run may mention a type name that `mono` renamed) -/
def FRel : Fail → Fail → Prop
  | .panic a, .panic b => a = b
  | .fuel, .fuel => True
  | .stuck _, .stuck _ => True
  | _, _ => False

def RRel {α : Type} (R : α → α → Prop) : Res α → Res α → Prop
  | .ok v w, .ok v' w' => R v v' ∧ WRel c w w'
  | .fail f w, .fail f' w' => FRel f f' ∧ WRel c w w'
  | _, _ => False

end

section
variable {c : Cx}

theorem FRel.refl (f : Fail) : FRel f f := by cases f <;> simp [FRel]

theorem RRel.ok {α : Type} {R : α → α → Prop} {v v' : α} {w w' : World} (hv : R v v') (hw : WRel c w w') :
    RRel c R (.ok v w) (.ok v' w') := ⟨hv, hw⟩

theorem RRel.fail_same {α : Type} {R : α → α → Prop} {f : Fail} {w w' : World} (hw : WRel c w w') :
    RRel c R (.fail f w) (.fail f w') := ⟨FRel.refl f, hw⟩

theorem RRel.stuck {α : Type} {R : α → α → Prop} {s s' : String} {w w' : World} (hw : WRel c w w') :
    RRel c R (.fail (.stuck s) w) (.fail (.stuck s') w') := ⟨trivial, hw⟩

theorem RRel.andThen {α β : Type} {R : α → α → Prop} {S : β → β → Prop} {r r' : Res α}
    {K K' : α → World → Res β} (h : RRel c R r r')
    (hK : ∀ v v' w w', R v v' → WRel c w w' → RRel c S (K v w) (K' v' w')) :
    RRel c S (r.andThen K) (r'.andThen K') :=
  match r, r', h with
  | .ok _ _, .ok _ _, h => hK _ _ _ _ h.1 h.2
  | .fail _ _, .fail _ _, h => h
  | .ok _ _, .fail _ _, h => h.elim
  | .fail _ _, .ok _ _, h => h.elim

theorem vrelList_iff {vs vs' : List Val} : VRelList c vs vs' ↔ ListRel (VRel c) vs vs' := by
  induction vs generalizing vs' with
  | nil => exact ⟨fun h => by cases h; exact .nil, fun h => by cases h; exact .nil⟩
  | cons a as ih =>
    exact ⟨fun h => by cases h with | cons h t => exact .cons h (ih.1 t),
      fun h => by cases h with | cons h t => exact .cons h (ih.2 t)⟩

theorem VRelList.append {vs vs' us us' : List Val} (h : VRelList c vs vs') (h2 : VRelList c us us') :
    VRelList c (vs ++ us) (vs' ++ us') :=
  vrelList_iff.2 ((vrelList_iff.1 h).append (vrelList_iff.1 h2))

theorem VRelList.singleton {v v' : Val} (h : VRel c v v') : VRelList c [v] [v'] := .cons h .nil

theorem respects : Respects (VRel c) where
  head_eq h := by cases h <;> rfl
  atom {a} h := by cases a <;> first | (cases h; done) | constructor
  array := ⟨fun h => by cases h with | array h => exact vrelList_iff.1 h, fun h => .array (vrelList_iff.2 h)⟩
  vec := ⟨fun h => by cases h with | vec h => exact vrelList_iff.1 h, fun h => .vec (vrelList_iff.2 h)⟩

theorem wrel_iff {w w' : World} : WRel c w w' ↔ WorldRel (VRel c) w w' :=
  ⟨fun h => ⟨h.out, vrelList_iff.1 h.store, vrelList_iff.1 h.spawned, h.externs, h.eager⟩,
    fun h => ⟨h.out, vrelList_iff.2 h.store, vrelList_iff.2 h.spawned, h.externs, h.eager⟩⟩

theorem RRel.of_resRel {r r' : Res Val} (h : ResRel (VRel c) r r') : RRel c (VRel c) r r' := by
  cases h with
  | ok hv hw => exact ⟨hv, wrel_iff.2 hw⟩
  | fail hw => exact ⟨FRel.refl _, wrel_iff.2 hw⟩

theorem WRel.with_spawned {w w' : World} (h : WRel c w w') {v v' : Val} (hv : VRel c v v') :
    WRel c { w with spawned := w.spawned ++ [v] } { w' with spawned := w'.spawned ++ [v'] } :=
  ⟨h.out, h.store, h.spawned.append (.singleton hv), h.externs, h.eager⟩

theorem WRel.set {w w' : World} (h : WRel c w w') {v v' : Val} (hv : VRel c v v') (l : Nat) :
    WRel c { w with store := w.store.set! l v } { w' with store := w'.store.set! l v' } :=
  wrel_iff.2 ((wrel_iff.1 h).set l hv)

theorem WRel.init (eager : Bool) : WRel c { eager := eager } { eager := eager } :=
  ⟨rfl, .nil, .nil, rfl, rfl⟩

theorem EnvRel.lookup {ρ ρ' : Sem.Env} (h : EnvRel c ρ ρ') (x : String) :
    (lookupEnv ρ x = none ∧ lookupEnv ρ' x = none) ∨
      ∃ v v', lookupEnv ρ x = some v ∧ lookupEnv ρ' x = some v' ∧ VRel c v v' ∧ noGlobal c x = true := by
  induction ρ generalizing ρ' with
  | nil => cases h; exact Or.inl ⟨rfl, rfl⟩
  | cons p ρ ih =>
    cases h with
    | @cons y v v' _ ρ2 hy hv hr =>
      by_cases hxy : y = x
      · subst hxy
        exact Or.inr ⟨v, v', lookupEnv_cons_self _ _ _, lookupEnv_cons_self _ _ _, hv, hy⟩
      · rw [lookupEnv_cons_ne _ _ hxy, lookupEnv_cons_ne _ _ hxy]
        exact ih hr

theorem EnvRel.bind : ∀ (ps : List String) {vs vs' : List Val} {ρ ρ' : Sem.Env},
    (∀ p, p ∈ ps → noGlobal c p = true) → VRelList c vs vs' → EnvRel c ρ ρ' →
    EnvRel c (bindParams ps vs ρ) (bindParams ps vs' ρ')
  | [], vs, vs', _, _, _, _, hρ => by simpa [bindParams] using hρ
  | p :: ps, vs, vs', ρ, ρ', hp, hvs, hρ => by
    cases hvs with
    | nil => simpa [bindParams] using hρ
    | cons hv hrest =>
      simp only [bindParams]
      exact EnvRel.bind ps (fun q hq => hp q (List.mem_cons_of_mem _ hq)) hrest
        (.cons (hp p List.mem_cons_self) hv hρ)

end

section
variable {c : Cx}

def BRel (c : Cx) (r r' : Option (Res Val)) : Prop :=
  match r, r' with
  | none, none => True
  | some r, some r' => RRel c (VRel c) r r'
  | _, _ => False

theorem builtin_rel (name : String) {args args' : List Val} {w w' : World}
    (h : VRelList c args args') (hw : WRel c w w') :
    BRel c (builtin name args w) (builtin name args' w') := by
  have hb := respects.builtin name (vrelList_iff.1 h) (wrel_iff.1 hw)
  generalize builtin name args w = o, builtin name args' w' = o' at hb ⊢
  cases hb with
  | none => exact True.intro
  | some hr => exact .of_resRel hr

def ExRel (c : Cx) : Except Fail Val → Except Fail Val → Prop
  | .ok v, .ok v' => VRel c v v'
  | .error f, .error f' => f = f'
  | _, _ => False

/-- equal results of an operator are related, since what an operator returns is a scalar -/
theorem ExRel.of_eq {r r' : Except Fail Val} (h : r = r') (hb : ∀ {v}, r = .ok v → v.isBase = true) :
    ExRel c r r' := by
  subst h
  cases r with
  | ok v => exact respects.atom (Val.isAtom_of_isBase (hb rfl))
  | error f => exact rfl

/-- the monomorphised run's comparison on the left: `VRel c` takes (original, monomorphised) -/
theorem valEq_rel {a a' b b' : Val} (h1 : VRel c a a') (h2 : VRel c b b') : valEq a' b' = valEq a b :=
  (respects.valEq h1 h2).symm

theorem binop_rel (op : BinOp) {a a' b b' : Val} (h1 : VRel c a a') (h2 : VRel c b b') :
    ExRel c (binop op a b) (binop op a' b') :=
  .of_eq (respects.binop op h1 h2) binop_ok_base

theorem unop_rel (op : UnOp) {a a' : Val} (h1 : VRel c a a') : ExRel c (unop op a) (unop op a') :=
  .of_eq (respects.unop op h1) unop_ok_base

theorem VRel_primVal (p : Prim) : VRel c (primVal p) (primVal p) :=
  respects.atom (by cases p <;> rfl)

theorem armMatches_rel {lhs lhs' : Expr} {v v' : Val}
    (hh : Lift.headEq (Lift.armHead lhs) (Lift.armHead lhs') = true)
    (hv : VRel c v v') : armMatches lhs' v' = armMatches lhs v := by
  rw [Lift.armMatches_congr hh, respects.armMatches lhs hv]

end
end Goml.MonoSim
