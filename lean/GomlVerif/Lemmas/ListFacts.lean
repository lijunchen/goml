/-!
Facts about lists that mention nothing of the model: searching by a key that no two elements share, for an arbitrary
key function (the function tables, association lists and scopes of the model are instances); `find?` / `findSome?` after a
`filter`, a prefix under `getElem?`, `drop` of an append; decimal printing, for an
arbitrary printer `f` with digits `d` that satisfies `f n = if n < 10 then [d n] else f (n / 10) ++ [d (n % 10)]` (the
model has three: `Derive.natDigits`, `Num.natToDec`, `Pratt.natDigits`, each with a reader of its own).
-/

namespace Goml

variable {α : Type _} {κ : Type _} [BEq κ] [LawfulBEq κ] {key : α → κ}

theorem find?_key_eq_none {l : List α} {k : κ} : l.find? (fun y => key y == k) = none ↔ k ∉ l.map key := by
  rw [List.find?_eq_none]
  constructor
  · intro h hm
    obtain ⟨p, hp, rfl⟩ := List.mem_map.mp hm
    exact h p hp (beq_self_eq_true _)
  · intro h p hp e
    exact h (beq_iff_eq.mp e ▸ List.mem_map_of_mem hp)

theorem find?_key_append_of_not_mem {l : List α} {k : κ} (h : k ∉ l.map key) (r : List α) :
    (l ++ r).find? (fun y => key y == k) = r.find? (fun y => key y == k) := by
  rw [List.find?_append, find?_key_eq_none.mpr h, Option.none_or]

theorem find?_key_of_mem {l : List α} (nd : (l.map key).Nodup) {x : α} (hx : x ∈ l) :
    l.find? (fun y => key y == key x) = some x := by
  induction l with
  | nil => cases hx
  | cons a l ih =>
    rw [List.map_cons, List.nodup_cons] at nd
    rcases List.mem_cons.mp hx with rfl | hx
    · exact List.find?_cons_of_pos (by simp)
    · rw [List.find?_cons_of_neg, ih nd.2 hx]
      intro e
      exact nd.1 (beq_iff_eq.mp e ▸ List.mem_map_of_mem hx)

theorem find?_key_eq_some {l : List α} (nd : (l.map key).Nodup) {x : α} (hx : x ∈ l) {k : κ} (hk : key x = k) :
    l.find? (fun y => key y == k) = some x :=
  hk ▸ find?_key_of_mem nd hx

theorem eq_of_key_eq {l : List α} (nd : (l.map key).Nodup) {a b : α} (ha : a ∈ l) (hb : b ∈ l)
    (h : key a = key b) : a = b :=
  Option.some.inj ((find?_key_eq_some nd ha h).symm.trans (find?_key_of_mem nd hb))

theorem find?_key_perm {l l' : List α} (h : l.Perm l') (nd : (l.map key).Nodup) (k : κ) :
    l.find? (fun y => key y == k) = l'.find? (fun y => key y == k) := by
  cases e : l.find? (fun y => key y == k) with
  | none =>
    rw [List.find?_eq_none] at e
    exact (List.find?_eq_none.mpr fun x hx => e x (h.mem_iff.mpr hx)).symm
  | some x =>
    have hk : key x = k := beq_iff_eq.mp (List.find?_some (p := fun y => key y == k) e)
    exact (find?_key_eq_some ((h.map key).nodup_iff.mp nd) (h.mem_iff.mp (List.mem_of_find?_eq_some e)) hk).symm


/-- popping a block's declarations off an environment -/
theorem drop_append_len {α : Type _} (pre t : List α) (k : Nat) (hk : t.length = k) :
    (pre ++ t).drop ((pre ++ t).length - k) = t := by
  subst hk
  simp

theorem prefix_get {α : Type} {l l' : List α} (h : l <+: l') {i : Nat} {a : α} (hi : l[i]? = some a) : l'[i]? = some a := by
  obtain ⟨t, rfl⟩ := h
  rw [List.getElem?_append_left (List.getElem?_eq_some_iff.mp hi).1]; exact hi

theorem findSome_filter {α β : Type} (g : α → Option β) (p : α → Bool) (hp : ∀ a, p a = false → g a = none) :
    ∀ l : List α, (l.filter p).findSome? g = l.findSome? g
  | [] => rfl
  | a :: rest => by
    simp only [List.filter_cons, List.findSome?_cons]
    cases hpa : p a
    · simp only [Bool.false_eq_true, if_false, hp a hpa]
      exact findSome_filter g p hp rest
    · simp only [if_true, List.findSome?_cons]
      cases g a
      · exact findSome_filter g p hp rest
      · rfl

theorem find_filter_of {α : Type} (q p : α → Bool) (h : ∀ a, q a = true → p a = true) (l : List α) :
    (l.filter p).find? q = l.find? q := by
  rw [List.find?_filter]
  congr 1
  funext a
  cases hq : q a <;> simp [h a, hq]

theorem find_filter_none {α : Type} (q p : α → Bool) (l : List α) (h : l.find? q = none) :
    (l.filter p).find? q = none := by
  rw [List.find?_filter, List.find?_eq_none]
  intro a ha hc
  exact List.find?_eq_none.mp h a ha (of_decide_eq_true hc).2

section Decimal
variable {γ : Type _} {d : Nat → γ} {f : Nat → List γ}
  (hf : ∀ n, f n = if n < 10 then [d n] else f (n / 10) ++ [d (n % 10)])
include hf

theorem decimal_ne_nil (n : Nat) : f n ≠ [] := by
  rw [hf]; split <;> simp

theorem decimal_all {p : γ → Prop} (hp : ∀ k, k < 10 → p (d k)) (n : Nat) : ∀ c ∈ f n, p c := by
  induction n using Nat.strongRecOn with
  | _ n ih =>
    intro c hc
    rw [hf] at hc
    split at hc
    · next h => rw [List.mem_singleton.mp hc]; exact hp n h
    · rcases List.mem_append.mp hc with hc | hc
      · exact ih (n / 10) (by omega) c hc
      · rw [List.mem_singleton.mp hc]; exact hp _ (by omega)

theorem decimal_foldl {β : Type _} {step : β → γ → β} {g : Nat → β}
    (hs : ∀ m k, k < 10 → step (g m) (d k) = g (10 * m + k)) (n : Nat) : (f n).foldl step (g 0) = g n := by
  induction n using Nat.strongRecOn with
  | _ n ih =>
    rw [hf]
    split
    · next h => simpa using hs 0 n h
    · rw [List.foldl_append, ih (n / 10) (by omega), List.foldl_cons, List.foldl_nil, hs _ _ (by omega),
        Nat.div_add_mod]

/-- no leading zero, except for zero itself -/
theorem decimal_head (hz : ∀ k, k < 10 → d k = d 0 → k = 0) (n : Nat) (h : (f n).head? = some (d 0)) : n = 0 := by
  induction n using Nat.strongRecOn with
  | _ n ih =>
    rw [hf] at h
    split at h
    · next hn => exact hz n hn (by simpa using h)
    · have hne := decimal_ne_nil hf (n / 10)
      rw [List.head?_append, List.head?_eq_some_head hne, Option.some_or, ← List.head?_eq_some_head hne] at h
      have := ih (n / 10) (by omega) h
      omega

end Decimal

end Goml
