import GomlVerif.Model.LiftSim
/-! Arm heads as the validators compare them (`Lift.armHead`, `Lift.headEq`): heads that compare equal select
the same values.  (`Val.head` of `Lemmas/ValRel.lean` is another notion: what operators see of a value.) -/
namespace Goml.Lift
open Goml Goml.Sem

theorem primEq_eq {p q : Prim} (h : primEq p q = true) : p = q := by
  cases p <;> cases q <;> simp_all [primEq]

theorem headEq_eq {h h' : Head} (hh : headEq h h' = true) : h = h' := by
  cases h with
  | ctor i =>
    cases h' with
    | ctor j => exact congrArg Head.ctor (beq_iff_eq.1 hh)
    | _ => cases hh
  | lit p =>
    cases h' with
    | lit q => exact congrArg Head.lit (primEq_eq hh)
    | _ => cases hh
  | never =>
    cases h' with
    | never => rfl
    | _ => cases hh

/-- arm selection as a function of the head of the pattern alone (`armMatches_eq`); this is why patterns with equal
heads select the same values -/
def headMatches : Head → Val → Bool
  | .ctor i, .enumV _ j _ => i == j
  | .lit p, v => (valEq (primVal p) v).getD false
  | _, _ => false

theorem armMatches_eq (lhs : Expr) (v : Val) : armMatches lhs v = headMatches (armHead lhs) v := by
  cases lhs with
  | constr c ty args => cases c <;> cases v <;> rfl
  | tag i ty => cases v <;> rfl
  | prim p => rfl
  | _ => rfl

theorem armMatches_congr {lhs lhs' : Expr} (hh : headEq (armHead lhs) (armHead lhs') = true) (v : Val) :
    armMatches lhs' v = armMatches lhs v := by
  rw [armMatches_eq, armMatches_eq, headEq_eq hh]

end Goml.Lift
