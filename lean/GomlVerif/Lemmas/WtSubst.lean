import GomlVerif.Lemmas.WtRules
/-! Type substitution preserves the type consistency judgement `Wt.errs … = []` -/
namespace Goml.Wt
open Goml Goml.Mono Goml.Closed

/-! ### the type of a substituted expression -/

theorem substTy_primTy (σ : Subst) (p : Prim) : substTy σ (primTy p) = primTy p := by
  cases p <;> simp [primTy, substTy]

def mapΓ (σ : Subst) (Γ : TyEnv) : TyEnv := substParamTys σ Γ

theorem lookupVar_map (σ : Subst) (Γ : TyEnv) (x : String) :
    lookupVar (mapΓ σ Γ) x = (lookupVar Γ x).map (substTy σ) := by
  induction Γ with
  | nil => simp [mapΓ, substParamTys, lookupVar]
  | cons p Γ ih =>
    obtain ⟨k, v⟩ := p
    simp only [mapΓ, substParamTys, lookupVar] at ih ⊢
    by_cases h : (k == x) = true
    · simp [h]
    · simp [h, ih]

theorem bindAll_map (σ : Subst) (ps : List (String × Ty)) (Γ : TyEnv) :
    bindAll (substParamTys σ ps) (mapΓ σ Γ) = mapΓ σ (bindAll ps Γ) := by
  induction ps generalizing Γ with
  | nil => simp [substParamTys, bindAll]
  | cons p ps ih =>
    obtain ⟨x, t⟩ := p
    simp only [substParamTys, bindAll]
    have := ih ((x, t) :: Γ)
    simpa [mapΓ, substParamTys] using this

theorem substParamTys_tys (σ : Subst) (ps : List (String × Ty)) :
    (substParamTys σ ps).map (·.2) = substTys σ (ps.map (·.2)) := by
  induction ps with
  | nil => simp [substParamTys, substTys]
  | cons p ps ih => obtain ⟨x, t⟩ := p; simp [substParamTys, substTys, ih]

theorem getTy_substE (σ : Subst) : ∀ e : Expr, getTy (substE σ e) = substTy σ (getTy e)
  | .prim p => (substTy_primTy σ p).symm
  | .letE _ _ b => by simp only [substE, getTy]; exact getTy_substE σ b
  | .ite _ t _ => by simp only [substE, getTy]; exact getTy_substE σ t
  | .matchE _ _ _ none | .matchE _ _ _ (some _) | .while _ _ | .go _ => rfl
  | .var _ _ | .tag _ _ | .constr _ _ _ | .tuple _ _ | .array _ _ | .closure _ _ _ | .cget _ _ _ _ | .un _ _ _
  | .bin _ _ _ _ | .call _ _ _ | .toDyn _ _ _ _ | .dynCall _ _ _ _ _ | .traitCall _ _ _ _ _ | .proj _ _ _ => rfl

theorem getTys_substEs (σ : Subst) (es : List Expr) : getTys (substEs σ es) = substTys σ (getTys es) := by
  induction es with
  | nil => simp [substEs, getTys, substTys]
  | cons e es ih => simp [substEs, getTys, substTys, getTy_substE, ih]

theorem substTys_length (σ : Subst) (ts : List Ty) : (substTys σ ts).length = ts.length := by
  induction ts with
  | nil => simp [substTys]
  | cons t ts ih => simp [substTys, ih]

theorem substTy_func (θ : Subst) (ps : List Ty) (r : Ty) : substTy θ (.func ps r) = .func (substTys θ ps) (substTy θ r) := by
  simp [substTy]

theorem substTys_getElem? (σ : Subst) (ts : List Ty) (i : Nat) : (substTys σ ts)[i]? = (ts[i]?).map (substTy σ) := by
  induction ts generalizing i with
  | nil => simp [substTys]
  | cons t ts ih => cases i <;> simp [substTys, ih]

theorem substEs_length (σ : Subst) (es : List Expr) : (substEs σ es).length = es.length := by
  induction es with
  | nil => simp [substEs]
  | cons e es ih => simp [substEs, ih]

/-! ### instances of schemes -/

def mapS (σ : Subst) (ρ : Subst) : Subst := substParamTys σ ρ

theorem lookup_mapS (σ ρ : Subst) (n : String) : lookup (mapS σ ρ) n = (lookup ρ n).map (substTy σ) := by
  induction ρ with
  | nil => simp [mapS, substParamTys, lookup]
  | cons p ρ ih =>
    obtain ⟨k, v⟩ := p
    simp only [mapS, substParamTys, lookup] at ih ⊢
    by_cases h : (k == n) = true
    · simp [h]
    · simp [h, ih]

theorem mapS_append (σ ρ : Subst) (n : String) (a : Ty) : mapS σ (ρ ++ [(n, a)]) = mapS σ ρ ++ [(n, substTy σ a)] := by
  induction ρ with
  | nil => simp [mapS, substParamTys]
  | cons p ρ ih => obtain ⟨k, v⟩ := p; simp only [mapS, substParamTys, List.cons_append] at ih ⊢; rw [ih]

/-- Only the `param` row does something: a parameter already bound is compared by `tyBeq`, which `σ` preserves; an unbound
    one is appended (`mapS_append`). -/
theorem matchTy_subst (σ : Subst) (t : Ty) :
    ∀ a ρ ρ', matchTy t a ρ = some ρ' → matchTy t (substTy σ a) (mapS σ ρ) = some (mapS σ ρ') := by
  apply Ty.rec
    (motive_1 := fun t => ∀ a ρ ρ', matchTy t a ρ = some ρ' → matchTy t (substTy σ a) (mapS σ ρ) = some (mapS σ ρ'))
    (motive_2 := fun ts => ∀ as ρ ρ', matchTys ts as ρ = some ρ' →
      matchTys ts (substTys σ as) (mapS σ ρ) = some (mapS σ ρ'))
  case unit | bool | string =>
    intro a ρ ρ' h
    simp only [matchTy] at h
    split at h <;> simp_all [matchTy, substTy]
  case float | enum | struct | dyn =>
    intro n a ρ ρ' h
    simp only [matchTy] at h
    split at h <;> simp_all [matchTy, substTy]
  case int =>
    intro b s a ρ ρ' h
    simp only [matchTy] at h
    split at h <;> simp_all [matchTy, substTy]
  case tvar => intro n a ρ ρ' h; simp [matchTy] at h
  case tuple =>
    intro ts ih a ρ ρ' h
    simp only [matchTy] at h; split at h <;> simp at h
    rename_i us
    simp [matchTy, substTy, substTys_length, h.1, ih us ρ ρ' h.2]
  case app =>
    intro t ts ih1 ih2 a ρ ρ' h
    simp only [matchTy] at h; split at h <;> simp at h
    rename_i u us
    obtain ⟨hl, h⟩ := h
    cases h1 : matchTy t u ρ with
    | none => simp [h1] at h
    | some ρ1 =>
      simp [h1] at h
      simp [matchTy, substTy, substTys_length, hl, ih1 u ρ ρ1 h1, ih2 us ρ1 ρ' h]
  case array =>
    intro n e ih a ρ ρ' h
    simp only [matchTy] at h; split at h <;> simp at h
    rename_i m e'
    simp [matchTy, substTy, h.1, ih e' ρ ρ' h.2]
  case vec | ref =>
    intro e ih a ρ ρ' h
    simp only [matchTy] at h; split at h
    · simp [matchTy, substTy, ih _ ρ ρ' h]
    · cases h
  case param =>
    intro n a ρ ρ' h
    simp only [matchTy] at h ⊢
    rw [lookup_mapS]
    cases hl : lookup ρ n with
    | some prev =>
      simp only [hl] at h
      by_cases hb : tyBeq prev a = true
      · simp only [hb, if_true, Option.some.injEq] at h
        subst h
        have : prev = a := (tyBeq_iff _ _).1 hb
        subst this
        simp [tyBeq_refl]
      · simp [hb] at h
    | none =>
      simp only [hl, Option.some.injEq] at h
      subst h
      simp [mapS_append]
  case func =>
    intro ps r ih1 ih2 a ρ ρ' h
    simp only [matchTy] at h; split at h <;> simp at h
    rename_i qs r'
    obtain ⟨hl, h⟩ := h
    cases h1 : matchTys ps qs ρ with
    | none => simp [h1] at h
    | some ρ1 =>
      simp [h1] at h
      simp [matchTy, substTy, substTys_length, hl, ih1 qs ρ ρ1 h1, ih2 r' ρ1 ρ' h]
  case nil => intro as ρ ρ' h; simp [matchTys] at h; subst h; simp [matchTys]
  case cons =>
    intro t ts ih1 ih2 as ρ ρ' h
    cases as with
    | nil => simp [matchTys] at h; subst h; simp [matchTys, substTys]
    | cons a as =>
      simp only [matchTys] at h
      cases h1 : matchTy t a ρ with
      | none => simp [h1] at h
      | some ρ1 =>
        simp [h1] at h
        simp [matchTys, substTys, ih1 a ρ ρ1 h1, ih2 as ρ1 ρ' h]

theorem instOf_subst (σ : Subst) (scheme ty : Ty) (h : instOf scheme ty = true) : instOf scheme (substTy σ ty) = true := by
  unfold instOf at h ⊢
  cases hm : matchTy scheme ty [] with
  | none => simp [hm] at h
  | some ρ' =>
    have := matchTy_subst σ scheme ty [] ρ' hm
    simp only [mapS, substParamTys] at this
    simp [this]

/-! ### field types of an instantiated definition -/

/-- the definitions of the environment are closed: field types mention only the parameters of their
definition, trait method signatures mention none -/
structure SigClosed (S : Sig) : Prop where
  enums : ∀ d ∈ S.enums, ∀ v ∈ d.variants, ∀ t ∈ v.2, ∀ x ∈ fvT t, x ∈ d.generics
  structs : ∀ d ∈ S.structs, ∀ f ∈ d.fields, ∀ x ∈ fvT f.2, x ∈ d.generics
  traits : ∀ d ∈ S.traits, ∀ mt ∈ d.methods, noParam mt.2 = true

theorem lookup_insert (ρ : Subst) (x : String) (v : Ty) (y : String) :
    lookup (Mono.insert ρ x v) y = if (x == y) = true then some v else lookup ρ y := by
  induction ρ with
  | nil => simp [Mono.insert, lookup]
  | cons p ρ ih =>
    obtain ⟨k, w⟩ := p
    by_cases hk : (k == x) = true
    · have hkx : k = x := by simpa using hk
      subst hkx
      by_cases hy : (k == y) = true <;> simp [Mono.insert, lookup, hy]
    · have hk' : (k == x) = false := by simpa using hk
      by_cases hy : (k == y) = true
      · have hxy : (x == y) = false := by
          have h1 : k = y := by simpa using hy
          subst h1
          rw [beq_eq_false_iff_ne]
          intro h2; subst h2; simp at hk
        simp [Mono.insert, lookup, hk', hy, hxy]
      · have hy' : (k == y) = false := by simpa using hy
        simp [Mono.insert, lookup, hk', hy', ih]

theorem zipSubst_rel (σ : Subst) : ∀ (gs : List String) (as : List Ty) (ρ ρ' : Subst),
    (∀ y, lookup ρ' y = (lookup ρ y).map (substTy σ)) →
    ∀ y, lookup (zipSubst gs (substTys σ as) ρ') y = (lookup (zipSubst gs as ρ) y).map (substTy σ) := by
  intro gs
  induction gs with
  | nil => intro as ρ ρ' h y; simpa [zipSubst] using h y
  | cons g gs ih =>
    intro as ρ ρ' h y
    cases as with
    | nil => simpa [zipSubst, substTys] using h y
    | cons a as =>
      simp only [zipSubst, substTys]
      apply ih
      intro z
      rw [lookup_insert, lookup_insert]
      by_cases hz : (g == z) = true <;> simp [hz, h z]

theorem zipSubst_dom : ∀ (gs : List String) (as : List Ty) (ρ : Subst), gs.length = as.length →
    ∀ g, (g ∈ gs ∨ (lookup ρ g).isSome = true) → (lookup (zipSubst gs as ρ) g).isSome = true := by
  intro gs
  induction gs with
  | nil =>
    intro as ρ _ g hg
    rcases hg with hg | hg
    · simp at hg
    · simpa [zipSubst] using hg
  | cons x gs ih =>
    intro as ρ hl g hg
    cases as with
    | nil => simp at hl
    | cons a as =>
      simp only [zipSubst]
      apply ih as _ (by simpa using hl)
      rw [lookup_insert]
      by_cases hx : (x == g) = true
      · right; simp [hx]
      · rcases hg with hg | hg
        · simp only [List.mem_cons] at hg
          rcases hg with rfl | hg
          · simp at hx
          · left; exact hg
        · right; simp [hx, hg]

theorem subst_comp (σ θ θ' : Subst) (hrel : ∀ y, lookup θ' y = (lookup θ y).map (substTy σ)) (t : Ty) :
    (∀ x ∈ fvT t, (lookup θ x).isSome = true) → substTy θ' t = substTy σ (substTy θ t) := by
  apply Ty.rec
    (motive_1 := fun t => (∀ x ∈ fvT t, (lookup θ x).isSome = true) → substTy θ' t = substTy σ (substTy θ t))
    (motive_2 := fun ts => (∀ x ∈ fvTs ts, (lookup θ x).isSome = true) → substTys θ' ts = substTys σ (substTys θ ts))
  case param =>
    intro n h
    have := h n (by simp [fvT])
    cases hl : lookup θ n with
    | none => simp [hl] at this
    | some v => simp [substTy, hrel n, hl]
  case tuple | vec | ref => intro e ih h; simp [substTy, ih (by simpa [fvT] using h)]
  case array => intro n e ih h; simp [substTy, ih (by simpa [fvT] using h)]
  case app | func =>
    intro t ts ih1 ih2 h
    simp only [fvT, List.mem_append] at h
    simp [substTy, ih1 (fun x hx => h x (Or.inl hx)), ih2 (fun x hx => h x (Or.inr hx))]
  case nil => intro _; simp [substTys]
  case cons =>
    intro t ts ih1 ih2 h
    simp only [fvTs, List.mem_append] at h
    simp [substTys, ih1 (fun x hx => h x (Or.inl hx)), ih2 (fun x hx => h x (Or.inr hx))]
  all_goals intros; simp [substTy]

theorem subst_comp_list (σ θ θ' : Subst) (hrel : ∀ y, lookup θ' y = (lookup θ y).map (substTy σ)) (ts : List Ty)
    (h : ∀ t ∈ ts, ∀ x ∈ fvT t, (lookup θ x).isSome = true) : substTys θ' ts = substTys σ (substTys θ ts) := by
  induction ts with
  | nil => simp [substTys]
  | cons t ts ih =>
    simp [substTys, subst_comp σ θ θ' hrel t (h t List.mem_cons_self), ih (fun u hu => h u (List.mem_cons_of_mem _ hu))]

theorem nominalArgs_subst (σ : Subst) (tn : String) (ty : Ty) (targs : List Ty) (h : nominalArgs tn ty = some targs) :
    nominalArgs tn (substTy σ ty) = some (substTys σ targs) := by
  unfold nominalArgs at h
  split at h
  case h_5 => cases h  -- the catch-all row
  all_goals
    split at h <;> cases h
    rename_i hn
    simp [nominalArgs, substTy, substTys, hn]

theorem findEnum_mem {es : List EnumDef} {n : String} {d : EnumDef} (h : findEnum es n = some d) : d ∈ es :=
  List.mem_of_find?_eq_some h
theorem findStruct_mem {ss : List StructDef} {n : String} {d : StructDef} (h : findStruct ss n = some d) : d ∈ ss :=
  List.mem_of_find?_eq_some h

theorem findEnum_name {es : List EnumDef} {n : String} {d : EnumDef} (h : findEnum es n = some d) : d.name = n := by
  have := List.find?_some h
  simpa using this

theorem findStruct_name {ss : List StructDef} {n : String} {d : StructDef} (h : findStruct ss n = some d) : d.name = n := by
  have := List.find?_some h
  simpa using this

theorem zip_subst (σ : Subst) {gs : List String} {targs : List Ty} (hl : gs.length = targs.length) {fs : List Ty}
    (hfs : ∀ t ∈ fs, ∀ x ∈ fvT t, x ∈ gs) :
    substTys (zipSubst gs (substTys σ targs) []) fs = substTys σ (substTys (zipSubst gs targs []) fs) :=
  subst_comp_list σ _ _ (zipSubst_rel σ gs targs [] [] (by intro y; simp [lookup])) fs
    fun t ht x hx => zipSubst_dom gs targs [] hl x (.inl (hfs t ht x hx))

theorem fieldTys_subst (S : Sig) (hS : SigClosed S) (σ : Subst) (c : Ctor) (ty : Ty) (fts : List Ty)
    (h : fieldTys S c ty = some fts) : fieldTys S c (substTy σ ty) = some (substTys σ fts) := by
  cases c with
  | enum tn v idx =>
    obtain ⟨d, targs, fs, hd, hn, hl, hv, rfl⟩ := fieldTys_enum.1 h
    exact fieldTys_enum.2 ⟨d, _, fs, hd, nominalArgs_subst σ tn ty targs hn, by rw [substTys_length, hl], hv,
      zip_subst σ hl fun t ht => hS.enums d (findEnum_mem hd) (v, fs) (List.mem_of_getElem? hv) t ht⟩
  | struct tn =>
    obtain ⟨d, targs, hd, hn, hl, rfl⟩ := fieldTys_struct.1 h
    refine fieldTys_struct.2 ⟨d, _, hd, nominalArgs_subst σ tn ty targs hn, by rw [substTys_length, hl], zip_subst σ hl ?_⟩
    intro t ht
    obtain ⟨f, hf, rfl⟩ := List.mem_map.1 ht
    exact hS.structs d (findStruct_mem hd) f hf

/-! ### trait method signatures, operators -/

theorem substTy_noParam (σ : Subst) (t : Ty) : noParam t = true → substTy σ t = t := by
  apply Ty.rec
    (motive_1 := fun t => noParam t = true → substTy σ t = t)
    (motive_2 := fun ts => noParams ts = true → substTys σ ts = ts)
  case param => intro n h; simp [noParam] at h
  case tuple | vec | ref => intro e ih h; simp [substTy, ih (by simpa [noParam] using h)]
  case array => intro n e ih h; simp [substTy, ih (by simpa [noParam] using h)]
  case app | func =>
    intro t ts ih1 ih2 h
    simp only [noParam, Bool.and_eq_true] at h
    simp [substTy, ih1 h.1, ih2 h.2]
  case nil => intro _; simp [substTys]
  case cons =>
    intro t ts ih1 ih2 h
    simp only [noParams, Bool.and_eq_true] at h
    simp [substTys, ih1 h.1, ih2 h.2]
  all_goals intros; simp [substTy]

theorem replaceSelf_subst (σ : Subst) (self t : Ty) : noParam t = true →
    substTy σ (replaceSelf self t) = replaceSelf (substTy σ self) t := by
  apply Ty.rec
    (motive_1 := fun t => noParam t = true → substTy σ (replaceSelf self t) = replaceSelf (substTy σ self) t)
    (motive_2 := fun ts => noParams ts = true → substTys σ (replaceSelfs self ts) = replaceSelfs (substTy σ self) ts)
  case param => intro n h; simp [noParam] at h
  case struct =>
    intro n _
    by_cases hn : (n == "Self") = true
    · simp [replaceSelf, hn]
    · simp [replaceSelf, hn, substTy]
  case tuple | vec | ref => intro e ih h; simp [replaceSelf, substTy, ih (by simpa [noParam] using h)]
  case array => intro n e ih h; simp [replaceSelf, substTy, ih (by simpa [noParam] using h)]
  case app | func =>
    intro t ts ih1 ih2 h
    simp only [noParam, Bool.and_eq_true] at h
    simp [replaceSelf, substTy, ih1 h.1, ih2 h.2]
  case nil => intro _; simp [replaceSelfs, substTys]
  case cons =>
    intro t ts ih1 ih2 h
    simp only [noParams, Bool.and_eq_true] at h
    simp [replaceSelfs, substTys, ih1 h.1, ih2 h.2]
  all_goals intros; simp [replaceSelf, substTy]

theorem lookupTy_mem {l : List (String × Ty)} {x : String} {t : Ty} (h : lookupTy l x = some t) : (x, t) ∈ l := by
  induction l with
  | nil => simp [lookupTy, lookupVar] at h
  | cons p l ih =>
    obtain ⟨k, v⟩ := p
    simp only [lookupTy, lookupVar] at h ih
    by_cases hk : (k == x) = true
    · simp only [hk, if_true, Option.some.injEq] at h
      have : k = x := by simpa using hk
      subst h this
      exact List.mem_cons_self
    · simp only [hk] at h
      exact List.mem_cons_of_mem _ (ih h)

theorem methodTy_subst (S : Sig) (hS : SigClosed S) (σ : Subst) (tr m : String) (self t : Ty)
    (h : methodTy S tr m self = some t) : methodTy S tr m (substTy σ self) = some (substTy σ t) := by
  unfold methodTy at h ⊢
  cases hd : S.traits.find? (·.name == tr) with
  | none => simp [hd] at h
  | some d =>
    simp only [hd] at h ⊢
    cases hm : lookupTy d.methods m with
    | none => simp [hm] at h
    | some mt =>
      simp only [hm, Option.some.injEq] at h ⊢
      subst h
      have := hS.traits d (List.mem_of_find?_eq_some hd) (m, mt) (lookupTy_mem hm)
      exact (replaceSelf_subst σ self mt this).symm

theorem tyBeq_substTy (σ : Subst) {a b : Ty} (h : tyBeq a b = true) : tyBeq (substTy σ a) (substTy σ b) = true := by
  rw [(tyBeq_iff a b).1 h]
  exact tyBeq_refl _

theorem isNumeric_substTy (σ : Subst) {t : Ty} (h : isNumeric t = true) : isNumeric (substTy σ t) = true := by
  cases t <;> simp [isNumeric] at h <;> simp [substTy, isNumeric]

theorem unopOk_subst (σ : Subst) (op : UnOp) (ty a : Ty) (h : unopOk op ty a = true) :
    unopOk op (substTy σ ty) (substTy σ a) = true := by
  cases op <;> simp only [unopOk, Bool.and_eq_true] at h ⊢
  · exact ⟨isNumeric_substTy σ h.1, tyBeq_substTy σ h.2⟩
  · exact ⟨tyBeq_substTy σ h.1, tyBeq_substTy σ h.2⟩

theorem binopOk_subst (σ : Subst) (op : BinOp) (ty a b : Ty) (h : binopOk op ty a b = true) :
    binopOk op (substTy σ ty) (substTy σ a) (substTy σ b) = true := by
  cases op <;> simp only [binopOk, Bool.and_eq_true, Bool.or_eq_true] at h ⊢
  case add | less | greater | lessEq | greaterEq =>
    obtain ⟨⟨h1, h2⟩, h3⟩ := h
    exact ⟨⟨tyBeq_substTy σ h1, tyBeq_substTy σ h2⟩, h3.imp (isNumeric_substTy σ) (tyBeq_substTy σ)⟩
  case sub | mul | div =>
    obtain ⟨⟨h1, h2⟩, h3⟩ := h
    exact ⟨⟨tyBeq_substTy σ h1, tyBeq_substTy σ h2⟩, isNumeric_substTy σ h3⟩
  case and | or =>
    obtain ⟨⟨h1, h2⟩, h3⟩ := h
    exact ⟨⟨tyBeq_substTy σ h1, tyBeq_substTy σ h2⟩, tyBeq_substTy σ h3⟩
  case eq | notEq => exact ⟨tyBeq_substTy σ h.1, tyBeq_substTy σ h.2⟩

/-! ### callee compatibility, arm heads, the induction -/

theorem compatTy_refl (t : Ty) : compatTy t t = true := by
  apply Ty.rec (motive_1 := fun t => compatTy t t = true) (motive_2 := fun ts => compatTys ts ts = true)
  all_goals intros
  all_goals simp_all [compatTy, compatTys, tyBeq_refl]

theorem compatTys_refl (ts : List Ty) : compatTys ts ts = true := by
  simpa [compatTy] using compatTy_refl (.tuple ts)

theorem compatTy_subst (σ : Subst) (t : Ty) : ∀ a, compatTy t a = true → compatTy (substTy σ t) (substTy σ a) = true := by
  apply Ty.rec
    (motive_1 := fun t => ∀ a, compatTy t a = true → compatTy (substTy σ t) (substTy σ a) = true)
    (motive_2 := fun ts => ∀ as, compatTys ts as = true → compatTys (substTys σ ts) (substTys σ as) = true)
  case tuple | vec | ref =>
    intro t ih a h
    simp only [compatTy] at h; split at h
    · simpa [substTy, compatTy] using ih _ h
    · cases h
  case app | func =>
    intro t ts ih1 ih2 a h
    simp only [compatTy] at h; split at h <;> simp at h
    simp [substTy, compatTy, ih1 _ h.1, ih2 _ h.2]
  case array =>
    intro n e ih a h
    simp only [compatTy] at h; split at h <;> simp at h
    simp only [substTy, compatTy, Bool.and_eq_true, Bool.or_eq_true, beq_iff_eq]
    exact ⟨h.1, ih _ h.2⟩
  case nil => intro as h; cases as <;> simp [compatTys] at h; simp [substTys, compatTys]
  case cons =>
    intro t ts ih1 ih2 as h
    cases as <;> simp [compatTys] at h
    simp [substTys, compatTys, ih1 _ h.1, ih2 _ h.2]
  all_goals
    intros
    rename_i a h
    simp only [compatTy] at h
    have := (tyBeq_iff _ _).1 h
    subst this
    exact compatTy_refl _

theorem compatTys_subst (σ : Subst) (ps as : List Ty) (h : compatTys ps as = true) :
    compatTys (substTys σ ps) (substTys σ as) = true := by
  have := compatTy_subst σ (.tuple ps) (.tuple as) (by simpa [compatTy] using h)
  simpa [substTy, compatTy] using this

theorem allTyEq_subst (σ : Subst) (e : Ty) (ts : List Ty) (h : allTyEq e ts = true) :
    allTyEq (substTy σ e) (substTys σ ts) = true := by
  induction ts with
  | nil => simp [substTys, allTyEq]
  | cons t ts ih =>
    simp only [allTyEq, Bool.and_eq_true] at h
    simp [substTys, allTyEq, tyBeq_substTy σ h.1, ih h.2]

theorem headOk_subst {S : Sig} (hS : SigClosed S) (σ : Subst) {st : Ty} {lhs : Expr} (h : headOk S st lhs) :
    headOk S (substTy σ st) (substE σ lhs) := by
  cases lhs <;> try exact h.elim
  case prim p => show primTy p = _; rw [← show primTy p = st from h, substTy_primTy]
  case tag i ty => exact congrArg (substTy σ) (show ty = st from h)
  case constr c ty args =>
    exact ⟨congrArg _ h.1, by rw [getTys_substEs]; exact fieldTys_subst S hS σ c ty _ h.2⟩

section
variable (S : Sig) (hS : SigClosed S) (σ : Subst)

include hS in
theorem errs_subst_all :
    (∀ e Γ, errs S Γ e = [] → errs S (mapΓ σ Γ) (substE σ e) = []) ∧
    (∀ arms Γ st rt, errsArms S Γ st rt arms = [] →
      errsArms S (mapΓ σ Γ) (substTy σ st) (substTy σ rt) (substAs σ arms) = []) ∧
    ∀ es Γ, errsList S Γ es = [] → errsList S (mapΓ σ Γ) (substEs σ es) = [] := by
  refine substE.mutual_induct
    (fun e => ∀ Γ, errs S Γ e = [] → errs S (mapΓ σ Γ) (substE σ e) = [])
    (fun arms => ∀ Γ st rt, errsArms S Γ st rt arms = [] →
      errsArms S (mapΓ σ Γ) (substTy σ st) (substTy σ rt) (substAs σ arms) = [])
    (fun es => ∀ Γ, errsList S Γ es = [] → errsList S (mapΓ σ Γ) (substEs σ es) = [])
    ?var ?prim ?tag ?constr ?tuple ?array ?closure ?letE ?matchNone ?matchSome ?ite ?loop ?go ?cget ?un ?bin
    ?call ?toDyn ?dynCall ?traitCall ?proj ?nil ?cons ?armsNil ?armsCons
  case var =>
    intro x ty Γ h
    rw [substE, errs_var, lookupVar_map]
    rcases errs_var.1 h with h | ⟨h, sch, hs, hi⟩
    · exact .inl (by rw [h]; rfl)
    · exact .inr ⟨by rw [h]; rfl, sch, hs, instOf_subst σ _ _ hi⟩
  case prim | tag => intros; rfl
  case nil | armsNil => intros; rfl
  case constr =>
    intro c ty args ih Γ h
    obtain ⟨ha, hf⟩ := errs_constr.1 h
    exact errs_constr.2 ⟨ih Γ ha, by rw [getTys_substEs]; exact fieldTys_subst S hS σ c ty _ hf⟩
  case tuple =>
    intro ty items ih Γ h
    obtain ⟨ha, rfl⟩ := errs_tuple.1 h
    exact errs_tuple.2 ⟨ih Γ ha, by rw [getTys_substEs]; rfl⟩
  case array =>
    intro ty items ih Γ h
    obtain ⟨ha, e, rfl, hall⟩ := errs_array.1 h
    exact errs_array.2 ⟨ih Γ ha, substTy σ e, by rw [substEs_length]; rfl,
      by rw [getTys_substEs]; exact allTyEq_subst σ e _ hall⟩
  case closure =>
    intro ty ps body ih Γ h
    obtain ⟨hb, rfl⟩ := errs_closure.1 h
    exact errs_closure.2 ⟨by rw [bindAll_map]; exact ih _ hb, by rw [getTy_substE, substParamTys_tys]; rfl⟩
  case letE =>
    intro x v b ih1 ih2 Γ h
    obtain ⟨hv, hb⟩ := errs_letE.1 h
    exact errs_letE.2 ⟨ih1 Γ hv, by rw [getTy_substE]; exact ih2 _ hb⟩
  case matchNone =>
    intro ty s arms ih1 ih2 Γ h
    obtain ⟨hs, ha⟩ := errs_matchNone.1 h
    exact errs_matchNone.2 ⟨ih1 Γ hs, by rw [getTy_substE]; exact ih2 Γ _ _ ha⟩
  case matchSome =>
    intro ty s arms d ih1 ih2 ih3 Γ h
    obtain ⟨hs, ha, hd, rfl⟩ := errs_matchSome.1 h
    exact errs_matchSome.2 ⟨ih1 Γ hs, by rw [getTy_substE]; exact ih2 Γ _ _ ha, ih3 Γ hd, getTy_substE σ d⟩
  case ite =>
    intro c t e ih1 ih2 ih3 Γ h
    obtain ⟨hc, ht, he, h1, h2⟩ := errs_ite.1 h
    exact errs_ite.2 ⟨ih1 Γ hc, ih2 Γ ht, ih3 Γ he, by rw [getTy_substE, h1]; rfl,
      by rw [getTy_substE, getTy_substE, h2]⟩
  case loop =>
    intro c b ih1 ih2 Γ h
    obtain ⟨hc, hb, h1⟩ := errs_while.1 h
    exact errs_while.2 ⟨ih1 Γ hc, ih2 Γ hb, by rw [getTy_substE, h1]; rfl⟩
  case go => intro e ih Γ h; exact errs_go.2 (ih Γ (errs_go.1 h))
  case cget =>
    intro c idx ty e ih Γ h
    obtain ⟨he, fts, hf, hi⟩ := errs_cget.1 h
    exact errs_cget.2 ⟨ih Γ he, _, by rw [getTy_substE]; exact fieldTys_subst S hS σ c _ fts hf,
      by rw [substTys_getElem?, hi]; rfl⟩
  case un =>
    intro op ty e ih Γ h
    obtain ⟨he, hop⟩ := errs_un.1 h
    exact errs_un.2 ⟨ih Γ he, by rw [getTy_substE]; exact unopOk_subst σ op ty _ hop⟩
  case bin =>
    intro op ty l r ih1 ih2 Γ h
    obtain ⟨hl, hr, hop⟩ := errs_bin.1 h
    exact errs_bin.2 ⟨ih1 Γ hl, ih2 Γ hr, by rw [getTy_substE, getTy_substE]; exact binopOk_subst σ op ty _ _ hop⟩
  case call =>
    intro ty f args ih1 ih2 Γ h
    obtain ⟨hf, ha, ps, r, hty, hc, hr⟩ := errs_call.1 h
    exact errs_call.2 ⟨ih1 Γ hf, ih2 Γ ha, _, _, by rw [getTy_substE, hty]; rfl,
      by rw [getTys_substEs]; exact compatTys_subst σ ps _ hc, compatTy_subst σ r ty hr⟩
  case toDyn =>
    intro tr ft ty e ih Γ h
    obtain ⟨he, rfl, rfl⟩ := errs_toDyn.1 h
    exact errs_toDyn.2 ⟨ih Γ he, getTy_substE σ e, rfl⟩
  case dynCall =>
    intro tr m ty recv args ih1 ih2 Γ h
    obtain ⟨hr, ha, hd, hm⟩ := errs_dynCall.1 h
    exact errs_dynCall.2 ⟨ih1 Γ hr, ih2 Γ ha, by rw [getTy_substE, hd]; rfl,
      by rw [getTy_substE, getTys_substEs]; exact methodTy_subst S hS σ tr m (.dyn tr) _ hm⟩
  case traitCall =>
    intro tr m ty recv args ih1 ih2 Γ h
    obtain ⟨hr, ha, hm⟩ := errs_traitCall.1 h
    exact errs_traitCall.2 ⟨ih1 Γ hr, ih2 Γ ha,
      by rw [getTy_substE, getTys_substEs]; exact methodTy_subst S hS σ tr m _ _ hm⟩
  case proj =>
    intro idx ty e ih Γ h
    obtain ⟨he, ts, ht, hi⟩ := errs_proj.1 h
    exact errs_proj.2 ⟨ih Γ he, _, by rw [getTy_substE, ht]; rfl, by rw [substTys_getElem?, hi]; rfl⟩
  case cons =>
    intro e es ih1 ih2 Γ h
    obtain ⟨h1, h2⟩ := errsList_cons.1 h
    exact errsList_cons.2 ⟨ih1 Γ h1, ih2 Γ h2⟩
  case armsCons =>
    intro lhs body rest _ ih2 ih3 Γ st rt h
    obtain ⟨hl, hb, rfl, hr⟩ := errsArms_cons.1 h
    exact errsArms_cons.2 ⟨headOk_subst hS σ hl, ih2 Γ hb, getTy_substE σ body, ih3 Γ st _ hr⟩

include hS in
theorem errs_subst (e : Expr) : ∀ Γ, errs S Γ e = [] → errs S (mapΓ σ Γ) (substE σ e) = [] :=
  (errs_subst_all S hS σ).1 e

end

end Goml.Wt
