import GomlVerif.Lemmas.ValTyKey
import GomlVerif.Lemmas.ValTyOps
/-!
Type soundness of `Sem` w.r.t. `Wt` on the fragment `ValTy.okE S P rf` (C03), for the general value typing
`ValTyG.VT S P rf Ψ`: from a well-typed world, a value returned by `eval` for an expression annotated `τ` inhabits `τ`
(instantiated by the type arguments of the current activation) under an append-only extension `Ψ'` of the store typing,
and the new world is well typed for `Ψ'`.  Values and environments that cross a sub-evaluation are weakened along the
extension (`VT.mono`, `ET.mono`).  The statements are postconditions (`Post`); `Post.bind_eq` is the one place where the
extensions of consecutive sub-evaluations are composed.  Induction on the fuel; expressions, operand lists, arms and
`apply` together.
The reference-free theorem (`ValTy.sound_all`) is the instance `rf = false`, where `WT` asks nothing and `Ψ` plays no role.
-/
namespace Goml.ValTyG
open Goml Goml.Sem Goml.Wt Goml.Mono Goml.ValTy
open Goml.ValTyR (Ext keyable_concrete methodTy_objSafe)

/-- if `r` returns, its result satisfies `Q Ψ'` and its world is well typed for `Ψ'`, an extension of `Ψ` -/
structure Post (S : Sig) (P : Prog) (rf : Bool) {α : Type} (Ψ : List Ty) (r : Res α) (Q : List Ty → α → Prop) : Prop where
  out : ∀ {a : α} {w' : World}, r = .ok a w' → ∃ Ψ', Ext Ψ Ψ' ∧ WT S P rf Ψ' w' ∧ Q Ψ' a

section
variable {S : Sig} {P : Prog} {rf : Bool} {α β : Type} {Ψ : List Ty} {w : World}
  {Q : List Ty → α → Prop} {R : List Ty → β → Prop}

theorem Post.ok {a : α} (hw : WT S P rf Ψ w) (h : Q Ψ a) : Post S P rf Ψ (.ok a w) Q := ⟨fun he => by
  obtain ⟨rfl, rfl⟩ := res_ok_inj he
  exact ⟨Ψ, .refl Ψ, hw, h⟩⟩

theorem Post.result {r : Res α} {a : α} {w' : World} (h : Post S P rf Ψ r Q) (he : r = .ok a w') : ∃ Ψ', Q Ψ' a :=
  let ⟨Ψ', _, _, hq⟩ := h.out he
  ⟨Ψ', hq⟩

theorem Post.fail {f : Fail} : Post S P rf Ψ (.fail f w : Res α) Q := ⟨fun he => nomatch he⟩

/-- sequencing: the continuation starts from the extension the first part ended with; it also gets the equation `r = .ok a w1`
(`Post.bind` drops it), which the `match` and `cget` cases need for `lookup_of_eval` -/
theorem Post.bind_eq {r : Res α} {k : α → World → Res β} (h : Post S P rf Ψ r Q)
    (hk : ∀ Ψ1 a w1, r = .ok a w1 → Ext Ψ Ψ1 → WT S P rf Ψ1 w1 → Q Ψ1 a → Post S P rf Ψ1 (k a w1) R) :
    Post S P rf Ψ (r.andThen k) R := ⟨fun he => by
  obtain ⟨a, w1, h1, he⟩ := Res.andThen_eq_ok he
  obtain ⟨Ψ1, hx1, hw1, hq⟩ := h.out h1
  exact hx1.lift ((hk Ψ1 a w1 h1 hx1 hw1 hq).out he)⟩

theorem Post.bind {r : Res α} {k : α → World → Res β} (h : Post S P rf Ψ r Q)
    (hk : ∀ Ψ1 a w1, Ext Ψ Ψ1 → WT S P rf Ψ1 w1 → Q Ψ1 a → Post S P rf Ψ1 (k a w1) R) :
    Post S P rf Ψ (r.andThen k) R :=
  h.bind_eq fun Ψ1 a w1 _ => hk Ψ1 a w1

end

/-- What the induction on the fuel carries: at fuel `n`, each of `eval`, `evalList`, `evalArms`, `apply` (on a program
function, on a value of function type) takes a well-typed world and well-typed inputs to a value of the expected type,
under an extension of the store typing for which the new world is well typed.  In `arms`, `sv` is the scrutinee when it is a
local, then bound to the matched value `sval`, so that a matching enum arm may record its variant in `K` (`KOk_learn`); `st` is
unconstrained. -/
structure SoundAt (S : Sig) (P : Prog) (rf : Bool) (n : Nat) : Prop where
  expr : ∀ {e : Expr} {ρ : Env} {w : World} {Γ : TyEnv} {K : Know} {θ : Subst} {Ψ : List Ty},
    okE S P rf Γ K e = true → errs S Γ e = [] → ET S P rf Ψ θ ρ Γ → KOk K ρ → WT S P rf Ψ w →
    Post S P rf Ψ (eval n P ρ w e) fun Ψ' v => VT S P rf Ψ' v (substTy θ (getTy e))
  list : ∀ {es : List Expr} {ρ : Env} {w : World} {Γ : TyEnv} {K : Know} {θ : Subst} {Ψ : List Ty},
    okL S P rf Γ K es = true → errsList S Γ es = [] → ET S P rf Ψ θ ρ Γ → KOk K ρ → WT S P rf Ψ w →
    Post S P rf Ψ (evalList n P ρ w es) fun Ψ' vs => VTs S P rf Ψ' vs (substTys θ (getTys es))
  arms : ∀ {arms : List Arm} {d : Option Expr} {ρ : Env} {w : World} {Γ : TyEnv} {K : Know} {θ : Subst} {Ψ : List Ty}
    {sv : Option String} {st rt : Ty} {sval : Val},
    okA S P rf Γ K sv arms = true → errsArms S Γ st rt arms = [] →
    (∀ d0, d = some d0 → okE S P rf Γ K d0 = true ∧ errs S Γ d0 = [] ∧ getTy d0 = rt) →
    ET S P rf Ψ θ ρ Γ → KOk K ρ → WT S P rf Ψ w → (∀ x, sv = some x → lookupEnv ρ x = some sval) →
    Post S P rf Ψ (evalArms n P ρ w sval arms d) fun Ψ' v => VT S P rf Ψ' v (substTy θ rt)
  app : ∀ {name : String} {g : Fn} {θ : Subst} {Ψ : List Ty} {args : List Val} {w : World},
    P.findFn name = some g → VTs S P rf Ψ args (substTys θ (g.params.map (·.2))) → WT S P rf Ψ w →
    Post S P rf Ψ (apply n P w (.fn name) args) fun Ψ' v => VT S P rf Ψ' v (substTy θ g.ret)
  appv : ∀ {fv : Val} {as : List Ty} {r : Ty} {Ψ : List Ty} {args : List Val} {w : World},
    VT S P rf Ψ fv (.func as r) → VTs S P rf Ψ args as → WT S P rf Ψ w →
    Post S P rf Ψ (apply n P w fv args) fun Ψ' v => VT S P rf Ψ' v r

section
variable {S : Sig} {P : Prog} {rf : Bool} {n : Nat} {ρ : Env} {w : World} {Γ : TyEnv} {K : Know} {θ : Subst}
  {Ψ : List Ty} {v : Val}

theorem okProg_fn (hP : okProg S P rf = true) {name : String} {g : Fn} (h : P.findFn name = some g) :
    errs S (bindAll g.params []) g.body = [] ∧ getTy g.body = g.ret ∧ okE S P rf (bindAll g.params []) [] g.body = true := by
  unfold okProg at hP
  simp only [List.all_eq_true] at hP
  have hm : g ∈ P.fns := List.mem_of_find?_eq_some h
  have := hP g hm
  unfold okFn wtFn fnErrs at this
  simp only [Bool.and_eq_true, List.isEmpty_iff, List.append_eq_nil_iff, checkEq_nil] at this
  exact ⟨this.1.1, this.1.2, this.2⟩

theorem armMatches_enum {a b : String} {idx : Nat} {t : Ty} {as : List Expr}
    (h : armMatches (.constr (.enum a b idx) t as) v = true) : ∃ n args, v = .enumV n idx args := by
  cases v <;> simp [armMatches] at h
  subst h; exact ⟨_, _, rfl⟩

theorem step_app (hP : okProg S P rf = true) (ih : SoundAt S P rf n) {name : String} {g : Fn} {args : List Val}
    (hg : P.findFn name = some g) (ha : VTs S P rf Ψ args (substTys θ (g.params.map (·.2)))) (hw : WT S P rf Ψ w) :
    Post S P rf Ψ (apply (n + 1) P w (.fn name) args) fun Ψ' v => VT S P rf Ψ' v (substTy θ g.ret) := by
  obtain ⟨herr, hret, hok⟩ := okProg_fn hP hg
  rw [apply_fn, hg, ← hret]
  exact ih.expr hok herr (ET_bind g.params args [] [] ha .nil) (KOk_nil _) hw

theorem step_list (ih : SoundAt S P rf n) {es : List Expr}
    (hok : okL S P rf Γ K es = true) (herr : errsList S Γ es = [])
    (hρ : ET S P rf Ψ θ ρ Γ) (hK : KOk K ρ) (hw : WT S P rf Ψ w) :
    Post S P rf Ψ (evalList (n + 1) P ρ w es) fun Ψ' vs => VTs S P rf Ψ' vs (substTys θ (getTys es)) := by
  cases es with
  | nil => exact .ok hw (by simp only [getTys, substTys]; exact .nil)
  | cons e es =>
    simp only [okL, Bool.and_eq_true] at hok
    obtain ⟨he, hes⟩ := errsList_cons.1 herr
    rw [evalList_cons_at]
    refine (ih.expr hok.1 he hρ hK hw).bind fun Ψ1 v1 w1 hx1 hw1 hv1 => ?_
    refine (ih.list hok.2 hes (hρ.mono hx1) hK hw1).bind fun Ψ2 vs w2 hx2 hw2 hvs => ?_
    exact .ok hw2 (by simp only [getTys, substTys]; exact .cons (hv1.mono hx2) hvs)

theorem step_arms (ih : SoundAt S P rf n) {arms : List Arm} {d : Option Expr}
    {sv : Option String} {st rt : Ty} {sval : Val}
    (hok : okA S P rf Γ K sv arms = true) (herr : errsArms S Γ st rt arms = [])
    (hd : ∀ d0, d = some d0 → okE S P rf Γ K d0 = true ∧ errs S Γ d0 = [] ∧ getTy d0 = rt)
    (hρ : ET S P rf Ψ θ ρ Γ) (hK : KOk K ρ) (hw : WT S P rf Ψ w) (hsv : ∀ x, sv = some x → lookupEnv ρ x = some sval) :
    Post S P rf Ψ (evalArms (n + 1) P ρ w sval arms d) fun Ψ' v => VT S P rf Ψ' v (substTy θ rt) := by
  cases arms with
  | nil =>
    rw [evalArms_nil_at]
    cases d with
    | none => exact .fail
    | some d0 =>
      obtain ⟨h1, h2, h3⟩ := hd d0 rfl
      exact h3 ▸ ih.expr h1 h2 hρ hK hw
  | cons a rest =>
    obtain ⟨lhs, body⟩ := a
    simp only [okA, Bool.and_eq_true] at hok
    obtain ⟨_, hbody, hbt, hrest⟩ := errsArms_cons.1 herr
    rw [evalArms_cons_at]
    split
    · rename_i hm
      have hres : ∀ K', KOk K' ρ → okE S P rf Γ K' body = true →
          Post S P rf Ψ (eval n P ρ w body) fun Ψ' v => VT S P rf Ψ' v (substTy θ rt) :=
        fun K' hK' hok' => hbt ▸ ih.expr hok' hbody hρ hK' hw
      cases lhs with
      | constr c t as =>
        cases c with
        | enum a b idx =>
          obtain ⟨nn, args, rfl⟩ := armMatches_enum hm
          refine hres _ ?_ hok.1
          cases sv with
          | none => exact hK
          | some x => exact KOk_learn hK (hsv x rfl)
        | struct _ => simp at hok
      | prim p => exact hres K hK hok.1
      | _ => simp at hok
    · exact ih.arms hok.2 hrest hd hρ hK hw hsv

theorem scAnd_and {op : BinOp} {a : Val} (h : scAnd op a = true) : op = .and := by
  unfold scAnd at h; split at h <;> simp_all

theorem scOr_or {op : BinOp} {a : Val} (h : scOr op a = true) : op = .or := by
  unfold scOr at h; split at h <;> simp_all

theorem lookup_of_eval {x : String} {t : Ty} {v : Val} {w' : World} (hl : (lookupVar Γ x).isSome = true)
    (hρ : ET S P rf Ψ θ ρ Γ) (hev : eval n P ρ w (.var x t) = .ok v w') : lookupEnv ρ x = some v := by
  cases n with
  | zero => rw [eval_zero] at hev; cases hev
  | succ n =>
    rw [eval_var] at hev
    have := ET_lookup hρ x
    cases hx : lookupVar Γ x with
    | none => simp [hx] at hl
    | some t0 =>
      rw [hx] at this
      obtain ⟨v0, h1, _⟩ := this
      rw [h1] at hev
      exact (res_ok_inj hev).1 ▸ h1

theorem eval_global {x : String} {t : Ty}
    (hρ : ET S P rf Ψ θ ρ Γ) (hnone : lookupVar Γ x = none) : eval (n + 1) P ρ w (.var x t) = .ok (.fn x) w := by
  have := ET_lookup hρ x
  simp only [hnone] at this
  rw [eval_var, this]; rfl

theorem VT_fnVal {x : String} {t : Ty} (θ : Subst) (h : fnValOk P x t = true) :
    VT S P rf Ψ (.fn x) (substTy θ t) := by
  unfold fnValOk at h
  cases hg : P.findFn x with
  | none => simp [hg] at h
  | some g =>
    simp only [hg, instSubst] at h
    cases hm : matchTy (fnTy g) t [] with
    | none => simp [hm] at h
    | some σ =>
      simp only [hm] at h
      by_cases hinst : tyBeq (substTy σ (fnTy g)) t = true
      · rw [← tyEq hinst, ← substTy_compS]
        exact .fn _ hg
      · simp [hinst] at h

theorem struct_fields {τ : Ty} {tn : String} {fts : List Ty} (hv : VT S P rf Ψ v τ)
    (hk : isStructTy τ = true) (hf : fieldTys S (.struct tn) τ = some fts) : ∃ fs, v = .structV tn fs ∧ VTs S P rf Ψ fs fts := by
  cases hv with
  | @structV sn fs _ fts' _ h2 h3 =>
    obtain rfl : sn = tn := nominalArgs_name (fieldTys_nominal h2) (fieldTys_nominal hf)
    rw [hf] at h2
    injection h2 with h2; subst h2
    exact ⟨fs, rfl, h3⟩
  | enumV h1 _ _ => exact (not_enum_and_struct h1 hk).elim
  | fn θ _ => simp [fnTy, substTy, isStructTy] at hk
  | _ => simp [isStructTy] at hk

theorem enum_fields {en tn vn : String} {ci : Nat} {args : List Val} {τ : Ty} {fts : List Ty}
    (hv : VT S P rf Ψ (.enumV en ci args) τ) (hf : fieldTys S (.enum tn vn ci) τ = some fts) : VTs S P rf Ψ args fts := by
  cases hv with
  | @enumV _ _ _ _ fts' _ h2 h3 =>
    obtain rfl : en = tn := nominalArgs_name (enumFieldTys_nominal h2) (fieldTys_nominal hf)
    rw [enumFieldTys_of_fieldTys hf] at h2
    injection h2 with h2; subst h2
    exact h3

/-- a row of a dispatch table that passes `implsOk`: its function exists, takes a first parameter of a keyable type
    with the row's key, and has the trait's method signature at that type -/
theorem implsOk_row (himp : implsOk S P = true) {tr key m : String} {row : String × String × String × String}
    (hrow : P.impls.find? (fun i => i.1 == tr && i.2.1 == key && i.2.2.1 == m) = some row) :
    namesOk S = true ∧ ∃ g p rest, P.findFn row.2.2.2 = some g ∧ g.params = p :: rest ∧ keyable S p.2 = true ∧
      tyKey p.2 = key ∧ methodTy S tr m p.2 = some (fnTy g) := by
  unfold implsOk at himp
  simp only [Bool.and_eq_true, List.all_eq_true] at himp
  refine ⟨himp.1, ?_⟩
  have hp := List.find?_some hrow
  simp only [Bool.and_eq_true, beq_iff_eq] at hp
  obtain ⟨⟨htr, hkeyr⟩, hmr⟩ := hp
  have hr := himp.2 row (List.mem_of_find?_eq_some hrow)
  unfold rowOk at hr
  cases hg : P.findFn row.2.2.2 with
  | none => simp [hg] at hr
  | some g =>
    simp only [hg] at hr
    cases hps : g.params with
    | nil => simp [hps] at hr
    | cons p rest =>
      simp only [hps, Bool.and_eq_true, beq_iff_eq] at hr
      obtain ⟨⟨hkeyable, hkey⟩, hsig⟩ := hr
      refine ⟨g, p, rest, rfl, hps, hkeyable, by rw [hkey, hkeyr], ?_⟩
      rw [← htr, ← hmr]
      cases hmt : methodTy S row.1 row.2.2.1 p.2 with
      | none => simp [hmt] at hsig
      | some mt => simp only [hmt] at hsig; rw [tyEq hsig]

theorem call_sig (ih : SoundAt S P rf n) {name : String} {g : Fn} (hg : P.findFn name = some g)
    {τ r : Ty} {as : List Ty} (hsig : fnTy g = .func (τ :: as) r) (θ : Subst) {rv : Val} {vs : List Val}
    (hrv : VT S P rf Ψ rv (substTy θ τ)) (hvs : VTs S P rf Ψ vs (substTys θ as)) (hw : WT S P rf Ψ w) :
    Post S P rf Ψ (apply n P w (.fn name) (rv :: vs)) fun Ψ' v => VT S P rf Ψ' v (substTy θ r) := by
  unfold fnTy at hsig
  injection hsig with hps hret
  rw [← hret]
  exact ih.app (θ := θ) hg (by rw [hps]; exact .cons hrv hvs) hw

/-- dynamic dispatch through a table that passes `implsOk`: the row found for the key of a receiver of type `τ` names a
    function with the trait's method signature at `Self := τ` (`key_determines`) -/
theorem dispatch_sound (ih : SoundAt S P rf n) (himp : implsOk S P = true) {tr m key : String} {τ r : Ty} {as : List Ty}
    (θ : Subst) {rv : Val} {vs : List Val} (hrv : VT S P rf Ψ rv τ) (hkey : key = valKey rv) (hθ : substTy θ τ = τ)
    (hm : methodTy S tr m τ = some (.func (τ :: as) r)) (hvs : VTs S P rf Ψ vs (substTys θ as)) (hw : WT S P rf Ψ w) :
    Post S P rf Ψ
      (match P.impls.find? (fun i => i.1 == tr && i.2.1 == key && i.2.2.1 == m) with
       | some i => apply n P w (.fn i.2.2.2) (rv :: vs)
       | none => .fail (.stuck ("no impl of " ++ tr ++ " for " ++ key)) w)
      fun Ψ' v => VT S P rf Ψ' v (substTy θ r) := by
  cases hrow : P.impls.find? (fun i => i.1 == tr && i.2.1 == key && i.2.2.1 == m) with
  | none => exact .fail
  | some row =>
    obtain ⟨hnames, g, p, rest, hg, hps, hkeyable, hk, hsig⟩ := implsOk_row himp hrow
    obtain rfl : τ = p.2 := key_determines hnames hrv hkeyable (hk.trans hkey)
    rw [hm] at hsig
    injection hsig with hsig
    exact call_sig ih hg hsig.symm θ (hθ.symm ▸ hrv) hvs hw

theorem step_appv (hP : okProg S P rf = true) (ih : SoundAt S P rf n)
    {fv : Val} {as : List Ty} {r : Ty} {args : List Val}
    (hf : VT S P rf Ψ fv (.func as r)) (ha : VTs S P rf Ψ args as) (hw : WT S P rf Ψ w) :
    Post S P rf Ψ (apply (n + 1) P w fv args) fun Ψ' v => VT S P rf Ψ' v r := by
  generalize hτ : Ty.func as r = τ at hf
  cases hf with
  | @closure θc ρc Γc pts body hρc herr hok =>
    injection hτ with h1 h2
    subst h1; subst h2
    rw [apply_closure]
    exact ih.expr hok herr (ET_bind pts args ρc Γc ha hρc) (KOk_nil _) hw
  | @fn name g θ' hg =>
    unfold fnTy at hτ
    rw [substTy_func] at hτ
    injection hτ with h1 h2
    subst h1; subst h2
    exact step_app hP ih hg ha hw
  | enumV h1 _ _ => subst hτ; simp [isEnumTy] at h1
  | structV h1 _ _ => subst hτ; simp [isStructTy] at h1
  | _ => cases hτ

theorem step_expr (hS : SigClosed S) (ih : SoundAt S P rf n) {e : Expr}
    (hok : okE S P rf Γ K e = true) (herr : errs S Γ e = []) (hρ : ET S P rf Ψ θ ρ Γ) (hK : KOk K ρ) (hw : WT S P rf Ψ w) :
    Post S P rf Ψ (eval (n + 1) P ρ w e) fun Ψ' v => VT S P rf Ψ' v (substTy θ (getTy e)) := by
  cases e with
  | var x t =>
    rw [eval_var]
    have hl := ET_lookup hρ x
    rcases errs_var.1 herr with hb | ⟨hnone, _⟩
    · rw [hb] at hl
      obtain ⟨v0, h1, h2⟩ := hl
      rw [h1]; exact .ok hw h2
    · rw [hnone] at hl
      simp only [okE, hnone, Option.isSome_none, Bool.false_or] at hok
      rw [show lookupEnv ρ x = none from hl]
      exact .ok hw (VT_fnVal θ hok)
  | prim p =>
    rw [eval_prim]
    exact .ok hw (by simp only [getTy, substTy_primTy]; exact VT_prim p (by simpa [okE] using hok))
  | tag i t => simp [okE] at hok
  | constr c t args =>
    simp only [okE, Bool.and_eq_true] at hok
    obtain ⟨hargs, hf⟩ := errs_constr.1 herr
    have hf' := fieldTys_subst S hS θ c t _ hf
    rw [eval_constr]
    refine (ih.list hok.2 hargs hρ hK hw).bind fun Ψ1 vs w1 hx1 hw1 hvs => ?_
    cases c with
    | enum tn vn idx =>
      exact .ok hw1 (.enumV (isEnumTy_subst θ t (by simpa [ctorTyOk] using hok.1)) (enumFieldTys_of_fieldTys hf') hvs)
    | struct tn =>
      exact .ok hw1 (.structV (isStructTy_subst θ t (by simpa [ctorTyOk] using hok.1)) hf' hvs)
  | tuple t items =>
    simp only [okE] at hok
    obtain ⟨hitems, rfl⟩ := errs_tuple.1 herr
    rw [eval_tuple]
    refine (ih.list hok hitems hρ hK hw).bind fun Ψ1 vs w1 hx1 hw1 hvs => ?_
    exact .ok hw1 (by simp only [getTy, substTy]; exact .tuple hvs)
  | array t items =>
    simp only [okE] at hok
    obtain ⟨hitems, e, rfl, hall⟩ := errs_array.1 herr
    rw [eval_array]
    refine (ih.list hok hitems hρ hK hw).bind fun Ψ1 vs w1 hx1 hw1 hvs => ?_
    refine .ok hw1 ?_
    simp only [getTy, substTy]
    refine .array (VTs_all hvs ?_) (by rw [VTs_length hvs, substTys_length, getTys_length])
    intro u hu
    rw [substTys_map] at hu
    obtain ⟨u0, hu0, rfl⟩ := List.mem_map.1 hu
    rw [allTyEq_all hall u0 hu0]
  | closure t ps body =>
    simp only [okE] at hok
    obtain ⟨hb, rfl⟩ := errs_closure.1 herr
    rw [eval_closure]
    exact .ok hw (by simp only [getTy, substTy_func]; exact .closure hρ hb hok)
  | letE x v0 b =>
    simp only [okE, Bool.and_eq_true] at hok
    obtain ⟨hv, hb⟩ := errs_letE.1 herr
    rw [eval_letE]
    refine (ih.expr hok.1 hv hρ hK hw).bind fun Ψ1 vv w1 hx1 hw1 hvv => ?_
    exact ih.expr hok.2 hb (.cons hvv (hρ.mono hx1)) (KOk_drop hK x vv) hw1
  | matchE t s arms d =>
    obtain ⟨hs, harms, hd⟩ := errs_matchE.1 herr
    -- `okE` unfolds only once the default is `none` or `some _`
    have hok' : okE S P rf Γ K s = true ∧ okA S P rf Γ K (scrutLocal Γ s) arms = true ∧
        ∀ d0, d = some d0 → okE S P rf Γ K d0 = true := by
      cases d with
      | none =>
        simp only [okE, Bool.and_eq_true, Bool.and_true] at hok
        exact ⟨hok.1, hok.2, nofun⟩
      | some d1 =>
        simp only [okE, Bool.and_eq_true] at hok
        obtain ⟨⟨hoks, hoka⟩, hokd⟩ := hok
        exact ⟨hoks, hoka, fun d0 h0 => Option.some.inj h0 ▸ hokd⟩
    obtain ⟨hoks, hoka, hokd⟩ := hok'
    rw [eval_matchE]
    refine (ih.expr hoks hs hρ hK hw).bind_eq fun Ψ1 sval w1 h1 hx1 hw1 _ => ?_
    refine ih.arms hoka harms (fun d0 h0 => ⟨hokd d0 h0, hd d0 h0⟩) (hρ.mono hx1) hK hw1 ?_
    intro x hx
    cases s <;> simp [scrutLocal, scrutVar] at hx
    obtain ⟨hl, rfl⟩ := hx
    exact lookup_of_eval hl hρ h1
  | ite c t e2 =>
    simp only [okE, Bool.and_eq_true] at hok
    obtain ⟨⟨hokc, hokt⟩, hoke⟩ := hok
    obtain ⟨hc, ht, he, _, hte⟩ := errs_ite.1 herr
    rw [eval_ite]
    refine (ih.expr hokc hc hρ hK hw).bind fun Ψ1 vc w1 hx1 hw1 _ => ?_
    simp only [getTy]
    split
    · exact ih.expr hokt ht (hρ.mono hx1) hK hw1
    · exact hte ▸ ih.expr hoke he (hρ.mono hx1) hK hw1
    · exact .fail
  | «while» c b =>
    have hok0 := hok
    simp only [okE, Bool.and_eq_true] at hok
    obtain ⟨hc, hb, _⟩ := errs_while.1 herr
    rw [eval_while]
    refine (ih.expr hok.1 hc hρ hK hw).bind fun Ψ1 vc w1 hx1 hw1 _ => ?_
    split
    · refine (ih.expr hok.2 hb (hρ.mono hx1) hK hw1).bind fun Ψ2 vb w2 hx2 hw2 _ => ?_
      exact ih.expr hok0 herr (hρ.mono (hx1.trans hx2)) hK hw2
    · exact .ok hw1 (by simp only [getTy, substTy]; exact .unit)
    · exact .fail
  | go e0 => simp [okE] at hok
  | cget c i t e0 =>
    simp only [okE, Bool.and_eq_true] at hok
    obtain ⟨⟨he0, hkind⟩, hflow⟩ := hok
    obtain ⟨hee, fts, hf, hi⟩ := errs_cget.1 herr
    have hf' := fieldTys_subst S hS θ c (getTy e0) fts hf
    have hi' : (substTys θ fts)[i]? = some (substTy θ t) := by rw [substTys_getElem?, hi]; rfl
    rw [eval_cget]
    refine (ih.expr he0 hee hρ hK hw).bind_eq fun Ψ1 ve w1 h1 hx1 hw1 hve => ?_
    -- in both cases `ve` is a constructor value whose fields `fs` have the types `substTys θ fts`; the two reads differ
    -- in the message of the stuck case only
    have fin : ∀ {fs : List Val} {msg : String}, VTs S P rf Ψ1 fs (substTys θ fts) →
        Post S P rf Ψ1 (match fs[i]? with | some v => Res.ok v w1 | none => .fail (.stuck msg) w1)
          fun Ψ' v => VT S P rf Ψ' v (substTy θ t) := by
      intro fs msg hfs
      obtain ⟨fv, hfv, hty⟩ := VTs_get hfs i _ hi'
      rw [hfv]; exact .ok hw1 hty
    cases c with
    | struct tn =>
      obtain ⟨fs, rfl, hfs⟩ := struct_fields hve (isStructTy_subst θ _ (by simpa [ctorTyOk] using hkind)) hf'
      exact fin hfs
    | enum tn vn ci =>
      -- the variable was tested for variant `ci` by an enclosing arm
      cases e0 with
      | var x tx =>
        simp only [beq_iff_eq] at hflow
        obtain ⟨en, eargs, hlk⟩ := hK x ci hflow
        have hloc : (lookupVar Γ x).isSome = true := by
          have := ET_lookup hρ x
          cases hx : lookupVar Γ x with
          | some _ => rfl
          | none => rw [hx] at this; rw [show lookupEnv ρ x = none from this] at hlk; cases hlk
        obtain rfl : Val.enumV en ci eargs = ve := Option.some.inj (hlk.symm.trans (lookup_of_eval hloc hρ h1))
        exact fin (enum_fields hve hf')
      | _ => simp at hflow
  | un op t e0 =>
    simp only [okE] at hok
    obtain ⟨he, hop⟩ := errs_un.1 herr
    rw [eval_un]
    refine (ih.expr hok he hρ hK hw).bind fun Ψ1 ve w1 hx1 hw1 hve => ?_
    cases hu : unop op ve with
    | error f => exact .fail
    | ok r => exact .ok hw1 (unop_sound (unopOk_subst θ op t _ hop) hve hu)
  | bin op t l r =>
    simp only [okE, Bool.and_eq_true] at hok
    obtain ⟨hl, hr, hop⟩ := errs_bin.1 herr
    have hop' := binopOk_subst θ op t _ _ hop
    rw [eval_bin]
    refine (ih.expr hok.1 hl hρ hK hw).bind fun Ψ1 va w1 hx1 hw1 hva => ?_
    simp only [getTy]
    -- `&&` / `||` decided by the left operand alone
    have hbool : ∀ b, (op = .and ∨ op = .or) → VT S P rf Ψ1 (.bool b) (substTy θ t) := by
      intro b hcase
      rcases hcase with rfl | rfl
      all_goals
        simp only [binopOk, Bool.and_eq_true] at hop'
        rw [tyEq hop'.2]
        exact .bool _
    split
    · rename_i c1; exact .ok hw1 (hbool _ (.inl (scAnd_and c1)))
    split
    · rename_i c2; exact .ok hw1 (hbool _ (.inr (scOr_or c2)))
    split
    · exact .fail
    refine (ih.expr hok.2 hr (hρ.mono hx1) hK hw1).bind fun Ψ2 vb w2 hx2 hw2 hvb => ?_
    cases hb : binop op va vb with
    | error f => exact .fail
    | ok rv => exact .ok hw2 (binop_sound hop' (hva.mono hx2) hvb hb)
  | call t f args =>
    simp only [okE, Bool.and_eq_true, Bool.or_eq_true] at hok
    obtain ⟨hargsok, hf⟩ := hok
    obtain ⟨hfe, hargs, _⟩ := errs_call.1 herr
    rw [eval_call]
    simp only [getTy]
    -- a builtin called by name: the callee evaluates to `.fn fn`, which `apply` hands to `builtin`
    have hbuiltin : ∀ {fn : String} {tf : Ty} {R : List Ty → Val → Prop}, f = .var fn tf → lookupVar Γ fn = none →
        P.findFn fn = none →
        (∀ Ψ1 vs w2, Ext Ψ Ψ1 → WT S P rf Ψ1 w2 → VTs S P rf Ψ1 vs (substTys θ (getTys args)) →
          Post S P rf Ψ1 (applyExtern fn vs w2) R) →
        Post S P rf Ψ ((eval n P ρ w f).andThen fun fv w => (evalList n P ρ w args).andThen fun vs w => apply n P w fv vs) R := by
      rintro fn tf R rfl hnone hg hk
      cases n with
      | zero => rw [eval_zero]; exact .fail
      | succ m =>
        rw [eval_global hρ hnone, Res.andThen_ok]
        refine (ih.list hargsok hargs hρ hK hw).bind fun Ψ1 vs w2 hx1 hw1 hvs => ?_
        rw [apply_extern hg]
        exact hk Ψ1 vs w2 hx1 hw1 hvs
    rcases hf with (hdirect | hpoly) | ⟨hfok, hfty⟩
    · cases f with
      | var fn tf =>
        simp only [Bool.and_eq_true, Option.isNone_iff_eq_none, builtinOk] at hdirect
        obtain ⟨⟨hnone, hg, hb⟩, htf⟩ := hdirect
        obtain rfl := tyEq htf
        refine hbuiltin rfl hnone hg fun Ψ1 vs w2 hx1 hw1 hvs => ?_
        cases hbt : builtinTy fn with
        | none =>
          -- `missing` takes one string and always panics
          simp only [hbt, Bool.and_eq_true, beq_iff_eq] at hb
          obtain ⟨rfl, hshape⟩ := hb
          split at hshape
          · rename_i heq
            injection heq with hga
            rw [hga] at hvs
            obtain ⟨a, rfl, _⟩ := VTs_single hvs
            refine ⟨fun hev => ?_⟩
            simp [applyExtern, builtin] at hev
          · cases hshape
        | some bt =>
          simp only [hbt] at hb
          obtain rfl := tyEq hb
          have hclosed := substTy_noParam θ _ (builtinTy_noParam hbt)
          rw [substTy_func] at hclosed
          injection hclosed with h1 h2
          rw [h1] at hvs
          rw [h2]
          refine ⟨fun hev => ?_⟩
          have := builtin_sound hbt hvs hev
          exact ⟨Ψ1, .refl _, hw1.of_store this.2, this.1⟩
      | _ => simp at hdirect
    · cases f with
      | var fn tf =>
        simp only [Bool.and_eq_true, Option.isNone_iff_eq_none, Bool.or_eq_true] at hpoly
        obtain ⟨⟨hnone, hg⟩, hp⟩ := hpoly
        refine hbuiltin rfl hnone hg fun Ψ1 vs w2 hx1 hw1 hvs => ?_
        refine ⟨fun hev => ?_⟩
        rcases hp with hp | hp
        · have := poly_sound hp hvs hev
          exact ⟨Ψ1, .refl _, hw1.of_store this.2, this.1⟩
        · exact ref_sound hp.1 hp.2 hw1 hvs hev
      | _ => simp at hpoly
    · refine (ih.expr hfok hfe hρ hK hw).bind fun Ψ1 fv w1 hx1 hw1 hfv => ?_
      rw [tyEq hfty, substTy_func] at hfv
      refine (ih.list hargsok hargs (hρ.mono hx1) hK hw1).bind fun Ψ2 vs w2 hx2 hw2 hvs => ?_
      exact ih.appv (hfv.mono hx2) hvs hw2
  | toDyn tr ft t e0 =>
    simp only [okE, Bool.and_eq_true] at hok
    obtain ⟨⟨h0, he0⟩, hkey⟩ := hok
    obtain ⟨he, rfl, rfl⟩ := errs_toDyn.1 herr
    rw [eval_toDyn]
    refine (ih.expr he0 he hρ hK hw).bind fun Ψ1 ve w1 hx1 hw1 hve => ?_
    rw [substTy_concrete θ (keyable_concrete hkey)] at hve
    exact .ok hw1 (by simp only [getTy, substTy]; exact .dyn h0 hkey hve rfl)
  | dynCall tr m t recv args =>
    simp only [okE, Bool.and_eq_true] at hok
    obtain ⟨⟨⟨⟨_, hrecv⟩, hargsok⟩, himp⟩, hobj⟩ := hok
    obtain ⟨hr, hargs, hd, hm⟩ := errs_dynCall.1 herr
    rw [eval_dynCall]
    refine (ih.expr hrecv hr hρ hK hw).bind fun Ψ1 rv w1 hx1 hw1 hrv => ?_
    rw [hd] at hrv
    obtain ⟨key, v0, τ0, rfl, hk0, hv0, rfl⟩ := hrv.inv
    refine (ih.list hargsok hargs (hρ.mono hx1) hK hw1).bind fun Ψ2 vs w2 hx2 hw2 hvs => ?_
    have hconc0 := keyable_concrete hk0
    -- object safety: the method's signature at `Self := τ0` is `(τ0, argument types) -> t`
    obtain ⟨mps, mr, hmt⟩ := methodTy_objSafe hobj
    rw [hmt] at hm
    -- `hm` equates `some (.func (.dyn tr :: mps) mr)` with `some (.func (getTy recv :: getTys args) t)`
    injection hm with hm
    injection hm with hm hmr
    injection hm with _ hmps
    subst hmps hmr
    exact dispatch_sound ih himp θ (hv0.mono hx2) (valKey_of_VT hconc0 (hv0.mono hx2)).symm
      (substTy_concrete θ hconc0) (hmt τ0) hvs hw2
  | traitCall tr m t recv args =>
    simp only [okE, Bool.and_eq_true, Bool.or_eq_true] at hok
    obtain ⟨⟨hrecv, hargsok⟩, hdisp⟩ := hok
    obtain ⟨hr, hargs, hm⟩ := errs_traitCall.1 herr
    rw [eval_traitCall_at]
    refine (ih.expr hrecv hr hρ hK hw).bind fun Ψ1 rv w1 hx1 hw1 hrv0 => ?_
    refine (ih.list hargsok hargs (hρ.mono hx1) hK hw1).bind fun Ψ2 vs w2 hx2 hw2 hvs => ?_
    have hrv := hrv0.mono hx2
    simp only [getTy]
    rcases hdisp with ⟨hconc, hdisp⟩ | himp
    · -- a concretely annotated receiver with a dispatch row of the annotated signature
      rw [valKey_of_VT hconc (substTy_concrete θ hconc ▸ hrv)]
      unfold dispatchOk at hdisp
      cases hrow : P.impls.find? (fun i => i.1 == tr && i.2.1 == tyKey (getTy recv) && i.2.2.1 == m) with
      | none => simp [hrow] at hdisp
      | some row =>
        simp only [hrow] at hdisp
        cases hg : P.findFn row.2.2.2 with
        | none => simp [hg] at hdisp
        | some g =>
          simp only [hg] at hdisp
          exact call_sig ih hg (tyEq hdisp) θ hrv hvs hw2
    · -- any receiver (a type parameter instantiated at run time): the dispatch-table check
      have hm2 := methodTy_subst S hS θ tr m _ _ hm
      simp only [substTy_func, substTys] at hm2
      have := dispatch_sound ih himp [] hrv rfl (substTy_nil _) hm2 (by rwa [substTys_nil]) hw2
      rwa [substTy_nil] at this
  | proj i t e0 =>
    simp only [okE] at hok
    obtain ⟨he, ts, hts, hi⟩ := errs_proj.1 herr
    rw [eval_proj]
    refine (ih.expr hok he hρ hK hw).bind fun Ψ1 ve w1 hx1 hw1 hve => ?_
    rw [hts] at hve
    obtain ⟨vs, rfl, hvs⟩ := hve.inv
    have hi' : (substTys θ ts)[i]? = some (substTy θ t) := by rw [substTys_getElem?, hi]; rfl
    obtain ⟨fv, hfv, hty⟩ := VTs_get hvs i _ hi'
    simp only [hfv]
    exact .ok hw1 hty

theorem sound_all (hS : SigClosed S) (hP : okProg S P rf = true) (n : Nat) : SoundAt S P rf n := by
  induction n with
  | zero => exact ⟨fun _ _ _ _ _ => .fail, fun _ _ _ _ _ => .fail, fun _ _ _ _ _ _ _ => .fail, fun _ _ _ => .fail,
      fun _ _ _ => .fail⟩
  | succ n ih => exact ⟨step_expr hS ih, step_list ih, step_arms ih, step_app hP ih, step_appv hP ih⟩

end
end Goml.ValTyG

/-! ### the reference-free theorem: `rf = false` -/

namespace Goml.ValTy
open Goml Goml.Sem Goml.Wt Goml.Mono

/-- `ValTyG.SoundAt` at `rf = false`, in terms of `ValTy.VT`: no store typing and no world invariant
(`SoundAt.toG`, `SoundAt.ofG`) -/
structure SoundAt (S : Sig) (P : Prog) (n : Nat) : Prop where
  expr : ∀ {e : Expr} {ρ : Env} {w : World} {Γ : TyEnv} {K : Know} {θ : Subst} {v : Val} {w' : World},
    okE S P false Γ K e = true → errs S Γ e = [] → ET S P θ ρ Γ → KOk K ρ →
    eval n P ρ w e = .ok v w' → VT S P v (substTy θ (getTy e))
  list : ∀ {es : List Expr} {ρ : Env} {w : World} {Γ : TyEnv} {K : Know} {θ : Subst} {vs : List Val} {w' : World},
    okL S P false Γ K es = true → errsList S Γ es = [] → ET S P θ ρ Γ → KOk K ρ →
    evalList n P ρ w es = .ok vs w' → VTs S P vs (substTys θ (getTys es))
  arms : ∀ {arms : List Arm} {d : Option Expr} {ρ : Env} {w : World} {Γ : TyEnv} {K : Know} {θ : Subst}
    {sv : Option String} {st rt : Ty} {sval v : Val} {w' : World},
    okA S P false Γ K sv arms = true → errsArms S Γ st rt arms = [] →
    (∀ d0, d = some d0 → okE S P false Γ K d0 = true ∧ errs S Γ d0 = [] ∧ getTy d0 = rt) →
    ET S P θ ρ Γ → KOk K ρ → (∀ x, sv = some x → lookupEnv ρ x = some sval) →
    evalArms n P ρ w sval arms d = .ok v w' → VT S P v (substTy θ rt)
  app : ∀ {name : String} {g : Fn} {θ : Subst} {args : List Val} {w : World} {v : Val} {w' : World},
    P.findFn name = some g → VTs S P args (substTys θ (g.params.map (·.2))) →
    apply n P w (.fn name) args = .ok v w' → VT S P v (substTy θ g.ret)
  appv : ∀ {fv : Val} {as : List Ty} {r : Ty} {args : List Val} {w : World} {v : Val} {w' : World},
    VT S P fv (.func as r) → VTs S P args as → apply n P w fv args = .ok v w' → VT S P v r

section
variable {S : Sig} {P : Prog}

/-- without references the world invariant asks nothing -/
theorem wtFalse {Ψ : List Ty} {w : World} : ValTyG.WT S P false Ψ w := fun h => nomatch h

theorem SoundAt.toG {n : Nat} (h : SoundAt S P n) : ValTyG.SoundAt S P false n where
  expr hok herr hρ hK _ := ⟨fun hev => ⟨_, .refl _, wtFalse, (h.expr hok herr (ET.ofG hρ) hK hev).toG _⟩⟩
  list hok herr hρ hK _ := ⟨fun hev => ⟨_, .refl _, wtFalse, (h.list hok herr (ET.ofG hρ) hK hev).toG _⟩⟩
  arms hok herr hd hρ hK _ hsv := ⟨fun hev => ⟨_, .refl _, wtFalse, (h.arms hok herr hd (ET.ofG hρ) hK hsv hev).toG _⟩⟩
  app hg ha _ := ⟨fun hev => ⟨_, .refl _, wtFalse, (h.app hg (VTs.ofG ha) hev).toG _⟩⟩
  appv hf ha _ := ⟨fun hev => ⟨_, .refl _, wtFalse, (h.appv (VT.ofG hf) (VTs.ofG ha) hev).toG _⟩⟩

theorem SoundAt.ofG {n : Nat} (h : ValTyG.SoundAt S P false n) : SoundAt S P n where
  expr hok herr hρ hK hev := let ⟨_, hv⟩ := (h.expr hok herr (hρ.toG []) hK wtFalse).result hev; VT.ofG hv
  list hok herr hρ hK hev := let ⟨_, hv⟩ := (h.list hok herr (hρ.toG []) hK wtFalse).result hev; VTs.ofG hv
  arms hok herr hd hρ hK hsv hev :=
    let ⟨_, hv⟩ := (h.arms hok herr hd (hρ.toG []) hK wtFalse hsv).result hev; VT.ofG hv
  app hg ha hev := let ⟨_, hv⟩ := (h.app hg (ha.toG []) wtFalse).result hev; VT.ofG hv
  appv hf ha hev := let ⟨_, hv⟩ := (h.appv (hf.toG []) (ha.toG []) wtFalse).result hev; VT.ofG hv

theorem step_app (hS : SigClosed S) (hP : okProg S P = true) {n : Nat} (ih : SoundAt S P n)
    {name : String} {g : Fn} {θ : Subst} {args : List Val} {w : World} {v : Val} {w' : World}
    (hg : P.findFn name = some g) (ha : VTs S P args (substTys θ (g.params.map (·.2))))
    (hev : apply (n + 1) P w (.fn name) args = .ok v w') : VT S P v (substTy θ g.ret) :=
  let ⟨_, hv⟩ := (ValTyG.step_app hP ih.toG hg (ha.toG []) wtFalse).result hev
  VT.ofG hv

theorem step_list {n : Nat} (ih : SoundAt S P n) {es : List Expr} {ρ : Env} {w : World} {Γ : TyEnv} {K : Know}
    {θ : Subst} {vs : List Val} {w' : World} (hok : okL S P false Γ K es = true) (herr : errsList S Γ es = [])
    (hρ : ET S P θ ρ Γ) (hK : KOk K ρ) (hev : evalList (n + 1) P ρ w es = .ok vs w') :
    VTs S P vs (substTys θ (getTys es)) :=
  let ⟨_, hv⟩ := (ValTyG.step_list ih.toG hok herr (hρ.toG []) hK wtFalse).result hev
  VTs.ofG hv

theorem step_arms {n : Nat} (ih : SoundAt S P n) {arms : List Arm} {d : Option Expr} {ρ : Env} {w : World}
    {Γ : TyEnv} {K : Know} {θ : Subst} {sv : Option String} {st rt : Ty} {sval v : Val} {w' : World}
    (hok : okA S P false Γ K sv arms = true) (herr : errsArms S Γ st rt arms = [])
    (hd : ∀ d0, d = some d0 → okE S P false Γ K d0 = true ∧ errs S Γ d0 = [] ∧ getTy d0 = rt)
    (hρ : ET S P θ ρ Γ) (hK : KOk K ρ) (hsv : ∀ x, sv = some x → lookupEnv ρ x = some sval)
    (hev : evalArms (n + 1) P ρ w sval arms d = .ok v w') : VT S P v (substTy θ rt) :=
  let ⟨_, hv⟩ := (ValTyG.step_arms ih.toG hok herr hd (hρ.toG []) hK wtFalse hsv).result hev
  VT.ofG hv

theorem step_expr (hS : SigClosed S) (hP : okProg S P = true) {n : Nat} (ih : SoundAt S P n)
    {e : Expr} {ρ : Env} {w : World} {Γ : TyEnv} {K : Know} {θ : Subst} {v : Val} {w' : World}
    (hok : okE S P false Γ K e = true) (herr : errs S Γ e = []) (hρ : ET S P θ ρ Γ) (hK : KOk K ρ)
    (hev : eval (n + 1) P ρ w e = .ok v w') : VT S P v (substTy θ (getTy e)) :=
  let ⟨_, hv⟩ := (ValTyG.step_expr hS ih.toG hok herr (hρ.toG []) hK wtFalse).result hev
  VT.ofG hv

theorem step_appv (hS : SigClosed S) (hP : okProg S P = true) {n : Nat} (ih : SoundAt S P n)
    {fv : Val} {as : List Ty} {r : Ty} {args : List Val} {w : World} {v : Val} {w' : World}
    (hf : VT S P fv (.func as r)) (ha : VTs S P args as) (hev : apply (n + 1) P w fv args = .ok v w') :
    VT S P v r :=
  let ⟨_, hv⟩ := (ValTyG.step_appv hP ih.toG (hf.toG []) (ha.toG []) wtFalse).result hev
  VT.ofG hv

/-- **type soundness of `Sem` on the fragment**, for every amount of fuel -/
theorem sound_all (hS : SigClosed S) (hP : okProg S P = true) (n : Nat) : SoundAt S P n :=
  .ofG (ValTyG.sound_all hS hP n)

end
end Goml.ValTy
