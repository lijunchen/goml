import GomlVerif.Lemmas.GoCompRel
import Std.Data.String.ToInt
/-!
Admitted struct and enum types: what the decidable closure checks (`structsClosed`, `structTableOK`,
`enumTableOK`) give, and how composite literals of those types and of tuple types (`TupLink`) evaluate;
then names, literals and fields of the compiler's output.
-/
namespace Goml.GoComp
open Goml Goml.Go Goml.GoCompile Goml.GoFrag
open Goml.Dce (lookup_cons_self lookup_cons_ne)

attribute [local irreducible] Goml.GoCompile.vn Goml.GoCompile.gid Goml.GoCompile.rn

/-- what the proofs need to know about the admitted types and their declarations in the Go file -/
structure TyLink (env : Env) (F : GFile) : Prop where
  closed : structsClosed env = true
  table : ∀ n, n ∈ goodStructs env → structTableOK env F n = true
  etable : ∀ n, n ∈ goodEnums env → enumTableOK env F n = true

/-- what `structLocalOK` checks of the declaration of an admitted struct -/
structure StructOK (env : Env) (d : StructDef) : Prop where
  generics : d.generics = []
  nodup : (d.fields.map fun f => gid f.1).Nodup
  fields : ∀ f, f ∈ d.fields → valTy env f.2 = true

theorem good_struct {env : Env} (hS : structsClosed env = true) {n : String} (hn : n ∈ goodStructs env) :
    ∃ d, env.getStruct n = some d ∧ StructOK env d := by
  simp only [structsClosed, Bool.and_eq_true] at hS
  have h := List.all_eq_true.mp hS.1 n hn
  unfold structLocalOK at h
  cases hd : env.getStruct n with
  | none => rw [hd] at h; simp at h
  | some d =>
    rw [hd] at h
    simp only [Bool.and_eq_true, List.isEmpty_iff, decide_eq_true_eq, List.all_eq_true] at h
    exact ⟨d, rfl, h.1.1, h.1.2, fun f hf => h.2 f hf⟩

/-- what `enumLocalOK` checks of the declaration of an admitted enum `n` -/
structure EnumOK (env : Env) (n : String) (d : EnumDef) : Prop where
  generics : d.generics = []
  nodup : (d.variants.map fun v => variantGoName env n v.1).Nodup
  payload : ∀ v, v ∈ d.variants → ∀ t, t ∈ v.2 → valTy env t = true
  payloadNodup : ∀ v, v ∈ d.variants → (fieldNames 0 v.2.length).Nodup

theorem good_enum {env : Env} (hS : structsClosed env = true) {n : String} (hn : n ∈ goodEnums env) :
    ∃ d, env.getEnum n = some d ∧ EnumOK env n d := by
  simp only [structsClosed, Bool.and_eq_true] at hS
  have h := List.all_eq_true.mp hS.2 n hn
  unfold enumLocalOK at h
  cases hd : env.getEnum n with
  | none => rw [hd] at h; simp at h
  | some d =>
    rw [hd] at h
    simp only [Bool.and_eq_true, List.isEmpty_iff, decide_eq_true_eq, List.all_eq_true] at h
    exact ⟨d, rfl, h.1.1, h.1.2, fun v hv t ht => (h.2 v hv).1 t ht, fun v hv => (h.2 v hv).2⟩

mutual
theorem valTyS_flat {S E : List String} : ∀ {t : Ty}, valTyS S E t = true → flatTy t = true
  | .ref e, h => by simp only [valTyS] at h; simp only [flatTy]; exact valTyS_flat h
  | .tuple ts, h => by simp only [valTyS] at h; simp only [flatTy]; exact valTysS_flat h
  | .array len e, h => by
    simp only [valTyS, Bool.and_eq_true] at h
    simp only [flatTy, Bool.and_eq_true]; exact ⟨h.1, valTyS_flat h.2⟩
  | .func ps r, h => by
    simp only [valTyS, Bool.and_eq_true] at h
    simp only [flatTy, Bool.and_eq_true]; exact ⟨valTysS_flat h.1, valTyS_flat h.2⟩
  | .vec e, h => by simp only [valTyS] at h; simp only [flatTy]; exact valTyS_flat h
  | .unit, _ | .bool, _ | .string, _ | .int _ _, _ | .struct _, _ | .enum _, _ | .dyn _, _ => rfl
  | .float _, h | .app _ _, h | .param _, h
  | .tvar _, h => by simp [valTyS, scalarTy] at h
theorem valTysS_flat {S E : List String} : ∀ {ts : List Ty}, valTysS S E ts = true → flatTys ts = true
  | [], _ => rfl
  | t :: ts, h => by
    simp only [valTysS, Bool.and_eq_true] at h
    simp only [flatTys, Bool.and_eq_true]
    exact ⟨valTyS_flat h.1, valTysS_flat h.2⟩
end

theorem valTy_flat {env : Env} {t : Ty} (h : valTy env t = true) : flatTy t = true := valTyS_flat h

theorem binDom_scalar {op : BinOp} {t : Ty} (h : binDom op t = true) : scalarTy t = true := by
  unfold binDom at h
  split at h <;> first | rfl | exact h | cases h

theorem immOK_var_inv {env : Env} {file : AFile} {G : List String} {Γ : Ctx} {x : String} {ty : Ty}
    (h : immOK env file G Γ (.var x ty) = true) :
    (lookupTy Γ x = some ty ∧ flatTy ty = true) ∨
    (lookupTy Γ x = none ∧ ∃ ps r, ty = .func ps r ∧ (fnSigs file G).find? (·.1 == x) = some (x, ps, r) ∧
      flatTys ps = true ∧ flatTy r = true) := by
  simp only [immOK] at h
  cases hl : lookupTy Γ x with
  | some t =>
    rw [hl] at h; simp only at h
    have := scalarEq_eq h; subst this
    exact Or.inl ⟨rfl, scalarEq_flat h⟩
  | none =>
    rw [hl] at h; simp only at h
    cases ty <;> simp only [fnValOK] at h <;> try (cases h; done)
    rename_i ps r
    simp only [Bool.and_eq_true] at h
    obtain ⟨_, hfind⟩ := h
    cases hf : (fnSigs file G).find? (·.1 == x) with
    | none => rw [hf] at hfind; cases hfind
    | some e =>
      rw [hf] at hfind; simp only [Bool.and_eq_true] at hfind
      obtain ⟨n, ps', r'⟩ := e
      have hn : n = x := by have := List.find?_some hf; simpa using this
      subst hn
      have hps := scalarEqs_eq hfind.1; have hr' := scalarEq_eq hfind.2
      simp only at hps hr'; subst hps; subst hr'
      exact Or.inr ⟨rfl, _, _, rfl, rfl, scalarEqs_self_flat hfind.1, scalarEq_flat hfind.2⟩

/-- `variantOf` answers only for an existing variant of an admitted enum type -/
theorem variantOf_spec {env : Env} {ty : Ty} {idx : Nat} {n vname : String} {tys : List Ty}
    (h : variantOf env ty idx = some (n, vname, tys)) :
    ty = .enum n ∧ n ∈ goodEnums env ∧ ∃ d, env.getEnum n = some d ∧ d.variants[idx]? = some (vname, tys) := by
  cases ty <;> simp only [variantOf] at h <;> try (cases h; done)
  rename_i m
  split at h
  · rename_i hm
    cases hd : env.getEnum m with
    | none => rw [hd] at h; cases h
    | some d =>
      rw [hd] at h; simp only at h
      cases hv : d.variants[idx]? with
      | none => rw [hv] at h; cases h
      | some v =>
        rw [hv] at h
        simp only [Option.some.injEq, Prod.mk.injEq] at h
        obtain ⟨h1, h2, h3⟩ := h
        subst h1
        refine ⟨rfl, by simpa using hm, d, hd, ?_⟩
        rw [hv]; obtain ⟨a, b⟩ := v; simp at h2 h3; rw [h2, h3]
  · cases h

theorem variantTy_variantOf {env : Env} {n vname : String} {vi : Nat} {tys : List Ty}
    (hv : variantOf env (.enum n) vi = some (n, vname, tys)) : variantTy env (.enum n) vi = .name (variantGoName env n vname) := by
  obtain ⟨_, _, d, hd, hvar⟩ := variantOf_spec hv
  simp [variantTy, lookupVariantName, Goml.Mono.constrName, hd, hvar, variantGoName]

theorem lookup_zip : ∀ (names : List String) (gs : List GVal) (i : Nat) (x : String) (g : GVal),
    names.Nodup → names[i]? = some x → gs[i]? = some g → lookupG (names.zip gs) x = some g
  | [], _, i, x, g, _, hx, _ => by simp at hx
  | n :: names, [], i, x, g, _, _, hg => by simp at hg
  | n :: names, g0 :: gs, 0, x, g, _, hx, hg => by
    simp at hx hg; subst hx; subst hg
    exact lookup_cons_self _ _ _
  | n :: names, g0 :: gs, i + 1, x, g, hnd, hx, hg => by
    simp only [List.getElem?_cons_succ] at hx hg
    obtain ⟨hn, hnd'⟩ := List.nodup_cons.mp hnd
    have hne : n ≠ x := fun e => hn (e ▸ List.mem_of_getElem? hx)
    rw [List.zip_cons_cons, lookup_cons_ne _ _ hne]
    exact lookup_zip names gs i x g hnd' hx hg

theorem slit_fields (F : GFile) : ∀ (decl : List (String × GTy)) (names : List String) (gs : List GVal) (fs : List (String × GVal)),
    decl.map (·.1) = names → names.length = gs.length →
    (∀ (i : Nat) (x : String) (g : GVal), names[i]? = some x → gs[i]? = some g → lookupG fs x = some g) →
    decl.map (fun p => (p.1, (lookupG fs p.1).getD (zero F p.2))) = names.zip gs
  | [], names, gs, fs, hn, hl, _ => by
    simp at hn; subst hn
    cases gs <;> simp at hl ⊢
  | (f, t) :: decl, [], gs, fs, hn, _, _ => by simp at hn
  | (f, t) :: decl, n :: names, [], fs, _, hl, _ => by simp at hl
  | (f, t) :: decl, n :: names, g :: gs, fs, hn, hl, hlook => by
    simp only [List.map_cons, List.cons.injEq] at hn
    obtain ⟨hfn, hn'⟩ := hn
    subst hfn
    have h0 := hlook 0 f g (by simp) (by simp)
    simp only [List.map_cons, List.zip_cons_cons, h0, Option.getD_some, List.cons.injEq, true_and]
    exact slit_fields F decl names gs fs hn' (by simpa using hl)
      (fun i x g' hx hg => hlook (i + 1) x g' (by simpa using hx) (by simpa using hg))

/-- a composite literal that gives every declared field, under pairwise distinct names, evaluates to exactly those fields -/
theorem slit_zip {F : GFile} {name : String} {decl : List (String × GTy)} {names : List String} {gs : List GVal}
    (hd : F.structFields name = some decl) (hn : decl.map (·.1) = names) (hnd : names.Nodup) (hlen : names.length = gs.length) :
    slitValue F name (names.zip gs) = .struct name (names.zip gs) := by
  simp only [slitValue, hd]
  congr 1
  exact slit_fields F decl names gs _ hn hlen (fun i x g hx hg => lookup_zip names gs i x g hnd hx hg)

theorem length_fieldNames : ∀ (i k : Nat), (fieldNames i k).length = k
  | _, 0 => rfl
  | i, k + 1 => by simp [fieldNames, length_fieldNames (i + 1) k]

theorem fieldNames_get : ∀ (i k j : Nat), j < k → (fieldNames i k)[j]? = some (fieldN (i + j))
  | i, 0, j, h => by omega
  | i, k + 1, 0, _ => by simp [fieldNames]
  | i, k + 1, j + 1, h => by
    simp only [fieldNames, List.getElem?_cons_succ]
    rw [fieldNames_get (i + 1) k j (by omega)]
    congr 2; omega

theorem slit_variant {env : Env} {F : GFile} (ht : TyLink env F) {n : String} (hn : n ∈ goodEnums env)
    {d : EnumDef} (hd : env.getEnum n = some d) {idx : Nat} {vname : String} {tys : List Ty}
    (hv : d.variants[idx]? = some (vname, tys)) {gvs : List GVal} (hlen : gvs.length = tys.length) :
    slitValue F (variantGoName env n vname) ((fieldNames 0 tys.length).zip gvs) =
      .struct (variantGoName env n vname) ((fieldNames 0 tys.length).zip gvs) := by
  obtain ⟨d', hd', hok⟩ := good_enum ht.closed hn
  rw [hd] at hd'; injection hd' with hd'; subst hd'
  have hmem : (vname, tys) ∈ d.variants := List.mem_of_getElem? hv
  have hnd := hok.payloadNodup _ hmem
  have htab := ht.etable n hn
  unfold enumTableOK at htab
  rw [hd] at htab
  have htab' := List.all_eq_true.mp htab _ hmem
  simp only at htab'
  cases hdecl : F.structFields (variantGoName env n vname) with
  | none => simp [slitValue, hdecl]
  | some decl =>
    rw [hdecl] at htab'
    exact slit_zip hdecl (by simpa using htab') hnd (by rw [length_fieldNames, hlen])

/-- what the file must contain for a tuple type: its struct, declared with the fields `_0, _1, …` -/
structure TupLink (F : GFile) (ts : List Ty) : Prop where
  nodup : (fieldNames 0 ts.length).Nodup
  table : ∃ decl, F.structFields (goTypeNameFor (.tuple ts)) = some decl ∧ decl.map (·.1) = fieldNames 0 ts.length

/-- a composite literal of a tuple struct with all its fields evaluates to exactly them -/
theorem slit_tuple {F : GFile} {ts : List Ty} (hl : TupLink F ts) {gvs : List GVal} (hlen : gvs.length = ts.length) :
    slitValue F (goTypeNameFor (.tuple ts)) ((fieldNames 0 ts.length).zip gvs) =
      .struct (goTypeNameFor (.tuple ts)) ((fieldNames 0 ts.length).zip gvs) := by
  obtain ⟨decl, hd, hn⟩ := hl.table
  exact slit_zip hd hn hl.nodup (by rw [length_fieldNames, hlen])

/-! ### names, literals, fields of the compiler's output -/

theorem vn_builtin {b : String} (hb : b ∈ builtinNames) : vn b = b := by
  have h : ∀ b ∈ builtinNames, vn b = b := by decide +kernel
  exact h b hb

theorem substTy_nil_all : (∀ t : Ty, substTy [] t = t) ∧ (∀ ts : List Ty, substTys [] ts = ts) := by
  apply substTy.mutual_induct_unfolding (motive_1 := fun t r => r = t) (motive_2 := fun ts r => r = ts)
  -- every row rebuilds its constructor over the parts; a parameter is not bound by the empty substitution
  all_goals intros
  all_goals simp_all [substLookup]

theorem substTy_nil : ∀ t : Ty, substTy [] t = t := substTy_nil_all.1
theorem substTys_nil : ∀ ts : List Ty, substTys [] ts = ts := substTy_nil_all.2

theorem cgetField_struct {env : Env} {e : Imm} {sn : String} {idx : Nat} {d : StructDef}
    (hty : e.ty = .struct sn) (hd : env.getStruct sn = some d) (hgen : d.generics = []) :
    cgetField env e (.struct sn) idx = (d.fields[idx]?).map fun p => (gid p.1, p.2) := by
  simp only [cgetField, hty, instantiateStructFields, hd, hgen]
  simp only [bne_self_eq_false, Bool.false_eq_true, if_false, List.length_nil, List.zip_nil_left]
  have : (d.fields.map fun (x : String × Ty) => (x.1, substTy [] x.2)) = d.fields := by simp [substTy_nil]
  simp only [this]
  cases d.fields[idx]? <;> rfl

theorem tupleFields_eq : ∀ (i : Nat) (es : List GExpr), tupleFields i es = List.zipWith GField.mk (fieldNames i es.length) es
  | _, [] => rfl
  | i, e :: es => by simp [tupleFields, fieldNames, tupleFields_eq (i + 1) es]

theorem structFieldsOf_eq (fields : List (String × Ty)) (es : List GExpr) :
    structFieldsOf fields es = List.zipWith GField.mk (fields.map fun f => gid f.1) es := by
  simp [structFieldsOf, List.zip_eq_zipWith, List.map_zipWith, List.zipWith_map_left]

end Goml.GoComp
