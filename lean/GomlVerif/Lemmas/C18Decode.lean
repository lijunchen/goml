import GomlVerif.Lemmas.C18Json
/-! Lemmas for C18: `decode` inverts `encode` on well-typed values. -/
namespace Goml.Derive

theorem parseInt_showInt (v : Int) : parseInt (showInt v) = v := by
  cases v with
  | ofNat n =>
    obtain ⟨d, ds, e, hd, _, _⟩ := natDigits_spec n
    have hm := isDigit_ne_minus hd
    have := digitsVal_natDigits n
    rw [e] at this
    simp [showInt, e, parseInt, hm, this]
  | negSucc n =>
    simp [showInt, parseInt, digitsVal_natDigits, Int.negOfNat]

theorem variantIdx_get : ∀ (vs : List (String × List FTy)) (idx : Nat) (vn : String) (tys : List FTy),
    allDistinct (vs.map (·.1)) = true → vs[idx]? = some (vn, tys) → variantIdx vs vn.toList = some idx
  | [], idx, vn, tys, _, h => by simp at h
  | (name, ts) :: rest, 0, vn, tys, _, h => by
    simp at h; simp [variantIdx, h.1]
  | (name, ts) :: rest, idx + 1, vn, tys, hd, h => by
    simp only [List.map_cons, allDistinct, Bool.and_eq_true, Bool.not_eq_true'] at hd
    simp only [List.getElem?_cons_succ] at h
    have ih := variantIdx_get rest idx vn tys hd.2 h
    have hne : name ≠ vn := by
      intro e; subst e
      have hm : name ∈ rest.map (·.1) := List.mem_map.mpr ⟨(name, tys), List.mem_of_getElem? h, rfl⟩
      have := hd.1
      rw [List.contains_eq_mem, decide_eq_false_iff_not] at this
      exact this hm
    have hne' : name.toList ≠ vn.toList := fun e => hne (String.toList_inj.mp e)
    simp [variantIdx, hne', ih]

theorem decode_encode {Δ : Defs} (hd : variantsDistinct Δ = true) (v : Val) :
    ∀ t, hasTy Δ t v = true → decode Δ t (encode Δ v) = some v := by
  apply Val.rec
    (motive_1 := fun v => ∀ t, hasTy Δ t v = true → decode Δ t (encode Δ v) = some v)
    (motive_2 := fun vs =>
      (∀ decls : List (String × FTy), hasTys Δ (decls.map (·.2)) vs = true →
        decodeMembers Δ decls (encodeMembers Δ decls vs) = some vs) ∧
      (∀ tys, hasTys Δ tys vs = true → decodeItems Δ tys (encodeItems Δ vs) = some vs))
  case unit => intro t h; cases t <;> simp [hasTy] at h <;> simp [encode, decode]
  case bool => intro b t h; cases t <;> simp [hasTy] at h <;> simp [encode, decode]
  case int => intro i t h; cases t <;> simp [hasTy] at h <;> simp [encode, decode, parseInt_showInt]
  case float => intro tx t h; cases t <;> simp [hasTy] at h <;> simp [encode, decode]
  case str => intro s t h; cases t <;> simp [hasTy] at h <;> simp [encode, decode]
  case struct =>
    intro n fs ih t hty
    obtain ⟨rfl, decls, hl, htys⟩ := hasTy_struct_inv hty
    obtain ⟨m, g, hf⟩ := find_struct hl
    simp [encode, hl, decode, hf, ih.1 decls htys]
  case enum =>
    intro n idx args ih t hty
    obtain ⟨rfl, vn, tys, hl, htys⟩ := hasTy_enum_inv hty
    obtain ⟨m, g, vs, hf, hget⟩ := find_variants hl
    have hdist : allDistinct (vs.map (·.1)) = true := by
      have hm := List.mem_of_find?_eq_some hf
      simp only [variantsDistinct, List.all_eq_true] at hd
      exact hd _ hm
    have hidx := variantIdx_get vs idx vn tys hdist hget
    cases tys with
    | nil =>
      have := hasTys_nil_left htys; subst this
      simp [encode, hl, decode, hf, hidx, hget]
    | cons ty tys' =>
      simp [encode, hl, decode, hf, hidx, hget, ih.2 _ htys]
  case nil =>
    constructor
    · intro decls h
      cases decls with
      | nil => simp [encodeMembers, decodeMembers]
      | cons d ds => simp [hasTys] at h
    · intro tys h
      cases tys with
      | nil => simp [encodeItems, decodeItems]
      | cons d ds => simp [hasTys] at h
  case cons =>
    intro v vs ihv ihvs
    constructor
    · intro decls h
      cases decls with
      | nil => simp [hasTys] at h
      | cons d ds =>
        obtain ⟨f, t⟩ := d
        simp only [List.map_cons, hasTys, Bool.and_eq_true] at h
        simp [encodeMembers, decodeMembers, ihv t h.1, ihvs.1 ds h.2]
    · intro tys h
      cases tys with
      | nil => simp [hasTys] at h
      | cons t ts =>
        simp only [hasTys, Bool.and_eq_true] at h
        simp [encodeItems, decodeItems, ihv t h.1, ihvs.2 ts h.2]

end Goml.Derive
