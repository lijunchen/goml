import GomlVerif.Model.Wt
import GomlVerif.Lemmas.MonoTy
/-!
The judgement `Wt.errs S Γ e = []` read as typing rules: one `↔` per node kind.  The right side names the sub-judgements
and the local facts, every `match … | none => [msg]` of the checker turned into an equation or an `∃`; the children of a
node occur in the local facts only through `getTy` / `getTys`.
-/
namespace Goml.Wt
open Goml Goml.Mono

theorem check_nil {b : Bool} {msg : String} : check b msg = [] ↔ b = true := by
  unfold check; cases b <;> simp

theorem checkEq_nil {a b : Ty} {k : String} : checkEq a b k = [] ↔ a = b := by
  unfold checkEq
  rw [← tyBeq_iff]
  cases tyBeq a b <;> simp

theorem getTys_length : ∀ es : List Expr, (getTys es).length = es.length
  | [] => rfl
  | _ :: es => by simp [getTys, getTys_length es]

variable {S : Sig} {Γ : TyEnv}

theorem wt_iff {e : Expr} : wt S Γ e = true ↔ errs S Γ e = [] := by
  rw [wt, List.isEmpty_iff]

/-- the scheme a name that no binder captures is checked against: the signature of a program function, else that of a
    builtin -/
def globalScheme (S : Sig) (x : String) : Option Ty :=
  match findCallee S.fns x with
  | some f => some (fnTy f)
  | none => lookupTy S.builtins x

theorem errs_var {x : String} {ty : Ty} : errs S Γ (.var x ty) = [] ↔
    lookupVar Γ x = some ty ∨ (lookupVar Γ x = none ∧ ∃ sch, globalScheme S x = some sch ∧ instOf sch ty = true) := by
  rw [errs, globalScheme]
  cases lookupVar Γ x with
  | some t => simp [check_nil, tyBeq_iff]
  | none =>
    cases findCallee S.fns x with
    | some f => simp [check_nil]
    | none => cases lookupTy S.builtins x <;> simp [check_nil]

theorem errs_constr {c : Ctor} {ty : Ty} {args : List Expr} : errs S Γ (.constr c ty args) = [] ↔
    errsList S Γ args = [] ∧ fieldTys S c ty = some (getTys args) := by
  rw [errs, List.append_eq_nil_iff]
  cases fieldTys S c ty <;> simp [check_nil, tysBeq_iff]

theorem errs_tuple {ty : Ty} {items : List Expr} : errs S Γ (.tuple ty items) = [] ↔
    errsList S Γ items = [] ∧ ty = .tuple (getTys items) := by
  rw [errs, List.append_eq_nil_iff, checkEq_nil]

theorem errs_array {ty : Ty} {items : List Expr} : errs S Γ (.array ty items) = [] ↔
    errsList S Γ items = [] ∧ ∃ e, ty = .array items.length e ∧ allTyEq e (getTys items) = true := by
  -- `rw [errs]` would pick an equation of `errs` split on the shape of `ty`
  simp only [errs, List.append_eq_nil_iff]
  cases ty with
  | array n e =>
    simp only [List.append_eq_nil_iff, check_nil, beq_iff_eq, Ty.array.injEq]
    exact and_congr_right fun _ => ⟨fun ⟨h1, h2⟩ => ⟨e, ⟨h1, rfl⟩, h2⟩, fun ⟨_, ⟨h1, h⟩, h2⟩ => ⟨h1, h ▸ h2⟩⟩
  | _ => simp

theorem errs_closure {ty : Ty} {ps : List (String × Ty)} {body : Expr} : errs S Γ (.closure ty ps body) = [] ↔
    errs S (bindAll ps Γ) body = [] ∧ ty = .func (ps.map (·.2)) (getTy body) := by
  rw [errs, List.append_eq_nil_iff, checkEq_nil]

theorem errs_letE {x : String} {v b : Expr} : errs S Γ (.letE x v b) = [] ↔
    errs S Γ v = [] ∧ errs S ((x, getTy v) :: Γ) b = [] := by
  rw [errs, List.append_eq_nil_iff]

theorem errs_matchNone {ty : Ty} {s : Expr} {arms : List Arm} : errs S Γ (.matchE ty s arms none) = [] ↔
    errs S Γ s = [] ∧ errsArms S Γ (getTy s) ty arms = [] := by
  simp only [errs, List.append_eq_nil_iff]

theorem errs_matchSome {ty : Ty} {s d : Expr} {arms : List Arm} : errs S Γ (.matchE ty s arms (some d)) = [] ↔
    errs S Γ s = [] ∧ errsArms S Γ (getTy s) ty arms = [] ∧ errs S Γ d = [] ∧ getTy d = ty := by
  simp only [errs, List.append_eq_nil_iff, checkEq_nil, and_assoc]

theorem errs_matchE {ty : Ty} {s : Expr} {arms : List Arm} {d : Option Expr} : errs S Γ (.matchE ty s arms d) = [] ↔
    errs S Γ s = [] ∧ errsArms S Γ (getTy s) ty arms = [] ∧ ∀ d0, d = some d0 → errs S Γ d0 = [] ∧ getTy d0 = ty := by
  cases d with
  | none => simp [errs_matchNone]
  | some d => simp [errs_matchSome]

theorem errs_ite {c t e : Expr} : errs S Γ (.ite c t e) = [] ↔
    errs S Γ c = [] ∧ errs S Γ t = [] ∧ errs S Γ e = [] ∧ getTy c = .bool ∧ getTy t = getTy e := by
  simp only [errs, List.append_eq_nil_iff, checkEq_nil, and_assoc]

theorem errs_while {c b : Expr} : errs S Γ (.while c b) = [] ↔
    errs S Γ c = [] ∧ errs S Γ b = [] ∧ getTy c = .bool := by
  simp only [errs, List.append_eq_nil_iff, checkEq_nil, and_assoc]

theorem errs_go {e : Expr} : errs S Γ (.go e) = [] ↔ errs S Γ e = [] := by rw [errs]

theorem errs_cget {c : Ctor} {idx : Nat} {ty : Ty} {e : Expr} : errs S Γ (.cget c idx ty e) = [] ↔
    errs S Γ e = [] ∧ ∃ fts, fieldTys S c (getTy e) = some fts ∧ fts[idx]? = some ty := by
  rw [errs, List.append_eq_nil_iff]
  cases fieldTys S c (getTy e) with
  | none => simp
  | some fts => cases h : fts[idx]? <;> simp [h, checkEq_nil]

theorem errs_un {op : UnOp} {ty : Ty} {e : Expr} : errs S Γ (.un op ty e) = [] ↔
    errs S Γ e = [] ∧ unopOk op ty (getTy e) = true := by
  rw [errs, List.append_eq_nil_iff, check_nil]

theorem errs_bin {op : BinOp} {ty : Ty} {l r : Expr} : errs S Γ (.bin op ty l r) = [] ↔
    errs S Γ l = [] ∧ errs S Γ r = [] ∧ binopOk op ty (getTy l) (getTy r) = true := by
  simp only [errs, List.append_eq_nil_iff, check_nil, and_assoc]

theorem errs_call {ty : Ty} {f : Expr} {args : List Expr} : errs S Γ (.call ty f args) = [] ↔
    errs S Γ f = [] ∧ errsList S Γ args = [] ∧
      ∃ ps r, getTy f = .func ps r ∧ compatTys ps (getTys args) = true ∧ compatTy r ty = true := by
  rw [errs, List.append_eq_nil_iff, List.append_eq_nil_iff, and_assoc]
  refine and_congr_right fun _ => and_congr_right fun _ => ?_
  split
  · rename_i ps r hf
    rw [List.append_eq_nil_iff, check_nil, check_nil]
    exact ⟨fun h => ⟨ps, r, hf, h⟩, fun ⟨_, _, hf', h⟩ => by cases hf.symm.trans hf'; exact h⟩
  · rename_i hno
    exact ⟨(fun h => nomatch h), fun ⟨ps, r, hf, _⟩ => (hno ps r hf).elim⟩

theorem errs_toDyn {tr : String} {forTy ty : Ty} {e : Expr} : errs S Γ (.toDyn tr forTy ty e) = [] ↔
    errs S Γ e = [] ∧ getTy e = forTy ∧ ty = .dyn tr := by
  simp only [errs, List.append_eq_nil_iff, checkEq_nil, and_assoc]

theorem errs_dynCall {tr m : String} {ty : Ty} {recv : Expr} {args : List Expr} :
    errs S Γ (.dynCall tr m ty recv args) = [] ↔
    errs S Γ recv = [] ∧ errsList S Γ args = [] ∧ getTy recv = .dyn tr ∧
      methodTy S tr m (.dyn tr) = some (.func (getTy recv :: getTys args) ty) := by
  simp only [errs, List.append_eq_nil_iff, checkEq_nil, and_assoc]
  cases methodTy S tr m (.dyn tr) <;> simp [checkEq_nil]

theorem errs_traitCall {tr m : String} {ty : Ty} {recv : Expr} {args : List Expr} :
    errs S Γ (.traitCall tr m ty recv args) = [] ↔
    errs S Γ recv = [] ∧ errsList S Γ args = [] ∧
      methodTy S tr m (getTy recv) = some (.func (getTy recv :: getTys args) ty) := by
  simp only [errs, List.append_eq_nil_iff, and_assoc]
  cases methodTy S tr m (getTy recv) <;> simp [checkEq_nil]

theorem errs_proj {idx : Nat} {ty : Ty} {e : Expr} : errs S Γ (.proj idx ty e) = [] ↔
    errs S Γ e = [] ∧ ∃ ts, getTy e = .tuple ts ∧ ts[idx]? = some ty := by
  rw [errs, List.append_eq_nil_iff]
  refine and_congr_right fun _ => ?_
  split
  · rename_i ts hts
    rw [hts]
    split
    · rename_i hi; simp [hi]
    · rename_i t hi; simp [hi, checkEq_nil]
  · rename_i hno
    exact ⟨(fun h => nomatch h), fun ⟨ts, hts, _⟩ => (hno ts hts).elim⟩

theorem errsList_cons {e : Expr} {es : List Expr} : errsList S Γ (e :: es) = [] ↔ errs S Γ e = [] ∧ errsList S Γ es = [] := by
  rw [errsList, List.append_eq_nil_iff]

/-- what `errsArms` asks of an arm head; anything else is the error `arm:head` -/
def headOk (S : Sig) (st : Ty) : Expr → Prop
  | .constr c ty args => ty = st ∧ fieldTys S c ty = some (getTys args)
  | .prim p => primTy p = st
  | .tag _ ty => ty = st
  | _ => False

theorem errsArms_cons {st rt : Ty} {lhs body : Expr} {rest : List Arm} :
    errsArms S Γ st rt (.mk lhs body :: rest) = [] ↔
    headOk S st lhs ∧ errs S Γ body = [] ∧ getTy body = rt ∧ errsArms S Γ st rt rest = [] := by
  simp only [errsArms, List.append_eq_nil_iff, checkEq_nil, and_assoc]
  refine and_congr_left' ?_
  cases lhs with
  | constr c ty args =>
    simp only [headOk, List.append_eq_nil_iff, checkEq_nil]
    cases fieldTys S c ty <;> simp [check_nil, tysBeq_iff]
  | prim p => simp only [headOk, checkEq_nil]
  | tag i ty => simp only [headOk, checkEq_nil]
  | _ => exact ⟨(fun h => nomatch h), False.elim⟩

theorem fieldTys_enum {tn v : String} {idx : Nat} {ty : Ty} {fts : List Ty} :
    fieldTys S (.enum tn v idx) ty = some fts ↔
    ∃ d targs fs, findEnum S.enums tn = some d ∧ nominalArgs tn ty = some targs ∧ d.generics.length = targs.length ∧
      d.variants[idx]? = some (v, fs) ∧ substTys (zipSubst d.generics targs []) fs = fts := by
  simp only [fieldTys]
  constructor
  · intro h
    split at h
    · rename_i d targs hd hn
      split at h
      · cases h
      · rename_i hl
        split at h
        · rename_i vn fs hv
          split at h
          · rename_i hvn
            exact ⟨d, targs, fs, hd, hn, by simpa using hl, by rw [hv, beq_iff_eq.1 hvn], Option.some.inj h⟩
          · cases h
        · cases h
    · cases h
  · rintro ⟨d, targs, fs, hd, hn, hl, hv, rfl⟩
    simp [hd, hn, hl, hv]

theorem fieldTys_struct {tn : String} {ty : Ty} {fts : List Ty} :
    fieldTys S (.struct tn) ty = some fts ↔
    ∃ d targs, findStruct S.structs tn = some d ∧ nominalArgs tn ty = some targs ∧ d.generics.length = targs.length ∧
      substTys (zipSubst d.generics targs []) (d.fields.map (·.2)) = fts := by
  simp only [fieldTys]
  constructor
  · intro h
    split at h
    · rename_i d targs hd hn
      split at h
      · cases h
      · rename_i hl
        exact ⟨d, targs, hd, hn, by simpa using hl, Option.some.inj h⟩
    · cases h
  · rintro ⟨d, targs, hd, hn, hl, rfl⟩
    simp [hd, hn, hl]
end Goml.Wt
