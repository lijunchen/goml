import GomlVerif.Lemmas.C06Shapes
/-!
The literal switch (unit, bool, integer, string cases).  A literal bucket is a destructuring step with no components:
`lit_sound` and `dflt_sound` are `destr_sound` with the empty chain of `let`s; `litCases_sound` walks the keys to the
first one that matches the value.
-/
namespace Goml.Match
open Goml Goml.Sem

variable {β : Type}

/-- two literals of the type `okP` that match the same value are equal (`valEq` compares the payloads of two literals of one
    kind), so at most one bucket of a literal switch is taken -/
def OkUnique (okP : Prim → Bool) : Prop :=
  ∀ p k v, okP p = true → okP k = true → litMatches p v = true → litMatches k v = true → p = k

theorem okUnique_unit : OkUnique isUnitP := by
  intro p k v hp hk _ _
  cases p <;> cases k <;> simp_all [isUnitP]

theorem okUnique_bool : OkUnique isBoolP := by
  intro p k v hp hk h1 h2
  cases p <;> cases k <;> simp_all [isBoolP]
  cases v <;> simp_all [litMatches, valEq, primVal]

theorem okUnique_int (b : Nat) (s : Bool) : OkUnique (isIntP b s) := by
  intro p k v hp hk h1 h2
  cases p <;> cases k <;> simp_all [isIntP]
  cases v <;> simp_all [litMatches, valEq, primVal]

theorem okUnique_str : OkUnique isStrP := by
  intro p k v hp hk h1 h2
  cases p <;> cases k <;> simp_all [isStrP]
  cases v <;> simp_all [litMatches, valEq, primVal]

theorem armMatches_lit (k : Prim) (v : Val) : armMatches (Head.lit k).toExpr v = litMatches k v := by
  cases v <;> rfl

theorem letChain_none (bv : String) (v : Val) : LetChain (β := β) (fun _ _ t => t) bv v [] :=
  ⟨fun _ _ => rfl, fun _ _ _ _ _ _ hi => absurd hi (Nat.not_lt_zero _)⟩

/-- the bucket of a key that matches the value of `bv` is sound for the whole matrix: rows with another literal on
    `bv` cannot match (`OkUnique`) -/
theorem lit_sound (S : Sig) (hinj : ∀ i j, S.gen i = S.gen j → i = j) {okP : Prim → Bool} (hu : OkUnique okP)
    {bv : String} {k : Prim} {n n' : Nat} (hn : n ≤ n') {rows s : List (Row β)} {ρ : Env} {t : DT β}
    (hinv : Inv S n ρ rows) (hbv : ∀ j, n ≤ j → S.gen j ≠ bv)
    (hs : filterMapE (specLit okP bv k) rows = .ok s) (hk : okP k = true)
    (hkv : litMatches k (lookupVar ρ bv) = true) (ht : SoundAt S n n' s t) (hok : leavesOK t = true) :
    SoundR S.gen n n' ρ rows (t.eval ρ) :=
  destr_sound S hinj (k := 0) (tys := []) (Nat.le_refl n) (Nat.le_refl _) hn (letChain_none bv _) rfl hbv rfl rfl
    _ hs hinv
    (fun ρ' hx r _ o ho hfr hcf => (specLit_exp ho).destr S hx
      (fun q ps hq _ => by
        obtain ⟨t, rfl, _, rfl⟩ := litSub_some hq
        exact ⟨rfl, rfl, by simp only [matchPat, hkv, if_true]; rfl⟩)
      (by
        rintro q _ _ ⟨p, t, rfl, hp, hpk⟩
        simp only [matchPat]
        cases hl : litMatches p (lookupVar ρ bv)
        · rfl
        · exact absurd (hu p k _ hp hk hl hkv) hpk)
      hfr hcf) ht hok

theorem dflt_sound (S : Sig) (hinj : ∀ i j, S.gen i = S.gen j → i = j) {okP : Prim → Bool}
    {bv : String} {n n' : Nat} (hn : n ≤ n') {rows s : List (Row β)} {ρ : Env} {t : DT β}
    (hinv : Inv S n ρ rows) (hbv : ∀ j, n ≤ j → S.gen j ≠ bv)
    (hs : filterMapE (specDflt okP bv) rows = .ok s)
    (hno : ∀ r ∈ rows, ∀ p t cs, removeCol bv r.cols = some (.prim p t, cs) → litMatches p (lookupVar ρ bv) = false)
    (ht : SoundAt S n n' s t) (hok : leavesOK t = true) : SoundR S.gen n n' ρ rows (t.eval ρ) :=
  destr_sound S hinj (k := 0) (tys := []) (Nat.le_refl n) (Nat.le_refl _) hn (letChain_none bv _) rfl hbv rfl rfl
    _ hs hinv
    (fun ρ' hx r hr o ho hfr hcf => (specDflt_exp ho).destr S hx (fun _ _ hq => by cases hq)
      (by
        rintro q cs hrc ⟨p, t, rfl, _⟩
        simp only [matchPat, hno r hr p t cs hrc]
        rfl)
      hfr hcf) ht hok

theorem litCases_sound (S : Sig) (hinj : ∀ i j, S.gen i = S.gen j → i = j) {okP : Prim → Bool} (hu : OkUnique okP)
    {bv : String} {n n' : Nat} (hn : n ≤ n') {rows : List (Row β)} {ρ : Env} (hinv : Inv S n ρ rows)
    (hbv : ∀ j, n ≤ j → S.gen j ≠ bv) (d? : Option (List (Row β)))
    (hd : ∀ d, d? = some d → filterMapE (specDflt okP bv) rows = .ok d) :
    ∀ (keys : List Prim) (subs : List (List (Row β))) (ts : List (DT β)),
      (∀ k ∈ keys, okP k = true) →
      All2 (fun k s => filterMapE (specLit okP bv k) rows = .ok s) keys subs →
      All2 (SoundAt S n n') (subs ++ d?.toList) ts →
      (∀ r ∈ rows, ∀ p t cs, removeCol bv r.cols = some (.prim p t, cs) → p ∉ keys →
        litMatches p (lookupVar ρ bv) = false) →
      (d? = none → ∃ k ∈ keys, litMatches k (lookupVar ρ bv) = true) →
      casesOK (litCases keys ts d?.isSome) = true →
      SoundR S.gen n n' ρ rows ((litCases keys ts d?.isSome).eval (lookupVar ρ bv) ρ) := by
  intro keys
  induction keys with
  | nil =>
    intro subs ts _ hks hts hno hcov hok
    cases hks
    cases d? with
    | none =>
      obtain ⟨k, hk, _⟩ := hcov rfl
      cases hk
    | some d =>
      simp only [Option.toList, List.nil_append] at hts
      cases hts with
      | cons ht hrest =>
        cases hrest
        simp only [Option.isSome, litCases, casesOK] at hok
        simp only [Option.isSome, litCases, Cases.eval]
        exact dflt_sound S hinj hn hinv hbv (hd d rfl) (fun r hr p t cs hrc => hno r hr p t cs hrc (by simp)) ht hok
  | cons k keys ih =>
    intro subs ts hokp hks hts hno hcov hok
    cases hks with
    | cons hs hks' =>
      rename_i s subs'
      simp only [List.cons_append] at hts
      cases hts with
      | cons ht hts' =>
        rename_i t ts'
        simp only [litCases, casesOK, Bool.and_eq_true] at hok
        simp only [litCases, Cases.eval, armMatches_lit]
        by_cases hkv : litMatches k (lookupVar ρ bv) = true
        · simp only [hkv, if_true]
          exact lit_sound S hinj hu hn hinv hbv hs (hokp k (by simp)) hkv ht hok.1
        · have hkv' : litMatches k (lookupVar ρ bv) = false := Bool.eq_false_iff.mpr hkv
          simp only [hkv', Bool.false_eq_true, if_false]
          apply ih subs' ts' (fun k' hk' => hokp k' (by simp [hk'])) hks' hts'
          · intro r hr p t cs hrc hp
            by_cases hpk : p = k
            · subst hpk; exact hkv'
            · exact hno r hr p t cs hrc (by simp [hpk, hp])
          · intro hd
            obtain ⟨k', hk', hm⟩ := hcov hd
            rcases List.mem_cons.mp hk' with rfl | hk'
            · rw [hkv'] at hm; cases hm
            · exact ⟨k', hk', hm⟩
          · exact hok.2

end Goml.Match
