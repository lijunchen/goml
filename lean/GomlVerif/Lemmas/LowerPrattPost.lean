import GomlVerif.Lemmas.LowerPratt
/-! The postfix group: `.` (field / projection, plain and handed down to a prefix operand) and calls
(identifier callee, postfix callee, handed down) on the image of `Pratt.Cst`. -/
namespace Goml.Lower
open Goml.Src Goml.Gen.BindingPower

def toTr : Pratt.Trail → Trailing
  | .call args => .call (toExprList args)
  | .field x => .field x
  | .proj i => .proj i

theorem toExpr_applyTrail : ∀ (tr : List Pratt.Trail) (e : Pratt.Ast),
    toExpr (Pratt.applyTrail e tr) = applyTrailing (toExpr e) (tr.map toTr)
  | [], _ => rfl
  | t :: ts, e => by
    rw [Pratt.applyTrail, toExpr_applyTrail ts, List.map_cons, applyTrailing]
    cases t <;> simp [Pratt.applyPost, applyPost, toExpr, toTr]


/-- of the operator tokens, `binaryOpKinds` holds the binary ones, and `.` is the one of kind `"Dot"` -/
theorem tkKind_dot (k : TK) :
    (if binaryOpKinds.contains (tkKind k) then tkKind k == "Dot" else false) = decide (k = .Dot) := by
  cases k <;> decide +kernel

theorem isDotOp_eBinary (k : TK) (l r : Cst) (hl : IsE l) (hr : IsE r) :
    isDotOp (eBinary k l r) = decide (k = .Dot) := by
  rw [← tkKind_dot, isDotOp, eBinary, tokenAny_cons_node hl.1]
  cases h : binaryOpKinds.contains (tkKind k)
  · rw [tokenAny_cons_tok_miss h, tokenAny_cons_node hr.1, tokenAny_nil]
    rfl
  · rw [tokenAny_cons_tok_hit h]
    rfl

theorem isDotOp_other (x : Cst) (h : x.kind ≠ "EXPR_BINARY") : (x.kind == "EXPR_BINARY" && isDotOp x) = false := by
  simp [h]

theorem recvPrefix_embed : ∀ c : Pratt.Cst, recvPrefix (embed c) = Pratt.prefixSpine c
  | .ident _ => by simp [embed, eIdent, recvPrefix, Pratt.prefixSpine]
  | .int _ => by simp [embed, eInt, recvPrefix, Pratt.prefixSpine]
  | .paren _ => by simp [embed, eParen, recvPrefix, Pratt.prefixSpine]
  | .prefix _ _ => by simp [embed, ePrefix, recvPrefix, Pratt.prefixSpine]
  | .binary k l r => by
    have hl := embed_isE l
    have hd := isDotOp_eBinary k (embed l) (embed r) hl (embed_isE r)
    rw [embed, Pratt.prefixSpine]
    unfold eBinary at hd ⊢
    rw [recvPrefix]
    simp only [hd, recvPrefixFirst, hl.1, hl.2, Bool.and_self, if_true]
    by_cases hk : k = .Dot
    · simp [hk, recvPrefix_embed l]
    · simp [hk]
  | .call f args => by
    have hf := embed_isE f
    rw [embed, Pratt.prefixSpine, eCall, recvPrefix]
    have h2 : (embed f).kind ∈ exprKinds := by simpa using hf.2
    simp [recvPrefixFirst, hf.1, h2, recvPrefix_embed f]

/-! ### tuple indices: `Pratt.digitsNat` against `parse::<usize>` -/

theorem digitsFold_none (cs : List Char) :
    cs.foldl (fun acc c => match acc, digitVal c with
      | some a, some d => some (a * 10 + d)
      | _, _ => none) none = none := by
  induction cs with
  | nil => rfl
  | cons c cs ih => simpa [List.foldl] using ih

theorem parseUsize_digits (ds : List Char) (i : Nat) (h : Pratt.digitsNat ds = some i) (hi : i < 2 ^ 64) :
    parseUsize (String.ofList ds) = some i := by
  cases ds with
  | nil => simp [Pratt.digitsNat] at h
  | cons c cs =>
    -- `digitsNat` knows no sign, so the `+` that `parse::<usize>` would skip is not there
    have hne : c ≠ '+' := by
      rintro rfl
      have : Pratt.digitsNat ('+' :: cs) = none := digitsFold_none cs
      rw [this] at h; cases h
    unfold parseUsize
    rw [String.toList_ofList]
    split
    · rename_i r heq; cases heq; exact absurd rfl hne
    · -- what is left is the fold of `digitsNat` itself
      dsimp only
      split
      · rename_i v hv
        cases h.symm.trans hv
        simp [hi]
      · rename_i hv
        cases h.symm.trans hv

/-- the right operand of `.`: an `Int` token that fits `usize` is a tuple index, an identifier a field name -/
def dotOk : Pratt.Cst → Bool
  | .int ds => match Pratt.digitsNat ds with
    | some i => decide (i < 2 ^ 64)
    | none => true
  | _ => true

theorem dotAccess_embed (r : Pratt.Cst) (post : Pratt.Trail) (h : Pratt.dotPost r = some post) (hok : dotOk r = true) (s : St) :
    dotAccess (embed r) s = (some (toTr post), s) := by
  cases r with
  | int ds =>
    simp only [Pratt.dotPost, Option.map_eq_some_iff] at h
    obtain ⟨i, hi, rfl⟩ := h
    simp only [dotOk, hi, decide_eq_true_eq] at hok
    have ht : tokenK "Int" (eInt ds) = some (.tok "Int" (String.ofList ds) none) := by
      simp [tokenK, eInt, Cst.kids, Cst.isNode, Cst.kind]
    have hk : (eInt ds).kind = "EXPR_INT" := rfl
    simp only [embed, dotAccess, hk, beq_self_eq_true, ht, Cst.tokText, parseUsize_digits ds i hi hok]
    rfl
  | ident x =>
    simp only [Pratt.dotPost, Option.some.injEq] at h
    subst h
    simp [embed, dotAccess, eIdent, Cst.kind, child, nodesOf, Cst.kids, Cst.isNode, identTexts, tokensK, Cst.tokText,
      toTr, M.pure]
  | paren _ => simp [Pratt.dotPost] at h
  | «prefix» _ _ => simp [Pratt.dotPost] at h
  | binary _ _ _ => simp [Pratt.dotPost] at h
  | call _ _ => simp [Pratt.dotPost] at h

/-- `.`: handed down to the operand of a prefix operator when the receiver chain starts at one, applied otherwise -/
theorem view_dot (C : List String) (n : Nat) (l r : Cst) (hl : IsE l) (hr : IsE r) (tr : List Trailing) :
    lowerExprW C (n + 1) (eBinary .Dot l r) tr =
      (if recvPrefix l then (dotAccess r >>= fun acc => lowerExprW C n l (acc :: tr))
       else (lowerExprW C n l [] >>= fun lhs => dotAccess r >>= fun acc => pure (applyTrailing lhs (acc :: tr)))) := by
  have hk := intKindOf_none "EXPR_BINARY" (by simp)
  have hkind : (eBinary .Dot l r).kind = "EXPR_BINARY" := rfl
  have hc := eBinary_operands .Dot hl hr
  have ht : tokenAny binaryOpKinds (eBinary .Dot l r) = some (.tok "Dot" "." none) := by
    simp only [eBinary, tokenAny_cons_node hl.1]
    exact tokenAny_cons_tok_hit (by decide)
  generalize eBinary .Dot l r = y at hkind hc ht
  rw [lowerExprW, hkind, hk, hc, ht]
  rfl


/-- what `lower_expr_with_args` does with a `CallExpr` once its arguments are lowered -/
def callK (C : List String) (n : Nat) (callee : Cst) (args : List Expr) (tr : List Trailing) : M Expr :=
  if callee.kind == "EXPR_IDENT" then do
    let p ← lowerCtorPathFromIdentExpr callee
    let last ← lastIdent p
    let ls ← getLocals
    if isCtorPath C ls p last then pure (applyTrailing (.constr p args) tr)
    else pure (applyTrailing (.call (.path p) args) tr)
  else
    if (callee.kind == "EXPR_CALL" || callee.kind == "EXPR_CLOSURE" || (callee.kind == "EXPR_BINARY" && isDotOp callee))
        && !recvPrefix callee then do
      let f ← lowerExprW C n callee []
      pure (applyTrailing (.call f args) tr)
    else lowerExprW C n callee (.call args :: tr)

theorem childrenK_args (xs : List Cst) : childrenK ["ARG"] (.node "ARG_LIST" (xs.map eArg)) = xs.map eArg := by
  induction xs with
  | nil => rfl
  | cons x xs ih =>
    rw [List.map_cons, childrenK_cons_hit (x := eArg x) rfl (by simp [eArg, Cst.kind]), ih]

theorem view_call (C : List String) (n : Nat) (f : Cst) (hf : IsE f) (args : List Cst) (tr : List Trailing) :
    lowerExprW C (n + 1) (eCall f args) tr =
      (mapSkip (lowerArg C n) (args.map eArg) >>= fun as => callK C n f as tr) := by
  have hk := intKindOf_none "EXPR_CALL" (by simp)
  have hkind : (eCall f args).kind = "EXPR_CALL" := rfl
  have h1 : child ["ARG_LIST"] (eCall f args) = some (.node "ARG_LIST" (args.map eArg)) := by
    unfold eCall
    rw [child_cons_miss hf.1 (isE_not f hf ["ARG_LIST"] (by decide))]
    exact child_cons_hit rfl (by simp [Cst.kind])
  have h2 : child exprKinds (eCall f args) = some f := child_cons_hit hf.1 hf.2
  generalize eCall f args = y at hkind h1 h2
  rw [lowerExprW, hkind, hk, h1, h2]
  simp only [childrenK_args]
  rfl

theorem view_arg (C : List String) (n : Nat) (x : Cst) (hx : IsE x) :
    lowerArg C (n + 1) (eArg x) = lowerExprW C n x [] := by
  rw [lowerArg]
  simp only [eArg, child_cons_hit hx.1 hx.2]

/-- the callee test of the `CallExpr` case on the image is `Pratt.isPostfixNode` -/
theorem postfix_embed (f : Pratt.Cst) :
    ((embed f).kind == "EXPR_CALL" || (embed f).kind == "EXPR_CLOSURE" || ((embed f).kind == "EXPR_BINARY" && isDotOp (embed f)))
      = Pratt.isPostfixNode f := by
  cases f with
  | binary k l r =>
    have := isDotOp_eBinary k (embed l) (embed r) (embed_isE l) (embed_isE r)
    simp only [embed] at this ⊢
    rw [this]
    simp [eBinary, Cst.kind, Pratt.isPostfixNode]
  | _ => simp [embed, eIdent, eInt, eParen, ePrefix, eCall, Cst.kind, Pratt.isPostfixNode]

theorem kind_ident_iff (f : Pratt.Cst) : ((embed f).kind == "EXPR_IDENT") = (match f with | .ident _ => true | _ => false) := by
  cases f <;> simp [embed, eIdent, eInt, eParen, ePrefix, eBinary, eCall, Cst.kind]

end Goml.Lower
