import GomlVerif.Model.InputView
/-! `view` (the non-trivia kinds of a token list) against the trivia loops of `Input` (`eatTrivia`, `nth`, `skip`), and
`Corr`: the state of the grammar model stands for a real cursor. -/
namespace Goml.InputView
open Goml.Lex (isTrivia)
open Goml.Gen.Gram

theorem view_append (a b : List Nat) : view (a ++ b) = view a ++ view b := by simp [view]

/-- What `eatTrivia` does on `rest`: it drops a prefix `tr` the view does not see, and stops at the end or in front of a token
the view keeps. -/
structure TriviaEaten (rest tr : List Nat) : Prop where
  split : rest = tr ++ eatTrivia rest
  unseen : view tr = []
  stop : eatTrivia rest = [] ∨ ∃ k tl, eatTrivia rest = k :: tl ∧ isTrivia k = false

theorem eatTrivia_spec (rest : List Nat) : ∃ tr, TriviaEaten rest tr := by
  induction rest with
  | nil => exact ⟨[], rfl, rfl, .inl rfl⟩
  | cons k ks ih =>
    by_cases h : isTrivia k = true
    · have e : eatTrivia (k :: ks) = eatTrivia ks := by simp [eatTrivia, h]
      obtain ⟨tr, ih⟩ := ih
      exact ⟨k :: tr, by rw [e, List.cons_append, ← ih.split], by simpa [view, h] using ih.unseen, e ▸ ih.stop⟩
    · have e : eatTrivia (k :: ks) = k :: ks := by simp [eatTrivia, h]
      exact ⟨[], by rw [e]; rfl, rfl, .inr ⟨k, ks, e, Bool.eq_false_iff.2 h⟩⟩

theorem view_eatTrivia (rest : List Nat) : view (eatTrivia rest) = view rest := by
  obtain ⟨tr, e⟩ := eatTrivia_spec rest
  conv => rhs; rw [e.split, view_append, e.unseen, List.nil_append]

/-- Where the trivia loop stops on `rest`: at the end of the view, or in front of its head. -/
inductive TriviaStop (rest : List Nat) : Prop
  | atEnd (eaten : eatTrivia rest = []) (seen : view rest = [])
  | atToken (k : Nat) (tl : List Nat) (eaten : eatTrivia rest = k :: tl) (kept : isTrivia k = false)
      (seen : view rest = k :: view tl)

theorem eatTrivia_view (rest : List Nat) : TriviaStop rest := by
  obtain ⟨_, e⟩ := eatTrivia_spec rest
  rcases e.stop with he | ⟨k, tl, he, hk⟩
  · exact .atEnd he (by rw [← view_eatTrivia, he]; rfl)
  · exact .atToken k tl he hk (by rw [← view_eatTrivia, he]; simp [view, hk])

theorem eatTrivia_head (rest : List Nat) : (eatTrivia rest).headD T_Eof = (view rest).headD T_Eof := by
  cases eatTrivia_view rest with
  | atEnd eaten seen => rw [eaten, seen]
  | atToken k tl eaten _ seen => rw [eaten, seen]; rfl

theorem eatTrivia_empty (rest : List Nat) : (eatTrivia rest).isEmpty = (view rest).isEmpty := by
  cases eatTrivia_view rest with
  | atEnd eaten seen => rw [eaten, seen]
  | atToken k tl eaten _ seen => rw [eaten, seen]; rfl

theorem view_skip (rest : List Nat) : view (skip rest) = (view rest).tail := by
  unfold skip
  cases eatTrivia_view rest with
  | atEnd eaten seen => rw [eaten, seen]; rfl
  | atToken k tl eaten _ seen => rw [eaten, seen]; rfl

theorem nth_eq_view (rest : List Nat) : ∀ n, nth rest n = (view rest).getD n T_Eof := by
  induction rest with
  | nil => intro n; simp [nth, view]
  | cons k ks ih =>
    intro n
    simp only [nth]
    split
    · rename_i h; rw [ih]; simp [view, h]
    · rename_i h
      have hv : view (k :: ks) = k :: view ks := by simp [view, h]
      rw [hv]
      cases n with
      | zero => simp
      | succ n => simp [ih]

open Goml.Grammar

/-- the grammar model's state `s` stands for the real `Input` whose cursor has passed `pre` and still sees `rest` -/
def Corr (all pre rest : List Nat) (s : PS) : Prop :=
  all = pre ++ rest ∧ s.toks = view all ∧ s.pos = (view pre).length

theorem corr_getD {all pre rest : List Nat} {s : PS} (h : Corr all pre rest s) (n : Nat) :
    s.toks.getD (s.pos + n) T_Eof = nth rest n := by
  obtain ⟨hall, htoks, hpos⟩ := h
  rw [nth_eq_view, htoks, hall, view_append, hpos]
  simp only [List.getD_eq_getElem?_getD]
  rw [List.getElem?_append_right (by omega)]
  congr 2; omega

theorem corr_isEof {all pre rest : List Nat} {s : PS} (h : Corr all pre rest s) : s.isEof = (eof rest).1 := by
  obtain ⟨hall, htoks, hpos⟩ := h
  simp only [eof, eatTrivia_empty, PS.isEof, htoks, hall, view_append, List.length_append, hpos]
  cases hv : view rest with
  | nil => simp
  | cons x xs => simp

theorem corr_skip {all pre rest : List Nat} {s : PS} (h : Corr all pre rest s) :
    ∃ pre', Corr all pre' (skip rest) (bump s) := by
  obtain ⟨hall, htoks, hpos⟩ := h
  obtain ⟨tr, e⟩ := eatTrivia_spec rest
  cases eatTrivia_view rest with
  | atEnd he hv =>
    refine ⟨all, ?_, htoks, ?_⟩
    · simp [skip, he]
    · simp only [bump, htoks, hall, view_append, hv, List.append_nil, hpos]
      simp
  | atToken k tl he hk hv =>
    have e1' : rest = tr ++ k :: tl := by rw [← he]; exact e.split
    have hs : skip rest = tl := by simp [skip, he]
    refine ⟨pre ++ tr ++ [k], ?_, htoks, ?_⟩
    · rw [hs, hall]
      have : pre ++ rest = pre ++ (tr ++ k :: tl) := by rw [← e1']
      rw [this]; simp
    · have hlen : s.pos < s.toks.length := by
        rw [htoks, hall, view_append, hv, hpos]; simp
      have hk' : view [k] = [k] := by simp [view, hk]
      rw [hpos] at hlen
      simp only [bump, view_append, e.unseen, hk', List.length_append, List.length_nil, List.length_cons, hpos]
      rw [if_pos hlen]

end Goml.InputView
