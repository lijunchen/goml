import GomlVerif.Lemmas.C18Json
/-! Lemmas for C18: `json_escape_string` as the nested `strings.ReplaceAll` calls of the runtime; Go's `%q` vs JSON. -/
namespace Goml.Derive
open Gen.Derive (jsonReplacements)

theorem replChar_append (o : Char) (n a b : List Char) : replChar o n (a ++ b) = replChar o n a ++ replChar o n b := by
  simp [replChar]

theorem applyReplacements_append (tbl : List (Nat × List Nat)) : ∀ a b : List Char,
    applyReplacements tbl (a ++ b) = applyReplacements tbl a ++ applyReplacements tbl b := by
  induction tbl with
  | nil => intro a b; rfl
  | cons r rest ih =>
    intro a b
    simp only [applyReplacements, List.foldl_cons, replChar_append] at ih ⊢
    exact ih _ _

theorem applyReplacements_nil : ∀ tbl : List (Nat × List Nat), applyReplacements tbl [] = []
  | [] => rfl
  | _ :: rest => by simpa [applyReplacements, replChar] using applyReplacements_nil rest

theorem repl_quote : applyReplacements jsonReplacements ['"'] = jsonEscChar '"' := by decide +kernel
theorem repl_backslash : applyReplacements jsonReplacements ['\\'] = jsonEscChar '\\' := by decide +kernel
theorem repl_control : ∀ n : Fin 32, applyReplacements jsonReplacements [Char.ofNat n.val] = jsonEscChar (Char.ofNat n.val) := by decide +kernel

theorem replaced_chars : ∀ r ∈ jsonReplacements, (Char.ofNat r.1).toNat = r.1 ∧ (r.1 = 92 ∨ r.1 = 34 ∨ r.1 < 32) := by decide +kernel

theorem applyReplacements_fixed (tbl : List (Nat × List Nat)) (c : Char) (h : ∀ r ∈ tbl, Char.ofNat r.1 ≠ c) :
    applyReplacements tbl [c] = [c] := by
  induction tbl with
  | nil => rfl
  | cons r rest ih =>
    have h1 : c ≠ Char.ofNat r.1 := fun e => h r (by simp) e.symm
    simp only [applyReplacements, List.foldl_cons, replChar, List.flatMap_cons, List.flatMap_nil, h1, if_false, List.append_nil]
    exact ih (fun r hr => h r (by simp [hr]))

theorem repl_char (c : Char) : applyReplacements jsonReplacements [c] = jsonEscChar c := by
  by_cases h1 : c = '"'
  · subst h1; exact repl_quote
  by_cases h2 : c = '\\'
  · subst h2; exact repl_backslash
  by_cases h3 : c.toNat < 32
  · have := repl_control ⟨c.toNat, h3⟩
    simpa [Char.ofNat_toNat] using this
  · rw [applyReplacements_fixed]
    · simp [jsonEscChar, h1, h2, h3]
    · intro r hr e
      obtain ⟨hv, hcase⟩ := replaced_chars r hr
      have : c.toNat = r.1 := by rw [← e]; exact hv
      rcases hcase with h | h | h
      · exact h2 (by rw [← Char.ofNat_toNat c, this, h])
      · exact h1 (by rw [← Char.ofNat_toNat c, this, h])
      · omega

theorem jsonEscBody_eq_replacements (s : List Char) : applyReplacements jsonReplacements s = jsonEscBody s := by
  induction s with
  | nil => simp [applyReplacements_nil, jsonEscBody]
  | cons c cs ih =>
    have := applyReplacements_append jsonReplacements [c] cs
    simp only [List.singleton_append] at this
    rw [this, repl_char, ih, jsonEscBody]

/-! ### Go's `%q` read as JSON (`p` is Go's `unicode.IsPrint`, kept abstract) -/

theorem hexVal_hexDigit : ∀ d : Fin 16, hexVal (hexDigit d.val) = some d.val := by decide +kernel

theorem hex4Val_hex4 (n : Nat) (h : n < 65536) :
    hex4Val (hexDigit (n / 4096 % 16)) (hexDigit (n / 256 % 16)) (hexDigit (n / 16 % 16)) (hexDigit (n % 16)) = some n := by
  have a := hexVal_hexDigit ⟨n / 4096 % 16, by omega⟩
  have b := hexVal_hexDigit ⟨n / 256 % 16, by omega⟩
  have c := hexVal_hexDigit ⟨n / 16 % 16, by omega⟩
  have d := hexVal_hexDigit ⟨n % 16, by omega⟩
  simp only at a b c d
  simp only [hex4Val, a, b, c, d, Option.some.injEq]
  omega

theorem safe_inv (p : Char → Bool) (c : Char) (h : goQuoteJsonSafe p c = true) :
    c.toNat ≠ 7 ∧ c.toNat ≠ 11 ∧ (32 ≤ c.toNat ∨ c.toNat = 8 ∨ c.toNat = 9 ∨ c.toNat = 10 ∨ c.toNat = 12 ∨ c.toNat = 13) ∧
      c.toNat ≠ 127 ∧ (c.toNat < 65536 ∨ p c = true) := by
  unfold goQuoteJsonSafe at h
  simp only [Bool.and_eq_true, Bool.or_eq_true, decide_eq_true_eq] at h
  obtain ⟨⟨⟨⟨h7, h11⟩, hctl⟩, h127⟩, hU⟩ := h
  refine ⟨h7, h11, ?_, h127, hU⟩
  omega

theorem readStr_goEscHex (p : Char → Bool) (c : Char) (r : List Char) (h : goQuoteJsonSafe p c = true)
    (hnp : ¬ (128 ≤ c.toNat ∧ p c = true))
    (hs : c.toNat ≠ 8 ∧ c.toNat ≠ 9 ∧ c.toNat ≠ 10 ∧ c.toNat ≠ 12 ∧ c.toNat ≠ 13) :
    readStr (goEscHex c ++ r) = consFst c (readStr r) := by
  obtain ⟨h7, h11, hctl, h127, hU⟩ := safe_inv p c h
  unfold goEscHex
  split
  · omega
  split
  · rename_i hlt
    have hv : c.toNat < 0xD800 ∨ (0xDFFF < c.toNat ∧ c.toNat < 0x110000) := c.valid
    have := readStr_u _ _ _ _ r c.toNat (hex4Val_hex4 c.toNat hlt) (by omega) (by omega)
    simpa [hex4, Char.ofNat_toNat] using this
  · rcases hU with h | h
    · omega
    · exact absurd ⟨by omega, h⟩ hnp

theorem readStr_goEscNonPrint (p : Char → Bool) (c : Char) (r : List Char) (h : goQuoteJsonSafe p c = true)
    (hnp : ¬ (128 ≤ c.toNat ∧ p c = true)) :
    readStr (goEscNonPrint c ++ r) = consFst c (readStr r) := by
  obtain ⟨h7, h11, hctl, h127, hU⟩ := safe_inv p c h
  have key : ∀ (k : Nat) (e : Char), c.toNat = k → e ≠ 'u' → unescape e = some (Char.ofNat k) →
      readStr ('\\' :: e :: r) = consFst c (readStr r) := by
    intro k e hk hu hun
    rw [← Char.ofNat_toNat c, hk]; exact readStr_esc2 e _ r hu hun
  unfold goEscNonPrint
  rw [if_neg h7]
  by_cases h8 : c.toNat = 8
  · rw [if_pos h8]; exact key 8 'b' h8 (by decide +kernel) rfl
  rw [if_neg h8]
  by_cases h12 : c.toNat = 12
  · rw [if_pos h12]; exact key 12 'f' h12 (by decide +kernel) rfl
  rw [if_neg h12]
  by_cases h10 : c.toNat = 10
  · rw [if_pos h10]; exact key 10 'n' h10 (by decide +kernel) rfl
  rw [if_neg h10]
  by_cases h13 : c.toNat = 13
  · rw [if_pos h13]; exact key 13 'r' h13 (by decide +kernel) rfl
  rw [if_neg h13]
  by_cases h9 : c.toNat = 9
  · rw [if_pos h9]; exact key 9 't' h9 (by decide +kernel) rfl
  rw [if_neg h9, if_neg h11]
  exact readStr_goEscHex p c r h hnp ⟨h8, h9, h10, h12, h13⟩

theorem readStr_goEsc (p : Char → Bool) (c : Char) (r : List Char) (h : goQuoteJsonSafe p c = true) :
    readStr (goEscRune p c ++ r) = consFst c (readStr r) := by
  unfold goEscRune
  by_cases hq : c = '"'
  · rw [if_pos hq]; subst hq; exact readStr_esc2 '"' '"' _ (by decide +kernel) (by decide +kernel)
  rw [if_neg hq]
  by_cases hb : c = '\\'
  · rw [if_pos hb]; subst hb; exact readStr_esc2 '\\' '\\' _ (by decide +kernel) (by decide +kernel)
  rw [if_neg hb]
  by_cases h32 : 32 ≤ c.toNat ∧ c.toNat < 127
  · rw [if_pos h32]; exact readStr_raw c r hq hb (by omega)
  rw [if_neg h32]
  by_cases hp : 128 ≤ c.toNat ∧ p c = true
  · rw [if_pos hp]; exact readStr_raw c r hq hb (by omega)
  rw [if_neg hp]
  exact readStr_goEscNonPrint p c r h hp

/-- `%q` and JSON agree on a string all of whose runes are `goQuoteJsonSafe` -/
theorem readStr_goQuoteBody (p : Char → Bool) (s rest : List Char) (h : s.all (goQuoteJsonSafe p) = true) :
    readStr (goQuoteBody p s ++ '"' :: rest) = some (s, rest) := by
  induction s with
  | nil => simp [goQuoteBody, readStr_quote]
  | cons c cs ih =>
    simp only [List.all_cons, Bool.and_eq_true] at h
    simp [goQuoteBody, readStr_goEsc p c _ h.1, ih h.2, consFst]

end Goml.Derive
