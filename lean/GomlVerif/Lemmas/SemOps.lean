import GomlVerif.Lemmas.AnfSem
/-!
"Operands, then head" form of the characterisations of `Lemmas/SemEv.lean`: the node evaluates
the operand list left to right (`EvL`) and then applies a head relation to the values.
-/
namespace Goml.Anf
open Goml Goml.Sem

variable {P : Prog}

theorem rb_evL_nil {ρ : Env} {w : World} {K : List Val → World → Res Val → Prop} {r : Res Val} :
    RB (EvL P [] ρ w) K r ↔ K [] w r :=
  RB.of_pure fun _ => evL_nil

/-- first operand, then the remaining operands -/
theorem rb_first_list {f : Expr} {args : List Expr} {ρ : Env} {w : World}
    {K : Val → List Val → World → Res Val → Prop} {r : Res Val} :
    RB (Ev P f ρ w) (fun fv w1 => RB (EvL P args ρ w1) (K fv)) r ↔
      RB (EvL P (f :: args) ρ w) (fun vs w' r => ∃ fv as, vs = fv :: as ∧ K fv as w' r) r := by
  -- the list is the head, then the tail, then `cons` (`evL_cons`); re-associate and drop the `cons` step
  refine Iff.symm (Iff.trans (rb_congr_left fun _ => evL_cons) ?_)
  refine rb_assoc.trans (rb_congr fun v w1 r => rb_assoc.trans (rb_congr fun vs w2 r => rb_pure.trans ?_))
  exact ⟨fun ⟨_, _, h, hk⟩ => by cases h; exact hk, fun hk => ⟨_, _, rfl, hk⟩⟩

def callH (P : Prog) (vs : List Val) (w : World) (r : Res Val) : Prop :=
  ∃ fv as, vs = fv :: as ∧ App P w fv as r

theorem ev_call_ops {ty : Ty} {f : Expr} {args : List Expr} {ρ : Env} {w : World} {r : Res Val} :
    Ev P (.call ty f args) ρ w r ↔ RB (EvL P (f :: args) ρ w) (callH P) r := by
  rw [ev_call]; exact rb_first_list (K := fun fv as w' r => App P w' fv as r)

/-- what a binary operator does once both operands `a`, `b` have values -/
def binHead (op : BinOp) (a b : Val) (w : World) (r : Res Val) : Prop :=
  match scVal op a with
  | some v => r = .ok v w
  | none =>
    if logicalNonBool op a then r = .fail (.stuck "logical operator on a non-boolean") w
    else r = exceptRes (binop op a b) w

/-- head relation of a binary operator whose right operand needs no short-circuit treatment -/
def binH (op : BinOp) (vs : List Val) (w : World) (r : Res Val) : Prop :=
  ∃ a b, vs = [a, b] ∧ binHead op a b w r

theorem scVal_none_of_not_logical {op : BinOp} (h : op ≠ .and ∧ op ≠ .or) (a : Val) : scVal op a = none := by
  unfold scVal; split <;> simp_all

theorem logicalNonBool_false_of_not_logical {op : BinOp} (h : op ≠ .and ∧ op ≠ .or) (a : Val) :
    logicalNonBool op a = false := by
  cases op <;> first | rfl | simp_all

theorem rb_single {e : Expr} {ρ : Env} {w : World} {K : Val → World → Res Val → Prop} {r : Res Val} :
    RB (Ev P e ρ w) K r ↔ RB (EvL P [e] ρ w) (fun vs w' r => ∃ v, vs = [v] ∧ K v w' r) r := by
  -- as `rb_first_list`, with the empty tail evaluated away (`rb_evL_nil`)
  refine Iff.symm (Iff.trans (rb_congr_left fun _ => evL_cons) ?_)
  refine rb_assoc.trans (rb_congr fun v w1 r => rb_assoc.trans (rb_evL_nil.trans (rb_pure.trans ?_)))
  exact ⟨fun ⟨_, h, hk⟩ => by cases h; exact hk, fun hk => ⟨_, rfl, hk⟩⟩

theorem ev_bin_ops {op : BinOp} {ty : Ty} {l rhs : Expr} {ρ : Env} {w : World} {r : Res Val}
    (h : isAtom rhs = true ∨ (op ≠ .and ∧ op ≠ .or)) :
    Ev P (.bin op ty l rhs) ρ w r ↔ RB (EvL P [l, rhs] ρ w) (binH op) r := by
  rw [ev_bin]
  have key : ∀ a w1 r, binK P op rhs ρ a w1 r ↔
      RB (EvL P [rhs] ρ w1) (fun as w' r => ∃ b, as = [b] ∧ binHead op a b w' r) r := by
    intro a w1 r
    unfold binK binHead
    rcases h with hat | hop
    · -- an atom on the right: evaluating it, alone or as a one-element list, has one outcome
      have hev : ∀ x, EvL P [rhs] ρ w1 x ↔ x = .ok [atomVal ρ rhs] w1 := fun x =>
        evL_atoms (P := P) (is := [rhs]) (fun i hi => by simp at hi; subst hi; exact hat)
      rw [RB.of_pure hev]
      simp only [List.cons.injEq, and_true, exists_eq_left']
      cases scVal op a with
      | some v => exact Iff.rfl
      | none =>
        by_cases hb : logicalNonBool op a = true
        · simp only [hb, if_true]
        · simp only [hb, Bool.false_eq_true, if_false]
          exact RB.of_pure fun _ => ev_atom hat
    · rw [scVal_none_of_not_logical hop, logicalNonBool_false_of_not_logical hop]
      simp only [Bool.false_eq_true, if_false]
      exact rb_single
  constructor
  · intro h1
    have h2 : RB (Ev P l ρ w) (fun a w1 => RB (EvL P [rhs] ρ w1) (fun as w' r => ∃ b, as = [b] ∧ binHead op a b w' r)) r :=
      RB.mono (fun _ h => h) (fun a w1 r hk => (key a w1 r).1 hk) h1
    refine RB.mono (fun _ h => h) ?_ (rb_first_list.1 h2)
    rintro vs w' r ⟨a, as, rfl, b, rfl, hk⟩
    exact ⟨a, b, rfl, hk⟩
  · intro h1
    have h2 : RB (EvL P (l :: [rhs]) ρ w) (fun vs w' r => ∃ a as, vs = a :: as ∧ ∃ b, as = [b] ∧ binHead op a b w' r) r := by
      refine RB.mono (fun _ h => h) ?_ h1
      rintro vs w' r ⟨a, b, rfl, hk⟩
      exact ⟨a, [b], rfl, b, rfl, hk⟩
    exact RB.mono (fun _ h => h) (fun a w1 r hk => (key a w1 r).2 hk) (rb_first_list.2 h2)

/-- what happens once the receiver `v` and the arguments `as` have values -/
def dynHead (P : Prog) (tr m : String) (v : Val) (as : List Val) (w : World) (r : Res Val) : Prop :=
  match v with
  | .dyn _ key v0 => dynDispatch P tr m key v0 as w r
  | _ => r = .fail (.stuck "dyn call on a non-dyn value") w

def dynH (P : Prog) (tr m : String) (vs : List Val) (w : World) (r : Res Val) : Prop :=
  ∃ v as, vs = v :: as ∧ dynHead P tr m v as w r

def isDynVal : Val → Bool
  | .dyn _ _ _ => true
  | _ => false

theorem dynK_of_dyn {tr m : String} {args : List Expr} {ρ : Env} {v : Val} {w : World} {r : Res Val}
    (h : isDynVal v = true) :
    dynK P tr m args ρ v w r ↔ RB (EvL P args ρ w) (fun vs w2 => dynHead P tr m v vs w2) r := by
  cases v <;> simp [isDynVal] at h
  rfl

theorem dynK_of_not_dyn {tr m : String} {args : List Expr} {ρ : Env} {v : Val} {w : World} {r : Res Val}
    (h : isDynVal v = false) :
    dynK P tr m args ρ v w r ↔ r = .fail (.stuck "dyn call on a non-dyn value") w := by
  cases v <;> simp [isDynVal] at h <;> rfl

theorem dynHead_of_not_dyn {tr m : String} {v : Val} {as : List Val} {w : World} {r : Res Val}
    (h : isDynVal v = false) :
    dynHead P tr m v as w r ↔ r = .fail (.stuck "dyn call on a non-dyn value") w := by
  cases v <;> simp [isDynVal] at h <;> rfl

/-- with atoms as operands the order of the receiver check and the arguments does not matter -/
theorem dyn_tgt {tr m : String} {ty : Ty} {recv : Expr} {args : List Expr} {ρ : Env} {w : World} {r : Res Val}
    (hr : isAtom recv = true) (ha : ∀ i ∈ args, isAtom i = true) :
    Ev P (.dynCall tr m ty recv args) ρ w r ↔ RB (EvL P (recv :: args) ρ w) (dynH P tr m) r := by
  have hall : ∀ i ∈ recv :: args, isAtom i = true := by
    intro i hi; simp only [List.mem_cons] at hi; rcases hi with rfl | hi
    · exact hr
    · exact ha i hi
  rw [ev_dynCall, RB.of_pure (fun _ => ev_atom hr), RB.of_pure (fun _ => evL_atoms hall)]
  have hex : ∀ Q : Val → List Val → Prop,
      (∃ v as, atomVal ρ recv :: args.map (atomVal ρ) = v :: as ∧ Q v as) ↔ Q (atomVal ρ recv) (args.map (atomVal ρ)) :=
    fun Q => ⟨fun ⟨_, _, h, q⟩ => by cases h; exact q, fun q => ⟨_, _, rfl, q⟩⟩
  simp only [dynH, List.map_cons, hex]
  cases hd : isDynVal (atomVal ρ recv)
  · rw [dynK_of_not_dyn hd, dynHead_of_not_dyn hd]
  · rw [dynK_of_dyn hd, RB.of_pure (fun _ => evL_atoms ha)]

end Goml.Anf
