import GomlVerif.Lemmas.PipeMonoRel
import GomlVerif.Lemmas.SemStatus
/-!
Pipeline composition, mono link: an accepted pair (`MonoSim.monoOk c`) is a lock-step simulation
under `Sem` — for every fuel `n`, evaluating related expressions in related environments and
worlds gives related results (`SimAt c n`), by induction on `n` over all node kinds, operand
lists, arms and `apply`.
-/
namespace Goml.MonoSim
open Goml Goml.Sem

structure SimAt (c : Cx) (n : Nat) : Prop where
  expr : ∀ {e e' : Expr} {ρ ρ' : Sem.Env} {w w' : World}, eOk c e e' = true → EnvRel c ρ ρ' → WRel c w w' →
    RRel c (VRel c) (eval n c.P ρ w e) (eval n c.P' ρ' w' e')
  list : ∀ {es es' : List Expr} {ρ ρ' : Sem.Env} {w w' : World}, eOkL c es es' = true → EnvRel c ρ ρ' →
    WRel c w w' → RRel c (VRelList c) (evalList n c.P ρ w es) (evalList n c.P' ρ' w' es')
  arms : ∀ {arms arms' : List Arm} {d d' : Option Expr} {ρ ρ' : Sem.Env} {w w' : World} {v v' : Val},
    eOkA c arms arms' = true → eOkO c d d' = true → EnvRel c ρ ρ' → WRel c w w' → VRel c v v' →
    RRel c (VRel c) (evalArms n c.P ρ w v arms d) (evalArms n c.P' ρ' w' v' arms' d')
  app : ∀ {f f' : Val} {args args' : List Val} {w w' : World}, VRel c f f' → VRelList c args args' →
    WRel c w w' → RRel c (VRel c) (apply n c.P w f args) (apply n c.P' w' f' args')

section
variable {c : Cx}

/-- what `monoOk` establishes -/
structure MonoRel (c : Cx) : Prop where
  pairs : ∀ p ∈ c.pairs, pairOk c p = true
  impls : c.P.impls = c.P'.impls
  main : pairMem c "main" "main" = true

theorem monoRel_of_monoOk (hok : monoOk c = true) : MonoRel c := by
  unfold monoOk at hok
  simp only [Bool.and_eq_true, List.all_eq_true, decide_eq_true_eq] at hok
  exact ⟨hok.1.1, hok.1.2, hok.2⟩

theorem pair_find (hok : monoOk c = true) {x x' : String} (h : pairMem c x x' = true) :
    ∃ f g, c.P.findFn x = some f ∧ c.P'.findFn x' = some g ∧ fnPairOk c f g = true := by
  unfold pairMem at h
  simp only [List.any_eq_true, Bool.and_eq_true, beq_iff_eq] at h
  obtain ⟨p, hp, rfl, rfl⟩ := h
  have := (monoRel_of_monoOk hok).pairs p hp
  unfold pairOk at this
  split at this
  · rename_i f g hf hg; exact ⟨f, g, hf, hg, this⟩
  · cases this

theorem noGlobal_P {x : String} (h : noGlobal c x = true) : c.P.findFn x = none := by
  unfold noGlobal at h
  simp only [Bool.and_eq_true, Option.isNone_iff_eq_none] at h
  exact h.1

theorem noGlobal_P' {x : String} (h : noGlobal c x = true) : c.P'.findFn x = none := by
  unfold noGlobal at h
  simp only [Bool.and_eq_true, Option.isNone_iff_eq_none] at h
  exact h.2

theorem fnOk_cases {x x' : String} (h : fnOk c x x' = true) : (x = x' ∧ noGlobal c x = true) ∨ pairMem c x x' = true := by
  unfold fnOk at h
  simpa only [Bool.or_eq_true, Bool.and_eq_true, beq_iff_eq] using h

/-- a function reference: bound in both environments to related values, or a function value that
    means the same on both sides -/
theorem var_rel (hok : monoOk c = true) {x x' : String} (h : fnOk c x x' = true) {ρ ρ' : Sem.Env}
    (hρ : EnvRel c ρ ρ') :
    VRel c ((lookupEnv ρ x).getD (.fn x)) ((lookupEnv ρ' x').getD (.fn x')) := by
  rcases fnOk_cases h with ⟨rfl, _⟩ | hp
  · rcases hρ.lookup x with ⟨hsrc, htgt⟩ | ⟨v, v', hsrc, htgt, hv, _⟩
    · rw [hsrc, htgt]; exact .fn h
    · rw [hsrc, htgt]; exact hv
  · obtain ⟨f, g, hf, hg, _⟩ := pair_find hok hp
    have e1 : lookupEnv ρ x = none := by
      rcases hρ.lookup x with ⟨hsrc, _⟩ | ⟨_, _, _, _, _, hnoGlobal⟩
      · exact hsrc
      · rw [noGlobal_P hnoGlobal] at hf; cases hf
    have e2 : lookupEnv ρ' x' = none := by
      rcases hρ.lookup x' with ⟨_, htgt⟩ | ⟨_, _, _, _, _, hnoGlobal⟩
      · exact htgt
      · rw [noGlobal_P' hnoGlobal] at hg; cases hg
    rw [e1, e2]; exact .fn h

theorem namesOk_names {ps ps' : List (String × Ty)} (h : namesOk c ps ps' = true) :
    ps.map (·.1) = ps'.map (·.1) ∧ ∀ p, p ∈ ps.map (·.1) → noGlobal c p = true := by
  unfold namesOk at h
  simp only [Bool.and_eq_true, beq_iff_eq, List.all_eq_true] at h
  refine ⟨h.1, ?_⟩
  intro p hp
  simp only [List.mem_map] at hp
  obtain ⟨q, hq, rfl⟩ := hp
  exact h.2 q hq

/-! ### the step: fuel `n + 1` from fuel `n` -/

/-- split on the target expression; every constructor but the matching one is rejected -/
macro "eok_inv" h:ident e:ident : tactic =>
  `(tactic| (cases $e:ident <;> simp only [eOk, Bool.false_eq_true] at $h:ident))

/-- the same inversion by splitting `eOk`'s own inner `match` (one matching row, one wildcard row closed by `cases`):
    much cheaper than `eok_inv`, which simplifies `eOk` once per constructor of the target -/
macro "eok_split" h:ident : tactic =>
  `(tactic| (simp only [eOk] at $h:ident; split at $h:ident; rotate_left; cases $h:ident))

theorem step_app (hok : monoOk c = true) {n : Nat} (ih : SimAt c n) {f f' : Val} {args args' : List Val}
    {w w' : World} (hf : VRel c f f') (ha : VRelList c args args') (hw : WRel c w w') :
    RRel c (VRel c) (apply (n + 1) c.P w f args) (apply (n + 1) c.P' w' f' args') := by
  cases hf with
  | closure hb hps hρ =>
    rw [apply_closure, apply_closure]
    exact ih.expr hb (EnvRel.bind _ hps ha hρ) hw
  | @fn x x' hx =>
    rcases fnOk_cases hx with ⟨rfl, hn⟩ | hp
    · rw [apply_extern (noGlobal_P hn), apply_extern (noGlobal_P' hn)]
      exact .of_resRel (respects.applyExtern x (vrelList_iff.1 ha) (wrel_iff.1 hw))
    · obtain ⟨f0, g0, hf0, hg0, hfg⟩ := pair_find hok hp
      rw [apply_fn, apply_fn, hf0, hg0]
      dsimp only  -- reduce the `match` on the constructor
      unfold fnPairOk at hfg
      simp only [Bool.and_eq_true] at hfg
      obtain ⟨hnames, hall⟩ := namesOk_names hfg.1
      rw [← hnames]
      exact ih.expr hfg.2 (EnvRel.bind _ hall ha .nil) hw
  | @structV sn sn' vs vs' hs _ =>
    rw [apply_structV, apply_structV]
    unfold structOk applyName at hs
    simp only [Bool.and_eq_true, Option.isNone_iff_eq_none] at hs
    rw [hs.1, hs.2]
    exact RRel.stuck hw
  | _ =>
    -- the last row of `apply`; rewriting to it asks that the value is no closure, function or struct
    rw [apply, apply]
    · exact RRel.stuck hw
    all_goals (intros; simp_all)

theorem step_list {n : Nat} (ih : SimAt c n) {es es' : List Expr} {ρ ρ' : Sem.Env} {w w' : World}
    (h : eOkL c es es' = true) (hρ : EnvRel c ρ ρ') (hw : WRel c w w') :
    RRel c (VRelList c) (evalList (n + 1) c.P ρ w es) (evalList (n + 1) c.P' ρ' w' es') := by
  cases es with
  | nil =>
    cases es' with
    | nil => rw [evalList_nil_at, evalList_nil_at]; exact RRel.ok .nil hw
    | cons _ _ => simp [eOkL] at h
  | cons e es =>
    cases es' with
    | nil => simp [eOkL] at h
    | cons e' es' =>
      simp only [eOkL, Bool.and_eq_true] at h
      rw [evalList_cons_at, evalList_cons_at]
      refine (ih.expr h.1 hρ hw).andThen ?_
      intro v v' w1 w1' hv hw1
      refine (ih.list h.2 hρ hw1).andThen ?_
      intro vs vs' w2 w2' hvs hw2
      exact RRel.ok (.cons hv hvs) hw2

theorem step_arms {n : Nat} (ih : SimAt c n) {arms arms' : List Arm} {d d' : Option Expr} {ρ ρ' : Sem.Env}
    {w w' : World} {v v' : Val} (h : eOkA c arms arms' = true) (hd : eOkO c d d' = true)
    (hρ : EnvRel c ρ ρ') (hw : WRel c w w') (hv : VRel c v v') :
    RRel c (VRel c) (evalArms (n + 1) c.P ρ w v arms d) (evalArms (n + 1) c.P' ρ' w' v' arms' d') := by
  cases arms with
  | nil =>
    cases arms' with
    | cons _ _ => simp [eOkA] at h
    | nil =>
      rw [evalArms_nil_at, evalArms_nil_at]
      cases d with
      | none =>
        cases d' with
        | none => exact RRel.stuck hw
        | some _ => simp [eOkO] at hd
      | some d0 =>
        cases d' with
        | none => simp [eOkO] at hd
        | some d1 =>
          simp only [eOkO] at hd
          exact ih.expr hd hρ hw
  | cons a rest =>
    obtain ⟨lhs, body⟩ := a
    cases arms' with
    | nil => simp [eOkA] at h
    | cons a' rest' =>
      obtain ⟨lhs', body'⟩ := a'
      simp only [eOkA, Bool.and_eq_true] at h
      obtain ⟨⟨hhead, hbody⟩, hrest⟩ := h
      rw [evalArms_cons_at, evalArms_cons_at, armMatches_rel hhead hv]
      split
      · exact ih.expr hbody hρ hw
      · exact ih.arms hrest hd hρ hw hv

theorem step_expr (hok : monoOk c = true) {n : Nat} (ih : SimAt c n) {e e' : Expr} {ρ ρ' : Sem.Env}
    {w w' : World} (h : eOk c e e' = true) (hρ : EnvRel c ρ ρ') (hw : WRel c w w') :
    RRel c (VRel c) (eval (n + 1) c.P ρ w e) (eval (n + 1) c.P' ρ' w' e') := by
  cases e with
  | var x t =>
    eok_split h
    rw [eval_var, eval_var]
    exact RRel.ok (var_rel hok h hρ) hw
  | prim p =>
    eok_split h
    have := Lift.primEq_eq h; subst this
    rw [eval_prim, eval_prim]
    exact RRel.ok (VRel_primVal p) hw
  | tag i t =>
    eok_split h
    simp only [beq_iff_eq] at h; subst h
    rw [eval_tag, eval_tag]
    exact RRel.ok (.enumV .nil) hw
  | constr k t args =>
    eok_split h
    rename_i k' t' args'
    simp only [Bool.and_eq_true] at h
    rw [eval_constr, eval_constr]
    refine (ih.list h.2 hρ hw).andThen ?_
    intro vs vs' w1 w1' hvs hw1
    have hk := h.1
    cases k with
    | enum a b i =>
      cases k' with
      | enum a' b' j =>
        simp only [ctorOk, beq_iff_eq] at hk; subst hk
        exact RRel.ok (.enumV hvs) hw1
      | struct _ => simp [ctorOk] at hk
    | struct sn =>
      cases k' with
      | enum _ _ _ => simp [ctorOk] at hk
      | struct sn' =>
        simp only [ctorOk] at hk
        exact RRel.ok (.structV hk hvs) hw1
  | tuple t items =>
    eok_split h
    rw [eval_tuple, eval_tuple]
    refine (ih.list h hρ hw).andThen ?_
    intro vs vs' w1 w1' hvs hw1
    exact RRel.ok (.tuple hvs) hw1
  | array t items =>
    eok_split h
    rw [eval_array, eval_array]
    refine (ih.list h hρ hw).andThen ?_
    intro vs vs' w1 w1' hvs hw1
    exact RRel.ok (.array hvs) hw1
  | closure t ps body =>
    eok_split h
    simp only [Bool.and_eq_true] at h
    obtain ⟨hnames, hall⟩ := namesOk_names h.1
    rw [eval_closure, eval_closure, ← hnames]
    exact RRel.ok (.closure h.2 hall hρ) hw
  | letE x v b =>
    eok_split h
    simp only [Bool.and_eq_true, beq_iff_eq] at h
    obtain ⟨⟨⟨rfl, hx⟩, hv⟩, hb⟩ := h
    rw [eval_letE, eval_letE]
    refine (ih.expr hv hρ hw).andThen ?_
    intro vv vv' w1 w1' hvv hw1
    exact ih.expr hb (.cons hx hvv hρ) hw1
  | matchE t s arms d =>
    eok_split h
    simp only [Bool.and_eq_true] at h
    obtain ⟨⟨hscrut, harms⟩, hdflt⟩ := h
    rw [eval_matchE, eval_matchE]
    refine (ih.expr hscrut hρ hw).andThen ?_
    intro v v' w1 w1' hv hw1
    exact ih.arms harms hdflt hρ hw1 hv
  | ite a t e2 =>
    eok_split h
    simp only [Bool.and_eq_true] at h
    obtain ⟨⟨hcond, hthen⟩, helse⟩ := h
    rw [eval_ite, eval_ite]
    refine (ih.expr hcond hρ hw).andThen ?_
    intro v v' w1 w1' hv hw1
    cases hv with
    | bool b =>
      cases b
      · exact ih.expr helse hρ hw1
      · exact ih.expr hthen hρ hw1
    | _ => exact RRel.stuck hw1
  | «while» a b =>
    have h0 := h
    eok_split h
    simp only [Bool.and_eq_true] at h
    rw [eval_while, eval_while]
    refine (ih.expr h.1 hρ hw).andThen ?_
    intro v v' w1 w1' hv hw1
    cases hv with
    | bool bb =>
      cases bb
      · exact RRel.ok .unit hw1
      · refine (ih.expr h.2 hρ hw1).andThen ?_
        intro _ _ w2 w2' _ hw2
        exact ih.expr h0 hρ hw2
    | _ => exact RRel.stuck hw1
  | go e0 =>
    eok_split h
    rw [eval_go, eval_go]
    refine (ih.expr h hρ hw).andThen ?_
    intro v v' w1 w1' hv hw1
    by_cases he : w1.eager = true
    · have he' : w1'.eager = true := by rw [← hw1.eager]; exact he
      rw [if_pos he, if_pos he']
      refine (ih.app hv .nil hw1).andThen ?_
      intro _ _ w2 w2' _ hw2
      exact RRel.ok .unit hw2
    · have he' : ¬ w1'.eager = true := by rw [← hw1.eager]; exact he
      rw [if_neg he, if_neg he']
      exact RRel.ok .unit (hw1.with_spawned hv)
  | cget k i t e0 =>
    eok_split h
    simp only [Bool.and_eq_true, beq_iff_eq] at h
    obtain ⟨rfl, he⟩ := h
    rw [eval_cget, eval_cget]
    refine (ih.expr he hρ hw).andThen ?_
    intro v v' w1 w1' hv hw1
    cases hv with
    | enumV hvs => exact .of_resRel ((vrelList_iff.1 hvs).component i (wrel_iff.1 hw1) _)
    | structV _ hvs => exact .of_resRel ((vrelList_iff.1 hvs).component i (wrel_iff.1 hw1) _)
    | _ => exact RRel.stuck hw1
  | un op t e0 =>
    eok_split h
    simp only [Bool.and_eq_true, decide_eq_true_eq] at h
    obtain ⟨rfl, he⟩ := h
    rw [eval_un, eval_un]
    exact (ih.expr he hρ hw).andThen fun v v' w1 w1' hv hw1 =>
      .of_resRel (respects.unopRes op hv (wrel_iff.1 hw1))
  | bin op t l r =>
    eok_split h
    simp only [Bool.and_eq_true, decide_eq_true_eq] at h
    obtain ⟨⟨rfl, hl⟩, hr⟩ := h
    rw [eval_bin, eval_bin]
    refine (ih.expr hl hρ hw).andThen ?_
    intro a a' w1 w1' ha hw1
    rw [← respects.scAnd op ha, ← respects.scOr op ha, ← respects.logicalNonBool op ha]
    by_cases c1 : scAnd op a = true
    · simp only [c1, if_true]; exact RRel.ok (.bool false) hw1
    · simp only [c1]
      by_cases c2 : scOr op a = true
      · simp only [c2, if_true]; exact RRel.ok (.bool true) hw1
      · simp only [c2]
        by_cases c3 : logicalNonBool op a = true
        · simp only [c3, if_true]; exact RRel.stuck hw1
        · simp only [c3]
          exact (ih.expr hr hρ hw1).andThen fun b b' w2 w2' hb hw2 =>
            .of_resRel (respects.binopRes op ha hb (wrel_iff.1 hw2))
  | call t f args =>
    eok_split h
    simp only [Bool.and_eq_true] at h
    rw [eval_call, eval_call]
    refine (ih.expr h.1 hρ hw).andThen ?_
    intro fv fv' w1 w1' hfv hw1
    refine (ih.list h.2 hρ hw1).andThen ?_
    intro vs vs' w2 w2' hvs hw2
    exact ih.app hfv hvs hw2
  | toDyn tr forTy t e0 =>
    eok_split h
    simp only [Bool.and_eq_true, beq_iff_eq] at h
    obtain ⟨⟨⟨rfl, hk⟩, hd⟩, he⟩ := h
    rw [eval_toDyn, eval_toDyn, ← hk]
    refine (ih.expr he hρ hw).andThen ?_
    intro v v' w1 w1' hv hw1
    exact RRel.ok (.dyn hd hv) hw1
  | dynCall tr m t recv args =>
    eok_split h
    simp only [Bool.and_eq_true, beq_iff_eq] at h
    obtain ⟨⟨⟨rfl, rfl⟩, hr⟩, ha⟩ := h
    rw [eval_dynCall, eval_dynCall]
    refine (ih.expr hr hρ hw).andThen ?_
    intro rv rv' w1 w1' hrv hw1
    cases hrv with
    | @dyn tr0 key v v' hd hv =>
      dsimp only
      refine (ih.list ha hρ hw1).andThen ?_
      intro vs vs' w2 w2' hvs hw2
      rw [← (monoRel_of_monoOk hok).impls]
      cases hfind : c.P.impls.find? (fun i => i.1 == tr && i.2.1 == key && i.2.2.1 == m) with
      | none => exact RRel.stuck hw2
      | some row =>
        dsimp only
        have hmem := List.mem_of_find?_eq_some hfind
        have hp := List.find?_some hfind
        simp only [Bool.and_eq_true, beq_iff_eq] at hp
        unfold dynOk at hd
        simp only [List.all_eq_true] at hd
        have hrow := hd row hmem
        simp only [hp.1.2, beq_self_eq_true, Bool.not_true, Bool.false_or] at hrow
        exact ih.app (.fn hrow) (.cons hv hvs) hw2
    | _ => exact RRel.stuck hw1
  | traitCall tr m t recv args => simp [eOk] at h
  | proj i t e0 =>
    eok_split h
    simp only [Bool.and_eq_true, beq_iff_eq] at h
    obtain ⟨rfl, he⟩ := h
    rw [eval_proj, eval_proj]
    refine (ih.expr he hρ hw).andThen ?_
    intro v v' w1 w1' hv hw1
    cases hv with
    | tuple hvs => exact .of_resRel ((vrelList_iff.1 hvs).component i (wrel_iff.1 hw1) _)
    | _ => exact RRel.stuck hw1

theorem sim_all (hok : monoOk c = true) (n : Nat) : SimAt c n := by
  induction n with
  | zero =>
    refine ⟨?_, ?_, ?_, ?_⟩
    · intro e e' ρ ρ' w w' _ _ hw; rw [eval_zero, eval_zero]; exact RRel.fail_same hw
    · intro es es' ρ ρ' w w' _ _ hw; rw [evalList_zero, evalList_zero]; exact RRel.fail_same hw
    · intro arms arms' d d' ρ ρ' w w' v v' _ _ _ hw _; rw [evalArms_zero, evalArms_zero]; exact RRel.fail_same hw
    · intro f f' args args' w w' _ _ hw; rw [apply_zero, apply_zero]; exact RRel.fail_same hw
  | succ n ih =>
    exact ⟨fun h hρ hw => step_expr hok ih h hρ hw, fun h hρ hw => step_list ih h hρ hw,
      fun h hd hρ hw hv => step_arms ih h hd hρ hw hv, fun hf ha hw => step_app hok ih hf ha hw⟩

/-- `main` is its own instance -/
theorem main_rel (hok : monoOk c = true) : VRel c (.fn "main") (.fn "main") := by
  refine .fn ?_
  unfold fnOk
  simp [(monoRel_of_monoOk hok).main]

/-- **run-level statement**: with the same fuel and schedule, the Core program and its accepted
    monomorphisation print the same, record the same extern events and end the same way — both
    normally, both with the same panic, both out of fuel, or both stuck. -/
theorem run_rel (hok : monoOk c = true) (fuel : Nat) (eager : Bool) :
    (run fuel c.P' "main" eager).out = (run fuel c.P "main" eager).out ∧
    (run fuel c.P' "main" eager).externs = (run fuel c.P "main" eager).externs ∧
    ((run fuel c.P' "main" eager).status = (run fuel c.P "main" eager).status ∨
     (∃ s s', (run fuel c.P "main" eager).status = "stuck:" ++ s ∧
        (run fuel c.P' "main" eager).status = "stuck:" ++ s')) := by
  have h := (sim_all hok fuel).app (main_rel hok) .nil (WRel.init (c := c) eager)
  unfold run
  revert h
  cases apply fuel c.P { eager := eager } (.fn "main") [] with
  | ok v w =>
    cases apply fuel c.P' { eager := eager } (.fn "main") [] with
    | ok v' w' => intro h; exact ⟨h.2.out.symm, h.2.externs.symm, Or.inl rfl⟩
    | fail f' w' => intro h; exact h.elim
  | fail f w =>
    cases apply fuel c.P' { eager := eager } (.fn "main") [] with
    | ok v' w' => intro h; exact h.elim
    | fail f' w' =>
      intro h
      refine ⟨h.2.out.symm, h.2.externs.symm, ?_⟩
      have hf := h.1
      cases f <;> cases f' <;> simp only [FRel] at hf
      · subst hf; exact Or.inl rfl
      · exact Or.inl rfl
      · exact Or.inr ⟨_, _, rfl, rfl⟩

theorem run_definite (hok : monoOk c = true) (fuel : Nat) (eager : Bool)
    (hgood : (run fuel c.P "main" eager).status = "ok" ∨ ∃ k, (run fuel c.P "main" eager).status = "panic:" ++ k) :
    run fuel c.P' "main" eager = run fuel c.P "main" eager := by
  obtain ⟨h1, h2, h3⟩ := run_rel hok fuel eager
  have hs : (run fuel c.P' "main" eager).status = (run fuel c.P "main" eager).status := by
    rcases h3 with h3 | ⟨s, s', h3, _⟩
    · exact h3
    · rw [h3] at hgood
      obtain ⟨_, hk⟩ := failStr_definite (.stuck s) hgood
      cases hk
  exact Outcome.eq_of_fields h1 hs h2

end
end Goml.MonoSim
