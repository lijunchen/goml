import GomlVerif.Model.Pratt
/-! The rows of `Pratt.lower` for a call and for `.`, as equations: the operation is applied here (`…_wrap`) or handed down
to the callee / receiver (`…_fwd`). -/
namespace Goml.Pratt

theorem lower_call_ident (s : String) (as : List Cst) (as' : List Ast) (tr : List Trail)
    (has : lowerList as = some as') :
    lower (.call (.ident s) as) tr = some (applyTrail (.call (.var s) as') tr) := by
  rw [lower]; simp [has]

theorem lower_call_fwd (f : Cst) (as : List Cst) (as' : List Ast) (tr : List Trail)
    (has : lowerList as = some as') (hid : ∀ s, f ≠ .ident s)
    (hc : (isPostfixNode f && !prefixSpine f) = false) :
    lower (.call f as) tr = lower f (.call as' :: tr) := by
  rw [lower]
  simp only [has]
  cases f with
  | ident s => exact absurd rfl (hid s)
  | _ => simp only [hc, Bool.false_eq_true, if_false]

theorem lower_call_wrap (f : Cst) (as : List Cst) (as' : List Ast) (tr : List Trail)
    (has : lowerList as = some as') (hid : ∀ s, f ≠ .ident s)
    (hc : (isPostfixNode f && !prefixSpine f) = true) :
    lower (.call f as) tr = (lower f []).map (fun fe => applyTrail (.call fe as') tr) := by
  rw [lower]
  simp only [has]
  cases f with
  | ident s => exact absurd rfl (hid s)
  | _ => simp only [hc, if_true]; split <;> simp_all

theorem lower_dot_fwd (l r : Cst) (post : Trail) (tr : List Trail) (hr : dotPost r = some post)
    (hs : prefixSpine l = true) : lower (.binary .Dot l r) tr = lower l (post :: tr) := by
  rw [lower]; simp [hs, hr]

theorem lower_dot_wrap (l r : Cst) (post : Trail) (tr : List Trail) (hr : dotPost r = some post)
    (hs : prefixSpine l = false) :
    lower (.binary .Dot l r) tr = (lower l []).map (fun le => applyTrail le (post :: tr)) := by
  rw [lower]; simp only [hs, hr, if_true, Bool.false_eq_true, if_false]
  cases lower l [] <;> simp

end Goml.Pratt
