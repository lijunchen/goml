import GomlVerif.Lemmas.AnfHyp
import GomlVerif.Lemmas.WtRules
import GomlVerif.Lemmas.TypeOf
/-!
ANF preserves the type-consistency judgement `Wt.errs … = []` (C03, pass preservation, pass `anf.rs`).
All reasoning is on the direct-style reading `dec` of the CPS functions (`anf_eq_dec`, `Lemmas/AnfDec.lean`):
`anf e n k = plug (dec e n).L (k (dec e n).c (dec e n).n)`.

Typed-context invariant: the chain `(dec e n).L` is typed left to right (`errsB`), each
binding extends the context with the type of its right-hand side (`extΓ`), and the final
expression is typed in the extended context with the type of the source expression.  Contexts may
differ from the source context on a set `D` of names that do not occur in the expression
(`AgreeT`), exactly as environments do in the semantic proof (`Agree`, `Lemmas/AnfSem.lean`).
-/
namespace Goml.Anf
open Goml Goml.Wt

/-! ### the judgement reads the context only at the names of the expression -/

theorem lookupVar_cons (k : String) (v : Ty) (Γ : TyEnv) (x : String) :
    lookupVar ((k, v) :: Γ) x = if k == x then some v else lookupVar Γ x := rfl

theorem lookupVar_cons_congr {Γ Γ' : TyEnv} {x : String} (k : String) (v : Ty)
    (h : lookupVar Γ x = lookupVar Γ' x) : lookupVar ((k, v) :: Γ) x = lookupVar ((k, v) :: Γ') x := by
  simp only [lookupVar_cons, h]

theorem lookupVar_bindAll_congr (x : String) : ∀ (ps : List (String × Ty)) (Γ Γ' : TyEnv),
    lookupVar Γ x = lookupVar Γ' x → lookupVar (bindAll ps Γ) x = lookupVar (bindAll ps Γ') x
  | [], _, _, h => h
  | p :: rest, Γ, Γ', h => by
    simp only [bindAll]
    exact lookupVar_bindAll_congr x rest _ _ (lookupVar_cons_congr p.1 p.2 h)

section
variable {S S' : Sig} (hf : ∀ c ty, fieldTys S' c ty = fieldTys S c ty)
  (hm : ∀ tr m s, methodTy S' tr m s = methodTy S tr m s)
  (hv : ∀ Γ x ty, errs S' Γ (.var x ty) = errs S Γ (.var x ty))

include hf hm hv in
mutual
/-- `errs` reads its signature only through `fieldTys`, `methodTy` and the check of variable nodes, and its context
    only at the names of the expression.  Used as `errs_agree` (one signature) and as `errs_hdr` (function tables
    with the same headers, `Lemmas/C03presAnfSig.lean`). -/
theorem errs_congr : ∀ (e : Expr) (Γ Γ' : TyEnv),
    (∀ x ∈ names e, lookupVar Γ x = lookupVar Γ' x) → errs S' Γ e = errs S Γ' e
  | .var x ty, Γ, Γ', h => by
    rw [hv]
    simp only [errs]
    rw [h x (by simp [names])]
  | .prim _, _, _, _ | .tag _ _, _, _, _ => rfl
  | .constr _ _ args, Γ, Γ', h | .tuple _ args, Γ, Γ', h | .array _ args, Γ, Γ', h => by
    simp only [errs, hf]
    rw [errsList_congr args Γ Γ' (fun x hx => h x (by simpa [names] using hx))]
  | .closure ty ps body, Γ, Γ', h => by
    simp only [errs]
    rw [errs_congr body (bindAll ps Γ) (bindAll ps Γ')
      (fun x hx => lookupVar_bindAll_congr x ps Γ Γ' (h x (by simp [names, hx])))]
  | .letE y v b, Γ, Γ', h => by
    simp only [errs]
    rw [errs_congr v Γ Γ' (fun x hx => h x (by simp [names, hx])),
      errs_congr b ((y, Mono.getTy v) :: Γ) ((y, Mono.getTy v) :: Γ')
        (fun x hx => lookupVar_cons_congr y _ (h x (by simp [names, hx])))]
  | .matchE ty s arms none, Γ, Γ', h => by
    simp only [errs]
    rw [errs_congr s Γ Γ' (fun x hx => h x (by simp [names, hx])),
      errsArms_congr arms Γ Γ' _ _ (fun x hx => h x (by simp [names, hx]))]
  | .matchE ty s arms (some d), Γ, Γ', h => by
    simp only [errs]
    rw [errs_congr s Γ Γ' (fun x hx => h x (by simp [names, hx])),
      errsArms_congr arms Γ Γ' _ _ (fun x hx => h x (by simp [names, hx])),
      errs_congr d Γ Γ' (fun x hx => h x (by simp [names, namesDflt, hx]))]
  | .ite c t e, Γ, Γ', h => by
    simp only [errs]
    rw [errs_congr c Γ Γ' (fun x hx => h x (by simp [names, hx])),
      errs_congr t Γ Γ' (fun x hx => h x (by simp [names, hx])),
      errs_congr e Γ Γ' (fun x hx => h x (by simp [names, hx]))]
  | .while l r, Γ, Γ', h | .bin _ _ l r, Γ, Γ', h => by
    simp only [errs]
    rw [errs_congr l Γ Γ' (fun x hx => h x (by simp [names, hx])),
      errs_congr r Γ Γ' (fun x hx => h x (by simp [names, hx]))]
  | .go e, Γ, Γ', h | .cget _ _ _ e, Γ, Γ', h | .un _ _ e, Γ, Γ', h | .toDyn _ _ _ e, Γ, Γ', h
  | .proj _ _ e, Γ, Γ', h => by
    simp only [errs, hf]
    rw [errs_congr e Γ Γ' (fun x hx => h x (by simpa [names] using hx))]
  | .call _ f args, Γ, Γ', h | .dynCall _ _ _ f args, Γ, Γ', h | .traitCall _ _ _ f args, Γ, Γ', h => by
    simp only [errs, hm]
    rw [errs_congr f Γ Γ' (fun x hx => h x (by simp [names, hx])),
      errsList_congr args Γ Γ' (fun x hx => h x (by simp [names, hx]))]
termination_by structural e => e
theorem errsList_congr : ∀ (es : List Expr) (Γ Γ' : TyEnv),
    (∀ x ∈ namesList es, lookupVar Γ x = lookupVar Γ' x) → errsList S' Γ es = errsList S Γ' es
  | [], _, _, _ => rfl
  | e :: rest, Γ, Γ', h => by
    simp only [errsList]
    rw [errs_congr e Γ Γ' (fun x hx => h x (by simp [namesList, hx])),
      errsList_congr rest Γ Γ' (fun x hx => h x (by simp [namesList, hx]))]
termination_by structural es => es
theorem errsArms_congr : ∀ (arms : List Arm) (Γ Γ' : TyEnv) (st rt : Ty),
    (∀ x ∈ namesArms arms, lookupVar Γ x = lookupVar Γ' x) → errsArms S' Γ st rt arms = errsArms S Γ' st rt arms
  | [], _, _, _, _, _ => rfl
  | .mk lhs body :: rest, Γ, Γ', st, rt, h => by
    simp only [errsArms, hf]
    rw [errs_congr body Γ Γ' (fun x hx => h x (by simp [namesArms, hx])),
      errsArms_congr rest Γ Γ' st rt (fun x hx => h x (by simp [namesArms, hx]))]
termination_by structural arms => arms
end
end

variable (S : Sig)

theorem errs_agree : ∀ (e : Expr) (Γ Γ' : TyEnv),
    (∀ x ∈ names e, lookupVar Γ x = lookupVar Γ' x) → errs S Γ e = errs S Γ' e :=
  errs_congr (fun _ _ => rfl) (fun _ _ _ => rfl) (fun _ _ _ => rfl)
theorem errsList_agree : ∀ (es : List Expr) (Γ Γ' : TyEnv),
    (∀ x ∈ namesList es, lookupVar Γ x = lookupVar Γ' x) → errsList S Γ es = errsList S Γ' es :=
  errsList_congr (fun _ _ => rfl) (fun _ _ _ => rfl) (fun _ _ _ => rfl)
theorem errsArms_agree : ∀ (arms : List Arm) (Γ Γ' : TyEnv) (st rt : Ty),
    (∀ x ∈ namesArms arms, lookupVar Γ x = lookupVar Γ' x) → errsArms S Γ st rt arms = errsArms S Γ' st rt arms :=
  errsArms_congr (fun _ _ => rfl) (fun _ _ _ => rfl) (fun _ _ _ => rfl)

/-! ### typing a chain of bindings -/

/-- the context after the bindings of `L` -/
def extΓ : Binds → TyEnv → TyEnv
  | [], Γ => Γ
  | (x, v) :: L, Γ => extΓ L ((x, Mono.getTy v) :: Γ)

/-- the inconsistencies of the right-hand sides of `L`, each in the context of the bindings before it -/
def errsB (S : Sig) : TyEnv → Binds → List String
  | _, [] => []
  | Γ, (x, v) :: L => errs S Γ v ++ errsB S ((x, Mono.getTy v) :: Γ) L

theorem extΓ_append : ∀ (L1 L2 : Binds) (Γ : TyEnv), extΓ (L1 ++ L2) Γ = extΓ L2 (extΓ L1 Γ)
  | [], _, _ => rfl
  | (x, v) :: L1, L2, Γ => by simp only [List.cons_append, extΓ]; exact extΓ_append L1 L2 _

theorem errsB_append : ∀ (L1 L2 : Binds) (Γ : TyEnv),
    errsB S Γ (L1 ++ L2) = errsB S Γ L1 ++ errsB S (extΓ L1 Γ) L2
  | [], _, _ => rfl
  | (x, v) :: L1, L2, Γ => by
    simp only [List.cons_append, errsB, extΓ, errsB_append L1 L2, List.append_assoc]

theorem errs_wrap : ∀ (L : Binds) (c : Expr) (Γ : TyEnv),
    errs S Γ (wrap L c) = errsB S Γ L ++ errs S (extΓ L Γ) c
  | [], _, _ => rfl
  | (x, v) :: L, c, Γ => by simp only [wrap, errs, errsB, extΓ, errs_wrap L c, List.append_assoc]

theorem getTy_wrap : ∀ (L : Binds) (c : Expr), Mono.getTy (wrap L c) = Mono.getTy c
  | [], _ => rfl
  | (x, v) :: L, c => by simp only [wrap, Mono.getTy]; exact getTy_wrap L c

theorem lookup_extΓ : ∀ (L : Binds) (Γ : TyEnv) (x : String), x ∉ keys L → lookupVar (extΓ L Γ) x = lookupVar Γ x
  | [], _, _, _ => rfl
  | (y, v) :: L, Γ, x, h => by
    simp only [keys_cons, List.mem_cons, not_or] at h
    simp only [extΓ]
    rw [lookup_extΓ L _ x h.2, lookupVar_cons]
    have : (y == x) = false := by simpa using fun e => h.1 e.symm
    simp [this]

def AgreeT (D : List String) (Γ Γ' : TyEnv) : Prop := ∀ x, x ∉ D → lookupVar Γ x = lookupVar Γ' x

theorem AgreeT.ext {D : List String} {Γ Γ' : TyEnv} (h : AgreeT D Γ Γ') (L : Binds) :
    AgreeT (D ++ keys L) Γ (extΓ L Γ') := by
  intro x hx
  simp only [List.mem_append, not_or] at hx
  rw [lookup_extΓ L Γ' x hx.2]; exact h x hx.1

theorem AgreeT.cons {D : List String} {Γ Γ' : TyEnv} (h : AgreeT D Γ Γ') (y : String) (t : Ty) :
    AgreeT D ((y, t) :: Γ) ((y, t) :: Γ') := fun x hx => lookupVar_cons_congr y t (h x hx)

theorem AgreeT.mono {D D' : List String} {Γ Γ' : TyEnv} (h : AgreeT D Γ Γ') (hD : ∀ x, x ∈ D → x ∈ D') :
    AgreeT D' Γ Γ' := fun x hx => h x (fun hd => hx (hD x hd))

theorem errs_of_agree {D : List String} {Γ Γ' : TyEnv} {e : Expr} (ha : AgreeT D Γ Γ')
    (hd : ∀ x ∈ names e, x ∉ D) (h : errs S Γ e = []) : errs S Γ' e = [] := by
  rw [← errs_agree S e Γ Γ' (fun x hx => ha x (hd x hx))]; exact h

/-! ### the arms and the default of a `match`, from `HypA` -/

/-- the side conditions on the arms alone, in the form `WTA` and `SCA` take them -/
theorem hypA_arms {D : List String} {arms : List Arm} {d : Option Expr} {n N : Nat} (hy : HypA D arms d n N) :
    fragArms arms = true ∧ (∀ x ∈ namesArms arms, x ∉ D) ∧
      (∀ m, n ≤ m → m < N → tmpName m ∉ namesArms arms) ∧ (anfArms arms n).2 ≤ N :=
  ⟨hy.fragA, fun x hx => hy.dis x (by simp [hx]), fun m a b hm => hy.fresh m a b (by simp [hm]),
    Nat.le_trans (anfDflt_mono d _) hy.bound⟩

theorem hypA_none {D : List String} {arms : List Arm} {n N : Nat} (hf : fragArms arms = true)
    (hd : ∀ x ∈ namesArms arms, x ∉ D) (hfr : ∀ m, n ≤ m → m < N → tmpName m ∉ namesArms arms)
    (hb : (anfArms arms n).2 ≤ N) : HypA D arms none n N :=
  ⟨hf, rfl, by simpa [namesDflt] using hd, by simpa [namesDflt] using hfr, hb⟩

/-- the default is transformed after the arms -/
theorem hypA_dflt {D : List String} {arms : List Arm} {d : Option Expr} {n N : Nat} (hy : HypA D arms d n N) :
    HypD D d (anfArms arms n).2 N :=
  ⟨hy.fragD, fun x hx => hy.dis x (by simp [hx]),
    fun m a b hm => hy.fresh m (Nat.le_trans (anfArms_mono arms n) a) b (by simp [hm]), hy.bound⟩

/-- an expression in non-tail position: the invariant of the file header -/
def WT (e : Expr) : Prop :=
  ∀ (n N : Nat) (D : List String) (Γ Γ' : TyEnv), Hyp D e n N → AgreeT D Γ Γ' → errs S Γ e = [] →
    errsB S Γ' (dec e n).L = [] ∧ errs S (extΓ (dec e n).L Γ') (dec e n).c = [] ∧
      Mono.getTy (dec e n).c = Mono.getTy e

/-- a branch / loop part / function body -/
def WTTop (e : Expr) : Prop :=
  ∀ (n N : Nat) (D : List String) (Γ Γ' : TyEnv), Hyp D e n N → AgreeT D Γ Γ' → errs S Γ e = [] →
    errs S Γ' (anf e n ret).1 = [] ∧ Mono.getTy (anf e n ret).1 = Mono.getTy e

/-- an operand: the atom that stands for it has the operand's type in the extended context -/
def WTImm (e : Expr) : Prop :=
  ∀ (n N : Nat) (D : List String) (Γ Γ' : TyEnv),
    frag e = true → (∀ x ∈ names e, x ∉ D) → (∀ m, n ≤ m → m < N → tmpName m ∉ names e) →
    (decImm e n).n ≤ N → AgreeT D Γ Γ' → errs S Γ e = [] →
    errsB S Γ' (decImm e n).L = [] ∧ errs S (extΓ (decImm e n).L Γ') (decImm e n).c = [] ∧
      Mono.getTy (decImm e n).c = Mono.getTy e

def WTL (es : List Expr) : Prop :=
  ∀ (n N : Nat) (D : List String) (Γ Γ' : TyEnv), HypL D es n N → AgreeT D Γ Γ' → errsList S Γ es = [] →
    errsB S Γ' (decList es n).L = [] ∧ errsList S (extΓ (decList es n).L Γ') (decList es n).cs = [] ∧
      Mono.getTys (decList es n).cs = Mono.getTys es

theorem wt_top {e : Expr} (h : WT S e) : WTTop S e := by
  intro n N D Γ Γ' hy ha he
  obtain ⟨hchain, hcore, hty⟩ := h n N D Γ Γ' hy ha he
  rw [anf_ret]
  simp only [errs_wrap, getTy_wrap, hchain, hcore, hty, List.append_nil, and_self]

theorem wt_imm {e : Expr} (h : WT S e) : WTImm S e := by
  intro n N D Γ Γ' hf hd hfr hb ha he
  cases hat : isAtom e
  · rw [decImm_nonatom hat] at hb ⊢
    simp only at hb ⊢
    have hy : Hyp D e (n+1) N := ⟨hf, hd, fun m h1 h2 => hfr m (by omega) h2, hb⟩
    obtain ⟨hchain, hcore, hty⟩ := h (n+1) N D Γ Γ' hy ha he
    refine ⟨?_, ?_, ?_⟩
    · rw [errsB_append, hchain]; simp [errsB, hcore]
    · rw [extΓ_append]
      refine errs_var.2 (.inl ?_)
      simp only [extΓ, lookupVar_cons, beq_self_eq_true, if_true]
      rw [hty, tyOf_eq_getTy]
    · simp only [Mono.getTy]; exact tyOf_eq_getTy e
  · rw [decImm_atom hat]
    exact ⟨rfl, errs_of_agree S ha hd he, rfl⟩

theorem wtL_nil : WTL S [] := by
  intro n N D Γ Γ' _ _ _
  exact ⟨rfl, rfl, rfl⟩

theorem wtL_cons {e : Expr} {rest : List Expr} (he : WTImm S e) (hr : WTL S rest) : WTL S (e :: rest) := by
  intro n N D Γ Γ' hy ha hev
  obtain ⟨hie, hyt⟩ := hypL_cons hy
  have hf := hy.frag
  simp only [fragList, Bool.and_eq_true] at hf
  obtain ⟨hev1, hev2⟩ := errsList_cons.1 hev
  obtain ⟨echain, ecore, ety⟩ := he n N D Γ Γ' hie.frag hie.dis hie.fresh hie.bound ha hev1
  obtain ⟨rchain, rcore, rty⟩ := hr _ N _ Γ _ hyt (ha.ext (decImm e n).L) hev2
  -- `decList (e :: rest) n` unfolds to the body of `decImm`; the `show` folds it back
  show errsB S Γ' ((decImm e n).L ++ (decList rest (decImm e n).n).L) = [] ∧
    errsList S (extΓ ((decImm e n).L ++ (decList rest (decImm e n).n).L) Γ')
      ((decImm e n).c :: (decList rest (decImm e n).n).cs) = [] ∧
    Mono.getTys ((decImm e n).c :: (decList rest (decImm e n).n).cs) = Mono.getTys (e :: rest)
  refine ⟨by rw [errsB_append, echain, rchain]; rfl, ?_, by simp only [Mono.getTys, ety, rty]⟩
  rw [extΓ_append]
  refine errsList_cons.2 ⟨?_, rcore⟩
  rw [errs_agree S _ _ (extΓ (decImm e n).L Γ')
    (fun x hx => lookup_extΓ _ _ x (imm_not_rebound hf.2 hy.fresh hyt.bound x hx))]
  exact ecore

/-- a node that names its operands left to right and then checks its annotation against their types -/
theorem wt_ops {e : Expr} {ops : List Expr} {mk : List Expr → Expr}
    (hL : WTL S ops)
    (hdec : ∀ n, (dec e n).L = (decList ops n).L ∧ (dec e n).c = mk (decList ops n).cs)
    (hhyp : ∀ D n N, Hyp D e n N → HypL D ops n N)
    (hsrc : ∀ Γ, errs S Γ e = [] → errsList S Γ ops = [])
    (htgt : ∀ Γ Γ1 cs, errs S Γ e = [] → errsList S Γ1 cs = [] → Mono.getTys cs = Mono.getTys ops →
      errs S Γ1 (mk cs) = [] ∧ Mono.getTy (mk cs) = Mono.getTy e) : WT S e := by
  intro n N D Γ Γ' hy ha he
  obtain ⟨hd1, hd2⟩ := hdec n
  rw [hd1, hd2]
  obtain ⟨hchain, hcore, hty⟩ := hL n N D Γ Γ' (hhyp D n N hy) ha (hsrc Γ he)
  obtain ⟨hmk, hmkty⟩ := htgt Γ _ _ he hcore hty
  exact ⟨hchain, hmk, hmkty⟩

theorem hypL_single {D : List String} {e0 e : Expr} {n N : Nat} (hfrag : frag e0 = frag e) (hnames : names e0 = names e)
    (hdec : (dec e0 n).n = (decImm e n).n) (hy : Hyp D e0 n N) : HypL D [e] n N := by
  obtain ⟨hf, hd, hfr, hb⟩ := hy
  rw [hfrag] at hf; rw [hnames] at hd hfr
  refine ⟨by simp [fragList, hf, bndList, namesList, disj_nil_left, disj_nil_right], by simpa [namesList] using hd,
    by simpa [namesList] using hfr, ?_⟩
  rw [hdec] at hb
  simpa [decList, decImm] using hb

theorem getTys_single {cs : List Expr} {e : Expr} (h : Mono.getTys cs = Mono.getTys [e]) :
    ∃ i, cs = [i] ∧ Mono.getTy i = Mono.getTy e := by
  match cs, h with
  | [i], h => simp only [Mono.getTys, List.cons.injEq, and_true] at h; exact ⟨i, rfl, h⟩
  | [], h => simp [Mono.getTys] at h
  | _ :: _ :: _, h => simp [Mono.getTys] at h

/-- one operand, then a head whose rule `hrule` reads only the operand's type -/
theorem wt_op1 {e : Expr} {mk1 : Expr → Expr} {P : Ty → Prop} (he : WT S e)
    (hdec : ∀ n, dec (mk1 e) n = ⟨(decImm e n).L, mk1 (decImm e n).c, (decImm e n).n⟩)
    (hfrag : frag (mk1 e) = frag e) (hnames : names (mk1 e) = names e)
    (hty : ∀ i, Mono.getTy (mk1 i) = Mono.getTy (mk1 e))
    (hrule : ∀ Γ i, errs S Γ (mk1 i) = [] ↔ errs S Γ i = [] ∧ P (Mono.getTy i)) : WT S (mk1 e) := by
  intro n N D Γ Γ' hy ha hev
  obtain ⟨hf, hd, hfr, hb⟩ := hy
  rw [hdec] at hb ⊢
  simp only at hb ⊢
  rw [hfrag] at hf; rw [hnames] at hd hfr
  obtain ⟨hs, hP⟩ := (hrule Γ e).1 hev
  obtain ⟨echain, ecore, ety⟩ := wt_imm S he n N D Γ Γ' hf hd hfr hb ha hs
  exact ⟨echain, (hrule _ _).2 ⟨ecore, by rw [ety]; exact hP⟩, hty _⟩

/-- the Lift stage has no `tag`, `closure` or `traitCall` node: `frag` is `false` on them -/
theorem hyp_absurd {D : List String} {e : Expr} {n N : Nat} (h : frag e = false) (hy : Hyp D e n N) : False := by
  have := hy.frag
  rw [h] at this
  cases this

end Goml.Anf
