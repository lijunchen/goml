import GomlVerif.Lemmas.C06Lits
/-!
`plan` is read twice: `plan_cases` (the four ways it succeeds, with what makes a literal switch exhaustive) for the meaning, and
from it `plan_branches` for what does not look at values — termination, properties of the output tree, scoping.
`compileRows_induct` is the induction over `compile_rows` all of them use but termination (`compileRows_total` speaks of calls
that have not returned, so it walks `compileRows` itself).
-/
namespace Goml.Match
open Goml Goml.Sem

variable {β : Type}

theorem foldl_max_mem (f : String → Nat) : ∀ (xs : List String) (acc : String),
    xs.foldl (fun acc y => if f acc > f y then acc else y) acc ∈ acc :: xs := by
  intro xs
  induction xs with
  | nil => intro acc; simp
  | cons x xs ih =>
    intro acc
    simp only [List.foldl_cons]
    have := ih (if f acc > f x then acc else x)
    rcases List.mem_cons.mp this with h | h
    · rw [h]; split <;> simp
    · simp [h]

theorem lastMaxBy_mem {f : String → Nat} {l : List String} {x : String} (h : lastMaxBy f l = some x) :
    x ∈ l := by
  cases l with
  | nil => simp [lastMaxBy] at h
  | cons a as =>
    simp only [lastMaxBy, Option.some.injEq] at h
    rw [← h]
    exact foldl_max_mem f as a

theorem colTy_spec (x : String) : ∀ (cols : List (String × Pat)) (acc : Option Ty) (t : Ty),
    colTy x cols acc = some t → acc = some t ∨ ∃ p, (x, p) ∈ cols ∧ p.ty = t := by
  intro cols
  induction cols with
  | nil => intro acc t h; exact Or.inl h
  | cons c cs ih =>
    intro acc t h
    simp only [colTy] at h
    rcases ih _ t h with h' | ⟨p, hp, ht⟩
    · split at h'
      · rename_i hc
        right
        refine ⟨c.2, ?_, by simpa using h'⟩
        rw [← hc]; simp
      · exact Or.inl h'
    · exact Or.inr ⟨p, by simp [hp], ht⟩

theorem branchVar_spec {r0 : Row β} {rest : List (Row β)} {bv : String} {bty : Ty}
    (h : branchVar (r0 :: rest) = some (bv, bty)) :
    (∃ p, (bv, p) ∈ r0.cols) ∧ ∃ r ∈ r0 :: rest, ∃ p, (bv, p) ∈ r.cols ∧ p.ty = bty := by
  simp only [branchVar] at h
  split at h
  · cases h
  · rename_i x hx
    split at h
    · rename_i t ht
      cases h
      constructor
      · have := lastMaxBy_mem hx
        obtain ⟨c, hc, rfl⟩ := List.mem_map.mp this
        exact ⟨c.2, hc⟩
      · rcases colTy_spec _ _ _ _ ht with h' | ⟨p, hp, hpt⟩
        · cases h'
        · simp only [allCols, List.mem_flatMap] at hp
          obtain ⟨r, hr, hpr⟩ := hp
          exact ⟨r, hr, p, hpr, hpt⟩
    · cases h

theorem removeCol_of_mem {x : String} {p : Pat} : ∀ {cols : List (String × Pat)}, (x, p) ∈ cols →
    ∃ q cs, removeCol x cols = some (q, cs) := by
  intro cols
  induction cols with
  | nil => intro h; cases h
  | cons c cs ih =>
    intro h
    simp only [removeCol]
    split
    · exact ⟨_, _, rfl⟩
    · rename_i hne
      rcases List.mem_cons.mp h with h | h
      · exact absurd (by rw [← h]) hne
      · obtain ⟨q, cs', e⟩ := ih h
        rw [e]
        exact ⟨_, _, rfl⟩

/-- what `compileRows_good` says of `rec = compileRows S fuel ty` (temporaries are named from `[n, n')`) -/
def Good (S : Sig) (rec : Nat → List (Row β) → Option (M (DT β × Nat))) : Prop :=
  ∀ n rows t n', rec n rows = some (.ok (t, n')) → n ≤ n' ∧ SoundAt S n n' rows t

theorem litKeys_spec {okP : Prim → Bool} {bv : String} : ∀ (rows : List (Row β)) (keys : List Prim),
    litKeys okP bv rows = .ok keys →
    (∀ k ∈ keys, okP k = true) ∧
    (∀ r ∈ rows, ∀ p t cs, removeCol bv r.cols = some (.prim p t, cs) → p ∈ keys) := by
  intro rows
  induction rows with
  | nil => intro keys h; simp only [litKeys] at h; cases h; simp
  | cons r rs ih =>
    intro keys h
    simp only [litKeys] at h
    split at h
    · cases h
    · rename_i ks hks
      obtain ⟨i1, i2⟩ := ih ks hks
      split at h
      · rename_i hr
        cases h
        refine ⟨i1, ?_⟩
        intro r' hr' p t cs hrc
        rcases List.mem_cons.mp hr' with rfl | hr'
        · rw [hr] at hrc; cases hrc
        · exact i2 r' hr' p t cs hrc
      · rename_i p0 t0 cs0 hr
        split at h
        · rename_i hp0
          cases h
          constructor
          · intro k hk
            rcases List.mem_cons.mp hk with rfl | hk
            · exact hp0
            · exact i1 k (List.mem_filter.mp hk).1
          · intro r' hr' p t cs hrc
            rcases List.mem_cons.mp hr' with rfl | hr'
            · rw [hr] at hrc; cases hrc; simp
            · have := i2 r' hr' p t cs hrc
              by_cases hpp : p = p0
              · simp [hpp]
              · exact List.mem_cons_of_mem _ (List.mem_filter.mpr ⟨this, by simpa using hpp⟩)
        · cases h
      · cases h

theorem specLit_okP {okP : Prim → Bool} {bv : String} {k : Prim} {r : Row β} {o : Option (Row β)}
    (h : specLit okP bv k r = .ok o) {q : Pat} {cs : List (String × Pat)}
    (hr : removeCol bv r.cols = some (q, cs)) : ∃ p t, q = .prim p t ∧ okP p = true := by
  rcases (specLit_exp h).first hr with ⟨ps, hps⟩ | ⟨p, t, e, hp, _⟩
  · obtain ⟨t, e, hk, _⟩ := litSub_some hps
    exact ⟨k, t, e, hk⟩
  · exact ⟨p, t, e, hp⟩

theorem specDflt_okP {okP : Prim → Bool} {bv : String} {r : Row β} {o : Option (Row β)}
    (h : specDflt okP bv r = .ok o) {q : Pat} {cs : List (String × Pat)}
    (hr : removeCol bv r.cols = some (q, cs)) : ∃ p t, q = .prim p t ∧ okP p = true := by
  rcases (specDflt_exp h).first hr with ⟨ps, hps⟩ | hd
  · cases hps
  · exact hd

/-- what a successful `litPlan` returns: one bucket per key (`subs`), and after them the default bucket `d?` if the switch
    has one -/
structure LitPlanOk (okP : Prim → Bool) (n : Nat) (bv : String) (subTy : Ty) (keys : List Prim) (dflt : Bool)
    (rows : List (Row β)) (subs : List (List (Row β))) (d? : Option (List (Row β))) (pl : Plan β) : Prop where
  perKey : All2 (fun k s => filterMapE (specLit okP bv k) rows = .ok s) keys subs
  dflt_ok : ∀ d, d? = some d → filterMapE (specDflt okP bv) rows = .ok d
  isSome : d?.isSome = dflt
  plan_eq : pl = ⟨.lits keys dflt, n, subs ++ d?.toList, subTy⟩

theorem litPlan_cases {okP : Prim → Bool} {n : Nat} {bv : String} {subTy : Ty} {keys : List Prim} {dflt : Bool}
    {rows : List (Row β)} {pl : Plan β} (h : litPlan okP n bv subTy keys dflt rows = .ok pl) :
    ∃ subs d?, LitPlanOk okP n bv subTy keys dflt rows subs d? pl := by
  unfold litPlan at h
  split at h
  · cases h
  · rename_i subs hsubs
    have hks := mapE_all2 _ keys subs hsubs
    cases dflt with
    | true =>
      simp only [if_true] at h
      split at h
      · cases h
      · rename_i d hd
        cases h
        exact ⟨subs, some d, hks, fun _ e => by cases e; exact hd, rfl, rfl⟩
    | false =>
      simp only [Bool.false_eq_true, if_false] at h
      cases h
      exact ⟨subs, none, hks, fun _ e => (nomatch e), rfl, (List.append_nil subs).symm ▸ rfl⟩

theorem litPlan_n1 {okP : Prim → Bool} {n : Nat} {bv : String} {subTy : Ty} {keys : List Prim} {dflt : Bool}
    {rows : List (Row β)} {pl : Plan β} (hpl : litPlan okP n bv subTy keys dflt rows = .ok pl) : pl.n1 = n := by
  obtain ⟨_, _, h⟩ := litPlan_cases hpl
  rw [h.plan_eq]

/-- a literal switch is sound: `litCases_sound` on the buckets `litPlan` made -/
theorem litPlan_sound (S : Sig) (hinj : ∀ i j, S.gen i = S.gen j → i = j) {okP : Prim → Bool} (hu : OkUnique okP)
    {n : Nat} {bv : String} {subTy : Ty} {keys : List Prim} {dflt : Bool} {rows : List (Row β)} {pl : Plan β}
    (hpl : litPlan okP n bv subTy keys dflt rows = .ok pl) (hkeys : ∀ k ∈ keys, okP k = true)
    (hcomplete : ∀ r ∈ rows, ∀ p t cs, removeCol bv r.cols = some (.prim p t, cs) → p ∈ keys) :
    ∀ n' ts, n ≤ n' → All2 (SoundAt S n n') pl.subs ts → ∀ bodyTy bty,
      leavesOK (build bodyTy bv bty pl.shape ts) = true → ∀ ρ, Inv S n ρ rows → (∀ j, n ≤ j → S.gen j ≠ bv) →
      (dflt = false → ∃ k ∈ keys, litMatches k (lookupVar ρ bv) = true) →
      SoundR S.gen n n' ρ rows ((build bodyTy bv bty pl.shape ts).eval ρ) := by
  obtain ⟨subs, d?, h⟩ := litPlan_cases hpl
  obtain rfl := h.isSome
  obtain rfl := h.plan_eq
  intro n' ts hn hts bodyTy bty hok ρ hinv hbv hcov
  simp only [build, leavesOK] at hok
  simp only [build, DT.eval]
  exact litCases_sound S hinj hu hn hinv hbv d? h.dflt_ok keys subs ts hkeys h.perKey hts
    (fun r hr p t cs hrc hp => absurd (hcomplete r hr p t cs hrc) hp) (fun e => hcov (by rw [e]; rfl)) hok

theorem litPlan_rows_ok {okP : Prim → Bool} {n : Nat} {bv : String} {subTy : Ty} {k : Prim}
    {keys : List Prim} {dflt : Bool} {rows : List (Row β)} {pl : Plan β}
    (hpl : litPlan okP n bv subTy (k :: keys) dflt rows = .ok pl) :
    ∀ r ∈ rows, ∃ o, specLit okP bv k r = .ok o := by
  obtain ⟨_, _, h⟩ := litPlan_cases hpl
  cases h.perKey with
  | cons hs _ => exact filterMapE_ok hs

theorem conf_prim_val {S : Sig} {p : Prim} {t : Ty} {v : Val} (h : conf S (.prim p t) v = true) :
    (valEq (primVal p) v).isSome = true := by simpa [conf] using h

theorem conf_enum_isEnumV {S : Sig} {a b : String} {i : Nat} {args : List Pat} {ty : Ty} {v : Val}
    (h : conf S (.constr (.enum a b i) args ty) v = true) : ∃ tn i' vs, v = .enumV tn i' vs := by
  cases v <;> simp [conf] at h
  exact ⟨_, _, _, rfl⟩

theorem enumName_of_kind {bty : Ty} {name : String} {targs : List Ty} (h : kindOf bty = .enumK name targs) :
    enumName bty = some name := by
  unfold kindOf at h
  split at h <;> cases h <;> rfl

theorem structName_of_kind {bty : Ty} {name : String} {targs : List Ty} (h : kindOf bty = .structK name targs) :
    structName bty = some name := by
  unfold kindOf at h
  split at h <;> cases h <;> rfl

theorem tuple_of_kind {bty : Ty} {typs : List Ty} (h : kindOf bty = .tupleK typs) : bty = .tuple typs := by
  unfold kindOf at h
  split at h <;> cases h <;> rfl

theorem conf_enumV_arity {S : Sig} {p : Pat} {tn : String} {i : Nat} {vs : List Val} {name : String}
    {d : EnumDef} (h : conf S p (.enumV tn i vs) = true) (hnv : isVarOrWild p = false)
    (hname : enumName p.ty = some name) (hd : findEnum S name = some d) :
    ∃ vr, d.variants[i]? = some vr ∧ vr.2.length = vs.length := by
  cases p with
  | wild t => simp [isVarOrWild] at hnv
  | var x t => simp [isVarOrWild] at hnv
  | prim q t => cases q <;> simp [conf, valEq, primVal] at h
  | tuple ps t => simp [conf] at h
  | constr c ps t =>
    simp only [Pat.ty] at hname
    cases c with
    | struct sn => simp [conf] at h
    | enum a b idx =>
      simp only [conf, hname, Option.bind_some, hd] at h
      split at h
      · rename_i vr hvr
        simp only [Bool.and_eq_true, decide_eq_true_eq] at h
        exact ⟨vr, hvr, h.1⟩
      · simp at h

theorem conf_tuple_val {S : Sig} {q : Pat} {ps : List Pat} {typs : List Ty} {v : Val} (hq : tupleItems q = some ps)
    (hty : q.ty = .tuple typs) (h : conf S q v = true) : ∃ vs, v = .tuple vs ∧ typs.length = vs.length := by
  obtain ⟨ty, rfl⟩ := tupleItems_some hq
  simp only [Pat.ty] at hty
  subst hty
  cases v <;> simp [conf] at h
  exact ⟨_, rfl, h.1.1⟩

theorem conf_struct_val {S : Sig} {q : Pat} {ps : List Pat} {name : String} {d : StructDef} {v : Val}
    (hq : structArgs q = some ps) (hname : structName q.ty = some name) (hd : findStruct S name = some d)
    (h : conf S q v = true) : ∃ tn vs, v = .structV tn vs ∧ d.fields.length = vs.length := by
  obtain ⟨sn, ty, rfl⟩ := structArgs_some hq
  simp only [Pat.ty] at hname
  cases v <;> simp [conf] at h
  simp only [hname, Option.bind_some, hd, Bool.and_eq_true, decide_eq_true_eq] at h
  exact ⟨_, _, rfl, h.1.1⟩

theorem specEnum_pat {bv : String} {nv idx : Nat} {names : List String} {r : Row β} {o : Option (Row β)}
    (h : specEnum bv nv idx names r = .ok o) {q : Pat} {cs : List (String × Pat)}
    (hr : removeCol bv r.cols = some (q, cs)) : ∃ a b i args ty, q = .constr (.enum a b i) args ty := by
  rcases (specEnum_exp h).first hr with ⟨ps, hps⟩ | ⟨a, b, i, args, ty, e, _⟩
  · obtain ⟨a, b, ty, e⟩ := enumSub_some hps
    exact ⟨a, b, idx, ps, ty, e⟩
  · exact ⟨a, b, i, args, ty, e⟩

/-- what makes a literal switch on `bv` exhaustive: the keys are literals of the right type, every literal a
    row tests is a key, and without a default bucket some key matches whatever value the column can hold -/
structure LitSwitch (S : Sig) (okP : Prim → Bool) (keys : List Prim) (dflt : Bool) (bv : String)
    (rows : List (Row β)) : Prop where
  unique : OkUnique okP
  keysOk : ∀ k ∈ keys, okP k = true
  complete : ∀ r ∈ rows, ∀ p t cs, removeCol bv r.cols = some (.prim p t, cs) → p ∈ keys
  cover : dflt = false → ∀ r ∈ rows, ∀ q cs v, removeCol bv r.cols = some (q, cs) → conf S q v = true →
    ∃ k ∈ keys, litMatches k v = true

/-- unit and bool: the keys are all the literals of the type -/
theorem litSwitch_of_all (S : Sig) {okP : Prim → Bool} {n : Nat} {bv : String} {subTy : Ty} {k : Prim}
    {keys : List Prim} {rows : List (Row β)} {pl : Plan β} (hu : OkUnique okP)
    (hpl : litPlan okP n bv subTy (k :: keys) false rows = .ok pl) (hkeys : ∀ k' ∈ k :: keys, okP k' = true)
    (hall : ∀ p, okP p = true → p ∈ k :: keys)
    (hcov : ∀ p v, okP p = true → (valEq (primVal p) v).isSome = true → ∃ k' ∈ k :: keys, litMatches k' v = true) :
    LitSwitch S okP (k :: keys) false bv rows := by
  have hprim : ∀ r ∈ rows, ∀ q cs, removeCol bv r.cols = some (q, cs) → ∃ p t, q = .prim p t ∧ okP p = true :=
    fun r hr q cs hrc => (litPlan_rows_ok hpl r hr).elim fun o ho => specLit_okP ho hrc
  refine ⟨hu, hkeys, ?_, fun _ r hr q cs v hrc hc => ?_⟩
  · intro r hr p t cs hrc
    obtain ⟨p', t', he, hp'⟩ := hprim r hr _ cs hrc
    cases he
    exact hall p hp'
  · obtain ⟨p', t', rfl, hp'⟩ := hprim r hr q cs hrc
    exact hcov p' v hp' (conf_prim_val hc)

/-- the four ways `plan S n bv bty ty rows` succeeds, with the plan each returns: a literal switch, one bucket per enum
    variant, or the one bucket of a destructured struct or tuple -/
inductive PlanCase (S : Sig) (n : Nat) (bv : String) (bty ty : Ty) (rows : List (Row β)) : Plan β → Prop where
  | lits {okP : Prim → Bool} {subTy : Ty} {keys : List Prim} {dflt : Bool} {pl : Plan β}
      (litPlan_ok : litPlan okP n bv subTy keys dflt rows = .ok pl) (switch : LitSwitch S okP keys dflt bv rows) :
      PlanCase S n bv bty ty rows pl
  | enum {name : String} {targs : List Ty} {d : EnumDef} {subs : List (List (Row β))}
      (kind : kindOf bty = .enumK name targs) (decl : findEnum S name = some d) (nonempty : d.variants ≠ [])
      (subs_ok : enumSubs bv d.variants.length rows
        (enumHeads S.gen name (d.generics.zip targs) n 0 d.variants).1 0 = .ok subs) :
      PlanCase S n bv bty ty rows ⟨.enumS (enumHeads S.gen name (d.generics.zip targs) n 0 d.variants).1,
        (enumHeads S.gen name (d.generics.zip targs) n 0 d.variants).2, subs, ty⟩
  | struct {name : String} {targs : List Ty} {d : StructDef} {s : List (Row β)}
      (kind : kindOf bty = .structK name targs) (decl : findStruct S name = some d)
      (sub_ok : filterMapE (specStruct bv (genNames S.gen n d.fields.length)) rows = .ok s) :
      PlanCase S n bv bty ty rows ⟨.structS (.struct name) ((genNames S.gen n d.fields.length).zip
        (substTys (d.generics.zip targs) (d.fields.map (·.2)))), n + d.fields.length, [s], ty⟩
  | tuple {typs : List Ty} {s : List (Row β)} (kind : kindOf bty = .tupleK typs)
      (sub_ok : filterMapE (specTuple bv (genNames S.gen n typs.length)) rows = .ok s) :
      PlanCase S n bv bty ty rows ⟨.tupleS ((genNames S.gen n typs.length).zip typs), n + typs.length, [s], ty⟩

theorem plan_cases (S : Sig) {n : Nat} {bv : String} {bty ty : Ty} {rows : List (Row β)} {pl : Plan β}
    (hplan : plan S n bv bty ty rows = .ok pl) : PlanCase S n bv bty ty rows pl := by
  unfold plan at hplan
  split at hplan
  · cases hplan
  · refine .lits hplan (litSwitch_of_all S okUnique_unit hplan (by simp [isUnitP]) ?_ ?_)
    · intro p hp; cases p <;> simp [isUnitP] at hp ⊢
    · intro p v hp hv
      cases p <;> simp [isUnitP] at hp
      cases v <;> simp [valEq, primVal] at hv
      exact ⟨.unit, by simp, rfl⟩
  · refine .lits hplan (litSwitch_of_all S okUnique_bool hplan ?_ ?_ ?_)
    · intro k hk; simp at hk; rcases hk with rfl | rfl <;> rfl
    · intro p hp; cases p <;> simp [isBoolP] at hp
      rename_i b; cases b <;> simp
    · intro p v hp hv
      cases p <;> simp [isBoolP] at hp
      cases v <;> simp [valEq, primVal] at hv
      rename_i b c
      refine ⟨.bool c, by cases c <;> simp, ?_⟩
      simp [litMatches, valEq, primVal]
  · rename_i b s _
    split at hplan
    · cases hplan
    · rename_i keys hkeys
      obtain ⟨k1, k2⟩ := litKeys_spec _ keys hkeys
      split at hplan
      · cases hplan
      · cases hplan
      · exact .lits hplan ⟨okUnique_int b s, k1, k2, fun h => Bool.noConfusion h⟩
  · split at hplan
    · cases hplan
    · rename_i keys hkeys
      obtain ⟨k1, k2⟩ := litKeys_spec _ keys hkeys
      exact .lits hplan ⟨okUnique_str, k1, k2, fun h => Bool.noConfusion h⟩
  · rename_i name targs hkind
    split at hplan
    · cases hplan
    · rename_i d hd
      split at hplan
      · cases hplan
      · rename_i hne
        dsimp only at hplan
        split at hplan
        · cases hplan
        · rename_i subs hsubs
          cases hplan
          exact .enum hkind hd (by simpa using hne) hsubs
  · rename_i name targs hkind
    split at hplan
    · cases hplan
    · rename_i d hd
      split at hplan
      · cases hplan
      · dsimp only at hplan
        split at hplan
        · cases hplan
        · rename_i s hs
          cases hplan
          exact .struct hkind hd hs
  · rename_i typs hkind
    dsimp only at hplan
    split at hplan
    · cases hplan
    · rename_i s hs
      cases hplan
      exact .tuple hkind hs

/-- the binders `build` puts in front of sub-tree number `i` (`k` sub-trees in a literal switch) -/
def shapeVars : Shape → Nat → List (List (String × Ty))
  | .lits _ _, k => List.replicate k []
  | .enumS hs, _ => hs.map (·.2)
  | .tupleS vars, _ => [vars]
  | .structS _ vars, _ => [vars]

/-- sub-matrix `i` of a plan on `bv : bty` with counter `n` to `n1`: the binders `vars` that `build` puts in front of
    its tree (generated names, typed as the declaration says) and the row step that made it -/
inductive Branch (S : Sig) (bv : String) (bty : Ty) (n n1 : Nat) :
    List (String × Ty) → (Row β → M (Option (Row β))) → Prop where
  | lit (okP : Prim → Bool) (k : Prim) : Branch S bv bty n n1 [] (specLit okP bv k)
  | dflt (okP : Prim → Bool) : Branch S bv bty n n1 [] (specDflt okP bv)
  | enum {name : String} {targs : List Ty} {d : EnumDef} {v : String × List Ty} (idx m : Nat) :
      kindOf bty = .enumK name targs → findEnum S name = some d → d.variants[idx]? = some v →
      n ≤ m → m + v.2.length ≤ n1 →
      Branch S bv bty n n1 ((genNames S.gen m v.2.length).zip (substTys (d.generics.zip targs) v.2))
        (specEnum bv d.variants.length idx (genNames S.gen m v.2.length))
  | struct {name : String} {targs : List Ty} {d : StructDef} :
      kindOf bty = .structK name targs → findStruct S name = some d → n + d.fields.length ≤ n1 →
      Branch S bv bty n n1
        ((genNames S.gen n d.fields.length).zip (substTys (d.generics.zip targs) (d.fields.map (·.2))))
        (specStruct bv (genNames S.gen n d.fields.length))
  | tuple {typs : List Ty} : kindOf bty = .tupleK typs → n + typs.length ≤ n1 →
      Branch S bv bty n n1 ((genNames S.gen n typs.length).zip typs) (specTuple bv (genNames S.gen n typs.length))

def BranchOf (S : Sig) (bv : String) (bty : Ty) (n n1 : Nat) (rows : List (Row β)) (vars : List (String × Ty))
    (sub : List (Row β)) : Prop :=
  ∃ f, Branch S bv bty n n1 vars f ∧ filterMapE f rows = .ok sub

theorem enumSubs_branches {S : Sig} {bv : String} {bty : Ty} {n n1 : Nat} {rows : List (Row β)}
    {name : String} {targs : List Ty} {d : EnumDef} (hk : kindOf bty = .enumK name targs)
    (hd : findEnum S name = some d) :
    ∀ (variants : List (String × List Ty)) (m idx : Nat) (subs : List (List (Row β))),
      n ≤ m → (enumHeads S.gen name (d.generics.zip targs) m idx variants).2 ≤ n1 →
      (∀ k, variants[k]? = d.variants[idx + k]?) →
      enumSubs bv d.variants.length rows (enumHeads S.gen name (d.generics.zip targs) m idx variants).1 idx = .ok subs →
      All2 (BranchOf S bv bty n n1 rows) ((enumHeads S.gen name (d.generics.zip targs) m idx variants).1.map (·.2))
        subs := by
  intro variants
  induction variants with
  | nil => intro m idx subs _ _ _ h; simp only [enumHeads, enumSubs] at h; cases h; exact .nil
  | cons v rest ih =>
    intro m idx subs hnm hn1 hv h
    simp only [enumHeads, enumSubs] at h hn1
    split at h
    · cases h
    · rename_i s hs
      split at h
      · cases h
      · rename_i rest' hrest
        cases h
        have hge := enumHeads_ge S.gen name (d.generics.zip targs) rest (m + v.2.length) (idx + 1)
        rw [List.map_fst_zip (by rw [genNames_length, substTys_length]; exact Nat.le_refl _)] at hs
        refine .cons ⟨_, .enum idx m hk hd (by simpa using (hv 0).symm) hnm (by omega), hs⟩
          (ih _ _ rest' (by omega) hn1 (fun k => ?_) hrest)
        have := hv (k + 1)
        simp only [List.getElem?_cons_succ] at this
        rw [this]; congr 1; omega

theorem plan_branches (S : Sig) {n : Nat} {bv : String} {bty ty : Ty} {rows : List (Row β)} {pl : Plan β}
    (hplan : plan S n bv bty ty rows = .ok pl) :
    All2 (BranchOf S bv bty n pl.n1 rows) (shapeVars pl.shape pl.subs.length) pl.subs := by
  cases plan_cases S hplan with
  | @lits okP _ _ _ _ hpl _ =>
    obtain ⟨subs, d?, h⟩ := litPlan_cases hpl
    obtain rfl := h.plan_eq
    refine all2_replicate_intro _ (fun sub (hsub : sub ∈ subs ++ d?.toList) => ?_)
    rcases List.mem_append.mp hsub with hsub | hsub
    · obtain ⟨k, _, hk⟩ := h.perKey.exists_of_mem_right sub hsub
      exact ⟨_, .lit okP k, hk⟩
    · exact ⟨_, .dflt okP, h.dflt_ok sub (Option.mem_toList.mp hsub)⟩
  | @enum _ _ d subs hk hd _ hsubs =>
    exact enumSubs_branches hk hd d.variants n 0 subs (Nat.le_refl _) (Nat.le_refl _) (fun k => by simp) hsubs
  | struct hk hd hs => exact .cons ⟨_, .struct hk hd (Nat.le_refl _), hs⟩ .nil
  | tuple hk hs => exact .cons ⟨_, .tuple hk (Nat.le_refl _), hs⟩ .nil

theorem zip_gen {g : Nat → String} {n k : Nat} {tys : List Ty} :
    ∀ x ∈ (genNames g n k).zip tys, ∃ j, x.1 = g j := by
  intro x hx
  obtain ⟨a, b⟩ := x
  obtain ⟨j, _, _, h⟩ := mem_genNames.mp (List.of_mem_zip hx).1
  exact ⟨j, h⟩

theorem Branch.gen {S : Sig} {bv : String} {bty : Ty} {n n1 : Nat} {vars : List (String × Ty)}
    {f : Row β → M (Option (Row β))} (h : Branch S bv bty n n1 vars f) : ∀ x ∈ vars, ∃ j, x.1 = S.gen j := by
  cases h with
  | lit okP k => intro x hx; cases hx
  | dflt okP => intro x hx; cases hx
  | enum idx m => exact zip_gen
  | struct => exact zip_gen
  | tuple => exact zip_gen

theorem plan_counter (S : Sig) {n : Nat} {bv : String} {bty ty : Ty} {rows : List (Row β)} {pl : Plan β}
    (hplan : plan S n bv bty ty rows = .ok pl) : n ≤ pl.n1 := by
  cases plan_cases S hplan with
  | lits hpl _ => exact Nat.le_of_eq (litPlan_n1 hpl).symm
  | enum => exact enumHeads_ge _ _ _ _ _ _
  | struct => exact Nat.le_add_right _ _
  | tuple => exact Nat.le_add_right _ _

/-- one step of `compile_rows`: `plan` splits the matrix on the branch variable `bv` into the sub-matrices `pl.subs`
    (after drawing its own temporaries: counter `n` to `pl.n1`); if trees `ts` are sound for the sub-matrices with
    temporaries from `[pl.n1, n')`, the tree `build` assembles from them is sound for the whole matrix with
    temporaries from `[n, n')`.  `hbv`: `bv` is a column of the first row (as `branch_variable` chooses it); `hbty`: `bty`
    is the type of some pattern on `bv`; `hnv`: variable and wildcard patterns were moved out (`moveVars`), so every
    pattern on `bv` names a constructor. -/
theorem plan_sound (S : Sig) (hinj : ∀ i j, S.gen i = S.gen j → i = j) {n : Nat} {bv : String}
    {bty ty : Ty} {r0 : Row β} {rest : List (Row β)} {pl : Plan β}
    (hplan : plan S n bv bty ty (r0 :: rest) = .ok pl)
    (hbv : ∃ p, (bv, p) ∈ r0.cols)
    (hbty : ∃ r ∈ r0 :: rest, ∃ p, (bv, p) ∈ r.cols ∧ p.ty = bty)
    (hnv : ∀ r ∈ r0 :: rest, ∀ c ∈ r.cols, isVarOrWild c.2 = false) :
    ∀ n' ts, pl.n1 ≤ n' → All2 (SoundAt S pl.n1 n') pl.subs ts → ∀ bodyTy,
      leavesOK (build bodyTy bv bty pl.shape ts) = true → ∀ ρ, Inv S n ρ (r0 :: rest) →
      SoundR S.gen n n' ρ (r0 :: rest) ((build bodyTy bv bty pl.shape ts).eval ρ) := by
  obtain ⟨p0, hp0⟩ := hbv
  obtain ⟨q0, cs0, hq0⟩ := removeCol_of_mem hp0
  have hq0mem := (removeCol_some hq0).mem
  -- a name generated from `n` on is never the branch variable, so binding a component under it leaves `bv`'s value alone
  have hfreshbv : ∀ ρ, Inv S n ρ (r0 :: rest) → ∀ j, n ≤ j → S.gen j ≠ bv :=
    fun ρ hinv j hj => (hinv.fresh (List.mem_cons_self ..)).cols _ hp0 j hj
  obtain ⟨r, hr, ps, hps, hpty⟩ := hbty
  cases plan_cases S hplan with
  | lits hpl hl =>
    intro n' ts hn' hts bodyTy hok ρ hinv
    rw [litPlan_n1 hpl] at hts hn'
    exact litPlan_sound S hinj hl.unique hpl hl.keysOk hl.complete n' ts hn' hts bodyTy bty hok ρ hinv (hfreshbv ρ hinv)
      (fun hd => hl.cover hd r0 (by simp) q0 cs0 _ hq0 (hinv.conf (List.mem_cons_self ..) _ hq0mem))
  | @enum _ _ d subs hkind hd hne hsubs =>
    intro n' ts hn' hts bodyTy hok ρ hinv
    simp only [build, leavesOK] at hok
    simp only [build, DT.eval]
    -- row 0's pattern on `bv` is an enum constructor, so the value is an enum value
    have hq : ∃ a b i args tyq, q0 = .constr (.enum a b i) args tyq := by
      cases hv : d.variants with
      | nil => exact absurd hv hne
      | cons v0 vrest =>
        rw [hv] at hsubs
        simp only [enumHeads, enumSubs] at hsubs
        split at hsubs
        · cases hsubs
        · rename_i s hs
          obtain ⟨o, ho⟩ := filterMapE_ok hs r0 (by simp)
          exact specEnum_pat ho hq0
    obtain ⟨a, b, i0, args, tyq, rfl⟩ := hq
    obtain ⟨tn, i, vs, hv⟩ := conf_enum_isEnumV (hinv.conf (List.mem_cons_self ..) _ hq0mem)
    have hcp := hinv.conf hr _ hps
    simp only [hv] at hcp
    obtain ⟨vr, hvr1, hvr2⟩ := conf_enumV_arity hcp (hnv r hr _ hps)
      (by rw [hpty]; exact enumName_of_kind hkind) hd
    rw [hv]
    exact enumCases_sound S hinj hinv hv (hfreshbv ρ hinv) d.variants.length hn'
      d.variants n 0 subs ts (Nat.le_refl _) (Nat.le_refl _) hsubs hts (Nat.zero_le _)
      ⟨vr, by simpa using hvr1, hvr2⟩ hok
  | struct hkind hd hs =>
    intro n' ts hn' hts bodyTy hok ρ hinv
    obtain ⟨t, rfl, ht⟩ := all2_singleton hts
    simp only [build, leavesOK_wrapGet] at hok ⊢
    obtain ⟨o, ho⟩ := filterMapE_ok hs r hr
    obtain ⟨args, hargs⟩ := (specStruct_exp ho).sub_of_mem hps
    obtain ⟨tn, vs, hv, hlen⟩ := conf_struct_val hargs (by rw [hpty]; exact structName_of_kind hkind) hd
      (hinv.conf hr _ hps)
    exact struct_sound S hinj hinv hs hv hlen (by rw [substTys_length, List.length_map])
      (hfreshbv ρ hinv) ht hn' hok
  | tuple hkind hs =>
    intro n' ts hn' hts bodyTy hok ρ hinv
    obtain ⟨t, rfl, ht⟩ := all2_singleton hts
    simp only [build, leavesOK_wrapProj] at hok ⊢
    obtain ⟨o, ho⟩ := filterMapE_ok hs r hr
    obtain ⟨items, hitems⟩ := (specTuple_exp ho).sub_of_mem hps
    obtain ⟨vs, hv, hlen⟩ := conf_tuple_val hitems (by rw [hpty]; exact tuple_of_kind hkind)
      (hinv.conf hr _ hps)
    exact tuple_sound S hinj hinv hs hv hlen (hfreshbv ρ hinv) ht hn' hok

theorem varBinds_var : ∀ (cols : List (String × Pat)) (b : Bind), b ∈ varBinds cols →
    ∃ c ∈ cols, b.var = c.1 := by
  intro cols
  induction cols with
  | nil => intro b hb; cases hb
  | cons c cs ih =>
    intro b hb
    simp only [varBinds] at hb
    split at hb
    · rcases List.mem_append.mp hb with hb | hb
      · obtain ⟨c', hc', e⟩ := ih b hb
        exact ⟨c', by simp [hc'], e⟩
      · simp only [List.mem_singleton] at hb
        subst hb
        exact ⟨c, by simp, rfl⟩
    · obtain ⟨c', hc', e⟩ := ih b hb
      exact ⟨c', by simp [hc'], e⟩

theorem moveVars_inv {S : Sig} {n : Nat} {ρ : Env} {r : Row β}
    (h : RowFresh S.gen n r ∧ RowConf S ρ r) :
    RowFresh S.gen n (moveVars r) ∧ RowConf S ρ (moveVars r) := by
  obtain ⟨hf, hcf⟩ := h
  refine ⟨⟨?_, ?_⟩, ?_⟩
  · intro c hc
    exact hf.cols c (List.mem_filter.mp hc).1
  · intro b hb
    rcases List.mem_append.mp hb with hb | hb
    · obtain ⟨c, hc, e⟩ := varBinds_var _ b hb
      rw [e]
      exact hf.cols c hc
    · exact hf.binds b hb
  · intro c hc
    exact hcf c (List.mem_filter.mp hc).1

theorem moveVars_nv (r : Row β) : ∀ c ∈ (moveVars r).cols, isVarOrWild c.2 = false := by
  intro c hc
  have := (List.mem_filter.mp hc).2
  simpa using this

theorem map_moveVars_nv {rows : List (Row β)} : ∀ r1 ∈ rows.map moveVars, ∀ c ∈ r1.cols, isVarOrWild c.2 = false := by
  intro r1 hr1
  obtain ⟨r, _, rfl⟩ := List.mem_map.mp hr1
  exact moveVars_nv r

theorem compileSeq_induct {rec : Nat → List (Row β) → Option (M (DT β × Nat))}
    {Q : Nat → List (Row β) → DT β → Nat → Prop}
    (hrec : ∀ n rows t n', rec n rows = some (.ok (t, n')) → n ≤ n' ∧ Q n rows t n') :
    ∀ (subs : List (List (Row β))) (n : Nat) (ts : List (DT β)) (n' : Nat),
      compileSeq rec n subs = some (.ok (ts, n')) →
      n ≤ n' ∧ All2 (fun sub t => ∃ m m', n ≤ m ∧ m' ≤ n' ∧ Q m sub t m') subs ts := by
  intro subs
  induction subs with
  | nil => intro n ts n' h; simp only [compileSeq] at h; cases h; exact ⟨Nat.le_refl _, .nil⟩
  | cons rs rest ih =>
    intro n ts n' h
    simp only [compileSeq] at h
    split at h
    · cases h
    · cases h
    · rename_i r hr
      split at h
      · cases h
      · cases h
      · rename_i q hq
        cases h
        obtain ⟨h1, h2⟩ := hrec n rs r.1 r.2 hr
        obtain ⟨h3, h4⟩ := ih r.2 q.1 q.2 hq
        exact ⟨by omega, .cons ⟨n, r.2, Nat.le_refl _, h3, h2⟩
          (All2.imp (fun _ _ ⟨m, m', a, b, c⟩ => ⟨m, m', by omega, b, c⟩) h4)⟩

/-- **Induction over `compile_rows`**: at a node, `motive` of the tree `build` assembles from `motive` of the sub-trees, each
    compiled for its sub-matrix somewhere inside the counter interval `[pl.n1, n']`; the two existentials are what
    `branchVar` guarantees. -/
theorem compileRows_induct (S : Sig) {motive : Ty → Nat → List (Row β) → DT β → Nat → Prop}
    (missing : ∀ ty n rows, rows.map moveVars = [] → motive ty n rows (.missing ty) n)
    (leaf : ∀ ty n rows r0 rest, rows.map moveVars = r0 :: rest → r0.cols = [] →
      motive ty n rows (.leaf r0.binds r0.body) n)
    (node : ∀ ty n rows r0 rest bv bty pl ts n', rows.map moveVars = r0 :: rest →
      (∃ p, (bv, p) ∈ r0.cols) → (∃ r ∈ r0 :: rest, ∃ p, (bv, p) ∈ r.cols ∧ p.ty = bty) →
      plan S n bv bty ty (r0 :: rest) = .ok pl → pl.n1 ≤ n' →
      All2 (fun sub t => ∃ m m', pl.n1 ≤ m ∧ m' ≤ n' ∧ motive pl.subTy m sub t m') pl.subs ts →
      motive ty n rows (build r0.bodyTy bv bty pl.shape ts) n') :
    ∀ (fuel : Nat) (ty : Ty) (n : Nat) (rows : List (Row β)) (t : DT β) (n' : Nat),
      compileRows S fuel ty n rows = some (.ok (t, n')) → n ≤ n' ∧ motive ty n rows t n' := by
  intro fuel
  induction fuel with
  | zero => intro ty n rows t n' h; simp [compileRows] at h
  | succ fuel ih =>
    intro ty n rows t n' h
    simp only [compileRows] at h
    split at h
    · rename_i heq; cases h; exact ⟨Nat.le_refl _, missing ty n rows heq⟩
    · rename_i r0 rest heq
      split at h
      · rename_i hemp; cases h
        exact ⟨Nat.le_refl _, leaf ty n rows r0 rest heq (by simpa using hemp)⟩
      · split at h
        · cases h
        · rename_i bvt hbvt
          obtain ⟨hb1, hb2⟩ := branchVar_spec (bv := bvt.1) (bty := bvt.2) hbvt
          split at h
          · cases h
          · rename_i pl hpl
            split at h
            · cases h
            · cases h
            · rename_i q hq
              cases h
              obtain ⟨h1, h2⟩ := compileSeq_induct (ih pl.subTy) pl.subs pl.n1 q.1 q.2 hq
              have := plan_counter S hpl
              exact ⟨by omega, node ty n rows r0 rest bvt.1 bvt.2 pl q.1 q.2 heq hb1 hb2 hpl h1 h2⟩

theorem compileRows_good (S : Sig) (hinj : ∀ i j, S.gen i = S.gen j → i = j) (fuel : Nat) (ty : Ty) :
    Good S (compileRows (β := β) S fuel ty) := by
  intro n rows t n' h
  have hspec : ∀ (rows : List (Row β)) ρ, SpecEq (firstMatch ρ (rows.map moveVars)) (firstMatch ρ rows) :=
    fun rows ρ => firstMatch_map ρ moveVars rows (fun r _ => ⟨rfl, moveVars_rowMatch ρ r⟩)
  have hinv1 : ∀ {n ρ} {rows : List (Row β)}, Inv S n ρ rows → Inv S n ρ (rows.map moveVars) := by
    intro n ρ rows hinv r1 hr1
    obtain ⟨r, hr, rfl⟩ := List.mem_map.mp hr1
    exact moveVars_inv (hinv r hr)
  refine compileRows_induct S (motive := fun _ n rows t n' => SoundAt S n n' rows t) ?_ ?_ ?_ fuel ty n rows t n' h
  · intro ty n rows heq _ ρ _
    refine SoundR.of_spec (rows' := []) ?_ (heq ▸ hspec rows ρ)
    simp [SoundR, firstMatch, DT.eval]
  · intro ty n rows r0 rest heq hc hok ρ _
    refine SoundR.of_spec ?_ (heq ▸ hspec rows ρ)
    simp only [leavesOK] at hok
    simp only [SoundR, firstMatch, rowMatch, hc, colsMatch, oapp_nil_right, DT.eval]
    exact ⟨(bindVals ρ r0.binds).reverse, [], by rw [bindSeq_eq _ _ hok]; simp, fun x => by simp,
      fun p hp => nomatch hp⟩
  · intro ty n rows r0 rest bv bty pl ts n' heq hb1 hb2 hpl hn1 hsub hok ρ hinv
    have h4 := plan_sound S hinj hpl hb1 hb2 (heq ▸ map_moveVars_nv)
    refine SoundR.of_spec (h4 n' ts hn1 ?_ r0.bodyTy hok ρ (heq ▸ hinv1 hinv)) (heq ▸ hspec rows ρ)
    exact All2.imp (fun _ _ ⟨m, m', a, b, c⟩ => c.mono a b) hsub

end Goml.Match
