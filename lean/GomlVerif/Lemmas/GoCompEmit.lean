import GomlVerif.Model.GoCompile
/-!
What `compile_aexpr_effect` / `compile_aexpr_assign` emit, node kind by node kind, as ONE induction principle over the
statement lowering: `compileA_ind`.  The motive speaks of the lowering mode, the expression and the emitted statements;
the `Gensym` counter and the flag are gone (the only trace of the counter is the name of a loop's condition variable,
which a rule receives as an arbitrary string).  A `CExpr` in tail position is the expression `.ret c`.  The simulation,
which follows the fuel of the source run and not the syntax, opens the lowering node by node itself.
-/
namespace Goml.GoComp
open Goml Goml.Go Goml.GoCompile

/-- `if !cond { break }` -/
def brkUnless (cv : String) : GStmt := .ite (.un .not .bool (.var (gid cv) .bool)) [.brk] none

def whileStmts (m : Mode) (cv : String) (Sc Sb : List GStmt) : List GStmt :=
  [.varDecl (gid cv) .bool none, .loop (Sc ++ [brkUnless cv] ++ Sb)] ++
    (match m with
     | .effect => []
     | .assign tgt => [.assign (gid tgt) unitE])

def tswitchBind : Imm → Option String
  | .var x _ => some (rn x)
  | _ => none

/-- every compiled clause is the lowering of the body of an arm, under that arm's head -/
def ArmsFrom (P : Mode → AExpr → List GStmt → Prop) (m : Mode) (arms : List AArm) (ras : List (Imm × List GStmt)) : Prop :=
  ∀ p, p ∈ ras → ∃ lhs body, AArm.mk lhs body ∈ arms ∧ p.1 = lhs ∧ P m body p.2

def DfltFrom (P : Mode → AExpr → List GStmt → Prop) (m : Mode) (d : ADflt) (rd : Option (List GStmt)) : Prop :=
  ∀ S, rd = some S → ∃ e, d = .some e ∧ P m e S

def valKind : MatchKind → Bool
  | .bool | .int _ _ | .float _ | .str => true
  | _ => false

/-- With `H = P` this is closure of `P` under the lowering (`compileA_ind`); a stronger `H` lets the rules for `P` use what
    is already known of the parts (`EmitRules.and`). -/
structure EmitRules (env : Env) (H P : Mode → AExpr → List GStmt → Prop) : Prop where
  simple : ∀ m c, isCtl c = false → P m (.ret c) (compileSimple env m c)
  letC : ∀ m x v b ty S1 S2, isCtl v = true → H (.assign (rn x)) (.ret v) S1 → H m b S2 →
    P m (.letE x v b ty) (.varDecl (vn x) (cexprTy env v) none :: (S1 ++ S2))
  letS : ∀ m x v b ty S2, isCtl v = false → H m b S2 → P m (.letE x v b ty) (compileBindSimple env x v ++ S2)
  ite : ∀ m c t e ty St Se, H m t St → H m e Se → P m (.ret (.ite c t e ty)) [.ite (compileImm env c) St (some Se)]
  loop : ∀ m cv c b ty Sc Sb, H (.assign cv) c Sc → H .effect b Sb → P m (.ret (.while c b ty)) (whileStmts m cv Sc Sb)
  unitArm : ∀ m s lhs body rest d ty S, matchKind s.ty = .unit → H m body S → P m (.ret (.matchE s (.mk lhs body :: rest) d ty)) S
  unitDflt : ∀ m s e ty S, matchKind s.ty = .unit → H m e S → P m (.ret (.matchE s [] (.some e) ty)) S
  nothing : ∀ m s arms d ty, P m (.ret (.matchE s arms d ty)) []
  tswitch : ∀ m s arms d ty ras rd, matchKind s.ty = .enum → ArmsFrom H m arms ras → DfltFrom H m d rd →
    P m (.ret (.matchE s arms d ty)) [.tswitch (tswitchBind s) (compileImm env s) (typeCases env ras) rd]
  switch : ∀ m s arms d ty ras rd, valKind (matchKind s.ty) = true → ArmsFrom H m arms ras → DfltFrom H m d rd →
    P m (.ret (.matchE s arms d ty)) [.switch (compileImm env s) (valueCases (matchKind s.ty) ras) rd]

theorem ArmsFrom.imp {H H' : Mode → AExpr → List GStmt → Prop} (hi : ∀ m e S, H m e S → H' m e S) {m arms ras}
    (h : ArmsFrom H m arms ras) : ArmsFrom H' m arms ras :=
  fun p hp => let ⟨l, b, hm, hl, hb⟩ := h p hp; ⟨l, b, hm, hl, hi _ _ _ hb⟩

theorem DfltFrom.imp {H H' : Mode → AExpr → List GStmt → Prop} (hi : ∀ m e S, H m e S → H' m e S) {m d rd}
    (h : DfltFrom H m d rd) : DfltFrom H' m d rd :=
  fun S hS => let ⟨e, he, hb⟩ := h S hS; ⟨e, he, hi _ _ _ hb⟩

theorem EmitRules.and {env : Env} {P Q : Mode → AExpr → List GStmt → Prop} (hP : EmitRules env P P)
    (hQ : EmitRules env (fun m e S => P m e S ∧ Q m e S) Q) : EmitRules env (fun m e S => P m e S ∧ Q m e S) (fun m e S => P m e S ∧ Q m e S) where
  simple m c h := ⟨hP.simple m c h, hQ.simple m c h⟩
  letC m x v b ty S1 S2 h h1 h2 := ⟨hP.letC m x v b ty S1 S2 h h1.1 h2.1, hQ.letC m x v b ty S1 S2 h h1 h2⟩
  letS m x v b ty S2 h h2 := ⟨hP.letS m x v b ty S2 h h2.1, hQ.letS m x v b ty S2 h h2⟩
  ite m c t e ty St Se ht he := ⟨hP.ite m c t e ty St Se ht.1 he.1, hQ.ite m c t e ty St Se ht he⟩
  loop m cv c b ty Sc Sb hc hb := ⟨hP.loop m cv c b ty Sc Sb hc.1 hb.1, hQ.loop m cv c b ty Sc Sb hc hb⟩
  unitArm m s lhs body rest d ty S hk h := ⟨hP.unitArm m s lhs body rest d ty S hk h.1, hQ.unitArm m s lhs body rest d ty S hk h⟩
  unitDflt m s e ty S hk h := ⟨hP.unitDflt m s e ty S hk h.1, hQ.unitDflt m s e ty S hk h⟩
  nothing m s arms d ty := ⟨hP.nothing m s arms d ty, hQ.nothing m s arms d ty⟩
  tswitch m s arms d ty ras rd hk ha hd :=
    ⟨hP.tswitch m s arms d ty ras rd hk (ha.imp fun _ _ _ h => h.1) (hd.imp fun _ _ _ h => h.1), hQ.tswitch m s arms d ty ras rd hk ha hd⟩
  switch m s arms d ty ras rd hk ha hd :=
    ⟨hP.switch m s arms d ty ras rd hk (ha.imp fun _ _ _ h => h.1) (hd.imp fun _ _ _ h => h.1), hQ.switch m s arms d ty ras rd hk ha hd⟩

section
variable {env : Env} {P : Mode → AExpr → List GStmt → Prop}

mutual
theorem compileA_ind (R : EmitRules env P P) : ∀ (e : AExpr) (m : Mode) (st : St), P m e (compileA env m st e).1
  | .ret c, m, st => by simp only [compileA]; exact compileTail_ind R c m st
  | .letE x v b ty, m, st => by
    simp only [compileA]
    split
    · next h => exact R.letC _ _ _ _ _ _ _ h (compileTail_ind R v _ _) (compileA_ind R b _ _)
    · next h => exact R.letS _ _ _ _ _ _ (by simpa using h) (compileA_ind R b _ _)
termination_by structural e => e
theorem compileTail_ind (R : EmitRules env P P) : ∀ (c : CExpr) (m : Mode) (st : St), P m (.ret c) (compileTail env m st c).1
  | .ite c t e ty, m, st => by
    simp only [compileTail]; exact R.ite _ _ _ _ _ _ _ (compileA_ind R t _ _) (compileA_ind R e _ _)
  | .while c b ty, m, st => by
    have h := R.loop m ("cond" ++ toString st.n) c b ty _ _ (compileA_ind R c (.assign ("cond" ++ toString st.n)) (st.next.check (isBoolTy c.annTy)))
      (compileA_ind R b .effect (compileA env (.assign ("cond" ++ toString st.n)) (st.next.check (isBoolTy c.annTy)) c).2)
    cases m <;> simpa only [compileTail, whileStmts, brkUnless, List.append_nil] using h
  | .matchE s arms d ty, m, st => by
    simp only [compileTail]
    split -- on `matchKind s.ty`
    · next hk => -- `.unit`
      split -- on `arms.isEmpty`
      · cases d with
        | none => exact R.nothing _ _ _ _ _
        | some e =>
          cases arms with
          | nil => exact R.unitDflt _ _ _ _ _ hk (compileA_ind R e _ _)
          | cons _ _ => simp at *
      · cases arms with
        | nil => simp at *
        | cons a rest =>
          cases a with
          | mk lhs body => exact R.unitArm _ _ _ _ _ _ _ _ hk (compileA_ind R body _ _)
    · next hk => -- `.enum`
      exact R.tswitch _ _ _ _ _ _ _ hk (compileArms_ind R arms _ _) (compileDflt_ind R d _ _)
    · exact R.nothing _ _ _ _ _ -- `.unsupported`
    · next hu he hn => -- the other kinds are those of `valKind`
      refine R.switch _ _ _ _ _ _ _ ?_ (compileArms_ind R arms _ _) (compileDflt_ind R d _ _)
      cases hk : matchKind s.ty <;> first | rfl | exact absurd hk ‹_›
  | .imm _, m, st | .constr _ _ _, m, st | .tuple _ _, m, st | .array _ _, m, st | .cget _ _ _ _, m, st | .un _ _ _, m, st
  | .bin _ _ _ _, m, st | .call _ _ _, m, st | .toDyn _ _ _ _, m, st | .dynCall _ _ _ _ _, m, st | .go _ _, m, st
  | .proj _ _ _, m, st => R.simple m _ rfl
termination_by structural c => c
theorem compileArms_ind (R : EmitRules env P P) : ∀ (arms : List AArm) (m : Mode) (st : St), ArmsFrom P m arms (compileArms env m st arms).1
  | [], m, st => by intro p hp; simp [compileArms] at hp
  | .mk lhs body :: rest, m, st => by
    intro p hp
    simp only [compileArms, List.mem_cons] at hp
    rcases hp with rfl | hp
    · exact ⟨lhs, body, List.mem_cons_self, rfl, compileA_ind R body _ _⟩
    · obtain ⟨l, b, hm, h1, h2⟩ := compileArms_ind R rest _ _ p hp
      exact ⟨l, b, List.mem_cons_of_mem _ hm, h1, h2⟩
termination_by structural arms => arms
theorem compileDflt_ind (R : EmitRules env P P) : ∀ (d : ADflt) (m : Mode) (st : St), DfltFrom P m d (compileDflt env m st d).1
  | .none, m, st => by intro S hS; simp [compileDflt] at hS
  | .some e, m, st => by
    intro S hS
    simp only [compileDflt, Option.some.injEq] at hS
    exact ⟨e, rfl, hS ▸ compileA_ind R e _ _⟩
termination_by structural d => d
end

end

end Goml.GoComp
