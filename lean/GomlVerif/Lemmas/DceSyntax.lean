import GomlVerif.Model.Dce
/-!
Syntactic lemmas about the DCE model: the list-as-set operations, an independent enumeration of
all sub-expressions of a statement list, and the characterisation of the two collectors of
`dce.rs` (`collect_packages_*`, `collect_called_*`) against it.
-/
namespace Goml.Dce
open Goml.Go

@[simp] theorem mem_uni {a b : Names} {x : String} : x ∈ uni a b ↔ x ∈ a ∨ x ∈ b := by
  unfold uni
  simp only [List.mem_append, List.mem_filter, Bool.not_eq_true', List.contains_eq_mem, decide_eq_false_iff_not]
  constructor
  · rintro (h | ⟨h, _⟩) <;> simp [h]
  · rintro (h | h)
    · exact Or.inl h
    · by_cases ha : x ∈ a
      · exact Or.inl ha
      · exact Or.inr ⟨h, ha⟩

theorem uni_nil (a : Names) : uni a [] = a := by simp [uni]

@[simp] theorem mem_rem {s : Names} {x y : String} : y ∈ rem s x ↔ y ∈ s ∧ y ≠ x := by
  unfold rem; simp [List.mem_filter]

@[simp] theorem mem_diff {a b : Names} {x : String} : x ∈ diff a b ↔ x ∈ a ∧ ¬ x ∈ b := by
  unfold diff; simp [List.mem_filter]

theorem declTop_cons (s : GStmt) (rest : List GStmt) (x : String) :
    x ∈ declTop (s :: rest) ↔ x ∈ declScope s [] ∨ x ∈ declTop rest := by
  cases s <;> simp [declTop, declScope]

/-! ### every expression occurring in a statement list (with all its sub-expressions) -/
mutual
def subE : GExpr → List GExpr
  | .call t f args => .call t f args :: (subE f ++ subEL args)
  | .field n t o => .field n t o :: subE o
  | .index t a i => .index t a i :: (subE a ++ subE i)
  | .un op t e => .un op t e :: subE e
  | .bin op t l r => .bin op t l r :: (subE l ++ subE r)
  | .cast t e => .cast t e :: subE e
  | .slit t fs => .slit t fs :: subEF fs
  | .alit t es => .alit t es :: subEL es
  | .blocke t ss e => .blocke t ss e :: (exprsS ss ++ (match e with | some e => subE e | none => []))
  | .var x t => [.var x t]
  | .nil t => [.nil t]
  | .voidv t => [.voidv t]
  | .unitv t => [.unitv t]
  | .bool b => [.bool b]
  | .int v t => [.int v t]
  | .float v t => [.float v t]
  | .str s => [.str s]
def subEL : List GExpr → List GExpr
  | [] => []
  | e :: es => subE e ++ subEL es
def subEF : List GField → List GExpr
  | [] => []
  | .mk _ e :: fs => subE e ++ subEF fs
def exprsS : List GStmt → List GExpr
  | [] => []
  | s :: rest => exprsStmt s ++ exprsS rest
def exprsStmt : GStmt → List GExpr
  | .expr e => subE e
  | .go c => subE c
  | .varDecl _ _ v => (match v with | some e => subE e | none => [])
  | .assign _ v => subE v
  | .indexAssign a i v => subE a ++ (subE i ++ subE v)
  | .ptrAssign p v => subE p ++ subE v
  | .fieldAssign t v => subE t ++ subE v
  | .ret e => (match e with | some e => subE e | none => [])
  | .ite c t e => subE c ++ (exprsS t ++ (match e with | some b => exprsS b | none => []))
  | .switch e cs d => subE e ++ (exprsC cs ++ (match d with | some b => exprsS b | none => []))
  | .tswitch _ e cs d => subE e ++ (exprsTC cs ++ (match d with | some b => exprsS b | none => []))
  | .loop b => exprsS b
  | .brk => []
def exprsC : List GCase → List GExpr
  | [] => []
  | .mk v b :: rest => subE v ++ (exprsS b ++ exprsC rest)
def exprsTC : List GTCase → List GExpr
  | [] => []
  | .mk _ b :: rest => exprsS b ++ exprsTC rest
end

def AnyE (Q : GExpr → Prop) (es : List GExpr) : Prop := ∃ c ∈ es, Q c

theorem anyE_append {Q : GExpr → Prop} {a b : List GExpr} : AnyE Q (a ++ b) ↔ AnyE Q a ∨ AnyE Q b := by
  simp [AnyE, or_and_right, exists_or]

theorem anyE_nil {Q : GExpr → Prop} : AnyE Q [] ↔ False := by simp [AnyE]

theorem anyE_cons {Q : GExpr → Prop} {c : GExpr} {b : List GExpr} : AnyE Q (c :: b) ↔ Q c ∨ AnyE Q b := by
  simp [AnyE]

/-- the package a call node refers to: `pkg.f(…)` -/
def calleePkg : GExpr → Option String
  | .call _ (.var name _) _ => pkgPrefix name
  | _ => none

def CallsPkg (p : String) (c : GExpr) : Prop := calleePkg c = some p

def IsVar (x : String) (c : GExpr) : Prop := ∃ t, c = .var x t

/-! ### `collect_packages_*` finds exactly the imported packages some call node names -/

/-- A collector is the union, over the nodes that `subE` / `exprsS` enumerate, of what one node contributes; only a `call` node
contributes here. -/
theorem pkgs_iff (imps : Names) (p : String) :
    (∀ e, p ∈ pkgsExpr imps e ↔ p ∈ imps ∧ AnyE (CallsPkg p) (subE e)) ∧
    (∀ ss, p ∈ pkgsStmts imps ss ↔ p ∈ imps ∧ AnyE (CallsPkg p) (exprsS ss)) ∧
    (∀ s, p ∈ pkgsStmt imps s ↔ p ∈ imps ∧ AnyE (CallsPkg p) (exprsStmt s)) ∧
    (∀ cs, p ∈ pkgsTCases imps cs ↔ p ∈ imps ∧ AnyE (CallsPkg p) (exprsTC cs)) ∧
    (∀ cs, p ∈ pkgsCases imps cs ↔ p ∈ imps ∧ AnyE (CallsPkg p) (exprsC cs)) ∧
    (∀ fs, p ∈ pkgsFields imps fs ↔ p ∈ imps ∧ AnyE (CallsPkg p) (subEF fs)) ∧
    (∀ es, p ∈ pkgsList imps es ↔ p ∈ imps ∧ AnyE (CallsPkg p) (subEL es)) := by
  apply pkgsExpr.mutual_induct
  case case1 =>  -- `.call t f args`
    intro t f args h1 h2
    simp only [pkgsExpr, subE, mem_uni, anyE_cons, anyE_append, h1, h2, and_or_left]
    cases f <;> simp [CallsPkg, calleePkg]
    rename_i name ty
    cases hp : pkgPrefix name <;> simp
    rename_i q
    by_cases hq : q = p
    · subst hq; by_cases hi : q ∈ imps <;> simp [hi]
    · have : ¬ p = q := fun h => hq h.symm
      by_cases hi : q ∈ imps <;> simp [hi, hq, this]
  -- `blocke` (`case7`), `ite`, `switch`, `tswitch` (`case28`–`30`) match on their optional sub-term inside the row: open it first
  case' case7 => intro _ _ o _ h; cases o <;> simp only at h
  case' case28 => intro _ _ o _ _ h; cases o <;> simp only at h
  case' case29 => intro _ _ o _ _ h; cases o <;> simp only at h
  case' case30 => intro _ _ _ o _ _ h; cases o <;> simp only at h
  all_goals intros
  all_goals simp [pkgsExpr, pkgsList, pkgsFields, pkgsStmts, pkgsStmt, pkgsCases, pkgsTCases, subE, subEL, subEF, exprsS,
    exprsStmt, exprsC, exprsTC, anyE_cons, anyE_append, anyE_nil, CallsPkg, calleePkg, and_or_left, *]

theorem pkgsExpr_iff (imps : Names) (p : String) : ∀ e : GExpr,
    p ∈ pkgsExpr imps e ↔ p ∈ imps ∧ AnyE (CallsPkg p) (subE e) := (pkgs_iff imps p).1
theorem pkgsList_iff (imps : Names) (p : String) : ∀ es : List GExpr,
    p ∈ pkgsList imps es ↔ p ∈ imps ∧ AnyE (CallsPkg p) (subEL es) := (pkgs_iff imps p).2.2.2.2.2.2
theorem pkgsFields_iff (imps : Names) (p : String) : ∀ fs : List GField,
    p ∈ pkgsFields imps fs ↔ p ∈ imps ∧ AnyE (CallsPkg p) (subEF fs) := (pkgs_iff imps p).2.2.2.2.2.1
theorem pkgsStmts_iff (imps : Names) (p : String) : ∀ ss : List GStmt,
    p ∈ pkgsStmts imps ss ↔ p ∈ imps ∧ AnyE (CallsPkg p) (exprsS ss) := (pkgs_iff imps p).2.1
theorem pkgsStmt_iff (imps : Names) (p : String) : ∀ s : GStmt,
    p ∈ pkgsStmt imps s ↔ p ∈ imps ∧ AnyE (CallsPkg p) (exprsStmt s) := (pkgs_iff imps p).2.2.1
theorem pkgsCases_iff (imps : Names) (p : String) : ∀ cs : List GCase,
    p ∈ pkgsCases imps cs ↔ p ∈ imps ∧ AnyE (CallsPkg p) (exprsC cs) := (pkgs_iff imps p).2.2.2.2.1
theorem pkgsTCases_iff (imps : Names) (p : String) : ∀ cs : List GTCase,
    p ∈ pkgsTCases imps cs ↔ p ∈ imps ∧ AnyE (CallsPkg p) (exprsTC cs) := (pkgs_iff imps p).2.2.2.1

/-! ### `collect_called_*` finds exactly the file's functions some node references -/

/-- The same for `calledExpr` and its companions: only a `var` node contributes. -/
theorem called_iff (fns : Names) (x : String) :
    (∀ e, x ∈ calledExpr fns e ↔ x ∈ fns ∧ AnyE (IsVar x) (subE e)) ∧
    (∀ ss, x ∈ calledStmts fns ss ↔ x ∈ fns ∧ AnyE (IsVar x) (exprsS ss)) ∧
    (∀ s, x ∈ calledStmt fns s ↔ x ∈ fns ∧ AnyE (IsVar x) (exprsStmt s)) ∧
    (∀ cs, x ∈ calledTCases fns cs ↔ x ∈ fns ∧ AnyE (IsVar x) (exprsTC cs)) ∧
    (∀ cs, x ∈ calledCases fns cs ↔ x ∈ fns ∧ AnyE (IsVar x) (exprsC cs)) ∧
    (∀ fs, x ∈ calledFields fns fs ↔ x ∈ fns ∧ AnyE (IsVar x) (subEF fs)) ∧
    (∀ es, x ∈ calledList fns es ↔ x ∈ fns ∧ AnyE (IsVar x) (subEL es)) := by
  apply calledExpr.mutual_induct fns
  case case10 | case11 =>  -- `.var y t`, `y` a function of the file or not
    intro y t hf
    simp only [List.contains_iff_mem] at hf
    by_cases hy : y = x
    · subst hy; simp [calledExpr, subE, anyE_cons, anyE_nil, IsVar, hf]
    · have : ¬ x = y := fun h => hy h.symm
      simp [calledExpr, subE, anyE_cons, anyE_nil, IsVar, hf, hy, this]
  -- as in `pkgs_iff`
  case' case7 => intro _ _ o _ h; cases o <;> simp only at h
  case' case29 => intro _ _ o _ _ h; cases o <;> simp only at h
  case' case30 => intro _ _ o _ _ h; cases o <;> simp only at h
  case' case31 => intro _ _ _ o _ _ h; cases o <;> simp only at h
  all_goals intros
  all_goals simp [calledExpr, calledList, calledFields, calledStmts, calledStmt, calledCases, calledTCases, subE, subEL,
    subEF, exprsS, exprsStmt, exprsC, exprsTC, anyE_cons, anyE_append, anyE_nil, IsVar, and_or_left, *]

theorem calledExpr_iff (fns : Names) (x : String) : ∀ e : GExpr,
    x ∈ calledExpr fns e ↔ x ∈ fns ∧ AnyE (IsVar x) (subE e) := (called_iff fns x).1
theorem calledList_iff (fns : Names) (x : String) : ∀ es : List GExpr,
    x ∈ calledList fns es ↔ x ∈ fns ∧ AnyE (IsVar x) (subEL es) := (called_iff fns x).2.2.2.2.2.2
theorem calledFields_iff (fns : Names) (x : String) : ∀ fs : List GField,
    x ∈ calledFields fns fs ↔ x ∈ fns ∧ AnyE (IsVar x) (subEF fs) := (called_iff fns x).2.2.2.2.2.1
theorem calledStmts_iff (fns : Names) (x : String) : ∀ ss : List GStmt,
    x ∈ calledStmts fns ss ↔ x ∈ fns ∧ AnyE (IsVar x) (exprsS ss) := (called_iff fns x).2.1
theorem calledStmt_iff (fns : Names) (x : String) : ∀ s : GStmt,
    x ∈ calledStmt fns s ↔ x ∈ fns ∧ AnyE (IsVar x) (exprsStmt s) := (called_iff fns x).2.2.1
theorem calledCases_iff (fns : Names) (x : String) : ∀ cs : List GCase,
    x ∈ calledCases fns cs ↔ x ∈ fns ∧ AnyE (IsVar x) (exprsC cs) := (called_iff fns x).2.2.2.2.1
theorem calledTCases_iff (fns : Names) (x : String) : ∀ cs : List GTCase,
    x ∈ calledTCases fns cs ↔ x ∈ fns ∧ AnyE (IsVar x) (exprsTC cs) := (called_iff fns x).2.2.2.1

end Goml.Dce
