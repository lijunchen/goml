import GomlVerif.Lemmas.C06Destr
/-!
Soundness of the destructuring shapes `build` produces (tuple, struct, enum): `destr_sound` is the one argument — a chain
of `let`s binds the components of the value, the rows go through a row step, the sub-tree is sound for the result.
-/
namespace Goml.Match
open Goml Goml.Sem

variable {β : Type}

theorem DestrStep.rowStep {S : Sig} {ρ ρ' : Env} {names : List String} {r : Row β} {o : Option (Row β)}
    (h : DestrStep S ρ ρ' names r o) : RowStep ρ ρ' r o := by
  cases o with
  | none => exact h
  | some r' => exact ⟨h.body, h.meaning⟩

theorem substTys_length (σ : List (String × Ty)) : ∀ ts : List Ty, (substTys σ ts).length = ts.length := by
  intro ts
  induction ts with
  | nil => rfl
  | cons t ts ih => simp [substTys, ih]

/-- the `let`s bind the components `vs` of the scrutinee to the fresh names `gen m … gen (m+k-1)`, the rows are rewritten by
    `f`.  `m` is where this shape's names start (`≠ n` only for the later variants of an enum), `n1` where the sub-tree's start -/
theorem destr_sound (S : Sig) (hinj : ∀ i j, S.gen i = S.gen j → i = j) {n m k n1 n' : Nat}
    (hnm : n ≤ m) (hmk : m + k ≤ n1) (hn1 : n1 ≤ n')
    {wrap : Nat → List (String × Ty) → DT β → DT β} {bv : String} {v : Val} {vs : List Val}
    (hw : LetChain wrap bv v vs) {ρ : Env} (hv : lookupVar ρ bv = v) (hbv : ∀ j, n ≤ j → S.gen j ≠ bv)
    (hk : k = vs.length) {tys : List Ty} (htys : tys.length = k)
    {rows s : List (Row β)}
    (f : Row β → M (Option (Row β))) (hs : filterMapE f rows = .ok s) (hinv : Inv S n ρ rows)
    (hstep : ∀ ρ', Ext ρ ρ' (genNames S.gen m k) vs → ∀ r ∈ rows, ∀ o, f r = .ok o →
      RowAvoids (genNames S.gen m k) r →
      RowConf S ρ r → DestrStep S ρ ρ' (genNames S.gen m k) r o)
    {t : DT β} (ht : SoundAt S n1 n' s t) (hok : leavesOK t = true) :
    SoundR S.gen n n' ρ rows ((wrap 0 ((genNames S.gen m k).zip tys) t).eval ρ) := by
  have hm : ((genNames S.gen m k).zip tys).map (·.1) = genNames S.gen m k :=
    List.map_fst_zip (by rw [genNames_length, htys]; exact Nat.le_refl _)
  have hne : ∀ x ∈ (genNames S.gen m k).zip tys, x.1 ≠ bv := by
    intro x hx heq
    obtain ⟨j, h1, _, h3⟩ := mem_genNames.mp (List.of_mem_zip (show (x.1, x.2) ∈ _ from hx)).1
    exact hbv j (by omega) (h3.symm.trans heq)
  rw [hw.eval t _ 0 ρ hne hv (by simp [genNames_length, htys, hk]), hm, List.drop_zero]
  have hnd := genNames_nodup hinj k m
  have hlen : (genNames S.gen m k).length = vs.length := by rw [genNames_length, hk]
  have hx := ext_bindParams ρ _ vs hnd hlen
  have hsteps : ∀ r ∈ rows, ∀ o, f r = .ok o →
      DestrStep S ρ (bindParams (genNames S.gen m k) vs ρ) (genNames S.gen m k) r o :=
    fun r hr o ho => hstep _ hx r hr o ho ((hinv.fresh hr).avoids_genNames hnm k) (hinv.conf hr)
  rw [bindParams_eq] at hsteps hx ⊢
  have hτ : TmpKeys S.gen n n' ((genNames S.gen m k).zip vs).reverse :=
    (tmpKeys_zip vs).mono hnm (by omega)
  have hinv' : Inv S n1 (((genNames S.gen m k).zip vs).reverse ++ ρ) s := by
    intro r' hr'
    obtain ⟨r, hr, hf⟩ := filterMapE_out hs r' hr'
    have hd : DestrRow S ρ _ _ r r' := hsteps r hr _ hf
    refine ⟨⟨?_, ?_⟩, hd.conf⟩
    · intro c hc j hj
      rcases hd.cols c hc with hmem | hmem
      · obtain ⟨j', _, h2, h3⟩ := mem_genNames.mp hmem
        intro heq
        have := hinj _ _ (heq.trans h3)
        omega
      · exact (hinv.fresh hr).cols c hmem j (by omega)
    · intro b hb j hj
      rw [hd.binds] at hb
      exact (hinv.fresh hr).binds b hb j (by omega)
  refine SoundR.of_sub (ht hok _ hinv') hτ (by omega) ?_
  exact firstMatch_filterMapE ρ _ f rows s hs (fun r hr o ho => (hsteps r hr o ho).rowStep)

theorem tuple_sound (S : Sig) (hinj : ∀ i j, S.gen i = S.gen j → i = j) {bv : String} {bty : Ty}
    {typs : List Ty} {n n' : Nat} {rows s : List (Row β)} {ρ : Env} {vs : List Val} {t : DT β}
    (hinv : Inv S n ρ rows)
    (hs : filterMapE (specTuple bv (genNames S.gen n typs.length)) rows = .ok s)
    (hv : lookupVar ρ bv = .tuple vs) (hlen : typs.length = vs.length)
    (hbv : ∀ j, n ≤ j → S.gen j ≠ bv) (ht : SoundAt S (n + typs.length) n' s t)
    (hle : n + typs.length ≤ n') (hok : leavesOK t = true) :
    SoundR S.gen n n' ρ rows
      ((wrapProj bv bty 0 ((genNames S.gen n typs.length).zip typs) t).eval ρ) :=
  destr_sound S hinj (Nat.le_refl n) (Nat.le_refl _) hle (letChain_proj bv bty vs) hv hbv hlen rfl _ hs hinv
    (fun ρ' hx r _ o ho hfr hcf =>
      (specTuple_exp ho).destr S hx (by rw [hv]; exact tupleItems_conf S) (fun _ _ _ h => h.elim) hfr hcf) ht hok

theorem struct_sound (S : Sig) (hinj : ∀ i j, S.gen i = S.gen j → i = j) {bv : String} {bty : Ty}
    {c : Ctor} {tys : List Ty} {k n n' : Nat} {rows s : List (Row β)} {ρ : Env} {tn : String}
    {vs : List Val} {t : DT β} (hinv : Inv S n ρ rows)
    (hs : filterMapE (specStruct bv (genNames S.gen n k)) rows = .ok s)
    (hv : lookupVar ρ bv = .structV tn vs) (hlen : k = vs.length) (htys : tys.length = k)
    (hbv : ∀ j, n ≤ j → S.gen j ≠ bv) (ht : SoundAt S (n + k) n' s t)
    (hle : n + k ≤ n') (hok : leavesOK t = true) :
    SoundR S.gen n n' ρ rows
      ((wrapGet c bv bty 0 ((genNames S.gen n k).zip tys) t).eval ρ) :=
  destr_sound S hinj (Nat.le_refl n) (Nat.le_refl _) hle (letChain_get_struct c bv bty tn vs) hv hbv hlen htys _ hs hinv
    (fun ρ' hx r _ o ho hfr hcf =>
      (specStruct_exp ho).destr S hx (by rw [hv]; exact structArgs_conf S) (fun _ _ _ h => h.elim) hfr hcf) ht hok

theorem enumHeads_ge (g : Nat → String) (tname : String) (σ : List (String × Ty)) :
    ∀ (variants : List (String × List Ty)) (m idx : Nat), m ≤ (enumHeads g tname σ m idx variants).2 := by
  intro variants
  induction variants with
  | nil => intro m idx; simp [enumHeads]
  | cons v rest ih =>
    intro m idx
    simp only [enumHeads]
    have := ih (m + v.2.length) (idx + 1)
    omega

theorem armMatches_ctor (a b : String) (idx : Nat) (ty : Ty) (vars : List (String × Ty)) (tn : String)
    (i : Nat) (vs : List Val) :
    armMatches (Head.ctor (.enum a b idx) ty vars).toExpr (.enumV tn i vs) = (idx == i) := rfl

/-- a head before the value's variant `i` does not match (`armMatches_ctor`), the head `i` is `destr_sound`; `i - idx` is the
    position of the value's variant in what is left of the list -/
theorem enumCases_sound (S : Sig) (hinj : ∀ i j, S.gen i = S.gen j → i = j) {bv : String} {bty : Ty}
    {tname : String} {σ : List (String × Ty)} {n n1 n' : Nat} {rows : List (Row β)} {ρ : Env}
    {tn : String} {i : Nat} {vs : List Val} (hinv : Inv S n ρ rows)
    (hv : lookupVar ρ bv = .enumV tn i vs) (hbv : ∀ j, n ≤ j → S.gen j ≠ bv) (nv : Nat)
    (hn1 : n1 ≤ n') :
    ∀ (variants : List (String × List Ty)) (m idx : Nat) (subs : List (List (Row β))) (ts : List (DT β)),
      n ≤ m → (enumHeads S.gen tname σ m idx variants).2 ≤ n1 →
      enumSubs bv nv rows (enumHeads S.gen tname σ m idx variants).1 idx = .ok subs →
      All2 (SoundAt S n1 n') subs ts → idx ≤ i →
      (∃ vr, variants[i - idx]? = some vr ∧ vr.2.length = vs.length) →
      casesOK (enumCases bv bty (enumHeads S.gen tname σ m idx variants).1 ts) = true →
      SoundR S.gen n n' ρ rows
        ((enumCases bv bty (enumHeads S.gen tname σ m idx variants).1 ts).eval (.enumV tn i vs) ρ) := by
  intro variants
  induction variants with
  | nil =>
    intro m idx subs ts _ _ _ _ _ hvr _
    obtain ⟨vr, h, _⟩ := hvr
    simp at h
  | cons v rest ih =>
    intro m idx subs ts hnm hle hsubs hts hidx hvr hok
    simp only [enumHeads] at hle hsubs hok ⊢
    simp only [enumSubs] at hsubs
    split at hsubs
    · cases hsubs
    · rename_i s hs
      split at hsubs
      · cases hsubs
      · rename_i subs' hsubs'
        cases hsubs
        cases hts with
        | cons ht hts' =>
          rename_i t ts'
          simp only [enumCases, casesOK, Bool.and_eq_true] at hok
          simp only [enumCases, Cases.eval, armMatches_ctor]
          have hge := enumHeads_ge S.gen tname σ rest (m + v.2.length) (idx + 1)
          by_cases hi : idx = i
          · subst hi
            simp only [beq_self_eq_true, if_true]
            obtain ⟨vr, hvr1, hvr2⟩ := hvr
            simp only [Nat.sub_self, List.getElem?_cons_zero, Option.some.injEq] at hvr1
            subst hvr1
            rw [List.map_fst_zip (by rw [genNames_length, substTys_length]; exact Nat.le_refl _)] at hs
            rw [leavesOK_wrapGet] at hok
            exact destr_sound S hinj hnm (by omega) hn1 (letChain_get_enum _ bv bty tn idx vs) hv hbv hvr2
              (substTys_length σ v.2) _ hs hinv
              (fun ρ' hx r _ o ho hfr hcf => (specEnum_exp ho).destr S hx (by rw [hv]; exact enumSub_conf S)
                (by rintro q _ _ ⟨a, b, i, args, ty, rfl, hi⟩; simp only [hv, matchPat, hi, if_false]) hfr hcf) ht hok.1
          · have hne : (idx == i) = false := by simpa using hi
            simp only [hne, Bool.false_eq_true, if_false]
            have hlt : idx + 1 ≤ i := by omega
            apply ih (m + v.2.length) (idx + 1) subs' ts' (by omega) hle hsubs' hts' hlt ?_ hok.2
            obtain ⟨vr, hvr1, hvr2⟩ := hvr
            refine ⟨vr, ?_, hvr2⟩
            have e : i - idx = (i - (idx + 1)) + 1 := by omega
            rw [e, List.getElem?_cons_succ] at hvr1
            exact hvr1

end Goml.Match
