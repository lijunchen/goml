import GomlVerif.Lemmas.LowerOk
/-! `lower_fn`: the body of a function is classified under the scope `Γ ++ parameter names`.
The fold over `lower_item` / `lower_impl_block`: every function and method body of a lowered file is
classified under its parameters; the file-level run is balanced, never stuck, and does not use up its fuel. -/
namespace Goml.Lower
open Goml.Src

variable {α : Type} {C Γ : List String}

/-- for every `ok`: the function recurses on the list of generics and takes no fuel -/
theorem run_lowerFnGenerics : ∀ (gs : List Cst) (Γ : List String) {ok : Prop}, Run ok Γ (lowerFnGenerics gs) (fun _ => True)
  | [], _, _ => by rw [lowerFnGenerics]; exact Run.mpure trivial
  | g :: gs, Γ, _ => by
    rw [lowerFnGenerics]
    run_auto
    all_goals exact run_lowerFnGenerics gs _

theorem run_lowerFn (n : Nat) (node : Cst) (Γ : List String) :
    Run (2 * node.size ≤ n) Γ (lowerFn C n node) (fun f => OkE C (Γ ++ f.params.map (·.1)) f.body) := by
  unfold lowerFn
  extract_lets attrs
  split
  · exact Run.err _
  · extract_lets k
    have hk : ∀ gb, Run (2 * node.size ≤ n) Γ (k gb) (fun f => OkE C (Γ ++ f.params.map (·.1)) f.body) := by
      intro ⟨generics, bounds⟩
      dsimp only [k]
      split
      · exact Run.err _
      · refine Run.bindT (Run.mapSkipT (fun _ _ => (run_lowerParam _ _).mono (by grind))) (fun params => ?_)
        refine Run.bindT (Run.optT (Run.bind (Run.ofOpt _) (fun _ _ => (run_lowerTy _ _ _).mono (by grind)))) (fun ret => ?_)
        refine Run.bind (Run.withLocals (Run.opt (P := OkE C (Γ ++ params.map (·.1)))
          (Run.bind (Run.ofOpt _) (fun _ _ => ((core C n).block _ _).mono (by grind))))) (fun body hb => ?_)
        split
        · exact Run.pure (hb _ rfl)
        · exact Run.err _
    split
    · exact Run.bindT (run_lowerFnGenerics _ _) hk
    · exact Run.bindT (Run.pure trivial) hk

/-- the body is classified under exactly the parameter names: a function starts from the empty stack -/
def FnOk (C : List String) (f : FnDef) : Prop := classOkExpr C (f.params.map (·.1)) (scopeOf f.body) = true
def ItemOk (C : List String) : Item → Prop
  | .fn f => FnOk C f
  | .impl d => ∀ m ∈ d.methods, FnOk C m
  | _ => True

theorem run_lowerFn_top (n : Nat) (node : Cst) : Run (2 * node.size ≤ n) [] (lowerFn C n node) (FnOk C) :=
  (run_lowerFn (C := C) n node []).weaken (fun f h => by simpa [FnOk] using h.1)

theorem run_lowerVariant (n : Nat) (node : Cst) : Run (2 * node.size ≤ n) Γ (lowerVariant n node) (fun _ => True) := by
  unfold lowerVariant; run_auto
  exact (run_lowerTy _ _ _).mono (by grind)
theorem run_lowerEnum (n : Nat) (node : Cst) : Run (2 * node.size ≤ n) Γ (lowerEnum n node) (fun _ => True) := by
  unfold lowerEnum; run_auto
  exact (run_lowerVariant _ _).mono (by grind)
theorem run_lowerStructField (n : Nat) (node : Cst) :
    Run (2 * node.size ≤ n) Γ (lowerStructField n node) (fun _ => True) := by
  unfold lowerStructField; run_auto
  exact (run_lowerTy _ _ _).mono (by grind)
theorem run_lowerStruct (n : Nat) (node : Cst) : Run (2 * node.size ≤ n) Γ (lowerStruct n node) (fun _ => True) := by
  unfold lowerStruct; run_auto
  exact (run_lowerStructField _ _).mono (by grind)
theorem run_lowerTraitMethod (n : Nat) (node : Cst) :
    Run (2 * node.size ≤ n) Γ (lowerTraitMethod n node) (fun _ => True) := by
  unfold lowerTraitMethod; run_auto
  all_goals exact (run_lowerTy _ _ _).mono (by grind)
theorem run_lowerTrait (n : Nat) (node : Cst) : Run (2 * node.size ≤ n) Γ (lowerTrait n node) (fun _ => True) := by
  unfold lowerTrait; run_auto
  exact (run_lowerTraitMethod _ _).mono (by grind)
theorem run_externParams (n : Nat) (node : Cst) : Run (2 * node.size ≤ n) Γ (externParams n node) (fun _ => True) := by
  unfold externParams; run_auto
  exact (run_lowerParam _ _).mono (by grind)
theorem run_lowerExtern (n : Nat) (node : Cst) : Run (2 * node.size ≤ n) Γ (lowerExtern n node) (ItemOk C) := by
  unfold lowerExtern; run_auto
  all_goals first | exact run_externParams _ _ | exact (run_lowerTy _ _ _).mono (by grind) | trivial

theorem run_lowerImpl (n : Nat) (node : Cst) :
    Run (2 * node.size ≤ n) [] (lowerImpl C n node) (fun d => ∀ m ∈ d.methods, FnOk C m) := by
  unfold lowerImpl
  dsimp only
  refine Run.bindT ?_ (fun _ => ?_)
  · run_auto
  · refine Run.bindT ?_ (fun _ => ?_)
    · run_auto
      exact (run_lowerTy _ _ _).mono (by grind)
    · split
      · exact Run.err _
      · refine Run.bind (Run.mapSkip (P := FnOk C) _ (fun _ _ => (run_lowerFn_top _ _).mono (by grind))) (fun ms hm => ?_)
        exact Run.pure hm

theorem run_lowerItem (n : Nat) (node : Cst) : Run (2 * node.size ≤ n) [] (lowerItem C n node) (ItemOk C) := by
  unfold lowerItem
  split
  · exact Run.bindT (run_lowerEnum _ _) (fun _ => Run.pure trivial)
  · exact Run.bindT (run_lowerStruct _ _) (fun _ => Run.pure trivial)
  · exact Run.bindT (run_lowerTrait _ _) (fun _ => Run.pure trivial)
  · exact Run.bind (run_lowerImpl _ _) (fun d hd => Run.pure hd)
  · exact Run.bind (run_lowerFn_top _ _) (fun f hf => Run.pure hf)
  · exact run_lowerExtern _ _
  · exact Run.fail

theorem ok_lowerFn_top (n : Nat) (node : Cst) : Bal [] (lowerFn C n node) (FnOk C) := (run_lowerFn_top n node).bal

theorem ok_lowerImpl (n : Nat) (node : Cst) :
    Bal [] (lowerImpl C n node) (fun d => ∀ m ∈ d.methods, FnOk C m) := (run_lowerImpl n node).bal

theorem ok_lowerItem (n : Nat) (node : Cst) : Bal [] (lowerItem C n node) (ItemOk C) := (run_lowerItem n node).bal

/-- every item is a child of the file -/
theorem run_lowerFile (file : Cst) (fuel : Nat) :
    Run (2 * file.size ≤ fuel) [] (mapSkip (lowerItem (collectConstructorNames file) fuel) (childrenK itemKinds file))
      (fun its => ∀ it ∈ its, ItemOk (collectConstructorNames file) it) :=
  Run.mapSkip _ fun x hx => (run_lowerItem fuel x).mono fun _ => by have := mem_childrenK_size hx; omega

theorem ok_lowerFile (file : Cst) (fuel : Nat) :
    (lowerFileWith fuel file).st.locals = [] ∧ (lowerFileWith fuel file).st.stuck = false ∧
    ∀ it ∈ (lowerFileWith fuel file).built.items, ItemOk (collectConstructorNames file) it := by
  unfold lowerFileWith
  dsimp only
  obtain ⟨hloc, hstuck, _, hpost⟩ := (run_lowerFile file fuel).run {} rfl
  refine ⟨hloc, hstuck, ?_⟩
  intro it hit
  cases hr : (mapSkip (lowerItem (collectConstructorNames file) fuel) (childrenK itemKinds file) {}).1 with
  | none => rw [hr] at hit; simp at hit
  | some its => rw [hr] at hit; exact hpost its hr it (by simpa using hit)

theorem fnOk_of_lowerFile {file : Cst} {f : FnDef}
    (hf : Item.fn f ∈ (lowerFile file).built.items ∨ ∃ d, Item.impl d ∈ (lowerFile file).built.items ∧ f ∈ d.methods) :
    FnOk (collectConstructorNames file) f := by
  have h := (ok_lowerFile file (fuelFor file)).2.2
  rcases hf with hf | ⟨d, hd, hm⟩
  · exact h _ hf
  · exact h _ hd f hm

/-- the fuel `lowerFile` hands out, `fuelFor file = 2 * file.size + 10`, is never exhausted -/
theorem lowerFile_not_starved (file : Cst) : (lowerFile file).st.starved = false :=
  have ⟨_, _, hfuel, _⟩ := (run_lowerFile file (fuelFor file)).run {} rfl
  hfuel (by unfold fuelFor; omega) rfl

end Goml.Lower
