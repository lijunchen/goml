import GomlVerif.Model.C03presMono
import GomlVerif.Lemmas.WtSubst
import GomlVerif.Lemmas.MonoClosed
/-!
# C03 — monomorphisation (phase 1) preserves type consistency

* `SameUpToCallee`, `monoExpr_sameUpToCallee` (`Lemmas/MonoShape.lean`) — what `mono_expr` changes beyond substituting
  types: names in `.var` nodes, the type name inside a constructor, trait calls resolved to direct calls.
* `errs_sameUpToCallee` — the judgement `Wt.errs … = []` transfers along `SameUpToCallee`, given the
  decidable side condition `Mono.presHypCallees` on the names.
* `mono_preserves_wt_partial` (one body), `specialise_wtFn_partial` (one instance), `phase1_out_wt_partial`
  and `phase1_wtProg_partial` (the whole output of phase 1; decidable hypotheses only, `Mono.presHypProg`).
* `rewriteExpr_noApp`, `mono_preserves_wt_noApp_partial` — phase 2 is the identity on application-free bodies.
-/
namespace Goml.Wt
open Goml Goml.Mono Goml.Closed

/-! ### the judgement transfers along `SameUpToCallee` -/

@[simp] theorem presSig_fns (S : Sig) (fns' : List Fn) : (presSig S fns').fns = fns' := rfl
@[simp] theorem presSig_builtins (S : Sig) (fns' : List Fn) : (presSig S fns').builtins = S.builtins := rfl
@[simp] theorem fieldTys_presSig (S : Sig) (fns' : List Fn) (k : Ctor) (ty : Ty) :
    fieldTys (presSig S fns') k ty = fieldTys S k ty := rfl
@[simp] theorem methodTy_presSig (S : Sig) (fns' : List Fn) (tr m : String) (self : Ty) :
    methodTy (presSig S fns') tr m self = methodTy S tr m self := rfl

theorem nominalArgs_shape {tn : String} {ty : Ty} {targs : List Ty} (h : nominalArgs tn ty = some targs) :
    ty = .enum tn ∨ ty = .struct tn ∨ ty = .app (.enum tn) targs ∨ ty = .app (.struct tn) targs := by
  unfold nominalArgs at h
  split at h
  all_goals simp at h
  all_goals simp [h]

/-- `update_constructor_type` is the identity on a constructor that exists at the node's type -/
theorem updateCtor_of_fieldTys {S : Sig} {k : Ctor} {ty : Ty} {fts : List Ty} (h : fieldTys S k ty = some fts) :
    updateCtor k ty = k := by
  cases k with
  | enum tn v i =>
    obtain ⟨_, _, _, _, hn, _⟩ := fieldTys_enum.1 h
    obtain rfl | rfl | rfl | rfl := nominalArgs_shape hn <;> rfl
  | struct tn =>
    obtain ⟨_, _, _, hn, _⟩ := fieldTys_struct.1 h
    obtain rfl | rfl | rfl | rfl := nominalArgs_shape hn <;> rfl

/-- an unchanged global name is checked against the same scheme under both function tables -/
theorem globalScheme_agree {S : Sig} {fns' : List Fn} {x : String} (hc : presHypGlobalAgree S fns' x = true) :
    globalScheme (presSig S fns') x = globalScheme S x := by
  simp only [presHypGlobalAgree] at hc
  simp only [globalScheme, presSig_fns, presSig_builtins]
  cases h1 : findCallee S.fns x <;> cases h2 : findCallee fns' x <;> simp only [h1, h2] at hc ⊢
  -- none/none is closed by the `simp only`: both sides are the builtin lookup
  · cases hc
  · cases hc
  · rw [(tyBeq_iff _ _).1 hc]

/-- the side condition at a `.var` node is what the judgement of the renamed node needs -/
theorem presHypVar_sound (S : Sig) (fns' : List Fn) (Γ : TyEnv) (x x' : String) (ty : Ty)
    (h : errs S Γ (.var x ty) = []) (hc : presHypVar S fns' Γ x x' ty = true) :
    errs (presSig S fns') Γ (.var x' ty) = [] := by
  simp only [presHypVar, Bool.or_eq_true, Bool.and_eq_true, beq_iff_eq] at hc
  rcases hc with ⟨rfl, hc⟩ | hc
  · rw [errs_var] at h ⊢
    rcases h with h | ⟨hl, hsch⟩
    · exact Or.inl h
    · exact Or.inr ⟨hl, by rw [globalScheme_agree (by simpa [hl] using hc)]; exact hsch⟩
  · simpa [presHypVarOk, List.isEmpty_iff] using hc

/-- what the side condition asks of a renamed callee: for a name `x'` no binder binds and that `fns'`
resolves to `g`, `presHypVarOk` is exactly "the annotation is an instance of `g`'s type" -/
theorem presHypVarOk_global (S : Sig) (fns' : List Fn) (Γ : TyEnv) (x' : String) (ty : Ty) (g : Fn)
    (hΓ : lookupVar Γ x' = none) (hg : findCallee fns' x' = some g) :
    presHypVarOk S fns' Γ x' ty = instOf (fnTy g) ty := by
  rw [Bool.eq_iff_iff, presHypVarOk, List.isEmpty_iff, errs_var]
  simp [hΓ, globalScheme, hg]

/-- the head of an arm: annotations are kept, and the re-derived type name of a constructor is the one it had -/
theorem headOk_same (S : Sig) (fns' : List Fn) (st : Ty) {l l' : Expr} (hl : SameUpToCallee l l')
    (h : headOk S st l) : headOk (presSig S fns') st l' := by
  cases hl with
  | prim p => exact h
  | tag i ty => exact h
  | constr k ty ha =>
    simp only [headOk, fieldTys_presSig] at h ⊢
    rw [updateCtor_of_fieldTys h.2, ← ha.getTys_eq]
    exact h
  | _ => exact h.elim

section
variable (S : Sig) (fns' : List Fn)

/-- **transfer**: if `e` is type-consistent under `S`, `Γ`, and `e'` is `e` up to callee names, then `e'` is
type-consistent under the same definitions with the function table `fns'`, provided the names of
`e'` pass the decidable side condition `presHypCallees` -/
theorem errs_sameUpToCallee (e : Expr) : ∀ Γ e', SameUpToCallee e e' → errs S Γ e = [] →
    presHypCallees S fns' Γ e e' = true → errs (presSig S fns') Γ e' = [] := by
  -- by induction on the relation, every node read through its typing rule (`Lemmas/WtRules`): a constructor of the
  -- relation keeps the annotations and (`getTy_eq`) the types of the parts, which is all a rule reads of a node
  -- beyond its parts — except at a `.var` (`presHypVar_sound`)
  intro Γ e' hs
  revert Γ
  refine SameUpToCallee.rec
    (motive_1 := fun e e' _ => ∀ Γ, errs S Γ e = [] → presHypCallees S fns' Γ e e' = true →
      errs (presSig S fns') Γ e' = [])
    (motive_2 := fun es es' _ => ∀ Γ, errsList S Γ es = [] → presHypCalleesList S fns' Γ es es' = true →
      errsList (presSig S fns') Γ es' = [])
    (motive_3 := fun as as' _ => ∀ Γ st rt, errsArms S Γ st rt as = [] → presHypCalleesArms S fns' Γ as as' = true →
      errsArms (presSig S fns') Γ st rt as' = [])
    ?var ?prim ?tag ?constr ?tuple ?array ?closure ?letE ?matchNone ?matchSome ?ite ?loop ?go ?cget ?un ?bin
    ?call ?toDyn ?dynCall ?traitCall ?proj ?nil ?cons ?armsNil ?armsCons hs
  case var => intro x x' ty Γ h hc; exact presHypVar_sound S fns' Γ x _ ty h (by simpa only [presHypCallees] using hc)
  case prim | tag | nil | armsNil => intros; rfl
  case constr =>
    intro k ty args args' ha ih Γ h hc
    rw [errs_constr] at h ⊢
    rw [fieldTys_presSig, updateCtor_of_fieldTys h.2, ← ha.getTys_eq]
    exact ⟨ih Γ h.1 hc, h.2⟩
  case tuple =>
    intro ty items items' ha ih Γ h hc
    rw [errs_tuple] at h ⊢
    exact ⟨ih Γ h.1 hc, ha.getTys_eq ▸ h.2⟩
  case array =>
    intro ty items items' ha ih Γ h hc
    rw [errs_array] at h ⊢
    rw [← ha.getTys_eq, ← ha.length_eq]
    exact ⟨ih Γ h.1 hc, h.2⟩
  case closure =>
    intro ty ps b b' hb ih Γ h hc
    rw [errs_closure] at h ⊢
    exact ⟨ih _ h.1 hc, hb.getTy_eq ▸ h.2⟩
  case letE =>
    intro x v v' b b' hv hb ih1 ih2 Γ h hc
    simp only [presHypCallees, Bool.and_eq_true] at hc
    rw [errs_letE] at h ⊢
    rw [← hv.getTy_eq] at hc ⊢
    exact ⟨ih1 Γ h.1 hc.1, ih2 _ h.2 hc.2⟩
  case matchNone =>
    intro ty s s' arms arms' hs1 ha ih1 ih2 Γ h hc
    simp only [presHypCallees, Bool.and_eq_true] at hc
    rw [errs_matchNone] at h ⊢
    exact ⟨ih1 Γ h.1 hc.1, hs1.getTy_eq ▸ ih2 Γ _ _ h.2 hc.2⟩
  case matchSome =>
    intro ty s s' d d' arms arms' hs1 ha hd ih1 ih2 ih3 Γ h hc
    simp only [presHypCallees, Bool.and_eq_true] at hc
    rw [errs_matchSome] at h ⊢
    obtain ⟨hscr, harms, hdflt, hdty⟩ := h
    obtain ⟨⟨hcscr, hcarms⟩, hcdflt⟩ := hc
    exact ⟨ih1 Γ hscr hcscr, hs1.getTy_eq ▸ ih2 Γ _ _ harms hcarms, ih3 Γ hdflt hcdflt, hd.getTy_eq ▸ hdty⟩
  case ite =>
    intro c c' t t' e e' h1 h2 h3 ih1 ih2 ih3 Γ h hc
    simp only [presHypCallees, Bool.and_eq_true] at hc
    rw [errs_ite] at h ⊢
    obtain ⟨hcond, hthen, helse, hbool, hsame⟩ := h
    obtain ⟨⟨hccond, hcthen⟩, hcelse⟩ := hc
    exact ⟨ih1 Γ hcond hccond, ih2 Γ hthen hcthen, ih3 Γ helse hcelse, h1.getTy_eq ▸ hbool,
      h2.getTy_eq ▸ h3.getTy_eq ▸ hsame⟩
  case loop =>
    intro c c' b b' h1 h2 ih1 ih2 Γ h hc
    simp only [presHypCallees, Bool.and_eq_true] at hc
    rw [errs_while] at h ⊢
    obtain ⟨hcond, hbody, hbool⟩ := h
    exact ⟨ih1 Γ hcond hc.1, ih2 Γ hbody hc.2, h1.getTy_eq ▸ hbool⟩
  case go => intro e e' h1 ih Γ h hc; rw [errs_go] at h ⊢; exact ih Γ h hc
  case cget =>
    intro k idx ty e e' h1 ih Γ h hc
    rw [errs_cget] at h ⊢
    obtain ⟨he, fts, hf, hi⟩ := h
    rw [fieldTys_presSig, ← h1.getTy_eq, updateCtor_of_fieldTys hf]
    exact ⟨ih Γ he hc, fts, hf, hi⟩
  case un =>
    intro op ty e e' h1 ih Γ h hc
    rw [errs_un] at h ⊢
    exact ⟨ih Γ h.1 hc, h1.getTy_eq ▸ h.2⟩
  case bin =>
    intro op ty l l' r r' h1 h2 ih1 ih2 Γ h hc
    simp only [presHypCallees, Bool.and_eq_true] at hc
    rw [errs_bin] at h ⊢
    obtain ⟨hl, hr, hop⟩ := h
    exact ⟨ih1 Γ hl hc.1, ih2 Γ hr hc.2, h1.getTy_eq ▸ h2.getTy_eq ▸ hop⟩
  case call =>
    intro ty f f' args args' h1 ha ih1 ih2 Γ h hc
    simp only [presHypCallees, Bool.and_eq_true] at hc
    rw [errs_call] at h ⊢
    obtain ⟨hf, hargs, hty⟩ := h
    exact ⟨ih1 Γ hf hc.1, ih2 Γ hargs hc.2, h1.getTy_eq ▸ ha.getTys_eq ▸ hty⟩
  case toDyn =>
    intro tr ft ty e e' h1 ih Γ h hc
    rw [errs_toDyn] at h ⊢
    obtain ⟨he, hfor, hdyn⟩ := h
    exact ⟨ih Γ he hc, h1.getTy_eq ▸ hfor, hdyn⟩
  case dynCall =>
    intro tr m ty recv recv' args args' h1 ha ih1 ih2 Γ h hc
    simp only [presHypCallees, Bool.and_eq_true] at hc
    rw [errs_dynCall] at h ⊢
    obtain ⟨hrecv, hargs, hty⟩ := h
    exact ⟨ih1 Γ hrecv hc.1, ih2 Γ hargs hc.2, h1.getTy_eq ▸ ha.getTys_eq ▸ hty⟩
  case traitCall =>
    -- the resolved call: its callee is judged by the side condition, and it is annotated with the very types of
    -- its arguments
    intro tr m ty nm recv recv' args args' h1 ha ih1 ih2 Γ h hc
    simp only [presHypCallees, Bool.and_eq_true] at hc
    rw [errs_traitCall] at h
    obtain ⟨hrecv, hargs, _⟩ := h
    obtain ⟨⟨hcname, hcrecv⟩, hcargs⟩ := hc
    have hv : errs (presSig S fns') Γ (.var nm (.func (getTys (recv' :: args')) ty)) = [] := by
      simpa [presHypVarOk, List.isEmpty_iff] using hcname
    rw [errs_call, errsList_cons]
    exact ⟨hv, ⟨ih1 Γ hrecv hcrecv, ih2 Γ hargs hcargs⟩, _, _, rfl, compatTys_refl _, compatTy_refl _⟩
  case proj =>
    intro idx ty e e' h1 ih Γ h hc
    rw [errs_proj] at h ⊢
    exact ⟨ih Γ h.1 hc, h1.getTy_eq ▸ h.2⟩
  case cons =>
    intro e e' es es' _ _ ih1 ih2 Γ h hc
    simp only [presHypCalleesList, Bool.and_eq_true] at hc
    rw [errsList_cons] at h ⊢
    exact ⟨ih1 Γ h.1 hc.1, ih2 Γ h.2 hc.2⟩
  case armsCons =>
    intro l l' b b' rest rest' hl hb _ _ ih2 ih3 Γ st rt h hc
    simp only [presHypCalleesArms, Bool.and_eq_true] at hc
    rw [errsArms_cons] at h ⊢
    obtain ⟨hhead, hbody, hbty, hrest⟩ := h
    exact ⟨headOk_same S fns' st hl hhead, ih2 Γ hbody hc.1, hb.getTy_eq ▸ hbty, ih3 Γ st rt hrest hc.2⟩

end

/-! ### phase 1 of mono preserves type consistency -/

/-- **C03 `mono_preserves_wt_partial`** — monomorphisation (phase 1, `mono_expr`) preserves type
consistency of a body.  If the generic body `e` is type-consistent under the generic signature `S`
(closed definitions) and binder environment `Γ`, then what `mono_expr` emits for `e` under the
substitution `σ` — in whatever state `c` the work list is — is type-consistent under `Γ` with `σ`
applied and the signature `presSig S fns'`: the definitions, builtins and traits of `S` with the function
table `fns'` (the monomorphised program's functions), provided the names of the emitted body pass the
decidable check `Mono.presHypCallees` against `fns'`: a renamed callee `f__inst` (and the
`trait_impl#…` callee of a resolved trait call) is declared in `fns'` with a type its annotation is
an instance of, an unrenamed global name means a function of the same type in `S.fns` and in `fns'`.
Every expression form of the model; no condition on `σ`, `F` or `c`.

**Missing for the full `mono_preserves_wt`** (why `_partial`):
* the side condition on names is checked on the output (by the driver, per program) instead of being
  derived from the work-list closure: that every instance `resolveCall` names is eventually emitted in
  `Ctx.out` under that name with header `substParams cs callee.params → substTy cs callee.ret`, and that
  this header equals the call-site annotation (`unify_sound` gives `substParams cs callee.params = argument
  types`; the annotation is only `compatTy`-related to them — array wildcard lengths);
* a binder that shadows a generic function's name is not excluded by the model (`monoVar` renames it);
  `presHypCallees` then fails, the theorem is silent;
* phase 2 (`TypeMono`, `collapse`/`rewriteExpr`) is covered only for bodies without type applications
  (`rewriteExpr_noApp` below: phase 2 is the identity there).  In general it renames `Opt[int32]` to
  `Opt__int32` in every annotation and adds `Opt__int32` to the enum table (`collapse_preserves` shows the
  generic tables are kept); that `fieldTys` over the new tables at the collapsed type equals the collapsed
  `fieldTys` over the generic tables at the applied type is not proved. -/
theorem mono_preserves_wt_partial (S : Sig) (hS : SigClosed S) (fns' F : List Fn) (σ : Subst) (Γ : TyEnv)
    (e : Expr) (c : Ctx) (h : wt S Γ e = true)
    (hc : presHypCallees S fns' (mapΓ σ Γ) (substE σ e) (monoExpr F σ e c).1 = true) :
    wt (presSig S fns') (mapΓ σ Γ) (monoExpr F σ e c).1 = true := by
  rw [wt_iff] at h ⊢
  exact errs_sameUpToCallee S fns' _ _ _ (monoExpr_sameUpToCallee F σ e c) (errs_subst S hS σ e Γ h) hc

theorem specialise_params_env (F : List Fn) (f : Fn) (σ : Subst) (c : Ctx) :
    bindAll (specialise F f σ c).params [] = mapΓ σ (bindAll f.params []) := by
  simp only [specialise, substParams_eq_substParamTys]
  have := bindAll_map σ f.params []
  simpa [mapΓ, substParamTys] using this

/-- **whole instances**: if the generic function `f` is well-typed as a function under `S` (`wtFn`: body
consistent under its parameters, body type = result type), the instance `specialise F f σ c` phase 1
emits for the work item `(f, σ)` is well-typed as a function under `presSig S fns'`, provided its names
pass `Mono.presHypFn` (= `presHypCallees` under the instance's parameters). -/
theorem specialise_wtFn_partial (S : Sig) (hS : SigClosed S) (fns' F : List Fn) (f : Fn) (σ : Subst) (c : Ctx)
    (h : wtFn S f = true) (hc : presHypFn S fns' σ f (specialise F f σ c) = true) :
    wtFn (presSig S fns') (specialise F f σ c) = true := by
  simp only [wtFn, fnErrs, List.isEmpty_iff, List.append_eq_nil_iff, checkEq_nil] at h ⊢
  simp only [presHypFn] at hc
  rw [specialise_params_env] at hc ⊢
  have hs := monoExpr_sameUpToCallee F σ f.body c
  refine ⟨errs_sameUpToCallee S fns' _ _ _ hs (errs_subst S hS σ _ _ h.1) hc, ?_⟩
  show getTy (monoExpr F σ f.body c).1 = substTy σ f.ret
  rw [← hs.getTy_eq, getTy_substE, h.2]

/-- **the output of phase 1**: when the work list empties (`phase1 fuel fns = some c'`) and every function
of the generic program is well-typed under `S`, every emitted function `g` is the instance of some
generic function `f` at a closed substitution `σ` (name, parameters and result type are the substituted
header) and is well-typed under `presSig S fns'` as soon as its names pass `presHypFn S fns' σ f g`
(`fns'` is arbitrary; the intended one is `c'.out`). -/
theorem phase1_out_wt_partial (S : Sig) (hS : SigClosed S) (fns : List Fn) (fuel : Nat) (c' : Ctx)
    (hp : phase1 fuel fns = some c') (hwt : ∀ f ∈ origFns fns, wtFn S f = true) (fns' : List Fn) :
    ∀ g ∈ c'.out, ∃ f σ, f ∈ origFns fns ∧ ClosedSubst σ ∧ g.name = specName f.name σ ∧
      g.params = substParams σ f.params ∧ g.ret = substTy σ f.ret ∧
      (presHypFn S fns' σ f g = true → wtFn (presSig S fns') g = true) := by
  intro g hg
  have h := loop_specInv fuel (seed (origFns fns)) c' (seed_specInv (origFns fns)) hp
  obtain ⟨f, σ, c0, hf, hσ, rfl⟩ := h.out g hg
  exact ⟨f, σ, hf, hσ, rfl, rfl, rfl, fun hc => specialise_wtFn_partial S hS fns' _ f σ c0 (hwt f hf) hc⟩

/-! ### the whole output of phase 1, with a decidable side condition

`OutSpec` says of an emitted `g` only that some `f`, `σ` give `g = specialise F f σ _`; the Bool check `presHypOut`
needs the pair, which the trace `presItems` records. -/

theorem step_items {F : List Fn} {c c' : Ctx} (hs : step F c = some c') :
    c'.out = c.out ++ (presStepItem F c).map (·.2) := by
  obtain ⟨w, rest, hw, ⟨hn, rfl⟩ | ⟨f, hf, rfl⟩⟩ := step_some hs
  · simp [presStepItem, hw, hn, fail_out]
  · simp [presStepItem, hw, hf, monoExpr_out]

theorem loop_items {F : List Fn} : ∀ (fuel : Nat) (c c' : Ctx), loop F fuel c = some c' →
    c'.out = c.out ++ (presItems F fuel c).map (·.2) := by
  intro fuel
  induction fuel with
  | zero =>
    intro c c' hl
    simp only [loop] at hl
    split at hl
    · simp only [Option.some.injEq] at hl; subst hl; simp [presItems]
    · simp at hl
  | succ n ih =>
    intro c c' hl
    simp only [loop] at hl
    cases hs : step F c with
    | none => simp only [hs, Option.some.injEq] at hl; subst hl; simp [presItems, hs]
    | some c1 =>
      simp only [hs] at hl
      simp only [presItems, hs, List.map_append]
      rw [ih c1 c' hl, step_items hs, List.append_assoc]

theorem stepItem_spec {F : List Fn} {c : Ctx} (h : WorkOk c) :
    ∀ p ∈ presStepItem F c, ∃ f c0, findFn F p.1.name = some f ∧ p.2 = specialise F f p.1.subst c0 := by
  intro p hp
  unfold presStepItem at hp
  split at hp
  · simp at hp
  · rename_i w rest hw
    split at hp
    · simp at hp
    · rename_i f hf
      simp only [List.mem_singleton] at hp
      subst hp
      refine ⟨f, { c with work := rest }, hf, ?_⟩
      simp only [specialise, (findFn_mem hf).2, h.named w (by rw [hw]; exact List.mem_cons_self)]

theorem items_spec {F : List Fn} : ∀ (fuel : Nat) (c : Ctx), SpecInv F c →
    ∀ p ∈ presItems F fuel c, ∃ f c0, findFn F p.1.name = some f ∧ p.2 = specialise F f p.1.subst c0 := by
  intro fuel
  induction fuel with
  | zero => intro c _ p hp; simp [presItems] at hp
  | succ n ih =>
    intro c h p hp
    simp only [presItems] at hp
    cases hs : step F c with
    | none => simp [hs] at hp
    | some c1 =>
      simp only [hs, List.mem_append] at hp
      rcases hp with hp | hp
      · exact stepItem_spec h.work p hp
      · exact ih c1 (step_specInv h hs) p hp

/-- **the whole output of phase 1 is well-typed** — decidable hypotheses only: if the work list empties,
every function of the generic program is well-typed under `S` (`wtFn`, decidable per function) and
the emitted functions pass `Mono.presHypOut` against the emitted function table itself (evaluated on the
trace `Mono.presItems` of the loop; together: `Mono.presHypProg`), then every function phase 1 emits is
well-typed under the definitions of `S` with the emitted function table (`wtProg`). -/
theorem phase1_wtProg_partial (S : Sig) (hS : SigClosed S) (fns : List Fn) (fuel : Nat) (c' : Ctx)
    (hp : phase1 fuel fns = some c') (hwt : ∀ f ∈ origFns fns, wtFn S f = true)
    (hc : presHypOut S (origFns fns) c'.out (presItems (origFns fns) fuel (seed (origFns fns))) = true) :
    wtProg (presSig S c'.out) = true := by
  have ho := loop_items fuel (seed (origFns fns)) c' hp
  rw [seed_out, List.nil_append] at ho
  simp only [wtProg, presSig_fns, List.all_eq_true]
  intro g hg
  rw [ho, List.mem_map] at hg
  obtain ⟨p, hpm, rfl⟩ := hg
  obtain ⟨f, c0, hf, he⟩ := items_spec fuel _ (seed_specInv (origFns fns)) p hpm
  simp only [presHypOut, List.all_eq_true] at hc
  have h1 := hc p hpm
  simp only [hf] at h1
  rw [he] at h1 ⊢
  exact specialise_wtFn_partial S hS c'.out _ f p.1.subst c0 (hwt f (findFn_mem hf).1) h1

/-! ### phase 2 on application-free bodies -/

/-- `collapse_type_apps` returns an application-free type unchanged (whatever the fuel) -/
theorem collapse_noApp_id : ∀ fuel,
    (∀ t m, noApp t = true → (collapse fuel t m).1 = t) ∧
    (∀ ts m, noApps ts = true → (collapseList fuel ts m).1 = ts) := by
  intro fuel
  induction fuel with
  | zero => exact ⟨fun t m _ => by simp only [collapse], fun ts m _ => by simp only [collapseList]⟩
  | succ n ih =>
    obtain ⟨hC, hL⟩ := ih
    constructor
    · intro t m h
      cases t with
      | app _ _ => simp [noApp] at h
      | tuple ts => simp only [collapse]; rw [hL ts m h]
      | array _ e | vec e | ref e => simp only [collapse]; rw [hC e m h]
      | func ps r =>
        simp only [noApp, Bool.and_eq_true] at h
        simp only [collapse]
        rw [hL ps m h.1, hC r _ h.2]
      | _ => simp only [collapse]
    · intro ts m h
      cases ts with
      | nil => simp only [collapseList]
      | cons t rest =>
        simp only [noApps, Bool.and_eq_true] at h
        simp only [collapseList]
        rw [hC t m h.1, hL rest _ h.2]

theorem collapseParams_noApp_id (fuel : Nat) (ps : List (String × Ty)) : ∀ m, allParamTys noApp ps = true →
    (collapseParams fuel ps m).1 = ps := by
  induction ps with
  | nil => intro m _; simp only [collapseParams]
  | cons p ps ih =>
    intro m h
    obtain ⟨x, t⟩ := p
    simp only [allParamTys, Bool.and_eq_true] at h
    simp only [collapseParams]
    rw [(collapse_noApp_id fuel).1 t m h.1, ih _ h.2]

/-- the three traversals at once, by induction along `rewriteExpr`: every row collapses its annotations (unchanged,
`collapse_noApp_id`), rewrites its parts (unchanged, by hypothesis) and re-derives a constructor's type name
(unchanged, `presHypCtors`) — the same three facts in every row, so the rows are closed together -/
theorem rewriteExpr_noApp_all (fuel : Nat) :
    (∀ e m, allTys noApp e = true → presHypCtors e = true → (rewriteExpr fuel e m).1 = e) ∧
    (∀ as m, allTysArms noApp as = true → presHypCtorsArms as = true → (rewriteArms fuel as m).1 = as) ∧
    ∀ es m, allTysList noApp es = true → presHypCtorsList es = true → (rewriteList fuel es m).1 = es := by
  have hC := (collapse_noApp_id fuel).1
  have hP := collapseParams_noApp_id fuel
  apply rewriteExpr.mutual_induct_unfolding fuel
    (fun e _ r => allTys noApp e = true → presHypCtors e = true → r.1 = e)
    (fun as _ r => allTysArms noApp as = true → presHypCtorsArms as = true → r.1 = as)
    (fun es _ r => allTysList noApp es = true → presHypCtorsList es = true → r.1 = es)
  all_goals
    intros
    simp only [allTys, allTysList, allTysArms, presHypCtors, presHypCtorsList, presHypCtorsArms, Bool.and_eq_true,
      decide_eq_true_eq] at *
  -- the rows bind their intermediate pairs as `let`s (`+zetaDelta` opens them); `hC`, `hP` and the hypotheses rewrite
  -- each to the part itself
  all_goals simp_all +zetaDelta only [forall_const]

/-- **phase 2 is the identity on application-free bodies**: `rewrite_expr_types` returns an expression all
of whose annotations are application-free unchanged, provided its constructor nodes carry the type
name of their type (`Mono.presHypCtors`; `update_constructor_type` is re-run by phase 2). -/
theorem rewriteExpr_noApp (fuel : Nat) (e : Expr) : ∀ m, allTys noApp e = true → presHypCtors e = true →
    (rewriteExpr fuel e m).1 = e :=
  (rewriteExpr_noApp_all fuel).1 e

/-- phases 1 and 2 together, for an instance body whose annotations contain no type application:
the body `rewrite_expr_types` returns for what `mono_expr` emitted is type-consistent (under the
hypotheses of `mono_preserves_wt_partial`; both extra hypotheses are decidable checks on the phase-1 body) -/
theorem mono_preserves_wt_noApp_partial (S : Sig) (hS : SigClosed S) (fns' F : List Fn) (σ : Subst) (Γ : TyEnv)
    (e : Expr) (c : Ctx) (tyFuel : Nat) (m : TM) (h : wt S Γ e = true)
    (hc : presHypCallees S fns' (mapΓ σ Γ) (substE σ e) (monoExpr F σ e c).1 = true)
    (hn : allTys noApp (monoExpr F σ e c).1 = true) (hk : presHypCtors (monoExpr F σ e c).1 = true) :
    wt (presSig S fns') (mapΓ σ Γ) (rewriteExpr tyFuel (monoExpr F σ e c).1 m).1 = true := by
  rw [rewriteExpr_noApp tyFuel _ m hn hk]
  exact mono_preserves_wt_partial S hS fns' F σ Γ e c h hc

/-! ### non-vacuity -/

namespace PresEx

def i32 : Ty := .int 32 true
def tT : Ty := .param "T"
def optOf (t : Ty) : Ty := .app (.enum "Opt") [t]
def optDef : EnumDef := { name := "Opt", generics := ["T"], variants := [("Non", []), ("Som", [.param "T"])] }
def showTrait : TraitDef := { name := "Show", methods := [("show", .func [.struct "Self"] .string)] }

/-- `fn id[T](x: T) -> T { x }` -/
def idFn : Fn := { name := "id", generics := ["T"], params := [("x/0", tT)], ret := tT, body := .var "x/0" tT }
/-- `fn apply[T](f: (T) -> T, x: T) -> T { f(x) }` -/
def applyFn : Fn :=
  { name := "apply", generics := ["T"], params := [("f/0", .func [tT] tT), ("x/1", tT)], ret := tT,
    body := .call tT (.var "f/0" (.func [tT] tT)) [.var "x/1" tT] }
/-- `fn get_or[T: Show](o: Opt[T], d: T) -> string { let v = match o { Som(y) => apply(id, o.0), Non => d }; string_add(v.show(), "!") }`:
a call of a generic function, a generic function used as a value, a constructor pattern, a field
access, a builtin call and a trait call -/
def getOrFn : Fn :=
  { name := "get_or", generics := ["T"], params := [("o/0", optOf tT), ("d/1", tT)], ret := .string,
    body :=
      .letE "v/2"
        (.matchE tT (.var "o/0" (optOf tT))
          [.mk (.constr (.enum "Opt" "Som" 1) (optOf tT) [.var "y/3" tT])
             (.call tT (.var "apply" (.func [.func [tT] tT, tT] tT))
               [.var "id" (.func [tT] tT), .cget (.enum "Opt" "Som" 1) 0 tT (.var "o/0" (optOf tT))]),
           .mk (.constr (.enum "Opt" "Non" 0) (optOf tT) []) (.var "d/1" tT)] none) <|
      .call .string (.var "string_add" (.func [.string, .string] .string))
        [.traitCall "Show" "show" .string (.var "v/2" tT) [], .prim (.str "!")] }
/-- `impl Show for int32 { fn show(self) -> string { int32_to_string(self) } }` -/
def showI32 : Fn :=
  { name := traitImplFnName "Show" i32 "show", generics := [], params := [("self/0", i32)], ret := .string,
    body := .call .string (.var "int32_to_string" (.func [i32] .string)) [.var "self/0" i32] }
def mainFn : Fn :=
  { name := "main", generics := [], params := [], ret := .string,
    body := .call .string (.var "get_or" (.func [optOf i32, i32] .string))
      [.constr (.enum "Opt" "Som" 1) (optOf i32) [.prim (.int 32 true 7)], .prim (.int 32 true 0)] }

def prog : List Fn := [idFn, applyFn, getOrFn, showI32, mainFn]

def sig : Sig :=
  { fns := prog,
    builtins := [("int32_to_string", .func [i32] .string), ("string_add", .func [.string, .string] .string)],
    enums := [optDef], traits := [showTrait] }

theorem sig_closed : SigClosed sig := by
  refine ⟨?_, ?_, ?_⟩
  · intro d hd v hv t ht x hx
    simp only [sig, List.mem_cons, List.not_mem_nil, or_false] at hd
    subst hd
    simp only [optDef, List.mem_cons, List.not_mem_nil, or_false] at hv
    rcases hv with rfl | rfl
    · simp at ht
    · simp only [List.mem_cons, List.not_mem_nil, or_false] at ht
      subst ht; simpa [fvT, optDef] using hx
  · intro d hd; simp [sig] at hd
  · intro d hd mt hm
    simp only [sig, List.mem_cons, List.not_mem_nil, or_false] at hd
    subst hd
    simp only [showTrait, List.mem_cons, List.not_mem_nil, or_false] at hm
    subst hm; rfl

def σ : Subst := [("T", i32)]

example : wtProg sig = true := by decide +kernel

/-- what phase 1 emits for the body of `get_or` at `T := int32` (from the empty context) -/
def getOrInst : Expr := (monoExpr prog σ getOrFn.body {}).1

-- it is the substitution instance up to callee names: three names differ
example : getOrInst =
    .letE "v/2"
      (.matchE i32 (.var "o/0" (optOf i32))
        [.mk (.constr (.enum "Opt" "Som" 1) (optOf i32) [.var "y/3" i32])
           (.call i32 (.var "apply__T_int32" (.func [.func [i32] i32, i32] i32))
             [.var "id__T_int32" (.func [i32] i32), .cget (.enum "Opt" "Som" 1) 0 i32 (.var "o/0" (optOf i32))]),
         .mk (.constr (.enum "Opt" "Non" 0) (optOf i32) []) (.var "d/1" i32)] none)
      (.call .string (.var "string_add" (.func [.string, .string] .string))
        [.call .string (.var "trait_impl#Show#int32#show" (.func [i32] .string)) [.var "v/2" i32], .prim (.str "!")]) := by
  rfl
example : SameUpToCallee (substE σ getOrFn.body) getOrInst := monoExpr_sameUpToCallee prog σ getOrFn.body {}

/-- the function table of the monomorphised program: what phase 1 emits for `prog` -/
def outFns : List Fn := ((phase1 20 prog).map (·.out)).getD []

def Γ0 : TyEnv := bindAll getOrFn.params []

/-- What the examples below ask of the one closed run `phase1 20 prog`; evaluated together, the run is
evaluated once. -/
theorem outFns_run :
    outFns.map (·.name) =
      ["trait_impl#Show#int32#show", "main", "get_or__T_int32", "id__T_int32", "apply__T_int32"] ∧
    presHypCallees sig outFns (mapΓ σ Γ0) (substE σ getOrFn.body) getOrInst = true ∧
    wt (presSig sig outFns) (mapΓ σ Γ0) getOrInst = true ∧
    presHypCallees sig (outFns.map fun g => if g.name == "id__T_int32" then { g with ret := .bool } else g)
      (mapΓ σ Γ0) (substE σ getOrFn.body) getOrInst = false ∧
    presHypFn sig outFns σ getOrFn (specialise prog getOrFn σ {}) = true ∧
    presHypProg sig 20 prog = true ∧
    outFns.all (wtFn (presSig sig outFns)) = true ∧
    (presItems (origFns prog) 20 (seed (origFns prog))).map (fun p => (p.1.name, p.1.subst.map (·.1), p.2.name)) =
      [("trait_impl#Show#int32#show", [], "trait_impl#Show#int32#show"), ("main", [], "main"),
       ("get_or", ["T"], "get_or__T_int32"), ("id", ["T"], "id__T_int32"),
       ("apply", ["T"], "apply__T_int32")] := by
  decide +kernel

example : outFns.map (·.name) =
    ["trait_impl#Show#int32#show", "main", "get_or__T_int32", "id__T_int32", "apply__T_int32"] := outFns_run.1

-- the hypotheses of `mono_preserves_wt_partial` hold …
example : wt sig Γ0 getOrFn.body = true := by decide +kernel
example : presHypCallees sig outFns (mapΓ σ Γ0) (substE σ getOrFn.body) getOrInst = true := outFns_run.2.1
-- … so the conclusion holds by the theorem, and it holds by evaluation
example : wt (presSig sig outFns) (mapΓ σ Γ0) getOrInst = true :=
  mono_preserves_wt_partial sig sig_closed outFns prog σ Γ0 getOrFn.body {} (by decide +kernel) outFns_run.2.1
example : wt (presSig sig outFns) (mapΓ σ Γ0) getOrInst = true := outFns_run.2.2.1

-- the side condition is not vacuous: without the instances in the table it fails, and so does the judgement
example : presHypCallees sig prog (mapΓ σ Γ0) (substE σ getOrFn.body) getOrInst = false := by decide +kernel
example : errs (presSig sig prog) (mapΓ σ Γ0) getOrInst =
    ["var:unbound|apply__T_int32", "var:unbound|id__T_int32"] := by decide +kernel
-- for a global name the check is `instOf` of the declared type
example : presHypVarOk sig outFns (mapΓ σ Γ0) "id__T_int32" (.func [i32] i32) = instOf (.func [i32] i32) (.func [i32] i32) :=
  presHypVarOk_global sig outFns _ _ _ (specialise prog idFn σ {}) (by decide +kernel) (by rfl)
-- so a table that declares the instance at another type is rejected too
example : presHypCallees sig (outFns.map fun g => if g.name == "id__T_int32" then { g with ret := .bool } else g)
    (mapΓ σ Γ0) (substE σ getOrFn.body) getOrInst = false := outFns_run.2.2.2.1

-- whole instances: `specialise` of `get_or` is well-typed as a function
example : wtFn (presSig sig outFns) (specialise prog getOrFn σ {}) = true :=
  specialise_wtFn_partial sig sig_closed outFns prog getOrFn σ {} (by decide +kernel) outFns_run.2.2.2.2.1
-- the whole output of phase 1: the decidable side condition holds, so the theorem applies; and by evaluation
example : presHypProg sig 20 prog = true := outFns_run.2.2.2.2.2.1
example : (presItems (origFns prog) 20 (seed (origFns prog))).map (fun p => (p.1.name, p.1.subst.map (·.1), p.2.name)) =
    [("trait_impl#Show#int32#show", [], "trait_impl#Show#int32#show"), ("main", [], "main"),
     ("get_or", ["T"], "get_or__T_int32"), ("id", ["T"], "id__T_int32"),
     ("apply", ["T"], "apply__T_int32")] := outFns_run.2.2.2.2.2.2.2
example : ∃ c', phase1 20 prog = some c' ∧ wtProg (presSig sig c'.out) = true := by
  have h : presHypProg sig 20 prog = true := outFns_run.2.2.2.2.2.1
  cases hp : phase1 20 prog with
  | none => simp [presHypProg, hp] at h
  | some c' =>
    refine ⟨c', rfl, phase1_wtProg_partial sig sig_closed prog 20 c' hp ?_ ?_⟩
    · have : (origFns prog).all (wtFn sig) = true := by decide +kernel
      exact fun f hf => List.all_eq_true.1 this f hf
    · simpa [presHypProg, hp] using h
example : outFns.all (wtFn (presSig sig outFns)) = true := outFns_run.2.2.2.2.2.2.1

-- phase 2: an application-free instance body (`apply` at `int32`) is returned unchanged; `get_or`'s mentions `Opt[int32]`
def applyInst : Expr := (monoExpr prog σ applyFn.body {}).1
example : allTys noApp applyInst = true ∧ presHypCtors applyInst = true := by decide +kernel
example : wt (presSig sig outFns) (mapΓ σ (bindAll applyFn.params []))
    (rewriteExpr 10 applyInst { enumBase := [optDef], structBase := [] }).1 = true :=
  mono_preserves_wt_noApp_partial sig sig_closed outFns prog σ _ applyFn.body {} 10 _ (by decide +kernel)
    (by decide +kernel) (by decide +kernel) (by decide +kernel)
example : allTys noApp getOrInst = false := by decide +kernel
example : presHypCtors getOrInst = true := by decide +kernel

end PresEx

end Goml.Wt
