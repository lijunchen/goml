import GomlVerif.Lemmas.C03presAnf
import GomlVerif.Model.Scoped
/-!
ANF preserves scope closedness (`Scoped.unbound … = []`), independently of types: every
temporary is bound by the chain before its use and no source variable leaves, or is captured by,
a widened `let`.  Same structure as `C03presAnf.lean` and `C03presAnfCases.lean` with a set of bound names in
place of the typed context (`extB`, `unbB`, `AgreeS`, `SC*` for `extΓ`, `errsB`, `AgreeT`, `WT*`).
-/
namespace Goml.Anf
open Goml Goml.Scoped

theorem mem_cons_congr {B B' : List String} {x : String} (k : String) (h : x ∈ B ↔ x ∈ B') :
    x ∈ k :: B ↔ x ∈ k :: B' := by simp only [List.mem_cons, h]

theorem mem_append_congr {B B' : List String} {x : String} (ps : List String) (h : x ∈ B ↔ x ∈ B') :
    x ∈ ps ++ B ↔ x ∈ ps ++ B' := by simp only [List.mem_append, h]

mutual
theorem unbound_agree : ∀ (e : Expr) (B B' : List String),
    (∀ x ∈ names e, (x ∈ B ↔ x ∈ B')) → unbound B e = unbound B' e
  | .var x ty, B, B', h => by
    have hx := h x (by simp [names])
    simp only [unbound]
    by_cases hb : x ∈ B
    · simp [hb, hx.1 hb]
    · have hb' : x ∉ B' := fun h' => hb (hx.2 h')
      simp [hb, hb']
  | .prim _, _, _, _ | .tag _ _, _, _, _ => rfl
  | .constr _ _ args, B, B', h | .tuple _ args, B, B', h | .array _ args, B, B', h => by
    simp only [unbound]
    exact unboundList_agree args B B' (fun x hx => h x (by simpa [names] using hx))
  | .closure ty ps body, B, B', h => by
    simp only [unbound]
    exact unbound_agree body _ _ (fun x hx => mem_append_congr _ (h x (by simp [names, hx])))
  | .letE y v b, B, B', h => by
    simp only [unbound]
    rw [unbound_agree v B B' (fun x hx => h x (by simp [names, hx])),
      unbound_agree b (y :: B) (y :: B') (fun x hx => mem_cons_congr y (h x (by simp [names, hx])))]
  | .matchE ty s arms none, B, B', h => by
    simp only [unbound]
    rw [unbound_agree s B B' (fun x hx => h x (by simp [names, hx])),
      unboundArms_agree arms B B' (fun x hx => h x (by simp [names, hx]))]
  | .matchE ty s arms (some d), B, B', h => by
    simp only [unbound]
    rw [unbound_agree s B B' (fun x hx => h x (by simp [names, hx])),
      unboundArms_agree arms B B' (fun x hx => h x (by simp [names, hx])),
      unbound_agree d B B' (fun x hx => h x (by simp [names, namesDflt, hx]))]
  | .ite c t e, B, B', h => by
    simp only [unbound]
    rw [unbound_agree c B B' (fun x hx => h x (by simp [names, hx])),
      unbound_agree t B B' (fun x hx => h x (by simp [names, hx])),
      unbound_agree e B B' (fun x hx => h x (by simp [names, hx]))]
  | .while l r, B, B', h | .bin _ _ l r, B, B', h => by
    simp only [unbound]
    rw [unbound_agree l B B' (fun x hx => h x (by simp [names, hx])),
      unbound_agree r B B' (fun x hx => h x (by simp [names, hx]))]
  | .go e, B, B', h | .cget _ _ _ e, B, B', h | .un _ _ e, B, B', h | .toDyn _ _ _ e, B, B', h
  | .proj _ _ e, B, B', h => by
    simp only [unbound]
    exact unbound_agree e B B' (fun x hx => h x (by simpa [names] using hx))
  | .call _ f args, B, B', h | .dynCall _ _ _ f args, B, B', h | .traitCall _ _ _ f args, B, B', h => by
    simp only [unbound]
    rw [unbound_agree f B B' (fun x hx => h x (by simp [names, hx])),
      unboundList_agree args B B' (fun x hx => h x (by simp [names, hx]))]
theorem unboundList_agree : ∀ (es : List Expr) (B B' : List String),
    (∀ x ∈ namesList es, (x ∈ B ↔ x ∈ B')) → unboundList B es = unboundList B' es
  | [], _, _, _ => rfl
  | e :: rest, B, B', h => by
    simp only [unboundList]
    rw [unbound_agree e B B' (fun x hx => h x (by simp [namesList, hx])),
      unboundList_agree rest B B' (fun x hx => h x (by simp [namesList, hx]))]
theorem unboundArms_agree : ∀ (arms : List Arm) (B B' : List String),
    (∀ x ∈ namesArms arms, (x ∈ B ↔ x ∈ B')) → unboundArms B arms = unboundArms B' arms
  | [], _, _, _ => rfl
  | .mk lhs body :: rest, B, B', h => by
    simp only [unboundArms]
    rw [unbound_agree body B B' (fun x hx => h x (by simp [namesArms, hx])),
      unboundArms_agree rest B B' (fun x hx => h x (by simp [namesArms, hx]))]
end

/-! ### a chain of bindings -/

def extB : Binds → List String → List String
  | [], B => B
  | (x, _) :: L, B => extB L (x :: B)

def unbB : List String → Binds → List String
  | _, [] => []
  | B, (x, v) :: L => unbound B v ++ unbB (x :: B) L

theorem extB_append : ∀ (L1 L2 : Binds) (B : List String), extB (L1 ++ L2) B = extB L2 (extB L1 B)
  | [], _, _ => rfl
  | (x, v) :: L1, L2, B => by simp only [List.cons_append, extB]; exact extB_append L1 L2 _

theorem unbB_append : ∀ (L1 L2 : Binds) (B : List String),
    unbB B (L1 ++ L2) = unbB B L1 ++ unbB (extB L1 B) L2
  | [], _, _ => rfl
  | (x, v) :: L1, L2, B => by
    simp only [List.cons_append, unbB, extB, unbB_append L1 L2, List.append_assoc]

theorem unbound_wrap : ∀ (L : Binds) (c : Expr) (B : List String),
    unbound B (wrap L c) = unbB B L ++ unbound (extB L B) c
  | [], _, _ => rfl
  | (x, v) :: L, c, B => by simp only [wrap, unbound, unbB, extB, unbound_wrap L c, List.append_assoc]

theorem mem_extB : ∀ (L : Binds) (B : List String) (x : String), x ∉ keys L → (x ∈ extB L B ↔ x ∈ B)
  | [], _, _, _ => Iff.rfl
  | (y, v) :: L, B, x, h => by
    simp only [keys_cons, List.mem_cons, not_or] at h
    simp only [extB]
    rw [mem_extB L _ x h.2]
    simp [h.1]

def AgreeS (D : List String) (B B' : List String) : Prop := ∀ x, x ∉ D → (x ∈ B ↔ x ∈ B')

theorem AgreeS.ext {D B B' : List String} (h : AgreeS D B B') (L : Binds) : AgreeS (D ++ keys L) B (extB L B') := by
  intro x hx
  simp only [List.mem_append, not_or] at hx
  rw [mem_extB L B' x hx.2]; exact h x hx.1

theorem AgreeS.cons {D B B' : List String} (h : AgreeS D B B') (y : String) : AgreeS D (y :: B) (y :: B') :=
  fun x hx => mem_cons_congr y (h x hx)

theorem unbound_of_agree {D B B' : List String} {e : Expr} (ha : AgreeS D B B')
    (hd : ∀ x ∈ names e, x ∉ D) (h : unbound B e = []) : unbound B' e = [] := by
  rw [← unbound_agree e B B' (fun x hx => ha x (hd x hx))]; exact h

def SC (e : Expr) : Prop :=
  ∀ (n N : Nat) (D B B' : List String), Hyp D e n N → AgreeS D B B' → unbound B e = [] →
    unbB B' (dec e n).L = [] ∧ unbound (extB (dec e n).L B') (dec e n).c = []

def SCTop (e : Expr) : Prop :=
  ∀ (n N : Nat) (D B B' : List String), Hyp D e n N → AgreeS D B B' → unbound B e = [] →
    unbound B' (anf e n ret).1 = []

def SCImm (e : Expr) : Prop :=
  ∀ (n N : Nat) (D B B' : List String),
    frag e = true → (∀ x ∈ names e, x ∉ D) → (∀ m, n ≤ m → m < N → tmpName m ∉ names e) →
    (decImm e n).n ≤ N → AgreeS D B B' → unbound B e = [] →
    unbB B' (decImm e n).L = [] ∧ unbound (extB (decImm e n).L B') (decImm e n).c = []

def SCL (es : List Expr) : Prop :=
  ∀ (n N : Nat) (D B B' : List String), HypL D es n N → AgreeS D B B' → unboundList B es = [] →
    unbB B' (decList es n).L = [] ∧ unboundList (extB (decList es n).L B') (decList es n).cs = []

theorem sc_top {e : Expr} (h : SC e) : SCTop e := by
  intro n N D B B' hy ha he
  obtain ⟨h1, h2⟩ := h n N D B B' hy ha he
  rw [anf_ret]
  simp only [unbound_wrap, h1, h2, List.append_nil]

theorem sc_imm {e : Expr} (h : SC e) : SCImm e := by
  intro n N D B B' hf hd hfr hb ha he
  cases hat : isAtom e
  · rw [decImm_nonatom hat] at hb ⊢
    simp only at hb ⊢
    have hy : Hyp D e (n+1) N := ⟨hf, hd, fun m h1 h2 => hfr m (by omega) h2, hb⟩
    obtain ⟨h1, h2⟩ := h (n+1) N D B B' hy ha he
    refine ⟨?_, ?_⟩
    · rw [unbB_append, h1]; simp [unbB, h2]
    · rw [extB_append]; simp [extB, unbound]
  · rw [decImm_atom hat]
    exact ⟨rfl, unbound_of_agree ha hd he⟩

theorem scL_nil : SCL [] := by
  intro n N D B B' _ _ _
  exact ⟨rfl, rfl⟩

theorem scL_cons {e : Expr} {rest : List Expr} (he : SCImm e) (hr : SCL rest) : SCL (e :: rest) := by
  intro n N D B B' hy ha hev
  obtain ⟨hie, hyt⟩ := hypL_cons hy
  have hf := hy.frag
  simp only [fragList, Bool.and_eq_true] at hf
  simp only [unboundList, List.append_eq_nil_iff] at hev
  obtain ⟨a1, a2⟩ := he n N D B B' hie.frag hie.dis hie.fresh hie.bound ha hev.1
  obtain ⟨b1, b2⟩ := hr _ N _ B _ hyt (ha.ext (decImm e n).L) hev.2
  show unbB B' ((decImm e n).L ++ (decList rest (decImm e n).n).L) = [] ∧
    unboundList (extB ((decImm e n).L ++ (decList rest (decImm e n).n).L) B')
      ((decImm e n).c :: (decList rest (decImm e n).n).cs) = []
  refine ⟨by rw [unbB_append, a1, b1]; rfl, ?_⟩
  rw [extB_append]
  simp only [unboundList, List.append_eq_nil_iff]
  refine ⟨?_, b2⟩
  rw [unbound_agree _ _ (extB (decImm e n).L B')
    (fun x hx => mem_extB _ _ x (imm_not_rebound hf.2 hy.fresh hyt.bound x hx))]
  exact a2

theorem sc_ops {e : Expr} {ops : List Expr} {mk : List Expr → Expr}
    (hL : SCL ops)
    (hdec : ∀ n, (dec e n).L = (decList ops n).L ∧ (dec e n).c = mk (decList ops n).cs)
    (hhyp : ∀ D n N, Hyp D e n N → HypL D ops n N)
    (hsrc : ∀ B, unbound B e = [] → unboundList B ops = [])
    (htgt : ∀ B1 cs, unboundList B1 cs = [] → unbound B1 (mk cs) = []) : SC e := by
  intro n N D B B' hy ha he
  obtain ⟨hd1, hd2⟩ := hdec n
  rw [hd1, hd2]
  obtain ⟨h1, h2⟩ := hL n N D B B' (hhyp D n N hy) ha (hsrc B he)
  exact ⟨h1, htgt _ _ h2⟩

theorem sc_op1 {e : Expr} {mk1 : Expr → Expr} (he : SC e)
    (hdec : ∀ n, dec (mk1 e) n = ⟨(decImm e n).L, mk1 (decImm e n).c, (decImm e n).n⟩)
    (hfrag : frag (mk1 e) = frag e) (hnames : names (mk1 e) = names e)
    (hunb : ∀ B i, unbound B (mk1 i) = unbound B i) : SC (mk1 e) := by
  intro n N D B B' hy ha hev
  obtain ⟨hf, hd, hfr, hb⟩ := hy
  rw [hdec] at hb ⊢
  simp only at hb ⊢
  rw [hfrag] at hf; rw [hnames] at hd hfr
  rw [hunb] at hev
  obtain ⟨h1, h2⟩ := sc_imm he n N D B B' hf hd hfr hb ha hev
  exact ⟨h1, by rw [hunb]; exact h2⟩

theorem sc_var (x : String) (ty : Ty) : SC (.var x ty) := by
  intro n N D B B' hy ha he
  show unbB B' [] = [] ∧ unbound (extB [] B') (.var x ty) = []
  exact ⟨rfl, unbound_of_agree ha hy.dis he⟩

theorem sc_prim (p : Prim) : SC (.prim p) := by
  intro n N D B B' _ _ _
  exact ⟨rfl, rfl⟩

theorem sc_un {op : UnOp} {ty : Ty} {e : Expr} (he : SC e) : SC (.un op ty e) :=
  sc_op1 (mk1 := fun i => .un op ty i) he (fun _ => rfl) (by simp [frag]) (by simp [names]) (fun _ _ => rfl)
theorem sc_cget {c : Ctor} {idx : Nat} {ty : Ty} {e : Expr} (he : SC e) : SC (.cget c idx ty e) :=
  sc_op1 (mk1 := fun i => .cget c idx ty i) he (fun _ => rfl) (by simp [frag]) (by simp [names]) (fun _ _ => rfl)
theorem sc_proj {idx : Nat} {ty : Ty} {e : Expr} (he : SC e) : SC (.proj idx ty e) :=
  sc_op1 (mk1 := fun i => .proj idx ty i) he (fun _ => rfl) (by simp [frag]) (by simp [names]) (fun _ _ => rfl)
theorem sc_toDyn {tr : String} {forTy ty : Ty} {e : Expr} (he : SC e) : SC (.toDyn tr forTy ty e) :=
  sc_op1 (mk1 := fun i => .toDyn tr forTy ty i) he (fun _ => rfl) (by simp [frag]) (by simp [names]) (fun _ _ => rfl)
theorem sc_go {e : Expr} (he : SC e) : SC (.go e) :=
  sc_op1 (mk1 := fun i => .go i) he (fun _ => rfl) (by simp [frag]) (by simp [names]) (fun _ _ => rfl)

theorem sc_tuple {ty : Ty} {items : List Expr} (hL : SCL items) : SC (.tuple ty items) :=
  sc_ops (mk := fun cs => .tuple ty cs) hL (fun _ => ⟨rfl, rfl⟩) (fun _ _ _ => hyp_tuple)
    (fun _ h => h) (fun _ _ h => h)

theorem sc_array {ty : Ty} {items : List Expr} (hL : SCL items) : SC (.array ty items) :=
  sc_ops (mk := fun cs => .array ty cs) hL (fun _ => ⟨rfl, rfl⟩) (fun _ _ _ => hyp_array)
    (fun _ h => h) (fun _ _ h => h)

theorem sc_constr {c : Ctor} {ty : Ty} {args : List Expr}
    (h : ∀ tn vn idx, c = .enum tn vn idx → args ≠ []) (hL : SCL args) : SC (.constr c ty args) :=
  sc_ops (mk := fun cs => .constr c ty cs) hL
    (fun _ => by rw [dec_constr_general h]; exact ⟨rfl, rfl⟩) (fun _ _ _ => hyp_constr h)
    (fun _ h => h) (fun _ _ h => h)

theorem sc_constr_nullary {tn vn : String} {idx : Nat} {ty : Ty} : SC (.constr (.enum tn vn idx) ty []) := by
  intro n N D B B' _ _ _
  show unbB B' [] = [] ∧ unbound (extB [] B') (.tag idx ty) = []
  exact ⟨rfl, rfl⟩

theorem sc_call {ty : Ty} {f : Expr} {args : List Expr} (hL : SCL (f :: args)) : SC (.call ty f args) :=
  sc_ops (mk := fun cs => match cs with | fi :: is => .call ty fi is | [] => .prim .unit) hL
    (fun _ => ⟨rfl, rfl⟩) (fun _ _ _ => hyp_call)
    (fun B h => by simpa only [unbound, unboundList] using h)
    (fun B1 cs h => by
      match cs, h with
      | [], _ => rfl
      | fi :: is, h => simpa only [unbound, unboundList] using h)

theorem sc_dynCall {tr m : String} {ty : Ty} {recv : Expr} {args : List Expr} (hL : SCL (recv :: args)) :
    SC (.dynCall tr m ty recv args) :=
  sc_ops (mk := fun cs => match cs with | ri :: is => .dynCall tr m ty ri is | [] => .prim .unit) hL
    (fun _ => ⟨rfl, rfl⟩) (fun _ _ _ => hyp_dynCall)
    (fun B h => by simpa only [unbound, unboundList] using h)
    (fun B1 cs h => by
      match cs, h with
      | [], _ => rfl
      | ri :: is, h => simpa only [unbound, unboundList] using h)

theorem sc_bin_plain {op : BinOp} {ty : Ty} {l r : Expr}
    (hc : ((op == .and || op == .or) && !trivialRhs r) = false) (hL : SCL [l, r]) : SC (.bin op ty l r) := by
  refine sc_ops (mk := fun cs => match cs with | [li, ri] => .bin op ty li ri | _ => .prim .unit) hL
    (fun n => ⟨(dec_bin_plain hc n).1, (dec_bin_plain hc n).2.1⟩) (fun _ _ _ => hyp_bin_plain hc) ?_ ?_
  · intro B h
    simpa only [unbound, unboundList, List.append_nil] using h
  · intro B1 cs h
    match cs, h with
    | [li, ri], h => simpa only [unbound, unboundList, List.append_nil] using h
    | [], _ => rfl
    | [_], _ => rfl
    | _ :: _ :: _ :: _, _ => rfl

theorem sc_letE {x : String} {v b : Expr} (hv : SC v) (hb : SC b) : SC (.letE x v b) := by
  intro n N D B B' hy ha hev
  obtain ⟨hyv, hyb⟩ := hyp_letE hy
  simp only [unbound, List.append_eq_nil_iff] at hev
  obtain ⟨a1, a2⟩ := hv n N D B B' hyv ha hev.1
  obtain ⟨b1, b2⟩ := hb _ N _ _ _ hyb ((ha.ext (dec v n).L).cons x) hev.2
  rw [dec_letE]
  refine ⟨?_, ?_⟩
  · rw [unbB_append]; simp only [unbB, a1, a2, b1, List.append_nil]
  · rw [extB_append]; simp only [extB]; exact b2

theorem sc_ite {c t e : Expr} (hc : SC c) (ht : SC t) (he : SC e) : SC (.ite c t e) := by
  intro n N D B B' hy ha hev
  obtain ⟨hic, hyt, hye⟩ := hyp_ite hy
  simp only [unbound, List.append_eq_nil_iff] at hev
  obtain ⟨⟨ec, et⟩, ee⟩ := hev
  obtain ⟨a1, a2⟩ := sc_imm hc n N D B B' hic.frag hic.dis hic.fresh hic.bound ha ec
  have ha1 := ha.ext (decImm c n).L
  have t1 := sc_top ht _ N _ B _ hyt ha1 et
  have e1 := sc_top he _ N _ B _ hye ha1 ee
  rw [dec_ite]
  refine ⟨a1, ?_⟩
  simp only [unbound, List.append_eq_nil_iff]
  exact ⟨⟨a2, t1⟩, e1⟩

theorem sc_while {c b : Expr} (hc : SC c) (hb : SC b) : SC (.while c b) := by
  intro n N D B B' hy ha hev
  obtain ⟨hyc, hyb⟩ := hyp_while hy
  simp only [unbound, List.append_eq_nil_iff] at hev
  have c1 := sc_top hc n N D B B' hyc ha hev.1
  have b1 := sc_top hb _ N D B B' hyb ha hev.2
  rw [dec_while]
  refine ⟨rfl, ?_⟩
  simp only [extB, unbound, List.append_eq_nil_iff]
  exact ⟨c1, b1⟩

theorem sc_bin_lowered {op : BinOp} {ty : Ty} {l r : Expr}
    (hc : ((op == .and || op == .or) && !trivialRhs r) = true) (hl : SC l) (hr : SC r) :
    SC (.bin op ty l r) := by
  intro n N D B B' hy ha hev
  obtain ⟨hil, hyr⟩ := hyp_lowered hc hy
  obtain ⟨hop, hat⟩ := lowered_iff.1 hc
  simp only [unbound, List.append_eq_nil_iff] at hev
  obtain ⟨el, er⟩ := hev
  obtain ⟨a1, a2⟩ := sc_imm hl n N D B B' hil.frag hil.dis hil.fresh hil.bound ha el
  have r1 := sc_top hr _ N _ B _ hyr (ha.ext (decImm l n).L) er
  rcases hop with rfl | rfl
  · rw [dec_and_lowered hat]
    refine ⟨a1, ?_⟩
    simp only [unbound, List.append_eq_nil_iff, List.append_nil]
    exact ⟨a2, r1⟩
  · rw [dec_or_lowered hat]
    refine ⟨a1, ?_⟩
    simp only [unbound, List.append_eq_nil_iff, List.append_nil]
    exact ⟨a2, r1⟩

def SCA (arms : List Arm) : Prop :=
  ∀ (n N : Nat) (D B B' : List String),
    fragArms arms = true → (∀ x ∈ namesArms arms, x ∉ D) →
    (∀ m, n ≤ m → m < N → tmpName m ∉ namesArms arms) → (anfArms arms n).2 ≤ N →
    AgreeS D B B' → unboundArms B arms = [] → unboundArms B' (anfArms arms n).1 = []

theorem scA_nil : SCA [] := by
  intro n N D B B' _ _ _ _ _ _
  rfl

theorem scA_cons {lhs body : Expr} {rest : List Arm} (hb : SC body) (hr : SCA rest) :
    SCA (.mk lhs body :: rest) := by
  intro n N D B B' hf hd hfr hbd ha hev
  obtain ⟨hyb, hyr⟩ := hypA_cons (hypA_none hf hd hfr hbd)
  obtain ⟨hfr', hdr, hfrr, hbr⟩ := hypA_arms hyr
  simp only [unboundArms, List.append_eq_nil_iff] at hev
  have b1 := sc_top hb n N D B B' hyb ha hev.1
  have r := hr (dec body n).n N D B B' hfr' hdr hfrr hbr ha hev.2
  rw [anfArms_cons]
  simp only [unboundArms, List.append_eq_nil_iff]
  exact ⟨b1, r⟩

theorem unbound_matchE {B : List String} {ty : Ty} {s : Expr} {arms : List Arm} {d : Option Expr} :
    unbound B (.matchE ty s arms d) = [] ↔
      unbound B s = [] ∧ unboundArms B arms = [] ∧ ∀ d0, d = some d0 → unbound B d0 = [] := by
  cases d <;> simp [unbound]

theorem sc_matchE {ty : Ty} {s : Expr} {arms : List Arm} {d : Option Expr}
    (hs' : SC s) (hA : SCA arms) (hD : ∀ e, d = some e → SC e) : SC (.matchE ty s arms d) := by
  intro n N D B B' hy ha hev
  obtain ⟨his, hyA⟩ := hyp_matchE hy
  obtain ⟨hfa, hda, hfra, hba⟩ := hypA_arms hyA
  have ha1 := ha.ext (decImm s n).L
  obtain ⟨es, ea, ed⟩ := unbound_matchE.1 hev
  obtain ⟨a1, a2⟩ := sc_imm hs' n N D B B' his.frag his.dis his.fresh his.bound ha es
  rw [dec_matchE]
  refine ⟨a1, unbound_matchE.2 ⟨a2, hA (decImm s n).n N _ B _ hfa hda hfra hba ha1 ea, ?_⟩⟩
  cases d with
  | none => intro d0 h0; cases h0
  | some d0 =>
    intro d' h'
    cases h'
    exact sc_top (hD d0 rfl) _ N _ B _ (hypD_some (hypA_dflt hyA)) ha1 (ed d0 rfl)

mutual
theorem sc_all : ∀ (e : Expr), SC e
  | .var x ty => sc_var x ty
  | .prim p => sc_prim p
  | .tag idx ty => fun _ _ _ _ _ hy => (hyp_absurd (by simp [frag]) hy).elim
  | .closure ty ps b => fun _ _ _ _ _ hy => (hyp_absurd (by simp [frag]) hy).elim
  | .traitCall tr m ty recv args => fun _ _ _ _ _ hy => (hyp_absurd (by simp [frag]) hy).elim
  | .constr (.enum tn vn idx) ty [] => sc_constr_nullary
  | .constr (.struct sn) ty [] => sc_constr (fun _ _ _ h => by cases h) (scL_all [])
  | .constr c ty (a :: as) => sc_constr (fun _ _ _ _ => by simp) (scL_all (a :: as))
  | .tuple ty items => sc_tuple (scL_all items)
  | .array ty items => sc_array (scL_all items)
  | .letE x v b => sc_letE (sc_all v) (sc_all b)
  | .ite c t e => sc_ite (sc_all c) (sc_all t) (sc_all e)
  | .while c b => sc_while (sc_all c) (sc_all b)
  | .go e => sc_go (sc_all e)
  | .matchE ty s arms d => sc_matchE (sc_all s) (scA_all arms) (scD_all d)
  | .cget c idx ty e => sc_cget (sc_all e)
  | .un op ty e => sc_un (sc_all e)
  | .bin op ty l r => by
    cases hc : ((op == .and || op == .or) && !trivialRhs r)
    · exact sc_bin_plain hc (scL_cons (sc_imm (sc_all l)) (scL_cons (sc_imm (sc_all r)) scL_nil))
    · exact sc_bin_lowered hc (sc_all l) (sc_all r)
  | .call ty f args => sc_call (scL_cons (sc_imm (sc_all f)) (scL_all args))
  | .toDyn tr forTy ty e => sc_toDyn (sc_all e)
  | .dynCall tr m ty recv args => sc_dynCall (scL_cons (sc_imm (sc_all recv)) (scL_all args))
  | .proj idx ty e => sc_proj (sc_all e)
theorem scL_all : ∀ (es : List Expr), SCL es
  | [] => scL_nil
  | e :: rest => scL_cons (sc_imm (sc_all e)) (scL_all rest)
theorem scA_all : ∀ (arms : List Arm), SCA arms
  | [] => scA_nil
  | .mk _ body :: rest => scA_cons (sc_all body) (scA_all rest)
theorem scD_all : ∀ (d : Option Expr) (e : Expr), d = some e → SC e
  | none, _, h => by cases h
  | some e, _, h => (Option.some.inj h) ▸ sc_all e
end

end Goml.Anf
