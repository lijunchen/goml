import GomlVerif.Lemmas.LowerOkBase
import GomlVerif.Lemmas.LowerFuel
/-! The functions of `Model/Lower.lean` that the mutual block `lowerExprW … lowerBlock` calls and that are defined
before it — paths, literals' helpers, types, parameters, patterns — leave the binder stack alone, never get stuck, and
do not run out of fuel when called with at least twice the size of their node.

`core`: every expression / arm / field / block the lowering model produces is classified according to the
declarative scope: the stack at each classification point IS the list of binders the C05 specification has in
scope there — and is, afterwards, what it was before; and fuel of at least twice the size of the node is not used up.
One induction on the fuel, in the triple `Run`; one case per node kind. -/
namespace Goml.Lower
open Goml.Src

variable {α β : Type} {C Γ : List String} {ok : Prop}

theorem run_lowerPath (p : Cst) : Run ok Γ (lowerPath p) (fun segs => segs ≠ []) := by
  unfold lowerPath
  split
  · exact Run.err _
  · rename_i h
    exact Run.mpure (by intro h'; exact h h')

theorem run_identPath (e : Cst) : Run ok Γ (lowerCtorPathFromIdentExpr e) (fun segs => segs ≠ []) := by
  unfold lowerCtorPathFromIdentExpr
  split
  · exact run_lowerPath _
  · exact Run.err _

theorem run_constrPatPath (e : Cst) : Run ok Γ (lowerCtorPathFromConstrPat e) (fun _ => True) := by
  unfold lowerCtorPathFromConstrPat
  split
  · exact (run_lowerPath _).toT
  · exact Run.err _

/-- `expect("paths must contain at least one segment")` never fires: `lower_path` returns no empty path -/
theorem run_lastIdent {p : List String} (hp : p ≠ []) : Run ok Γ (lastIdent p) (fun l => p.getLast? = some l) := by
  unfold lastIdent
  cases h : p.getLast? with
  | some l => exact Run.mpure rfl
  | none => exact absurd (List.getLast?_eq_none_iff.mp h) hp

theorem run_noTrailing (tr : List Trailing) (what : String) : Run ok Γ (noTrailing tr what) (fun _ => True) := by
  unfold noTrailing
  split
  · exact Run.mpure trivial
  · exact Run.err _

theorem run_lowerStrBody (w : String) (t : Cst) : Run ok Γ (lowerStrBody w t) (fun _ => True) := by
  unfold lowerStrBody
  split
  · exact Run.err _
  · exact Run.pure trivial

/-- Walks a computation whose intermediate results do not matter, one rule per head symbol: the rule of the
primitive or of a function above at a leaf (`pure` leaves its postcondition as a goal unless that is `True`),
`Run.bindT` at `>>=`, the combinator's rule at `opt` / `mapSkip` / `mapAll`.  The alternatives are tried in order, so
`split` comes only when no rule applies: the head is then a `match` or `if` of the model.  The
recursive calls are left over, with what says that they go to a child in the context: `Run.ofOpt` at `ofOpt o >>= …`
keeps `o = some x`, `mapSkip` / `mapAll` keep `x ∈ xs`, `split` keeps its equation.  Rules are matched up to reducible
unfolding only, so that one with another head symbol fails at once and never unfolds the model.
The leaf rules are listed with the postcondition `True`; `run_identPath`, `run_lastIdent` and `run_dotAccess`
(below) have one that their callers use, and are applied by hand. -/
macro "run_auto" : tactic => `(tactic| repeat' (first
  | with_reducible refine Run.bind (Run.ofOpt _) (fun _ _ => ?_)
  | with_reducible refine Run.bindT ?_ (fun _ => ?_)
  | with_reducible exact Run.pure trivial | with_reducible exact Run.mpure trivial
  | with_reducible refine Run.pure ?_ | with_reducible refine Run.mpure ?_
  | with_reducible exact Run.err _ | with_reducible exact Run.fail
  | with_reducible exact (Run.ofOpt _).toT | with_reducible exact Run.note _
  | with_reducible exact run_noTrailing _ _ | with_reducible exact run_lowerStrBody _ _
  | with_reducible exact (run_lowerPath _).toT | with_reducible exact run_constrPatPath _
  | with_reducible refine Run.optT ?_
  | with_reducible refine Run.mapSkipT (fun _ _ => ?_)
  | with_reducible refine Run.mapAllT (fun _ _ => ?_)
  | dsimp only
  | split))

/-- no tree has size 0, so fuel 0 is never twice the size of a node -/
theorem not_fuel_zero (node : Cst) : ¬ 2 * node.size ≤ 0 := by have := size_pos node; omega

theorem run_lowerTy : ∀ (n : Nat) (node : Cst) (Γ : List String),
    Run (2 * node.size ≤ n) Γ (lowerTy n node) (fun _ => True)
  | 0, node, _ => by rw [lowerTy]; exact Run.starve (not_fuel_zero node)
  | n + 1, node, Γ => by
    rw [lowerTy]
    run_auto
    -- the recursive calls: `grind` sees from the equations and memberships `run_auto` kept, with the size lemmas of
    -- `Lemmas/LowerFuel.lean` (`child_size`, `mem_childrenK_size` …), that they go to a strict sub-tree
    all_goals exact (run_lowerTy n _ _).sub (by grind)

theorem run_lowerParam (n : Nat) (node : Cst) : Run (2 * node.size ≤ n) Γ (lowerParam n node) (fun _ => True) := by
  unfold lowerParam
  run_auto
  exact (run_lowerTy n _ _).mono (by grind)

theorem run_lowerClosureParam (n : Nat) (node : Cst) :
    Run (2 * node.size ≤ n) Γ (lowerClosureParam n node) (fun _ => True) := by
  unfold lowerClosureParam
  run_auto
  exact (run_lowerTy n _ _).mono (by grind)

theorem run_lowerPat (C : List String) : ∀ (n : Nat) (node : Cst) (Γ : List String),
    Run (2 * node.size ≤ n) Γ (lowerPat C n node) (fun _ => True)
  | 0, node, _ => by rw [lowerPat]; exact Run.starve (not_fuel_zero node)
  | n + 1, node, Γ => by
    rw [lowerPat]
    run_auto
    all_goals exact (run_lowerPat C n _ _).sub (by grind)

/-- what `opt (lowerStmt …)` has pushed when it returned `o` -/
def optBinds : Option Expr → List String
  | some x => itemsBinds [x]
  | none => []

/-- a statement that fails has pushed nothing (`optBinds none = []`): `lowerStmts` observes the failure and carries on, so
the stack must be known in that case as well -/
def StmtPost (C Γ : List String) (o : Option Expr) (Δ : List String) : Prop :=
  (∀ e, o = some e → OkItems C Γ [e]) ∧ Δ = Γ ++ optBinds o
/-- what was pushed is known (`itemsBinds es`) only when `es` is returned: nothing observes a failure of `lowerStmts` -/
def StmtsPost (C Γ : List String) (o : Option (List Expr)) (Δ : List String) : Prop :=
  ∃ e, Δ = Γ ++ e ∧ ∀ es, o = some es → OkItems C Γ es ∧ e = itemsBinds es

theorem stmtPost_none : StmtPost C Γ none Γ := ⟨fun _ h => (nomatch h), by simp [optBinds]⟩
theorem stmtsPost_none {e : List String} : StmtsPost C Γ none (Γ ++ e) := ⟨e, rfl, fun _ h => nomatch h⟩

theorem run_dotAccess (rhs : Cst) : Run ok Γ (dotAccess rhs) (OkT C Γ) := by
  unfold dotAccess
  repeat' split
  all_goals first | exact Run.err _ | exact Run.mpure trivial

theorem cons_okT {t : Trailing} {tr : List Trailing} (ht : OkT C Γ t) (h : ∀ u ∈ tr, OkT C Γ u) :
    ∀ u ∈ t :: tr, OkT C Γ u := by
  intro u hu
  rcases List.mem_cons.mp hu with rfl | hu'
  · exact ht
  · exact h u hu'

theorem nil_okT : ∀ u ∈ ([] : List Trailing), OkT C Γ u := by intro u hu; cases hu

/-- What the induction on the fuel carries, one field per function of the mutual block of `Model/Lower.lean` (they call each
other at one unit of fuel less), all at fuel `n`.  `exprWAll` leaves the pending operations of `lowerExprW` arbitrary — the
stack is balanced whatever they are, and the result is classified if their arguments are: where `lowerExprW` calls itself
with one more pending operation, the premise about `tr` is at hand only under the postcondition.  A statement pushes the
binders of what it returns, so `lowerStmt` / `lowerStmts` have a `Tri` fact, whose postcondition says which stack they leave.
The fuel bounds: every recursive call spends one unit and goes to a strict sub-tree, which alone would need `size` units;
the loop `lowerStmts` also spends one unit per statement it passes without descending, and the second `size` pays for that
(each statement has size at least 1); its `+ 1` is the unit its step spends before it calls `lowerStmt` on the head. -/
structure Core (C : List String) (n : Nat) : Prop where
  exprWAll : ∀ node tr Γ,
    Run (2 * node.size ≤ n) Γ (lowerExprW C n node tr) (fun e => (∀ t ∈ tr, OkT C Γ t) → OkE C Γ e)
  branch : ∀ br msg Γ, Run (2 * br.size ≤ n) Γ (lowerBranch C n br msg) (OkE C Γ)
  fieldInit : ∀ f Γ, Run (2 * f.size ≤ n) Γ (lowerFieldInit C n f) (OkF C Γ)
  arg : ∀ a Γ, Run (2 * a.size ≤ n) Γ (lowerArg C n a) (OkE C Γ)
  arm : ∀ a Γ, Run (2 * a.size ≤ n) Γ (lowerArm C n a) (OkArm C Γ)
  stmt : ∀ st Γ, Tri (2 * st.size ≤ n) Γ (lowerStmt C n st) (StmtPost C Γ)
  stmts : ∀ sts Γ, Tri (2 * Cst.sizeList sts + 1 ≤ n) Γ (lowerStmts C n sts) (StmtsPost C Γ)
  block : ∀ b Γ, Run (2 * b.size ≤ n) Γ (lowerBlock C n b) (OkE C Γ)

theorem Core.exprW {n : Nat} (h : Core C n) (node : Cst) (tr : List Trailing) (Γ : List String)
    (htr : ∀ t ∈ tr, OkT C Γ t) : Run (2 * node.size ≤ n) Γ (lowerExprW C n node tr) (OkE C Γ) :=
  (h.exprWAll node tr Γ).weaken (fun _ he => he htr)

theorem ok_exprW {n : Nat} (ih : Core C n) (node : Cst) (tr : List Trailing) (Γ : List String) :
    Run (2 * node.size ≤ n + 1) Γ (lowerExprW C (n + 1) node tr) (fun e => (∀ t ∈ tr, OkT C Γ t) → OkE C Γ e) := by
  rw [lowerExprW]
  split
  -- integer literal (a row of `intKindOf`)
  · run_auto
    all_goals exact fun _ => okE_lit _
  · split
    -- UNIT BOOL FLOAT FLOAT32 FLOAT64 STR MULTILINE
    iterate 7
      · run_auto
        all_goals exact fun _ => okE_lit _
    -- CALL
    · extract_lets k
      have hk : ∀ args, OkL C Γ args →
          Run (2 * node.size ≤ n + 1) Γ (k args) (fun e => (∀ t ∈ tr, OkT C Γ t) → OkE C Γ e) := by
        intro args hargs
        dsimp only [k]
        split
        · exact Run.err _
        · split
          · refine Run.bind (run_identPath _) (fun p hp => ?_)
            refine Run.bind (run_lastIdent hp) (fun last hlast => ?_)
            refine Run.bind Run.getLocals (fun ls hls => ?_)
            subst hls
            split
            · rename_i hc
              exact Run.pure (okE_applyTrailing _ _ (okE_constr hlast hc hargs))
            · rename_i hc
              exact Run.pure (okE_applyTrailing _ _ (okE_call (okE_path hlast (by simpa using hc)) hargs))
          · split
            · -- `by grind`, here and below: the callee is a strict sub-tree of `node`, by the equations `split` and
              -- `Run.ofOpt` left in the context and the size lemmas of `Lemmas/LowerFuel.lean`
              refine Run.bind ((ih.exprW _ _ _ nil_okT).sub (by grind)) (fun f hf => ?_)
              exact Run.pure (okE_applyTrailing _ _ (okE_call hf hargs))
            · -- the callee is lowered with `.call args` pending on top of `tr`
              exact ((ih.exprWAll _ _ _).sub (by grind)).weaken (fun _ he htr => he (cons_okT (t := .call args) hargs htr))
      split
      · exact Run.bind (Run.mapSkip _ (fun _ _ => (ih.arg _ _).sub (by grind))) hk
      · exact Run.bind (Run.pure (by intro e he; cases he)) hk
    -- MATCH
    · refine Run.bindT (run_noTrailing _ _) (fun _ => ?_)
      split
      · exact Run.err _
      · refine Run.bind ((ih.exprW _ _ _ nil_okT).sub (by grind)) (fun e he => ?_)
        split
        · exact Run.err _
        · refine Run.bind (Run.mapSkip (P := OkArm C Γ) _ (fun _ _ => (ih.arm _ _).sub (by grind))) (fun arms harms => ?_)
          exact Run.pure (fun _ => okE_matchE he harms)
    -- GO
    · refine Run.bindT (run_noTrailing _ _) (fun _ => ?_)
      split
      · exact Run.err _
      · refine Run.bind ((ih.exprW _ _ _ nil_okT).sub (by grind)) (fun e he => ?_)
        exact Run.pure (fun _ => okE_go he)
    -- IF
    · refine Run.bindT (run_noTrailing _ _) (fun _ => ?_)
      refine Run.bind (Run.opt (P := OkE C Γ) ?_) (fun cond hcond => ?_)
      · refine Run.bind (Run.ofOpt _) (fun _ _ => ?_)
        refine Run.bind (Run.ofOpt _) (fun _ _ => ?_)
        exact (ih.exprW _ _ _ nil_okT).sub (by grind)
      · split
        · exact Run.err _
        · extract_lets kt
          have hkt : ∀ t, OkE C Γ t →
              Run (2 * node.size ≤ n + 1) Γ (kt t) (fun e => (∀ t ∈ tr, OkT C Γ t) → OkE C Γ e) := by
            intro t ht
            dsimp -zeta only [kt]
            extract_lets ke
            have hke : ∀ e, OkE C Γ e →
                Run (2 * node.size ≤ n + 1) Γ (ke e) (fun e => (∀ t ∈ tr, OkT C Γ t) → OkE C Γ e) :=
              fun e he => Run.pure (fun _ => okE_ite (hcond _ rfl) ht he)
            split
            · exact Run.bind ((ih.branch _ _ _).sub (by grind)) hke
            · exact Run.bind (Run.err _) hke
          split
          · exact Run.bind ((ih.branch _ _ _).sub (by grind)) hkt
          · exact Run.bind (Run.err _) hkt
    -- WHILE
    · refine Run.bindT (run_noTrailing _ _) (fun _ => ?_)
      refine Run.bind (Run.opt (P := OkE C Γ) ?_) (fun cond hcond => ?_)
      · refine Run.bind (Run.ofOpt _) (fun _ _ => ?_)
        refine Run.bind (Run.ofOpt _) (fun _ _ => ?_)
        exact (ih.exprW _ _ _ nil_okT).sub (by grind)
      · split
        · exact Run.err _
        · extract_lets kb
          have hkb : ∀ b, OkE C Γ b →
              Run (2 * node.size ≤ n + 1) Γ (kb b) (fun e => (∀ t ∈ tr, OkT C Γ t) → OkE C Γ e) :=
            fun b hb => Run.pure (fun _ => okE_while (hcond _ rfl) hb)
          split
          · exact Run.bind ((ih.branch _ _ _).sub (by grind)) hkb
          · exact Run.bind (Run.err _) hkb
    -- STRUCT_LITERAL
    · refine Run.bindT (run_noTrailing _ _) (fun _ => ?_)
      refine Run.bindT (Run.ofOpt _).toT (fun _ => ?_)
      refine Run.bindT (run_lowerPath _).toT (fun _ => ?_)
      extract_lets k
      have hk : ∀ fs, (∀ f ∈ fs, OkF C Γ f) →
          Run (2 * node.size ≤ n + 1) Γ (k fs) (fun e => (∀ t ∈ tr, OkT C Γ t) → OkE C Γ e) :=
        fun fs hfs => Run.pure (fun _ => okE_structLit hfs)
      split
      · exact Run.bind (Run.mapSkip _ (fun _ _ => (ih.fieldInit _ _).sub (by grind))) hk
      · exact Run.bind (Run.pure (by intro f hf; cases hf)) hk
    -- ARRAY
    · refine Run.bindT (run_noTrailing _ _) (fun _ => ?_)
      refine Run.bind (Run.mapSkip (P := OkE C Γ) _ (fun _ _ => (ih.exprW _ _ _ nil_okT).sub (by grind))) (fun items h => ?_)
      exact Run.pure (fun _ => okE_array h)
    -- IDENT
    · refine Run.bind (run_identPath _) (fun p hp => ?_)
      refine Run.bind (run_lastIdent hp) (fun last hlast => ?_)
      refine Run.bind Run.getLocals (fun ls hls => ?_)
      subst hls
      split
      · rename_i hc
        -- `Mk(args)` arrives here as `tr = .call args :: tr'`: the pending call gives the constructor its arguments
        split
        · exact Run.pure (fun htr => okE_applyTrailing _ _ (okE_constr hlast hc (htr _ (List.mem_cons_self ..)))
            (fun t ht => htr t (List.mem_cons_of_mem _ ht)))
        · exact Run.pure (okE_applyTrailing _ _ (okE_constr hlast hc (by intro e he; cases he)))
      · rename_i hc
        exact Run.pure (okE_applyTrailing _ _ (okE_path hlast (by simpa using hc)))
    -- TUPLE
    · refine Run.bindT (run_noTrailing _ _) (fun _ => ?_)
      refine Run.bind (Run.mapSkip (P := OkE C Γ) _ (fun _ _ => (ih.exprW _ _ _ nil_okT).sub (by grind))) (fun items h => ?_)
      exact Run.pure (fun _ => okE_tuple h)
    -- PAREN
    · refine Run.bind (Run.ofOpt _) (fun _ _ => ?_)
      refine Run.bind ((ih.exprW _ _ _ nil_okT).sub (by grind)) (fun e he => ?_)
      exact Run.pure (okE_applyTrailing _ _ he)
    -- PREFIX
    · refine Run.bind (Run.opt (P := fun e => (∀ t ∈ tr, OkT C Γ t) → OkE C Γ e) ?_) (fun e he => ?_)
      · refine Run.bind (Run.ofOpt _) (fun _ _ => ?_)
        exact (ih.exprWAll _ _ _).sub (by grind)
      · split
        · exact Run.err _
        · split
          · exact Run.err _
          · split -- `!` or `-`
            all_goals exact Run.pure (fun htr => okE_un (he _ rfl htr))
    -- BINARY
    · split
      · exact Run.err _
      · exact Run.err _
      · split
        · exact Run.err _
        · split
          · split
            · refine Run.bind (run_dotAccess (C := C) _) (fun acc hacc => ?_)
              -- the left operand is lowered with the access pending on top of `tr`
              exact ((ih.exprWAll _ _ _).sub (by grind)).weaken (fun _ he htr => he (cons_okT hacc htr))
            · refine Run.bind ((ih.exprW _ _ _ nil_okT).sub (by grind)) (fun lhs hl => ?_)
              refine Run.bind (run_dotAccess (C := C) _) (fun acc hacc => ?_)
              exact Run.pure (fun htr => okE_applyTrailing _ _ hl (cons_okT hacc htr))
          · refine Run.bind ((ih.exprW _ _ _ nil_okT).sub (by grind)) (fun lhs hl => ?_)
            split
            · refine Run.bind ((ih.exprWAll _ _ _).sub (by grind)) (fun rhs hr => ?_)
              exact Run.pure (fun htr => okE_bin hl (hr htr))
            · exact Run.err _
    -- CLOSURE
    · refine Run.bindT (run_noTrailing _ _) (fun _ => ?_)
      extract_lets k
      have hk : ∀ params, Run (2 * node.size ≤ n + 1) Γ (k params) (fun e => (∀ t ∈ tr, OkT C Γ t) → OkE C Γ e) := by
        intro params
        dsimp only [k]
        split
        · exact Run.err _
        · refine Run.bind (Run.withLocals ((ih.branch _ _ _).sub (by grind))) (fun body hb => ?_)
          exact Run.pure (fun _ => okE_closure hb)
      split
      · exact Run.bindT (Run.mapSkip (P := fun _ => True) _ (fun _ _ => (run_lowerClosureParam n _).sub (by grind))).toT hk
      · exact Run.bindT (Run.note _) (fun _ => Run.bindT (Run.pure trivial) hk)
    -- anything else
    · exact Run.fail

theorem core (C : List String) : ∀ n, Core C n
  | 0 =>
    -- no tree has size 0, so the fuel flag is false and `starve` is all there is
    { exprWAll := fun node tr Γ => by rw [lowerExprW]; exact Run.starve (not_fuel_zero node)
      branch := fun br msg Γ => by rw [lowerBranch]; exact Run.starve (not_fuel_zero br)
      fieldInit := fun f Γ => by rw [lowerFieldInit]; exact Run.starve (not_fuel_zero f)
      arg := fun a Γ => by rw [lowerArg]; exact Run.starve (not_fuel_zero a)
      arm := fun a Γ => by rw [lowerArm]; exact Run.starve (not_fuel_zero a)
      stmt := fun st Γ => by rw [lowerStmt]; exact Tri.starve (not_fuel_zero st) stmtPost_none
      stmts := fun sts Γ => by rw [lowerStmts]; exact Tri.starve (by omega) ⟨[], (List.append_nil Γ).symm, nofun⟩
      block := fun b Γ => by rw [lowerBlock]; exact Run.starve (not_fuel_zero b) }
  | n + 1 =>
    have ih := core C n
    { exprWAll := ok_exprW ih
      branch := by
        intro br msg Γ
        rw [lowerBranch]
        split
        · exact (ih.block _ _).sub (by grind)
        · split
          · exact (ih.exprW _ _ _ nil_okT).sub (by grind)
          · exact Run.err _
      fieldInit := by
        intro f Γ
        rw [lowerFieldInit]
        refine Run.bindT (Run.ofOpt _).toT (fun ft => ?_)
        refine Run.bind (P := fun o => ∀ e, o = some e → OkE C Γ e) (Run.opt ?_) (fun e he => ?_)
        · refine Run.bind (Run.ofOpt _) (fun _ _ => ?_)
          exact (ih.exprW _ _ _ nil_okT).sub (by grind)
        · refine Run.pure ?_
          cases e with
          | none => exact Or.inl (by simp [isShorthand])
          | some a => exact Or.inr (he a rfl)
      arg := by
        intro a Γ
        rw [lowerArg]
        split
        · exact (ih.exprW _ _ _ nil_okT).sub (by grind)
        · exact Run.err _
      arm := by
        intro a Γ
        rw [lowerArm]
        refine Run.bind (Run.ofOpt _) (fun pn _ => ?_)
        refine Run.bindT ((run_lowerPat C n _ _).sub (by grind)) (fun pat => ?_)
        refine Run.bind (Run.withLocals (Run.opt (P := OkE C (Γ ++ patVars pat)) ?_)) (fun body hb => ?_)
        · split
          · exact (ih.exprW _ _ _ nil_okT).sub (by grind)
          · split
            · exact (ih.block _ _).sub (by grind)
            · exact Run.err _
        · refine Run.bind (P := fun b => body = some b) (Run.ofOpt _) (fun b hbb => ?_)
          exact Run.pure (hb b hbb)
      stmt := by
        intro st Γ
        rw [lowerStmt]
        split
        · split
          · exact Tri.err _ stmtPost_none
          · refine Tri.bindRun ((run_lowerPat C n _ _).sub (by grind)) (fun pat _ => ?_) stmtPost_none
            split
            · exact Tri.err _ stmtPost_none
            · refine Tri.bindRun (P := fun _ => True) ?_ (fun ann _ => ?_) stmtPost_none
              · exact Run.optT (Run.bind (Run.ofOpt _) (fun _ _ => (run_lowerTy _ _ _).sub (by grind)))
              · refine Tri.bindRun ((ih.exprW _ _ _ nil_okT).sub (by grind)) (fun v hv => ?_) stmtPost_none
                refine Tri.bind (Tri.pushLocals _) (fun _ Δ h => Tri.pure ?_) (fun _ h => nomatch h.1)
                exact ⟨fun e he => by cases he; exact okItems_cons_let hv okItems_nil, by simp [h.2, optBinds, itemsBinds]⟩
        · split
          · exact Tri.err _ stmtPost_none
          · refine ((ih.exprW _ _ _ nil_okT).sub (by grind)).tri.weaken (fun o Δ h => ?_)
            obtain ⟨rfl, he⟩ := h
            refine ⟨fun e heq => okItems_cons_expr (he e heq) okItems_nil, ?_⟩
            cases o with
            | none => simp [optBinds]
            | some e => simp [optBinds, itemsBinds_cons_expr (he e rfl).2, itemsBinds.eq_1]
      -- `opt (lowerStmt st)` returns some `o` and has pushed `optBinds o` (nothing after a failure: `StmtPost`);
      -- the rest of the loop is classified under `Γ ++ optBinds o` by `ih.stmts`; `okItems_snoc` glues the two.
      stmts := by
        intro sts Γ
        cases sts with
        | nil =>
          rw [lowerStmts]
          exact Tri.pure ⟨[], by simp, fun es h => by cases h; exact ⟨okItems_nil, rfl⟩⟩
        | cons st rest =>
          rw [lowerStmts]
          have := size_pos st
          refine Tri.bind (Tri.opt ((ih.stmt st Γ).mono (by simp only [Cst.sizeList]; omega))) (fun o Δ h => ?_)
            (fun _ ⟨_, h, _⟩ => nomatch h)
          obtain ⟨o', ho, hst, rfl⟩ := h
          cases ho
          refine Tri.bind ((ih.stmts rest _).mono (by simp only [Cst.sizeList]; omega)) (fun es Δ h => Tri.pure ?_)
            (fun _ h => ?_)
          · obtain ⟨e2, rfl, h⟩ := h
            obtain ⟨hes, rfl⟩ := h es rfl
            refine ⟨optBinds o ++ itemsBinds es, by simp, fun r hr => ?_⟩
            cases hr
            cases o with
            | none => exact ⟨by simpa [optBinds] using hes, by simp [optBinds]⟩
            | some e => exact ⟨okItems_snoc (es := [e]) (hst e rfl) hes, by simp [optBinds, itemsBinds]⟩
          · obtain ⟨e2, rfl, _⟩ := h
            exact List.append_assoc .. ▸ stmtsPost_none
      -- The statements are classified under `Γ` and have pushed `itemsBinds es`; the tail expression is
      -- classified under `Γ ++ itemsBinds es` and glued on by `okItems_snoc`; `withLocals []` drops what was pushed.
      block := by
        intro b Γ
        rw [lowerBlock]
        refine Tri.withLocals ?_
        simp only [List.append_nil]
        refine Tri.bind ((ih.stmts _ Γ).mono (by have := childrenK_sizeList stmtKinds b; omega)) (fun es Δ h => ?_)
          (fun Δ ⟨e, h, _⟩ => ⟨⟨e, h⟩, nofun⟩)
        obtain ⟨e1, rfl, h⟩ := h
        obtain ⟨hes, rfl⟩ := h es rfl
        split
        · refine Tri.bindRun (Run.opt ((ih.exprW _ _ _ nil_okT).sub (by grind))) (fun e he => Tri.pure ⟨⟨_, rfl⟩, ?_⟩)
            ⟨⟨_, rfl⟩, fun _ h => nomatch h⟩
          intro r hr
          cases hr
          refine okE_block ?_
          cases e with
          | none => simpa using hes
          | some t => exact okItems_snoc hes (okItems_cons_expr (he t rfl) okItems_nil)
        · exact Tri.pure ⟨⟨_, rfl⟩, fun r hr => by
            cases hr; exact okE_block (okItems_snoc hes (okItems_cons_expr (okE_lit _) okItems_nil))⟩ }

end Goml.Lower
