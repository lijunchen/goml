import GomlVerif.Lemmas.DceScope
/-! What the output of the scan declares (`declTop`) and assigns (`writesStmts`) is what the input does: used by the
simulation proof (`Lemmas/DceSimRel.lean` … `DceSimAll.lean`) where a nested block pops its declarations and where a loop or
a type switch needs to know what its body can write. -/
namespace Goml.Dce
open Goml.Go

theorem keepEffect_declTop (e : GExpr) (rest : List GStmt) : declTop (keepEffect e :: rest) = declTop rest := by
  rcases keepEffect_cases e with h | h <;> rw [h] <;> rfl

theorem declTop_append (x : String) : ∀ a b : List GStmt, x ∈ declTop (a ++ b) ↔ x ∈ declTop a ∨ x ∈ declTop b
  | [], b => by simp [declTop]
  | s :: a, b => by
    have ih := declTop_append x a b
    rw [List.cons_append, declTop_cons, declTop_cons, ih, or_assoc]

theorem declTop_deadOut (v : Option GExpr) : declTop (deadOut v) = [] := by
  cases v with
  | none => rfl
  | some e => simp only [deadOut]; split <;> simp [keepEffect_declTop, declTop]

theorem declTop_dceStmt (s : GStmt) (live needs : Names) (x : String)
    (h : x ∈ declTop (dceStmt s live needs).out) : x ∈ declScope s [] := by
  cases s with
  | varDecl y ty v =>
    rw [dceStmt_varDecl] at h
    split at h
    · simpa [declTop, declScope] using h
    · simp only [declTop_append, declTop_deadOut, List.not_mem_nil, or_false] at h
      split at h <;> simp [declTop, declScope] at h ⊢
      exact h
  | assign y v =>
    rw [dceStmt_assign] at h
    split at h <;> simp [declTop, declTop_deadOut] at h
  | ret v => cases v <;> simp [dceStmt, declTop] at h
  | ite c t e => cases e <;> simp [dceStmt, declTop] at h
  | «switch» e cs d => cases d <;> simp [dceStmt, declTop] at h
  | tswitch b e cs d => cases d <;> simp [dceStmt, declTop] at h
  | _ => simp [dceStmt, declTop] at h

theorem declTop_dce_sub : ∀ (ss : List GStmt) (L : Names) (x : String),
    x ∈ declTop (dceStmts ss L).out → x ∈ declTop ss
  | [], L, x, h => by simp [dceStmts, declTop] at h
  | s :: rest, L, x, h => by
    simp only [dceStmts] at h
    rw [declTop_append] at h
    rw [declTop_cons]
    rcases h with h | h
    · exact Or.inl (declTop_dceStmt s _ _ x h)
    · exact Or.inr (declTop_dce_sub rest L x h)

theorem scope_declTop (D : Names) : ∀ (ss : List GStmt) (sc : Names), scopeErrs D sc ss = [] →
    ∀ x ∈ declTop ss, ¬ x ∈ sc
  | [], sc, _, x, hx => by simp [declTop] at hx
  | s :: rest, sc, h, x, hx => by
    rw [declTop_cons] at hx
    rcases hx with hx | hx
    · cases s <;> simp [declScope] at hx
      subst hx
      obtain ⟨_, ⟨hx, _⟩, _⟩ := scopeErrs_varDecl.mp h
      exact hx
    · simp only [scopeErrs, List.append_eq_nil_iff] at h
      have := scope_declTop D rest _ h.2 x hx
      intro hm
      apply this
      cases s <;> simp [declScope, hm]

theorem writes_keepEffect (e : GExpr) (x : String) (h : x ∈ writesStmt (keepEffect e)) : x = "_" := by
  rcases keepEffect_cases e with h' | h' <;> rw [h'] at h <;> simp [writesStmt] at h
  exact h

theorem writes_deadOut (v : Option GExpr) (x : String) (h : x ∈ writesStmts (deadOut v)) : x = "_" := by
  cases v with
  | none => simp [deadOut, writesStmts] at h
  | some e =>
    simp only [deadOut] at h
    split at h
    · simp only [writesStmts, mem_uni] at h
      exact h.elim (writes_keepEffect e x) (by simp)
    · simp [writesStmts] at h

mutual
theorem writes_dce_sub : ∀ (ss : List GStmt) (L : Names) (x : String), shapeOK ss = true →
    x ∈ writesStmts (dceStmts ss L).out → x ∈ writesStmts ss ∨ x = "_"
  | [], L, x, _, h => by simp [dceStmts, writesStmts] at h
  | s :: rest, L, x, hs, h => by
    simp only [shapeOK, Bool.and_eq_true] at hs
    simp only [dceStmts] at h
    rw [mem_writes_append] at h
    simp only [writesStmts, mem_uni]
    rcases h with h | h
    · rcases writes_dceStmt s _ _ x hs.1 h with h1 | h1
      · exact Or.inl (Or.inl h1)
      · exact Or.inr h1
    · rcases writes_dce_sub rest L x hs.2 h with h1 | h1
      · exact Or.inl (Or.inr h1)
      · exact Or.inr h1
theorem writes_dceStmt : ∀ (s : GStmt) (live needs : Names) (x : String), shapeOKStmt s = true →
    x ∈ writesStmts (dceStmt s live needs).out → x ∈ writesStmt s ∨ x = "_"
  | .expr _, _, _, x, _, h | .go _, _, _, x, _, h | .ptrAssign _ _, _, _, x, _, h
  | .ret (some _), _, _, x, _, h | .ret none, _, _, x, _, h | .brk, _, _, x, _, h => by
    simp [dceStmt, writesStmts, writesStmt] at h
  | .varDecl y ty v, live, needs, x, hs, h => by
    rw [dceStmt_varDecl] at h
    split at h
    · simp [writesStmts, writesStmt] at h
    · rw [mem_writes_append] at h
      rcases h with h | h
      · split at h <;> simp [writesStmts, writesStmt] at h
      · exact Or.inr (writes_deadOut _ x h)
  | .assign y v, live, needs, x, hs, h => by
    rw [dceStmt_assign] at h
    split at h
    · simp [writesStmts, writesStmt] at h ⊢; exact Or.inl h
    · exact Or.inr (writes_deadOut (some (dceExpr v)) x h)
  | .indexAssign a i v, live, needs, x, hs, h => by
    simp only [shapeOKStmt, Bool.and_eq_true] at hs
    simp [dceStmt, writesStmts, writesStmt, dceExpr_id a hs.1.1.1] at h ⊢; exact Or.inl h
  | .fieldAssign t v, live, needs, x, hs, h => by
    simp only [shapeOKStmt, Bool.and_eq_true] at hs
    simp [dceStmt, writesStmts, writesStmt, dceExpr_id t hs.1.1] at h ⊢; exact Or.inl h
  | .loop body, live, needs, x, hs, h => by
    simp only [shapeOKStmt] at hs
    simp only [dceStmt, writesStmts, writesStmt, mem_uni] at h ⊢
    rcases h with h | h
    · exact writes_dce_sub body live x hs h
    · simp at h
  | .ite c t (some b), live, needs, x, hs, h => by
    simp only [shapeOKStmt, Bool.and_eq_true] at hs
    simp only [dceStmt, writesStmts, writesStmt, mem_uni] at h ⊢
    rcases h with (h | h) | h
    · rcases writes_dce_sub t live x hs.1.2 h with h1 | h1 <;> simp [h1]
    · rcases writes_dce_sub b live x hs.2 h with h1 | h1 <;> simp [h1]
    · simp at h
  | .ite c t none, live, needs, x, hs, h => by
    simp only [shapeOKStmt, Bool.and_eq_true] at hs
    simp only [dceStmt, writesStmts, writesStmt, mem_uni] at h ⊢
    rcases h with (h | h) | h
    · rcases writes_dce_sub t live x hs.1.2 h with h1 | h1 <;> simp [h1]
    · simp at h
    · simp at h
  | .switch e cs (some b), live, needs, x, hs, h => by
    simp only [shapeOKStmt, Bool.and_eq_true] at hs
    simp only [dceStmt, writesStmts, writesStmt, mem_uni] at h ⊢
    rcases h with (h | h) | h
    · rcases writes_dceCases cs live x hs.1.2 h with h1 | h1 <;> simp [h1]
    · rcases writes_dce_sub b _ x hs.2 h with h1 | h1 <;> simp [h1]
    · simp at h
  | .switch e cs none, live, needs, x, hs, h => by
    simp only [shapeOKStmt, Bool.and_eq_true] at hs
    simp only [dceStmt, writesStmts, writesStmt, mem_uni] at h ⊢
    rcases h with (h | h) | h
    · rcases writes_dceCases cs live x hs.1.2 h with h1 | h1 <;> simp [h1]
    · simp at h
    · simp at h
  | .tswitch bind e cs (some b), live, needs, x, hs, h => by
    simp only [shapeOKStmt, Bool.and_eq_true] at hs
    simp only [dceStmt, writesStmts, writesStmt, mem_uni] at h ⊢
    rcases h with (h | h) | h
    · rcases writes_dceTCases cs live x hs.1.1.2 h with h1 | h1 <;> simp [h1]
    · rcases writes_dce_sub b _ x hs.1.2 h with h1 | h1 <;> simp [h1]
    · simp at h
  | .tswitch bind e cs none, live, needs, x, hs, h => by
    simp only [shapeOKStmt, Bool.and_eq_true] at hs
    simp only [dceStmt, writesStmts, writesStmt, mem_uni] at h ⊢
    rcases h with (h | h) | h
    · rcases writes_dceTCases cs live x hs.1.1.2 h with h1 | h1 <;> simp [h1]
    · simp at h
    · simp at h
theorem writes_dceCases : ∀ (cs : List GCase) (live : Names) (x : String), shapeOKCases cs = true →
    x ∈ writesCases (dceCases cs live).cases → x ∈ writesCases cs ∨ x = "_"
  | [], live, x, _, h => by simp [dceCases, writesCases] at h
  | .mk v b :: rest, live, x, hs, h => by
    simp only [shapeOKCases, Bool.and_eq_true] at hs
    simp only [dceCases, writesCases, mem_uni] at h ⊢
    rcases h with h | h
    · rcases writes_dce_sub b live x hs.1.2 h with h1 | h1 <;> simp [h1]
    · rcases writes_dceCases rest _ x hs.2 h with h1 | h1 <;> simp [h1]
theorem writes_dceTCases : ∀ (cs : List GTCase) (live : Names) (x : String), shapeOKTCases cs = true →
    x ∈ writesTCases (dceTCases cs live).cases → x ∈ writesTCases cs ∨ x = "_"
  | [], live, x, _, h => by simp [dceTCases, writesTCases] at h
  | .mk t b :: rest, live, x, hs, h => by
    simp only [shapeOKTCases, Bool.and_eq_true] at hs
    simp only [dceTCases, writesTCases, mem_uni] at h ⊢
    rcases h with h | h
    · rcases writes_dce_sub b live x hs.1 h with h1 | h1 <;> simp [h1]
    · rcases writes_dceTCases rest _ x hs.2 h with h1 | h1 <;> simp [h1]
end

end Goml.Dce
