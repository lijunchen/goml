import GomlVerif.Lemmas.DceSimBase
import GomlVerif.Lemmas.DceFrame
import GomlVerif.Lemmas.DceExpr
import GomlVerif.Lemmas.GoSemEv
/-! Simulation proof for DCE: the relations between the output run (left, `ρo`) and the input run (right, `ρi`). -/
namespace Goml.Dce
open Goml.Go Goml.Sem

/-- the invariant between the two environments: they agree on the live variables, the output has no variable the input
    lacks, it has every variable a kept assignment still needs, and nothing is called `_` -/
structure Rel (L N : Names) (ρo ρi : GEnv) : Prop where
  agree : Agree L ρo ρi
  sub : ∀ x ∈ keys ρo, x ∈ keys ρi
  needs : ∀ x ∈ N, x ∈ keys ρi → x ∈ keys ρo
  blank : ¬ "_" ∈ keys ρi

def ResRel (L N : Names) : GRes (GEnv × Sig) → GRes (GEnv × Sig) → Prop
  | .ok (ρo, so) wo, .ok (ρi, si) wi => wo = wi ∧ so = si ∧ (si = .normal → Rel L N ρo ρi)
  | .fail fo wo, .fail fi wi => fo = fi ∧ wo = wi
  | _, _ => False

/-- for a nested block, which pops its declarations: the keys are those before the block, so only agreement is stated -/
def ResRelN (L : Names) : GRes (GEnv × Sig) → GRes (GEnv × Sig) → Prop
  | .ok (ρo, so) wo, .ok (ρi, si) wi => wo = wi ∧ so = si ∧ (si = .normal → Agree L ρo ρi)
  | .fail fo wo, .fail fi wi => fo = fi ∧ wo = wi
  | _, _ => False

/-- for one block-free statement; `Q` says how the two environments were changed -/
def StepRel (Q : GEnv → GEnv → Prop) : GRes (GEnv × Sig) → GRes (GEnv × Sig) → Prop
  | .ok (ρo', so) wo, .ok (ρi', si) wi => wo = wi ∧ so = si ∧ Q ρo' ρi'
  | .fail fo wo, .fail fi wi => fo = fi ∧ wo = wi
  | _, _ => False

/-- The three relations above are instances of this one; proofs take a related pair apart by `cases` on it and pass
    from one of the three to another by `ResQ.mono`. -/
inductive ResQ (Q : Sig → GEnv → GEnv → Prop) : GRes (GEnv × Sig) → GRes (GEnv × Sig) → Prop
  | fail (f : Fail) (w : GWorld) : ResQ Q (.fail f w) (.fail f w)
  | ok {ρo ρi : GEnv} (s : Sig) (w : GWorld) : Q s ρo ρi → ResQ Q (.ok (ρo, s) w) (.ok (ρi, s) w)

theorem resRel_iff {L N r' r} : ResRel L N r' r ↔ ResQ (fun s ρo ρi => s = .normal → Rel L N ρo ρi) r' r := by
  constructor
  · intro h
    rcases r' with ⟨⟨ρo, so⟩, w⟩ | ⟨f, w⟩ <;> rcases r with ⟨⟨ρi, si⟩, w'⟩ | ⟨f', w'⟩ <;> try exact h.elim
    · obtain ⟨rfl, rfl, h⟩ := h; exact .ok _ _ h
    · obtain ⟨rfl, rfl⟩ := h; exact .fail _ _
  · rintro (⟨f, w⟩ | ⟨s, w, h⟩)
    · exact ⟨rfl, rfl⟩
    · exact ⟨rfl, rfl, h⟩

theorem resRelN_iff {L r' r} : ResRelN L r' r ↔ ResQ (fun s ρo ρi => s = .normal → Agree L ρo ρi) r' r := by
  constructor
  · intro h
    rcases r' with ⟨⟨ρo, so⟩, w⟩ | ⟨f, w⟩ <;> rcases r with ⟨⟨ρi, si⟩, w'⟩ | ⟨f', w'⟩ <;> try exact h.elim
    · obtain ⟨rfl, rfl, h⟩ := h; exact .ok _ _ h
    · obtain ⟨rfl, rfl⟩ := h; exact .fail _ _
  · rintro (⟨f, w⟩ | ⟨s, w, h⟩)
    · exact ⟨rfl, rfl⟩
    · exact ⟨rfl, rfl, h⟩

theorem stepRel_iff {Q r' r} : StepRel Q r' r ↔ ResQ (fun _ => Q) r' r := by
  constructor
  · intro h
    rcases r' with ⟨⟨ρo, so⟩, w⟩ | ⟨f, w⟩ <;> rcases r with ⟨⟨ρi, si⟩, w'⟩ | ⟨f', w'⟩ <;> try exact h.elim
    · obtain ⟨rfl, rfl, h⟩ := h; exact .ok _ _ h
    · obtain ⟨rfl, rfl⟩ := h; exact .fail _ _
  · rintro (⟨f, w⟩ | ⟨s, w, h⟩)
    · exact ⟨rfl, rfl⟩
    · exact ⟨rfl, rfl, h⟩

theorem ResQ.mono {Q Q' : Sig → GEnv → GEnv → Prop} {r' r} (h : ResQ Q r' r)
    (hq : ∀ s ρo ρi w, r' = .ok (ρo, s) w → r = .ok (ρi, s) w → Q s ρo ρi → Q' s ρo ρi) : ResQ Q' r' r := by
  cases h with
  | fail f w => exact .fail f w
  | ok s w h => exact .ok s w (hq _ _ _ _ rfl rfl h)

theorem ResQ.definite {Q r' r} (h : ResQ Q r' r) (hd : Definite r) : Definite r' := by
  cases h with
  | fail f w => exact hd
  | ok s w h => trivial

theorem ResRel.definite {L N r' r} (h : ResRel L N r' r) (hd : Definite r) : Definite r' :=
  (resRel_iff.1 h).definite hd

theorem ResRelN.definite {L r' r} (h : ResRelN L r' r) (hd : Definite r) : Definite r' :=
  (resRelN_iff.1 h).definite hd

theorem ResRel.nf {L N r' r} (h : ResRel L N r' r) (hd : Definite r) : r'.nf := (h.definite hd).nf

theorem ResRel.bind {α : Type} {L N : Names} {r : GRes α} {ko ki : α → GWorld → GRes (GEnv × Sig)}
    (h : ∀ a w, ResRel L N (ko a w) (ki a w)) : ResRel L N (r.bind ko) (r.bind ki) := by
  cases r with
  | fail f w => exact ⟨rfl, rfl⟩
  | ok a w => exact h a w

theorem ResRelN.mono {L L' : Names} {r' r} (h : ResRelN L' r' r) (hs : ∀ y ∈ L, y ∈ L') : ResRelN L r' r :=
  resRelN_iff.2 <| (resRelN_iff.1 h).mono fun _ _ _ _ _ _ ha hn => (ha hn).mono hs

def QSame (ρo ρi : GEnv) : GEnv → GEnv → Prop := fun ρo' ρi' => ρo' = ρo ∧ ρi' = ρi
def QPush (ρo ρi : GEnv) (x : String) : GEnv → GEnv → Prop :=
  fun ρo' ρi' => ∃ v, ρo' = (x, v) :: ρo ∧ ρi' = (x, v) :: ρi
def QAssign (ρo ρi : GEnv) (x : String) : GEnv → GEnv → Prop :=
  fun ρo' ρi' => (x = "_" ∧ ρo' = ρo ∧ ρi' = ρi) ∨ (x ≠ "_" ∧ ∃ v, ρo' = updateG ρo x v ∧ ρi' = updateG ρi x v)
def QUpd (ρo ρi : GEnv) : GEnv → GEnv → Prop :=
  fun ρo' ρi' => (ρo' = ρo ∧ ρi' = ρi) ∨
    ∃ x v, x ∈ keys ρo ∧ x ∈ keys ρi ∧ ρo' = updateG ρo x v ∧ ρi' = updateG ρi x v

theorem StepRel.bind {α : Type} {Q : GEnv → GEnv → Prop} {r : GRes α} {k k' : α → GWorld → GRes (GEnv × Sig)}
    (h : ∀ a w, StepRel Q (k a w) (k' a w)) : StepRel Q (r.bind k) (r.bind k') := by
  cases r with
  | fail f w => exact ⟨rfl, rfl⟩
  | ok a w => exact h a w

theorem StepRel.fail {Q : GEnv → GEnv → Prop} (f : Fail) (w : GWorld) : StepRel Q (.fail f w) (.fail f w) :=
  ⟨rfl, rfl⟩

theorem StepRel.mono {Q Q' : GEnv → GEnv → Prop} (hq : ∀ a b, Q a b → Q' a b) {r' r : GRes (GEnv × Sig)}
    (h : StepRel Q r' r) : StepRel Q' r' r :=
  stepRel_iff.2 <| (stepRel_iff.1 h).mono fun _ _ _ _ _ _ => hq _ _

theorem StepRel.nf {Q r' r} (h : StepRel Q r' r) (hd : Definite r) : r'.nf :=
  ((stepRel_iff.1 h).definite hd).nf

theorem declScope_eq (s : GStmt) (sc : Names) : declScope s sc = declScope s [] ++ sc := by
  cases s <;> simp [declScope]

theorem agree_pop {L : Names} {ρi ρo preI preO ρi'' ρo'' : GEnv}
    (hki : keys ρi'' = keys ρi) (hko : keys ρo'' = keys ρo)
    (hpi : ∀ x ∈ keys preI, ¬ x ∈ keys ρi) (hpo : ∀ x ∈ keys preO, ¬ x ∈ keys ρi)
    (hsub : ∀ x ∈ keys ρo, x ∈ keys ρi)
    (ha : Agree L (preO ++ ρo'') (preI ++ ρi'')) : Agree L ρo'' ρi'' := by
  intro y hy
  by_cases hk : y ∈ keys ρi
  · have h1 : ¬ y ∈ keys preI := fun h => hpi y h hk
    have h2 : ¬ y ∈ keys preO := fun h => hpo y h hk
    have := ha y hy
    rw [lookup_append_not_key h1, lookup_append_not_key h2] at this
    exact this
  · have h1 : ¬ y ∈ keys ρi'' := by rw [hki]; exact hk
    have h2 : ¬ y ∈ keys ρo'' := by rw [hko]; exact fun h => hk (hsub y h)
    rw [lookup_none_of_not_key h1, lookup_none_of_not_key h2]

theorem agree_cons_left {L : Names} {ρo ρi : GEnv} {x : String} {v : GVal} (h : Agree L ρo ρi)
    (hx : ¬ x ∈ L) : Agree L ((x, v) :: ρo) ρi := by
  intro y hy
  have : x ≠ y := fun e => hx (e ▸ hy)
  rw [lookup_cons_ne _ _ this]; exact h y hy

theorem Rel.mono {L N L' N' : Names} {ρo ρi : GEnv} (h : Rel L' N' ρo ρi)
    (hl : ∀ y ∈ L, y ∈ L') (hn : ∀ y ∈ N, y ∈ N') : Rel L N ρo ρi :=
  ⟨h.agree.mono hl, h.sub, fun y hy hk => h.needs y (hn y hy) hk, h.blank⟩

theorem rel_refl (L N : Names) (ρ : GEnv) (hb : ¬ "_" ∈ keys ρ) : Rel L N ρ ρ :=
  ⟨fun _ _ => rfl, fun _ h => h, fun _ _ h => h, hb⟩

theorem Rel.cons_keys {L N L' N' : Names} {ρo ρi : GEnv} {x : String} {v v' : GVal} (h : Rel L' N' ρo ρi)
    (hx : x ≠ "_") (hn : ∀ y ∈ N, y ≠ x → y ∈ N') (ha : Agree L ((x, v) :: ρo) ((x, v') :: ρi)) :
    Rel L N ((x, v) :: ρo) ((x, v') :: ρi) := by
  refine ⟨ha, ?_, ?_, ?_⟩
  · intro y hy
    simp only [keys_cons, List.mem_cons] at hy ⊢
    rcases hy with hy | hy
    · exact Or.inl hy
    · exact Or.inr (h.sub y hy)
  · intro y hy hk
    simp only [keys_cons, List.mem_cons] at hk ⊢
    by_cases hyx : y = x
    · exact Or.inl hyx
    · rcases hk with hk | hk
      · exact absurd hk hyx
      · exact Or.inr (h.needs y (hn y hy hyx) hk)
  · simp only [keys_cons, List.mem_cons, not_or]
    exact ⟨fun e => hx e.symm, h.blank⟩

theorem rel_push {L N L' N' : Names} {ρo ρi : GEnv} {x : String} {v : GVal} (h : Rel L' N' ρo ρi)
    (hx : x ≠ "_") (hl : ∀ y ∈ L, y ≠ x → y ∈ L') (hn : ∀ y ∈ N, y ≠ x → y ∈ N') :
    Rel L N ((x, v) :: ρo) ((x, v) :: ρi) :=
  h.cons_keys hx hn fun y hy => by
    by_cases hyx : y = x
    · subst hyx; rw [lookup_cons_self, lookup_cons_self]
    · rw [lookup_cons_ne _ _ (Ne.symm hyx), lookup_cons_ne _ _ (Ne.symm hyx)]
      exact h.agree y (hl y hy hyx)

theorem rel_push_dead {L N L' N' : Names} {ρo ρi : GEnv} {x : String} {v v' : GVal} (h : Rel L' N' ρo ρi)
    (hx : x ≠ "_") (hxl : ¬ x ∈ L) (hl : ∀ y ∈ L, y ∈ L') (hn : ∀ y ∈ N, y ≠ x → y ∈ N') :
    Rel L N ((x, v) :: ρo) ((x, v') :: ρi) :=
  h.cons_keys hx hn fun y hy => by
    have hyx : y ≠ x := fun e => hxl (e ▸ hy)
    rw [lookup_cons_ne _ _ (Ne.symm hyx), lookup_cons_ne _ _ (Ne.symm hyx)]
    exact h.agree y (hl y hy)

theorem rel_drop_decl {L N L' N' : Names} {ρo ρi : GEnv} {x : String} {v : GVal} (h : Rel L' N' ρo ρi)
    (hx : x ≠ "_") (hxl : ¬ x ∈ L) (hxn : ¬ x ∈ N) (hl : ∀ y ∈ L, y ∈ L') (hn : ∀ y ∈ N, y ∈ N') :
    Rel L N ρo ((x, v) :: ρi) := by
  refine ⟨?_, ?_, ?_, ?_⟩
  · intro y hy
    have hyx : y ≠ x := fun e => hxl (e ▸ hy)
    rw [lookup_cons_ne _ _ (Ne.symm hyx)]
    exact h.agree y (hl y hy)
  · intro y hy
    simp only [keys_cons, List.mem_cons]
    exact Or.inr (h.sub y hy)
  · intro y hy hk
    simp only [keys_cons, List.mem_cons] at hk
    have hyx : y ≠ x := fun e => hxn (e ▸ hy)
    rcases hk with hk | hk
    · exact absurd hk hyx
    · exact h.needs y (hn y hy) hk
  · simp only [keys_cons, List.mem_cons, not_or]
    exact ⟨fun e => hx e.symm, h.blank⟩

theorem rel_upd {L N L' N' : Names} {ρo ρi : GEnv} {x : String} {v : GVal} (h : Rel L' N' ρo ρi)
    (hk : x ∈ keys ρi → x ∈ keys ρo) (hl : ∀ y ∈ L, y ≠ x → y ∈ L') (hn : ∀ y ∈ N, y ∈ N') :
    Rel L N (updateG ρo x v) (updateG ρi x v) := by
  refine ⟨?_, ?_, ?_, ?_⟩
  · intro y hy
    by_cases hyx : y = x
    · subst hyx
      by_cases hki : y ∈ keys ρi
      · rw [lookup_update_self y v ρi hki, lookup_update_self y v ρo (hk hki)]
      · have hko : ¬ y ∈ keys ρo := fun hh => hki (h.sub y hh)
        rw [update_not_key y v ρi hki, update_not_key y v ρo hko,
          lookup_none_of_not_key hki, lookup_none_of_not_key hko]
    · rw [lookup_update_ne v (Ne.symm hyx), lookup_update_ne v (Ne.symm hyx)]
      exact h.agree y (hl y hy hyx)
  · intro y hy; rw [keys_update] at hy ⊢; exact h.sub y hy
  · intro y hy hk'; rw [keys_update] at hk' ⊢; exact h.needs y (hn y hy) hk'
  · rw [keys_update]; exact h.blank

theorem rel_dead_store {L N L' N' : Names} {ρo ρi : GEnv} {x : String} {v : GVal} (h : Rel L' N' ρo ρi)
    (hxl : ¬ x ∈ L) (hl : ∀ y ∈ L, y ∈ L') (hn : ∀ y ∈ N, y ∈ N') :
    Rel L N ρo (updateG ρi x v) := by
  refine ⟨?_, ?_, ?_, ?_⟩
  · intro y hy
    have hyx : y ≠ x := fun e => hxl (e ▸ hy)
    rw [lookup_update_ne v (Ne.symm hyx)]
    exact h.agree y (hl y hy)
  · intro y hy; rw [keys_update]; exact h.sub y hy
  · intro y hy hk'; rw [keys_update] at hk'; exact h.needs y (hn y hy) hk'
  · rw [keys_update]; exact h.blank

theorem rel_after_nested {L N L0 N0 Wo Wi : Names} {ρo ρi ρo' ρi' : GEnv} (h : Rel L0 N0 ρo ρi)
    (fo : FrameEq Wo ρo ρo') (fi : FrameEq Wi ρi ρi') (ha : Agree L ρo' ρi') (hn : ∀ y ∈ N, y ∈ N0) :
    Rel L N ρo' ρi' := by
  refine ⟨ha, ?_, ?_, ?_⟩
  · intro y hy; rw [fo.keys] at hy; rw [fi.keys]; exact h.sub y hy
  · intro y hy hk; rw [fi.keys] at hk; rw [fo.keys]; exact h.needs y (hn y hy) hk
  · rw [fi.keys]; exact h.blank

/-- `y = "_"` is excepted in `hwo`: `_ = e` counts as a write to `"_"`, but `"_"` is never a key (`Rel.blank`), so both
    lookups are `none` whatever was "written". -/
theorem rel_frame {L0 N0 Wo Wi : Names} {ρo ρi ρo' ρi' : GEnv} (h : Rel L0 N0 ρo ρi)
    (fo : FrameEq Wo ρo ρo') (fi : FrameEq Wi ρi ρi')
    (hwi : ∀ y ∈ L0, ¬ y ∈ Wi) (hwo : ∀ y ∈ L0, ¬ y ∈ Wo ∨ y = "_") : Rel L0 N0 ρo' ρi' := by
  apply rel_after_nested h fo fi _ (fun y hy => hy)
  intro y hy
  rcases hwo y hy with hw | hw
  · rw [← FrameEq.lookup hw fo, ← FrameEq.lookup (hwi y hy) fi]; exact h.agree y hy
  · subst hw
    have h1 : ¬ "_" ∈ keys ρi' := by rw [fi.keys]; exact h.blank
    have h2 : ¬ "_" ∈ keys ρo' := by rw [fo.keys]; exact fun hh => h.blank (h.sub _ hh)
    rw [lookup_none_of_not_key h1, lookup_none_of_not_key h2]

theorem resrel_of_frames {L N L0 N0 : Names} {ρo ρi : GEnv} {r r' : GRes (GEnv × Sig)}
    (h : Rel L0 N0 ρo ρi) (hrr : ResRelN L r' r)
    (hfi : ∀ ρi' s w', r = .ok (ρi', s) w' → ∃ W, FrameEq W ρi ρi')
    (hfo : ∀ ρo' s w', r' = .ok (ρo', s) w' → ∃ W, FrameEq W ρo ρo')
    (hn : ∀ y ∈ N, y ∈ N0) : ResRel L N r' r :=
  resRel_iff.2 <| (resRelN_iff.1 hrr).mono fun s ρo' ρi' w e' e ha hs => by
    obtain ⟨Wi, fi⟩ := hfi _ _ _ e
    obtain ⟨Wo, fo⟩ := hfo _ _ _ e'
    exact rel_after_nested h fo fi (ha hs) hn

/-- The simulation at fuel `n` of the input run: a definite result of the input construct is matched by an eventual
    result (`Ev1`: no fuel named) of the scanned construct, given `Rel` at the live-in and needs sets of the scan.  A
    block ends related at `L` and `[]`, the needs a scan starts with. -/
structure SimAt (F : GFile) (D : Names) (P : GExpr → Bool) (n : Nat) : Prop where
  bl : ∀ {ss L ρi ρo w r}, scopeErrs D (keys ρi) ss = [] → shapeOK ss = true → semOK P ss L = true →
        Rel (dceStmts ss L).live (dceStmts ss L).needs ρo ρi →
        execBlockG n F ρi w ss = r → Definite r →
        ∃ r', BlockE F ρo w (dceStmts ss L).out r' ∧ ResRel L [] r' r
  ne : ∀ {ss L ρi ρo w r}, scopeErrs D (keys ρi) ss = [] → shapeOK ss = true → semOK P ss L = true →
        Rel (dceStmts ss L).live (dceStmts ss L).needs ρo ρi →
        nestedG n F ρi w ss = r → Definite r →
        ∃ r', NestE F ρo w (dceStmts ss L).out r' ∧ ResRelN L r' r
  ex : ∀ {s live needs ρi ρo w r}, scopeErrsStmt D (keys ρi) s = [] → shapeOKStmt s = true →
        semOKStmt P s live = true →
        Rel (dceStmt s live needs).live (dceStmt s live needs).needs ρo ρi →
        execG n F ρi w s = r → Definite r →
        ∃ r', BlockE F ρo w (dceStmt s live needs).out r' ∧ ResRel live needs r' r
  sw : ∀ {cs d live ρi ρo w v r},
        scopeErrsCases D (keys ρi) cs = [] → shapeOKCases cs = true → semOKCases P cs live = true →
        OptOK D P (keys ρi) d (dceCases cs live).live →
        Rel (uni (uni (dceCases cs live).live (dceCases cs live).liveIn) (liveOpt d (dceCases cs live).live))
          (uni (dceCases cs live).needs (needsOpt d (dceCases cs live).live)) ρo ρi →
        switchG n F ρi w v cs d = r → Definite r →
        ∃ r', Ev1 (fun k => switchG k F ρo w v (dceCases cs live).cases (outOpt d (dceCases cs live).live)) r' ∧
          ResRelN live r' r
  ts : ∀ {cs d live ρi ρo w v r},
        scopeErrsTCases D (keys ρi) cs = [] → shapeOKTCases cs = true → semOKTCases P cs live = true →
        OptOK D P (keys ρi) d live →
        Rel (uni (uni live (dceTCases cs live).liveIn) (liveOpt d live))
          (uni (dceTCases cs live).needs (needsOpt d live)) ρo ρi →
        tswitchG n F ρi w v cs d = r → Definite r →
        ∃ r', Ev1 (fun k => tswitchG k F ρo w v (dceTCases cs live).cases (outOpt d live)) r' ∧ ResRelN live r' r

end Goml.Dce
