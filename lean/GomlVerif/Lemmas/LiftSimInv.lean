import GomlVerif.Model.LiftSim
/-! C08: what an accepted pair `simE … e e' = some s` looks like, per source constructor -/
namespace Goml.Lift
open Goml

variable {P P' : Prog} {Γ : SEnv} {S T : List String} {s : Shape} {e' : Expr}

/-- split on the target expression; every constructor but the matching one is rejected -/
macro "sim_inv" h:ident e:ident : tactic =>
  `(tactic| (cases $e:ident <;> simp only [simE] at $h:ident <;> (first | (cases $h:ident; done) | skip)))

theorem simE_var_inv {x : String} {t : Ty} (h : simE P P' Γ S T (.var x t) e' = some s) :
    ∃ t', e' = .var x t' ∧
      ((x ∈ S ∧ x ∈ T ∧ s = Γ.get x) ∨ (x ∉ S ∧ x ∉ T ∧ globalOk P P' x = true ∧ s = .any)) := by
  unfold simE at h
  split at h
  · rename_i y t'
    split at h
    · rename_i hxy
      have hxy : x = y := eq_of_beq hxy
      subst hxy
      refine ⟨t', rfl, ?_⟩
      split at h
      · rename_i hS
        split at h
        · rename_i hT
          left
          simp only [Option.some.injEq] at h
          exact ⟨List.contains_iff_mem.1 hS, List.contains_iff_mem.1 hT, h.symm⟩
        · cases h
      · rename_i hS
        split at h
        · rename_i hT
          right
          simp only [Option.some.injEq] at h
          simp only [Bool.and_eq_true, Bool.not_eq_true', List.contains_eq_mem, decide_eq_false_iff_not] at hT
          exact ⟨mt List.contains_iff_mem.2 hS, hT.1, hT.2, h.symm⟩
        · cases h
    · cases h
  · cases h

theorem simE_prim_inv {p : Prim} (h : simE P P' Γ S T (.prim p) e' = some s) :
    ∃ q, e' = .prim q ∧ primEq p q = true ∧ s = .any := by
  unfold simE at h
  split at h
  · rename_i q
    split at h
    · rename_i hp
      simp only [Option.some.injEq] at h
      exact ⟨q, rfl, hp, h.symm⟩
    · cases h
  · cases h

theorem simE_tag_inv {i : Nat} {t : Ty} (h : simE P P' Γ S T (.tag i t) e' = some s) :
    ∃ t', e' = .tag i t' ∧ Sem.tagTyName t = Sem.tagTyName t' ∧ s = .any := by
  unfold simE at h
  split at h
  · rename_i j t'
    split at h
    · rename_i hij
      simp only [Bool.and_eq_true, beq_iff_eq] at hij
      obtain ⟨rfl, hk⟩ := hij
      simp only [Option.some.injEq] at h
      exact ⟨t', rfl, hk, h.symm⟩
    · cases h
  · cases h

theorem simE_constr_inv {c : Ctor} {t : Ty} {args : List Expr} (h : simE P P' Γ S T (.constr c t args) e' = some s) :
    ∃ t' args' ss, e' = .constr c t' args' ∧ simList P P' Γ S T args args' = some ss ∧
      ((∃ n, c = .struct n ∧ fieldsOk P' n 0 ss = true ∧ s = .clo n) ∨
       (∃ a b i, c = .enum a b i ∧ s = .any)) := by
  unfold simE at h
  split at h
  · rename_i c' t' args'
    split at h
    · rename_i hc
      have hc : c = c' := of_decide_eq_true hc
      subst hc
      split at h
      · rename_i ss hl
        refine ⟨t', args', ss, rfl, hl, ?_⟩
        split at h
        · split at h
          · rename_i hf
            simp only [Option.some.injEq] at h
            exact Or.inl ⟨_, rfl, hf, h.symm⟩
          · cases h
        · simp only [Option.some.injEq] at h
          exact Or.inr ⟨_, _, _, rfl, h.symm⟩
      · cases h
    · cases h
  · cases h

theorem simE_tuple_inv {t : Ty} {items : List Expr} (h : simE P P' Γ S T (.tuple t items) e' = some s) :
    ∃ t' items' ss, e' = .tuple t' items' ∧ simList P P' Γ S T items items' = some ss ∧ s = .tup ss := by
  unfold simE at h
  split at h
  · rename_i t' items'
    split at h
    · rename_i ss hl
      simp only [Option.some.injEq] at h
      exact ⟨t', items', ss, rfl, hl, h.symm⟩
    · cases h
  · cases h

theorem simE_array_inv {t : Ty} {items : List Expr} (h : simE P P' Γ S T (.array t items) e' = some s) :
    ∃ t' items' ss, e' = .array t' items' ∧ simList P P' Γ S T items items' = some ss ∧ s = .any := by
  unfold simE at h
  split at h
  · rename_i t' items'
    split at h
    · rename_i ss hl
      simp only [Option.some.injEq] at h
      exact ⟨t', items', ss, rfl, hl, h.symm⟩
    · cases h
  · cases h

theorem simE_letE_inv {x : String} {v b : Expr} (h : simE P P' Γ S T (.letE x v b) e' = some s) :
    ∃ v' b' s1, e' = .letE x v' b' ∧ simE P P' Γ S T v v' = some s1 ∧
      simE P P' ((x, s1) :: Γ) (x :: S) (x :: T) b b' = some s := by
  unfold simE at h
  split at h
  · rename_i x' v' b'
    split at h
    · rename_i hx
      have hx : x = x' := eq_of_beq hx
      subst hx
      split at h
      · rename_i s1 h1
        exact ⟨v', b', s1, rfl, h1, h⟩
      · cases h
    · cases h
  · cases h

theorem simE_ite_inv {c t e : Expr} (h : simE P P' Γ S T (.ite c t e) e' = some s) :
    ∃ c' t' e2' s1 s2 s3, e' = .ite c' t' e2' ∧ simE P P' Γ S T c c' = some s1 ∧ simE P P' Γ S T t t' = some s2 ∧
      simE P P' Γ S T e e2' = some s3 ∧ s = .any := by
  unfold simE at h
  split at h
  · rename_i c' t' e2'
    split at h
    · rename_i s1 s2 s3 h1 h2 h3
      simp only [Option.some.injEq] at h
      exact ⟨c', t', e2', _, _, _, rfl, h1, h2, h3, h.symm⟩
    · cases h
  · cases h

theorem simE_while_inv {c b : Expr} (h : simE P P' Γ S T (.while c b) e' = some s) :
    ∃ c' b' s1 s2, e' = .while c' b' ∧ simE P P' Γ S T c c' = some s1 ∧ simE P P' Γ S T b b' = some s2 ∧ s = .any := by
  unfold simE at h
  split at h
  · rename_i c' b'
    split at h
    · rename_i s1 s2 h1 h2
      simp only [Option.some.injEq] at h
      exact ⟨c', b', _, _, rfl, h1, h2, h.symm⟩
    · cases h
  · cases h

theorem simE_go_inv {e : Expr} (h : simE P P' Γ S T (.go e) e' = some s) :
    ∃ e2' s1, e' = .go e2' ∧ simE P P' Γ S T e e2' = some s1 ∧ s = .any := by
  unfold simE at h
  split at h
  · rename_i e2'
    split at h
    · rename_i s1 h1
      simp only [Option.some.injEq] at h
      exact ⟨e2', _, rfl, h1, h.symm⟩
    · cases h
  · cases h

theorem simE_cget_inv {c : Ctor} {i : Nat} {t : Ty} {e : Expr} (h : simE P P' Γ S T (.cget c i t e) e' = some s) :
    ∃ t' e2' s1, e' = .cget c i t' e2' ∧ simE P P' Γ S T e e2' = some s1 ∧
      s = cgetShape P' c i s1 := by
  unfold simE at h
  split at h
  · rename_i c' i' t' e2'
    split at h
    · rename_i hc
      simp only [Bool.and_eq_true, decide_eq_true_eq, beq_iff_eq] at hc
      obtain ⟨rfl, rfl⟩ := hc
      split at h
      · rename_i s1 h1
        simp only [Option.some.injEq] at h
        exact ⟨t', e2', s1, rfl, h1, h.symm⟩
      · cases h
    · cases h
  · cases h

theorem simE_un_inv {op : UnOp} {t : Ty} {e : Expr} (h : simE P P' Γ S T (.un op t e) e' = some s) :
    ∃ t' e2' s1, e' = .un op t' e2' ∧ simE P P' Γ S T e e2' = some s1 ∧ s = .any := by
  unfold simE at h
  split at h
  · rename_i op' t' e2'
    split at h
    · rename_i hc
      have hc : op = op' := of_decide_eq_true hc
      subst hc
      split at h
      · rename_i s1 h1
        simp only [Option.some.injEq] at h
        exact ⟨t', e2', s1, rfl, h1, h.symm⟩
      · cases h
    · cases h
  · cases h

theorem simE_bin_inv {op : BinOp} {t : Ty} {l r : Expr} (h : simE P P' Γ S T (.bin op t l r) e' = some s) :
    ∃ t' l' r' s1 s2, e' = .bin op t' l' r' ∧ simE P P' Γ S T l l' = some s1 ∧ simE P P' Γ S T r r' = some s2 ∧ s = .any := by
  unfold simE at h
  split at h
  · rename_i op' t' l' r'
    split at h
    · rename_i hc
      have hc : op = op' := of_decide_eq_true hc
      subst hc
      split at h
      · rename_i s1 s2 h1 h2
        simp only [Option.some.injEq] at h
        exact ⟨t', l', r', s1, s2, rfl, h1, h2, h.symm⟩
      · cases h
    · cases h
  · cases h

theorem simE_toDyn_inv {tr : String} {forTy t : Ty} {e : Expr} (h : simE P P' Γ S T (.toDyn tr forTy t e) e' = some s) :
    ∃ forTy' t' e2' s1, e' = .toDyn tr forTy' t' e2' ∧ Sem.tyKey forTy = Sem.tyKey forTy' ∧
      simE P P' Γ S T e e2' = some s1 ∧ s = .any := by
  unfold simE at h
  split at h
  · rename_i tr' forTy' t' e2'
    split at h
    · rename_i hc
      simp only [Bool.and_eq_true, beq_iff_eq] at hc
      obtain ⟨rfl, hk⟩ := hc
      split at h
      · rename_i s1 h1
        simp only [Option.some.injEq] at h
        exact ⟨forTy', t', e2', s1, rfl, hk, h1, h.symm⟩
      · cases h
    · cases h
  · cases h

theorem simE_dynCall_inv {tr m : String} {t : Ty} {recv : Expr} {args : List Expr}
    (h : simE P P' Γ S T (.dynCall tr m t recv args) e' = some s) :
    ∃ t' recv' args' s1 ss, e' = .dynCall tr m t' recv' args' ∧ simE P P' Γ S T recv recv' = some s1 ∧
      simList P P' Γ S T args args' = some ss ∧ s = .any := by
  unfold simE at h
  split at h
  · rename_i tr' m' t' recv' args'
    split at h
    · rename_i hc
      simp only [Bool.and_eq_true, beq_iff_eq] at hc
      obtain ⟨rfl, rfl⟩ := hc
      split at h
      · rename_i s1 ss h1 h2
        simp only [Option.some.injEq] at h
        exact ⟨t', recv', args', s1, ss, rfl, h1, h2, h.symm⟩
      · cases h
    · cases h
  · cases h

theorem simE_traitCall_inv {tr m : String} {t : Ty} {recv : Expr} {args : List Expr}
    (h : simE P P' Γ S T (.traitCall tr m t recv args) e' = some s) : False := by
  unfold simE at h
  cases h

theorem simE_proj_inv {i : Nat} {t : Ty} {e : Expr} (h : simE P P' Γ S T (.proj i t e) e' = some s) :
    ∃ t' e2' s1, e' = .proj i t' e2' ∧ simE P P' Γ S T e e2' = some s1 ∧ s = s1.proj i := by
  unfold simE at h
  split at h
  · rename_i i' t' e2'
    split at h
    · rename_i hc
      have hc : i = i' := eq_of_beq hc
      subst hc
      split at h
      · rename_i s1 h1
        simp only [Option.some.injEq] at h
        exact ⟨t', e2', s1, rfl, h1, h.symm⟩
      · cases h
    · cases h
  · cases h

theorem simE_matchE_inv {t : Ty} {scrut : Expr} {arms : List Arm} {dflt : Option Expr}
    (h : simE P P' Γ S T (.matchE t scrut arms dflt) e' = some s) :
    ∃ t' scrut' arms' dflt' s1, e' = .matchE t' scrut' arms' dflt' ∧ simE P P' Γ S T scrut scrut' = some s1 ∧
      simArms P P' Γ S T arms arms' = true ∧ simOpt P P' Γ S T dflt dflt' = true ∧ s = .any := by
  unfold simE at h
  split at h
  · rename_i t' scrut' arms' dflt'
    split at h
    · rename_i s1 h1
      split at h
      · rename_i hc
        simp only [Bool.and_eq_true] at hc
        simp only [Option.some.injEq] at h
        exact ⟨t', scrut', arms', dflt', s1, rfl, h1, hc.1, hc.2, h.symm⟩
      · cases h
    · cases h
  · cases h

theorem applyParts_inv {n : String} {ys : List String} {envp : String} {ps' : List String} {body' : Expr}
    (h : applyParts P' n ys = some (envp, ps', body')) :
    ∃ fn, P'.findFn (applyFnName n) = some fn ∧ fn.params.map (·.1) = envp :: ps' ∧
      unrebind n envp 0 ys fn.body = some body' := by
  unfold applyParts at h
  split at h
  · rename_i fn hf
    split at h
    · rename_i envp0 ps0 hp
      split at h
      · rename_i b hu
        simp only [Option.some.injEq, Prod.mk.injEq] at h
        obtain ⟨rfl, rfl, rfl⟩ := h
        exact ⟨fn, hf, hp, hu⟩
      · cases h
    · cases h
  · cases h

theorem simE_closure_inv {t : Ty} {ps : List (String × Ty)} {body : Expr}
    (h : simE P P' Γ S T (.closure t ps body) e' = some s) :
    ∃ n t' args' ys envp body' fn s0, e' = .constr (.struct n) t' args' ∧ varNames? args' = some ys ∧
      P'.findFn (applyFnName n) = some fn ∧ fn.params.map (·.1) = envp :: ps.map (·.1) ∧
      unrebind n envp 0 ys fn.body = some body' ∧
      (∀ y, y ∈ ys → y ∈ S ∧ y ∈ T ∧ y ∉ ps.map (·.1) ∧ y ≠ envp) ∧
      (∀ p, p ∈ ps.map (·.1) → p ∉ S ∧ p ≠ envp ∧ globalOk P P' p = true) ∧
      envp ∉ S ∧
      simE P P' (ys.map (fun y => (y, Γ.get y))) (ps.map (·.1) ++ S) (ys ++ ps.map (·.1) ++ [envp]) body body' = some s0 ∧
      s = .clo n := by
  unfold simE at h
  split at h
  · rename_i n t' args'
    split at h
    · rename_i ys hys
      split at h
      · rename_i envp ps' body' hap
        obtain ⟨fn, hf, hp, hu⟩ := applyParts_inv hap
        split at h
        · rename_i hc
          simp only [Bool.and_eq_true, beq_iff_eq, List.all_eq_true, Bool.not_eq_true', bne_iff_ne, ne_eq,
            List.contains_eq_mem, decide_eq_true_eq, decide_eq_false_iff_not] at hc
          obtain ⟨⟨⟨⟨rfl, h2⟩, h3⟩, h4⟩, _⟩ := hc
          split at h
          · rename_i s0 hb
            simp only [Option.some.injEq] at h
            refine ⟨n, _, _, ys, envp, body', fn, s0, rfl, hys, hf, hp, hu, ?_, ?_, h4, hb, h.symm⟩
            · intro y hy
              obtain ⟨⟨⟨a, b⟩, c⟩, d⟩ := h2 y hy
              exact ⟨a, b, c, d⟩
            · intro p hp
              obtain ⟨⟨a, b⟩, c⟩ := h3 p hp
              exact ⟨a, b, c⟩
          · cases h
        · cases h
      · cases h
    · cases h
  · cases h

theorem simE_call_inv {t : Ty} {f : Expr} {args : List Expr} (h : simE P P' Γ S T (.call t f args) e' = some s) :
    ∃ t' f' args', e' = .call t' f' args' ∧
      ((∃ s1 ss, simE P P' Γ S T f f' = some s1 ∧ simList P P' Γ S T args args' = some ss ∧ s = callShape P P' T f') ∨
       (∃ x tx tg tx' rest n ss, f = .var x tx ∧ f' = .var (applyFnName n) tg ∧ args' = .var x tx' :: rest ∧
          Γ.get x = .clo n ∧ x ∈ S ∧ x ∈ T ∧ applyFnName n ∉ S ∧ applyFnName n ∉ T ∧
          simList P P' Γ S T args rest = some ss ∧ s = .any)) := by
  unfold simE at h
  split at h
  · rename_i t' f' args'
    refine ⟨t', f', args', rfl, ?_⟩
    split at h
    · rename_i x tx g tg x' tx' rest
      split at h
      · split at h
        · rename_i s1 ss h1 h2
          simp only [Option.some.injEq] at h
          exact Or.inl ⟨s1, ss, h1, h2, h.symm⟩
        · cases h
      · split at h
        · rename_i n hn
          split at h
          · rename_i hc
            simp only [Bool.and_eq_true, beq_iff_eq, Bool.not_eq_true', List.contains_eq_mem, decide_eq_true_eq,
              decide_eq_false_iff_not] at hc
            obtain ⟨⟨⟨⟨⟨rfl, rfl⟩, h3⟩, h4⟩, h5⟩, h6⟩ := hc
            split at h
            · rename_i ss hl
              simp only [Option.some.injEq] at h
              exact Or.inr ⟨x, tx, tg, tx', rest, n, ss, rfl, rfl, rfl, hn, h3, h4, h5, h6, hl, h.symm⟩
            · cases h
          · cases h
        · cases h
    · split at h
      · rename_i s1 ss h1 h2
        simp only [Option.some.injEq] at h
        exact Or.inl ⟨s1, ss, h1, h2, h.symm⟩
      · cases h
  · cases h

theorem simList_nil_inv {es' : List Expr} {ss : List Shape} (h : simList P P' Γ S T [] es' = some ss) :
    es' = [] ∧ ss = [] := by
  unfold simList at h
  split at h
  · simp only [Option.some.injEq] at h; exact ⟨rfl, h.symm⟩
  · cases h

theorem simList_cons_inv {e : Expr} {es es' : List Expr} {ss : List Shape}
    (h : simList P P' Γ S T (e :: es) es' = some ss) :
    ∃ e' rest' s1 ss1, es' = e' :: rest' ∧ simE P P' Γ S T e e' = some s1 ∧
      simList P P' Γ S T es rest' = some ss1 ∧ ss = s1 :: ss1 := by
  unfold simList at h
  split at h
  · rename_i e' rest'
    split at h
    · rename_i s1 ss1 h1 h2
      simp only [Option.some.injEq] at h
      exact ⟨e', rest', s1, ss1, rfl, h1, h2, h.symm⟩
    · cases h
  · cases h

theorem simArms_nil_inv {as' : List Arm} (h : simArms P P' Γ S T [] as' = true) : as' = [] := by
  unfold simArms at h
  split at h
  · rfl
  · cases h

theorem simArms_cons_inv {lhs body : Expr} {rest as' : List Arm}
    (h : simArms P P' Γ S T (.mk lhs body :: rest) as' = true) :
    ∃ lhs' body' rest' s1, as' = .mk lhs' body' :: rest' ∧ headEq (armHead lhs) (armHead lhs') = true ∧
      simE P P' Γ S T body body' = some s1 ∧ simArms P P' Γ S T rest rest' = true := by
  unfold simArms at h
  split at h
  · rename_i lhs' body' rest'
    simp only [Bool.and_eq_true, Option.isSome_iff_exists] at h
    obtain ⟨⟨h1, s1, h2⟩, h3⟩ := h
    exact ⟨lhs', body', rest', s1, rfl, h1, h2, h3⟩
  · cases h

theorem simOpt_inv {d d' : Option Expr} (h : simOpt P P' Γ S T d d' = true) :
    (d = none ∧ d' = none) ∨ ∃ e e' s1, d = some e ∧ d' = some e' ∧ simE P P' Γ S T e e' = some s1 := by
  unfold simOpt at h
  split at h
  · split at h
    · exact Or.inl ⟨rfl, rfl⟩
    · cases h
  · rename_i e
    split at h
    · rename_i e'
      obtain ⟨s1, h1⟩ := Option.isSome_iff_exists.1 h
      exact Or.inr ⟨e, e', s1, rfl, rfl, h1⟩
    · cases h

end Goml.Lift
