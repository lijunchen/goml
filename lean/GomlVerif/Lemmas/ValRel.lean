import GomlVerif.Lemmas.LiftSemUnfold
import GomlVerif.Lemmas.SemBuiltin
/-!
What the first-order part of `Sem` (operators, builtins, arm selection) can see of a value, and the
relations between values it cannot tell apart.

`Val.head` keeps scalars, references and the index of an enum value and forgets everything else except
whether the value is an array or a vector.  The simulation relations of closure lifting, monomorphisation and renaming
are relations that `Respects` describes; they differ in how function values are related, which nothing here looks at.
-/
namespace Goml.Sem
open Goml

inductive ListRel {α β : Type} (R : α → β → Prop) : List α → List β → Prop
  | nil : ListRel R [] []
  | cons {a : α} {b : β} {as : List α} {bs : List β} : R a b → ListRel R as bs → ListRel R (a :: as) (b :: bs)

inductive OptRel {α β : Type} (R : α → β → Prop) : Option α → Option β → Prop
  | none : OptRel R none none
  | some {a : α} {b : β} : R a b → OptRel R (some a) (some b)

theorem OptRel.cases {α β : Type} {R : α → β → Prop} {o : Option α} {o' : Option β} (h : OptRel R o o') :
    (o = Option.none ∧ o' = Option.none) ∨ ∃ a b, o = Option.some a ∧ o' = Option.some b ∧ R a b := by
  cases h with
  | none => exact .inl ⟨rfl, rfl⟩
  | some h => exact .inr ⟨_, _, rfl, rfl, h⟩

namespace ListRel
variable {α β : Type} {R : α → β → Prop}

theorem flip {as : List α} {bs : List β} (h : ListRel R as bs) : ListRel (fun b a => R a b) bs as := by
  induction h with
  | nil => exact .nil
  | cons h _ ih => exact .cons h ih

theorem length_eq {as : List α} {bs : List β} (h : ListRel R as bs) : as.length = bs.length := by
  induction h with
  | nil => rfl
  | cons _ _ ih => rw [List.length_cons, List.length_cons, ih]

theorem get {as : List α} {bs : List β} (h : ListRel R as bs) (i : Nat) : OptRel R as[i]? bs[i]? := by
  induction h generalizing i with
  | nil => exact .none
  | cons h _ ih =>
    cases i with
    | zero => exact .some h
    | succ i => rw [List.getElem?_cons_succ, List.getElem?_cons_succ]; exact ih i

theorem set {as : List α} {bs : List β} (h : ListRel R as bs) (i : Nat) {a : α} {b : β} (hab : R a b) :
    ListRel R (as.set i a) (bs.set i b) := by
  induction h generalizing i with
  | nil => exact .nil
  | cons h t ih =>
    cases i with
    | zero => exact .cons hab t
    | succ i => exact .cons h (ih i)

theorem append {as as' : List α} {bs bs' : List β} (h : ListRel R as bs) (h' : ListRel R as' bs') :
    ListRel R (as ++ as') (bs ++ bs') := by
  induction h with
  | nil => exact h'
  | cons h _ ih => exact .cons h ih

theorem one {a : α} {bs : List β} (h : ListRel R [a] bs) : ∃ b, bs = [b] ∧ R a b := by
  cases h with | cons h t => cases t; exact ⟨_, rfl, h⟩

theorem two {a₁ a₂ : α} {bs : List β} (h : ListRel R [a₁, a₂] bs) : ∃ b₁ b₂, bs = [b₁, b₂] ∧ R a₁ b₁ ∧ R a₂ b₂ := by
  cases h with | cons h₁ t => obtain ⟨_, rfl, h₂⟩ := t.one; exact ⟨_, _, rfl, h₁, h₂⟩

theorem three {a₁ a₂ a₃ : α} {bs : List β} (h : ListRel R [a₁, a₂, a₃] bs) :
    ∃ b₁ b₂ b₃, bs = [b₁, b₂, b₃] ∧ R a₁ b₁ ∧ R a₂ b₂ ∧ R a₃ b₃ := by
  cases h with | cons h₁ t => obtain ⟨_, _, rfl, h₂, h₃⟩ := t.two; exact ⟨_, _, _, rfl, h₁, h₂, h₃⟩

end ListRel

/-- unit, booleans, numbers and strings: what the operators are defined on and return -/
def Val.isBase : Val → Bool
  | .unit | .bool _ | .int _ _ _ | .float _ _ | .str _ => true
  | _ => false

/-- scalars and references: the values the builtins read in full -/
def Val.isAtom : Val → Bool
  | .ref _ => true
  | v => v.isBase

/-- What operators, builtins and arm selection inspect of a value before they look at elements.  The result is again a
`Val`, a normal form inside the type and not a separate type of heads, so that `valEq`, `binop`, … apply to it as they
are: an enum value keeps its index only (`.enumV "" i []`), `.tuple []` stands for every value nothing looks into. -/
def Val.head : Val → Val
  | .enumV _ i _ => .enumV "" i []
  | .array _ => .array []
  | .vec _ => .vec []
  | .tuple _ | .structV _ _ | .closure _ _ _ | .fn _ | .dyn _ _ _ => .tuple []
  | v => v

theorem Val.isAtom_of_isBase {a : Val} (h : a.isBase = true) : a.isAtom = true := by
  cases a <;> first | rfl | cases h

theorem Val.head_of_atom {a : Val} (h : a.isAtom = true) : a.head = a := by
  cases a <;> first | rfl | cases h

theorem Val.head_head (a : Val) : a.head.head = a.head := by cases a <;> rfl

theorem Val.isAtom_head (a : Val) : a.head.isAtom = a.isAtom := by cases a <;> rfl

theorem Val.isBase_head (a : Val) : a.head.isBase = a.isBase := by cases a <;> rfl

theorem Val.eq_of_head_eq {a b : Val} (ha : a.isAtom = true) (h : a.head = b.head) : b = a := by
  have hb : b.isAtom = true := by rw [← b.isAtom_head, ← h, a.isAtom_head, ha]
  rw [← Val.head_of_atom ha, h, Val.head_of_atom hb]

/-! ### operators and arm selection depend on heads only -/

theorem valEq_head (a b : Val) : valEq a b = valEq a.head b.head := by
  cases a <;> cases b <;> rfl

theorem unop_head (op : UnOp) (a : Val) : unop op a = unop op a.head := by
  cases a <;> first | rfl | (cases op <;> rfl)

theorem logicalNonBool_head (op : BinOp) (a : Val) : logicalNonBool op a = logicalNonBool op a.head := by
  cases a <;> rfl

theorem scAnd_head (op : BinOp) (a : Val) : scAnd op a = scAnd op a.head := by
  cases op <;> first | rfl | (cases a <;> rfl)

theorem scOr_head (op : BinOp) (a : Val) : scOr op a = scOr op a.head := by
  cases op <;> first | rfl | (cases a <;> rfl)

theorem armMatches_head (lhs : Expr) (v : Val) : armMatches lhs v = armMatches lhs v.head := by
  cases lhs with
  | constr c t args => cases c <;> cases v <;> rfl
  | tag i t => cases v <;> rfl
  | prim p =>
    show (valEq (primVal p) v).getD false = (valEq (primVal p) v.head).getD false
    rw [valEq_head (primVal p) v.head, Val.head_head, ← valEq_head]
  | _ => rfl

/-- the failure of an operator applied to operands it has no rule for: the messages of the `==`, `!=` and last rows of
`Sem.binop`, spelled as there -/
def binopStuck : BinOp → Fail
  | .eq => .stuck "eq on non-comparable values"
  | .notEq => .stuck "not_eq on non-comparable values"
  | _ => .stuck "binary operator applied to values it is not defined on"

theorem valEq_some {a b : Val} {r : Bool} (h : valEq a b = some r) : a.isBase = true ∧ b.isBase = true := by
  unfold valEq at h
  split at h <;> first | exact ⟨rfl, rfl⟩ | cases h

/-- an operator looks at scalars only -/
theorem binop_base_or_stuck (op : BinOp) (a b : Val) :
    (a.isBase = true ∧ b.isBase = true) ∨ binop op a b = .error (binopStuck op) := by
  unfold binop
  split
  all_goals try exact .inl ⟨rfl, rfl⟩
  -- left: `==`, `!=`, and the last row, which `==` and `!=` never reach.  For the last row `split` leaves the negated
  -- earlier rows as anonymous hypotheses; they are fetched by their statement.
  · cases h : valEq a b with
    | some r => exact .inl (valEq_some h)
    | none => exact .inr rfl
  · cases h : valEq a b with
    | some r => exact .inl (valEq_some h)
    | none => exact .inr rfl
  · refine .inr ?_
    cases op
    case eq => exact (‹BinOp.eq = BinOp.eq → False› rfl).elim
    case notEq => exact (‹BinOp.notEq = BinOp.notEq → False› rfl).elim
    all_goals rfl

theorem binop_ok_base {op : BinOp} {a b v : Val} (h : binop op a b = .ok v) : v.isBase = true := by
  unfold binop at h
  split at h
  -- `cases h` leaves `v` a scalar written out, or nothing where the row is an error
  all_goals first
    | (cases h <;> rfl)
    -- the rows under an `if` (`/`) or a `match` (`==`, `!=`)
    | (split at h <;> cases h <;> rfl)

theorem unop_ok_base {op : UnOp} {a v : Val} (h : unop op a = .ok v) : v.isBase = true := by
  unfold unop at h
  split at h <;> cases h <;> rfl

theorem binop_head (op : BinOp) (a b : Val) : binop op a b = binop op a.head b.head := by
  have hd {x : Val} (h : x.isBase = true) : x.head = x := Val.head_of_atom (Val.isAtom_of_isBase h)
  rcases binop_base_or_stuck op a b with ⟨ha, hb⟩ | h
  · rw [hd ha, hd hb]
  · rcases binop_base_or_stuck op a.head b.head with ⟨ha, hb⟩ | h'
    · rw [Val.isBase_head] at ha hb
      rw [hd ha, hd hb]
    · rw [h, h']

/-! ### relations the first-order part of the semantics respects -/

structure Respects (R : Val → Val → Prop) : Prop where
  head_eq : ∀ {a b : Val}, R a b → a.head = b.head
  atom : ∀ {a : Val}, a.isAtom = true → R a a
  array : ∀ {vs vs' : List Val}, R (.array vs) (.array vs') ↔ ListRel R vs vs'
  vec : ∀ {vs vs' : List Val}, R (.vec vs) (.vec vs') ↔ ListRel R vs vs'

/-- worlds equal in everything observable, stores and pending activations related cell by cell -/
structure WorldRel (R : Val → Val → Prop) (w w' : World) : Prop where
  out : w.out = w'.out
  store : ListRel R w.store.toList w'.store.toList
  spawned : ListRel R w.spawned w'.spawned
  externs : w.externs = w'.externs
  eager : w.eager = w'.eager

/-- both succeed with related values or both fail in the same way, in related worlds -/
inductive ResRel (R : Val → Val → Prop) : Res Val → Res Val → Prop
  | ok {v v' : Val} {w w' : World} : R v v' → WorldRel R w w' → ResRel R (.ok v w) (.ok v' w')
  | fail {f : Fail} {w w' : World} : WorldRel R w w' → ResRel R (.fail f w) (.fail f w')

section
variable {R : Val → Val → Prop}

theorem Respects.flip (hR : Respects R) : Respects (fun b a => R a b) where
  head_eq h := (hR.head_eq h).symm
  atom := hR.atom
  array := ⟨fun h => (hR.array.1 h).flip, fun h => hR.array.2 h.flip⟩
  vec := ⟨fun h => (hR.vec.1 h).flip, fun h => hR.vec.2 h.flip⟩

theorem Respects.eq_of_atom (hR : Respects R) {a b : Val} (h : R a b) (ha : a.isAtom = true) : b = a :=
  Val.eq_of_head_eq ha (hR.head_eq h)

theorem Respects.eq_of_atoms (hR : Respects R) {as bs : List Val} (h : ListRel R as bs) (ha : as.all Val.isAtom = true) :
    bs = as := by
  induction h with
  | nil => rfl
  | cons h _ ih =>
    rw [List.all_cons, Bool.and_eq_true] at ha
    rw [hR.eq_of_atom h ha.1, ih ha.2]

theorem Respects.array_left (hR : Respects R) {vs : List Val} {b : Val} (h : R (.array vs) b) :
    ∃ vs', b = .array vs' ∧ ListRel R vs vs' := by
  have e := hR.head_eq h
  cases b <;> first | exact ⟨_, rfl, hR.array.1 h⟩ | cases e

theorem Respects.vec_left (hR : Respects R) {vs : List Val} {b : Val} (h : R (.vec vs) b) :
    ∃ vs', b = .vec vs' ∧ ListRel R vs vs' := by
  have e := hR.head_eq h
  cases b <;> first | exact ⟨_, rfl, hR.vec.1 h⟩ | cases e

theorem Respects.valEq (hR : Respects R) {a a' b b' : Val} (ha : R a a') (hb : R b b') : valEq a b = valEq a' b' := by
  rw [valEq_head a, valEq_head a', hR.head_eq ha, hR.head_eq hb]

theorem Respects.binop (hR : Respects R) (op : BinOp) {a a' b b' : Val} (ha : R a a') (hb : R b b') :
    binop op a b = binop op a' b' := by
  rw [binop_head op a, binop_head op a', hR.head_eq ha, hR.head_eq hb]

theorem Respects.unop (hR : Respects R) (op : UnOp) {a a' : Val} (ha : R a a') : unop op a = unop op a' := by
  rw [unop_head op a, unop_head op a', hR.head_eq ha]

theorem Respects.armMatches (hR : Respects R) (lhs : Expr) {v v' : Val} (hv : R v v') :
    armMatches lhs v = armMatches lhs v' := by
  rw [armMatches_head lhs v, armMatches_head lhs v', hR.head_eq hv]

theorem Respects.logicalNonBool (hR : Respects R) (op : BinOp) {a a' : Val} (ha : R a a') :
    logicalNonBool op a = logicalNonBool op a' := by
  rw [logicalNonBool_head op a, logicalNonBool_head op a', hR.head_eq ha]

theorem Respects.scAnd (hR : Respects R) (op : BinOp) {a a' : Val} (ha : R a a') : scAnd op a = scAnd op a' := by
  rw [scAnd_head op a, scAnd_head op a', hR.head_eq ha]

theorem Respects.scOr (hR : Respects R) (op : BinOp) {a a' : Val} (ha : R a a') : scOr op a = scOr op a' := by
  rw [scOr_head op a, scOr_head op a', hR.head_eq ha]

namespace WorldRel
variable {w w' : World}

theorem flip (h : WorldRel R w w') : WorldRel (fun b a => R a b) w' w :=
  ⟨h.out.symm, h.store.flip, h.spawned.flip, h.externs.symm, h.eager.symm⟩

theorem size_eq (h : WorldRel R w w') : w.store.size = w'.store.size := by
  simpa using h.store.length_eq

theorem store_get (h : WorldRel R w w') (l : Nat) : OptRel R w.store[l]? w'.store[l]? := by
  simpa using h.store.get l

theorem with_externs (h : WorldRel R w w') (s : String) :
    WorldRel R { w with externs := w.externs ++ [s] } { w' with externs := w'.externs ++ [s] } :=
  ⟨h.out, h.store, h.spawned, by rw [h.externs], h.eager⟩

theorem with_out (h : WorldRel R w w') (s : String) :
    WorldRel R { w with out := w.out ++ s } { w' with out := w'.out ++ s } :=
  ⟨by rw [h.out], h.store, h.spawned, h.externs, h.eager⟩

theorem push (h : WorldRel R w w') {v v' : Val} (hv : R v v') :
    WorldRel R { w with store := w.store.push v } { w' with store := w'.store.push v' } :=
  ⟨h.out, by simpa using h.store.append (.cons hv .nil), h.spawned, h.externs, h.eager⟩

theorem set (h : WorldRel R w w') (l : Nat) {v v' : Val} (hv : R v v') :
    WorldRel R { w with store := w.store.set! l v } { w' with store := w'.store.set! l v' } :=
  ⟨h.out, by simpa using h.store.set l hv, h.spawned, h.externs, h.eager⟩

end WorldRel

/-- the head step of a unary operator: what an operator returns is a scalar, related to itself -/
theorem Respects.unopRes (hR : Respects R) (op : UnOp) {a a' : Val} (ha : R a a') {w w' : World} (hw : WorldRel R w w') :
    ResRel R (match (generalizing := false) Sem.unop op a with | .ok r => .ok r w | .error f => .fail f w)
      (match (generalizing := false) Sem.unop op a' with | .ok r => .ok r w' | .error f => .fail f w') := by
  rw [← hR.unop op ha]
  cases h : Sem.unop op a with
  | ok r => exact .ok (hR.atom (Val.isAtom_of_isBase (unop_ok_base h))) hw
  | error f => exact .fail hw

theorem Respects.binopRes (hR : Respects R) (op : BinOp) {a a' b b' : Val} (ha : R a a') (hb : R b b') {w w' : World}
    (hw : WorldRel R w w') :
    ResRel R (match (generalizing := false) Sem.binop op a b with | .ok r => .ok r w | .error f => .fail f w)
      (match (generalizing := false) Sem.binop op a' b' with | .ok r => .ok r w' | .error f => .fail f w') := by
  rw [← hR.binop op ha hb]
  cases h : Sem.binop op a b with
  | ok r => exact .ok (hR.atom (Val.isAtom_of_isBase (binop_ok_base h))) hw
  | error f => exact .fail hw

/-- reading element `i` of related lists, as `array_get` and `vec_get` do -/
theorem ListRel.index {vs vs' : List Val} (h : ListRel R vs vs') {w w' : World} (hw : WorldRel R w w') (i : Nat) :
    OptRel (ResRel R)
      (match vs[i]? with
        | some v => some (.ok v w)
        | none => some (.fail (.panic "index out of range") w))
      (match vs'[i]? with
        | some v => some (.ok v w')
        | none => some (.fail (.panic "index out of range") w')) := by
  have hi := h.get i
  generalize vs[i]? = o, vs'[i]? = o' at hi ⊢
  cases hi with
  | none => exact .some (.fail hw)
  | some hv => exact .some (.ok hv hw)

/-- reading component `i` of related lists, as field access and projection do -/
theorem ListRel.component {vs vs' : List Val} (h : ListRel R vs vs') (i : Nat) {w w' : World} (hw : WorldRel R w w')
    (msg : String) :
    ResRel R
      (match vs[i]? with
        | some v => .ok v w
        | none => .fail (.stuck msg) w)
      (match vs'[i]? with
        | some v => .ok v w'
        | none => .fail (.stuck msg) w') := by
  have hi := h.get i
  generalize vs[i]? = o, vs'[i]? = o' at hi ⊢
  cases hi with
  | none => exact .fail hw
  | some hv => exact .ok hv hw

/-- where the left call is a builtin, so is the right one, and the results are related -/
theorem Respects.builtin_of_isSome (hR : Respects R) {name : String} {args args' : List Val} {w w' : World}
    (ha : ListRel R args args') (hw : WorldRel R w w') (h : (builtin name args w).isSome = true) :
    OptRel (ResRel R) (builtin name args w) (builtin name args' w') := by
  unfold builtin at h
  -- one goal per row of `builtin`, in its order; scalar and reference arguments are the same on both sides
  split at h
  -- `unit_to_string`, `bool_to_string`, `bool_to_json`, `json_escape_string`, `string_len`: a scalar from a scalar
  iterate 5
    cases hR.eq_of_atoms ha rfl
    exact .some (.ok (hR.atom rfl) hw)
  · -- string_get
    next s _ _ i =>
    cases hR.eq_of_atoms ha rfl
    rw [builtin, builtin]
    split
    · exact .some (.fail hw)
    · cases utf8At s i.toNat with
      | some c => exact .some (.ok (hR.atom rfl) hw)
      | none => exact .some (.fail hw)
  · -- string_print
    cases hR.eq_of_atoms ha rfl
    exact .some (.ok (hR.atom rfl) (hw.with_out _))
  · -- string_println
    cases hR.eq_of_atoms ha rfl
    exact .some (.ok (hR.atom rfl) ((hw.with_out _).with_out _))
  · -- missing
    obtain ⟨_, rfl, _⟩ := ha.one
    exact .some (.fail hw)
  · -- ref
    obtain ⟨_, rfl, h₁⟩ := ha.one
    rw [builtin, builtin, hw.size_eq]
    exact .some (.ok (hR.atom rfl) (hw.push h₁))
  · -- ref_get
    next l =>
    cases hR.eq_of_atoms ha rfl
    rw [builtin, builtin]
    have hl := hw.store_get l
    generalize w.store[l]? = o, w'.store[l]? = o' at hl ⊢
    cases hl with
    | none => exact .some (.fail hw)
    | some hv => exact .some (.ok hv hw)
  · -- ref_set
    obtain ⟨_, _, rfl, h₁, h₂⟩ := ha.two
    cases hR.eq_of_atom h₁ rfl
    rw [builtin, builtin, hw.size_eq]
    split
    · exact .some (.ok (hR.atom rfl) (hw.set _ h₂))
    · exact .some (.fail hw)
  · -- array_get
    obtain ⟨_, _, rfl, h₁, h₂⟩ := ha.two
    obtain ⟨vs', rfl, hvs⟩ := hR.array_left h₁
    cases hR.eq_of_atom h₂ rfl
    rw [builtin, builtin]
    split
    · exact .some (.fail hw)
    · exact hvs.index hw _
  · -- array_set
    obtain ⟨_, _, _, rfl, h₁, h₂, h₃⟩ := ha.three
    obtain ⟨vs', rfl, hvs⟩ := hR.array_left h₁
    cases hR.eq_of_atom h₂ rfl
    rw [builtin, builtin, hvs.length_eq]
    split
    · exact .some (.fail hw)
    · exact .some (.ok (hR.array.2 (hvs.set _ h₃)) hw)
  · -- vec_new
    cases ha
    exact .some (.ok (hR.vec.2 .nil) hw)
  · -- vec_push
    obtain ⟨_, _, rfl, h₁, h₂⟩ := ha.two
    obtain ⟨vs', rfl, hvs⟩ := hR.vec_left h₁
    exact .some (.ok (hR.vec.2 (hvs.append (.cons h₂ .nil))) hw)
  · -- vec_get
    obtain ⟨_, _, rfl, h₁, h₂⟩ := ha.two
    obtain ⟨vs', rfl, hvs⟩ := hR.vec_left h₁
    cases hR.eq_of_atom h₂ rfl
    rw [builtin, builtin]
    split
    · exact .some (.fail hw)
    · exact hvs.index hw _
  · -- vec_len
    obtain ⟨_, rfl, h₁⟩ := ha.one
    obtain ⟨vs', rfl, hvs⟩ := hR.vec_left h₁
    rw [builtin, builtin, hvs.length_eq]
    exact .some (.ok (hR.atom rfl) hw)
  · -- `*_to_string` on an integer
    next hm hr =>
    cases hR.eq_of_atoms ha rfl
    rw [builtin_int hm hr, builtin_int hm hr]
    split
    · exact .some (.ok (hR.atom rfl) hw)
    · exact .none
  · -- `*_to_string` on a float
    next hm hr =>
    cases hR.eq_of_atoms ha rfl
    rw [builtin_float hm hr, builtin_float hm hr]
    split
    · exact .some (.ok (hR.atom rfl) hw)
    · exact .none
  · cases h

/-- builtins take related arguments and related worlds to related results, and related arguments are
    arguments of a builtin on both sides or on neither -/
theorem Respects.builtin (hR : Respects R) (name : String) {args args' : List Val} {w w' : World}
    (ha : ListRel R args args') (hw : WorldRel R w w') :
    OptRel (ResRel R) (builtin name args w) (builtin name args' w') := by
  cases h : Sem.builtin name args w with
  | some r => exact h ▸ hR.builtin_of_isSome ha hw (by rw [h]; rfl)
  | none =>
    cases h' : Sem.builtin name args' w' with
    | none => exact .none
    | some r' =>
      -- the same, read from right to left
      have := hR.flip.builtin_of_isSome (name := name) ha.flip hw.flip (by rw [h']; rfl)
      rw [h, h'] at this
      cases this

/-- a call of a name that is a function of neither program: a builtin on both sides or an extern event on both -/
theorem Respects.applyExtern (hR : Respects R) (name : String) {args args' : List Val} {w w' : World}
    (ha : ListRel R args args') (hw : WorldRel R w w') :
    ResRel R (applyExtern name args w) (applyExtern name args' w') := by
  have hb := hR.builtin name ha hw
  unfold Sem.applyExtern
  generalize Sem.builtin name args w = o, Sem.builtin name args' w' = o' at hb ⊢
  cases hb with
  | none => exact .ok (hR.atom rfl) (hw.with_externs name)
  | some hr => exact hr

end

end Goml.Sem
