import GomlVerif.Lemmas.LiftSimRel
import GomlVerif.Lemmas.ArmHead
/-! C08: updates of the world, builtins, operators and arm selection respect the simulation relation -/
namespace Goml.Lift
open Goml Goml.Sem

section
variable {P P' : Prog}

theorem WRel.with_spawned {w w' : World} (h : WRel P P' w w') {v v' : Val} (hv : VRel P P' v v') :
    WRel P P' { w with spawned := w.spawned ++ [v] } { w' with spawned := w'.spawned ++ [v'] } :=
  ⟨h.out, h.store, h.spawned.append (.singleton hv), h.externs, h.eager⟩

theorem WRel.set {w w' : World} (h : WRel P P' w w') {v v' : Val} (hv : VRel P P' v v') (l : Nat) :
    WRel P P' { w with store := w.store.set! l v } { w' with store := w'.store.set! l v' } :=
  wrel_iff.2 ((wrel_iff.1 h).set l hv)

def BRel (P P' : Prog) (r r' : Option (Res Val)) : Prop :=
  match r, r' with
  | none, none => True
  | some r, some r' => ResRel P P' .any r r'
  | _, _ => False

/-- results related in the terms of `Lemmas/ValRel.lean` are related; nothing is promised about the shape -/
theorem ResRel.of_resRel {r r' : Res Val} (h : Sem.ResRel (VRel P P') r r') : ResRel P P' .any r r' := by
  cases h with
  | ok hv hw => exact ⟨hv, HasShape.any _, wrel_iff.2 hw⟩
  | fail hw => exact ⟨rfl, wrel_iff.2 hw⟩

theorem builtin_rel (name : String) {args args' : List Val} {w w' : World}
    (h : VRelList P P' args args') (hw : WRel P P' w w') :
    BRel P P' (builtin name args w) (builtin name args' w') := by
  have hb := respects.builtin name (vrelList_iff.1 h) (wrel_iff.1 hw)
  generalize builtin name args w = o, builtin name args' w' = o' at hb ⊢
  cases hb with
  | none => exact True.intro
  | some hr => exact .of_resRel hr

def ExRel (P P' : Prog) : Except Fail Val → Except Fail Val → Prop
  | .ok v, .ok v' => VRel P P' v v'
  | .error f, .error f' => f = f'
  | _, _ => False

/-- equal results of an operator are related, since what an operator returns is a scalar -/
theorem ExRel.of_eq {r r' : Except Fail Val} (h : r = r') (hb : ∀ {v}, r = .ok v → v.isBase = true) :
    ExRel P P' r r' := by
  subst h
  cases r with
  | ok v => exact respects.atom (Val.isAtom_of_isBase (hb rfl))
  | error f => exact rfl

/-- the lifted run's comparison on the left: `VRel P P'` takes (original, lifted) -/
theorem valEq_rel {a a' b b' : Val} (h1 : VRel P P' a a') (h2 : VRel P P' b b') : valEq a' b' = valEq a b :=
  (respects.valEq h1 h2).symm

theorem binop_rel (op : BinOp) {a a' b b' : Val} (h1 : VRel P P' a a') (h2 : VRel P P' b b') :
    ExRel P P' (binop op a b) (binop op a' b') :=
  .of_eq (respects.binop op h1 h2) binop_ok_base

theorem unop_rel (op : UnOp) {a a' : Val} (h1 : VRel P P' a a') : ExRel P P' (unop op a) (unop op a') :=
  .of_eq (respects.unop op h1) unop_ok_base

theorem VRel_primVal (p : Prim) : VRel P P' (primVal p) (primVal p) :=
  respects.atom (by cases p <;> rfl)

theorem armMatches_rel {lhs lhs' : Expr} {v v' : Val} (hh : headEq (armHead lhs) (armHead lhs') = true)
    (hv : VRel P P' v v') : armMatches lhs' v' = armMatches lhs v := by
  rw [armMatches_congr hh, respects.armMatches lhs hv]

end
end Goml.Lift
