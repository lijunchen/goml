import GomlVerif.Model.GoEq
/-!
Soundness of the structural equality test of `Model/GoEq.lean`: `eqStmts a b = true → a = b`.

Every clause of the test has the shape `match b with | C x' .. => conjunction | _ => false`, so the induction
principle of the test itself has two rows per clause: the like pair, where the conjunction gives the parts
equal, and everything else, where the test is `false`.
-/
namespace Goml.Dce
open Goml.Go

theorem eqTy_sound_all :
    (∀ a b, eqTy a b = true → a = b) ∧ (∀ a b, eqTys a b = true → a = b) ∧
    (∀ a b, eqTyFields a b = true → a = b) := by
  apply eqTy.mutual_induct_unfolding (motive_1 := fun a b r => r = true → a = b)
    (motive_2 := fun a b r => r = true → a = b) (motive_3 := fun a b r => r = true → a = b)
  all_goals intros
  all_goals try contradiction
  all_goals simp_all only [Bool.and_eq_true, beq_iff_eq, forall_const]

theorem eqTy_sound : ∀ a b : GTy, eqTy a b = true → a = b := eqTy_sound_all.1
theorem eqTys_sound : ∀ a b : List GTy, eqTys a b = true → a = b := eqTy_sound_all.2.1
theorem eqTyFields_sound : ∀ a b : List (String × GTy), eqTyFields a b = true → a = b := eqTy_sound_all.2.2

theorem eqOptStr_sound : ∀ a b, eqOptStr a b = true → a = b
  | none, none, _ => rfl
  | some a, some b, h => by rw [beq_iff_eq.mp h]
  | none, some _, h => by cases h
  | some _, none, h => by cases h

/-- The conjuncts follow the order of the motives of `eqExpr.mutual_induct_unfolding`, which is not the order of the definitions. -/
theorem eqExpr_sound_all :
    (∀ a b, eqExpr a b = true → a = b) ∧ (∀ a b, eqStmts a b = true → a = b) ∧
    (∀ a b, eqStmt a b = true → a = b) ∧ (∀ a b, eqTCases a b = true → a = b) ∧
    (∀ a b, eqCases a b = true → a = b) ∧ (∀ a b, eqFields a b = true → a = b) ∧
    (∀ a b, eqExprs a b = true → a = b) := by
  apply eqExpr.mutual_induct_unfolding (motive1 := fun a b r => r = true → a = b)
    (motive2 := fun a b r => r = true → a = b) (motive3 := fun a b r => r = true → a = b)
    (motive4 := fun a b r => r = true → a = b) (motive5 := fun a b r => r = true → a = b)
    (motive6 := fun a b r => r = true → a = b) (motive7 := fun a b r => r = true → a = b)
  all_goals intros
  all_goals try contradiction
  all_goals try simp only [Bool.and_eq_true, beq_iff_eq, decide_eq_true_eq] at *
  all_goals grind only [→ eqTy_sound, → eqOptStr_sound]

theorem eqExpr_sound : ∀ a b : GExpr, eqExpr a b = true → a = b := eqExpr_sound_all.1
theorem eqExprs_sound : ∀ a b : List GExpr, eqExprs a b = true → a = b := eqExpr_sound_all.2.2.2.2.2.2
theorem eqFields_sound : ∀ a b : List GField, eqFields a b = true → a = b := eqExpr_sound_all.2.2.2.2.2.1
theorem eqStmts_sound : ∀ a b : List GStmt, eqStmts a b = true → a = b := eqExpr_sound_all.2.1
theorem eqStmt_sound : ∀ a b : GStmt, eqStmt a b = true → a = b := eqExpr_sound_all.2.2.1
theorem eqCases_sound : ∀ a b : List GCase, eqCases a b = true → a = b := eqExpr_sound_all.2.2.2.2.1
theorem eqTCases_sound : ∀ a b : List GTCase, eqTCases a b = true → a = b := eqExpr_sound_all.2.2.2.1

end Goml.Dce
