import GomlVerif.Model.Lift
/-!
The lambda-lifting pass as a relation `Lifted`: every invariant of the pass is an induction over it, and only
`lifted` unfolds `transformExpr`.
-/
namespace Goml.Lift
open Goml

def pushCtx (st : State) : Option String → State
  | some h => { st with ctx := h :: st.ctx }
  | none => st

@[simp] theorem pushCtx_newFns (st : State) (hint : Option String) : (pushCtx st hint).newFns = st.newFns := by
  cases hint <;> rfl
@[simp] theorem pushCtx_closureTypes (st : State) (hint : Option String) :
    (pushCtx st hint).closureTypes = st.closureTypes := by
  cases hint <;> rfl

/-- the part of the `ECall` arm of `transform_expr` after callee and arguments are transformed -/
def callTail (st : State) (sc : Scope) (ty : Ty) (f' : Expr) (fty : Ty) (args' : List Expr) : Expr × Ty × State :=
  let direct : Expr × Ty × State :=
    let cty := match fty with
      | .func _ r => if tyContainsClosure st.closureTypes r then r else ty
      | _ => ty
    (.call cty f' args', cty, st)
  match f' with
  | .var name _ =>
    match sc.get name with
    | some entry =>
      match (match entry.closureStruct with
             | some sn => some sn
             | none => st.closureStructForTy entry.ty) with
      | some sn =>
        match st.applyFnForStruct sn with
        | some applyFn =>
          (.call ty (.var applyFn entry.ty) (.var name (.struct sn) :: args'), ty, st)
        | none => direct
      | none => direct
    | none => direct
  | _ => direct

/-- the two forms a result `r` of `callTail` has: the direct call, annotated with `ty` or with the result type of the
    callee's (function) type `fty`; or, for a callee variable in scope whose closure struct has an apply function, the
    call of that function with the variable, retyped to the struct, as additional first argument.  The state is `st`
    in both. -/
inductive CallTailCase (st : State) (sc : Scope) (ty : Ty) (f' : Expr) (fty : Ty) (args' : List Expr)
    (r : Expr × Ty × State) : Prop
  | direct (cty : Ty) (hcty : cty = ty ∨ ∃ ps, fty = .func ps cty) (eq : r = (.call cty f' args', cty, st))
  | apply (name : String) (vty : Ty) (entry : ScopeEntry) (sn applyFn : String) (hf : f' = .var name vty)
      (hget : sc.get name = some entry) (happ : st.applyFnForStruct sn = some applyFn)
      (eq : r = (.call ty (.var applyFn entry.ty) (.var name (.struct sn) :: args'), ty, st))

theorem callTail_cases (st : State) (sc : Scope) (ty : Ty) (f' : Expr) (fty : Ty) (args' : List Expr) :
    CallTailCase st sc ty f' fty args' (callTail st sc ty f' fty args') := by
  -- `direct` is a `let` of `callTail`: `unfold … dsimp only` inlines it in four places, and `hd` is what all four need
  have hd : CallTailCase st sc ty f' fty args'
      ((Expr.call (match fty with
          | .func _ r => if tyContainsClosure st.closureTypes r then r else ty
          | _ => ty) f' args',
        (match fty with
          | .func _ r => if tyContainsClosure st.closureTypes r then r else ty
          | _ => ty), st) : Expr × Ty × State) := by
    split
    · split
      · exact .direct _ (Or.inr ⟨_, rfl⟩) rfl
      · exact .direct _ (Or.inl rfl) rfl
    · exact .direct _ (Or.inl rfl) rfl
  unfold callTail
  dsimp only
  split
  · split
    · split
      · split
        · exact .apply _ _ _ _ _ rfl ‹_› ‹_› rfl
        · exact hd
      · exact hd
    · exact hd
  · exact hd

theorem callTail_state (st : State) (sc : Scope) (ty : Ty) (f' : Expr) (fty : Ty) (args' : List Expr) :
    (callTail st sc ty f' fty args').2.2 = st := by
  cases callTail_cases st sc ty f' fty args' with
  | direct _ _ he | apply _ _ _ _ _ _ _ _ he => rw [he]

def fnScope (st : State) (f : Fn) : Scope :=
  f.params.foldl (fun s q => s.insert q.1 { ty := q.2, closureStruct := st.closureStructForTy q.2 }) Scope.new.pushLayer
def fnBody (st : State) (f : Fn) : Expr × Ty × State :=
  transformExpr (pushCtx st (sanitizeEnvName f.name)) (fnScope st f) f.body
def fnRet (st : State) (f : Fn) : Ty :=
  if !tyBeq (fnBody st f).2.1 f.ret && tyContainsClosure (fnBody st f).2.2.closureTypes (fnBody st f).2.1
  then (fnBody st f).2.1 else f.ret

/- The hint is generalised before `rfl` (here and in `lifted`): left in place, the unifier evaluates
   `sanitizeEnvName` on the name to decide the `match` on the hint. -/
theorem liftFn_eq (st : State) (f : Fn) :
    liftFn st f =
      ({ name := f.name, generics := f.generics, params := f.params, ret := fnRet st f, body := (fnBody st f).1 },
       State.insertFunc { (fnBody st f).2.2 with ctx := st.ctx } f.name (.func (f.params.map (·.2)) (fnRet st f))) := by
  unfold liftFn fnRet fnBody
  generalize sanitizeEnvName f.name = c
  rfl

@[simp] theorem updateStruct_newFns (st : State) (n : String) (cfs : List (Option String)) :
    (st.updateStruct n cfs).newFns = st.newFns := by
  unfold State.updateStruct; split <;> rfl
@[simp] theorem updateStruct_closureTypes (st : State) (n : String) (cfs : List (Option String)) :
    (st.updateStruct n cfs).closureTypes = st.closureTypes := by
  unfold State.updateStruct; split <;> rfl

def varTy (st : State) (sc : Scope) (x : String) (ty : Ty) : Ty :=
  match sc.get x with
  | some entry =>
    match entry.closureStruct with
    | some sn => .struct sn
    | none => entry.ty
  | none =>
    match st.getFunc x with
    | some fty => fty
    | none => ty

/-- a struct constructor records which fields receive closure environments -/
def constrSt (c : Ctor) (st : State) (tys : List Ty) : State :=
  match c with
  | .struct tyName => st.updateStruct tyName (tys.map st.closureStructForTy)
  | .enum _ _ _ => st

theorem constrSt_newFns (c : Ctor) (st : State) (tys : List Ty) : (constrSt c st tys).newFns = st.newFns := by
  cases c <;> simp [constrSt]
theorem constrSt_closureTypes (c : Ctor) (st : State) (tys : List Ty) :
    (constrSt c st tys).closureTypes = st.closureTypes := by
  cases c <;> simp [constrSt]

def cgetTy (st : State) (c : Ctor) (idx : Nat) (ty : Ty) : Ty :=
  match c with
  | .struct tyName => (st.structFieldTy tyName idx).getD ty
  | .enum tyName variant _ => (st.enumFieldTy tyName variant idx).getD ty

def projTy (ety : Ty) (idx : Nat) (ty : Ty) : Ty :=
  match ety with
  | .tuple ts => (ts[idx]?).getD ty
  | _ => ty

def letScope (sc : Scope) (x : String) (r : Expr × Ty × State) : Scope :=
  sc.pushLayer.insert x { ty := r.2.1, closureStruct := r.2.2.closureStructForTy r.2.1 }

theorem finishClosure_fst (st : State) (sc : Scope) (params : List (String × Ty)) (ty : Ty)
    (hint : Option String) (body : Expr) :
    (finishClosure st sc params ty hint body).1 =
      .constr (.struct (structNameFor hint st.nextId)) (.struct (structNameFor hint st.nextId))
        ((collectCaptured sc ((loweredParams params (funcParts ty).1).map (·.1)) [] body).map
          (fun p => .var p.1 p.2)) := rfl

theorem finishClosure_newFns (st : State) (sc : Scope) (params : List (String × Ty)) (ty : Ty)
    (hint : Option String) (body : Expr) :
    (finishClosure st sc params ty hint body).2.2.newFns = st.newFns ++
      [{ name := applyFnName (structNameFor hint st.nextId), generics := [],
         params := (Consts.envParamPrefix ++ toString st.gensym, .struct (structNameFor hint st.nextId)) ::
           loweredParams params (funcParts ty).1,
         ret := (funcParts ty).2,
         body := rebind (structNameFor hint st.nextId) (Consts.envParamPrefix ++ toString st.gensym)
           (.struct (structNameFor hint st.nextId)) body 0
           (collectCaptured sc ((loweredParams params (funcParts ty).1).map (·.1)) [] body) }] := rfl

theorem finishClosure_closureTypes (st : State) (sc : Scope) (params : List (String × Ty)) (ty : Ty)
    (hint : Option String) (body : Expr) :
    (finishClosure st sc params ty hint body).2.2.closureTypes =
      assocInsert st.closureTypes (structNameFor hint st.nextId) (applyFnName (structNameFor hint st.nextId)) := rfl

theorem finishClosure_ty (st : State) (sc : Scope) (params : List (String × Ty)) (ty : Ty)
    (hint : Option String) (body : Expr) :
    (finishClosure st sc params ty hint body).2.1 = .struct (structNameFor hint st.nextId) := rfl

theorem finishClosure_liftedFuncs (st : State) (sc : Scope) (params : List (String × Ty)) (ty : Ty)
    (hint : Option String) (body : Expr) :
    (finishClosure st sc params ty hint body).2.2.liftedFuncs =
      assocInsert st.liftedFuncs (applyFnName (structNameFor hint st.nextId))
        (.func (((Consts.envParamPrefix ++ toString st.gensym, Ty.struct (structNameFor hint st.nextId)) ::
          loweredParams params (funcParts ty).1).map (·.2)) (funcParts ty).2) := rfl

theorem finishClosure_liftedStructs (st : State) (sc : Scope) (params : List (String × Ty)) (ty : Ty)
    (hint : Option String) (body : Expr) :
    (finishClosure st sc params ty hint body).2.2.liftedStructs =
      (if st.liftedStructs.any (·.name == structNameFor hint st.nextId) then
         st.liftedStructs.map (fun d => if d.name == structNameFor hint st.nextId then
           ⟨structNameFor hint st.nextId, [], fieldsOf 0 (collectCaptured sc ((loweredParams params (funcParts ty).1).map (·.1)) [] body)⟩ else d)
       else st.liftedStructs ++ [⟨structNameFor hint st.nextId, [],
         fieldsOf 0 (collectCaptured sc ((loweredParams params (funcParts ty).1).map (·.1)) [] body)⟩]) := rfl

theorem finishClosure_monoFuncs (st : State) (sc : Scope) (params : List (String × Ty)) (ty : Ty)
    (hint : Option String) (body : Expr) :
    (finishClosure st sc params ty hint body).2.2.monoFuncs = st.monoFuncs := rfl

theorem finishClosure_structs (st : State) (sc : Scope) (params : List (String × Ty)) (ty : Ty)
    (hint : Option String) (body : Expr) :
    (finishClosure st sc params ty hint body).2.2.structs = st.structs := rfl

theorem finishClosure_enums (st : State) (sc : Scope) (params : List (String × Ty)) (ty : Ty)
    (hint : Option String) (body : Expr) :
    (finishClosure st sc params ty hint body).2.2.enums = st.enums := rfl

/-- Inside `namespace Src` the constructor names `e`, `l`, `a` shadow pattern variables, so the predicates by sort
    are top-level `arityS`, `simpleS`, … and not `Src.arity`. -/
inductive Src where
  | e (e : Expr)
  | l (es : List Expr)
  | a (arms : List Arm)

inductive Out where
  | e (r : Expr × Ty × State)
  | l (r : List Expr × List Ty × State)
  | a (r : List Arm × State)

def Out.st : Out → State
  | .e r => r.2.2
  | .l r => r.2.2
  | .a r => r.2

/-- `Lifted st sc s o`: the pass, started in state `st` and scope `sc` on `s`, returns `o`; the premises of a
    constructor are the recursive calls in the order `transform_expr` makes them.  Wider than the function at one
    place: `closure` takes ANY name hint.  The hint only chooses the spelling of the environment struct and of its
    apply function (`structNameFor`) and what is pushed on the context stack for hints further in, and no invariant
    speaks of how a generated name is spelt.  So `let x = closure`, which the Rust treats apart only to pass `x`
    as the hint, is `letE` over `closure` here, and no induction has a case for it. -/
inductive Lifted : State → Scope → Src → Out → Prop
  | var {st sc x ty} : Lifted st sc (.e (.var x ty)) (.e (.var x (varTy st sc x ty), varTy st sc x ty, st))
  | prim {st sc p} : Lifted st sc (.e (.prim p)) (.e (.prim p, primTy p, st))
  | tag {st sc i ty} : Lifted st sc (.e (.tag i ty)) (.e (.tag i ty, ty, st))
  | constr {st sc c ty args r} : Lifted st sc (.l args) (.l r) →
      Lifted st sc (.e (.constr c ty args)) (.e (.constr c ty r.1, ty, constrSt c r.2.2 r.2.1))
  | tuple {st sc ty items r} : Lifted st sc (.l items) (.l r) →
      Lifted st sc (.e (.tuple ty items)) (.e (.tuple (.tuple r.2.1) r.1, .tuple r.2.1, r.2.2))
  | array {st sc ty items r} : Lifted st sc (.l items) (.l r) →
      Lifted st sc (.e (.array ty items)) (.e (.array ty r.1, ty, r.2.2))
  | closure {st sc ty ps body r} (hint : Option String) :
      Lifted (pushCtx st hint) (closureScope st sc ps ty) (.e body) (.e r) →
      Lifted st sc (.e (.closure ty ps body)) (.e (finishClosure { r.2.2 with ctx := st.ctx } sc ps ty hint r.1))
  | letE {st sc x v b rv rb} : Lifted st sc (.e v) (.e rv) → Lifted rv.2.2 (letScope sc x rv) (.e b) (.e rb) →
      Lifted st sc (.e (.letE x v b)) (.e (.letE x rv.1 rb.1, rb.2.1, rb.2.2))
  | matchN {st sc ty s arms rs ra} : Lifted st sc (.e s) (.e rs) → Lifted rs.2.2 sc (.a arms) (.a ra) →
      Lifted st sc (.e (.matchE ty s arms none)) (.e (.matchE ty rs.1 ra.1 none, ty, ra.2))
  | matchD {st sc ty s arms d rs ra rd} : Lifted st sc (.e s) (.e rs) → Lifted rs.2.2 sc (.a arms) (.a ra) →
      Lifted ra.2 sc (.e d) (.e rd) →
      Lifted st sc (.e (.matchE ty s arms (some d))) (.e (.matchE ty rs.1 ra.1 (some rd.1), ty, rd.2.2))
  | ite {st sc c t e r1 r2 r3} : Lifted st sc (.e c) (.e r1) → Lifted r1.2.2 sc (.e t) (.e r2) →
      Lifted r2.2.2 sc (.e e) (.e r3) → Lifted st sc (.e (.ite c t e)) (.e (.ite r1.1 r2.1 r3.1, monoTy t, r3.2.2))
  | while {st sc c b r1 r2} : Lifted st sc (.e c) (.e r1) → Lifted r1.2.2 sc (.e b) (.e r2) →
      Lifted st sc (.e (.while c b)) (.e (.while r1.1 r2.1, .unit, r2.2.2))
  | go {st sc e r} : Lifted st sc (.e e) (.e r) → Lifted st sc (.e (.go e)) (.e (.go r.1, .unit, r.2.2))
  | cget {st sc c idx ty e r} : Lifted st sc (.e e) (.e r) →
      Lifted st sc (.e (.cget c idx ty e)) (.e (.cget c idx (cgetTy r.2.2 c idx ty) r.1, cgetTy r.2.2 c idx ty, r.2.2))
  | un {st sc op ty e r} : Lifted st sc (.e e) (.e r) → Lifted st sc (.e (.un op ty e)) (.e (.un op ty r.1, ty, r.2.2))
  | bin {st sc op ty l r r1 r2} : Lifted st sc (.e l) (.e r1) → Lifted r1.2.2 sc (.e r) (.e r2) →
      Lifted st sc (.e (.bin op ty l r)) (.e (.bin op ty r1.1 r2.1, ty, r2.2.2))
  | call {st sc ty f args rf ra} : Lifted st sc (.e f) (.e rf) → Lifted rf.2.2 sc (.l args) (.l ra) →
      Lifted st sc (.e (.call ty f args)) (.e (callTail ra.2.2 sc ty rf.1 rf.2.1 ra.1))
  | toDyn {st sc tr forTy ty e r} : Lifted st sc (.e e) (.e r) →
      Lifted st sc (.e (.toDyn tr forTy ty e)) (.e (.toDyn tr forTy ty r.1, ty, r.2.2))
  | dynCall {st sc tr m ty recv args rf ra} : Lifted st sc (.e recv) (.e rf) → Lifted rf.2.2 sc (.l args) (.l ra) →
      Lifted st sc (.e (.dynCall tr m ty recv args)) (.e (.dynCall tr m ty rf.1 ra.1, ty, ra.2.2))
  | traitCall {st sc tr m ty recv args rf ra} : Lifted st sc (.e recv) (.e rf) → Lifted rf.2.2 sc (.l args) (.l ra) →
      Lifted st sc (.e (.traitCall tr m ty recv args)) (.e (.traitCall tr m ty rf.1 ra.1, ty, ra.2.2))
  | proj {st sc idx ty e r} : Lifted st sc (.e e) (.e r) →
      Lifted st sc (.e (.proj idx ty e)) (.e (.proj idx (projTy r.2.1 idx ty) r.1, projTy r.2.1 idx ty, r.2.2))
  | nil {st sc} : Lifted st sc (.l []) (.l ([], [], st))
  | cons {st sc e es r rs} : Lifted st sc (.e e) (.e r) → Lifted r.2.2 sc (.l es) (.l rs) →
      Lifted st sc (.l (e :: es)) (.l (r.1 :: rs.1, r.2.1 :: rs.2.1, rs.2.2))
  | anil {st sc} : Lifted st sc (.a []) (.a ([], st))
  | acons {st sc lhs body rest r1 r2 r3} : Lifted st sc (.e lhs) (.e r1) → Lifted r1.2.2 sc (.e body) (.e r2) →
      Lifted r2.2.2 sc (.a rest) (.a r3) →
      Lifted st sc (.a (.mk lhs body :: rest)) (.a (.mk r1.1 r2.1 :: r3.1, r3.2))

theorem transformExpr_var (st : State) (sc : Scope) (x : String) (ty : Ty) :
    transformExpr st sc (.var x ty) = (.var x (varTy st sc x ty), varTy st sc x ty, st) := by
  rw [transformExpr]; unfold varTy
  cases sc.get x with
  | some entry => dsimp only; cases entry.closureStruct <;> rfl
  | none => dsimp only; cases st.getFunc x <;> rfl

/- the side condition is the equation compiler's: the row `let x = closure` of `transformExpr` comes first -/
theorem transformExpr_let (st : State) (sc : Scope) (x : String) (v b : Expr)
    (h : ∀ t p c, v = Expr.closure t p c → False) :
    transformExpr st sc (.letE x v b) =
      (.letE x (transformExpr st sc v).1 (transformExpr (transformExpr st sc v).2.2 (letScope sc x (transformExpr st sc v)) b).1,
        (transformExpr (transformExpr st sc v).2.2 (letScope sc x (transformExpr st sc v)) b).2) := by
  rw [transformExpr]
  · rfl
  · exact h

mutual
theorem lifted : ∀ (e : Expr) (st : State) (sc : Scope), Lifted st sc (.e e) (.e (transformExpr st sc e))
  | .var x ty, st, sc => by rw [transformExpr_var]; exact .var
  | .prim _, st, sc => by rw [transformExpr]; exact .prim
  | .tag _ _, st, sc => by rw [transformExpr]; exact .tag
  | .constr c ty args, st, sc => by rw [transformExpr]; exact .constr (liftedList args st sc)
  | .tuple _ items, st, sc => by rw [transformExpr]; exact .tuple (liftedList items st sc)
  | .array _ items, st, sc => by rw [transformExpr]; exact .array (liftedList items st sc)
  | .closure ty ps body, st, sc => by
    rw [transformExpr]
    generalize closureHint st none = hint
    exact .closure hint (lifted body (pushCtx st hint) (closureScope st sc ps ty))
  | .letE x v b, st, sc => by
    cases v with
    | closure cty ps cbody =>
      rw [transformExpr]
      generalize closureHint st (some x) = hint
      exact .letE (.closure hint (lifted cbody (pushCtx st hint) (closureScope st sc ps cty))) (lifted b _ _)
    | _ =>
      rw [transformExpr_let _ _ _ _ _ (by intro _ _ _ hh; cases hh)]
      exact .letE (lifted _ st sc) (lifted b _ _)
  | .matchE ty s arms none, st, sc => by rw [transformExpr]; exact .matchN (lifted s st sc) (liftedArms arms _ sc)
  | .matchE ty s arms (some d), st, sc => by
    rw [transformExpr]; exact .matchD (lifted s st sc) (liftedArms arms _ sc) (lifted d _ sc)
  | .ite c t e, st, sc => by rw [transformExpr]; exact .ite (lifted c st sc) (lifted t _ sc) (lifted e _ sc)
  | .while c b, st, sc => by rw [transformExpr]; exact .while (lifted c st sc) (lifted b _ sc)
  | .go e, st, sc => by rw [transformExpr]; exact .go (lifted e st sc)
  | .cget c i ty e, st, sc => by rw [transformExpr]; exact .cget (lifted e st sc)
  | .un _ _ e, st, sc => by rw [transformExpr]; exact .un (lifted e st sc)
  | .bin _ _ l r, st, sc => by rw [transformExpr]; exact .bin (lifted l st sc) (lifted r _ sc)
  | .call ty f args, st, sc => by rw [transformExpr]; exact .call (lifted f st sc) (liftedList args _ sc)
  | .toDyn _ _ _ e, st, sc => by rw [transformExpr]; exact .toDyn (lifted e st sc)
  | .dynCall _ _ _ recv args, st, sc => by rw [transformExpr]; exact .dynCall (lifted recv st sc) (liftedList args _ sc)
  | .traitCall _ _ _ recv args, st, sc => by
    rw [transformExpr]; exact .traitCall (lifted recv st sc) (liftedList args _ sc)
  | .proj _ _ e, st, sc => by rw [transformExpr]; exact .proj (lifted e st sc)
  termination_by structural e => e
theorem liftedList : ∀ (es : List Expr) (st : State) (sc : Scope), Lifted st sc (.l es) (.l (transformList st sc es))
  | [], st, sc => by rw [transformList]; exact .nil
  | e :: es, st, sc => by rw [transformList]; exact .cons (lifted e st sc) (liftedList es _ sc)
  termination_by structural es => es
theorem liftedArms : ∀ (arms : List Arm) (st : State) (sc : Scope), Lifted st sc (.a arms) (.a (transformArms st sc arms))
  | [], st, sc => by rw [transformArms]; exact .anil
  | .mk lhs body :: rest, st, sc => by
    rw [transformArms]; exact .acons (lifted lhs st sc) (lifted body _ sc) (liftedArms rest _ sc)
  termination_by structural arms => arms
end

section
variable {I N : State → Prop} {H C : Fn → Prop}
  (back : ∀ st f, N (liftFn st f).2 → N st)
  (step : ∀ st f, I st → H f → N (liftFn st f).2 → C (liftFn st f).1 ∧ I (liftFn st f).2)

include back in
theorem liftFns_back : ∀ (fs : List Fn) (st : State), N (liftFns st fs).2 → N st
  | [], _, h => h
  | f :: fs, st, h => back st f (liftFns_back fs _ (by rw [liftFns] at h; exact h))

include back step in
/-- `N` is a condition on the state a step ENDS in that is inherited backwards along the run (what the final state
    promises about every earlier one); `fun _ => True` when there is none. -/
theorem liftFns_inv : ∀ (fs : List Fn) (st : State), I st → (∀ f ∈ fs, H f) → N (liftFns st fs).2 →
    (∀ g ∈ (liftFns st fs).1, C g) ∧ I (liftFns st fs).2
  | [], st, h, _, _ => by rw [liftFns]; exact ⟨fun g hg => (by cases hg), h⟩
  | f :: fs, st, h, hf, hn => by
    rw [liftFns] at hn ⊢
    have h1 := step st f h (hf f (List.mem_cons_self ..)) (liftFns_back back fs _ hn)
    have h2 := liftFns_inv fs _ h1.2 (fun g hg => hf g (List.mem_cons_of_mem _ hg)) hn
    exact ⟨fun g hg => (List.mem_cons.mp hg).elim (fun e => e ▸ h1.1) (h2.1 g), h2.2⟩

theorem liftFile_newFns_mem (env : Env) (fns : List Fn) : ∀ a ∈ (liftFile env fns).2.newFns, a ∈ (liftFile env fns).1 :=
  fun _ ha => List.mem_append_right (liftFns (initState env) fns).1 ha

include back step in
theorem liftFile_inv (env : Env) (fns : List Fn) (hinit : I (initState env)) (hf : ∀ f ∈ fns, H f)
    (hn : N (liftFile env fns).2) (hnew : ∀ st, I st → ∀ a ∈ st.newFns, C a) :
    (∀ g ∈ (liftFile env fns).1, C g) ∧ I (liftFile env fns).2 := by
  have res := liftFns_inv back step fns (initState env) hinit hf hn
  refine ⟨fun g hg => ?_, res.2⟩
  rcases List.mem_append.mp (show g ∈ (liftFns (initState env) fns).1 ++ (liftFns (initState env) fns).2.newFns from hg)
    with hg | hg
  · exact res.1 g hg
  · exact hnew _ res.2 g hg
end

end Goml.Lift
