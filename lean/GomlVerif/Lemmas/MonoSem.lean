import GomlVerif.Lemmas.MonoTerm
import GomlVerif.Lemmas.LiftSemUnfold
/-!
Behaviour preservation of specialisation (phase 1 of `mono`) under `Sem`, for the first-order
fragment with direct calls: no closures, no `go`, no trait/dyn calls, no calls through a local
variable, no generic function used as a value.  In that fragment the two programs compute *equal*
values, so the statement is an equality of `Sem.eval` results (value, world, failure and fuel).
Last, outside the fragment: what `Sem` and `monoE` do at a trait call.
-/
namespace Goml.Mono
open Goml Goml.Sem

theorem specName_nil (n : String) : specName n [] = n := by
  simp [specName, Mangle.specNameFor]

theorem substParams_names (σ : Subst) (ps : List (String × Ty)) : (substParams σ ps).map (·.1) = ps.map (·.1) := by
  induction ps with
  | nil => rfl
  | cons p ps ih => obtain ⟨x, t⟩ := p; simp [substParams, ih]

section
/-! `isLocal`: the names bound by `let` and parameters, as against function names (`Sem` looks in the environment first);
`U`: the instances present in `P'`; `Ext`: builtins and externs, functions of neither program. -/
variable (F : List Fn) (isLocal : String → Bool) (U : String → Subst → Prop) (Ext : String → Prop)

/-- a direct call `x(args')` the specialiser handles: a builtin/extern, a monomorphic function, or a
generic function whose instance is derived from the argument types and lies in `U` (up to its key) -/
def CallOk (x : String) (nty : Ty) (args' : List Expr) : Prop :=
  (Ext x ∧ findCallee F x = none) ∨
  (∃ callee, findFn F x = some callee ∧ fnIsGeneric callee = false) ∨
  (∃ callee s1 cs σ', findFn F x = some callee ∧ fnIsGeneric callee = true ∧
    unifyList (callee.params.map (·.2)) (getTys args') [] = some s1 ∧ unify callee.ret nty s1 = some cs ∧
    (cs.any fun p => hasTParam p.2) = false ∧ U callee.name σ' ∧ key σ' = key cs)

mutual
/-- the fragment (relative to the substitution `σ` of the enclosing instance) -/
def FragE (σ : Subst) : Expr → Prop
  | .var x ty => specializeValueP F x (substTy σ ty) = none
  | .prim _ => True
  | .tag _ _ => False   -- ANF only (its value depends on the annotation)
  | .constr k ty args => FragL σ args ∧ updateCtor k (substTy σ ty) = k
  | .tuple _ items => FragL σ items
  | .array _ items => FragL σ items
  | .closure _ _ _ => False
  | .letE x v b => isLocal x = true ∧ FragE σ v ∧ FragE σ b
  | .matchE _ s arms none => FragE σ s ∧ FragA σ arms
  | .matchE _ s arms (some d) => FragE σ s ∧ FragA σ arms ∧ FragE σ d
  | .ite c t e => FragE σ c ∧ FragE σ t ∧ FragE σ e
  | .while c b => FragE σ c ∧ FragE σ b
  | .go _ => False
  | .cget _ _ _ e => FragE σ e
  | .un _ _ e => FragE σ e
  | .bin _ _ l r => FragE σ l ∧ FragE σ r
  | .call ty (.var x _) args => isLocal x = false ∧ FragL σ args ∧ CallOk F U Ext x (substTy σ ty) (monoEs F σ args).1
  | .call _ _ _ => False
  | .toDyn _ _ _ _ => False
  | .dynCall _ _ _ _ _ => False
  | .traitCall _ _ _ _ _ => False
  | .proj _ _ e => FragE σ e
def FragL (σ : Subst) : List Expr → Prop
  | [] => True
  | e :: es => FragE σ e ∧ FragL σ es
def FragA (σ : Subst) : List Arm → Prop
  | [] => True
  | .mk l b :: rest => FragE σ l ∧ FragE σ b ∧ FragA σ rest
end

def EnvLocal (ρ : Env) : Prop := ∀ p ∈ ρ, isLocal p.1 = true

theorem lookupEnv_nonlocal {ρ : Env} (h : EnvLocal isLocal ρ) {x : String} (hx : isLocal x = false) :
    lookupEnv ρ x = none := by
  unfold lookupEnv
  cases hf : ρ.find? (·.1 == x) with
  | none => rfl
  | some p =>
    have hm := List.mem_of_find?_eq_some hf
    have he := List.find?_some hf
    simp only [beq_iff_eq] at he
    have := h p hm
    rw [he, hx] at this
    cases this

theorem bindParams_local : ∀ (xs : List String) (vs : List Val) (ρ : Env), (∀ x ∈ xs, isLocal x = true) →
    EnvLocal isLocal ρ → EnvLocal isLocal (bindParams xs vs ρ) := by
  intro xs
  induction xs with
  | nil => intro vs ρ _ h; simpa [bindParams] using h
  | cons x xs ih =>
    intro vs ρ hx h
    cases vs with
    | nil => simpa [bindParams] using h
    | cons v vs =>
      simp only [bindParams]
      apply ih vs _ (fun y hy => hx y (List.mem_cons_of_mem _ hy))
      intro p hp
      simp only [List.mem_cons] at hp
      rcases hp with rfl | hp
      · exact hx x List.mem_cons_self
      · exact h p hp

theorem resolveCallP_fst (nty : Ty) (f' : Expr) (args' : List Expr) :
    ∃ f'', (resolveCallP F nty f' args').1 = .call nty f'' args' := by
  unfold resolveCallP
  repeat' split
  all_goals exact ⟨_, rfl⟩

theorem updateCtor_enum (t v : String) (i : Nat) (nty : Ty) : ∃ t', updateCtor (.enum t v i) nty = .enum t' v i := by
  cases nty <;> exact ⟨_, rfl⟩

theorem updateCtor_struct (t : String) (nty : Ty) : ∃ t', updateCtor (.struct t) nty = .struct t' := by
  cases nty <;> exact ⟨_, rfl⟩

theorem var_or_not (f : Expr) : (∃ x t, f = .var x t) ∨ ∀ x t, f ≠ .var x t := by
  cases f <;> first
    | exact Or.inl ⟨_, _, rfl⟩
    | (right; intro x t h; cases h)

/-- the head of a match arm selects the same values before and after specialisation -/
theorem armMatches_mono (σ : Subst) (lhs : Expr) (v : Val) : armMatches (monoE F σ lhs).1 v = armMatches lhs v := by
  cases lhs with
  | var x ty =>
    simp only [monoE, monoVarP]
    split <;> simp [armMatches]
  | constr k ty args =>
    simp only [monoE]
    cases k with
    | enum t vn i =>
      obtain ⟨t', ht⟩ := updateCtor_enum t vn i (substTy σ ty)
      rw [ht]; cases v <;> simp [armMatches]
    | struct t =>
      obtain ⟨t', ht⟩ := updateCtor_struct t (substTy σ ty)
      rw [ht]; cases v <;> simp [armMatches]
  | call ty f args =>
    rcases var_or_not f with ⟨x, t, rfl⟩ | hn
    · rw [monoE_call_var]
      obtain ⟨f'', hf⟩ := resolveCallP_fst F (substTy σ ty) (.var x (substTy σ t)) (monoEs F σ args).1
      simp only [hf, armMatches]
    · rw [monoE_call_nonvar F σ ty f args hn]
      obtain ⟨f'', hf⟩ := resolveCallP_fst F (substTy σ ty) (monoE F σ f).1 (monoEs F σ args).1
      simp only [hf, armMatches]
  | matchE ty s arms d => cases d <;> simp [monoE, armMatches]
  | prim p => simp [monoE]
  | tag i ty => simp only [monoE]; cases v <;> simp [armMatches]
  | _ => simp [monoE, armMatches]

/-- what links the Core program `P` and its specialisation `P'` -/
structure Linked (P P' : Prog) : Prop where
  fns : P.fns = F
  /-- every instance of `U` is a function of `P'`: the specialisation of its Core function -/
  inst : ∀ f σ, f ∈ F → U f.name σ → P'.findFn (specName f.name σ) =
      some { name := specName f.name σ, generics := [], params := substParams σ f.params, ret := substTy σ f.ret,
             body := (monoE F σ f.body).1 }
  /-- the bodies of the instances are in the fragment (which includes: their requests lie in `U`) -/
  frag : ∀ f σ, f ∈ F → U f.name σ → FragE F isLocal U Ext σ f.body
  seeds : ∀ f ∈ F, fnIsGeneric f = false → U f.name []
  params : ∀ f ∈ F, ∀ p ∈ f.params, isLocal p.1 = true
  ext : ∀ n, Ext n → P.findFn n = none ∧ P'.findFn n = none
  specNonlocal : ∀ f ∈ F, ∀ σ, U f.name σ → isLocal (specName f.name σ) = false

variable {P P' : Prog} (L : Linked F isLocal U Ext P P')

/-- equal results at the same fuel: `monoE` keeps the kind of every node -/
def SimE (P P' : Prog) (n : Nat) : Prop := ∀ σ e ρ w, FragE F isLocal U Ext σ e → EnvLocal isLocal ρ →
  eval n P' ρ w (monoE F σ e).1 = eval n P ρ w e
def SimL (P P' : Prog) (n : Nat) : Prop := ∀ σ es ρ w, FragL F isLocal U Ext σ es → EnvLocal isLocal ρ →
  evalList n P' ρ w (monoEs F σ es).1 = evalList n P ρ w es
def SimA (P P' : Prog) (n : Nat) : Prop := ∀ σ arms (d : Option Expr) ρ w v, FragA F isLocal U Ext σ arms →
  (∀ d', d = some d' → FragE F isLocal U Ext σ d') → EnvLocal isLocal ρ →
  evalArms n P' ρ w v (monoAs F σ arms).1 (d.map fun d' => (monoE F σ d').1) = evalArms n P ρ w v arms d
/-- calling an instance of `U` in `P'` = calling its Core function in `P` -/
def SimF (P P' : Prog) (n : Nat) : Prop := ∀ f σ w vs, findFn F f.name = some f → U f.name σ →
  Sem.apply n P' w (.fn (specName f.name σ)) vs = Sem.apply n P w (.fn f.name) vs

include L in
theorem simF_step (n : Nat) (hE : SimE F isLocal U Ext P P' n) : SimF F U P P' (n + 1) := by
  intro f σ w vs hff hu
  have hf := (findFn_mem hff).1
  have h1 := L.inst f σ hf hu
  have h2 : P.findFn f.name = some f := by
    simp only [Prog.findFn, L.fns]; exact hff
  simp only [Sem.apply, h1, h2, substParams_names]
  exact hE σ f.body _ w (L.frag f σ hf hu)
    (bindParams_local isLocal _ vs [] (by
      intro x hx
      simp only [List.mem_map] at hx
      obtain ⟨p, hp, rfl⟩ := hx
      exact L.params f hf p hp) (by intro p hp; simp at hp))

theorem eval_var_nonlocal (P : Prog) (n : Nat) {ρ : Env} (w : World) {x : String} (t : Ty)
    (h : lookupEnv ρ x = none) :
    eval n P ρ w (.var x t) = match n with | 0 => .fail .fuel w | _ + 1 => .ok (.fn x) w := by
  cases n with
  | zero => simp [eval]
  | succ k => simp [eval, h]

/-- two direct calls of names that are not local variables agree when their arguments evaluate alike and
the two functions behave alike -/
theorem eval_call_nonlocal (P P' : Prog) (n : Nat) {ρ : Env} (w : World) {g g' : String} (ty ty' fty fty' : Ty)
    {args args' : List Expr} (hg' : lookupEnv ρ g' = none) (hg : lookupEnv ρ g = none)
    (hargs : evalList n P' ρ w args' = evalList n P ρ w args)
    (happ : ∀ w' vs, Sem.apply n P' w' (.fn g') vs = Sem.apply n P w' (.fn g) vs) :
    eval (n + 1) P' ρ w (.call ty' (.var g' fty') args') = eval (n + 1) P ρ w (.call ty (.var g fty) args) := by
  simp only [eval, eval_var_nonlocal P' n w _ hg', eval_var_nonlocal P n w _ hg]
  cases n with
  | zero => rfl
  | succ k =>
    simp only [hargs]
    cases evalList (k + 1) P ρ w args with
    | fail f w' => rfl
    | ok vs w' => exact happ w' vs

include L in
theorem sim_call (n : Nat) (hL : SimL F isLocal U Ext P P' n) (hF : SimF F U P P' n)
    (σ : Subst) (ty : Ty) (x : String) (fty : Ty) (args : List Expr) (ρ : Env) (w : World)
    (hx : isLocal x = false) (ha : FragL F isLocal U Ext σ args)
    (hc : CallOk F U Ext x (substTy σ ty) (monoEs F σ args).1) (hρ : EnvLocal isLocal ρ) :
    eval (n + 1) P' ρ w (monoE F σ (.call ty (.var x fty) args)).1 = eval (n + 1) P ρ w (.call ty (.var x fty) args) := by
  rw [monoE_call_var]
  have hlook := lookupEnv_nonlocal isLocal hρ hx
  have hargs := hL σ args ρ w ha hρ
  rcases hc with ⟨hext, hnone⟩ | ⟨callee, hfc, hng⟩ | ⟨callee, s1, cs, σ', hfc, hg, hu1, hu2, hany, hU, hkey⟩
  · -- builtin / extern: not a function of either program
    have : resolveCallP F (substTy σ ty) (.var x (substTy σ fty)) (monoEs F σ args).1 =
        (.call (substTy σ ty) (.var x (substTy σ fty)) (monoEs F σ args).1, []) := by
      simp [resolveCallP, hnone]
    rw [this]
    refine eval_call_nonlocal P P' n w _ _ _ _ hlook hlook hargs fun w' vs => ?_
    cases n with
    | zero => rfl
    | succ k => simp only [Sem.apply, (L.ext x hext).1, (L.ext x hext).2]
  · -- monomorphic function: same name, the instance at the empty substitution
    have : resolveCallP F (substTy σ ty) (.var x (substTy σ fty)) (monoEs F σ args).1 =
        (.call (substTy σ ty) (.var x (substTy σ fty)) (monoEs F σ args).1, []) := by
      simp [resolveCallP, findCallee_of_findFn hfc, hng]
    rw [this]
    refine eval_call_nonlocal P P' n w _ _ _ _ hlook hlook hargs fun w' vs => ?_
    have hm := findFn_mem hfc
    have := hF callee [] w' vs (by rw [hm.2]; exact hfc) (L.seeds callee hm.1 hng)
    rwa [specName_nil, hm.2] at this
  · -- generic function: the call is renamed to the instance
    have : resolveCallP F (substTy σ ty) (.var x (substTy σ fty)) (monoEs F σ args).1 =
        (.call (substTy σ ty) (.var (specName callee.name cs) (substTy σ fty)) (monoEs F σ args).1, [.req callee.name cs]) := by
      simp [resolveCallP, findCallee_of_findFn hfc, hg, hu1, hu2, hany]
    have hm := findFn_mem hfc
    have hspec : specName callee.name cs = specName callee.name σ' := specName_key hkey.symm
    rw [this, hspec]
    refine eval_call_nonlocal P P' n w _ _ _ _ (lookupEnv_nonlocal isLocal hρ (L.specNonlocal callee hm.1 σ' hU))
      hlook hargs fun w' vs => ?_
    rw [hF callee σ' w' vs (by rw [hm.2]; exact hfc) hU, hm.2]

include L in
theorem simE_step (n : Nat) (hE : SimE F isLocal U Ext P P' n) (hL : SimL F isLocal U Ext P P' n)
    (hA : SimA F isLocal U Ext P P' n) (hF : SimF F U P P' n) : SimE F isLocal U Ext P P' (n + 1) := by
  -- both sides are the same node: read each as "first part, then the rest" (`eval_letE` …), rewrite the first
  -- part by the hypothesis and compare the continuations pointwise
  intro σ e ρ w hfr hρ
  cases e with
  | var x ty =>
    simp only [FragE] at hfr
    simp only [monoE, monoVarP, hfr, eval]
  | prim p => simp only [monoE, eval]
  | tag _ _ | closure _ _ _ | go _ | toDyn _ _ _ _ | dynCall _ _ _ _ _ | traitCall _ _ _ _ _ =>
    simp only [FragE] at hfr
  | constr k ty args =>
    simp only [FragE] at hfr
    simp only [monoE, eval_constr, hL σ args ρ w hfr.1 hρ, hfr.2]
  | tuple ty items =>
    simp only [FragE] at hfr
    simp only [monoE, eval_tuple, hL σ items ρ w hfr hρ]
  | array ty items =>
    simp only [FragE] at hfr
    simp only [monoE, eval_array, hL σ items ρ w hfr hρ]
  | letE x v b =>
    simp only [FragE] at hfr
    obtain ⟨hx, hv, hb⟩ := hfr
    simp only [monoE, eval_letE, hE σ v ρ w hv hρ]
    refine Res.andThen_congr fun vv w' => hE σ b _ w' hb ?_
    intro p hp
    rcases List.mem_cons.1 hp with rfl | hp
    · exact hx
    · exact hρ p hp
  | matchE ty s arms d =>
    cases d with
    | none =>
      simp only [FragE] at hfr
      simp only [monoE, eval_matchE, hE σ s ρ w hfr.1 hρ]
      exact Res.andThen_congr fun v w' => hA σ arms none ρ w' v hfr.2 (by intro d' hd; cases hd) hρ
    | some d =>
      simp only [FragE] at hfr
      obtain ⟨hs, harms, hd⟩ := hfr
      simp only [monoE, eval_matchE, hE σ s ρ w hs hρ]
      exact Res.andThen_congr fun v w' =>
        hA σ arms (some d) ρ w' v harms (by intro d' hd'; cases hd'; exact hd) hρ
  | ite c t e =>
    simp only [FragE] at hfr
    obtain ⟨hc, ht, he⟩ := hfr
    simp only [monoE, eval_ite, hE σ c ρ w hc hρ]
    refine Res.andThen_congr fun v w' => ?_
    split
    · exact hE σ t ρ w' ht hρ
    · exact hE σ e ρ w' he hρ
    · rfl
  | «while» c b =>
    simp only [FragE] at hfr
    -- the loop itself runs again with one unit less: that is the hypothesis at `.while c b`
    have hw := hE σ (.while c b) ρ
    simp only [monoE] at hw
    simp only [monoE, eval_while, hE σ c ρ w hfr.1 hρ]
    refine Res.andThen_congr fun v w' => ?_
    split
    · rw [hE σ b ρ w' hfr.2 hρ]
      exact Res.andThen_congr fun _ w'' => hw w'' (by simp only [FragE]; exact hfr) hρ
    · rfl
    · rfl
  | cget _ _ _ e =>
    simp only [FragE] at hfr
    simp only [monoE, eval_cget, hE σ e ρ w hfr hρ]
  | un _ _ e =>
    simp only [FragE] at hfr
    simp only [monoE, eval_un, hE σ e ρ w hfr hρ]
  | proj _ _ e =>
    simp only [FragE] at hfr
    simp only [monoE, eval_proj, hE σ e ρ w hfr hρ]
  | bin op ty l r =>
    simp only [FragE] at hfr
    simp only [monoE, eval_bin, hE σ l ρ w hfr.1 hρ]
    exact Res.andThen_congr fun a w' => by simp only [hE σ r ρ w' hfr.2 hρ]
  | call ty f args =>
    cases f with
    | var x fty =>
      simp only [FragE] at hfr
      obtain ⟨hx, hargs, hcall⟩ := hfr
      exact sim_call F isLocal U Ext L n hL hF σ ty x fty args ρ w hx hargs hcall hρ
    | _ => simp only [FragE] at hfr

theorem simL_step (n : Nat) (hE : SimE F isLocal U Ext P P' n) (hL : SimL F isLocal U Ext P P' n) :
    SimL F isLocal U Ext P P' (n + 1) := by
  intro σ es ρ w hfr hρ
  cases es with
  | nil => simp only [monoEs, evalList]
  | cons e es =>
    simp only [FragL] at hfr
    simp only [monoEs, evalList, hE σ e ρ w hfr.1 hρ]
    cases eval n P ρ w e with
    | fail f w' => rfl
    | ok v w' => simp only [hL σ es ρ w' hfr.2 hρ]

theorem simA_step (n : Nat) (hE : SimE F isLocal U Ext P P' n) (hA : SimA F isLocal U Ext P P' n) :
    SimA F isLocal U Ext P P' (n + 1) := by
  intro σ arms d ρ w v hfr hd hρ
  cases arms with
  | nil =>
    cases d with
    | none => simp only [monoAs, evalArms, Option.map]
    | some d' => simp only [monoAs, evalArms, Option.map]; exact hE σ d' ρ w (hd d' rfl) hρ
  | cons a rest =>
    obtain ⟨l, b⟩ := a
    simp only [FragA] at hfr
    obtain ⟨-, hb, hrest⟩ := hfr
    simp only [monoAs, evalArms, armMatches_mono]
    split
    · exact hE σ b ρ w hb hρ
    · exact hA σ rest d ρ w v hrest hd hρ

/-- the four statements at one amount of fuel: what the induction on fuel carries -/
structure SimAt (P P' : Prog) (n : Nat) : Prop where
  expr : SimE F isLocal U Ext P P' n
  list : SimL F isLocal U Ext P P' n
  arms : SimA F isLocal U Ext P P' n
  fn : SimF F U P P' n

include L in
theorem sim_all (n : Nat) : SimAt F isLocal U Ext P P' n := by
  induction n with
  | zero =>
    refine ⟨?_, ?_, ?_, ?_⟩
    · intro σ e ρ w _ _; simp only [eval]
    · intro σ es ρ w _ _; simp only [evalList]
    · intro σ arms d ρ w v _ _ _; simp only [evalArms]
    · intro f σ w vs _ _; simp only [Sem.apply]
  | succ n ih =>
    exact ⟨simE_step F isLocal U Ext L n ih.expr ih.list ih.arms ih.fn, simL_step F isLocal U Ext n ih.expr ih.list,
           simA_step F isLocal U Ext n ih.expr ih.arms, simF_step F isLocal U Ext L n ih.expr⟩

end

/-! ### trait calls: static resolution after substitution = dispatch on the runtime value -/

/-- the type key `Sem` reads off a runtime value to dispatch a trait call -/
def valKey : Val → String
  | .unit => "unit" | .bool _ => "bool" | .str _ => "string"
  | .int b s _ => (if s then "int" else "uint") ++ toString b
  | .float b _ => "float" ++ toString b
  | .enumV t _ _ => t | .structV t _ => t
  | _ => "?"

/-- what `Sem` does at an `ETraitCall` once receiver and arguments are evaluated -/
theorem eval_traitCall (P : Prog) (n : Nat) (ρ : Env) (w w1 w2 : World) (tr m : String) (ty : Ty) (recv : Expr)
    (args : List Expr) (v : Val) (vs : List Val)
    (hr : eval n P ρ w recv = .ok v w1) (ha : evalList n P ρ w1 args = .ok vs w2) :
    eval (n + 1) P ρ w (.traitCall tr m ty recv args) =
      match P.impls.find? (fun i => i.1 == tr && i.2.1 == valKey v && i.2.2.1 == m) with
      | some i => Sem.apply n P w2 (.fn i.2.2.2) (v :: vs)
      | none => .fail (.stuck ("no impl of " ++ tr ++ " for " ++ valKey v)) w2 := by
  simp only [eval, hr, ha]
  cases v <;> rfl

/-- what `mono_expr` makes of an `ETraitCall`: a direct call of `trait_impl#Tr#Ty#m`, `Ty` being the
(substituted) type of the transformed receiver -/
theorem monoE_traitCall (F : List Fn) (σ : Subst) (tr m : String) (ty : Ty) (recv : Expr) (args : List Expr) :
    (monoE F σ (.traitCall tr m ty recv args)).1 =
      .call (substTy σ ty)
        (.var (traitImplFnName tr (getTy (monoE F σ recv).1) m)
          (.func (getTys ((monoE F σ recv).1 :: (monoEs F σ args).1)) (substTy σ ty)))
        ((monoE F σ recv).1 :: (monoEs F σ args).1) := by
  simp only [monoE]

end Goml.Mono
