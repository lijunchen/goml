import GomlVerif.Model.ValTy
/-! One-step unfoldings of `Sem.eval` in sequencing form (`Res.andThen`), one per node kind; before them, what looking a
name up in an environment or a program gives. -/
namespace Goml

theorem Prog.findFn_some {P : Prog} {n : String} {f : Fn} (h : P.findFn n = some f) : f ∈ P.fns ∧ f.name = n := by
  unfold Prog.findFn at h
  exact ⟨List.mem_of_find?_eq_some h, by simpa using List.find?_some h⟩

end Goml

namespace Goml.Sem
open Goml

theorem lookupEnv_nil (x : String) : lookupEnv [] x = none := rfl

theorem lookupEnv_cons (y : String) (v : Val) (ρ : Env) (x : String) :
    lookupEnv ((y, v) :: ρ) x = if y == x then some v else lookupEnv ρ x := by
  unfold lookupEnv
  simp only [List.find?_cons]
  cases h : (y == x) <;> simp

theorem lookupEnv_cons_self (ρ : Env) (x : String) (v : Val) : lookupEnv ((x, v) :: ρ) x = some v := by
  rw [lookupEnv_cons]; simp

theorem lookupEnv_cons_ne (ρ : Env) {x y : String} (v : Val) (h : x ≠ y) :
    lookupEnv ((x, v) :: ρ) y = lookupEnv ρ y := by
  rw [lookupEnv_cons]; simp [h]

theorem lookupEnv_bindParams_of_not_mem (ps : List String) : ∀ (args : List Val) (ρ : Env) (x : String),
    x ∉ ps → lookupEnv (bindParams ps args ρ) x = lookupEnv ρ x := by
  induction ps with
  | nil => intro args ρ x _; cases args <;> rfl
  | cons p ps ih =>
    intro args ρ x hx
    cases args with
    | nil => rfl
    | cons a as =>
      have hp : p ≠ x := fun e => hx (e ▸ List.mem_cons_self)
      rw [bindParams, ih as _ x (fun e => hx (List.mem_cons_of_mem _ e)), lookupEnv_cons_ne _ _ hp]

def Res.andThen {α β : Type} (r : Res α) (K : α → World → Res β) : Res β :=
  match r with
  | .fail f w => .fail f w
  | .ok v w => K v w

@[simp] theorem Res.andThen_fail {α β : Type} (f : Fail) (w : World) (K : α → World → Res β) :
    (Res.fail f w : Res α).andThen K = .fail f w := rfl
@[simp] theorem Res.andThen_ok {α β : Type} (v : α) (w : World) (K : α → World → Res β) :
    (Res.ok v w).andThen K = K v w := rfl
theorem Res.andThen_eq_ok {α β : Type} {r : Res α} {K : α → World → Res β} {b : β} {w' : World}
    (h : r.andThen K = .ok b w') : ∃ a w1, r = .ok a w1 ∧ K a w1 = .ok b w' := by
  cases r with
  | fail f w1 => cases h
  | ok a w1 => exact ⟨a, w1, rfl, h⟩

theorem Res.andThen_congr {α β : Type} {r : Res α} {K K' : α → World → Res β}
    (h : ∀ a w, K a w = K' a w) : r.andThen K = r.andThen K' := by
  cases r <;> simp only [Res.andThen, h]

variable (n : Nat) (P : Prog) (ρ : Env) (w : World)

theorem eval_zero (e : Expr) : eval 0 P ρ w e = .fail .fuel w := rfl
theorem evalList_zero (es : List Expr) : evalList 0 P ρ w es = .fail .fuel w := rfl
theorem evalArms_zero (v : Val) (arms : List Arm) (d : Option Expr) : evalArms 0 P ρ w v arms d = .fail .fuel w := rfl
theorem apply_zero (f : Val) (args : List Val) : apply 0 P w f args = .fail .fuel w := rfl

theorem eval_var (x : String) (t : Ty) : eval (n + 1) P ρ w (.var x t) = .ok ((lookupEnv ρ x).getD (.fn x)) w := by
  rw [eval]; cases lookupEnv ρ x <;> rfl
theorem eval_prim (p : Prim) : eval (n + 1) P ρ w (.prim p) = .ok (primVal p) w := rfl
theorem eval_tag (i : Nat) (t : Ty) : eval (n + 1) P ρ w (.tag i t) = .ok (.enumV (tagTyName t) i []) w := rfl
theorem eval_constr (c : Ctor) (t : Ty) (args : List Expr) :
    eval (n + 1) P ρ w (.constr c t args) = (evalList n P ρ w args).andThen (fun vs w =>
      match c with
      | .enum ty _ idx => .ok (.enumV ty idx vs) w
      | .struct ty => .ok (.structV ty vs) w) := by
  rw [eval]; cases evalList n P ρ w args <;> rfl
theorem eval_tuple (t : Ty) (items : List Expr) :
    eval (n + 1) P ρ w (.tuple t items) = (evalList n P ρ w items).andThen (fun vs w => .ok (.tuple vs) w) := by
  rw [eval]; cases evalList n P ρ w items <;> rfl
theorem eval_array (t : Ty) (items : List Expr) :
    eval (n + 1) P ρ w (.array t items) = (evalList n P ρ w items).andThen (fun vs w => .ok (.array vs) w) := by
  rw [eval]; cases evalList n P ρ w items <;> rfl
theorem eval_closure (t : Ty) (ps : List (String × Ty)) (body : Expr) :
    eval (n + 1) P ρ w (.closure t ps body) = .ok (.closure (ps.map (·.1)) body ρ) w := rfl
theorem eval_letE (x : String) (v b : Expr) :
    eval (n + 1) P ρ w (.letE x v b) = (eval n P ρ w v).andThen (fun vv w => eval n P ((x, vv) :: ρ) w b) := by
  rw [eval]; cases eval n P ρ w v <;> rfl
theorem eval_matchE (t : Ty) (scrut : Expr) (arms : List Arm) (d : Option Expr) :
    eval (n + 1) P ρ w (.matchE t scrut arms d) =
      (eval n P ρ w scrut).andThen (fun v w => evalArms n P ρ w v arms d) := by
  rw [eval]; cases eval n P ρ w scrut <;> rfl
theorem eval_ite (c t e : Expr) :
    eval (n + 1) P ρ w (.ite c t e) = (eval n P ρ w c).andThen (fun v w =>
      match v with
      | .bool true => eval n P ρ w t
      | .bool false => eval n P ρ w e
      | _ => .fail (.stuck "if on a non-boolean") w) := by
  rw [eval]; cases eval n P ρ w c with
  | fail f w1 => rfl
  | ok v w1 => cases v <;> first | rfl | (rename_i b; cases b <;> rfl)
theorem eval_while (c b : Expr) :
    eval (n + 1) P ρ w (.while c b) = (eval n P ρ w c).andThen (fun v w =>
      match v with
      | .bool true => (eval n P ρ w b).andThen (fun _ w => eval n P ρ w (.while c b))
      | .bool false => .ok .unit w
      | _ => .fail (.stuck "while on a non-boolean") w) := by
  rw [eval]; cases eval n P ρ w c with
  | fail f w1 => rfl
  | ok v w1 =>
    cases v <;> try rfl
    rename_i bv; cases bv
    · rfl
    · simp only [Res.andThen_ok]; cases eval n P ρ w1 b <;> rfl
theorem eval_go (e : Expr) :
    eval (n + 1) P ρ w (.go e) = (eval n P ρ w e).andThen (fun v w =>
      if w.eager then (apply n P w v []).andThen (fun _ w => .ok .unit w)
      else .ok .unit { w with spawned := w.spawned ++ [v] }) := by
  rw [eval]
  cases eval n P ρ w e with
  | fail f w1 => rfl
  | ok v w1 =>
    simp only [Res.andThen_ok]
    cases h : w1.eager
    · rfl
    · simp only [if_true]; cases apply n P w1 v [] <;> rfl
theorem eval_cget (c : Ctor) (i : Nat) (t : Ty) (e : Expr) :
    eval (n + 1) P ρ w (.cget c i t e) = (eval n P ρ w e).andThen (fun v w =>
      match v with
      | .enumV _ _ args => match args[i]? with
        | some v => .ok v w
        | none => .fail (.stuck "constructor field out of range") w
      | .structV _ fs => match fs[i]? with
        | some v => .ok v w
        | none => .fail (.stuck "struct field out of range") w
      | _ => .fail (.stuck "field access on a non-constructor value") w) := by
  rw [eval]; cases eval n P ρ w e with
  | fail f w1 => rfl
  | ok v w1 => cases v <;> rfl
theorem eval_proj (i : Nat) (t : Ty) (e : Expr) :
    eval (n + 1) P ρ w (.proj i t e) = (eval n P ρ w e).andThen (fun v w =>
      match v with
      | .tuple vs => match vs[i]? with
        | some v => .ok v w
        | none => .fail (.stuck "tuple index out of range") w
      | _ => .fail (.stuck "projection from a non-tuple") w) := by
  rw [eval]; cases eval n P ρ w e with
  | fail f w1 => rfl
  | ok v w1 => cases v <;> rfl
theorem eval_un (op : UnOp) (t : Ty) (e : Expr) :
    eval (n + 1) P ρ w (.un op t e) = (eval n P ρ w e).andThen (fun v w =>
      match unop op v with
      | .ok r => .ok r w
      | .error f => .fail f w) := by
  rw [eval]; cases eval n P ρ w e <;> rfl
/-- `false && _` -/
def scAnd : BinOp → Val → Bool
  | .and, .bool false => true
  | _, _ => false
/-- `true || _` -/
def scOr : BinOp → Val → Bool
  | .or, .bool true => true
  | _, _ => false

theorem eval_bin (op : BinOp) (t : Ty) (l r : Expr) :
    eval (n + 1) P ρ w (.bin op t l r) = (eval n P ρ w l).andThen (fun a w =>
      if scAnd op a then .ok (.bool false) w
      else if scOr op a then .ok (.bool true) w
      else if logicalNonBool op a then .fail (.stuck "logical operator on a non-boolean") w
      else (eval n P ρ w r).andThen (fun b w =>
        match binop op a b with
        | .ok v => .ok v w
        | .error f => .fail f w)) := by
  rw [eval]; cases eval n P ρ w l with
  | fail f w1 => rfl
  | ok a w1 =>
    simp only [Res.andThen_ok]
    split
    · simp [scAnd]
    · simp [scAnd, scOr]
    · rename_i h1 h2
      have ha : scAnd op a = false := by
        unfold scAnd; split
        · exact absurd rfl (h1 rfl)
        · rfl
      have ho : scOr op a = false := by
        unfold scOr; split
        · exact absurd rfl (h2 rfl)
        · rfl
      simp only [ha, ho]
      by_cases hl : logicalNonBool op a = true
      · simp [hl]
      · simp only [hl]
        cases eval n P ρ w1 r <;> rfl
theorem eval_call (t : Ty) (f : Expr) (args : List Expr) :
    eval (n + 1) P ρ w (.call t f args) = (eval n P ρ w f).andThen (fun fv w =>
      (evalList n P ρ w args).andThen (fun vs w => apply n P w fv vs)) := by
  rw [eval]; cases eval n P ρ w f with
  | fail f w1 => rfl
  | ok a w1 => simp only [Res.andThen_ok]; cases evalList n P ρ w1 args <;> rfl
theorem eval_toDyn (tr : String) (forTy t : Ty) (e : Expr) :
    eval (n + 1) P ρ w (.toDyn tr forTy t e) = (eval n P ρ w e).andThen (fun v w => .ok (.dyn tr (tyKey forTy) v) w) := by
  rw [eval]; cases eval n P ρ w e <;> rfl
theorem eval_dynCall (tr m : String) (t : Ty) (recv : Expr) (args : List Expr) :
    eval (n + 1) P ρ w (.dynCall tr m t recv args) = (eval n P ρ w recv).andThen (fun rv w =>
      match rv with
      | .dyn _ key v => (evalList n P ρ w args).andThen (fun vs w =>
        match P.impls.find? (fun i => i.1 == tr && i.2.1 == key && i.2.2.1 == m) with
        | some i => apply n P w (.fn i.2.2.2) (v :: vs)
        | none => .fail (.stuck ("no impl of " ++ tr ++ " for " ++ key)) w)
      | _ => .fail (.stuck "dyn call on a non-dyn value") w) := by
  rw [eval]; cases eval n P ρ w recv with
  | fail f w1 => rfl
  | ok v w1 =>
    cases v <;> try rfl
    simp only [Res.andThen_ok]
    cases evalList n P ρ w1 args <;> rfl

/-- the key `Sem.eval` reads off the receiver is spelled with the model's name for it, `ValTy.valKey` -/
theorem eval_traitCall_at (tr m : String) (t : Ty) (recv : Expr) (args : List Expr) :
    eval (n + 1) P ρ w (.traitCall tr m t recv args) = (eval n P ρ w recv).andThen (fun v w =>
      (evalList n P ρ w args).andThen (fun vs w =>
        match P.impls.find? (fun i => i.1 == tr && i.2.1 == ValTy.valKey v && i.2.2.1 == m) with
        | some i => apply n P w (.fn i.2.2.2) (v :: vs)
        | none => .fail (.stuck ("no impl of " ++ tr ++ " for " ++ ValTy.valKey v)) w)) := by
  rw [eval]; cases eval n P ρ w recv with
  | fail f w1 => rfl
  | ok v w1 =>
    simp only [Res.andThen_ok]
    cases evalList n P ρ w1 args with
    | fail f w2 => rfl
    | ok vs w2 => cases v <;> rfl

theorem evalList_nil_at : evalList (n + 1) P ρ w [] = .ok [] w := rfl
theorem evalList_cons_at (e : Expr) (es : List Expr) :
    evalList (n + 1) P ρ w (e :: es) = (eval n P ρ w e).andThen (fun v w =>
      (evalList n P ρ w es).andThen (fun vs w => .ok (v :: vs) w)) := by
  rw [evalList]; cases eval n P ρ w e with
  | fail f w1 => rfl
  | ok a w1 => simp only [Res.andThen_ok]; cases evalList n P ρ w1 es <;> rfl

theorem evalArms_nil_at (v : Val) (d : Option Expr) :
    evalArms (n + 1) P ρ w v [] d =
      match d with
      | some d => eval n P ρ w d
      | none => .fail (.stuck "no arm selected and no default") w := rfl
theorem evalArms_cons_at (v : Val) (lhs body : Expr) (rest : List Arm) (d : Option Expr) :
    evalArms (n + 1) P ρ w v (.mk lhs body :: rest) d =
      if armMatches lhs v then eval n P ρ w body else evalArms n P ρ w v rest d := rfl

theorem apply_closure (ps : List String) (body : Expr) (ρc : Env) (args : List Val) :
    apply (n + 1) P w (.closure ps body ρc) args = eval n P (bindParams ps args ρc) w body := rfl
theorem apply_fn (name : String) (args : List Val) :
    apply (n + 1) P w (.fn name) args =
      match P.findFn name with
      | some fn => eval n P (bindParams (fn.params.map (·.1)) args []) w fn.body
      | none =>
        match builtin name args w with
        | some r => r
        | none => .ok .unit { w with externs := w.externs ++ [name] } := by rw [apply]; rfl
theorem apply_structV (sn : String) (fs : List Val) (args : List Val) :
    apply (n + 1) P w (.structV sn fs) args =
      match P.findFn ("inherent#" ++ sn ++ "#" ++ sn ++ "#apply") with
      | some fn => eval n P (bindParams (fn.params.map (·.1)) (.structV sn fs :: args) []) w fn.body
      | none => .fail (.stuck ("no apply function for " ++ sn)) w := rfl

end Goml.Sem
