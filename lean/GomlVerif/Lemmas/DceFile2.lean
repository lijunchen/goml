import GomlVerif.Lemmas.DceFile
import GomlVerif.Lemmas.GoFilePrune
/-!
File-level lifting of `dce_preserves`, steps 2 and 3 and the assembly: `prune_dead_functions` and
`prune_unused_imports` are instances of the lock-step theorem `prune_all`; together with step 1
(`mapDce_preserves_call`) every definite call of `main` in `F` is reproduced by
`eliminateDeadVars F` (`dce_file_call`), for files inside the decidable contract `fileDceOK`.
-/
namespace Goml.Dce
open Goml.Go

theorem pruneRel_dead (F : GFile) (hnd : (F.funcs.map (·.name)).Nodup) :
    PruneRel F (pruneDeadFunctions F) (F.funcs.map (·.name)) (reachable F) := by
  have hclosed : ∀ x fn, x ∈ reachable F → F.findFunc x = some fn →
      ∀ y, y ∈ calledStmts (F.funcs.map (·.name)) fn.body → y ∈ reachable F := by
    intro x fn hx hf y hy
    obtain ⟨hmem, hname⟩ := findFunc_some_mem hf
    have hyf : y ∈ F.funcs.map (·.name) := ((calledStmts_iff _ y fn.body).mp hy).1
    have hlast : lastFunc F.funcs x = some fn := by
      have := lastFunc_of_mem F.funcs fn hnd hmem
      rwa [hname] at this
    have hcal : y ∈ calleesOf F.funcs (F.funcs.map (·.name)) (reachable F) :=
      (mem_calleesOf _ _ y _).mpr ⟨x, hx, fn, hlast, hy⟩
    exact closure_closed _ _ _ y hcal hyf
  unfold pruneDeadFunctions
  split
  · exact .refl (fun _ _ => findFunc_name_mem) hclosed
  · refine ⟨⟨?_, ?_⟩, ?_, ?_, fun _ _ => findFunc_name_mem, hclosed⟩
    · intro n
      unfold GFile.structFields
      apply findSome_filter
      intro it hit; cases it <;> simp_all [keepItem]
    · intro s i
      unfold GFile.structImplements
      simp only []
      rw [findSome_filter _ _ (by intro it hit; cases it <;> simp_all [keepItem]),
        findSome_filter _ _ (by intro it hit; cases it <;> simp_all [keepItem])]
    · intro x hx
      unfold GFile.findFunc
      rw [funcs_filter]
      apply find_filter_of
      intro g hg
      have : g.name = x := by simpa using hg
      simpa [this] using hx
    · intro x hx
      unfold GFile.findFunc at hx ⊢
      rw [funcs_filter]
      exact find_filter_none _ _ _ hx

theorem funcs_pruneImportItems (used : Names) : ∀ items : List GItem,
    (GFile.funcs { items := pruneImportItems used items }) = GFile.funcs { items := items }
  | [] => rfl
  | it :: rest => by
    have ih := funcs_pruneImportItems used rest
    unfold GFile.funcs at ih ⊢
    cases it with
    | imports s =>
      simp only [pruneImportItems]
      split <;> simpa [List.filterMap_cons] using ih
    | _ => simpa [pruneImportItems, List.filterMap_cons] using ih

theorem findSome_pruneImportItems {β : Type} (g : GItem → Option β) (hg : ∀ s, g (.imports s) = none)
    (used : Names) : ∀ items : List GItem, (pruneImportItems used items).findSome? g = items.findSome? g
  | [] => rfl
  | it :: rest => by
    have ih := findSome_pruneImportItems g hg used rest
    cases it with
    | imports s =>
      simp only [pruneImportItems]
      split <;> simp [hg, ih]
    | _ => simp only [pruneImportItems, List.findSome?_cons, ih]

theorem pruneRel_imports (F : GFile) :
    PruneRel F (pruneUnusedImports F) (F.funcs.map (·.name)) (F.funcs.map (·.name)) := by
  have hclosed : ∀ x fn, x ∈ F.funcs.map (·.name) → F.findFunc x = some fn →
      ∀ y, y ∈ calledStmts (F.funcs.map (·.name)) fn.body → y ∈ F.funcs.map (·.name) :=
    fun x fn _ _ y hy => ((calledStmts_iff _ y fn.body).mp hy).1
  unfold pruneUnusedImports
  simp only []
  split
  · exact .refl (fun _ _ => findFunc_name_mem) hclosed
  · have hfuncs := funcs_pruneImportItems (usedPackages (importNames F) F.items) F.items
    have hff : ∀ x, GFile.findFunc { items := pruneImportItems (usedPackages (importNames F) F.items) F.items } x =
        F.findFunc x := by
      intro x; unfold GFile.findFunc; rw [hfuncs]
    refine ⟨⟨?_, ?_⟩, fun x _ => hff x, fun x h => by rw [hff x]; exact h, fun _ _ => findFunc_name_mem, hclosed⟩
    · intro n
      unfold GFile.structFields
      exact findSome_pruneImportItems _ (fun _ => rfl) _ _
    · intro s i
      unfold GFile.structImplements
      simp only []
      rw [findSome_pruneImportItems _ (fun _ => rfl), findSome_pruneImportItems _ (fun _ => rfl)]

/-- a call of `main` with no arguments in the initial world: same result with the same fuel in a
    file related by `PruneRel`, provided `main` is not a dropped function -/
theorem prune_main {G G' : GFile} {fns R : Names} (hR : PruneRel G G' fns R)
    (hmain : okName fns R "main" = true) (m : Nat) (w0 : GWorld) (h0 : w0.heap = #[]) (hs0 : w0.spawned = []) :
    callG m G' w0 (.func "main") [] = callG m G w0 (.func "main") [] := by
  have hw : WG (okName fns R) w0 := by
    refine ⟨by rw [h0]; rfl, ?_⟩
    intro p hp; rw [hs0] at hp; cases hp
  exact Lock.eq ((prune_all hR m).cl (f := .func "main") (args := []) (w := w0) hmain rfl hw)

theorem main_reachable (F : GFile) : okName (F.funcs.map (·.name)) (reachable F) "main" = true := by
  unfold okName
  by_cases hm : "main" ∈ F.funcs.map (·.name)
  · have : "main" ∈ reachable F := by
      unfold reachable
      apply closure_sub
      simp only [List.mem_filter, List.contains_iff_mem]
      exact ⟨by decide, by simpa using hm⟩
    simp [this]
  · simp [hm]

/-- **file-level preservation, calls**: inside the contract `fileDceOK`, every definite call of
    `main` (no arguments, initial world) in `F` is reproduced by `eliminateDeadVars F` -/
theorem dce_file_call {F : GFile} (hok : fileDceOK F = true) (n : Nat) (w0 : GWorld) (h0 : w0.heap = #[])
    (hs0 : w0.spawned = []) (r : GRes GVal) (h : callG n F w0 (.func "main") [] = r) (hdef : Definite r) :
    ∃ m, callG m (eliminateDeadVars F) w0 (.func "main") [] = r := by
  obtain ⟨m, hm⟩ := mapDce_preserves_call hok n w0 (.func "main") [] r h hdef
  have hnd : ((mapDce F).funcs.map (·.name)).Nodup := by
    unfold fileDceOK at hok
    simp only [Bool.and_eq_true, decide_eq_true_eq] at hok
    rw [funcs_mapDce, List.map_map]
    exact hok.2
  have e2 := prune_main (pruneRel_dead (mapDce F) hnd) (main_reachable (mapDce F)) m w0 h0 hs0
  have hmain3 : okName ((pruneDeadFunctions (mapDce F)).funcs.map (·.name)) ((pruneDeadFunctions (mapDce F)).funcs.map (·.name))
      "main" = true := by
    unfold okName
    cases ((pruneDeadFunctions (mapDce F)).funcs.map (·.name)).contains "main" <;> simp
  have e3 := prune_main (pruneRel_imports (pruneDeadFunctions (mapDce F))) hmain3 m w0 h0 hs0
  refine ⟨m, ?_⟩
  show callG m (pruneUnusedImports (pruneDeadFunctions (mapDce F))) w0 (.func "main") [] = r
  rw [e3, e2, hm]

end Goml.Dce
