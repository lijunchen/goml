import GomlVerif.Lemmas.InferGen
/-!
`go_spec`: the model of `infer_expr` / `check_expr` always returns (no `Vec` index out of range, no `len - 1` on an
empty vector), the state it returns extends the one it was given, and every obligation of the tree it returns is
justified by that state (`Gen`) — one induction over the mutual recursor of `IExpr`, an arm of `go` read off rule by
rule in the order the generator works.
-/
namespace Goml.Infer
open Goml Goml.Unify

def IArm.body : IArm → IExpr
  | .mk _ b => b

def Spec1 (e : IExpr) : Prop := ∀ exp G Γ s, Ret G.funs Γ s exp (go e exp G Γ s)

structure SpecL (es : List IExpr) : Prop where
  goL : ∀ G Γ s, RetL G.funs Γ s (goL es G Γ s)
  goZip : ∀ xs G Γ s, RetL G.funs Γ s (goZip es xs G Γ s)
  goBlock : ∀ exp G Γ s, RetL G.funs Γ s (goBlock es exp G Γ s)
  goArr : ∀ el G Γ s, ∃ ts Γ' s', goArr es el G Γ s = some (ts, Γ', s') ∧
    Gen Clean G.funs Γ s (oblsL ts ++ relAll ts el) (bindersL ts) Γ' s'
  goHead : ∀ G Γ s, RetL G.funs Γ s (goHead es G Γ s)
  goZipTail : ∀ xs G Γ s, RetL G.funs Γ s (goZipTail es xs G Γ s)
  goIdx : ∀ ks ps G Γ s, RetL G.funs Γ s (goIdx es ks ps G Γ s)

def SpecA (arms : List IArm) : Prop :=
  ∀ sty exp armTy G Γ s, ∃ tas Γ' s', goArms arms sty exp armTy G Γ s = some (tas, Γ', s') ∧
    Gen Clean G.funs Γ s (oblsA tas sty (exp.getD armTy)) (bindersA tas) Γ' s'

theorem RetL.nil {funs Γ s} : RetL funs Γ s (some ([], Γ, s)) := ⟨_, _, _, rfl, .refl⟩

theorem SpecL.nil : SpecL [] where
  goL G Γ s := by rw [Infer.goL]; exact .nil
  goZip xs G Γ s := by simp only [Infer.goZip]; exact .nil
  goBlock exp G Γ s := by rw [Infer.goBlock]; exact .nil
  goArr el G Γ s := by rw [Infer.goArr]; exact ⟨_, _, _, rfl, .refl⟩
  goHead G Γ s := by rw [Infer.goHead]; exact .nil
  goZipTail xs G Γ s := by simp only [Infer.goZipTail]; exact .nil
  goIdx ks ps G Γ s := by simp only [Infer.goIdx]; exact .nil

theorem SpecL.cons {e es} (ihe : Spec1 e) (ihes : SpecL es) : SpecL (e :: es) where
  goL G Γ s := by
    rw [Infer.goL]
    obtain ⟨t, Γ1, s1, h1, g1, -⟩ := ihe none G Γ s
    obtain ⟨ts, Γ2, s2, h2, g2⟩ := ihes.goL G Γ1 s1
    simp only [h1, h2]
    exact ⟨_, _, _, rfl, g1.seq g2⟩
  goZip xs G Γ s := by
    cases xs with
    | nil => simp only [Infer.goZip]; exact .nil
    | cons x xs =>
      simp only [Infer.goZip]
      obtain ⟨t, Γ1, s1, h1, g1, -⟩ := ihe (some x) G Γ s
      obtain ⟨ts, Γ2, s2, h2, g2⟩ := ihes.goZip xs G Γ1 s1
      simp only [h1, h2]
      exact ⟨_, _, _, rfl, g1.seq g2⟩
  goBlock exp G Γ s := by
    rw [Infer.goBlock]
    obtain ⟨t, Γ1, s1, h1, g1, -⟩ := ihe (if es.isEmpty then exp else none) G Γ s
    obtain ⟨ts, Γ2, s2, h2, g2⟩ := ihes.goBlock exp G Γ1 s1
    simp only [h1, h2]
    exact ⟨_, _, _, rfl, g1.seq g2⟩
  goArr el G Γ s := by
    rw [Infer.goArr]
    obtain ⟨t, Γ1, s1, h1, g1, -⟩ := ihe none G Γ s
    obtain ⟨ts, Γ2, s2, h2, g2⟩ := ihes.goArr el G Γ1 (s1.push (.eq t.ty el))
    simp only [h1, h2]
    -- the rule emits `rel t.ty el` after the head's obligations, `oblsL … ++ relAll …` lists it after the tail's
    exact ⟨_, _, _, rfl, ((g1.push _ _).seq g2).mono
      (by simp only [oblsL, relAll, List.mem_append, List.mem_cons]; rintro _ ((h | h) | h | h) <;> simp [h]) (fun _ h => h)⟩
  goHead G Γ s := by
    rw [Infer.goHead]
    obtain ⟨t, Γ1, s1, h1, g1, -⟩ := ihe none G Γ s
    simp only [h1]
    exact ⟨_, _, _, rfl, g1.seq .refl⟩
  goZipTail xs G Γ s := by
    cases xs with
    | nil => simp only [Infer.goZipTail]; exact .nil
    | cons x xs => simp only [Infer.goZipTail]; exact ihes.goZip xs G Γ s
  goIdx ks ps G Γ s := by
    cases ks with
    | nil => simp only [Infer.goIdx]; exact .nil
    | cons k ks =>
      simp only [Infer.goIdx]
      obtain ⟨t, Γ1, s1, h1, g1, -⟩ := ihe ps[k]? G Γ s
      obtain ⟨ts, Γ2, s2, h2, g2⟩ := ihes.goIdx ks ps G Γ1 s1
      simp only [h1, h2]
      exact ⟨_, _, _, rfl, g1.seq g2⟩

theorem SpecA.nil : SpecA [] := by
  intro sty exp armTy G Γ s; rw [goArms]; exact ⟨_, _, _, rfl, .refl⟩

theorem SpecA.cons {p body arms} (iha : Spec1 body) (ihas : SpecA arms) : SpecA (.mk p body :: arms) := by
  intro sty exp armTy G Γ s
  rw [goArms]
  obtain ⟨tb, Γ1, s1, h1, g1, x1⟩ := iha exp G (checkPat p sty (pushScope Γ) s).2.1 (checkPat p sty (pushScope Γ) s).2.2
  simp only [h1]
  have g := ((checkPat_gen p sty (pushScope Γ) s).seq g1).leave.enter
  cases exp with
  | some x =>
    obtain ⟨tas, Γ2, s3, h3, g3⟩ := ihas sty (some x) armTy G (popScope Γ1 s1).1 (popScope Γ1 s1).2
    rw [h3]
    exact ⟨_, _, _, rfl, (g.queued ((le_popScope _ _).mem _ (x1 x rfl))).seq g3⟩
  | none =>
    obtain ⟨tas, Γ2, s3, h3, g3⟩ := ihas sty none armTy G (popScope Γ1 s1).1 ((popScope Γ1 s1).2.push (.eq tb.ty armTy))
    rw [h3]
    exact ⟨_, _, _, rfl, (g.push _ _).seq g3⟩

theorem go_spec : ∀ e, Spec1 e := by
  apply IExpr.rec (motive_1 := Spec1) (motive_2 := fun a => Spec1 a.body) (motive_3 := SpecL) (motive_4 := SpecA)
  -- lit
  · intro i ty exp G Γ s; rw [go]; exact finish_eq .refl
  -- name
  · intro i r exp G Γ s; rw [go]; exact finish_spec (nameRef_gen r G Γ s) (fun _ h => h) (fun _ h => nomatch h)
  -- tuple
  · intro i items ih exp G Γ s
    rw [go]
    cases hck : tupleCheckTys exp items.length with
    | some tys =>
      obtain ⟨ts, Γ', s', h, g⟩ := ih.goZip tys G Γ s
      simp only [h]
      exact finish_eq g.same
    | none =>
      obtain ⟨ts, Γ', s', h, g⟩ := ih.goL G Γ s
      simp only [h]
      exact finish_eq g.same
  -- closure
  · intro i params body ih exp G Γ s
    rw [go]
    cases hck : closureCheck exp params.length with
    | some pr =>
      obtain ⟨eps, eret⟩ := pr
      obtain ⟨tb, Γ2, s2, h, g, -⟩ := ih (some eret) G (bindParamsChk params eps (pushScope Γ) s).2.1
        (bindParamsChk params eps (pushScope Γ) s).2.2
      simp only [h]
      exact finish_eq ((bindParamsChk_gen params eps (pushScope Γ) s).seq g).leave.enter.same
    | none =>
      obtain ⟨tb, Γ2, s2, h, g, -⟩ := ih none G (bindParamsInf params (pushScope Γ) s).2.1
        (bindParamsInf params (pushScope Γ) s).2.2
      simp only [h]
      exact finish_eq ((bindParamsInf_gen params (pushScope Γ) s).seq g).leave.enter.same
  -- let
  · intro i p ann v ih exp G Γ s
    cases ann with
    | some a =>
      rw [go]
      obtain ⟨tv, Γ1, s1, h, g, x1⟩ := ih (some a) G Γ s
      simp only [h]
      exact finish_eq ((g.queued (x1 a rfl)).seq (checkPat_gen p a Γ1 s1))
    | none =>
      rw [go]
      obtain ⟨tv, Γ1, s1, h, g, -⟩ := ih none G Γ s
      simp only [h]
      exact finish_eq (g.relRefl.seq (checkPat_gen p tv.ty Γ1 s1))
  -- block
  · intro i es ih exp G Γ s
    rw [go]
    split
    · exact finish_eq .refl
    · obtain ⟨ts, Γ1, s1, h, g⟩ := ih.goBlock exp G (pushScope Γ) s
      simp only [h]
      exact finish_eq g.leave.enter.same
  -- ite
  · intro i c t e ihc iht ihe exp G Γ s
    cases exp with
    | some x =>
      rw [go]
      obtain ⟨tc, Γ1, s1, h1, g1, x1⟩ := ihc (some .bool) G Γ s
      obtain ⟨tt, Γ2, s2, h2, g2, x2⟩ := iht (some x) G Γ1 s1
      obtain ⟨te, Γ3, s3, h3, g3, x3⟩ := ihe (some x) G Γ2 s2
      simp only [h1, h2, h3]
      exact finish2 ((((((Gen2.refl.kid g1).queued (x1 _ rfl)).kid g2).queued (x2 _ rfl)).kid g3).queued (x3 _ rfl)) rfl
    | none =>
      rw [go]
      obtain ⟨tc, Γ1, s1, h1, g1, -⟩ := ihc none G Γ s
      obtain ⟨tt, Γ2, s2, h2, g2, -⟩ := iht none G Γ1 (s1.push (.eq tc.ty .bool))
      obtain ⟨te, Γ3, s3, h3, g3, -⟩ := ihe none G Γ2 s2
      simp only [h1, h2, h3]
      exact finish2 (((((((Gen2.refl.kid g1).push _ _).kid g2).kid g3).post (le_fresh _)).push _ _).push _ _) rfl
  -- while
  · intro i c b ihc ihb exp G Γ s
    rw [go]
    obtain ⟨tc, Γ1, s1, h1, g1, -⟩ := ihc none G Γ s
    obtain ⟨tb, Γ2, s2, h2, g2, -⟩ := ihb none G Γ1 (s1.push (.eq tc.ty .bool))
    simp only [h1, h2]
    exact finish2 ((((Gen2.refl.kid g1).push _ _).kid g2).push _ _) rfl
  -- call
  · intro i f args ihf iha exp G Γ s
    rw [go]
    cases hk : calleeKind f with
    | loc fi x =>
      obtain ⟨ts, Γ1, s1, h1, g1⟩ := iha.goL G Γ s
      simp only [h1]
      cases hl : lookupVar x Γ1 with
      | some vt =>
        dsimp only
        exact finish2 ((((Gen2.ofGen g1).kidFront (Gen.refl.lookup hl)).post ((le_record _ _ _).trans (le_fresh _))).push
          (TExpr.lvar x vt).ty _) rfl
      | none => dsimp only; exact finish_err g1.le
    | global fi name unres =>
      dsimp only
      cases hf : lookupAssoc name G.funs with
      | some fty =>
        dsimp only
        -- the two modes differ only in which companion ran on the arguments; the rest of the arm is shared
        cases hc : callParamTys (s.inst fty).1 args.length
        case' some ps => obtain ⟨ts, Γ1, s1, h1, g1⟩ := iha.goZip ps G Γ (s.inst fty).2
        case' none => obtain ⟨ts, Γ1, s1, h1, g1⟩ := iha.goL G Γ (s.inst fty).2
        all_goals
        simp only [h1]
        obtain ⟨ret, s2, h2, l2⟩ := callRet_total name (tysOf ts) s1
        simp only [h2]
        exact finish_eq ((((((Gen.refl.inst hf).post (le_inst _ _)).seq g1).post l2).push _ _).post (le_record _ _ _))
      | none =>
        dsimp only
        cases unres with
        | true => simp only [if_true]; exact finish_err (Le.refl _)
        | false =>
          obtain ⟨ts, Γ1, s1, h1, g1⟩ := iha.goL G Γ s
          simp only [h1]
          exact finish_err g1.le
    | unresPath => dsimp only; exact finish_err (Le.refl _)
    | method => dsimp only; exact finish_err (Le.refl _)
    | other =>
      obtain ⟨ts, Γ1, s1, h1, g1⟩ := iha.goL G Γ s
      obtain ⟨tf, Γ2, s2, h2, g2, -⟩ := ihf none G Γ1 s1.fresh.2
      simp only [h1, h2]
      exact finish2 ((((Gen2.ofGen g1).post (le_fresh _)).kidFront g2).push _ _) rfl
  -- un
  · intro i op e ih exp G Γ s
    rw [go]
    cases hn : (if (op == UnOp.neg) = true then numericExp exp else none) with
    | some x =>
      obtain ⟨te, Γ1, s1, h1, g1, x1⟩ := ih (some x) G Γ s
      simp only [h1]
      cases op with
      | not => simp [show (UnOp.not == UnOp.neg) = false from rfl] at hn
      | neg => exact finish_eq (g1.queued (x1 _ rfl))
    | none =>
      obtain ⟨te, Γ1, s1, h1, g1, -⟩ := ih none G Γ s
      simp only [h1]
      cases op with
      | not => dsimp only; exact finish2 (((Gen2.ofGen g1).push _ _).same (t := .bool)) rfl
      | neg => dsimp only; exact finish_eq (g1.push _ _)
  -- bin
  · intro i op l r ihl ihr exp G Γ s
    rw [go]
    cases hn : (if isArith op = true then numericExp exp else none) with
    | some x =>
      obtain ⟨tl, Γ1, s1, h1, g1, x1⟩ := ihl (some x) G Γ s
      obtain ⟨tr, Γ2, s2, h2, g2, x2⟩ := ihr (some x) G Γ1 s1
      simp only [h1, h2]
      have ha : isArith op = true := by
        cases hq : isArith op with
        | true => rfl
        | false => simp [hq] at hn
      exact finish2 ((((Gen2.refl.kid g1).queued (x1 _ rfl)).kid g2).queued (x2 _ rfl))
        (by simp only [obls, binObls, ha, if_true]; rfl)
    | none =>
      obtain ⟨tl, Γ1, s1, h1, g1, -⟩ := ihl none G Γ s
      obtain ⟨tr, Γ2, s2, h2, g2, -⟩ := ihr none G Γ1 s1
      simp only [h1, h2]
      split
      · rename_i ha
        exact finish2 ((((Gen2.ofGen (g1.seq g2)).post (le_fresh _)).push _ _).push _ _)
          (by simp only [obls, binObls, ha, if_true]; rfl)
      · rename_i ha
        split
        · rename_i hlg
          exact finish2 ((((Gen2.ofGen (g1.seq g2)).push _ _).push _ _).same (t := .bool))
            (by simp only [obls, binObls, ha, hlg, if_true, if_false, Bool.false_eq_true]; rfl)
        · rename_i hlg
          exact finish2 (((Gen2.ofGen (g1.seq g2)).push _ _).same (t := .bool))
            (by simp only [obls, binObls, ha, hlg, if_false, Bool.false_eq_true]; rfl)
  -- proj
  · intro i e idx ih exp G Γ s
    rw [go]
    obtain ⟨te, Γ1, s1, h1, g1, -⟩ := ih none G Γ s
    simp only [h1]
    split
    · rename_i tys hty
      split
      · rename_i ft hft
        exact finish_eq (g1.proj hty hft)
      · exact finish_eq ((Gen.diag g1.le).post (le_fresh _))
    · exact finish_eq ((Gen.diag g1.le).post (le_fresh _))
  -- field
  · intro i e fld ih exp G Γ s
    rw [go]
    obtain ⟨te, Γ1, s1, h1, g1, -⟩ := ih none G Γ s
    simp only [h1]
    exact finish_eq ((g1.post (le_fresh _)).pushF _ _ _)
  -- match
  · intro i scrut arms ihs iha exp G Γ s
    rw [go]
    obtain ⟨tsc, Γ1, s1, h1, g1, -⟩ := ihs none G Γ s
    simp only [h1]
    cases exp with
    | some x =>
      obtain ⟨tas, Γ2, s2, h2, g2⟩ := iha tsc.ty (some x) .unit G Γ1 s1
      simp only [h2]
      exact finish_eq (g1.seq g2)
    | none =>
      obtain ⟨tas, Γ2, s2, h2, g2⟩ := iha tsc.ty none s1.fresh.1 G Γ1 s1.fresh.2
      simp only [h2]
      exact finish_eq ((g1.post (le_fresh _)).seq g2)
  -- mcall: outside the declarative rules (ghost flag), so only `Le` is at stake
  · intro i fi recv m args ihr iha exp G Γ s
    rw [go]
    obtain ⟨tr, Γ1, s1, h1, g1, -⟩ := ihr none G Γ s.mark
    have gm : ∀ {os bs Γ'}, Gen Clean G.funs Γ s os bs Γ' s1 := (Gen.mark (Le.refl s)).post g1.le
    simp only [h1]
    cases hl : lookupInherent G tr.ty m with
    | some mty =>
      dsimp only
      obtain ⟨ts, Γ2, s2, h2, g2⟩ := iha.goL G Γ1 s1
      simp only [h2]
      exact finish_eq (gm.post (g2.le.trans ((le_inst _ _).trans ((le_fresh _).trans ((le_push _ _).trans (le_record _ _ _))))))
    | none =>
      dsimp only
      split <;> exact finish_err ((le_mark _).trans g1.le)
  -- scall
  · intro i fi tyName m args iha exp G Γ s
    rw [go]
    have gm : ∀ {os bs Γ'}, Gen Clean G.funs Γ s os bs Γ' s.mark := Gen.mark (Le.refl s)
    cases hn : nominalOf G tyName with
    | none => dsimp only; exact finish_err (le_mark _)
    | some recv0 =>
      dsimp only
      split
      · obtain ⟨t0s, Γ1, s1, h1, g1⟩ := iha.goHead G Γ s.mark
        have l1 : Le s s1 := (le_mark _).trans g1.le
        simp only [h1]
        split
        · exact finish_err l1
        · split
          · split
            · exact finish_err (l1.trans (le_inst _ _))
            · rename_i look rty mty hlook inst ps r hinst hlen
              obtain ⟨ts, Γ2, s2, h2, g2⟩ := iha.goZipTail ps G Γ1
                ((s1.inst mty).snd.push (Constraint.eq ((tysOf t0s).headD Ty.unit) (ps.headD Ty.unit)))
              simp only [h2]
              exact finish_eq (gm.post (g1.le.trans ((le_inst _ _).trans ((le_push _ _).trans (g2.le.trans (le_record _ _ _))))))
          · exact finish_err (l1.trans (le_inst _ _))
      · cases hl : lookupInherent G recv0 m with
        | none => dsimp only; exact finish_err (le_mark _)
        | some mty =>
          dsimp only
          split
          · split
            · exact finish_err ((le_mark _).trans (le_inst _ _))
            · rename_i ps ret _ _
              obtain ⟨ts, Γ2, s2, h2, g2⟩ := iha.goZip ps G Γ (s.mark.inst mty).2
              simp only [h2]
              exact finish_eq (gm.post ((le_inst _ _).trans (g2.le.trans (le_record _ _ _))))
          · exact finish_err ((le_mark _).trans (le_inst _ _))
  -- array
  · intro i items ih exp G Γ s
    rw [go]
    obtain ⟨ts, Γ1, s1, h1, g1⟩ := ih.goArr s.fresh.1 G Γ s.fresh.2
    simp only [h1]
    exact finish_eq (g1.pre (le_fresh _))
  -- constr
  · intro i info args ih exp G Γ s
    rcases info with _ | _ | ⟨cty, arity⟩
    · rw [go]; exact finish_err (Le.refl _)
    · rw [go]; exact finish_err (Le.refl _)
    · rw [go]
      dsimp only
      split
      · exact finish_err (Le.refl _)
      · cases hps : (ctorParams (s.inst cty).1).isEmpty
        case' true => obtain ⟨ts, Γ1, s1, h1, g1⟩ := ih.goL G Γ (s.inst cty).2
        case' false => obtain ⟨ts, Γ1, s1, h1, g1⟩ := ih.goZip (ctorParams (s.inst cty).1) G Γ (s.inst cty).2
        all_goals
        simp only [h1, if_true, Bool.false_eq_true, if_false]
        cases hts : ts.isEmpty <;> simp only [if_true, Bool.false_eq_true, if_false] <;>
          exact finish2 ((Gen2.ofGen (g1.pre (le_inst _ _))).push _ _)
            (by simp only [obls, hts, if_true, if_false, Bool.false_eq_true]; rfl)
  -- slit
  · intro i info idxs args ih exp G Γ s
    cases info with
    | none => rw [go]; exact finish_err (Le.refl _)
    | some pr =>
      obtain ⟨cty, nf⟩ := pr
      rw [go]
      dsimp only
      obtain ⟨ts, Γ1, s1, h1, g1⟩ := ih.goIdx idxs (ctorParams (s.inst cty).1) G Γ (s.inst cty).2
      simp only [h1]
      cases hz : zipOk nf idxs ts with
      | false =>
        simp only [Bool.false_eq_true, if_false]
        exact finish_eq ((Gen.mark ((le_inst _ _).trans g1.le)).post (le_push _ _))
      | true =>
        simp only [if_true]
        -- the tree holds the checked fields at their declared positions: the same fields (`zipOk`) and unit fillers
        cases hts : (reorder nf idxs ts).isEmpty <;> simp only [if_true, Bool.false_eq_true, if_false] <;>
          refine finish_spec ((g1.pre (le_inst _ _)).push _ _) (fun o ho => ?_) (fun b hb => reorder_binders hz hb)
        all_goals
          simp only [obls, hts, if_true, Bool.false_eq_true, if_false] at ho
          rcases List.mem_append.1 ho with ho | ho
          · exact List.mem_append_left _ (reorder_obls ho)
          · exact List.mem_append_right _ ho
  -- arm
  · intro p body ih; exact ih
  -- lists of expressions, lists of arms
  · exact .nil
  · intro e es; exact .cons
  · exact .nil
  · intro a arms; cases a; exact .cons

theorem go_le (e : IExpr) : ∀ exp G Γ s, ∃ t Γ' s', go e exp G Γ s = some (t, Γ', s') ∧ Le s s' := fun exp G Γ s =>
  let ⟨t, Γ', s', h, g, _⟩ := go_spec e exp G Γ s
  ⟨t, Γ', s', h, g.le⟩

def Just1 (e : IExpr) : Prop :=
  ∀ exp G Γ s t Γ' s', go e exp G Γ s = some (t, Γ', s') → Clean s' →
    ∀ B, BIn B (binders t) → EnvAll B Γ →
      EnvAll B Γ' ∧ JL B G.funs s'.cs (obls t) ∧ (∀ x, exp = some x → Constraint.eq t.ty x ∈ s'.cs)

theorem go_just : ∀ e, Just1 e := by
  intro e exp G Γ s t Γ' s' h hd B hB hΓ
  obtain ⟨t1, Γ1, s1, h1, g, x⟩ := go_spec e exp G Γ s
  cases h.symm.trans h1
  exact ⟨(g.just (Le.refl _) hd hB hΓ).1, (g.just (Le.refl _) hd hB hΓ).2, x⟩

/-- `typecheck_fn` up to `solve` returned `(t, s)`: the state extends the initial one, and if it is clean its queue justifies
the obligations of the body and "the body has the declared result type" -/
structure GenFnOk (G : GEnv) (params : List (Nat × Ty)) (ret : Ty) (body : IExpr) (σ0 : Store) (t : TExpr) (s : St) :
    Prop where
  eq : genFn G params ret body σ0 = some (t, s)
  le : Le { σ := σ0, cs := [], diags := [], recs := [] } s
  just : Clean s → ∀ {B}, BIn B (params ++ binders t) → JL B G.funs s.cs (obls t ++ [.rel t.ty ret])

theorem genFn_spec (G : GEnv) (params ret body σ0) : ∃ t s, GenFnOk G params ret body σ0 t s := by
  obtain ⟨t, Γ1, s1, h1, g, x⟩ := go_spec body (some ret) G (insertParams params (pushScope [[]]))
    { σ := σ0, cs := [], diags := [], recs := [] }
  refine ⟨t, _, by rw [genFn, h1], g.leave.le, fun hd B hB => ?_⟩
  have hE : EnvAll B (insertParams params (pushScope [[]])) := by
    apply envAll_params _ _ hB.left
    intro sc hm p hp
    simp only [pushScope, List.mem_cons, List.not_mem_nil, or_false] at hm
    rcases hm with e | e <;> subst e <;> cases hp
  exact ((g.queued (x ret rfl)).leave.just (Le.refl _) hd hB.right hE).2

/-- a run of `typecheck_fn` that ended in `r`: generation, then `solve` (diagnostics `sd`) on the store and the queue it left -/
structure InferFnOk (G : GEnv) (fuel : Nat) (params : List (Nat × Ty)) (ret : Ty) (body : IExpr) (σ0 : Store) (r : FnResult)
    (sd : List SDiag) : Prop where
  gen : genFn G params ret body σ0 = some (r.tree, r.gen)
  solved : solve G.env fuel r.gen.σ r.gen.cs = .done r.σ sd r.rest
  diags : r.diags = r.gen.diags.map .gen ++ sd.map .solve

theorem inferFn_ok {G fuel params ret body σ0 r} (h : inferFn G fuel params ret body σ0 = .ok r) :
    ∃ sd, InferFnOk G fuel params ret body σ0 r sd := by
  unfold inferFn at h
  split at h
  · cases h
  · rename_i t s hg
    split at h
    · cases h
    · cases h
    · rename_i σ' sd rest hs
      cases h
      exact ⟨sd, hg, hs, rfl⟩

end Goml.Infer
