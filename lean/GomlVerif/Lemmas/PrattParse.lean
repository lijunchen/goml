import GomlVerif.Lemmas.PrattSpine
/-!
The Pratt model parses the tokens of a printed tree into the CST described by its spine.
-/
namespace Goml.Pratt
open Goml.Gen.BindingPower

theorem applyPend_append (h : Cst) (a b : List Pend) :
    applyPend h (a ++ b) = applyPend (applyPend h a) b := by
  induction a generalizing h with
  | nil => rfl
  | cons p ps ih => simp [applyPend, ih]

/-- what the surrounding tokens must satisfy for a bare (unparenthesised) `t` -/
def SideOK : Ast → Nat → List Tok → Prop
  | .bin o _ _, m, rest => m ≤ lbp o ∧ stops (lbp o + 1) rest = true
  | .un _ _, _, rest => stops (unC + 1) rest = true
  | _, _, _ => True

/-- the parsing facts proved by induction over trees -/
structure PP (t : Ast) : Prop where
  /-- a call of `exprBp` on the tokens of `t` parses the head of its spine and goes on with the loop -/
  b1 : ∀ m rest c R, m ≤ dotL → SideOK t m rest →
    EvL m (bare t).head (pendToks (bare t).pend ++ rest) c R →
    EvE m ((bare t).htoks ++ (pendToks (bare t).pend ++ rest)) c R
  /-- a loop at a power not above the call power consumes the pending postfix operations -/
  b2 : ∀ h m rest c R, m ≤ callBp →
    EvL m (applyPend h (bare t).pend) rest c R →
    EvL m h (pendToks (bare t).pend ++ rest) c R
  /-- pending operations start with a call, which stops every loop above the call power -/
  i1 : (bare t).pend ≠ [] → ∀ m rest, callBp < m → stops m (pendToks (bare t).pend ++ rest) = true

theorem stops_rparen (m : Nat) (ts : List Tok) : stops m (.rparen :: ts) = true := rfl
theorem stops_comma (m : Nat) (ts : List Tok) : stops m (.comma :: ts) = true := rfl

/-- bare `t` followed by `rest`, in a loop that may take calls -/
theorem PP.lbare {t} (pp : PP t) {m rest c R} (hm : m ≤ callBp) (hs : SideOK t m rest)
    (h : EvL m (bare t).full rest c R) : EvE m ((bare t).toks ++ rest) c R := by
  have := pp.b1 m rest c R (Nat.le_trans hm callBp_le_dotL) hs (pp.b2 _ m rest c R hm h)
  simpa [Spine.toks, List.append_assoc] using this

/-- bare `t` in front of a closing parenthesis -/
theorem PP.closing {t} (pp : PP t) (rest : List Tok) :
    EvE 0 ((bare t).toks ++ .rparen :: rest) (bare t).full (.rparen :: rest) :=
  pp.lbare (Nat.zero_le _) (by cases t <;> simp [SideOK, stops_rparen]) (EvL_stop (stops_rparen 0 rest))

/-- `t` in numeric context `c`, followed by `rest` -/
theorem PP.l {t} (pp : PP t) {c m rest c' R} (hmc : m ≤ c) (hm : m ≤ callBp)
    (hs : stops (c + 1) rest = true)
    (h : EvL m (spineAt t c).full rest c' R) : EvE m ((spineAt t c).toks ++ rest) c' R := by
  cases hp : needsParen t c with
  | true =>
    rw [spineAt_paren hp] at h ⊢
    simp only [Spine.toks, pendToks, List.append_nil, List.cons_append, List.append_assoc]
    refine EvE_paren (e := (bare t).full) ?_ (by simpa [Spine.full, applyPend] using h)
    simpa [Spine.toks, List.append_assoc] using pp.closing rest
  | false =>
    rw [spineAt_bare hp] at h ⊢
    refine pp.lbare hm ?_ h
    cases t with
    | bin o l r =>
      simp only [needsParen, decide_eq_false_iff_not, Nat.not_lt] at hp
      exact ⟨Nat.le_trans hmc hp, stops_mono hs (by omega)⟩
    | un u e =>
      simp only [needsParen, decide_eq_false_iff_not, Nat.not_lt] at hp
      exact stops_mono hs (by omega)
    | _ => trivial

/-- contexts in which a spine is split (operand of a prefix operator, receiver of a postfix one) -/
def SpineCtx (c : Nat) (rest : List Tok) : Prop :=
  c = postC ∨ (c = unC ∧ stops (unC + 1) rest = true)

/-- `b1w`, `b2w`, `i1w`: the facts `b1`, `b2`, `i1` for `spineAt t c`, i.e. with `t` in parentheses where the context `c` asks
for them (then nothing is pending) -/
theorem PP.b1w {t} (pp : PP t) {c m rest c' R} (hc : SpineCtx c rest) (hm : m ≤ dotL)
    (h : EvL m (spineAt t c).head (pendToks (spineAt t c).pend ++ rest) c' R) :
    EvE m ((spineAt t c).htoks ++ (pendToks (spineAt t c).pend ++ rest)) c' R := by
  have hcu : unC ≤ c := by
    rcases hc with h | ⟨h, _⟩
    · rw [h]; exact Nat.le_of_lt unC_lt_postC
    · rw [h]; exact Nat.le_refl _
  cases hp : needsParen t c with
  | true =>
    rw [spineAt_paren hp] at h ⊢
    simp only [pendToks, List.nil_append, List.cons_append, List.append_assoc] at h ⊢
    refine EvE_paren (e := (bare t).full) ?_ h
    simpa [Spine.toks, List.append_assoc] using pp.closing rest
  | false =>
    rw [spineAt_bare hp] at h ⊢
    refine pp.b1 m rest c' R hm ?_ h
    cases t with
    | bin o l r =>
      simp only [needsParen, decide_eq_false_iff_not, Nat.not_lt] at hp
      have := lbp_lt_unC o
      omega
    | un u e =>
      simp only [needsParen, decide_eq_false_iff_not, Nat.not_lt] at hp
      rcases hc with h | ⟨_, h⟩
      · have := unC_lt_postC; omega
      · exact h
    | _ => trivial

theorem PP.b2w {t} (pp : PP t) (c : Nat) {h m rest c' R} (hm : m ≤ callBp)
    (hl : EvL m (applyPend h (spineAt t c).pend) rest c' R) :
    EvL m h (pendToks (spineAt t c).pend ++ rest) c' R := by
  cases hp : needsParen t c with
  | true => rw [spineAt_paren hp] at hl ⊢; simpa [applyPend, pendToks] using hl
  | false => rw [spineAt_bare hp] at hl ⊢; exact pp.b2 h m rest c' R hm hl

theorem PP.i1w {t} (pp : PP t) (c : Nat) (hne : (spineAt t c).pend ≠ []) {m} (rest : List Tok)
    (hm : callBp < m) : stops m (pendToks (spineAt t c).pend ++ rest) = true := by
  cases hp : needsParen t c with
  | true => rw [spineAt_paren hp] at hne; simp at hne
  | false => rw [spineAt_bare hp] at hne ⊢; exact pp.i1 hne m rest hm

theorem stops_printMore (m : Nat) (as : List Ast) (rest : List Tok) :
    stops m (printMore as ++ rest) = true := by
  cases as <;> rfl

theorem PP.arg {a} (pp : PP a) (as : List Ast) (rest : List Tok) :
    EvE 0 (printMin a 0 ++ (printMore as ++ rest)) (bare a).full (printMore as ++ rest) := by
  rw [printMin_toks a 0 0 compat_zero]
  refine pp.l (c := 0) (Nat.le_refl _) (Nat.zero_le _) (stops_printMore _ _ _) ?_
  rw [spineAt_zero]
  exact EvL_stop (stops_printMore _ _ _)

theorem evA_more (rest : List Tok) : ∀ (as : List Ast), (∀ a, a ∈ as → PP a) →
    ∀ e ts, EvE 0 ts e (printMore as ++ rest) → EvA ts (e :: bareArgs as) rest := by
  intro as
  induction as with
  | nil => intro _ e ts he; exact EvA_last (by simpa [printMore] using he)
  | cons a as ih =>
    intro hpp e ts he
    have ha := hpp a (List.mem_cons_self ..)
    refine EvA_cons (ts' := printMin a 0 ++ (printMore as ++ rest)) (by simpa [printMore] using he) ?_
    rw [bareArgs]
    exact ih (fun b hb => hpp b (List.mem_cons_of_mem _ hb)) _ _ (ha.arg as rest)

theorem evA_args (rest : List Tok) (as : List Ast) (hpp : ∀ a, a ∈ as → PP a) :
    EvA (printArgs as ++ rest) (bareArgs as) rest := by
  cases as with
  | nil => exact EvA_nil
  | cons a as =>
    have ha := hpp a (List.mem_cons_self ..)
    rw [bareArgs]
    refine evA_more rest as (fun b hb => hpp b (List.mem_cons_of_mem _ hb)) _ _ ?_
    simp only [printArgs, List.append_assoc]
    exact ha.arg as rest

theorem pendToks_single (p : Pend) : pendToks [p] = p.toks := by simp [pendToks]

/-- a `.field` / `.index` step of a loop -/
theorem evL_dot {m h r rt rest c R} (hm : m ≤ dotL) (hr : EvE dotR (rt :: rest) r rest)
    (hl : EvL m (.binary .Dot h r) rest c R) : EvL m h (.op .Dot :: rt :: rest) c R :=
  EvL_infix postfix_dot infix_dot hm hr hl

theorem evE_dot_ident (x : String) (rest : List Tok) : EvE dotR (.ident x :: rest) (.ident x) rest :=
  EvE_ident (EvL_stop (stops_dotR rest))
theorem evE_dot_int (s : List Char) (rest : List Tok) : EvE dotR (.int s :: rest) (.int s) rest :=
  EvE_int (EvL_stop (stops_dotR rest))

/-- shared proof of the `.field` and `.index` cases: `rt` is the token after the dot, `r` its CST -/
theorem pp_access (e : Ast) (ppe : PP e) (t : Ast) (rt : Tok) (r : Cst) (tr : Trail)
    (hr : ∀ rest, EvE dotR (rt :: rest) r rest)
    (hbare : bare t =
      if (spineAt e postC).pend.isEmpty then
        ⟨.binary .Dot (spineAt e postC).head r, (spineAt e postC).htoks ++ [.op .Dot, rt], []⟩
      else ⟨(spineAt e postC).head, (spineAt e postC).htoks,
            (spineAt e postC).pend ++ [⟨.dot r, [.op .Dot, rt], tr⟩]⟩) : PP t := by
  cases hpe : (spineAt e postC).pend with
  | nil =>
    have hb : bare t = ⟨.binary .Dot (spineAt e postC).head r, (spineAt e postC).htoks ++ [.op .Dot, rt], []⟩ := by
      rw [hbare, hpe]; rfl
    refine ⟨?_, ?_, ?_⟩
    · intro m rest c R hm _ h
      rw [hb] at h ⊢
      simp only [pendToks, List.nil_append, List.append_assoc, List.cons_append] at h ⊢
      have := ppe.b1w (c := postC) (rest := .op .Dot :: rt :: rest) (Or.inl rfl) hm
        (by rw [hpe]; simpa [pendToks] using evL_dot hm (hr rest) h)
      simpa [hpe, pendToks] using this
    · intro h m rest c R _ hl
      rw [hb] at hl ⊢
      simpa [applyPend, pendToks] using hl
    · intro hne; rw [hb] at hne; simp at hne
  | cons p ps =>
    have hb : bare t = ⟨(spineAt e postC).head, (spineAt e postC).htoks,
        (spineAt e postC).pend ++ [⟨.dot r, [.op .Dot, rt], tr⟩]⟩ := by
      rw [hbare, hpe]; rfl
    have hne : (spineAt e postC).pend ≠ [] := by rw [hpe]; simp
    refine ⟨?_, ?_, ?_⟩
    · intro m rest c R hm _ h
      rw [hb] at h ⊢
      simp only [pendToks_append, pendToks_single, List.append_assoc] at h ⊢
      exact ppe.b1w (Or.inl rfl) hm h
    · intro h m rest c R hm hl
      rw [hb] at hl ⊢
      simp only [pendToks_append, pendToks_single, List.append_assoc, applyPend_append] at hl ⊢
      refine ppe.b2w postC hm ?_
      exact evL_dot (Nat.le_trans hm callBp_le_dotL) (hr rest) (by simpa [applyPend, applyCPost] using hl)
    · intro _ m rest hm
      rw [hb]
      simp only [pendToks_append, List.append_assoc]
      exact ppe.i1w postC hne _ hm

theorem pp_all : ∀ t, PP t := by
  intro t
  induction t using Ast.ind with
  | var x =>
    refine ⟨?_, ?_, ?_⟩
    · intro m rest c R _ _ h; exact EvE_ident (by simpa [bare, pendToks] using h)
    · intro h m rest c R _ hl; simpa [bare, applyPend, pendToks] using hl
    · intro hne; simp [bare] at hne
  | lit s =>
    refine ⟨?_, ?_, ?_⟩
    · intro m rest c R _ _ h; exact EvE_int (by simpa [bare, pendToks] using h)
    · intro h m rest c R _ hl; simpa [bare, applyPend, pendToks] using hl
    · intro hne; simp [bare] at hne
  | bin o l r ihl ihr =>
    have hb : bare (.bin o l r) = ⟨.binary o.tk (spineAt l (lbp o)).full (spineAt r (rbp o)).full,
        (spineAt l (lbp o)).toks ++ .op o.tk :: (spineAt r (rbp o)).toks, []⟩ := by
      simp [bare, spineAt]
    refine ⟨?_, ?_, ?_⟩
    · intro m rest c R _ hs h
      obtain ⟨hml, hst⟩ := hs
      rw [hb] at h ⊢
      simp only [pendToks, List.nil_append, List.append_assoc, List.cons_append] at h ⊢
      have hmc : m ≤ callBp := Nat.le_trans hml (Nat.le_trans (Nat.le_of_lt (lbp_lt_rbp o)) (rbp_le_call o))
      refine ihl.l (c := lbp o) hml hmc ?_ ?_
      · simp [stops, postfix_tk, infix_tk]
      · refine EvL_infix (postfix_tk o) (infix_tk o) hml ?_ h
        refine ihr.l (c := rbp o) (Nat.le_refl _) (rbp_le_call o)
          (stops_mono hst (by have := lbp_lt_rbp o; omega)) ?_
        exact EvL_stop (stops_mono hst (by have := lbp_lt_rbp o; omega))
    · intro h m rest c R _ hl; rw [hb] at hl ⊢; simpa [applyPend, pendToks] using hl
    · intro hne; rw [hb] at hne; simp at hne
  | un u e ih =>
    have hb : bare (.un u e) = ⟨.prefix u.tk (spineAt e unC).head, .op u.tk :: (spineAt e unC).htoks,
        (spineAt e unC).pend⟩ := by
      simp [bare, spineAt]
    refine ⟨?_, ?_, ?_⟩
    · intro m rest c R _ hs h
      rw [hb] at h ⊢
      simp only [List.cons_append] at h ⊢
      refine EvE_prefix (prefix_tk u) ?_ h
      refine ih.b1w (c := unC) (Or.inr ⟨rfl, hs⟩) (pre_le_dot u) ?_
      refine EvL_stop ?_
      cases hpe : (spineAt e unC).pend with
      | nil => simpa [pendToks] using stops_mono hs (unC_succ_le_pre u)
      | cons p ps =>
        have := ih.i1w unC (by rw [hpe]; simp) rest (call_lt_pre u)
        rwa [hpe] at this
    · intro h m rest c R hm hl; rw [hb] at hl ⊢; exact ih.b2w unC hm hl
    · intro hne m rest hm; rw [hb] at hne ⊢; exact ih.i1w unC hne rest hm
  | call f as ihf ihas =>
    have hb : bare (.call f as) = ⟨(spineAt f postC).head, (spineAt f postC).htoks,
        (spineAt f postC).pend ++ [⟨.call (bareArgs as), .op .LParen :: printArgs as, .call as⟩]⟩ := by
      simp [bare, spineAt]
    refine ⟨?_, ?_, ?_⟩
    · intro m rest c R hm _ h
      rw [hb] at h ⊢
      simp only [pendToks_append, pendToks_single, List.append_assoc] at h ⊢
      exact ihf.b1w (Or.inl rfl) hm h
    · intro h m rest c R hm hl
      rw [hb] at hl ⊢
      simp only [pendToks_append, pendToks_single, List.append_assoc, applyPend_append,
        List.cons_append] at hl ⊢
      refine ihf.b2w postC hm ?_
      exact EvL_call postfix_lparen hm (evA_args rest as ihas) (by simpa [applyPend, applyCPost] using hl)
    · intro _ m rest hm
      rw [hb]
      simp only [pendToks_append, pendToks_single, List.append_assoc, List.cons_append]
      cases hpe : (spineAt f postC).pend with
      | nil => simpa [pendToks] using stops_lparen m _ hm
      | cons p ps =>
        have := ihf.i1w postC (by rw [hpe]; simp) (.op .LParen :: (printArgs as ++ rest)) hm
        rwa [hpe] at this
  | field e x ih =>
    refine pp_access e ih _ (.ident x) (.ident x) (.field x) (evE_dot_ident x) ?_
    simp only [bare, spineAt]
    rfl
  | proj e n ih =>
    refine pp_access e ih _ (.int (natDigits n)) (.int (natDigits n)) (.proj n) (evE_dot_int _) ?_
    simp only [bare, spineAt]
    rfl

/-- the model parser turns the printed tokens of any tree into the full CST of its spine -/
theorem parseCst_printMin (t : Ast) : parseCst (printMin t 0) = some (bare t).full := by
  have hb := spineAt_zero t
  have h := (pp_all t).l (c := 0) (m := 0) (rest := []) (c' := (bare t).full) (R := [])
    (Nat.le_refl _) (Nat.zero_le _) rfl (by rw [hb]; exact EvL_stop rfl)
  rw [hb] at h
  have htoks : printMin t 0 = (bare t).toks := by rw [printMin_toks t 0 0 compat_zero, hb]
  simp only [List.append_nil] at h
  unfold parseCst
  rw [htoks, h.2 (fuelFor (bare t).toks) (by simp [fuelFor])]

end Goml.Pratt
