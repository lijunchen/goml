import GomlVerif.Model.Sem
/-! The status string of a run (`Sem.failStr`, which `Sem.run` and `Go.Sem`'s `runGo` both write) read back, and `run` as a
function of the result of applying the entry point. -/
namespace Goml.Sem

/-- the one place where the spelling of a status is compared: neither `fuel` nor `stuck:…` is `ok` or begins with `panic:` -/
theorem failStr_definite (f : Fail) (h : failStr f = "ok" ∨ ∃ k, failStr f = "panic:" ++ k) : ∃ k, f = .panic k := by
  cases f with
  | panic k => exact ⟨k, rfl⟩
  -- as character lists the spellings differ at the first character
  | fuel => rcases h with h | ⟨k, h⟩ <;> exact absurd (congrArg String.toList h) (by simp [failStr])
  | stuck s => rcases h with h | ⟨k, h⟩ <;> exact absurd (congrArg String.toList h) (by simp [failStr])

def outcomeOf : Res Val → Outcome
  | .ok _ w => { out := w.out, status := "ok", externs := w.externs }
  | .fail f w => { out := w.out, status := failStr f, externs := w.externs }

theorem run_eq (fuel : Nat) (Q : Prog) (entry : String) (eager : Bool) :
    run fuel Q entry eager = outcomeOf (apply fuel Q { eager := eager } (.fn entry) []) := by
  unfold run
  cases apply fuel Q { eager := eager } (.fn entry) [] <;> rfl

theorem Outcome.eq_of_fields {a b : Outcome} (h1 : a.out = b.out) (h2 : a.status = b.status)
    (h3 : a.externs = b.externs) : a = b := by
  cases a; cases b; simp only at h1 h2 h3; subst h1 h2 h3; rfl

end Goml.Sem
