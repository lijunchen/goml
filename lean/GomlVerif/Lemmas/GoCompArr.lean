import GomlVerif.Lemmas.GoCompHeap
/-!
The `Go.Sem` side of fixed-size arrays and of `Vec`; both are set against `Sem.builtin` in `Lemmas/GoCompStepV.lean`.

Arrays: the array literal, indexing, and what the two runtime helpers `array_get__T`, `array_set__T` of `go/runtime.rs`
do, the out-of-range panic included (`Go.Sem` copies an array when it is passed).

`Vec`: a `Sem` vector value against a Go slice.  `vec_new()` is `nil`; `vec_push(v, x)` is `append(v, x)`, which
under the no-spare-capacity policy (`capPolicy = 0`, part of `WRel`) always allocates a fresh backing array — an
immutable cell of the heap context (`Hp.imm`, `WRel.allocImm`) — so that no two related vectors ever share a cell that
is written; `vec_get(v, i)` is `v[i]` with the out-of-range panic of both sides; `vec_len(v)` is `int32(len(v))`.
With spare capacity (`capPolicy ≠ 0`) two appends to a common prefix may share the backing array and `Sem`'s
functional `vec_push` is NOT simulated (`known_findings.json`, C01, "append-shares-backing-array"): that case is excluded by `WRel.cap`.
-/
namespace Goml.GoComp
open Goml Goml.Go Goml.GoCompile Goml.GoFrag
open Goml.Sem (Val World)
open Goml.Dce (lookup_cons_self lookup_cons_ne)

theorem ev_alit_array {F ρ w len ety elems vs w'} (h : EvLS F ρ w elems (.ok vs w')) :
    EvS F ρ w (.alit (.array len ety) elems) (.ok (.array vs) w') :=
  stable_step h fun k hk => by rw [evalG_alit, hk]; rfl

theorem ev_index_array {F ρ w ty arr idx vs b s i v w1 w2} (ha : EvS F ρ w arr (.ok (.array vs) w1))
    (hi : EvS F ρ w1 idx (.ok (.int b s i) w2)) (hnn : ¬ i < 0) (hv : vs[i.toNat]? = some v) :
    EvS F ρ w (.index ty arr idx) (.ok v w2) :=
  stable_step₂ ha hi fun k h1 h2 => by
    rw [evalG_index, h1, GRes.bind_ok, h2]; simp only [GRes.bind_ok, indexTail, hnn, hv, if_false]

theorem ev_index_array_oob {F ρ w ty arr idx vs b s i w1 w2} (ha : EvS F ρ w arr (.ok (.array vs) w1))
    (hi : EvS F ρ w1 idx (.ok (.int b s i) w2)) (hoob : i < 0 ∨ vs[i.toNat]? = none) :
    EvS F ρ w (.index ty arr idx) (.fail (.panic "index out of range") w2) :=
  stable_step₂ ha hi fun k h1 h2 => by
    rw [evalG_index, h1, GRes.bind_ok, h2]; simp only [GRes.bind_ok, indexTail]
    by_cases hneg : i < 0
    · simp [hneg]
    · rcases hoob with h | h
      · exact absurd h hneg
      · simp [hneg, h]

theorem stmt_indexAssign {F ρ w x xty idx e vs b s i v w1 w2} (hx : lookupG ρ x = some (.array vs))
    (hi : EvS F ρ w idx (.ok (.int b s i) w1)) (he : EvS F ρ w1 e (.ok v w2)) (hin : ¬ (i < 0 ∨ i.toNat ≥ vs.length)) :
    StmtS F ρ w (.indexAssign (.var x xty) idx e) (.ok (updateG ρ x (.array (vs.set i.toNat v)), .normal) w2) :=
  stable_step₂ hi he fun k h1 h2 => by
    have hc : (decide (i < 0) || decide (i.toNat ≥ vs.length)) = false := by
      simp only [not_or] at hin
      simp [hin.1, hin.2]
    rw [execG_indexAssign]; simp only [hx, h1, h2, GRes.bind_ok]
    simp [hc]

theorem stmt_indexAssign_oob {F ρ w x xty idx e vs b s i v w1 w2} (hx : lookupG ρ x = some (.array vs))
    (hi : EvS F ρ w idx (.ok (.int b s i) w1)) (he : EvS F ρ w1 e (.ok v w2)) (hoob : i < 0 ∨ i.toNat ≥ vs.length) :
    StmtS F ρ w (.indexAssign (.var x xty) idx e) (.fail (.panic "index out of range") w2) :=
  stable_step₂ hi he fun k h1 h2 => by
    have hc : (decide (i < 0) || decide (i.toNat ≥ vs.length)) = true := by
      rcases hoob with h | h
      · simp [h]
      · simp [h]
    rw [execG_indexAssign]; simp only [hx, h1, h2, GRes.bind_ok]
    simp [hc]

/-! ### the helpers of `make_array_runtime` -/

/-- what the file must contain for the array type `[e; len]` -/
structure ArrLink (F : GFile) (len : Nat) (e : Ty) : Prop where
  get : F.findFunc (helperFnName "array_get" (.array len e)) = some (arrGetFn (.array len e) len e)
  set : F.findFunc (helperFnName "array_set" (.array len e)) = some (arrSetFn (.array len e) len e)

theorem arr_get_params (F : GFile) (gw : GWorld) (gs : List GVal) (b : Nat) (s : Bool) (i : Int) (len : Nat) (e : Ty) :
    EvS F [("arr", GVal.array gs), ("index", .int b s i)] gw (sV "arr" (.array len (goTy e))) (.ok (.array gs) gw) ∧
    EvS F [("arr", GVal.array gs), ("index", .int b s i)] gw (sV "index" i32) (.ok (.int b s i) gw) := by
  have hne : ("arr" : String) ≠ "index" := by decide
  exact ⟨ev_var_some (lookup_cons_self _ _ _), ev_var_some (by rw [lookup_cons_ne _ _ hne]; exact lookup_cons_self _ _ _)⟩

theorem arr_get_call {F : GFile} {len : Nat} {e : Ty} (hl : ArrLink F len e) (gw : GWorld) (gs : List GVal) (b : Nat) (s : Bool) (i : Int)
    (g : GVal) (hnn : ¬ i < 0) (hv : gs[i.toNat]? = some g) :
    CallS F gw (.func (helperFnName "array_get" (.array len e))) [.array gs, .int b s i] (.ok g gw) := by
  obtain ⟨ha, hi⟩ := arr_get_params F gw gs b s i len e
  have hx := ev_index_array (ty := goTy e) ha hi hnn hv
  exact call_func_env hl.get rfl (block_cons_sig (rest := []) (by simp) (stmt_ret hx)) rfl

theorem arr_get_call_oob {F : GFile} {len : Nat} {e : Ty} (hl : ArrLink F len e) (gw : GWorld) (gs : List GVal) (b : Nat) (s : Bool) (i : Int)
    (hoob : i < 0 ∨ gs[i.toNat]? = none) :
    CallS F gw (.func (helperFnName "array_get" (.array len e))) [.array gs, .int b s i] (.fail (.panic "index out of range") gw) := by
  obtain ⟨ha, hi⟩ := arr_get_params F gw gs b s i len e
  have hx := ev_index_array_oob (ty := goTy e) ha hi hoob
  exact call_func_env hl.get rfl (block_cons_fail (stmt_ret hx)) rfl

theorem arr_set_params (F : GFile) (gw : GWorld) (gs : List GVal) (b : Nat) (s : Bool) (i : Int) (g : GVal) (e : Ty) :
    lookupG [("arr", GVal.array gs), ("index", .int b s i), ("value", g)] "arr" = some (.array gs) ∧
    EvS F [("arr", GVal.array gs), ("index", .int b s i), ("value", g)] gw (sV "index" i32) (.ok (.int b s i) gw) ∧
    EvS F [("arr", GVal.array gs), ("index", .int b s i), ("value", g)] gw (sV "value" (goTy e)) (.ok g gw) := by
  have h1 : ("arr" : String) ≠ "index" := by decide
  have h2 : ("arr" : String) ≠ "value" := by decide
  have h3 : ("index" : String) ≠ "value" := by decide
  refine ⟨lookup_cons_self _ _ _, ev_var_some ?_, ev_var_some ?_⟩
  · rw [lookup_cons_ne _ _ h1]; exact lookup_cons_self _ _ _
  · rw [lookup_cons_ne _ _ h2, lookup_cons_ne _ _ h3]; exact lookup_cons_self _ _ _

theorem arr_set_call {F : GFile} {len : Nat} {e : Ty} (hl : ArrLink F len e) (gw : GWorld) (gs : List GVal) (b : Nat) (s : Bool) (i : Int)
    (g : GVal) (hin : ¬ (i < 0 ∨ i.toNat ≥ gs.length)) :
    CallS F gw (.func (helperFnName "array_set" (.array len e))) [.array gs, .int b s i, g] (.ok (.array (gs.set i.toNat g)) gw) := by
  obtain ⟨hxl, hi, hv⟩ := arr_set_params F gw gs b s i g e
  have hs := stmt_indexAssign (xty := .array len (goTy e)) hxl hi hv hin
  rw [Dce.update_cons_self] at hs
  have hr : StmtS F [("arr", GVal.array (gs.set i.toNat g)), ("index", .int b s i), ("value", g)] gw
      (.ret (some (sV "arr" (.array len (goTy e))))) (.ok (_, .ret (.array (gs.set i.toNat g))) gw) :=
    stmt_ret (ev_var_some (lookup_cons_self _ _ _))
  exact call_func_env hl.set rfl (block_cons hs (block_cons_sig (rest := []) (by simp) hr)) rfl

theorem arr_set_call_oob {F : GFile} {len : Nat} {e : Ty} (hl : ArrLink F len e) (gw : GWorld) (gs : List GVal) (b : Nat) (s : Bool) (i : Int)
    (g : GVal) (hoob : i < 0 ∨ i.toNat ≥ gs.length) :
    CallS F gw (.func (helperFnName "array_set" (.array len e))) [.array gs, .int b s i, g] (.fail (.panic "index out of range") gw) := by
  obtain ⟨hxl, hi, hv⟩ := arr_set_params F gw gs b s i g e
  have hs := stmt_indexAssign_oob (xty := .array len (goTy e)) hxl hi hv hoob
  exact call_func_env hl.set rfl (block_cons_fail hs) rfl

/-! ### related lists position by position -/

theorem VRels_replicate_get {env : Env} {η : Hp} : ∀ {vs : List Val} {gs : List GVal} {len : Nat} {e : Ty} (i : Nat),
    VRels env η vs (List.replicate len e) gs →
    (vs[i]? = none ∧ gs[i]? = none) ∨ ∃ v g, vs[i]? = some v ∧ gs[i]? = some g ∧ VRel env η v e g
  | [], gs, len, e, i, h => by
    cases gs <;> cases len <;> simp [List.replicate, VRels] at h
    left; simp
  | v :: vs, [], len, e, i, h => by cases len <;> simp [List.replicate, VRels] at h
  | v :: vs, g :: gs, 0, e, i, h => by simp [List.replicate, VRels] at h
  | v :: vs, g :: gs, len + 1, e, i, h => by
    simp only [List.replicate, VRels] at h
    cases i with
    | zero => right; exact ⟨v, g, by simp, by simp, h.1⟩
    | succ i => simpa using VRels_replicate_get i h.2

theorem hasTys_replicate_get {env : Env} {η : Hp} : ∀ {vs : List Val} {len : Nat} {e : Ty} (i : Nat) {v : Val},
    HasTys env η vs (List.replicate len e) → vs[i]? = some v → HasTy env η v e
  | [], len, e, i, v, _, hv => by simp at hv
  | v0 :: vs, 0, e, i, v, h, _ => by simp [List.replicate, HasTys] at h
  | v0 :: vs, len + 1, e, i, v, h, hv => by
    simp only [List.replicate, HasTys] at h
    cases i with
    | zero => simp at hv; subst hv; exact h.1
    | succ i => simp only [List.getElem?_cons_succ] at hv; exact hasTys_replicate_get i h.2 hv

theorem VRels_replicate_set {env : Env} {η : Hp} : ∀ {vs : List Val} {gs : List GVal} {len : Nat} {e : Ty} (i : Nat) {v : Val} {g : GVal},
    VRels env η vs (List.replicate len e) gs → VRel env η v e g → VRels env η (vs.set i v) (List.replicate len e) (gs.set i g)
  | [], gs, len, e, i, v, g, h, _ => by
    cases gs <;> cases len <;> simp [List.replicate, VRels] at h
    simp [VRels]
  | v0 :: vs, [], len, e, i, v, g, h, _ => by cases len <;> simp [List.replicate, VRels] at h
  | v0 :: vs, g0 :: gs, 0, e, i, v, g, h, _ => by simp [List.replicate, VRels] at h
  | v0 :: vs, g0 :: gs, len + 1, e, i, v, g, h, hg => by
    simp only [List.replicate, VRels] at h
    cases i with
    | zero => simp only [List.set_cons_zero, List.replicate, VRels]; exact ⟨hg, h.2⟩
    | succ i => simp only [List.set_cons_succ, List.replicate, VRels]; exact ⟨h.1, VRels_replicate_set i h.2 hg⟩

theorem hasTys_replicate_set {env : Env} {η : Hp} : ∀ {vs : List Val} {len : Nat} {e : Ty} (i : Nat) {v : Val},
    HasTys env η vs (List.replicate len e) → HasTy env η v e → HasTys env η (vs.set i v) (List.replicate len e)
  | [], len, e, i, v, h, _ => by simpa using h
  | v0 :: vs, 0, e, i, v, h, _ => by simp [List.replicate, HasTys] at h
  | v0 :: vs, len + 1, e, i, v, h, hv => by
    simp only [List.replicate, HasTys] at h
    cases i with
    | zero => simp only [List.set_cons_zero, List.replicate, HasTys]; exact ⟨hv, h.2⟩
    | succ i => simp only [List.set_cons_succ, List.replicate, HasTys]; exact ⟨h.1, hasTys_replicate_set i h.2 hv⟩

theorem VRels_replicate_snoc {env : Env} {η : Hp} : ∀ {vs : List Val} {gs : List GVal} {e : Ty} {v : Val} {g : GVal},
    VRels env η vs (List.replicate vs.length e) gs → VRel env η v e g →
    VRels env η (vs ++ [v]) (List.replicate (vs ++ [v]).length e) (gs ++ [g])
  | [], gs, e, v, g, h, hg => by
    cases gs <;> simp [VRels] at h
    simp [VRels, hg]
  | v0 :: vs, [], e, v, g, h, _ => by simp [List.replicate, VRels] at h
  | v0 :: vs, g0 :: gs, e, v, g, h, hg => by
    simp only [List.length_cons, List.replicate, VRels] at h
    have := VRels_replicate_snoc h.2 hg
    simp only [List.cons_append, List.length_cons, List.replicate, VRels]
    exact ⟨h.1, this⟩

theorem hasTys_replicate_snoc {env : Env} {η : Hp} : ∀ {vs : List Val} {e : Ty} {v : Val},
    HasTys env η vs (List.replicate vs.length e) → HasTy env η v e →
    HasTys env η (vs ++ [v]) (List.replicate (vs ++ [v]).length e)
  | [], e, v, _, hv => by simp [HasTys, hv]
  | v0 :: vs, e, v, h, hv => by
    simp only [List.length_cons, List.replicate, HasTys] at h
    have := hasTys_replicate_snoc h.2 hv
    simp only [List.cons_append, List.length_cons, List.replicate, HasTys]
    exact ⟨h.1, this⟩

theorem ev_nil {F ρ w ty} : EvS F ρ w (.nil ty) (.ok .nilv w) :=
  stable_succ fun k => by rw [evalG.eq_def]

theorem ev_index_slice {F ρ w ty arr idx loc len cap vs b s i v w1 w2} (ha : EvS F ρ w arr (.ok (.slice loc len cap) w1))
    (hi : EvS F ρ w1 idx (.ok (.int b s i) w2)) (hnn : ¬ i < 0) (hlt : ¬ i.toNat ≥ len)
    (hc : w2.heap[loc]? = some (.array vs)) (hv : vs[i.toNat]? = some v) :
    EvS F ρ w (.index ty arr idx) (.ok v w2) :=
  stable_step₂ ha hi fun k h1 h2 => by
    rw [evalG_index, h1, GRes.bind_ok, h2]; simp only [GRes.bind_ok, indexTail, hnn, hlt, hc, hv, if_false]

theorem ev_index_slice_oob {F ρ w ty arr idx loc len cap b s i w1 w2} (ha : EvS F ρ w arr (.ok (.slice loc len cap) w1))
    (hi : EvS F ρ w1 idx (.ok (.int b s i) w2)) (hoob : i < 0 ∨ i.toNat ≥ len) :
    EvS F ρ w (.index ty arr idx) (.fail (.panic "index out of range") w2) :=
  stable_step₂ ha hi fun k h1 h2 => by
    rw [evalG_index, h1, GRes.bind_ok, h2]; simp only [GRes.bind_ok, indexTail]
    by_cases hneg : i < 0
    · simp [hneg]
    · rcases hoob with h | h
      · exact absurd h hneg
      · simp [hneg, h]

theorem ev_index_nil {F ρ w ty arr idx b s i w1 w2} (ha : EvS F ρ w arr (.ok .nilv w1))
    (hi : EvS F ρ w1 idx (.ok (.int b s i) w2)) :
    EvS F ρ w (.index ty arr idx) (.fail (.panic "index out of range") w2) :=
  stable_step₂ ha hi fun k h1 h2 => by
    rw [evalG_index, h1, GRes.bind_ok, h2]; simp only [GRes.bind_ok, indexTail]
    by_cases hneg : i < 0 <;> simp [hneg]

/-- `append` to a slice without spare capacity under the no-spare-capacity policy: a fresh backing array -/
theorem call_append_slice {F : GFile} {w : GWorld} {loc n : Nat} {vs : List GVal} {v : GVal} (h : F.findFunc "append" = none)
    (hcap : w.capPolicy = 0) (hc : w.heap[loc]? = some (.array vs)) :
    CallS F w (.func "append") [.slice loc n n, v]
      (.ok (.slice w.heap.size (n + 1) (n + 1)) { w with heap := w.heap.push (.array (vs.take n ++ [v])) }) :=
  stable_succ fun k => by rw [callG.eq_def]; simp [h, hc, hcap]

theorem call_append_nil {F : GFile} {w : GWorld} {v : GVal} (h : F.findFunc "append" = none) (hcap : w.capPolicy = 0) :
    CallS F w (.func "append") [.nilv, v] (.ok (.slice w.heap.size 1 1) { w with heap := w.heap.push (.array [v]) }) :=
  stable_succ fun k => by rw [callG.eq_def]; simp [h, hcap]

theorem call_len_slice {F : GFile} {w : GWorld} {loc n c : Nat} (h : F.findFunc "len" = none) :
    CallS F w (.func "len") [.slice loc n c] (.ok (.int 64 true n) w) :=
  stable_succ fun k => by rw [callG.eq_def]; simp [h]

theorem call_len_nil {F : GFile} {w : GWorld} (h : F.findFunc "len" = none) :
    CallS F w (.func "len") [.nilv] (.ok (.int 64 true 0) w) :=
  stable_succ fun k => by rw [callG.eq_def]; simp [h]

/-- what the file must (not) contain for the `Vec` builtins: `append`, `len`, `int32` keep their Go meaning -/
structure VecLink (F : GFile) : Prop where
  append : F.findFunc "append" = none
  len : F.findFunc "len" = none
  int32 : F.findFunc "int32" = none
  /-- the integer conversions keep their Go meaning too (a numeric literal that becomes a trait object) -/
  conv : ∀ n, n ∈ intConvNames → F.findFunc n = none

/-- what `convName` answers: the name of the conversion to that integer type, or a float type -/
theorem convName_spec {ty : Ty} {n : String} (h : convName ty = some n) :
    (∃ b s, ty = .int b s ∧ isIntTy n = some (b, s) ∧ n ∈ intConvNames) ∨ (∃ b, ty = .float b) := by
  unfold convName at h
  split at h <;> first
    | (injection h with h; subst h; exact Or.inl ⟨_, _, rfl, rfl, by simp [intConvNames]⟩)
    | (injection h with h; exact Or.inr ⟨_, rfl⟩)
    | cases h

end Goml.GoComp
