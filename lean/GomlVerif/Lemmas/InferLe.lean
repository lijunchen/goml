import GomlVerif.Model.Infer
import GomlVerif.Props.Solve
/-!
`Le s s'`: the state `s'` extends `s` — the union-find store keeps `rep` / `val` (only keys are created), the queue
and the diagnostics grow at the end, the ghost flag is kept — and every primitive step of constraint generation
(`push`, `diag`, `record`, `fresh`, `inst_ty`, `pop_scope`, `finish` …) extends the state.
-/
namespace Goml.Infer
open Goml Goml.Unify

structure Le (s s' : St) : Prop where
  rep : s'.σ.rep = s.σ.rep
  val : s'.σ.val = s.σ.val
  cs : ∃ new, s'.cs = s.cs ++ new
  diags : ∃ more, s'.diags = s.diags ++ more
  out : s.outside = true → s'.outside = true

theorem Le.refl (s : St) : Le s s := ⟨rfl, rfl, ⟨[], by simp⟩, ⟨[], by simp⟩, id⟩

theorem Le.trans {a b c : St} (h1 : Le a b) (h2 : Le b c) : Le a c := by
  obtain ⟨n1, e1⟩ := h1.cs; obtain ⟨n2, e2⟩ := h2.cs
  obtain ⟨m1, d1⟩ := h1.diags; obtain ⟨m2, d2⟩ := h2.diags
  exact ⟨h2.rep.trans h1.rep, h2.val.trans h1.val, ⟨n1 ++ n2, by rw [e2, e1, List.append_assoc]⟩,
    ⟨m1 ++ m2, by rw [d2, d1, List.append_assoc]⟩, fun h => h2.out (h1.out h)⟩

theorem Le.store {s s' : St} (l : Le s s') (hW : WF s.σ) : WF s'.σ ∧ Ext s.σ s'.σ := ext_of_same l.rep l.val hW

theorem le_push (s : St) (c : Constraint) : Le s (s.push c) := ⟨rfl, rfl, ⟨[c], rfl⟩, ⟨[], by simp [St.push]⟩, id⟩
theorem le_diag (s : St) (d : IDiag) : Le s (s.diag d) := ⟨rfl, rfl, ⟨[], by simp [St.diag]⟩, ⟨[d], rfl⟩, id⟩
theorem le_record (s : St) (i : Nat) (t : Ty) : Le s (s.record i t) :=
  ⟨rfl, rfl, ⟨[], by simp [St.record]⟩, ⟨[], by simp [St.record]⟩, id⟩
theorem le_mark (s : St) : Le s s.mark := ⟨rfl, rfl, ⟨[], by simp [St.mark]⟩, ⟨[], by simp [St.mark]⟩, fun _ => rfl⟩
theorem le_fresh (s : St) : Le s s.fresh.2 := ⟨rfl, rfl, ⟨[], by simp [St.fresh]⟩, ⟨[], by simp [St.fresh]⟩, id⟩
theorem le_inst (s : St) (t : Ty) : Le s (s.inst t).2 :=
  ⟨(instTy_same s.σ [] t).1, (instTy_same s.σ [] t).2, ⟨[], by simp [St.inst]⟩, ⟨[], by simp [St.inst]⟩, id⟩
theorem le_errExpr (s : St) : Le s (errExpr s).2 := le_fresh s
theorem le_to_diag {s X : St} {d} (h : Le s X) : Le s (X.diag d) := h.trans (le_diag _ _)

theorem le_popScope (Γ : Scopes) (s : St) : Le s (popScope Γ s).2 := by
  unfold popScope; split
  · exact le_diag _ _
  · exact Le.refl _

theorem le_ite_diag (s0 : St) (b : Bool) (d : IDiag) : Le s0 (if b = true then s0.diag d else s0) := by
  cases b with
  | false => exact Le.refl _
  | true => exact le_diag _ _

theorem le_ite_record (s0 : St) (b : Bool) (i : Nat) (t : Ty) : Le s0 (if b = true then s0.record i t else s0) := by
  cases b with
  | false => exact Le.refl _
  | true => exact le_record _ _ _

theorem finish_le (i exp v t Γ) (s : St) : ∃ s', finish i exp v t Γ s = some (t, Γ, s') ∧ Le s s' := by
  unfold finish
  cases exp with
  | none => exact ⟨_, rfl, le_ite_record _ _ _ _⟩
  | some x =>
    exact ⟨_, rfl, (le_ite_record _ _ _ _).trans ((le_ite_diag _ _ _).trans ((le_push _ _).trans (le_record _ _ _)))⟩

theorem le_freshN : ∀ n (s : St), Le s (freshN n s).2
  | 0, s => Le.refl s
  | n + 1, s => by
    simp only [freshN]
    exact (le_fresh s).trans (le_freshN n _)

theorem le_tupleElemTys (n ty) (s : St) : Le s (tupleElemTys n ty s).2 := by
  unfold tupleElemTys
  split
  · split
    · exact Le.refl _
    · exact le_freshN _ _
  · exact le_freshN _ _

/-- `args_tast[0]` is only evaluated under the guard `args_tast.len() == 3` -/
theorem callRet_total (name : String) (tys : List Ty) (s : St) : ∃ ret s', callRet name tys s = some (ret, s') ∧ Le s s' := by
  unfold callRet
  split
  · split
    · exact ⟨_, _, rfl, Le.refl _⟩
    · exact ⟨_, _, rfl, le_fresh _⟩
  · split
    · rename_i h
      cases tys with
      | nil => simp at h
      | cons t ts => exact ⟨_, _, rfl, Le.refl _⟩
    · exact ⟨_, _, rfl, le_fresh _⟩

end Goml.Infer
