import GomlVerif.Lemmas.GoCompShape
import GomlVerif.Lemmas.GoCompEmit
/-!
The static invariant `At` of a program point of the statement lowering: the expression about to be lowered is in the
fragment in its ANF context, the Go scope covers that context and none of the callees, the statements to be emitted
declare only fresh locals of the function, the target of the mode is in scope.  One lemma per rule of `EmitRules` gives
the invariant of the parts of a node; the scope and typing proofs are inductions over the rules that take it from here.
-/
namespace Goml.GoComp
open Goml Goml.Go Goml.GoCompile Goml.GoFrag
open Goml.Dce (declScope Names)

attribute [local irreducible] Goml.GoCompile.vn Goml.GoCompile.gid Goml.GoCompile.rn

/-- `D` = all locals of the function, `cs` = the callee names of the code still to come -/
structure SCtx (file : AFile) (G : List String) (D sc : Names) (Γ : Ctx) (cs : List String) : Prop where
  vars : ∀ x t, lookupTy Γ x = some t → vn x ∈ sc
  scD : ∀ y, y ∈ sc → y ∈ D
  nob : ¬ "_" ∈ sc
  cal : ∀ f, f ∈ cs → ¬ f ∈ D ∧ f ≠ "_"
  fns : ∀ e, e ∈ fnSigs file G → ¬ vn e.1 ∈ D ∧ vn e.1 ≠ "_"

def declOKB (D : Names) (x : String) : Bool := D.contains x && x != "_"

abbrev DeclOK (D sc : Names) (S : List GStmt) : Prop := sokB (declOKB D) sc S = true

theorem declOKB_spec {D : Names} {x : String} (h : declOKB D x = true) : x ∈ D ∧ x ≠ "_" := by
  simpa [declOKB] using h

/-- `x` may be declared where `sc` is in scope -/
structure Fresh (D sc : Names) (x : String) : Prop where
  notInScope : ¬ x ∈ sc
  isLocal : x ∈ D
  notBlank : x ≠ "_"

theorem DeclOK.varDecl {D sc : Names} {x : String} {T : GTy} {v : Option GExpr} {rest : List GStmt}
    (h : DeclOK D sc (.varDecl x T v :: rest)) : Fresh D sc x ∧ DeclOK D (x :: sc) rest :=
  have hs := sokB_varDecl.mp h
  ⟨⟨hs.1.1, (declOKB_spec hs.1.2).1, (declOKB_spec hs.1.2).2⟩, hs.2⟩

theorem DeclOK.append {D sc : Names} {a b : List GStmt} (h : DeclOK D sc (a ++ b)) :
    DeclOK D sc a ∧ DeclOK D (scopeAfter a sc) b := by
  simpa only [DeclOK, sokB_append, Bool.and_eq_true] using h

theorem DeclOK.top {D sc : Names} {S : List GStmt} (h : DeclOK D sc S) : ∀ y, y ∈ topDecls S → Fresh D sc y :=
  fun y hy => ⟨(sokB_top S sc h y hy).2, (declOKB_spec (sokB_top S sc h y hy).1).1, (declOKB_spec (sokB_top S sc h y hy).1).2⟩

abbrev DeclOKA (D sc : Names) (ra : List (Imm × List GStmt)) (rd : Option (List GStmt)) : Prop := SokA (declOKB D) sc ra rd

def TgtSc (m : Mode) (Γ : Ctx) (sc : Names) : Prop :=
  match m with
  | .effect => True
  | .assign t => gid t ∈ sc ∧ ∀ x ty, lookupTy Γ x = some ty → vn x ≠ gid t

theorem SCtx.mono_cs {D sc Γ cs cs'} (h : SCtx file G D sc Γ cs) (hs : ∀ f, f ∈ cs' → f ∈ cs) : SCtx file G D sc Γ cs' :=
  ⟨h.vars, h.scD, h.nob, fun f hf => h.cal f (hs f hf), h.fns⟩

theorem SCtx.grow {D sc sc' : Names} {Γ : Ctx} {cs : List String} (h : SCtx file G D sc Γ cs) (hsup : ∀ y, y ∈ sc → y ∈ sc')
    (hnew : ∀ y, y ∈ sc' → y ∈ sc ∨ y ∈ D ∧ y ≠ "_") : SCtx file G D sc' Γ cs :=
  ⟨fun x t hx => hsup _ (h.vars x t hx), fun y hy => (hnew y hy).elim (h.scD y) (·.1),
   fun hb => (hnew _ hb).elim h.nob (fun hn => hn.2 rfl), h.cal, h.fns⟩

theorem SCtx.extend {D sc : Names} {Γ : Ctx} {cs : List String} (h : SCtx file G D sc Γ cs) {ys : Names}
    (hnew : ∀ y, y ∈ ys → y ∈ D ∧ y ≠ "_") : SCtx file G D (ys ++ sc) Γ cs :=
  h.grow (fun _ hy => List.mem_append_right _ hy) (fun y hy => (List.mem_append.mp hy).elim (fun h' => Or.inr (hnew y h')) Or.inl)

/-- re-declaring a name that is in scope, as the binding of a type switch does -/
theorem SCtx.dup {D sc : Names} {Γ : Ctx} {cs : List String} (h : SCtx file G D sc Γ cs) {y : String} (hy : y ∈ sc) :
    SCtx file G D (y :: sc) Γ cs :=
  h.grow (fun _ h' => List.mem_cons_of_mem _ h') (fun _ hz => (List.mem_cons.mp hz).elim (fun e => Or.inl (e ▸ hy)) Or.inl)

theorem SCtx.letvar {D sc : Names} {Γ : Ctx} {cs : List String} (h : SCtx file G D sc Γ cs) {x : String} (hx : vn x ∈ sc) (t : Ty) :
    SCtx file G D sc ((x, t) :: Γ) cs := by
  refine ⟨fun y ty hy => ?_, h.scD, h.nob, h.cal, h.fns⟩
  by_cases hxy : x = y
  · subst hxy; exact hx
  · rw [lookupTy_cons_ne _ _ hxy] at hy; exact h.vars y ty hy

theorem TgtSc.grow {m : Mode} {Γ : Ctx} {sc sc' : Names} (h : TgtSc m Γ sc) (hsup : ∀ y, y ∈ sc → y ∈ sc') : TgtSc m Γ sc' := by
  cases m with
  | effect => trivial
  | assign t => exact ⟨hsup _ h.1, h.2⟩

theorem TgtSc.extend {m : Mode} {Γ : Ctx} {sc : Names} (h : TgtSc m Γ sc) (ys : Names) : TgtSc m Γ (ys ++ sc) :=
  h.grow (fun _ hy => List.mem_append_right _ hy)

theorem TgtSc.letvar {m : Mode} {Γ : Ctx} {sc : Names} (h : TgtSc m Γ sc) {x : String} (t : Ty)
    (hx : ∀ t', m = .assign t' → vn x ≠ gid t') : TgtSc m ((x, t) :: Γ) sc := by
  cases m with
  | effect => trivial
  | assign t' =>
    refine ⟨h.1, fun y ty hy => ?_⟩
    by_cases hxy : x = y
    · subst hxy; exact hx t' rfl
    · rw [lookupTy_cons_ne _ _ hxy] at hy; exact h.2 y ty hy

theorem lookupTy_mem {Γ : Ctx} {x : String} {t : Ty} (h : lookupTy Γ x = some t) : (x, t) ∈ Γ := by
  unfold lookupTy at h
  cases hf : Γ.find? (·.1 == x) with
  | none => rw [hf] at h; cases h
  | some p =>
    rw [hf] at h
    obtain rfl : p.1 = x := by simpa using List.find?_some hf
    obtain rfl : p.2 = t := by simpa using h
    exact List.mem_of_find?_eq_some hf

structure At (env : Env) (file : AFile) (G : List String) (D sc : Names) (Γ : Ctx) (K : KCtx) (m : Mode) (e : AExpr)
    (S : List GStmt) : Prop where
  frag : fragA env file G Γ K e = true
  ctx : SCtx file G D sc Γ (calleesA (Γ.map (·.1)) e)
  decl : DeclOK D sc S
  tgt : TgtSc m Γ sc

section
variable {env : Env} {file : AFile} {G : List String} {D sc : Names} {Γ : Ctx} {K : KCtx} {m : Mode}

theorem At.fragTail {c : CExpr} {S} (h : At env file G D sc Γ K m (.ret c) S) : fragC env file G Γ K c = true := by
  simpa only [fragA] using h.frag

theorem At.ctxTail {c : CExpr} {S} (h : At env file G D sc Γ K m (.ret c) S) : SCtx file G D sc Γ (calleesC (Γ.map (·.1)) c) := by
  simpa only [calleesA] using h.ctx

theorem SCtx.decl {Γ : Ctx} {cs : List String} (h : SCtx file G D sc Γ cs) {x : String} (hx : Fresh D sc x) :
    SCtx file G D (x :: sc) Γ cs :=
  h.grow (fun _ hy => List.mem_cons_of_mem _ hy) (fun y hy => by
    rcases List.mem_cons.mp hy with rfl | hy
    · exact Or.inr ⟨hx.isLocal, hx.notBlank⟩
    · exact Or.inl hy)

theorem SCtx.after {Γ : Ctx} {cs : List String} (h : SCtx file G D sc Γ cs) {S : List GStmt} (hS : DeclOK D sc S) :
    SCtx file G D (scopeAfter S sc) Γ cs :=
  h.grow (fun y hy => (scopeAfter_mem S sc y).mpr (Or.inl hy)) (fun y hy =>
    ((scopeAfter_mem S sc y).mp hy).imp id (fun h' => ⟨(hS.top y h').isLocal, (hS.top y h').notBlank⟩))

theorem TgtSc.after {Γ : Ctx} (h : TgtSc m Γ sc) (S : List GStmt) : TgtSc m Γ (scopeAfter S sc) :=
  h.grow (fun y hy => (scopeAfter_mem S sc y).mpr (Or.inl hy))

theorem At.dup {e : AExpr} {S : List GStmt} (h : At env file G D sc Γ K m e S)
    {y : String} (hy : y ∈ sc) : At env file G D (y :: sc) Γ K m e S :=
  ⟨h.frag, h.ctx.dup hy, sokB_anti _ (fun z hz => by rcases List.mem_cons.mp hz with rfl | hz; exact hy; exact hz) h.decl,
    h.tgt.extend [y]⟩

theorem At.letC {x : String} {v : CExpr} {b : AExpr} {ty : Ty} {T : GTy} {S1 S2 : List GStmt}
    (h : At env file G D sc Γ K m (.letE x v b ty) (.varDecl (vn x) T none :: (S1 ++ S2))) :
    Fresh D sc (vn x) ∧ At env file G D (vn x :: sc) Γ K (.assign (rn x)) (.ret v) S1 ∧
      At env file G D (scopeAfter S1 (vn x :: sc)) ((x, v.annTy) :: Γ) (eraseK K x) m b S2 := by
  obtain ⟨hfrag, hctx, hdecl, htgt⟩ := h
  simp only [fragA, Bool.and_eq_true] at hfrag
  obtain ⟨hx, hd⟩ := hdecl.varDecl
  obtain ⟨hd1, hd2⟩ := hd.append
  have hctxv : SCtx file G D sc Γ (calleesC (Γ.map (·.1)) v) := hctx.mono_cs (fun f hf => by simp [calleesA, hf])
  have hctxb : SCtx file G D sc Γ (calleesA (x :: Γ.map (·.1)) b) := hctx.mono_cs (fun f hf => by simp [calleesA, hf])
  have hxt : ∀ t', m = .assign t' → vn x ≠ gid t' := fun t' ht' e => by subst ht'; exact hx.notInScope (e ▸ htgt.1)
  refine ⟨hx, ⟨by simpa only [fragA] using hfrag.1, by simpa only [calleesA] using hctxv.decl hx, hd1, ?_⟩,
    ⟨hfrag.2, ((hctxb.decl hx).after hd1).letvar ((scopeAfter_mem _ _ _).mpr (Or.inl List.mem_cons_self)) _, hd2,
      ((htgt.grow (fun _ hy => List.mem_cons_of_mem _ hy)).after S1).letvar _ hxt⟩⟩
  refine ⟨by rw [← vn_def]; exact List.mem_cons_self, fun y ty hy => ?_⟩
  rw [← vn_def]; exact fun e => hx.notInScope (e ▸ hctxv.vars y ty hy)

theorem bindSimple_decl (x : String) (v : CExpr) {S2 : List GStmt}
    (h : DeclOK D sc (compileBindSimple env x v ++ S2)) : Fresh D sc (vn x) ∧ DeclOK D (vn x :: sc) S2 := by
  have hv := compileBindSimple_view env x v
  generalize compileBindSimple env x v = S at hv h
  cases hv with
  | go e ty =>
    obtain ⟨X, hX⟩ := compileGo_isGo env e
    rw [hX] at h
    exact DeclOK.varDecl (T := .unit) (v := some unitE) (by
      simpa only [DeclOK, List.cons_append, List.nil_append, sokB, sokStmtB, declScope, Bool.true_and] using h)
  | decl v _ => exact DeclOK.varDecl h

theorem At.letS {x : String} {v : CExpr} {b : AExpr} {ty : Ty} {S2 : List GStmt}
    (h : At env file G D sc Γ K m (.letE x v b ty) (compileBindSimple env x v ++ S2)) :
    Fresh D sc (vn x) ∧ At env file G D sc Γ K .effect (.ret v) [] ∧
      At env file G D (vn x :: sc) ((x, v.annTy) :: Γ) (eraseK K x) m b S2 := by
  obtain ⟨hfrag, hctx, hdecl, htgt⟩ := h
  simp only [fragA, Bool.and_eq_true] at hfrag
  obtain ⟨hx, hd2⟩ := bindSimple_decl x v hdecl
  have hctxv : SCtx file G D sc Γ (calleesC (Γ.map (·.1)) v) := hctx.mono_cs (fun f hf => by simp [calleesA, hf])
  have hctxb : SCtx file G D sc Γ (calleesA (x :: Γ.map (·.1)) b) := hctx.mono_cs (fun f hf => by simp [calleesA, hf])
  have hxt : ∀ t', m = .assign t' → vn x ≠ gid t' := fun t' ht' e => by subst ht'; exact hx.notInScope (e ▸ htgt.1)
  exact ⟨hx, ⟨by simpa only [fragA] using hfrag.1, by simpa only [calleesA] using hctxv, rfl, trivial⟩,
    ⟨hfrag.2, (hctxb.decl hx).letvar List.mem_cons_self _, hd2,
      (htgt.grow (fun _ hy => List.mem_cons_of_mem _ hy)).letvar _ hxt⟩⟩

theorem At.ite {c : Imm} {t e : AExpr} {ty : Ty} {ce : GExpr} {St Se : List GStmt}
    (h : At env file G D sc Γ K m (.ret (.ite c t e ty)) [.ite ce St (some Se)]) :
    immOK env file G Γ c = true ∧ c.ty = .bool ∧ At env file G D sc Γ K m t St ∧ At env file G D sc Γ K m e Se ∧
      aTy t = ty ∧ aTy e = ty := by
  obtain ⟨hc, hcb, hft, hfe, htt, hte⟩ := fragC_ite h.fragTail
  obtain ⟨-, hctx, hdecl, htgt⟩ := h
  have hdI := (sokB_ite.mp hdecl).1
  exact ⟨hc, hcb, ⟨hft, hctx.mono_cs (fun f hf => by simp [calleesA, calleesC, hf]), hdI.1, htgt⟩,
    ⟨hfe, hctx.mono_cs (fun f hf => by simp [calleesA, calleesC, hf]), hdI.2 Se rfl, htgt⟩, htt, hte⟩

theorem At.loop {c b : AExpr} {ty : Ty} {cv : String} {Sc Sb : List GStmt}
    (h : At env file G D sc Γ K m (.ret (.while c b ty)) (whileStmts m cv Sc Sb)) :
    Fresh D sc (gid cv) ∧ At env file G D (gid cv :: sc) Γ K (.assign cv) c Sc ∧
      At env file G D (scopeAfter Sc (gid cv :: sc)) Γ K .effect b Sb ∧ aTy c = .bool ∧ aTy b = .unit ∧ ty = .unit := by
  obtain ⟨hfc, hcb, hfb, hbu, htu⟩ := fragC_while h.fragTail
  obtain ⟨-, hctx, hdecl, htgt⟩ := h
  obtain ⟨hdW, -⟩ := DeclOK.append (a := [.varDecl (gid cv) .bool none, .loop (Sc ++ [brkUnless cv] ++ Sb)]) hdecl
  obtain ⟨hx, hdL⟩ := hdW.varDecl
  have hdL' : DeclOK D (gid cv :: sc) (Sc ++ ([brkUnless cv] ++ Sb)) := by
    rw [← List.append_assoc]; exact (sokB_loop.mp hdL).1
  obtain ⟨hdA, hdL2⟩ := hdL'.append
  obtain ⟨-, hdB⟩ := hdL2.append
  have hctxc : SCtx file G D sc Γ (calleesA (Γ.map (·.1)) c) := hctx.mono_cs (fun f hf => by simp [calleesA, calleesC, hf])
  have hctxb : SCtx file G D sc Γ (calleesA (Γ.map (·.1)) b) := hctx.mono_cs (fun f hf => by simp [calleesA, calleesC, hf])
  exact ⟨hx, ⟨hfc, hctxc.decl hx, hdA, List.mem_cons_self, fun y ty hy e => hx.notInScope (e ▸ hctx.vars y ty hy)⟩,
    ⟨hfb, (hctxb.decl hx).after hdA, hdB, trivial⟩, hcb, hbu, htu⟩

theorem fragArms_mem {ak : ArmKind} {ty : Ty} {lhs : Imm} {body : AExpr} : ∀ {arms : List AArm},
    fragArms env file G Γ K ak ty arms = true → AArm.mk lhs body ∈ arms →
    aTy body = ty ∧
    match ak with
    | .enumK x sty => ∃ idx, lhs = .tag idx sty ∧ (variantOf env sty idx).isSome = true ∧ fragA env file G Γ ((x, idx) :: K) body = true
    | .valK sty => ∃ p, lhs = .prim p sty ∧ okPrim p sty = true ∧ fragA env file G Γ K body = true
  | [], _, h => by cases h
  | .mk l bd :: rest, hf, h => by
    simp only [fragArms, Bool.and_eq_true] at hf
    rcases List.mem_cons.mp h with h | h
    · injection h with h1 h2; subst h1; subst h2
      refine ⟨scalarEq_eq hf.1.2, ?_⟩
      cases ak with
      | enumK x sty =>
        cases lhs with
        | tag idx sty' =>
          simp only [Bool.and_eq_true] at hf
          obtain ⟨⟨⟨⟨hsty, hvar⟩, hbody⟩, _⟩, _⟩ := hf
          exact ⟨_, by rw [scalarEq_eq hsty], hvar, hbody⟩
        | _ => simp only [Bool.false_eq_true] at hf; exact hf.1.1.elim
      | valK sty =>
        cases lhs with
        | prim p sty' =>
          simp only [Bool.and_eq_true] at hf
          obtain ⟨⟨⟨⟨hprim, hsty⟩, hbody⟩, _⟩, _⟩ := hf
          exact ⟨_, by rw [scalarEq_eq hsty], by rw [← scalarEq_eq hsty]; exact hprim, hbody⟩
        | _ => simp only [Bool.false_eq_true] at hf; exact hf.1.1.elim
    · exact fragArms_mem hf.2 h

theorem calleesArms_mem {bs : List String} {lhs : Imm} {body : AExpr} : ∀ {arms : List AArm}, AArm.mk lhs body ∈ arms →
    ∀ f, f ∈ calleesA bs body → f ∈ calleesArms bs arms
  | [], h, _, _ => by cases h
  | .mk l bd :: rest, h, f, hf => by
    simp only [calleesArms, List.mem_append]
    rcases List.mem_cons.mp h with h | h
    · injection h with h1 h2; subst h1; subst h2; exact Or.inl hf
    · exact Or.inr (calleesArms_mem h f hf)

theorem valKind_of_switchTy {t : Ty} (h : switchTy t = true) : valKind (matchKind t) = true := by
  cases t <;> first | rfl | cases h

theorem At.dflt {s : Imm} {arms : List AArm} {ty : Ty} {e : AExpr} {S0 S : List GStmt}
    (h : At env file G D sc Γ K m (.ret (.matchE s arms (.some e) ty)) S0) (hk : matchKind s.ty ≠ .unit)
    (hd : DeclOK D sc S) : At env file G D sc Γ K m e S ∧ aTy e = ty := by
  have hfd : fragD env file G Γ K ty (.some e) = true := by
    cases (fragC_match_inv h.fragTail).2 with
    | enum _ _ _ _ hfd => exact hfd
    | unit hu _ => rw [hu] at hk; exact absurd rfl hk
    | lit _ _ hfd => exact hfd
  simp only [fragD, Bool.and_eq_true] at hfd
  exact ⟨⟨hfd.1, h.ctx.mono_cs (fun f hf => by simp [calleesA, calleesC, calleesD, hf]), hd, h.tgt⟩, scalarEq_eq hfd.2⟩

theorem At.tswitch {s : Imm} {arms : List AArm} {d : ADflt} {ty : Ty} {ras : List (Imm × List GStmt)} {rd : Option (List GStmt)}
    (hk : matchKind s.ty = .enum)
    (h : At env file G D sc Γ K m (.ret (.matchE s arms d ty)) [.tswitch (tswitchBind s) (compileImm env s) (typeCases env ras) rd]) :
    ∃ x en, s = .var x (.enum en) ∧ lookupTy Γ x = some (.enum en) ∧ vn x = rn x ∧ en ∈ goodEnums env ∧ DeclOKA D sc ras rd ∧
      ∀ p lhs body, p ∈ ras → AArm.mk lhs body ∈ arms → p.1 = lhs →
        ∃ idx, lhs = .tag idx (.enum en) ∧ (variantOf env (.enum en) idx).isSome = true ∧
          At env file G D sc Γ ((x, idx) :: K) m body p.2 ∧ aTy body = ty := by
  obtain ⟨hs, hcase⟩ := fragC_match_inv h.fragTail
  cases hcase with
  | @enum x en hlt hvn hgood hfa _ =>
    have hdn : DeclOKA D sc ras rd := sokB_tswitch.mp h.decl
    refine ⟨x, en, rfl, hlt, hvn, hgood, hdn, fun p lhs body hp hm hl => ?_⟩
    obtain ⟨hty, idx, hlhs, hv, hfb⟩ := fragArms_mem hfa hm
    exact ⟨idx, hlhs, hv, ⟨hfb, h.ctx.mono_cs (fun f hf => by
      simp only [calleesA, calleesC, List.mem_append]; exact Or.inl (calleesArms_mem hm f hf)), hdn.1 p hp, h.tgt⟩, hty⟩
  | unit hu _ => rw [hu] at hk; cases hk
  | lit hsw _ _ => have := valKind_of_switchTy hsw; rw [hk] at this; cases this

theorem At.switch {s : Imm} {arms : List AArm} {d : ADflt} {ty : Ty} {ras : List (Imm × List GStmt)} {rd : Option (List GStmt)}
    (hk : valKind (matchKind s.ty) = true)
    (h : At env file G D sc Γ K m (.ret (.matchE s arms d ty)) [.switch (compileImm env s) (valueCases (matchKind s.ty) ras) rd]) :
    immOK env file G Γ s = true ∧ switchTy s.ty = true ∧ DeclOKA D sc ras rd ∧
      ∀ p lhs body, p ∈ ras → AArm.mk lhs body ∈ arms → p.1 = lhs →
        ∃ pr, lhs = .prim pr s.ty ∧ okPrim pr s.ty = true ∧ At env file G D sc Γ K m body p.2 ∧ aTy body = ty := by
  obtain ⟨hs, hcase⟩ := fragC_match_inv h.fragTail
  cases hcase with
  | enum => cases hk
  | unit hu _ => rw [hu] at hk; cases hk
  | lit hsw hfa _ =>
    have hdn : DeclOKA D sc ras rd := sokB_switch.mp h.decl
    refine ⟨hs, hsw, hdn, fun p lhs body hp hm hl => ?_⟩
    obtain ⟨hty, pr, hlhs, hpr, hfb⟩ := fragArms_mem hfa hm
    exact ⟨pr, hlhs, hpr, ⟨hfb, h.ctx.mono_cs (fun f hf => by
      simp only [calleesA, calleesC, List.mem_append]; exact Or.inl (calleesArms_mem hm f hf)), hdn.1 p hp, h.tgt⟩, hty⟩

theorem At.unit {s : Imm} {arms : List AArm} {d : ADflt} {ty : Ty} {S : List GStmt} (hk : matchKind s.ty = .unit)
    (h : At env file G D sc Γ K m (.ret (.matchE s arms d ty)) S) :
    if arms.isEmpty then isSomeD d = true ∧ fragD env file G Γ K ty d = true else fragFirst env file G Γ K ty arms = true := by
  cases (fragC_match_inv h.fragTail).2 with
  | enum => cases hk
  | unit _ hfirst => exact hfirst
  | lit hsw _ _ => have := valKind_of_switchTy hsw; rw [hk] at this; cases this

theorem At.unitArm {s lhs : Imm} {body : AExpr} {rest : List AArm} {d : ADflt} {ty : Ty} {S : List GStmt}
    (hk : matchKind s.ty = .unit) (h : At env file G D sc Γ K m (.ret (.matchE s (.mk lhs body :: rest) d ty)) S) :
    At env file G D sc Γ K m body S ∧ aTy body = ty := by
  have hf := h.unit hk
  simp only [List.isEmpty_cons, Bool.false_eq_true, if_false, fragFirst, Bool.and_eq_true] at hf
  exact ⟨⟨hf.1.2, h.ctx.mono_cs (fun f hf => by simp [calleesA, calleesC, calleesArms, hf]), h.decl, h.tgt⟩, scalarEq_eq hf.2⟩

theorem At.unitDflt {s : Imm} {e : AExpr} {ty : Ty} {S : List GStmt}
    (hk : matchKind s.ty = .unit) (h : At env file G D sc Γ K m (.ret (.matchE s [] (.some e) ty)) S) :
    At env file G D sc Γ K m e S ∧ aTy e = ty := by
  have hf := h.unit hk
  simp only [List.isEmpty_nil, if_true, fragD, Bool.and_eq_true] at hf
  exact ⟨⟨hf.2.1, h.ctx.mono_cs (fun f hf => by simp [calleesA, calleesC, calleesD, hf]), h.decl, h.tgt⟩, scalarEq_eq hf.2.2⟩

end

/-- the invariant at the start of the body of the Go function `f` made from `g`: the result variable `rN` (`ret<n>`) is
    declared over the parameters, `S` is the lowering of `g.body`, the `D` of `At` the locals of `f` -/
structure FnAt (env : Env) (file : AFile) (G : List String) (g : AFn) (f : GFunc) (rN : String) (S : List GStmt) : Prop where
  body : f.body = .varDecl (gid rN) (goTy g.ret) none :: (S ++ [.ret (some (.var (gid rN) (goTy g.ret)))])
  params : f.params = g.params.map (fun p => (vn p.1, goTy p.2))
  fresh : Fresh (Goml.Dce.localsOf f) (g.params.map fun p => vn p.1) (gid rN)
  start : At env file G (Goml.Dce.localsOf f) (gid rN :: g.params.map fun p => vn p.1) (paramCtx g) [] (.assign rN) g.body S
  nodup : (g.params.map fun p => vn p.1).Nodup
  ret : aTy g.body = g.ret

theorem At.fn {env : Env} {file : AFile} {G : List String} {st : St} {g : AFn} (hlocal : localOK env file G st g = true) :
    ∃ rN st1, FnAt env file G g (compileFn env st g).1 rN (compileA env (.assign rN) st1 g.body).1 := by
  obtain ⟨_, hfrag, hret, hndP, hsok, hnb, hcallees, hfnames⟩ := localOK_view hlocal
  have hlocalsD := localsOf_compileFn env st g
  generalize hD : Goml.Dce.localsOf (compileFn env st g).1 = D at *
  rw [compileFn_shape] at hsok hD ⊢
  generalize "ret" ++ toString st.n = retName at *
  generalize hst1 : (st.next.check (okTy g.ret)).check (g.params.all fun p => okTy p.2) = st1 at *
  generalize hS : (compileA env (.assign retName) st1 g.body).1 = S at *
  have hPD : ∀ y, y ∈ (g.params.map fun p => vn p.1) → y ∈ D := fun y hy => by rw [hlocalsD]; exact List.mem_append_left _ hy
  have hRD : gid retName ∈ D := by rw [hlocalsD]; exact List.mem_append_right _ List.mem_cons_self
  have hsok' : DeclOK D (g.params.map fun p => vn p.1)
      (.varDecl (gid retName) (goTy g.ret) none :: (S ++ [.ret (some (.var (gid retName) (goTy g.ret)))])) := by
    refine sokB_weaken _ (fun y hy => ?_) hsok
    have hyD : y ∈ D := by
      rw [hlocalsD]; refine List.mem_append_right _ ?_
      simpa [Goml.Dce.allDecls, Goml.Dce.declsOf, allDecls_append] using hy
    have : y ≠ "_" := fun e => hnb (e ▸ hyD)
    simp [declOKB, hyD, this]
  obtain ⟨hretP, hdS⟩ := hsok'.varDecl
  have hmemP : ∀ {x t}, lookupTy (paramCtx g) x = some t → vn x ∈ g.params.map fun p => vn p.1 := fun hx => by
    have hp := lookupTy_mem hx
    simp only [paramCtx, List.mem_reverse] at hp
    exact List.mem_map_of_mem (f := fun p => vn p.1) hp
  subst hD
  refine ⟨retName, st1, ?_⟩
  rw [hS]
  refine ⟨rfl, rfl, hretP, ⟨hfrag, ⟨fun x t hx => List.mem_cons_of_mem _ (hmemP hx), fun y hy => ?_, fun h => ?_,
    hcallees, hfnames⟩, hdS.append.1, List.mem_cons_self, fun x t hx e => hretP.notInScope (e ▸ hmemP hx)⟩, hndP, hret⟩
  · rcases List.mem_cons.mp hy with rfl | hy
    · exact hRD
    · exact hPD y hy
  · rcases List.mem_cons.mp h with h | h
    · exact hnb (h ▸ hRD)
    · exact hnb (hPD _ h)

end Goml.GoComp
