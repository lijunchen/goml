import GomlVerif.Lemmas.C03presAnf
/-!
ANF preserves `Wt.errs … = []`, node by node (same case split as `Lemmas/AnfSimCases.lean`).
-/
namespace Goml.Anf
open Goml Goml.Wt

variable (S : Sig)

theorem wt_var (x : String) (ty : Ty) : WT S (.var x ty) := by
  intro n N D Γ Γ' hy ha he
  show errsB S Γ' [] = [] ∧ errs S (extΓ [] Γ') (.var x ty) = [] ∧ _
  exact ⟨rfl, errs_of_agree S ha hy.dis he, rfl⟩

theorem wt_prim (p : Prim) : WT S (.prim p) := by
  intro n N D Γ Γ' _ _ _
  exact ⟨rfl, rfl, rfl⟩

/-! ### one operand -/

theorem wt_un {op : UnOp} {ty : Ty} {e : Expr} (he : WT S e) : WT S (.un op ty e) :=
  wt_op1 S (mk1 := fun i => .un op ty i) (P := fun t => unopOk op ty t = true) he
    (fun _ => rfl) (by simp [frag]) (by simp [names]) (fun _ => rfl) (fun _ _ => errs_un)

theorem wt_cget {c : Ctor} {idx : Nat} {ty : Ty} {e : Expr} (he : WT S e) : WT S (.cget c idx ty e) :=
  wt_op1 S (mk1 := fun i => .cget c idx ty i) (P := fun t => ∃ fts, fieldTys S c t = some fts ∧ fts[idx]? = some ty) he
    (fun _ => rfl) (by simp [frag]) (by simp [names]) (fun _ => rfl) (fun _ _ => errs_cget)

theorem wt_proj {idx : Nat} {ty : Ty} {e : Expr} (he : WT S e) : WT S (.proj idx ty e) :=
  wt_op1 S (mk1 := fun i => .proj idx ty i) (P := fun t => ∃ ts, t = .tuple ts ∧ ts[idx]? = some ty) he
    (fun _ => rfl) (by simp [frag]) (by simp [names]) (fun _ => rfl) (fun _ _ => errs_proj)

theorem wt_toDyn {tr : String} {forTy ty : Ty} {e : Expr} (he : WT S e) : WT S (.toDyn tr forTy ty e) :=
  wt_op1 S (mk1 := fun i => .toDyn tr forTy ty i) (P := fun t => t = forTy ∧ ty = .dyn tr) he
    (fun _ => rfl) (by simp [frag]) (by simp [names]) (fun _ => rfl) (fun _ _ => errs_toDyn)

theorem wt_go {e : Expr} (he : WT S e) : WT S (.go e) :=
  wt_op1 S (mk1 := fun i => .go i) (P := fun _ => True) he (fun _ => rfl) (by simp [frag]) (by simp [names])
    (fun _ => rfl) (fun _ _ => by rw [errs_go, and_true])

/-! ### operand lists -/

theorem wt_tuple {ty : Ty} {items : List Expr} (hL : WTL S items) : WT S (.tuple ty items) :=
  wt_ops S (mk := fun cs => .tuple ty cs) hL (fun _ => ⟨rfl, rfl⟩) (fun _ _ _ => hyp_tuple)
    (fun _ h => (errs_tuple.1 h).1)
    (fun _ _ _ h hcs ht => ⟨errs_tuple.2 ⟨hcs, by rw [ht]; exact (errs_tuple.1 h).2⟩, rfl⟩)

theorem wt_array {ty : Ty} {items : List Expr} (hL : WTL S items) : WT S (.array ty items) :=
  wt_ops S (mk := fun cs => .array ty cs) hL (fun _ => ⟨rfl, rfl⟩) (fun _ _ _ => hyp_array)
    (fun _ h => (errs_array.1 h).1)
    (fun _ _ cs h hcs ht => by
      have hlen : cs.length = items.length := by rw [← getTys_length cs, ht, getTys_length]
      obtain ⟨_, el, harr, hall⟩ := errs_array.1 h
      exact ⟨errs_array.2 ⟨hcs, el, by rw [hlen]; exact harr, by rw [ht]; exact hall⟩, rfl⟩)

theorem wt_constr {c : Ctor} {ty : Ty} {args : List Expr}
    (h : ∀ tn vn idx, c = .enum tn vn idx → args ≠ []) (hL : WTL S args) : WT S (.constr c ty args) :=
  wt_ops S (mk := fun cs => .constr c ty cs) hL
    (fun _ => by rw [dec_constr_general h]; exact ⟨rfl, rfl⟩) (fun _ _ _ => hyp_constr h)
    (fun _ h => (errs_constr.1 h).1)
    (fun _ _ _ h hcs ht => ⟨errs_constr.2 ⟨hcs, by rw [ht]; exact (errs_constr.1 h).2⟩, rfl⟩)

theorem wt_constr_nullary {tn vn : String} {idx : Nat} {ty : Ty} : WT S (.constr (.enum tn vn idx) ty []) := by
  intro n N D Γ Γ' _ _ _
  show errsB S Γ' [] = [] ∧ errs S (extΓ [] Γ') (.tag idx ty) = [] ∧ _
  exact ⟨rfl, rfl, rfl⟩

theorem wt_call {ty : Ty} {f : Expr} {args : List Expr} (hL : WTL S (f :: args)) : WT S (.call ty f args) :=
  wt_ops S (mk := fun cs => match cs with | fi :: is => .call ty fi is | [] => .prim .unit) hL
    (fun _ => ⟨rfl, rfl⟩) (fun _ _ _ => hyp_call)
    (fun _ h => by
      obtain ⟨hf, hargs, _⟩ := errs_call.1 h
      exact errsList_cons.2 ⟨hf, hargs⟩)
    (fun _ _ cs h hcs ht => by
      obtain ⟨_, _, hsig⟩ := errs_call.1 h
      match cs, hcs, ht with
      | [], _, ht => simp [Mono.getTys] at ht
      | fi :: is, hcs, ht =>
        simp only [Mono.getTys, List.cons.injEq] at ht
        obtain ⟨hf, his⟩ := errsList_cons.1 hcs
        exact ⟨errs_call.2 ⟨hf, his, by rw [ht.1, ht.2]; exact hsig⟩, rfl⟩)

theorem wt_dynCall {tr m : String} {ty : Ty} {recv : Expr} {args : List Expr} (hL : WTL S (recv :: args)) :
    WT S (.dynCall tr m ty recv args) :=
  wt_ops S (mk := fun cs => match cs with | ri :: is => .dynCall tr m ty ri is | [] => .prim .unit) hL
    (fun _ => ⟨rfl, rfl⟩) (fun _ _ _ => hyp_dynCall)
    (fun _ h => by
      obtain ⟨hrecv, hargs, _⟩ := errs_dynCall.1 h
      exact errsList_cons.2 ⟨hrecv, hargs⟩)
    (fun _ _ cs h hcs ht => by
      obtain ⟨_, _, hsig⟩ := errs_dynCall.1 h
      match cs, hcs, ht with
      | [], _, ht => simp [Mono.getTys] at ht
      | ri :: is, hcs, ht =>
        simp only [Mono.getTys, List.cons.injEq] at ht
        obtain ⟨hr, his⟩ := errsList_cons.1 hcs
        exact ⟨errs_dynCall.2 ⟨hr, his, by rw [ht.1, ht.2]; exact hsig⟩, rfl⟩)

theorem wt_bin_plain {op : BinOp} {ty : Ty} {l r : Expr}
    (hc : ((op == .and || op == .or) && !trivialRhs r) = false) (hL : WTL S [l, r]) : WT S (.bin op ty l r) := by
  refine wt_ops S (mk := fun cs => match cs with | [li, ri] => .bin op ty li ri | _ => .prim .unit) hL
    (fun n => by
      obtain ⟨hchain, hcore, _⟩ := dec_bin_plain hc n
      exact ⟨hchain, hcore⟩)
    (fun _ _ _ => hyp_bin_plain hc)
    (fun _ h => by
      obtain ⟨hl, hr, _⟩ := errs_bin.1 h
      exact errsList_cons.2 ⟨hl, errsList_cons.2 ⟨hr, rfl⟩⟩) ?_
  intro Γ Γ1 cs h hcs ht
  obtain ⟨_, _, hok⟩ := errs_bin.1 h
  match cs, hcs, ht with
  | [li, ri], hcs, ht =>
    simp only [Mono.getTys, List.cons.injEq, and_true] at ht
    obtain ⟨hl, hr⟩ := errsList_cons.1 hcs
    exact ⟨errs_bin.2 ⟨hl, (errsList_cons.1 hr).1, by rw [ht.1, ht.2]; exact hok⟩, rfl⟩
  | [], _, ht => simp [Mono.getTys] at ht
  | [_], _, ht => simp [Mono.getTys] at ht
  | _ :: _ :: _ :: _, _, ht => simp [Mono.getTys] at ht

/-! ### nodes with sub-expressions in tail position -/

theorem wt_letE {x : String} {v b : Expr} (hv : WT S v) (hb : WT S b) : WT S (.letE x v b) := by
  intro n N D Γ Γ' hy ha hev
  obtain ⟨hyv, hyb⟩ := hyp_letE hy
  obtain ⟨ev, eb⟩ := errs_letE.1 hev
  obtain ⟨vchain, vcore, vty⟩ := hv n N D Γ Γ' hyv ha ev
  have ha1 : AgreeT (D ++ keys (dec v n).L) ((x, Mono.getTy v) :: Γ)
      ((x, Mono.getTy (dec v n).c) :: extΓ (dec v n).L Γ') := by
    rw [vty]; exact (ha.ext _).cons x _
  obtain ⟨bchain, bcore, bty⟩ := hb _ N _ _ _ hyb ha1 eb
  rw [dec_letE]
  refine ⟨?_, ?_, bty⟩
  · rw [errsB_append]; simp only [errsB, vchain, vcore, bchain, List.append_nil]
  · rw [extΓ_append]; simp only [extΓ]; exact bcore

theorem wt_ite {c t e : Expr} (hc : WT S c) (ht : WT S t) (he : WT S e) : WT S (.ite c t e) := by
  intro n N D Γ Γ' hy ha hev
  obtain ⟨hic, hyt, hye⟩ := hyp_ite hy
  obtain ⟨ec, et, ee, hcb, hte⟩ := errs_ite.1 hev
  obtain ⟨cchain, ccore, cty⟩ := wt_imm S hc n N D Γ Γ' hic.frag hic.dis hic.fresh hic.bound ha ec
  have ha1 := ha.ext (decImm c n).L
  obtain ⟨t1, t2⟩ := wt_top S ht _ N _ Γ _ hyt ha1 et
  obtain ⟨e1, e2⟩ := wt_top S he _ N _ Γ _ hye ha1 ee
  rw [dec_ite]
  exact ⟨cchain, errs_ite.2 ⟨ccore, t1, e1, by rw [cty, hcb], by rw [t2, e2, hte]⟩, t2⟩

theorem wt_while {c b : Expr} (hc : WT S c) (hb : WT S b) : WT S (.while c b) := by
  intro n N D Γ Γ' hy ha hev
  obtain ⟨hyc, hyb⟩ := hyp_while hy
  obtain ⟨ec, eb, hcb⟩ := errs_while.1 hev
  obtain ⟨c1, c2⟩ := wt_top S hc n N D Γ Γ' hyc ha ec
  obtain ⟨b1, _⟩ := wt_top S hb _ N D Γ Γ' hyb ha eb
  rw [dec_while]
  exact ⟨rfl, errs_while.2 ⟨c1, b1, by rw [c2, hcb]⟩, rfl⟩

/-- `a && b` / `a || b` with a complex right operand: lowered to `if`, whose branches are `bool` -/
theorem wt_bin_lowered {op : BinOp} {ty : Ty} {l r : Expr}
    (hc : ((op == .and || op == .or) && !trivialRhs r) = true) (hl : WT S l) (hr : WT S r) :
    WT S (.bin op ty l r) := by
  intro n N D Γ Γ' hy ha hev
  obtain ⟨hil, hyr⟩ := hyp_lowered hc hy
  obtain ⟨hop, hat⟩ := lowered_iff.1 hc
  obtain ⟨el, er, hok⟩ := errs_bin.1 hev
  obtain ⟨lchain, lcore, lty⟩ := wt_imm S hl n N D Γ Γ' hil.frag hil.dis hil.fresh hil.bound ha el
  obtain ⟨r1, r2⟩ := wt_top S hr _ N _ Γ _ hyr (ha.ext (decImm l n).L) er
  -- the operands and the result of `&&` / `||` are `bool`
  have hb : Mono.getTy l = .bool ∧ Mono.getTy r = .bool ∧ ty = .bool := by
    rcases hop with rfl | rfl <;>
    · simp only [binopOk, Bool.and_eq_true, Mono.tyBeq_iff] at hok
      exact ⟨hok.1.1, hok.1.2, hok.2⟩
  obtain ⟨hA, hB, hT⟩ := hb
  rcases hop with rfl | rfl
  · rw [dec_and_lowered hat]
    exact ⟨lchain, errs_ite.2 ⟨lcore, r1, rfl, by rw [lty, hA], by rw [r2, hB]; rfl⟩, by rw [hT]; exact r2.trans hB⟩
  · rw [dec_or_lowered hat]
    exact ⟨lchain, errs_ite.2 ⟨lcore, rfl, r1, by rw [lty, hA], by rw [r2, hB]; rfl⟩, hT.symm⟩

/-- an enum constructor head becomes its tag; the check on a tag is part of the check on the constructor -/
theorem headOk_armHead {st : Ty} {lhs : Expr} (h : headOk S st lhs) : headOk S st (armHead lhs) := by
  cases lhs <;> try exact h
  rename_i c ty args
  cases c with
  | struct sn => exact h
  | enum tn vn idx => exact h.1

def WTA (arms : List Arm) : Prop :=
  ∀ (n N : Nat) (D : List String) (Γ Γ' : TyEnv) (st rt : Ty),
    fragArms arms = true → (∀ x ∈ namesArms arms, x ∉ D) →
    (∀ m, n ≤ m → m < N → tmpName m ∉ namesArms arms) → (anfArms arms n).2 ≤ N →
    AgreeT D Γ Γ' → errsArms S Γ st rt arms = [] → errsArms S Γ' st rt (anfArms arms n).1 = []

theorem wtA_nil : WTA S [] := by
  intro n N D Γ Γ' st rt _ _ _ _ _ _
  rfl

theorem wtA_cons {lhs body : Expr} {rest : List Arm} (hb : WT S body) (hr : WTA S rest) :
    WTA S (.mk lhs body :: rest) := by
  intro n N D Γ Γ' st rt hf hd hfr hbd ha hev
  obtain ⟨hyb, hyr⟩ := hypA_cons (hypA_none hf hd hfr hbd)
  obtain ⟨hfr', hdr, hfrr, hbr⟩ := hypA_arms hyr
  obtain ⟨hhead, hbody, hbty, hrest⟩ := Wt.errsArms_cons.1 hev
  obtain ⟨b1, b2⟩ := wt_top S hb n N D Γ Γ' hyb ha hbody
  rw [anfArms_cons]
  exact Wt.errsArms_cons.2 ⟨headOk_armHead S hhead, b1, by rw [b2, hbty],
    hr (dec body n).n N D Γ Γ' st rt hfr' hdr hfrr hbr ha hrest⟩

theorem wt_matchE {ty : Ty} {s : Expr} {arms : List Arm} {d : Option Expr}
    (hs' : WT S s) (hA : WTA S arms) (hD : ∀ e, d = some e → WT S e) : WT S (.matchE ty s arms d) := by
  intro n N D Γ Γ' hy ha hev
  obtain ⟨his, hyA⟩ := hyp_matchE hy
  obtain ⟨hfa, hda, hfra, hba⟩ := hypA_arms hyA
  have ha1 := ha.ext (decImm s n).L
  obtain ⟨es, ea, ed⟩ := errs_matchE.1 hev
  obtain ⟨schain, score, sty⟩ := wt_imm S hs' n N D Γ Γ' his.frag his.dis his.fresh his.bound ha es
  have hAr := hA (decImm s n).n N _ Γ _ _ _ hfa hda hfra hba ha1 ea
  rw [dec_matchE]
  refine ⟨schain, errs_matchE.2 ⟨score, by rw [sty]; exact hAr, ?_⟩, rfl⟩
  cases d with
  | none => intro d0 h0; cases h0
  | some d0 =>
    obtain ⟨d1, d2⟩ := wt_top S (hD d0 rfl) _ N _ Γ _ (hypD_some (hypA_dflt hyA)) ha1 (ed d0 rfl).1
    intro d' h'
    cases h'
    exact ⟨d1, d2.trans (ed d0 rfl).2⟩

mutual
theorem wt_all : ∀ (e : Expr), WT S e
  | .var x ty => wt_var S x ty
  | .prim p => wt_prim S p
  | .tag idx ty => fun _ _ _ _ _ hy => (hyp_absurd (by simp [frag]) hy).elim
  | .closure ty ps b => fun _ _ _ _ _ hy => (hyp_absurd (by simp [frag]) hy).elim
  | .traitCall tr m ty recv args => fun _ _ _ _ _ hy => (hyp_absurd (by simp [frag]) hy).elim
  | .constr (.enum tn vn idx) ty [] => wt_constr_nullary S
  | .constr (.struct sn) ty [] => wt_constr S (fun _ _ _ h => by cases h) (wtL_all [])
  | .constr c ty (a :: as) => wt_constr S (fun _ _ _ _ => by simp) (wtL_all (a :: as))
  | .tuple ty items => wt_tuple S (wtL_all items)
  | .array ty items => wt_array S (wtL_all items)
  | .letE x v b => wt_letE S (wt_all v) (wt_all b)
  | .ite c t e => wt_ite S (wt_all c) (wt_all t) (wt_all e)
  | .while c b => wt_while S (wt_all c) (wt_all b)
  | .go e => wt_go S (wt_all e)
  | .matchE ty s arms d => wt_matchE S (wt_all s) (wtA_all arms) (wtD_all d)
  | .cget c idx ty e => wt_cget S (wt_all e)
  | .un op ty e => wt_un S (wt_all e)
  | .bin op ty l r => by
    cases hc : ((op == .and || op == .or) && !trivialRhs r)
    · exact wt_bin_plain S hc (wtL_cons S (wt_imm S (wt_all l)) (wtL_cons S (wt_imm S (wt_all r)) (wtL_nil S)))
    · exact wt_bin_lowered S hc (wt_all l) (wt_all r)
  | .call ty f args => wt_call S (wtL_cons S (wt_imm S (wt_all f)) (wtL_all args))
  | .toDyn tr forTy ty e => wt_toDyn S (wt_all e)
  | .dynCall tr m ty recv args => wt_dynCall S (wtL_cons S (wt_imm S (wt_all recv)) (wtL_all args))
  | .proj idx ty e => wt_proj S (wt_all e)
theorem wtL_all : ∀ (es : List Expr), WTL S es
  | [] => wtL_nil S
  | e :: rest => wtL_cons S (wt_imm S (wt_all e)) (wtL_all rest)
theorem wtA_all : ∀ (arms : List Arm), WTA S arms
  | [] => wtA_nil S
  | .mk _ body :: rest => wtA_cons S (wt_all body) (wtA_all rest)
theorem wtD_all : ∀ (d : Option Expr) (e : Expr), d = some e → WT S e
  | none, _, h => by cases h
  | some e, _, h => (Option.some.inj h) ▸ wt_all e
end

end Goml.Anf
