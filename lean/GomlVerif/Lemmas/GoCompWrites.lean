import GomlVerif.Lemmas.GoCompShape
import GomlVerif.Lemmas.DceScope
import GomlVerif.Lemmas.GoCompEmit
/-!
What the statements `GoCompile` emits can assign: only the target of the lowering mode and variables
the statements declare themselves (`let`-bound variables lowered through `var x T; … x = …`, the
condition variable of a loop).  Holds of every ANF expression (no fragment hypothesis).  The scope proof
(`clean_tswitch` of GoCompScope) needs it: a type switch never assigns its binding.
-/
namespace Goml.GoComp
open Goml Goml.Go Goml.GoCompile Goml.GoFrag
open Goml.Dce (writesStmts writesStmt writesCases writesTCases mem_uni mem_writes_append)

attribute [local irreducible] Goml.GoCompile.vn Goml.GoCompile.gid Goml.GoCompile.rn

/-- the names the compiled arms declare (nested included) -/
def armDecls : List (Imm × List GStmt) → List String
  | [] => []
  | p :: rest => ndDecls p.2 ++ armDecls rest

def optDecls : Option (List GStmt) → List String
  | some b => ndDecls b
  | none => []

theorem armDecls_typeCases (env : Env) : ∀ ra : List (Imm × List GStmt), ndDeclsTCases (typeCases env ra) = armDecls ra
  | [] => rfl
  | (lhs, body) :: rest => by simp [typeCases, ndDeclsTCases, armDecls, armDecls_typeCases env rest]

theorem armDecls_valueCases (k : MatchKind) : ∀ ra : List (Imm × List GStmt), ndDeclsCases (valueCases k ra) = armDecls ra
  | [] => rfl
  | (lhs, body) :: rest => by simp [valueCases, ndDeclsCases, armDecls, armDecls_valueCases k rest]

/-- the variable a lowering mode assigns -/
def tgtName : Mode → List String
  | .effect => []
  | .assign t => [gid t]

/-- `S` assigns only the mode's target and its own declarations -/
def WOK (m : Mode) (S : List GStmt) : Prop := ∀ y, y ∈ writesStmts S → y ∈ tgtName m ∨ y ∈ ndDecls S

theorem mem_writes_cons (y : String) (s : GStmt) (rest : List GStmt) :
    y ∈ writesStmts (s :: rest) ↔ y ∈ writesStmt s ∨ y ∈ writesStmts rest := by
  simp [writesStmts, mem_uni]

theorem mem_ndDecls_cons (y : String) (s : GStmt) (rest : List GStmt) :
    y ∈ ndDecls (s :: rest) ↔ y ∈ ndDeclsOf s ∨ y ∈ ndDecls rest := by
  simp [ndDecls]

theorem WOK.nil (m : Mode) : WOK m [] := by intro y hy; simp [writesStmts] at hy

theorem WOK.append {m : Mode} {a b : List GStmt} (ha : WOK m a) (hb : WOK m b) : WOK m (a ++ b) := by
  intro y hy
  rw [mem_writes_append] at hy
  rw [ndDecls_append, List.mem_append]
  rcases hy with hy | hy
  · exact (ha y hy).imp id Or.inl
  · exact (hb y hy).imp id Or.inr

theorem writes_simple (env : Env) (m : Mode) (c : CExpr) : ∀ y, y ∈ writesStmts (compileSimple env m c) → y ∈ tgtName m := by
  intro y hy
  have hv := compileSimple_view env m c
  generalize compileSimple env m c = S at hv hy
  cases hv with
  | go e ty => obtain ⟨X, hX⟩ := compileGo_isGo env e; rw [hX] at hy; simp [writesStmts, writesStmt] at hy
  | goUnit t e ty =>
    obtain ⟨X, hX⟩ := compileGo_isGo env e
    rw [hX] at hy
    simpa [writesStmts, writesStmt, mem_uni, tgtName] using hy
  | assign t c _ => simpa [writesStmts, writesStmt, mem_uni, tgtName] using hy
  | missing _ _ _ _ _ | expr c _ | drop c _ _ => simp [writesStmts, writesStmt] at hy

theorem writes_bindSimple (env : Env) (x : String) (v : CExpr) : writesStmts (compileBindSimple env x v) = [] := by
  have hv := compileBindSimple_view env x v
  generalize compileBindSimple env x v = S at hv
  cases hv with
  | go e ty => obtain ⟨X, hX⟩ := compileGo_isGo env e; rw [hX]; simp [writesStmts, writesStmt, Goml.Dce.uni]
  | decl v _ => simp [writesStmts, writesStmt, Goml.Dce.uni]

/-- what the compiled arms assign -/
def armWrites : List (Imm × List GStmt) → List String
  | [] => []
  | p :: rest => writesStmts p.2 ++ armWrites rest

def optWrites : Option (List GStmt) → List String
  | some b => writesStmts b
  | none => []

theorem mem_writesTCases (env : Env) (y : String) : ∀ ra : List (Imm × List GStmt),
    y ∈ writesTCases (typeCases env ra) ↔ y ∈ armWrites ra
  | [] => by simp [typeCases, writesTCases, armWrites]
  | (lhs, body) :: rest => by
    simp only [typeCases, writesTCases, armWrites, mem_uni, List.mem_append, mem_writesTCases env y rest]

theorem mem_writesCases (k : MatchKind) (y : String) : ∀ ra : List (Imm × List GStmt),
    y ∈ writesCases (valueCases k ra) ↔ y ∈ armWrites ra
  | [] => by simp [valueCases, writesCases, armWrites]
  | (lhs, body) :: rest => by
    simp only [valueCases, writesCases, armWrites, mem_uni, List.mem_append, mem_writesCases k y rest]

theorem writes_switch (e : GExpr) (cs : List GCase) (d : Option (List GStmt)) (y : String) :
    y ∈ writesStmt (.switch e cs d) ↔ y ∈ writesCases cs ∨ y ∈ optWrites d := by
  cases d <;> simp [writesStmt, mem_uni, optWrites]

theorem writes_tswitch (b : Option String) (e : GExpr) (cs : List GTCase) (d : Option (List GStmt)) (y : String) :
    y ∈ writesStmt (.tswitch b e cs d) ↔ y ∈ writesTCases cs ∨ y ∈ optWrites d := by
  cases d <;> simp [writesStmt, mem_uni, optWrites]

theorem ndDecls_single (s : GStmt) : ndDecls [s] = ndDeclsOf s := by simp [ndDecls]

/-- the statement a `match` on an enum / a literal becomes assigns what its clauses assign -/
theorem wok_switchlike {m : Mode} {s : GStmt} {ra : List (Imm × List GStmt)} {rd : Option (List GStmt)}
    (hw : ∀ y, y ∈ writesStmt s → y ∈ armWrites ra ∨ y ∈ optWrites rd)
    (hd : ndDeclsOf s = armDecls ra ++ optDecls rd)
    (ha : ∀ y, y ∈ armWrites ra → y ∈ tgtName m ∨ y ∈ armDecls ra)
    (hdd : ∀ y, y ∈ optWrites rd → y ∈ tgtName m ∨ y ∈ optDecls rd) : WOK m [s] := by
  intro y hy
  rw [mem_writes_cons] at hy
  rw [ndDecls_single, hd, List.mem_append]
  rcases hy with hy | hy
  · rcases hw y hy with h | h
    · exact (ha y h).imp id Or.inl
    · exact (hdd y h).imp id Or.inr
  · simp [writesStmts] at hy

theorem mem_armWrites {y : String} : ∀ {ra : List (Imm × List GStmt)}, y ∈ armWrites ra ↔ ∃ p, p ∈ ra ∧ y ∈ writesStmts p.2
  | [] => by simp [armWrites]
  | p :: ra => by simp [armWrites, mem_armWrites (ra := ra)]

theorem mem_armDecls {y : String} : ∀ {ra : List (Imm × List GStmt)}, y ∈ armDecls ra ↔ ∃ p, p ∈ ra ∧ y ∈ ndDecls p.2
  | [] => by simp [armDecls]
  | p :: ra => by simp [armDecls, mem_armDecls (ra := ra)]

theorem arms_wok {m : Mode} {arms : List AArm} {ra : List (Imm × List GStmt)} (h : ArmsFrom (fun m _ S => WOK m S) m arms ra) :
    ∀ y, y ∈ armWrites ra → y ∈ tgtName m ∨ y ∈ armDecls ra := by
  intro y hy
  obtain ⟨p, hp, hy⟩ := mem_armWrites.mp hy
  obtain ⟨_, _, _, _, hw⟩ := h p hp
  exact (hw y hy).imp id (fun h => mem_armDecls.mpr ⟨p, hp, h⟩)

theorem dflt_wok {m : Mode} {d : ADflt} {rd : Option (List GStmt)} (h : DfltFrom (fun m _ S => WOK m S) m d rd) :
    ∀ y, y ∈ optWrites rd → y ∈ tgtName m ∨ y ∈ optDecls rd := by
  cases rd with
  | none => intro y hy; cases hy
  | some S => obtain ⟨_, _, hw⟩ := h S rfl; exact hw

theorem ndDecls_whileStmts (m : Mode) (cv : String) (Sc Sb : List GStmt) :
    ndDecls (whileStmts m cv Sc Sb) = gid cv :: (ndDecls Sc ++ ndDecls Sb) := by
  cases m <;> simp [whileStmts, brkUnless, ndDecls, ndDeclsOf, ndDecls_append]

theorem writes_whileStmts (m : Mode) (cv : String) (Sc Sb : List GStmt) (y : String) :
    y ∈ writesStmts (whileStmts m cv Sc Sb) ↔ y ∈ writesStmts Sc ∨ y ∈ writesStmts Sb ∨ y ∈ tgtName m := by
  cases m <;> simp [whileStmts, brkUnless, mem_writes_append, writesStmt, writesStmts, mem_uni, tgtName, or_assoc]

theorem wok_letC {m : Mode} {x : String} {T : GTy} {S1 S2 : List GStmt} (h1 : WOK (.assign (rn x)) S1) (h2 : WOK m S2) :
    WOK m (.varDecl (vn x) T none :: (S1 ++ S2)) := by
  intro y hy
  rw [mem_writes_cons, mem_writes_append] at hy
  rw [ndDecls_varDecl, ndDecls_append, List.mem_cons, List.mem_append]
  rcases hy with hy | hy | hy
  · simp [writesStmt] at hy
  · rcases h1 y hy with h | h
    · simp only [tgtName, List.mem_singleton] at h
      exact Or.inr (Or.inl (by rw [h, ← vn_def]))
    · exact Or.inr (Or.inr (Or.inl h))
  · exact (h2 y hy).imp id (fun h => Or.inr (Or.inr h))

theorem wok_ite {m : Mode} {c : GExpr} {St Se : List GStmt} (ht : WOK m St) (he : WOK m Se) : WOK m [.ite c St (some Se)] := by
  intro y hy
  rw [mem_writes_cons] at hy
  rw [ndDecls_ite, List.mem_append]
  rcases hy with hy | hy
  · simp only [writesStmt, mem_uni] at hy
    exact hy.elim (fun hy => (ht y hy).imp id Or.inl) (fun hy => (he y hy).imp id Or.inr)
  · simp [writesStmts] at hy

theorem wok_loop {m : Mode} {cv : String} {Sc Sb : List GStmt} (hc : WOK (.assign cv) Sc) (hb : WOK .effect Sb) :
    WOK m (whileStmts m cv Sc Sb) := by
  intro y hy
  rw [ndDecls_whileStmts, List.mem_cons, List.mem_append]
  rcases (writes_whileStmts m cv Sc Sb y).mp hy with hy | hy | hy
  · rcases hc y hy with h | h
    · exact Or.inr (Or.inl (by simpa [tgtName] using h))
    · exact Or.inr (Or.inr (Or.inl h))
  · rcases hb y hy with h | h
    · simp [tgtName] at h
    · exact Or.inr (Or.inr (Or.inr h))
  · exact Or.inl hy

theorem wok_tswitch (env : Env) {m : Mode} {arms : List AArm} {d : ADflt} {b : Option String} {e : GExpr}
    {ras : List (Imm × List GStmt)} {rd : Option (List GStmt)} (ha : ArmsFrom (fun m _ S => WOK m S) m arms ras)
    (hd : DfltFrom (fun m _ S => WOK m S) m d rd) : WOK m [.tswitch b e (typeCases env ras) rd] :=
  wok_switchlike (fun y hy => by rwa [writes_tswitch, mem_writesTCases] at hy)
    (by rw [← ndDecls_single, ndDecls_tswitch, armDecls_typeCases]; cases rd <;> rfl) (arms_wok ha) (dflt_wok hd)

theorem wok_switch {m : Mode} {arms : List AArm} {d : ADflt} {k : MatchKind} {e : GExpr}
    {ras : List (Imm × List GStmt)} {rd : Option (List GStmt)} (ha : ArmsFrom (fun m _ S => WOK m S) m arms ras)
    (hd : DfltFrom (fun m _ S => WOK m S) m d rd) : WOK m [.switch e (valueCases k ras) rd] :=
  wok_switchlike (fun y hy => by rwa [writes_switch, mem_writesCases] at hy)
    (by rw [← ndDecls_single, ndDecls_switch, armDecls_valueCases]; cases rd <;> rfl) (arms_wok ha) (dflt_wok hd)

theorem wok_rules (env : Env) : EmitRules env (fun m _ S => WOK m S) (fun m _ S => WOK m S) where
  simple m c _ := fun y hy => Or.inl (writes_simple env m c y hy)
  letC _ _ _ _ _ _ _ _ h1 h2 := wok_letC h1 h2
  letS _ x v _ _ _ _ h2 := WOK.append (fun y hy => by rw [writes_bindSimple] at hy; cases hy) h2
  ite _ _ _ _ _ _ _ ht he := wok_ite ht he
  loop _ _ _ _ _ _ _ hc hb := wok_loop hc hb
  unitArm _ _ _ _ _ _ _ _ _ h := h
  unitDflt _ _ _ _ _ _ h := h
  nothing m _ _ _ _ := WOK.nil m
  tswitch _ _ _ _ _ _ _ _ ha hd := wok_tswitch env ha hd
  switch _ _ _ _ _ _ _ _ ha hd := wok_switch ha hd

theorem writesA (env : Env) : ∀ (e : AExpr) (m : Mode) (st : St), WOK m (compileA env m st e).1 :=
  compileA_ind (wok_rules env)

theorem writesT (env : Env) : ∀ (c : CExpr) (m : Mode) (st : St), WOK m (compileTail env m st c).1 :=
  compileTail_ind (wok_rules env)

theorem writesFirst (env : Env) : ∀ (arms : List AArm) (m : Mode) (st : St), WOK m (compileFirstArm env m st arms).1
  | [], m, _ => WOK.nil m
  | .mk _ body :: _, m, st => writesA env body m st

theorem writesDU (env : Env) : ∀ (d : ADflt) (m : Mode) (st : St), WOK m (compileDfltUnit env m st d).1
  | .none, m, _ => WOK.nil m
  | .some e, m, st => writesA env e m st

end Goml.GoComp
