import GomlVerif.Lemmas.LowerOk
/-! The three views of `core` (`Lemmas/LowerOk.lean`) that the properties are stated in: what each function of the mutual
block of `Model/Lower.lean` establishes (`coreOk`), the same with the classification forgotten — the binder stack is
balanced and the model never gets stuck (`coreBal`) —, and that twice the size of the node is fuel enough (`coreNS`).
Types and patterns: `Lemmas/LowerOk.lean`. -/
namespace Goml.Lower
open Goml.Src

variable {α : Type} {Γ : List String} {ok : Prop}

/-- `Ext` that also says what a failure leaves: a computation that returns no result has pushed nothing.
`lowerStmts` runs `opt (lowerStmt …)` and carries on with the rest of the block after a failed statement, so the
stack the rest starts on must be known in that case as well. -/
def ExtN {α} (Γ : List String) (m : M α) (P : α → List String → Prop) : Prop :=
  ∀ s : St, s.locals = Γ →
    ∃ ext, (m s).2.locals = Γ ++ ext ∧ (m s).2.stuck = s.stuck ∧ (∀ a, (m s).1 = some a → P a ext) ∧
      ((m s).1 = none → ext = [])

theorem ExtN.weaken {m : M α} {P Q : α → List String → Prop} (h : ExtN Γ m P) (hpq : ∀ a e, P a e → Q a e) :
    ExtN Γ m Q := by
  intro s hs
  obtain ⟨e, h1, h2, h3, h4⟩ := h s hs
  exact ⟨e, h1, h2, fun a ha => hpq a e (h3 a ha), h4⟩

theorem Tri.extN {m : M α} {P : α → List String → Prop}
    (h : Tri ok Γ m (fun o Δ => ∃ e, Δ = Γ ++ e ∧ (∀ a, o = some a → P a e) ∧ (o = none → e = []))) : ExtN Γ m P :=
  fun s hs =>
  have ⟨h1, _, e, h3, h4, h5⟩ := h s hs
  ⟨e, h3, h1, h4, h5⟩

/-- `exprW` assumes the arguments of the pending operations `tr` classified.  `stmts` is an `Ext`, not an `ExtN`: nothing
carries on after a failure of `lowerStmts`. -/
structure CoreOk (C : List String) (n : Nat) : Prop where
  exprW : ∀ node tr Γ, (∀ t ∈ tr, OkT C Γ t) → Bal Γ (lowerExprW C n node tr) (OkE C Γ)
  branch : ∀ br msg Γ, Bal Γ (lowerBranch C n br msg) (OkE C Γ)
  fieldInit : ∀ f Γ, Bal Γ (lowerFieldInit C n f) (OkF C Γ)
  arg : ∀ a Γ, Bal Γ (lowerArg C n a) (OkE C Γ)
  arm : ∀ a Γ, Bal Γ (lowerArm C n a) (OkArm C Γ)
  stmt : ∀ st Γ, ExtN Γ (lowerStmt C n st) (fun e ext => OkItems C Γ [e] ∧ ext = itemsBinds [e])
  stmts : ∀ sts Γ, Ext Γ (lowerStmts C n sts) (fun es ext => OkItems C Γ es ∧ ext = itemsBinds es)
  block : ∀ b Γ, Bal Γ (lowerBlock C n b) (OkE C Γ)

/-- where the bounds come from: `Core` -/
structure CoreNS (C : List String) (n : Nat) : Prop where
  exprW : ∀ node tr, 2 * node.size ≤ n → NS (lowerExprW C n node tr)
  branch : ∀ br msg, 2 * br.size ≤ n → NS (lowerBranch C n br msg)
  fieldInit : ∀ f, 2 * f.size ≤ n → NS (lowerFieldInit C n f)
  arg : ∀ a, 2 * a.size ≤ n → NS (lowerArg C n a)
  arm : ∀ a, 2 * a.size ≤ n → NS (lowerArm C n a)
  stmt : ∀ st, 2 * st.size ≤ n → NS (lowerStmt C n st)
  stmts : ∀ sts, 2 * Cst.sizeList sts + 1 ≤ n → NS (lowerStmts C n sts)
  block : ∀ b, 2 * b.size ≤ n → NS (lowerBlock C n b)

structure CoreBal (C : List String) (n : Nat) : Prop where
  exprW : ∀ node tr Γ, Bal Γ (lowerExprW C n node tr) (fun _ => True)
  branch : ∀ br msg Γ, Bal Γ (lowerBranch C n br msg) (fun _ => True)
  fieldInit : ∀ f Γ, Bal Γ (lowerFieldInit C n f) (fun _ => True)
  arg : ∀ a Γ, Bal Γ (lowerArg C n a) (fun _ => True)
  arm : ∀ a Γ, Bal Γ (lowerArm C n a) (fun _ => True)
  stmt : ∀ st Γ, Ext Γ (lowerStmt C n st) (fun _ _ => True)
  stmts : ∀ sts Γ, Ext Γ (lowerStmts C n sts) (fun _ _ => True)
  block : ∀ b Γ, Bal Γ (lowerBlock C n b) (fun _ => True)

theorem coreOk (C : List String) : ∀ n, CoreOk C n := fun n =>
  have h := core C n
  { exprW := fun node tr Γ htr => (h.exprW node tr Γ htr).bal
    branch := fun br msg Γ => (h.branch br msg Γ).bal
    fieldInit := fun f Γ => (h.fieldInit f Γ).bal
    arg := fun a Γ => (h.arg a Γ).bal
    arm := fun a Γ => (h.arm a Γ).bal
    -- `StmtPost` in the vocabulary of `ExtN`: what was pushed is `optBinds o`
    stmt := fun st Γ => ((h.stmt st Γ).weaken fun o _ ⟨hok, hΔ⟩ =>
      ⟨optBinds o, hΔ, fun a ha => ⟨hok a ha, ha ▸ rfl⟩, fun ho => ho ▸ rfl⟩).extN
    stmts := fun sts Γ => (h.stmts sts Γ).ext
    block := fun b Γ => (h.block b Γ).bal }

theorem coreBal (C : List String) : ∀ n, CoreBal C n := fun n =>
  have h := core C n
  { exprW := fun node tr Γ => (h.exprWAll node tr Γ).toT.bal
    branch := fun br msg Γ => (h.branch br msg Γ).toT.bal
    fieldInit := fun f Γ => (h.fieldInit f Γ).toT.bal
    arg := fun a Γ => (h.arg a Γ).toT.bal
    arm := fun a Γ => (h.arm a Γ).toT.bal
    stmt := fun st Γ => ((h.stmt st Γ).weaken fun o _ hΔ => ⟨optBinds o, hΔ.2, fun _ _ => trivial⟩).ext
    stmts := fun sts Γ => ((h.stmts sts Γ).weaken fun _ _ ⟨e, hΔ, _⟩ => ⟨e, hΔ, fun _ _ => trivial⟩).ext
    block := fun b Γ => (h.block b Γ).toT.bal }

theorem coreNS (C : List String) : ∀ n, CoreNS C n := fun n =>
  have h := core C n
  { exprW := fun node tr hn => Run.ns (h.exprWAll node tr) hn
    branch := fun br msg hn => Run.ns (h.branch br msg) hn
    fieldInit := fun f hn => Run.ns (h.fieldInit f) hn
    arg := fun a hn => Run.ns (h.arg a) hn
    arm := fun a hn => Run.ns (h.arm a) hn
    stmt := fun st hn => Tri.ns (h.stmt st) hn
    stmts := fun sts hn => Tri.ns (h.stmts sts) hn
    block := fun b hn => Run.ns (h.block b) hn }

end Goml.Lower
