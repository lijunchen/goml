import GomlVerif.Model.LiftSim
import GomlVerif.Lemmas.ValRel
/-!
C08: the simulation relation between a Mono program `P` and its lifted form `P'` under `Sem`.

A source closure value `closure ps body ρ` is related to an environment struct value
`structV n vs'` when `P'` has the apply function of `n`, its body is the accepted lifting of
`body` wrapped in the rebinding of the captured variables `ys`, and the fields `vs'` are related
to the values of `ys` in `ρ` (`CapRel`).  References are related to themselves: captured `Ref`
cells are the same store locations.  Related structs promise every target field the shape `P'` declares for it (what
`cgetShape` answers for a field read); `fn name ~ fn name` says that an extern of `P` stays an extern of `P'`.
-/
namespace Goml.Lift
open Goml Goml.Sem

mutual
/-- a target value has the statically known shape -/
def HasShape : Shape → Val → Prop
  | .any, _ => True
  | .clo n, v => ∃ vs, v = .structV n vs
  | .tup ss, v => ∃ vs, v = .tuple vs ∧ HasShapes ss vs
def HasShapes : List Shape → List Val → Prop
  | [], vs => vs = []
  | s :: ss, vs => ∃ v rest, vs = v :: rest ∧ HasShape s v ∧ HasShapes ss rest
end

/-- what `var x` evaluates to -/
def valOf (ρ : Sem.Env) (x : String) : Val := (lookupEnv ρ x).getD (.fn x)

section
variable (P P' : Prog)

mutual
inductive VRel : Val → Val → Prop
  | unit : VRel .unit .unit
  | bool (b : Bool) : VRel (.bool b) (.bool b)
  | int (b : Nat) (s : Bool) (v : Int) : VRel (.int b s v) (.int b s v)
  | float (b : Nat) (x : Float) : VRel (.float b x) (.float b x)
  | str (s : String) : VRel (.str s) (.str s)
  | tuple {vs vs' : List Val} : VRelList vs vs' → VRel (.tuple vs) (.tuple vs')
  | enumV {t : String} {i : Nat} {vs vs' : List Val} : VRelList vs vs' → VRel (.enumV t i vs) (.enumV t i vs')
  | structV {n : String} {vs vs' : List Val} : VRelList vs vs' →
      (∀ i v', vs'[i]? = some v' → HasShape (fieldShape P' n i) v') → VRel (.structV n vs) (.structV n vs')
  | array {vs vs' : List Val} : VRelList vs vs' → VRel (.array vs) (.array vs')
  | vec {vs vs' : List Val} : VRelList vs vs' → VRel (.vec vs) (.vec vs')
  | ref (l : Nat) : VRel (.ref l) (.ref l)
  | fn (name : String) : (P.findFn name = none → P'.findFn name = none) → VRel (.fn name) (.fn name)
  | dyn {tr key : String} {v v' : Val} : VRel v v' → VRel (.dyn tr key v) (.dyn tr key v')
  | closure {n envp : String} {ps ys : List String} {body body' : Expr} {fn : Fn} {Γ : SEnv} {S : List String}
      {s : Shape} {ρ : Sem.Env} {vs' : List Val} :
      P'.findFn (applyFnName n) = some fn →
      fn.params.map (·.1) = envp :: ps →
      unrebind n envp 0 ys fn.body = some body' →
      simE P P' (ys.map (fun y => (y, Γ.get y))) (ps ++ S) (ys ++ ps ++ [envp]) body body' = some s →
      (∀ y, y ∈ ys → y ∈ S ∧ y ∉ ps ∧ y ≠ envp) →
      (∀ p, p ∈ ps → p ∉ S ∧ p ≠ envp ∧ globalOk P P' p = true) →
      envp ∉ S →
      (∀ x, x ∉ S → lookupEnv ρ x = none) →
      CapRel Γ ρ ys vs' →
      VRel (.closure ps body ρ) (.structV n vs')
inductive VRelList : List Val → List Val → Prop
  | nil : VRelList [] []
  | cons {v v' : Val} {vs vs' : List Val} : VRel v v' → VRelList vs vs' → VRelList (v :: vs) (v' :: vs')
/-- the fields of an environment struct against the captured variables' values at creation -/
inductive CapRel : SEnv → Sem.Env → List String → List Val → Prop
  | nil {Γ : SEnv} {ρ : Sem.Env} : CapRel Γ ρ [] []
  | cons {Γ : SEnv} {ρ : Sem.Env} {y : String} {ys : List String} {v' : Val} {vs' : List Val} :
      VRel (valOf ρ y) v' → HasShape (Γ.get y) v' → CapRel Γ ρ ys vs' → CapRel Γ ρ (y :: ys) (v' :: vs')
end

structure WRel (w w' : World) : Prop where
  out : w.out = w'.out
  store : VRelList P P' w.store.toList w'.store.toList
  spawned : VRelList P P' w.spawned w'.spawned
  externs : w.externs = w'.externs
  eager : w.eager = w'.eager

/-- `S`/`T`: names that may be bound in the source/target environment; on their intersection
    the values correspond and the target value has the shape recorded in `Γ` -/
structure EnvRel (Γ : SEnv) (S T : List String) (ρ ρ' : Sem.Env) : Prop where
  rel : ∀ x, x ∈ S → x ∈ T → VRel P P' (valOf ρ x) (valOf ρ' x) ∧ HasShape (Γ.get x) (valOf ρ' x)
  src : ∀ x, x ∉ S → lookupEnv ρ x = none
  tgt : ∀ x, x ∉ T → lookupEnv ρ' x = none

end

/-- the source run neither ran out of fuel nor got stuck -/
def Good {α : Type} : Res α → Prop
  | .ok _ _ => True
  | .fail (.panic _) _ => True
  | _ => False

section
variable (P P' : Prog)

def ResRel (s : Shape) : Res Val → Res Val → Prop
  | .ok v w, .ok v' w' => VRel P P' v v' ∧ HasShape s v' ∧ WRel P P' w w'
  | .fail f w, .fail f' w' => f = f' ∧ WRel P P' w w'
  | _, _ => False

def ResRelL (ss : List Shape) : Res (List Val) → Res (List Val) → Prop
  | .ok vs w, .ok vs' w' => VRelList P P' vs vs' ∧ HasShapes ss vs' ∧ WRel P P' w w'
  | .fail f w, .fail f' w' => f = f' ∧ WRel P P' w w'
  | _, _ => False

end

section
variable {P P' : Prog}

theorem vrelList_iff {vs vs' : List Val} : VRelList P P' vs vs' ↔ ListRel (VRel P P') vs vs' := by
  induction vs generalizing vs' with
  | nil => exact ⟨fun h => by cases h; exact .nil, fun h => by cases h; exact .nil⟩
  | cons a as ih =>
    exact ⟨fun h => by cases h with | cons h t => exact .cons h (ih.1 t),
      fun h => by cases h with | cons h t => exact .cons h (ih.2 t)⟩

theorem VRelList.get {vs vs' : List Val} (h : VRelList P P' vs vs') (i : Nat) :
    (vs[i]? = none ∧ vs'[i]? = none) ∨ ∃ v v', vs[i]? = some v ∧ vs'[i]? = some v' ∧ VRel P P' v v' :=
  ((vrelList_iff.1 h).get i).cases

theorem VRelList.append {vs vs' us us' : List Val} (h : VRelList P P' vs vs') (h2 : VRelList P P' us us') :
    VRelList P P' (vs ++ us) (vs' ++ us') :=
  vrelList_iff.2 ((vrelList_iff.1 h).append (vrelList_iff.1 h2))

theorem VRelList.singleton {v v' : Val} (h : VRel P P' v v') : VRelList P P' [v] [v'] := .cons h .nil

/-- the relation is one the operators and builtins respect (`Lemmas/ValRel.lean`); a closure and the
    environment struct it is lifted to both have the head of an opaque value -/
theorem respects : Respects (VRel P P') where
  head_eq h := by cases h <;> rfl
  atom {a} h := by cases a <;> first | (cases h; done) | constructor
  array := ⟨fun h => by cases h with | array h => exact vrelList_iff.1 h, fun h => .array (vrelList_iff.2 h)⟩
  vec := ⟨fun h => by cases h with | vec h => exact vrelList_iff.1 h, fun h => .vec (vrelList_iff.2 h)⟩

theorem wrel_iff {w w' : World} : WRel P P' w w' ↔ WorldRel (VRel P P') w w' :=
  ⟨fun h => ⟨h.out, vrelList_iff.1 h.store, vrelList_iff.1 h.spawned, h.externs, h.eager⟩,
    fun h => ⟨h.out, vrelList_iff.2 h.store, vrelList_iff.2 h.spawned, h.externs, h.eager⟩⟩

theorem HasShape.any (v : Val) : HasShape .any v := by simp [HasShape]

mutual
theorem HasShape.mono : ∀ (a b : Shape) (v : Val), shapeLe a b = true → HasShape a v → HasShape b v
  | a, .any, v, _, _ => HasShape.any v
  | .clo n, .clo m, v, h, hv => by
    simp [shapeLe] at h; subst h; exact hv
  | .tup ss, .tup ts, v, h, hv => by
    simp only [shapeLe] at h
    simp only [HasShape] at hv ⊢
    obtain ⟨vs, rfl, hvs⟩ := hv
    exact ⟨vs, rfl, HasShapes.mono ss ts vs h hvs⟩
  | .any, .clo _, _, h, _ | .any, .tup _, _, h, _ | .clo _, .tup _, _, h, _ | .tup _, .clo _, _, h, _ => by
    simp [shapeLe] at h
theorem HasShapes.mono : ∀ (ss ts : List Shape) (vs : List Val), shapeLeList ss ts = true → HasShapes ss vs → HasShapes ts vs
  | [], [], vs, _, h => h
  | a :: ss, b :: ts, vs, h, hv => by
    simp only [shapeLeList, Bool.and_eq_true] at h
    simp only [HasShapes] at hv ⊢
    obtain ⟨v, rest, rfl, hhead, htail⟩ := hv
    exact ⟨v, rest, rfl, HasShape.mono a b v h.1 hhead, HasShapes.mono ss ts rest h.2 htail⟩
  | [], _ :: _, _, h, _ | _ :: _, [], _, h, _ => by simp [shapeLeList] at h
end

theorem HasShape.proj {s : Shape} {vs : List Val} {i : Nat} {v : Val}
    (h : HasShape s (.tuple vs)) (hi : vs[i]? = some v) : HasShape (s.proj i) v := by
  cases s with
  | any => exact HasShape.any v
  | clo n => exact HasShape.any v
  | tup ss =>
    simp only [HasShape] at h
    obtain ⟨vs0, h0, hs⟩ := h
    cases h0
    simp only [Shape.proj]
    induction ss generalizing vs i with
    | nil => simp only [HasShapes] at hs; subst hs; simp at hi
    | cons a ss ih =>
      simp only [HasShapes] at hs
      obtain ⟨v0, rest, rfl, hhead, htail⟩ := hs
      cases i with
      | zero => simp at hi; subst hi; simpa using hhead
      | succ i => simpa using ih (by simpa using hi) htail

end

end Goml.Lift
