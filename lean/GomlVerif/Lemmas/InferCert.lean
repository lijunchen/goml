import GomlVerif.Model.InferSpec
import GomlVerif.Lemmas.TyEqB
/-! Helper lemmas for `Props/Infer.lean::infer_sound_partial`: an obligation the executable check `checkB` accepts holds. -/
namespace Goml.Infer
open Goml Goml.Unify

theorem isEqC_sound {l r c} (h : isEqC l r c = true) : c = .eq l r := by
  cases c with
  | eq a b =>
    simp only [isEqC, Bool.and_eq_true] at h
    rw [Match.tyEqB_sound _ _ h.1, Match.tyEqB_sound _ _ h.2]
  | ovl _ _ _ => simp [isEqC] at h
  | field _ _ _ => simp [isEqC] at h

/-- an obligation discharged by the queue holds under every relation that contains the identity and
the queued equalities -/
theorem checkB_sound {R : Ty → Ty → Prop} {cs : List Constraint} {bs funs o}
    (hR : ∀ l r, Constraint.eq l r ∈ cs → R l r) (hrefl : ∀ t, R t t)
    (h : checkB (fun a b => Match.tyEqB a b || cs.any (isEqC a b)) bs funs o = true) :
    Holds R (fun x => lookupScope x bs) funs o := by
  cases o with
  | rel a b =>
    simp only [checkB, Bool.or_eq_true, List.any_eq_true] at h
    rcases h with h | ⟨c, hc, he⟩
    · rw [Match.tyEqB_sound _ _ h]; exact hrefl _
    · rw [isEqC_sound he] at hc; exact hR _ _ hc
  | same a b => exact Match.tyEqB_sound _ _ h
  | bound x ty =>
    simp only [checkB] at h
    simp only [Holds]
    cases hl : lookupScope x bs with
    | none => simp [hl] at h
    | some t => simp only [hl] at h; rw [Match.tyEqB_sound _ _ h]
  | inst n ty =>
    simp only [checkB] at h
    cases hl : lookupAssoc n funs with
    | none => simp [hl] at h
    | some sch => simp only [hl] at h; exact ⟨sch, hl, instStore ty, Match.tyEqB_sound _ _ h⟩
  | projOk tup idx ty =>
    cases tup <;> simp only [checkB] at h <;> try contradiction
    rename_i tys
    cases hi : tys[idx]? with
    | none => simp [hi] at h
    | some t => simp only [hi] at h; exact ⟨tys, rfl, by rw [hi, Match.tyEqB_sound _ _ h]⟩
  | fld _ _ _ => simp [checkB] at h
  | bad => simp [checkB] at h

end Goml.Infer
