import GomlVerif.Lemmas.AnfDec
/-!
The output of `anf` lies in the ANF sub-language (`isA`): a `let` chain whose right-hand sides
and final expression have only immediate operands.
-/
namespace Goml.Anf
open Goml

def allC (L : Binds) : Bool := L.all (fun p => isC p.2)

@[simp] theorem allC_nil : allC [] = true := rfl
@[simp] theorem allC_append (L1 L2 : Binds) : allC (L1 ++ L2) = (allC L1 && allC L2) := by
  simp [allC, List.all_append]
@[simp] theorem allC_cons (x : String) (v : Expr) (L : Binds) : allC ((x, v) :: L) = (isC v && allC L) := by
  simp [allC]

theorem isA_of_isC {c : Expr} (h : isC c = true) : isA c = true := by
  unfold isA
  split
  · simp [isC] at h
  · exact h

theorem isA_wrap (L : Binds) (c : Expr) : isA (wrap L c) = (allC L && isA c) := by
  induction L with
  | nil => simp [wrap]
  | cons p L ih => obtain ⟨x, v⟩ := p; simp [wrap, isA, ih, Bool.and_assoc]

theorem isImm_of_atom {e : Expr} (h : isAtom e = true) : isImm e = true := by
  cases e <;> simp_all [isAtom, isImm]

theorem isC_of_atom {e : Expr} (h : isAtom e = true) : isC e = true := by
  cases e <;> simp_all [isAtom, isC]

theorem decImm_shape_of (e : Expr) (n : Nat)
    (h : ∀ n, allC (dec e n).L = true ∧ isC (dec e n).c = true) :
    allC (decImm e n).L = true ∧ isImm (decImm e n).c = true := by
  unfold decImm decImmK
  split
  · simp [isImm]
  · simp [isImm]
  · have := h (n + 1)
    simp [this.1, this.2, isImm]

theorem isImm_armHead {lhs : Expr} (h : isArmHead lhs = true) : isImm (armHead lhs) = true := by
  unfold isArmHead at h
  split at h <;> first | rfl | cases h

mutual
theorem dec_shape : ∀ (e : Expr) (n : Nat), isLift e = true → allC (dec e n).L = true ∧ isC (dec e n).c = true
  | .var _ _, n, _ => by simp [dec, isC]
  | .prim _, n, _ => by simp [dec, isC]
  | .tag _ _, n, h => by simp [isLift] at h
  | .closure _ _ _, n, h => by simp [isLift] at h
  | .traitCall _ _ _ _ _, n, h => by simp [isLift] at h
  | .constr (.enum tn vn idx) ty [], n, _ => by simp [dec, isC]
  | .constr (.struct sn) ty [], n, _ => by simp [dec, decList, isC]
  | .constr c ty (a :: as), n, h => by
    simp only [isLift] at h
    have := decList_shape (a :: as) n h
    simp only [dec, isC]; exact this
  | .tuple _ items, n, h | .array _ items, n, h => by
    simp only [isLift] at h
    have := decList_shape items n h
    simp only [dec, isC]; exact this
  | .letE x v b, n, h => by
    simp only [isLift, Bool.and_eq_true] at h
    have h1 := dec_shape v n h.1
    have h2 := dec_shape b (dec v n).n h.2
    simp [dec, h1.1, h1.2, h2.1, h2.2]
  | .ite c t e, n, h => by
    simp only [isLift, Bool.and_eq_true] at h
    obtain ⟨⟨hc, ht⟩, he⟩ := h
    have h1 := decImm_shape_of c n (fun n => dec_shape c n hc)
    have h2 := dec_shape t (decImm c n).n ht
    have h3 := dec_shape e (dec t (decImm c n).n).n he
    unfold decImm at h1 h2 h3
    -- `isC (.ite i t e)`: `isImm i`, and `isA` of both branches, which are `wrap`s (`isA_wrap`)
    simp [dec, isC, anf_ret, isA_wrap, h1.1, h1.2, h2.1, h3.1, isA_of_isC h2.2, isA_of_isC h3.2]
  | .while c b, n, h => by
    simp only [isLift, Bool.and_eq_true] at h
    have h1 := dec_shape c n h.1
    have h2 := dec_shape b (dec c n).n h.2
    simp [dec, isC, anf_ret, isA_wrap, h1.1, h2.1, isA_of_isC h1.2, isA_of_isC h2.2]
  | .go e, n, h | .cget _ _ _ e, n, h | .un _ _ e, n, h | .toDyn _ _ _ e, n, h | .proj _ _ e, n, h => by
    simp only [isLift] at h
    have h1 := decImm_shape_of e n (fun n => dec_shape e n h)
    unfold decImm at h1
    simp [dec, isC, h1.1, h1.2]
  | .matchE ty s arms dflt, n, h => by
    simp only [isLift, Bool.and_eq_true] at h
    obtain ⟨⟨hs, harms⟩, hdflt⟩ := h
    have h1 := decImm_shape_of s n (fun n => dec_shape s n hs)
    have h2 := anfArms_shape arms (decImm s n).n harms
    have h3 := anfDflt_shape dflt (anfArms arms (decImm s n).n).2 hdflt
    unfold decImm at h1 h2 h3
    simp [dec, isC, h1.1, h1.2, h2, h3]
  | .bin op ty l r, n, h => by
    simp only [isLift, Bool.and_eq_true] at h
    have h1 := decImm_shape_of l n (fun n => dec_shape l n h.1)
    have h2 := decImm_shape_of r (decImm l n).n (fun n => dec_shape r n h.2)
    have h3 := dec_shape r (decImm l n).n h.2
    unfold decImm at h1 h2 h3
    simp only [dec]
    split
    · have hp1 : isA (.prim (.bool false)) = true := by simp [isA, isC]
      have hp2 : isA (.prim (.bool true)) = true := by simp [isA, isC]
      split <;> simp [isC, anf_ret, isA_wrap, h1.1, h1.2, h3.1, isA_of_isC h3.2, hp1, hp2]
    · simp [isC, h1.1, h1.2, h2.1, h2.2]
  | .call _ f args, n, h | .dynCall _ _ _ f args, n, h => by
    simp only [isLift, Bool.and_eq_true] at h
    have h1 := decImm_shape_of f n (fun n => dec_shape f n h.1)
    have h2 := decList_shape args (decImm f n).n h.2
    unfold decImm at h1 h2
    simp [dec, isC, h1.1, h1.2, h2.1, h2.2]

theorem decList_shape : ∀ (es : List Expr) (n : Nat), isLiftList es = true →
    allC (decList es n).L = true ∧ (decList es n).cs.all isImm = true
  | [], n, _ => by simp [decList]
  | e :: rest, n, h => by
    simp only [isLiftList, Bool.and_eq_true] at h
    have h1 := decImm_shape_of e n (fun n => dec_shape e n h.1)
    have h2 := decList_shape rest (decImm e n).n h.2
    unfold decImm at h1 h2
    simp [decList, h1.1, h1.2, h2.1, h2.2]

theorem anfArms_shape : ∀ (arms : List Arm) (n : Nat), isLiftArms arms = true → isArms (anfArms arms n).1 = true
  | [], n, _ => by simp [anfArms, isArms]
  | .mk lhs body :: rest, n, h => by
    simp only [isLiftArms, Bool.and_eq_true] at h
    obtain ⟨⟨hhead, hbody⟩, hrest⟩ := h
    have h1 := dec_shape body n hbody
    have h2 := anfArms_shape rest (dec body n).n hrest
    simp [anfArms, isArms, anf_ret, isA_wrap, isImm_armHead hhead, h1.1, isA_of_isC h1.2, h2]

theorem anfDflt_shape : ∀ (d : Option Expr) (n : Nat), isLiftDflt d = true → isDflt (anfDflt d n).1 = true
  | none, n, _ => by simp [anfDflt, isDflt]
  | some e, n, h => by
    simp only [isLiftDflt] at h
    have h1 := dec_shape e n h
    simp [anfDflt, isDflt, anf_ret, isA_wrap, h1.1, isA_of_isC h1.2]
end

end Goml.Anf
