import GomlVerif.Lemmas.Sorted
import Mathlib.Data.List.Perm.Subperm
import Mathlib.Data.List.Nodup
/-!
Correctness of the depth-first dependency order (`topo_sort_packages` / `visit_package`,
model `Graph.visit`, `Graph.topoLoop`, `Graph.topoSort`).

* soundness: a successful run returns every package exactly once, each after all its imports;
* every error is truthful: `cycle p` names a closed walk of import edges, `missing p d` an import
  of an absent package; the recursion budget of the model is never exhausted and `notFound`
  never happens;
* hence `topoSort g` succeeds iff the import graph is acyclic and every import is present.
-/
namespace Goml.Graph

/-- non-empty path -/
inductive Path (R : Pkg → Pkg → Prop) : Pkg → Pkg → Prop
  | one {a b : Pkg} : R a b → Path R a b
  | step {a b c : Pkg} : R a b → Path R b c → Path R a c

theorem Path.snoc {R : Pkg → Pkg → Prop} {a b c : Pkg} (h : Path R a b) (e : R b c) : Path R a c := by
  induction h with
  | one r => exact .step r (.one e)
  | step r _ ih => exact .step r (ih e)

/-- consecutive elements are related -/
def Linked (R : Pkg → Pkg → Prop) : List Pkg → Prop
  | [] => True
  | [_] => True
  | a :: b :: r => R a b ∧ Linked R (b :: r)

theorem Linked.tail {R : Pkg → Pkg → Prop} {a : Pkg} {l : List Pkg} (h : Linked R (a :: l)) : Linked R l := by
  cases l with
  | nil => trivial
  | cons b r => exact h.2

theorem Linked.suffix {R : Pkg → Pkg → Prop} : ∀ {l₁ l₂ : List Pkg}, Linked R (l₁ ++ l₂) → Linked R l₂
  | [], _, h => h
  | _ :: l₁, _, h => Linked.suffix (l₁ := l₁) h.tail

theorem Linked.snoc {R : Pkg → Pkg → Prop} {m : Pkg} :
    ∀ {l : List Pkg}, Linked R l → (∀ n, l.getLast? = some n → R n m) → Linked R (l ++ [m])
  | [], _, _ => trivial
  | [a], _, h => ⟨h a rfl, trivial⟩
  | a :: b :: r, hl, h => by
    refine ⟨hl.1, ?_⟩
    exact Linked.snoc (l := b :: r) hl.2 (fun n hn => h n (by rw [List.getLast?_cons_cons]; exact hn))

theorem Linked.path {R : Pkg → Pkg → Prop} :
    ∀ (l : List Pkg) (a z : Pkg), Linked R (a :: l) → l.getLast? = some z → Path R a z
  | [], _, _, _, h => by simp at h
  | [b], a, z, hl, h => by
    have hz : b = z := by simpa using h
    subst hz
    exact .one hl.1
  | b :: c :: r, a, z, hl, h => by
    rw [List.getLast?_cons_cons] at h
    exact .step hl.1 (Linked.path (c :: r) b z hl.2 h)

theorem dropWhile_split {m : Pkg} {pre post : List Pkg} (h : m ∉ pre) :
    (pre ++ m :: post).dropWhile (· != m) = m :: post := by
  have hp : ∀ a ∈ pre, (a != m) = true := fun a ha => bne_iff_ne.mpr fun e => h (e ▸ ha)
  rw [List.dropWhile_append_of_pos hp]
  simp

section
variable (has : Pkg → Bool) (deps : Pkg → List Pkg)

/-- import edge out of a package that exists -/
def DepEdge (a b : Pkg) : Prop := has a = true ∧ b ∈ deps a

/-! ## soundness -/

/-- most recent first: every element exists, its dependencies are all earlier, no repetition -/
def TopoOk : List Pkg → Prop
  | [] => True
  | n :: earlier => has n = true ∧ (∀ d ∈ deps n, d ∈ earlier) ∧ n ∉ earlier ∧ TopoOk earlier

/-- the second half makes `n` new to the order when `visit` appends it: until then `n` is on the stack -/
def Good (s : St) : Prop := TopoOk has deps s.order.reverse ∧ ∀ x ∈ s.order, x ∉ s.stack

/-- what a successful `visit n` (or recursive call) establishes -/
structure VisitPost (n : Pkg) (s s' : St) : Prop where
  good : Good has deps s → Good has deps s'
  stack : s'.stack = s.stack
  mem : n ∈ s'.order
  mono : ∀ x ∈ s.order, x ∈ s'.order

/-- … and a successful run over the packages `ns` -/
structure RunPost (ns : List Pkg) (s s' : St) : Prop where
  good : Good has deps s → Good has deps s'
  stack : s'.stack = s.stack
  mem : ∀ n ∈ ns, n ∈ s'.order
  mono : ∀ x ∈ s.order, x ∈ s'.order

theorem RunPost.nil (s : St) : RunPost has deps [] s s := ⟨id, rfl, by simp, fun _ hx => hx⟩

theorem RunPost.cons {n : Pkg} {ns : List Pkg} {s s₁ s' : St} (h₁ : VisitPost has deps n s s₁)
    (h₂ : RunPost has deps ns s₁ s') : RunPost has deps (n :: ns) s s' :=
  ⟨fun g => h₂.good (h₁.good g), h₂.stack.trans h₁.stack,
    List.forall_mem_cons.2 ⟨h₂.mono n h₁.mem, h₂.mem⟩, fun x hx => h₂.mono x (h₁.mono x hx)⟩

/-- the presence test `has'` of the loop is a variable of its own: a successful run has passed it -/
theorem visitDeps_ok {has' : Pkg → Bool} {recur : Pkg → St → Except Err St} {n : Pkg}
    (hrec : ∀ d s s', recur d s = .ok s' → VisitPost has deps d s s') :
    ∀ (ds : List Pkg) (s s' : St), visitDeps has' recur n ds s = .ok s' → RunPost has deps ds s s' := by
  intro ds
  induction ds with
  | nil =>
    intro s s' h
    simp only [visitDeps, Except.ok.injEq] at h
    subst h
    exact .nil has deps s
  | cons d ds ih =>
    intro s s' h
    simp only [visitDeps] at h
    split at h
    · cases hr : recur d s with
      | error e => simp [hr] at h
      | ok s₁ =>
        simp only [hr] at h
        exact .cons has deps (hrec d s s₁ hr) (ih s₁ s' h)
    · simp at h

theorem visit_ok : ∀ (fuel : Nat) (n : Pkg) (s s' : St),
    visit has deps fuel n s = .ok s' → VisitPost has deps n s s' := by
  intro fuel
  induction fuel with
  | zero => intro n s s' h; simp [visit] at h
  | succ fuel ih =>
    intro n s s' h
    simp only [visit] at h
    split at h
    · rename_i hin
      simp only [Except.ok.injEq] at h; subst h
      exact ⟨id, rfl, hin, fun _ hx => hx⟩
    · rename_i hnot
      split at h
      · simp at h
      · rename_i hstack
        split at h
        · rename_i hhas
          cases hv : visitDeps has (visit has deps fuel) n (deps n) { s with stack := s.stack ++ [n] } with
          | error e => simp [hv] at h
          | ok s₂ =>
            simp only [hv, Except.ok.injEq] at h
            subst h
            obtain ⟨g₂, st₂, m₂, mono₂⟩ := visitDeps_ok has deps (n := n) (fun d t t' => ih d t t') (deps n) _ s₂ hv
            simp only at st₂
            refine ⟨?_, ?_, by simp, fun x hx => by simp [mono₂ x hx]⟩
            · intro g
              have g₁ : Good has deps { s with stack := s.stack ++ [n] } :=
                ⟨g.1, fun x hx => by simpa using ⟨g.2 x hx, fun e => hnot (e ▸ hx)⟩⟩
              have g' := g₂ g₁
              have hn : n ∉ s₂.order := fun hx => by
                have := g'.2 n hx
                rw [st₂] at this
                exact this (by simp)
              refine ⟨?_, ?_⟩
              · simp only [List.reverse_append, List.reverse_cons, List.reverse_nil, List.nil_append,
                  List.singleton_append]
                exact ⟨hhas, fun d hd => by simpa using m₂ d hd, by simpa using hn, g'.1⟩
              · intro x hx
                simp only [st₂, List.dropLast_concat]
                rcases List.mem_append.1 hx with hx | hx
                · have := g'.2 x hx
                  rw [st₂] at this
                  exact fun hs => this (List.mem_append_left _ hs)
                · have : x = n := by simpa using hx
                  exact this ▸ hstack
            · simp [st₂]
        · simp at h

/-- with fuel left `visit` itself skips what is already ordered, so the outer loop is the loop over dependencies
without a presence test (`x`: the name an absent dependency would be reported under) -/
theorem topoLoop_eq_visitDeps (fuel : Nat) (x : Pkg) : ∀ (ns : List Pkg) (s : St),
    topoLoop has deps (fuel + 1) ns s = visitDeps (fun _ => true) (visit has deps (fuel + 1)) x ns s
  | [], _ => rfl
  | n :: ns, s => by
    simp only [topoLoop, visitDeps, if_true]
    split
    · rename_i hin
      simp only [visit, hin, if_true]
      exact topoLoop_eq_visitDeps fuel x ns s
    · cases visit has deps (fuel + 1) n s with
      | error e => rfl
      | ok s' => exact topoLoop_eq_visitDeps fuel x ns s'

theorem topoLoop_ok (fuel : Nat) (ns : List Pkg) (s s' : St) (h : topoLoop has deps (fuel + 1) ns s = .ok s') :
    RunPost has deps ns s s' := by
  rw [topoLoop_eq_visitDeps has deps fuel default] at h
  exact visitDeps_ok has deps (visit_ok has deps (fuel + 1)) ns s s' h

section
variable {n : Pkg} {earlier : List Pkg} (h : TopoOk has deps (n :: earlier))
include h
theorem TopoOk.present : has n = true := h.1
theorem TopoOk.depsEarlier : ∀ d ∈ deps n, d ∈ earlier := h.2.1
theorem TopoOk.fresh : n ∉ earlier := h.2.2.1
theorem TopoOk.tail : TopoOk has deps earlier := h.2.2.2
end

theorem TopoOk.has_all : ∀ {r : List Pkg}, TopoOk has deps r → ∀ x ∈ r, has x = true
  | [], _, _, hx => by simp at hx
  | n :: r, h, x, hx => by
    rcases List.mem_cons.1 hx with rfl | hx
    · exact h.present has deps
    · exact TopoOk.has_all (h.tail has deps) x hx

theorem TopoOk.nodup : ∀ {r : List Pkg}, TopoOk has deps r → r.Nodup
  | [], _ => List.nodup_nil
  | _ :: _, h => List.nodup_cons.2 ⟨h.fresh has deps, TopoOk.nodup (h.tail has deps)⟩

theorem TopoOk.suffix : ∀ {l₁ l₂ : List Pkg}, TopoOk has deps (l₁ ++ l₂) → TopoOk has deps l₂
  | [], _, h => h
  | _ :: l₁, _, h => TopoOk.suffix (l₁ := l₁) (h.tail has deps)

/-- paths out of an ordered element stay among the earlier elements -/
theorem TopoOk.closed : ∀ {r : List Pkg}, TopoOk has deps r →
    ∀ a ∈ r, ∀ b, Path (DepEdge has deps) a b → b ∈ r ∧ (∀ t, r = a :: t → b ∈ t)
  | [], _, a, ha, _, _ => by simp at ha
  | n :: earlier, h, a, ha, b, p => by
    have depsEarlier := h.depsEarlier has deps
    have ih := TopoOk.closed (r := earlier) (h.tail has deps)
    have fromHead : ∀ b, Path (DepEdge has deps) n b → b ∈ earlier := by
      intro b p
      cases p with
      | one e => exact depsEarlier b e.2
      | step e q => exact (ih _ (depsEarlier _ e.2) b q).1
    rcases List.mem_cons.1 ha with rfl | ha
    · refine ⟨List.mem_cons_of_mem _ (fromHead b p), ?_⟩
      intro t ht
      have : earlier = t := by simpa using ht
      exact this ▸ fromHead b p
    · refine ⟨List.mem_cons_of_mem _ (ih a ha b p).1, ?_⟩
      intro t ht
      have hh : n = a := by simpa using (List.cons.inj ht).1
      exact absurd (hh ▸ ha) (h.fresh has deps)

theorem TopoOk.acyclic : ∀ {r : List Pkg}, TopoOk has deps r → ∀ a ∈ r, ¬ Path (DepEdge has deps) a a
  | [], _, a, ha => by simp at ha
  | n :: earlier, h, a, ha => by
    rcases List.mem_cons.1 ha with rfl | ha
    · intro p
      exact h.fresh has deps ((TopoOk.closed has deps h a (by simp) a p).2 earlier rfl)
    · exact TopoOk.acyclic (h.tail has deps) a ha

/-! ## every error is truthful -/

def ErrTruth : Err → Prop
  | .cycle p => (∃ m mid, p = m :: mid ++ [m]) ∧ Linked (DepEdge has deps) p
  | .missing p d => DepEdge has deps p d ∧ has d = false
  | _ => False

structure StackOk (stack : List Pkg) : Prop where
  linked : Linked (DepEdge has deps) stack
  nodup : stack.Nodup
  present : ∀ x ∈ stack, has x = true

theorem visit_stack (fuel : Nat) (n : Pkg) (s s' : St) (h : visit has deps fuel n s = .ok s') :
    s'.stack = s.stack := (visit_ok has deps fuel n s s' h).stack

/-- the budget: the stack is duplicate-free and inside `univ`, and a recursive call trades one unit of fuel for one stack entry -/
def VisitErrOk (univ : List Pkg) (fuel : Nat) : Prop :=
  ∀ (d : Pkg) (s : St) (e : Err), visit has deps fuel d s = .error e → has d = true →
    StackOk has deps s.stack → (∀ n, s.stack.getLast? = some n → DepEdge has deps n d) →
    univ.length < s.stack.length + fuel → ErrTruth has deps e

theorem visitDeps_err {univ : List Pkg} {fuel : Nat} {has' : Pkg → Bool} {m : Pkg} (ih : VisitErrOk has deps univ fuel) :
    ∀ (ds : List Pkg) (t : St) (e : Err), visitDeps has' (visit has deps fuel) m ds t = .error e →
      (∀ d ∈ ds, if has' d then has d = true ∧ ∀ n, t.stack.getLast? = some n → DepEdge has deps n d
        else ErrTruth has deps (.missing m d)) →
      StackOk has deps t.stack → univ.length < t.stack.length + fuel → ErrTruth has deps e := by
  intro ds
  induction ds with
  | nil => intro t e h; simp [visitDeps] at h
  | cons d ds ihd =>
    intro t e h hsub hst hb
    have hd := hsub d (by simp)
    simp only [visitDeps] at h
    split at h
    · rename_i hd'
      rw [if_pos hd'] at hd
      cases hr : visit has deps fuel d t with
      | error e' =>
        simp only [hr, Except.error.injEq] at h
        subst h
        exact ih d t e' hr hd.1 hst hd.2 hb
      | ok t₁ =>
        simp only [hr] at h
        have st := visit_stack has deps fuel d t t₁ hr
        refine ihd t₁ e h (fun x hx => by rw [st]; exact hsub x (List.mem_cons_of_mem _ hx)) ?_ (st ▸ hb)
        rw [st]
        exact hst
    · rename_i hd'
      rw [if_neg hd'] at hd
      simp only [Except.error.injEq] at h
      subst h
      exact hd

theorem visit_err {univ : List Pkg} (huniv : ∀ x, has x = true → x ∈ univ) :
    ∀ fuel : Nat, VisitErrOk has deps univ fuel := by
  intro fuel
  induction fuel with
  | zero =>
    intro m s e _ _ hst _ hb
    have : s.stack.length ≤ univ.length :=
      (hst.nodup.subperm (fun x hx => huniv x (hst.present x hx))).length_le
    omega
  | succ fuel ih =>
    intro m s e h hm hst hlast hb
    simp only [visit] at h
    by_cases hin : m ∈ s.order
    · rw [if_pos hin] at h; simp at h
    · rw [if_neg hin] at h
      by_cases hstk : m ∈ s.stack
      · rw [if_pos hstk] at h
        simp only [Except.error.injEq] at h
        subst h
        obtain ⟨pre, post, hsplit⟩ := List.append_of_mem hstk
        have hpre : m ∉ pre := by
          intro hp
          have := hst.nodup
          rw [hsplit, List.nodup_append] at this
          exact this.2.2 m hp m (by simp) rfl
        have hdw : s.stack.dropWhile (· != m) = m :: post := by
          rw [hsplit]; exact dropWhile_split hpre
        rw [hdw]
        refine ⟨⟨m, post, rfl⟩, ?_⟩
        have hl : Linked (DepEdge has deps) (m :: post) := by
          have := hst.linked
          rw [hsplit] at this
          exact this.suffix
        refine hl.snoc ?_
        intro n hn
        refine hlast n ?_
        rw [hsplit, List.getLast?_append, hn]
        rfl
      · rw [if_neg hstk, if_pos hm] at h
        cases hv : visitDeps has (visit has deps fuel) m (deps m) { s with stack := s.stack ++ [m] } with
        | ok s₂ => rw [hv] at h; simp at h
        | error e' =>
          rw [hv] at h
          simp only [Except.error.injEq] at h
          subst h
          refine visitDeps_err has deps ih (deps m) _ e' hv (fun d hd => ?_) ?_
            (by simp only [List.length_append, List.length_singleton]; omega)
          · split
            · rename_i h'
              exact ⟨h', fun n hn => by simp at hn; exact hn ▸ ⟨hm, hd⟩⟩
            · rename_i h'
              exact ⟨⟨hm, hd⟩, by simpa using h'⟩
          · refine ⟨hst.linked.snoc hlast, ?_, ?_⟩
            · exact List.nodup_append_comm.1 (List.nodup_cons.2 ⟨hstk, hst.nodup⟩)
            · exact List.forall_mem_append.2 ⟨hst.present, List.forall_mem_singleton.2 hm⟩

theorem topoLoop_err {univ : List Pkg} (huniv : ∀ x, has x = true → x ∈ univ) (fuel : Nat)
    (hfuel : univ.length < fuel + 1) (ns : List Pkg) (s : St) (e : Err)
    (h : topoLoop has deps (fuel + 1) ns s = .error e) (hall : ∀ n ∈ ns, has n = true) (hs : s.stack = []) :
    ErrTruth has deps e := by
  rw [topoLoop_eq_visitDeps has deps fuel default] at h
  refine visitDeps_err has deps (visit_err has deps huniv (fuel + 1)) ns s e h (fun n hn => ?_) ?_
    (by rw [hs]; simpa using hfuel)
  · rw [if_pos rfl, hs]
    exact ⟨hall n hn, by simp⟩
  · rw [hs]
    exact ⟨trivial, List.nodup_nil, by simp⟩

end

/-- `b` is imported by the package `a` of the graph -/
def Edge (g : Graph) (a b : Pkg) : Prop := a ∈ g.names ∧ b ∈ g.imports a
def Acyclic (g : Graph) : Prop := ∀ a, ¬ Path (Edge g) a a
def ImportsPresent (g : Graph) : Prop := ∀ a b, Edge g a b → b ∈ g.names

/-- every package exactly once, each one after all its imports -/
def IsTopoOrder (g : Graph) (o : List Pkg) : Prop :=
  o.Nodup ∧ (∀ n, n ∈ o ↔ n ∈ g.names) ∧
    ∀ pre n post, o = pre ++ n :: post → ∀ d ∈ g.imports n, d ∈ pre

theorem has_iff (g : Graph) (n : Pkg) : g.has n = true ↔ n ∈ g.names := by
  simp [Graph.has]

theorem depEdge_iff (g : Graph) (a b : Pkg) : DepEdge g.has g.deps a b ↔ Edge g a b := by
  simp [DepEdge, Edge, Graph.deps, has_iff, mem_sorted]

/-- as relations, so that `Path` and `Linked` over the one are `Path` and `Linked` over the other -/
theorem depEdge_eq (g : Graph) : DepEdge g.has g.deps = Edge g :=
  funext fun a => funext fun b => propext (depEdge_iff g a b)

theorem topoSort_sound {g : Graph} {o : List Pkg} (h : topoSort g = .ok o) :
    TopoOk g.has g.deps o.reverse ∧ ∀ n, n ∈ o ↔ n ∈ g.names := by
  unfold topoSort at h
  cases hl : topoLoop g.has g.deps ((sorted g.names).length + 1) (sorted g.names) ⟨[], []⟩ with
  | error e => simp [hl] at h
  | ok s =>
    simp only [hl, Except.ok.injEq] at h
    subst h
    obtain ⟨g₁, _, m, _⟩ := topoLoop_ok g.has g.deps _ _ _ _ hl
    have good := g₁ ⟨by simp [TopoOk], by simp⟩
    refine ⟨good.1, fun n => ⟨?_, fun hn => m n (mem_sorted.2 hn)⟩⟩
    intro hn
    exact (has_iff g n).1 (good.1.has_all g.has g.deps n (by simpa using hn))

theorem topoSort_isTopoOrder {g : Graph} {o : List Pkg} (h : topoSort g = .ok o) : IsTopoOrder g o := by
  obtain ⟨ok, mem⟩ := topoSort_sound h
  refine ⟨by simpa using ok.nodup g.has g.deps, mem, ?_⟩
  intro pre n post ho d hd
  have : TopoOk g.has g.deps (n :: pre.reverse) := by
    have h' := ok
    rw [ho] at h'
    simp only [List.reverse_append, List.reverse_cons, List.append_assoc, List.singleton_append] at h'
    exact h'.suffix g.has g.deps
  simpa using this.depsEarlier g.has g.deps d (by simpa [Graph.deps, mem_sorted] using hd)

/-- what an error of `topoSort` says is true of the graph -/
theorem topoSort_err_truth {g : Graph} {e : Err} (h : topoSort g = .error e) :
    (∃ m mid, e = .cycle (m :: mid ++ [m]) ∧ Linked (Edge g) (m :: mid ++ [m])) ∨
    (∃ p d, e = .missing p d ∧ Edge g p d ∧ d ∉ g.names) := by
  unfold topoSort at h
  cases hl : topoLoop g.has g.deps ((sorted g.names).length + 1) (sorted g.names) ⟨[], []⟩ with
  | ok s => simp [hl] at h
  | error e' =>
    simp only [hl, Except.error.injEq] at h
    subst h
    have truth := topoLoop_err g.has g.deps (univ := sorted g.names)
      (fun x hx => mem_sorted.2 ((has_iff g x).1 hx)) _ (Nat.lt_succ_self _) _ _ e' hl
      (fun n hn => (has_iff g n).2 (mem_sorted.1 hn)) rfl
    cases e' with
    | cycle p =>
      obtain ⟨⟨m, mid, rfl⟩, hlk⟩ := truth
      left
      refine ⟨m, mid, rfl, ?_⟩
      exact depEdge_eq g ▸ hlk
    | missing p d =>
      right
      refine ⟨p, d, rfl, (depEdge_iff g p d).1 truth.1, ?_⟩
      intro hd
      have := (has_iff g d).2 hd
      rw [truth.2] at this
      exact absurd this (by simp)
    | _ => exact absurd truth id

/-- **`topo_sort_packages` succeeds exactly on acyclic graphs whose imports are all present** -/
theorem topoSort_ok_iff (g : Graph) :
    (∃ o, topoSort g = .ok o) ↔ Acyclic g ∧ ImportsPresent g := by
  constructor
  · rintro ⟨o, h⟩
    obtain ⟨ok, mem⟩ := topoSort_sound h
    refine ⟨?_, ?_⟩
    · intro a p
      have ha : a ∈ g.names := by cases p with | one e => exact e.1 | step e _ => exact e.1
      exact ok.acyclic g.has g.deps a (by simpa using (mem a).2 ha) (depEdge_eq g ▸ p)
    · intro a b e
      have := (ok.closed g.has g.deps a (by simpa using (mem a).2 e.1) b (.one ((depEdge_iff g a b).2 e))).1
      exact (mem b).1 (by simpa using this)
  · rintro ⟨hac, hpres⟩
    cases h : topoSort g with
    | ok o => exact ⟨o, rfl⟩
    | error e =>
      rcases topoSort_err_truth h with ⟨m, mid, _, hl⟩ | ⟨p, d, _, e, hd⟩
      · exact absurd (Linked.path _ _ _ hl (by simp [List.getLast?_append])) (hac m)
      · exact absurd (hpres p d e) hd

/-- with duplicate-free keys (a `HashMap`) the result is a permutation of the packages -/
theorem topoSort_perm {g : Graph} {o : List Pkg} (hn : g.names.Nodup) (h : topoSort g = .ok o) :
    o.Perm g.names := by
  obtain ⟨nodup, mem, -⟩ := topoSort_isTopoOrder h
  exact (List.perm_ext_iff_of_nodup nodup hn).2 mem

end Goml.Graph
