import GomlVerif.Lemmas.C03presAnf
/-!
The judgement `Wt.errs` reads the function table of the signature only through the *headers*
(name, generics, parameters, result type) of its functions; `anf_file` rewrites bodies only, so
the Lift-stage signature and the ANF-stage signature judge every expression alike.
-/
namespace Goml.Anf
open Goml Goml.Wt Goml.Mono

/-- what `findCallee` and `fnTy` read of a function -/
def hdr (f : Fn) : String × List String × List (String × Ty) × Ty := (f.name, f.generics, f.params, f.ret)

theorem fnTy_of_hdr {f g : Fn} (h : hdr f = hdr g) : fnTy f = fnTy g := by
  simp only [hdr, Prod.mk.injEq] at h
  simp only [fnTy, h.2.2.1, h.2.2.2]

theorem anfFns_hdr : ∀ (fns : List Fn) (n : Nat), (anfFns fns n).1.map hdr = fns.map hdr
  | [], _ => rfl
  | f :: rest, n => by
    simp only [anfFns, List.map_cons, anfFns_hdr rest]
    rfl

/-- where a function of the output comes from; its flag is the fragment check at that counter -/
theorem anfFns_mem {f' : Fn} : ∀ (fns : List Fn) (n : Nat), f' ∈ (anfFns fns n).1 →
    ∃ f ∈ fns, ∃ m, f' = { f with body := (anf f.body m ret).1 } ∧
      ((anfFragFlags fns n).all (fun b => b) = true → inAnfFragment f.body m = true)
  | [], _, h => by simp [anfFns] at h
  | g :: rest, n, h => by
    simp only [anfFns, List.mem_cons] at h
    simp only [anfFragFlags, List.all_cons, Bool.and_eq_true]
    rcases h with rfl | h
    · exact ⟨g, by simp, n, rfl, fun hfl => hfl.1⟩
    · obtain ⟨f, hf, m, hm, hfl⟩ := anfFns_mem rest _ h
      exact ⟨f, by simp [hf], m, hm, fun h' => hfl h'.2⟩

theorem findFn_hdr {F F' : List Fn} (h : F'.map hdr = F.map hdr) (x : String) :
    (findFn F' x).map hdr = (findFn F x).map hdr := by
  have key : ∀ G : List Fn, (findFn G x).map hdr = (G.map hdr).find? (fun p => p.1 == x) := by
    intro G
    simp only [findFn, List.find?_map]
    rfl
  rw [key, key, h]

theorem inherentIndex_hdr {F F' : List Fn} (h : F'.map hdr = F.map hdr) (b m : String) :
    (inherentIndex F' b m).map hdr = (inherentIndex F b m).map hdr := by
  have key : ∀ G : List Fn, (inherentIndex G b m).map hdr =
      ((G.map hdr).filter fun p => !p.2.1.isEmpty && p.1.startsWith "inherent#" &&
        (match parseInherent p.1 with
         | some (b', m') => b' == b && m' == m
         | none => false)).getLast? := by
    intro G
    simp only [inherentIndex, List.filter_map, List.getLast?_map]
    rfl
  rw [key, key, h]

theorem map_hdr_cases {o o' : Option Fn} (h : o'.map hdr = o.map hdr) :
    (o = none ∧ o' = none) ∨ ∃ f f', o = some f ∧ o' = some f' ∧ hdr f' = hdr f := by
  cases o <;> cases o' <;> simp_all

theorem lookupBy_hdr {F F' : List Fn} (h : F'.map hdr = F.map hdr) (x : String) :
    ∀ l, (lookupBy F' x l).map hdr = (lookupBy F x l).map hdr
  | .asSpelled => findFn_hdr h x
  | .inherentIndex => by
    simp only [lookupBy]
    cases parseInherent x with
    | none => rfl
    | some bm => exact inherentIndex_hdr h bm.1 bm.2

theorem findSome?_lookupBy_hdr {F F' : List Fn} (h : F'.map hdr = F.map hdr) (x : String) :
    ∀ ls : List Gen.CalleeLookup,
      (ls.findSome? (lookupBy F' x)).map hdr = (ls.findSome? (lookupBy F x)).map hdr
  | [] => rfl
  | l :: ls => by
    simp only [List.findSome?]
    rcases map_hdr_cases (lookupBy_hdr h x l) with ⟨hl, hl'⟩ | ⟨f, f', hl, hl', hh⟩
    · rw [hl, hl']
      exact findSome?_lookupBy_hdr h x ls
    · rw [hl, hl']
      simpa using hh

theorem findCallee_hdr {F F' : List Fn} (h : F'.map hdr = F.map hdr) (x : String) :
    (findCallee F' x).map hdr = (findCallee F x).map hdr :=
  findSome?_lookupBy_hdr h x _

theorem errs_var_hdr (S : Sig) (F' : List Fn) (h : F'.map hdr = S.fns.map hdr) (Γ : TyEnv) (x : String) (ty : Ty) :
    errs { S with fns := F' } Γ (.var x ty) = errs S Γ (.var x ty) := by
  simp only [errs]
  cases lookupVar Γ x with
  | some t => rfl
  | none =>
    simp only
    rcases map_hdr_cases (findCallee_hdr h x) with ⟨hf, hf'⟩ | ⟨f, f', hf, hf', hh⟩
    · rw [hf, hf']
    · rw [hf, hf']
      simp only [fnTy_of_hdr hh]

variable (S : Sig) (F' : List Fn) (h : F'.map hdr = S.fns.map hdr)

include h in
theorem errs_hdr : ∀ (e : Expr) (Γ : TyEnv), errs { S with fns := F' } Γ e = errs S Γ e := fun e Γ =>
  errs_congr (S := S) (S' := { S with fns := F' }) (fun _ _ => rfl) (fun _ _ _ => rfl) (errs_var_hdr S F' h)
    e Γ Γ (fun _ _ => rfl)
include h in
theorem errsList_hdr : ∀ (es : List Expr) (Γ : TyEnv), errsList { S with fns := F' } Γ es = errsList S Γ es :=
  fun es Γ => errsList_congr (S := S) (S' := { S with fns := F' }) (fun _ _ => rfl) (fun _ _ _ => rfl)
    (errs_var_hdr S F' h) es Γ Γ (fun _ _ => rfl)
include h in
theorem errsArms_hdr : ∀ (arms : List Arm) (Γ : TyEnv) (st rt : Ty),
    errsArms { S with fns := F' } Γ st rt arms = errsArms S Γ st rt arms := fun arms Γ st rt =>
  errsArms_congr (S := S) (S' := { S with fns := F' }) (fun _ _ => rfl) (fun _ _ _ => rfl) (errs_var_hdr S F' h)
    arms Γ Γ st rt (fun _ _ => rfl)

end Goml.Anf
