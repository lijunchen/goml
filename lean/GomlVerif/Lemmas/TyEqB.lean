import GomlVerif.Model.C03presMatch
/-! `Match.tyEqB`, the structural equality of types the match compiler's checks and the typer's certificate use: `tyEqB a b = true` only for equal types. -/
namespace Goml.Match
open Goml

/-- By the induction principle of `tyEqB`: a row either tests the components of two like constructors, or answers
    `false` (closed by `contradiction`). -/
theorem tyEqB_sound_all : (∀ a b, tyEqB a b = true → a = b) ∧ (∀ as bs, tysEqB as bs = true → as = bs) := by
  apply tyEqB.mutual_induct_unfolding (motive_1 := fun a b r => r = true → a = b)
    (motive_2 := fun as bs r => r = true → as = bs)
  all_goals intros
  all_goals first | contradiction | simp_all only [Bool.and_eq_true, beq_iff_eq, forall_const]

theorem tyEqB_sound : ∀ a b : Ty, tyEqB a b = true → a = b := tyEqB_sound_all.1

end Goml.Match
