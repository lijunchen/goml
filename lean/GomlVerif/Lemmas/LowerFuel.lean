import GomlVerif.Lemmas.LowerBal
/-! The facts on `Cst.size` that bound the fuel a child needs, and `NS m`: the computation `m` of the lowering monad does not
set `starved`, i.e. does not run out of fuel — what a function of the model gets from its `Run` / `Tri` fact when the fuel
suffices (`Run.ns`, `Tri.ns`). -/
namespace Goml.Lower
open Goml.Src

theorem size_pos : ∀ c : Cst, 0 < c.size
  | .node _ _ => by simp [Cst.size]; omega
  | .tok _ _ _ => by simp [Cst.size]

theorem mem_sizeList : ∀ {cs : List Cst} {x : Cst}, x ∈ cs → x.size ≤ Cst.sizeList cs
  | c :: cs, x, h => by
    simp only [Cst.sizeList]
    rcases List.mem_cons.mp h with rfl | h'
    · omega
    · have := mem_sizeList h'; omega

theorem mem_kids_size {c x : Cst} (h : x ∈ c.kids) : x.size < c.size := by
  cases c with
  | node k cs => simp only [Cst.kids] at h; have := mem_sizeList h; simp only [Cst.size]; omega
  | tok _ _ _ => simp [Cst.kids] at h

theorem mem_nodesOf {c x : Cst} (h : x ∈ nodesOf c) : x ∈ c.kids := (List.mem_filter.mp h).1

theorem child_size {ks : List String} {c x : Cst} (h : child ks c = some x) : x.size < c.size :=
  mem_kids_size (mem_nodesOf (List.mem_of_find?_eq_some h))

theorem mem_childrenK_size {ks : List String} {c x : Cst} (h : x ∈ childrenK ks c) : x.size < c.size :=
  mem_kids_size (mem_nodesOf (List.mem_filter.mp h).1)

theorem childrenK_head_size {ks : List String} {c p : Cst} {rest : List Cst} (h : childrenK ks c = p :: rest) :
    p.size < c.size := mem_childrenK_size (ks := ks) (by rw [h]; exact List.mem_cons_self ..)
theorem childrenK_second_size {ks : List String} {c p r : Cst} {rest : List Cst} (h : childrenK ks c = p :: r :: rest) :
    r.size < c.size := mem_childrenK_size (ks := ks) (by rw [h]; exact List.mem_cons_of_mem _ (List.mem_cons_self ..))

theorem sizeList_filter_le (p : Cst → Bool) : ∀ cs : List Cst, Cst.sizeList (cs.filter p) ≤ Cst.sizeList cs
  | [] => by simp [Cst.sizeList]
  | c :: cs => by
    have ih := sizeList_filter_le p cs
    by_cases hp : p c = true
    · simp only [List.filter_cons_of_pos hp, Cst.sizeList]; omega
    · simp only [List.filter_cons_of_neg hp, Cst.sizeList]; omega

theorem childrenK_sizeList (ks : List String) (c : Cst) : Cst.sizeList (childrenK ks c) < c.size := by
  have h1 := sizeList_filter_le (fun x => ks.contains x.kind) (nodesOf c)
  have h2 := sizeList_filter_le Cst.isNode c.kids
  have h3 : Cst.sizeList c.kids < c.size := by
    cases c with
    | node k cs => simp [Cst.kids, Cst.size]
    | tok _ _ _ => simp [Cst.kids, Cst.size, Cst.sizeList]
  unfold childrenK
  unfold nodesOf at h1 h2 ⊢
  omega

-- what `grind` needs to see that a recursive call goes to a strict sub-tree; the two list-shaped forms are what a
-- `split` on `childrenK … = p :: r :: rest` leaves
attribute [grind →] child_size mem_childrenK_size childrenK_head_size childrenK_second_size

def NS {α} (m : M α) : Prop := ∀ s : St, s.starved = false → (m s).2.starved = false

variable {α β : Type}

theorem NS.pure (a : α) : NS (pure a : M α) := fun _ h => h
theorem NS.mpure (a : α) : NS (M.pure a) := fun _ h => h
theorem NS.fail : NS (Goml.Lower.fail : M α) := fun _ h => h
theorem NS.err (msg : String) : NS (Goml.Lower.err msg : M α) := fun _ h => h
theorem NS.note (msg : String) : NS (Goml.Lower.note msg) := fun _ h => h
theorem NS.stuckHere : NS (Goml.Lower.stuckHere : M α) := fun _ h => h
theorem NS.getLocals : NS Goml.Lower.getLocals := fun _ h => h
theorem NS.pushLocals (xs : List String) : NS (Goml.Lower.pushLocals xs) := fun _ h => h
theorem NS.ofOpt (o : Option α) : NS (Goml.Lower.ofOpt o) := by
  cases o with
  | none => exact NS.fail
  | some a => exact NS.mpure a

theorem NS.bind {m : M α} {f : α → M β} (hm : NS m) (hf : ∀ a, NS (f a)) : NS (m >>= f) := by
  intro s hs
  have h := hm s hs
  rw [bind_run]
  revert h
  rcases m s with ⟨_ | a, s'⟩ <;> intro h
  · exact h
  · exact hf a s' h

theorem NS.opt {m : M α} (h : NS m) : NS (Goml.Lower.opt m) := fun s hs => h s hs
theorem NS.withLocals {m : M α} {xs : List String} (h : NS m) : NS (Goml.Lower.withLocals xs m) :=
  fun s hs => h { s with locals := s.locals ++ xs } hs

theorem NS.mapSkip {f : β → M α} : ∀ (xs : List β), (∀ x ∈ xs, NS (f x)) → NS (Goml.Lower.mapSkip f xs)
  | [], _ => NS.mpure _
  | x :: xs, h => by
    rw [mapSkip_cons]
    exact NS.bind (NS.opt (h x (List.mem_cons_self ..))) fun _ =>
      NS.bind (NS.mapSkip xs (fun y hy => h y (List.mem_cons_of_mem _ hy))) fun _ => NS.pure _

theorem NS.mapAll {f : β → M α} : ∀ (xs : List β), (∀ x ∈ xs, NS (f x)) → NS (Goml.Lower.mapAll f xs)
  | [], _ => NS.mpure _
  | x :: xs, h => by
    have ih := NS.mapAll xs (fun y hy => h y (List.mem_cons_of_mem _ hy))
    simp only [Goml.Lower.mapAll]
    exact NS.bind (m := f x) (h x (List.mem_cons_self ..)) (fun y => NS.bind (m := Goml.Lower.mapAll f xs) ih (fun ys => NS.mpure _))

theorem NS.run {m : M α} (h : NS m) (s : St) (hs : s.starved = false) : (m s).2.starved = false := h s hs
theorem NS.intro {m : M α} (h : ∀ s : St, s.starved = false → (m s).2.starved = false) : NS m := h

attribute [irreducible] NS

/-! ### `Run`, `Tri` and `NS` -/

variable {Γ : List String} {ok : Prop}

theorem Run.ns {m : M α} {P : List String → α → Prop} (h : ∀ Γ, Run ok Γ m (P Γ)) (hok : ok) : NS m :=
  NS.intro fun s hs => ((h s.locals).run s rfl).2.2.1 hok hs

theorem Tri.ns {m : M α} {Q : List String → Option α → List String → Prop} (h : ∀ Γ, Tri ok Γ m (Q Γ)) (hok : ok) :
    NS m :=
  NS.intro fun s hs => (h s.locals s rfl).2.1 hok hs

/-- The `Run` fact of a recursive call, under the fuel flag of the caller: the callee gets a strict sub-tree and one unit
of fuel less. -/
theorem Run.sub {x node : Cst} {n : Nat} {m : M α} {P : α → Prop} (h : Run (2 * x.size ≤ n) Γ m P)
    (hx : x.size < node.size) : Run (2 * node.size ≤ n + 1) Γ m P :=
  h.mono (fun hn => by omega)

end Goml.Lower
