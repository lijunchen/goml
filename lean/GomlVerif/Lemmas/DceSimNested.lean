import GomlVerif.Lemmas.DceSimRel
import GomlVerif.Lemmas.GoEq
/-!
Simulation proof for DCE: statements with nested blocks.  Both runs evaluate the same head expression, then a branch is a
nested block, the optional last block or a clause list; the frame lemma restores the keys.  `for` re-establishes the
invariant at the loop head; a type switch pops the binding on whichever side pushed it.
-/
namespace Goml.Dce
open Goml.Go Goml.Sem

theorem sim_nested_rel {F D P} {n : Nat} (ih : SimAt F D P n) {t : List GStmt} {live needs L0 N0 : Names}
    {ρi ρo : GEnv} {w : GWorld} {r : GRes (GEnv × Sig)}
    (hscope : scopeErrs D (keys ρi) t = []) (hshape : shapeOK t = true) (hsem : semOK P t live = true)
    (hr : Rel L0 N0 ρo ρi) (hl : ∀ y ∈ (dceStmts t live).live, y ∈ L0)
    (hna : ∀ y ∈ assignedStmts (dceStmts t live).out, y ∈ N0) (hn : ∀ y ∈ needs, y ∈ N0)
    (h : nestedG n F ρi w t = r) (hd : Definite r) :
    ∃ r', NestE F ρo w (dceStmts t live).out r' ∧ ResRel live needs r' r := by
  have hr' : Rel (dceStmts t live).live (dceStmts t live).needs ρo ρi :=
    hr.mono hl (fun y hy => hna y (needs_sub_stmts t live y hy))
  obtain ⟨r', hm, hrr⟩ := ih.ne hscope hshape hsem hr' h hd
  obtain ⟨m, hm'⟩ := hm.run
  exact ⟨r', hm, resrel_of_frames hr hrr (fun _ _ _ e' => ⟨_, (frame_all n).ne (e' ▸ h)⟩)
    (fun _ _ _ e' => ⟨_, (frame_all m).ne (e' ▸ hm')⟩) hn⟩

theorem sim_opt {F D P} {n : Nat} (ih : SimAt F D P n) {d : Option (List GStmt)} {L L0 N0 : Names}
    {ρi ρo : GEnv} {w : GWorld} {r : GRes (GEnv × Sig)}
    (hok : OptOK D P (keys ρi) d L) (hr : Rel L0 N0 ρo ρi)
    (hl : ∀ y ∈ uni L (liveOpt d L), y ∈ L0) (hn : ∀ y ∈ needsOpt d L, y ∈ N0)
    (h : runOptG n F ρi w d = r) (hd : Definite r) :
    ∃ r', Ev1 (fun k => runOptG k F ρo w (outOpt d L)) r' ∧ ResRelN L r' r := by
  cases d with
  | none =>
    subst h
    exact ⟨_, Ev1.const _, rfl, rfl, fun _ => hr.agree.mono fun y hy => hl y (by simp [hy])⟩
  | some b =>
    obtain ⟨hscope, hshape, hsem⟩ := hok b rfl
    exact ih.ne hscope hshape hsem (hr.mono (fun y hy => hl y (by simp [liveOpt, hy]))
      (fun y hy => hn y (needs_sub_stmts b L y hy))) h hd

theorem sim_opt_rel {F D P} {n : Nat} (ih : SimAt F D P n) {d : Option (List GStmt)} {L N L0 N0 : Names}
    {ρi ρo : GEnv} {w : GWorld} {r : GRes (GEnv × Sig)}
    (hok : OptOK D P (keys ρi) d L) (hr : Rel L0 N0 ρo ρi)
    (hl : ∀ y ∈ uni L (liveOpt d L), y ∈ L0) (hn : ∀ y ∈ needsOpt d L, y ∈ N0) (hN : ∀ y ∈ N, y ∈ N0)
    (h : runOptG n F ρi w d = r) (hd : Definite r) :
    ∃ r', Ev1 (fun k => runOptG k F ρo w (outOpt d L)) r' ∧ ResRel L N r' r := by
  obtain ⟨r', hm, hrr⟩ := sim_opt ih hok hr hl hn h hd
  obtain ⟨m, hm'⟩ := hm.run
  exact ⟨r', hm, resrel_of_frames hr hrr (fun _ _ _ e' => ⟨_, frame_opt (frame_all n) (e' ▸ h)⟩)
    (fun _ _ _ e' => ⟨_, frame_opt (frame_all m) (e' ▸ hm')⟩) hN⟩

/-- `T` is the output computation (`heq`: its equation), `Ki` the continuation of the input one; `Rr` is `ResRel` or
    `ResRelN`. -/
theorem sim_head {β : Type} {T : Nat → GRes β} {Rr : GRes β → GRes β → Prop}
    (hfail : ∀ f w, Rr (.fail f w) (.fail f w)) {F : GFile} {ρo ρi : GEnv} {w : GWorld} {c : GExpr} {n : Nat}
    {Ki : GVal → GWorld → GRes β} {Ko : Nat → GVal → GWorld → GRes β}
    (heq : ∀ k, T (k+1) = (evalG k F ρo w c).bind (Ko k))
    (hc : evalG n F ρo w c = evalG n F ρi w c) (hd : Definite ((evalG n F ρi w c).bind Ki))
    (hk : ∀ v w1, evalG n F ρi w c = .ok v w1 → Definite (Ki v w1) →
      ∃ r', Ev1 (fun k => Ko k v w1) r' ∧ Rr r' (Ki v w1)) :
    ∃ r', Ev1 T r' ∧ Rr r' ((evalG n F ρi w c).bind Ki) := by
  cases hev : evalG n F ρi w c with
  | fail f w1 =>
    rw [hev] at hd hc
    refine ⟨.fail f w1, Ev1.succ ?_, hfail f w1⟩
    simp only [heq]
    exact Ev1.bind_fail (EvalE.of_run hc (nfCast hd.nf))
  | ok v w1 =>
    rw [hev] at hd hc
    obtain ⟨r', hm, hrr⟩ := hk v w1 hev hd
    refine ⟨r', Ev1.succ ?_, hrr⟩
    simp only [heq]
    exact Ev1.bind_ok (EvalE.of_run hc trivial) hm

theorem ite_ok {D : Names} {P : GExpr → Bool} {sc : Names} {c : GExpr} {t : List GStmt}
    {d : Option (List GStmt)} {live : Names} (hscope : scopeErrsStmt D sc (.ite c t d) = [])
    (hshape : shapeOKStmt (.ite c t d) = true) (hsem : semOKStmt P (.ite c t d) live = true) :
    noBlockExpr c = true ∧ scopeErrs D sc t = [] ∧ shapeOK t = true ∧ semOK P t live = true ∧
      OptOK D P sc d live := by
  rw [scopeErrsStmt_ite] at hscope
  simp only [List.append_eq_nil_iff] at hscope
  rw [shapeOKStmt_ite] at hshape
  rw [semOKStmt_ite] at hsem
  simp only [Bool.and_eq_true] at hshape hsem
  obtain ⟨⟨_, hscopeT⟩, hscopeD⟩ := hscope
  obtain ⟨⟨⟨hnb, _⟩, hshapeT⟩, hshapeD⟩ := hshape
  exact ⟨hnb, hscopeT, hshapeT, hsem.1, .of_rows hscopeD hshapeD hsem.2⟩

theorem simX_ite {F D P} (n : Nat) (ih : SimAt F D P n) {c t e live needs ρi ρo w r}
    (hscope : scopeErrsStmt D (keys ρi) (.ite c t e) = [])
    (hshape : shapeOKStmt (.ite c t e) = true)
    (hsem : semOKStmt P (.ite c t e) live = true)
    (hr : Rel (dceStmt (.ite c t e) live needs).live (dceStmt (.ite c t e) live needs).needs ρo ρi)
    (h : execG (n+1) F ρi w (.ite c t e) = r) (hd : Definite r) :
    ∃ r', BlockE F ρo w (dceStmt (.ite c t e) live needs).out r' ∧ ResRel live needs r' r := by
  obtain ⟨hnb, hscopeT, hshapeT, hsemT, hok⟩ := ite_ok hscope hshape hsem
  simp only [dceStmt_ite_eq, dceExpr_id c hnb] at hr ⊢
  rw [execG_ite] at h; subst h
  have hc := (coin_all n).ev (F := F) (w := w) hnb (hr.agree.mono (fun x hx => by simp [hx]))
  obtain ⟨r', hs, hrr⟩ := sim_head (T := fun k => execG k F ρo w (.ite c (dceStmts t live).out (outOpt e live)))
    (Rr := ResRel live needs) (fun _ _ => ⟨rfl, rfl⟩) (fun k => execG_ite k F ρo w c _ _) hc hd
    fun cv w1 _ hdk => by
      cases cv with
      | bool b =>
        cases b with
        | true =>
          exact sim_nested_rel (needs := needs) ih hscopeT hshapeT hsemT hr (fun y hy => by simp [hy])
            (fun y hy => by simp [hy]) (fun y hy => by simp [hy]) rfl hdk
        | false =>
          exact sim_opt_rel ih hok hr (fun y hy => by
            simp only [mem_uni] at hy ⊢
            exact hy.elim (fun hy => Or.inl (Or.inl (Or.inl hy))) Or.inr) (fun y hy => by simp [hy])
            (fun y hy => by simp [hy]) rfl hdk
      | _ => exact absurd hdk (by simp [Definite])
  exact ⟨r', BlockE.single hs, hrr⟩

theorem simX_loop {F D P} (n : Nat) (ih : SimAt F D P n) {body live needs ρi ρo w r}
    (hscope : scopeErrsStmt D (keys ρi) (.loop body) = [])
    (hshape : shapeOKStmt (.loop body) = true)
    (hsem : semOKStmt P (.loop body) live = true)
    (hr : Rel (dceStmt (.loop body) live needs).live (dceStmt (.loop body) live needs).needs ρo ρi)
    (h : execG (n+1) F ρi w (.loop body) = r) (hd : Definite r) :
    ∃ r', BlockE F ρo w (dceStmt (.loop body) live needs).out r' ∧ ResRel live needs r' r := by
  have hscopeS := hscope; have hshapeS := hshape; have hsemS := hsem; have hrs := hr
  rw [execG_loop] at h; subst h
  simp only [scopeErrsStmt] at hscope
  simp only [shapeOKStmt] at hshape
  simp only [semOKStmt, Bool.and_eq_true, List.all_eq_true, Bool.not_eq_true', List.contains_eq_mem,
    decide_eq_false_iff_not, decide_eq_true_eq] at hsem
  obtain ⟨⟨⟨hw, heq⟩, hliveH⟩, hsemB⟩ := hsem
  have heq := eqStmts_sound _ _ heq
  simp only [dceStmt] at hr ⊢
  have hwi : ∀ y ∈ live, ¬ y ∈ writesStmts body := fun y hy hwy => hw y hwy hy
  have hwo : ∀ y ∈ live, ¬ y ∈ writesStmts (dceStmts body live).out ∨ y = "_" := by
    intro y hy
    by_cases h_ : y = "_"
    · exact Or.inr h_
    · refine Or.inl (fun hwy => ?_)
      rcases writes_dce_sub body live y hshape hwy with h' | h'
      · exact hwi y hy h'
      · exact h_ h'
  -- one iteration, with the loop-back live set `live ∪ live-in(body)`.  `dce.rs` analyses the body once, with `live`;
  -- that the loop-back set gives the same output block is part of the contract (`heq`)
  obtain ⟨r', hm, hrr⟩ := sim_nested_rel (needs := needs) (live := uni live (dceStmts body live).live)
    ih hscope hshape hsemB hr (fun y hy => by simpa using hliveH y hy)
    (fun y hy => by rw [heq] at hy; simp [hy]) (fun y hy => by simp [hy]) rfl hd.of_bind
  rw [heq] at hm
  obtain ⟨m, hm'⟩ := hm.run
  generalize hnb : nestedG n F ρi w body = rI at hrr hd ⊢
  cases resRel_iff.1 hrr with
  | fail f w1 => exact ⟨_, BlockE.single (StmtE.loop_fail hm), rfl, rfl⟩
  | @ok ρo1 ρi1 sig' w1 hnorm =>
      cases sig' with
      | normal =>
        -- the invariant at the loop head holds again
        have hhead : Rel (uni live (dceStmts body live).live)
            (uni needs (assignedStmts (dceStmts body live).out)) ρo1 ρi1 :=
          rel_after_nested hr ((frame_all m).ne hm') ((frame_all n).ne hnb) (hnorm rfl).agree
            (fun y hy => hy)
        have hk1 : keys ρi1 = keys ρi := ((frame_all n).ne hnb).keys
        obtain ⟨r2, hm2, hr2⟩ := ih.ex (needs := needs) (ρo := ρo1) (by rw [hk1]; exact hscopeS) hshapeS hsemS
          (by simpa [dceStmt] using hhead) rfl hd
        simp only [dceStmt] at hm2
        exact ⟨r2, BlockE.single (StmtE.loop_next hm (BlockE.single_inv hm2 (hr2.nf hd))), hr2⟩
      | brk =>
        refine ⟨_, BlockE.single (StmtE.loop_brk hm), rfl, rfl, fun _ => ?_⟩
        -- after `break`: what is live after the loop was not assigned, so the frame lemma gives it
        have hr0 : Rel live needs ρo ρi := hr.mono (fun y hy => by simp [hy]) (fun y hy => by simp [hy])
        exact rel_frame hr0 ((frame_all m).ne hm') ((frame_all n).ne hnb) hwi hwo
      | ret v => exact ⟨_, BlockE.single (StmtE.loop_ret hm), rfl, rfl, fun hc => by cases hc⟩

theorem uni_mono_left {a a' c : Names} (h : ∀ y ∈ a, y ∈ a') : ∀ y ∈ uni a c, y ∈ uni a' c := by
  intro y hy
  rw [mem_uni] at hy ⊢
  exact hy.imp_left (h y)

/-- `dceCases cs live` threads the live set through the clauses, adding the variables of each case value: `.live` is that
    set after the last clause (what the default block is processed with), `.liveIn` the union of the live-in sets of the
    clause bodies. -/
theorem simSw {F D P} (n : Nat) (ih : SimAt F D P n) : ∀ {cs d live ρi ρo w v r},
    scopeErrsCases D (keys ρi) cs = [] → shapeOKCases cs = true → semOKCases P cs live = true →
    OptOK D P (keys ρi) d (dceCases cs live).live →
    Rel (uni (uni (dceCases cs live).live (dceCases cs live).liveIn) (liveOpt d (dceCases cs live).live))
      (uni (dceCases cs live).needs (needsOpt d (dceCases cs live).live)) ρo ρi →
    switchG (n+1) F ρi w v cs d = r → Definite r →
    ∃ r', Ev1 (fun k => switchG k F ρo w v (dceCases cs live).cases (outOpt d (dceCases cs live).live)) r' ∧
      ResRelN live r' r := by
  intro cs d live ρi ρo w v r hscope hshape hsem hok hr h hd
  cases cs with
  | nil =>
    rw [switchG_nil] at h
    simp only [dceCases] at hok hr ⊢
    obtain ⟨r', hm, hrr⟩ := sim_opt ih hok hr (uni_mono_left fun y hy => mem_uni.2 (Or.inl hy)) (fun y hy => by simp [hy]) h hd
    exact ⟨r', Ev1.succ (by simp only [switchG_nil]; exact hm), hrr⟩
  | cons c rest =>
    cases c with
    | mk ce body =>
      simp only [scopeErrsCases, List.append_eq_nil_iff] at hscope
      simp only [shapeOKCases, Bool.and_eq_true] at hshape
      obtain ⟨⟨⟨hnb, _⟩, hshapeB⟩, hshapeR⟩ := hshape
      have hid := dceExpr_id ce hnb
      simp only [semOKCases, hid, Bool.and_eq_true] at hsem
      simp only [dceCases, hid] at hok hr ⊢
      rw [switchG_cons] at h; subst h
      have hce : Agree (varsUsed ce) ρo ρi := hr.agree.mono (fun y hy => by
        simp only [mem_uni]; exact Or.inl (Or.inl (cases_live_mono rest _ y (by simp [hy]))))
      refine sim_head (Rr := ResRelN live) (fun _ _ => ⟨rfl, rfl⟩) (fun k => switchG_cons k F ρo w v ce _ _ _)
        ((coin_all n).ev hnb hce) hd fun cv w1 _ hdk => ?_
      by_cases hm : (gvalEq cv v).getD false = true
      · simp only [hm, if_true] at hdk ⊢
        exact ih.ne hscope.1.2 hshapeB hsem.1
          (hr.mono (fun y hy => by simp [hy]) (fun y hy => by simp [needs_sub_stmts _ _ y hy])) rfl hdk
      · simp only [hm, if_false, Bool.false_eq_true] at hdk ⊢
        obtain ⟨r', hm', hrr⟩ := ih.sw (live := uni live (varsUsed ce)) hscope.2 hshapeR hsem.2 hok
          (hr.mono
            (uni_mono_left fun y hy => by rw [mem_uni] at hy ⊢; exact hy.imp_right fun h => mem_uni.2 (Or.inr h))
            (uni_mono_left fun y hy => mem_uni.2 (Or.inr hy))) rfl hdk
        exact ⟨r', hm', hrr.mono (fun y hy => by simp [hy])⟩

theorem switch_ok {D : Names} {P : GExpr → Bool} {sc : Names} {e : GExpr} {cs : List GCase}
    {d : Option (List GStmt)} {live : Names} (hscope : scopeErrsStmt D sc (.switch e cs d) = [])
    (hshape : shapeOKStmt (.switch e cs d) = true) (hsem : semOKStmt P (.switch e cs d) live = true) :
    noBlockExpr e = true ∧ scopeErrsCases D sc cs = [] ∧ shapeOKCases cs = true ∧
      semOKCases P cs live = true ∧ OptOK D P sc d (dceCases cs live).live := by
  rw [scopeErrsStmt_switch] at hscope
  simp only [List.append_eq_nil_iff] at hscope
  rw [shapeOKStmt_switch] at hshape
  rw [semOKStmt_switch] at hsem
  simp only [Bool.and_eq_true] at hshape hsem
  obtain ⟨⟨_, hscopeC⟩, hscopeD⟩ := hscope
  obtain ⟨⟨⟨hnb, _⟩, hshapeC⟩, hshapeD⟩ := hshape
  exact ⟨hnb, hscopeC, hshapeC, hsem.1, .of_rows hscopeD hshapeD hsem.2⟩

theorem simX_switch {F D P} (n : Nat) (ih : SimAt F D P n) {e cs d live needs ρi ρo w r}
    (hscope : scopeErrsStmt D (keys ρi) (.switch e cs d) = [])
    (hshape : shapeOKStmt (.switch e cs d) = true)
    (hsem : semOKStmt P (.switch e cs d) live = true)
    (hr : Rel (dceStmt (.switch e cs d) live needs).live (dceStmt (.switch e cs d) live needs).needs ρo ρi)
    (h : execG (n+1) F ρi w (.switch e cs d) = r) (hd : Definite r) :
    ∃ r', BlockE F ρo w (dceStmt (.switch e cs d) live needs).out r' ∧ ResRel live needs r' r := by
  obtain ⟨hnb, hscopeC, hshapeC, hsemC, hok⟩ := switch_ok hscope hshape hsem
  simp only [dceStmt_switch_eq, dceExpr_id e hnb] at hr ⊢
  rw [execG_switch] at h; subst h
  have hc := (coin_all n).ev (F := F) (w := w) hnb (hr.agree.mono (fun x hx => by simp [hx]))
  obtain ⟨r', hs, hrr⟩ := sim_head
    (T := fun k => execG k F ρo w (.switch e (dceCases cs live).cases (outOpt d (dceCases cs live).live)))
    (Rr := ResRel live needs) (fun _ _ => ⟨rfl, rfl⟩) (fun k => execG_switch k F ρo w e _ _) hc hd
    fun v w1 _ hdk => by
      obtain ⟨r', hm, hrr⟩ := ih.sw (live := live) hscopeC hshapeC hsemC hok
        (hr.mono
          (uni_mono_left fun y hy => by rw [mem_uni] at hy ⊢; exact hy.imp_left fun h => mem_uni.2 (Or.inl h))
          (uni_mono_left fun y hy => mem_uni.2 (Or.inr hy))) rfl hdk
      obtain ⟨m, hm'⟩ := hm.run
      exact ⟨r', hm, resrel_of_frames hr hrr (fun _ _ _ e' => ⟨_, (frame_all n).sw e'⟩)
        (fun _ _ _ e' => ⟨_, (frame_all m).sw (e' ▸ hm')⟩) (fun y hy => by simp [hy])⟩
  exact ⟨r', BlockE.single hs, hrr⟩

/-- the clauses of a type switch are types, not expressions, so `live` is not threaded and the default block is processed
    with `live` itself -/
theorem simTs {F D P} (n : Nat) (ih : SimAt F D P n) : ∀ {cs d live ρi ρo w v r},
    scopeErrsTCases D (keys ρi) cs = [] → shapeOKTCases cs = true → semOKTCases P cs live = true →
    OptOK D P (keys ρi) d live →
    Rel (uni (uni live (dceTCases cs live).liveIn) (liveOpt d live))
      (uni (dceTCases cs live).needs (needsOpt d live)) ρo ρi →
    tswitchG (n+1) F ρi w v cs d = r → Definite r →
    ∃ r', Ev1 (fun k => tswitchG k F ρo w v (dceTCases cs live).cases (outOpt d live)) r' ∧ ResRelN live r' r := by
  intro cs d live ρi ρo w v r hscope hshape hsem hok hr h hd
  cases cs with
  | nil =>
    rw [tswitchG_nil] at h
    simp only [dceTCases] at hr ⊢
    obtain ⟨r', hm, hrr⟩ := sim_opt ih hok hr (uni_mono_left fun y hy => mem_uni.2 (Or.inl hy)) (fun y hy => by simp [hy]) h hd
    exact ⟨r', Ev1.succ (by simp only [tswitchG_nil]; exact hm), hrr⟩
  | cons c rest =>
    cases c with
    | mk ty body =>
      simp only [scopeErrsTCases, List.append_eq_nil_iff] at hscope
      simp only [shapeOKTCases, Bool.and_eq_true] at hshape
      simp only [semOKTCases, Bool.and_eq_true] at hsem
      simp only [dceTCases] at hr ⊢
      rw [tswitchG_cons] at h
      by_cases hm : tsHitG ty v = true
      · rw [if_pos hm] at h
        obtain ⟨r', hm', hrr⟩ := ih.ne hscope.1 hshape.1 hsem.1
          (hr.mono (fun y hy => by simp [hy]) (fun y hy => by simp [needs_sub_stmts _ _ y hy])) h hd
        exact ⟨r', Ev1.succ (by simp only [tswitchG_cons, hm, if_true]; exact hm'), hrr⟩
      · rw [if_neg hm] at h
        obtain ⟨r', hm', hrr⟩ := ih.ts (live := live) hscope.2 hshape.2 hsem.2 hok
          (hr.mono
            (uni_mono_left fun y hy => by rw [mem_uni] at hy ⊢; exact hy.imp_right fun h => mem_uni.2 (Or.inr h))
            (uni_mono_left fun y hy => mem_uni.2 (Or.inr hy))) h hd
        exact ⟨r', Ev1.succ (by simp only [tswitchG_cons, hm, if_false, Bool.false_eq_true]; exact hm'), hrr⟩

def popTo (k : Nat) : GRes (GEnv × Sig) → GRes (GEnv × Sig)
  | .fail f w => .fail f w
  | .ok (ρ', sig) w => .ok (ρ'.drop (ρ'.length - k), sig) w

theorem popTo_eq_bind (k : Nat) (r : GRes (GEnv × Sig)) : popTo k r = r.bind (popG k) := by
  cases r with
  | fail f w => rfl
  | ok p w => obtain ⟨_, _⟩ := p; rfl

theorem popTo_nf {k : Nat} {r : GRes (GEnv × Sig)} (h : r.nf) : (popTo k r).nf := by
  cases r with
  | fail f w => exact h
  | ok p w => obtain ⟨_, _⟩ := p; trivial

/-- the output switch dropped the binding: the input run pushes `b` with the value `b` has already -/
theorem bind_rel_dropped {L0 N0 : Names} {ρo ρi : GEnv} {b : String} {v : GVal} (h : Rel L0 N0 ρo ρi)
    (hb : b ≠ "_") (hl : lookupG ρi b = some v) (hbL : b ∈ L0) : Rel L0 N0 ρo ((b, v) :: ρi) := by
  have hlo : lookupG ρo b = some v := by rw [h.agree b hbL]; exact hl
  refine ⟨?_, ?_, ?_, ?_⟩
  · intro y hy
    by_cases hyb : y = b
    · subst hyb; rw [lookup_cons_self]; exact hlo
    · rw [lookup_cons_ne _ _ (Ne.symm hyb)]; exact h.agree y hy
  · intro y hy; simp only [keys_cons, List.mem_cons]; exact Or.inr (h.sub y hy)
  · intro y hy hk
    simp only [keys_cons, List.mem_cons] at hk
    rcases hk with hk | hk
    · subst hk; exact key_of_lookup_some hlo
    · exact h.needs y hy hk
  · simp only [keys_cons, List.mem_cons, not_or]; exact ⟨fun e => hb e.symm, h.blank⟩

theorem tswitch_finish {L0 N0 live needs Wo Wi : Names} {ρo ρi : GEnv} {bind : Option String} {free : Names}
    {v : GVal} {r0 r0' : GRes (GEnv × Sig)}
    (hr : Rel L0 N0 ρo ρi) (hn : ∀ y ∈ needs, y ∈ N0)
    (hbind : ∀ b, bind = some b → b ≠ "_" ∧ b ∈ L0 ∧ ¬ b ∈ Wi ∧ ¬ b ∈ Wo)
    (hrr : ResRelN live r0' r0)
    (hfi : ∀ ρi' s w', r0 = .ok (ρi', s) w' → FrameEq Wi (bindEnvG bind v ρi) ρi')
    (hfo : ∀ ρo' s w', r0' = .ok (ρo', s) w' → FrameEq Wo (bindEnvG (keepBind bind free) v ρo) ρo') :
    ResRel live needs (popTo ρo.length r0') (popTo ρi.length r0) := by
  cases resRelN_iff.1 hrr with
  | fail f w1 => exact ⟨rfl, rfl⟩
  | @ok ρo' ρi' si w1 hagN =>
      have fi := hfi _ _ _ rfl
      have fo := hfo _ _ _ rfl
      refine ⟨rfl, rfl, fun hs => ?_⟩
      have hag := hagN hs
      cases bind with
      | none =>
        simp only [bindEnvG, keepBind] at fi fo
        rw [show ρi'.length - ρi.length = 0 by rw [fi.length]; simp,
            show ρo'.length - ρo.length = 0 by rw [fo.length]; simp]
        exact rel_after_nested hr fo fi hag hn
      | some b =>
        obtain ⟨hb_, hbL, hbWi, hbWo⟩ := hbind b rfl
        have hbf : (b == "_") = false := by simp [hb_]
        simp only [bindEnvG, hbf] at fi
        cases fi with
        | cons hvi ti =>
          rename_i vi ρi2
          rw [show ((b, vi) :: ρi2).length - ρi.length = 1 by rw [List.length_cons, ti.length]; omega]
          simp only [List.drop_succ_cons, List.drop_zero]
          have hli : lookupG ρi2 b = lookupG ρi b := (FrameEq.lookup hbWi ti).symm
          by_cases hk : b ∈ free
          · have hkb : keepBind (some b) free = some b := by simp [keepBind, hk]
            rw [hkb] at fo
            simp only [bindEnvG, hbf] at fo
            cases fo with
            | cons hvo to =>
              rename_i vo ρo2
              rw [show ((b, vo) :: ρo2).length - ρo.length = 1 by rw [List.length_cons, to.length]; omega]
              simp only [List.drop_succ_cons, List.drop_zero]
              have hlo : lookupG ρo2 b = lookupG ρo b := (FrameEq.lookup hbWo to).symm
              apply rel_after_nested hr to ti _ hn
              intro y hy
              by_cases hyb : y = b
              · subst hyb; rw [hlo, hli]; exact hr.agree y hbL
              · have := hag y hy
                rw [lookup_cons_ne _ _ (Ne.symm hyb), lookup_cons_ne _ _ (Ne.symm hyb)] at this
                exact this
          · have hkb : keepBind (some b) free = none := by simp [keepBind, hk]
            rw [hkb] at fo
            simp only [bindEnvG] at fo
            rw [show ρo'.length - ρo.length = 0 by rw [fo.length]; simp]
            simp only [List.drop_zero]
            have hlo : lookupG ρo' b = lookupG ρo b := (FrameEq.lookup hbWo fo).symm
            apply rel_after_nested hr fo ti _ hn
            intro y hy
            by_cases hyb : y = b
            · subst hyb; rw [hlo, hli]; exact hr.agree y hbL
            · have := hag y hy
              rw [lookup_cons_ne _ _ (Ne.symm hyb)] at this
              exact this

theorem mem_keys_cons_of_mem {ρ : GEnv} {b : String} {v : GVal} (hb : b ∈ keys ρ) :
    ∀ x, x ∈ keys ρ ↔ x ∈ keys ((b, v) :: ρ) := by
  intro x
  simp only [keys_cons, List.mem_cons]
  constructor
  · exact Or.inr
  · rintro (h | h)
    · subst h; exact hb
    · exact h

theorem bind_facts {ρi : GEnv} {bind : Option String} {e : GExpr} {b : String}
    (hb : bind = some b)
    (hchk : (match bind with
          | some b =>
            (match e with
             | .var y _ => if y == b && (keys ρi).contains b then [] else [b]
             | _ => [b])
          | none => ([] : Names)) = []) :
    (∃ t, e = .var b t) ∧ b ∈ keys ρi := by
  subst hb
  simp only at hchk
  cases e <;> simp at hchk
  rename_i y t
  obtain ⟨hyb, hin⟩ := hchk
  subst hyb
  exact ⟨⟨t, rfl⟩, hin⟩

/-- what the contract says of the binding `b` of a type switch in the environment `ρi`: it re-binds the scrutinee, which is
    the variable `b` itself and in scope; it is not the blank identifier; nothing in the switch assigns it -/
structure BindOK (ρi : GEnv) (e : GExpr) (cs : List GTCase) (d : Option (List GStmt)) (b : String) : Prop where
  isVar : ∃ t, e = .var b t
  inScope : b ∈ keys ρi
  notBlank : b ≠ "_"
  notInClauses : ¬ b ∈ writesTCases cs
  notInDefault : ¬ b ∈ writesOpt d

theorem bind_rel {L0 N0 : Names} {ρo ρi : GEnv} {n : Nat} {F : GFile} {w w1 : GWorld}
    {bind : Option String} {e : GExpr} {v : GVal} {free : Names} {cs : List GTCase} {d : Option (List GStmt)}
    (hr : Rel L0 N0 ρo ρi) (hev : evalG n F ρi w e = .ok v w1)
    (hbind : ∀ b, bind = some b → BindOK ρi e cs d b)
    (hL : ∀ y ∈ varsUsed e, y ∈ L0) :
    Rel L0 N0 (bindEnvG (keepBind bind free) v ρo) (bindEnvG bind v ρi) ∧
      (∀ x, x ∈ keys ρi ↔ x ∈ keys (bindEnvG bind v ρi)) := by
  cases bind with
  | none => simp only [bindEnvG, keepBind]; exact ⟨hr, fun x => trivial⟩
  | some b =>
    have hb_ := (hbind b rfl).notBlank
    have hbk := (hbind b rfl).inScope
    obtain ⟨t, he⟩ := (hbind b rfl).isVar
    subst he
    have hbf : (b == "_") = false := by simp [hb_]
    have hl : lookupG ρi b = some v := evalG_var_key hev hbk
    simp only [bindEnvG, hbf]
    refine ⟨?_, mem_keys_cons_of_mem hbk⟩
    by_cases hk : b ∈ free
    · have : keepBind (some b) free = some b := by simp [keepBind, hk]
      rw [this]; simp only [hbf]
      exact rel_push hr hb_ (fun y hy _ => hy) (fun y hy _ => hy)
    · have : keepBind (some b) free = none := by simp [keepBind, hk]
      rw [this]; simp only
      exact bind_rel_dropped hr hb_ hl (hL b (by simp [varsUsed]))

theorem tswitch_ok {D : Names} {P : GExpr → Bool} {ρi : GEnv} {bind : Option String} {e : GExpr}
    {cs : List GTCase} {d : Option (List GStmt)} {live : Names}
    (hscope : scopeErrsStmt D (keys ρi) (.tswitch bind e cs d) = [])
    (hshape : shapeOKStmt (.tswitch bind e cs d) = true) (hsem : semOKStmt P (.tswitch bind e cs d) live = true) :
    noBlockExpr e = true ∧ scopeErrsTCases D (keys ρi) cs = [] ∧ shapeOKTCases cs = true ∧
      semOKTCases P cs live = true ∧ OptOK D P (keys ρi) d live ∧ ∀ b, bind = some b → BindOK ρi e cs d b := by
  rw [scopeErrsStmt_tswitch] at hscope
  simp only [List.append_eq_nil_iff] at hscope
  obtain ⟨⟨⟨_, hchk⟩, hcs⟩, hdb⟩ := hscope
  rw [shapeOKStmt_tswitch] at hshape
  rw [semOKStmt_tswitch] at hsem
  simp only [Bool.and_eq_true] at hshape hsem
  obtain ⟨⟨⟨⟨hnb, _⟩, hshapeC⟩, hshapeD⟩, hbs⟩ := hshape
  refine ⟨hnb, hcs, hshapeC, hsem.1, .of_rows hdb hshapeD hsem.2, fun b hb => ?_⟩
  obtain ⟨hvar, hkey⟩ := bind_facts hb hchk
  subst hb
  have hw : b ≠ "_" ∧ ¬ b ∈ writesTCases cs ∧ ¬ b ∈ writesOpt d := by
    cases d <;> simpa [writesOpt, and_assoc] using hbs
  exact ⟨hvar, hkey, hw.1, hw.2.1, hw.2.2⟩

theorem simX_tswitch {F D P} (n : Nat) (ih : SimAt F D P n) {bind e cs d live needs ρi ρo w r}
    (hscope : scopeErrsStmt D (keys ρi) (.tswitch bind e cs d) = [])
    (hshape : shapeOKStmt (.tswitch bind e cs d) = true)
    (hsem : semOKStmt P (.tswitch bind e cs d) live = true)
    (hr : Rel (dceStmt (.tswitch bind e cs d) live needs).live (dceStmt (.tswitch bind e cs d) live needs).needs ρo ρi)
    (h : execG (n+1) F ρi w (.tswitch bind e cs d) = r) (hd : Definite r) :
    ∃ r', BlockE F ρo w (dceStmt (.tswitch bind e cs d) live needs).out r' ∧ ResRel live needs r' r := by
  obtain ⟨hnb, hcs, hshapeC, hsemC, hok, hbind⟩ := tswitch_ok hscope hshape hsem
  simp only [dceStmt_tswitch_eq, dceExpr_id e hnb] at hr ⊢
  -- which free variables decide over the binding does not matter to the simulation
  generalize uni (dceTCases cs live).free (freeOpt d live) = free
  rw [execG_tswitch] at h; subst h
  have hc := (coin_all n).ev (F := F) (w := w) hnb (hr.agree.mono (fun x hx => by simp [hx]))
  obtain ⟨r', hs, hrr⟩ := sim_head
    (T := fun k => execG k F ρo w (.tswitch (keepBind bind free) e (dceTCases cs live).cases (outOpt d live)))
    (Rr := ResRel live needs) (fun _ _ => ⟨rfl, rfl⟩) (fun k => execG_tswitch k F ρo w _ e _ _) hc hd
    fun v w1 hev hdk => by
      obtain ⟨hrb, hkeq⟩ := bind_rel (free := free) hr hev hbind (fun y hy => by simp [hy])
      obtain ⟨r0', hm, hrr⟩ := ih.ts (live := live)
        (by rw [← scopeErrsTCases_congr D cs _ _ hkeq]; exact hcs) hshapeC hsemC
        (fun b hb => by rw [← scopeErrs_congr D b _ _ hkeq]; exact hok b hb)
        (hrb.mono
          (uni_mono_left fun y hy => by rw [mem_uni] at hy ⊢; exact hy.imp_left fun h => mem_uni.2 (Or.inl h))
          (uni_mono_left fun y hy => mem_uni.2 (Or.inr hy))) rfl hdk.of_bind
      obtain ⟨m, hm'⟩ := hm.run
      refine ⟨_, Ev1.bind hm fun _ _ _ => Ev1.const _, ?_⟩
      rw [← popTo_eq_bind, ← popTo_eq_bind]
      exact tswitch_finish (needs := needs) (free := free)
        (Wo := uni (writesTCases (dceTCases cs live).cases) (writesOpt (outOpt d live)))
        (Wi := uni (writesTCases cs) (writesOpt d)) hr (fun y hy => by simp [hy])
        (fun b hb => by
          have ok := hbind b hb
          obtain ⟨t, he⟩ := ok.isVar
          refine ⟨ok.notBlank, by subst he; simp [varsUsed], by simp [ok.notInClauses, ok.notInDefault], ?_⟩
          intro hw
          simp only [mem_uni] at hw
          rcases hw with hw | hw
          · rcases writes_dceTCases cs live b hshapeC hw with h' | h'
            · exact ok.notInClauses h'
            · exact ok.notBlank h'
          · cases d with
            | none => simp [outOpt, writesOpt] at hw
            | some db =>
              rcases writes_dce_sub db live b (hok db rfl).2.1 hw with h' | h'
              · exact ok.notInDefault h'
              · exact ok.notBlank h')
        hrr (fun _ _ _ e' => (frame_all n).ts e') (fun _ _ _ e' => (frame_all m).ts (e' ▸ hm'))
  exact ⟨r', BlockE.single hs, hrr⟩

end Goml.Dce
